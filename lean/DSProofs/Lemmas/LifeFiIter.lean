/- C19 / FI: iteration over the active slots (`begin()`, `operator++`, the range-for): the body runs along the stride orbit `pos t`,
   `t` increasing, for any stride; with an odd stride in a power-of-two table no slot is visited twice. -/
import DSProofs.Lemmas.LifeFiTable
import DSProofs.Lemmas.OddStride
namespace DS.Life.Fi
open DS.Life

theorem firstActive_spec (S : Nat → Bool) (s n : Nat) (h : Heap) (hc : HasCells h s n) (hpos : 0 < cnt (act h s) n) :
    ∀ f i, f + i = n → (∀ j, j < i → act h s j = false) →
      SafeF S h (firstActive s n f i h) (fun r h' => h' = h ∧ r < n ∧ act h s r = true) := by
  intro f
  induction f with
  | zero =>
    intro i hfi hall
    exact absurd (cnt_zero_of_all_false (fun j hj => hall j (fuel_zero hfi ▸ hj))) (Nat.ne_of_gt hpos)
  | succ f ih =>
    intro i hfi hall
    have hi : i < n := fuel_lt hfi
    rw [firstActive, if_pos hi]
    apply vstep_readWord hc hi
    by_cases hw : wordAt h s i > 0
    · rw [if_pos hw]
      exact SafeF.pure ⟨rfl, hi, act_pos.2 hw⟩
    · rw [if_neg hw]
      exact ih (i + 1) (fuel_succ hfi)
        (Nat.forall_lt_succ_right.2 ⟨hall, act_zero.2 (Nat.eq_zero_of_not_pos hw)⟩)

/-- the `t`-th position of the iterator that started at `i0` -/
def pos (i0 str n t : Nat) : Nat := (i0 + t * str) % n

theorem pos_zero {i0 str n : Nat} (hi : i0 < n) : pos i0 str n 0 = i0 := by
  simp [pos, Nat.mod_eq_of_lt hi]

theorem pos_succ (i0 str n t : Nat) : (pos i0 str n t + str) % n = pos i0 str n (t + 1) := by
  unfold pos
  rw [Nat.mod_add_mod, Nat.succ_mul, Nat.add_assoc]

theorem pos_lt (i0 str : Nat) {n : Nat} (hn : 0 < n) (t : Nat) : pos i0 str n t < n := Nat.mod_lt _ hn

theorem pos_inj {str : Nat} (hodd : str % 2 = 1) (i0 lg : Nat) {t1 t2 : Nat} (h1 : t1 < t2) (h2 : t2 < 2 ^ lg) :
    pos i0 str (2 ^ lg) t1 ≠ pos i0 str (2 ^ lg) t2 :=
  odd_stride_inj hodd i0 lg h1 h2

theorem nextActive_orbit (S : Nat → Bool) (s n str i0 : Nat) (h : Heap) (hc : HasCells h s n) (hn : 0 < n) :
    ∀ f t, SafeF S h (nextActive s n str f (pos i0 str n t) h)
      (fun r h' => h' = h ∧ ∃ t', t < t' ∧ r = pos i0 str n t' ∧ act h s (pos i0 str n t') = true ∧
        ∀ t'', t < t'' → t'' < t' → act h s (pos i0 str n t'') = false) := by
  intro f
  induction f with
  | zero => intro _; exact SafeF.exc _
  | succ f ih =>
    intro t
    rw [nextActive, pos_succ]
    apply vstep_readWord hc (pos_lt i0 str hn (t + 1))
    by_cases hw : wordAt h s (pos i0 str n (t + 1)) > 0
    · rw [if_pos hw]
      exact SafeF.pure ⟨rfl, t + 1, Nat.lt_succ_self t, rfl, act_pos.2 hw, fun t'' a b => absurd a (Nat.not_lt_of_le (Nat.le_of_lt_succ b))⟩
    · rw [if_neg hw]
      refine SafeF.mono (ih (t + 1)) ?_
      intro r h' ⟨e, t', ht', hr, hact, hbetween⟩
      refine ⟨e, t', Nat.lt_of_succ_lt ht', hr, hact, fun t'' a b => ?_⟩
      by_cases ht : t'' = t + 1
      · rw [ht]; exact act_zero.2 (Nat.eq_zero_of_not_pos hw)
      · exact hbetween t'' (Nat.lt_of_le_of_ne a (Ne.symm ht)) b

/-- the range-for over a map: the body runs on positions `pos t` of the stride orbit, `t` increasing, each active and
    with fewer than `na` active positions before it; inactive positions are skipped -/
theorem iterLoop_walk {σ : Type} {S : Nat → Bool} (s n str na i0 : Nat) (hn : 0 < n) (body : Nat → σ → M σ)
    (act0 : Nat → Bool) (I : Nat → σ → Heap → Prop)
    (hI : ∀ t a h, I t a h → HasCells h s n ∧ act h s = act0)
    (hbody : ∀ t a h, cnt (fun t' => act0 (pos i0 str n t')) t < na → act0 (pos i0 str n t) = true → I t a h →
      SafeF S h (body (pos i0 str n t) a h) (fun a' h' => I (t + 1) a' h'))
    (hskip : ∀ t a h, act0 (pos i0 str n t) = false → I t a h → I (t + 1) a h) :
    ∀ f t c a h, f + c = na → c = cnt (fun t' => act0 (pos i0 str n t')) t → act0 (pos i0 str n t) = true → I t a h →
      SafeF S h (iterLoop s n str na body f (pos i0 str n t) c a h)
        (fun a' h' => ∃ t', cnt (fun t' => act0 (pos i0 str n t')) t' = na ∧ I t' a' h') := by
  have hskips : ∀ t t' a h, t ≤ t' → (∀ t'', t ≤ t'' → t'' < t' → act0 (pos i0 str n t'') = false) → I t a h → I t' a h := by
    intro t t' a h hle
    induction hle with
    | refl => exact fun _ hi => hi
    | @step m hm ih =>
      exact fun hb hi => hskip _ _ _ (hb m hm (Nat.lt_succ_self m)) (ih (fun t'' a b => hb t'' a (Nat.lt_succ_of_lt b)) hi)
  intro f
  induction f with
  | zero =>
    intro t c a h hfc hc _ hi
    exact SafeF.pure ⟨t, hc ▸ fuel_zero hfc, hi⟩
  | succ f ih =>
    intro t c a h hfc hc hact hi
    rw [iterLoop, if_pos (fuel_lt hfc)]
    apply SafeF.bind (hbody t a h (hc ▸ fuel_lt hfc) hact hi)
    intro a' h' hi' _
    have hc1 : cnt (fun t' => act0 (pos i0 str n t')) (t + 1) = c + 1 := by rw [cnt_succ, hact, ← hc]; rfl
    by_cases hcn : c + 1 < na
    · rw [if_pos hcn]
      obtain ⟨hcells, hacteq⟩ := hI _ _ _ hi'
      apply SafeF.bind (nextActive_orbit S s n str i0 h' hcells hn n t)
      intro ix h'' ⟨e, t', htt', hix, hact', hbetween⟩ _
      subst e
      rw [hacteq] at hact' hbetween
      rw [hix]
      exact ih t' (c + 1) a' h'' (fuel_succ hfc) (hc1.symm.trans (cnt_all_false htt' hbetween).symm) hact'
        (hskips _ _ _ _ htt' hbetween hi')
    · rw [if_neg hcn]
      exact SafeF.pure ⟨t + 1, hc1.trans (Nat.le_antisymm (fuel_lt hfc) (Nat.le_of_not_lt hcn)), hi'⟩

theorem walk_first_round {str : Nat} (hodd : str % 2 = 1) (i0 lg : Nat) (act0 : Nat → Bool) {t : Nat}
    (h : cnt (fun t' => act0 (pos i0 str (2 ^ lg) t')) t < cnt act0 (2 ^ lg)) : t < 2 ^ lg := by
  refine Nat.lt_of_not_le (fun hle => Nat.lt_irrefl _ (Nat.lt_of_le_of_lt ?_ h))
  rw [← cnt_perm act0 (pos i0 str (2 ^ lg)) (2 ^ lg) (fun t _ => pos_lt i0 str (Nat.two_pow_pos lg) t)
    (fun t1 t2 a b => pos_inj hodd i0 lg a b)]
  exact cnt_mono _ hle

theorem forEachActive_walk {σ : Type} {S : Nat → Bool} (P : Params) (m : Map) (s : Nat) (hs : m.states = some s)
    (body : Nat → σ → M σ) (act0 : Nat → Bool) (I : Nat → Nat → σ → Heap → Prop)
    (hI : ∀ i0 t a h, I i0 t a h → HasCells h s (2 ^ m.lgCur) ∧ act h s = act0)
    (hbody : ∀ i0 t a h, i0 < 2 ^ m.lgCur →
      cnt (fun t' => act0 (pos i0 (P.strideOf m.lgCur) (2 ^ m.lgCur) t')) t < m.numActive →
      act0 (pos i0 (P.strideOf m.lgCur) (2 ^ m.lgCur) t) = true →
      I i0 t a h → SafeF S h (body (pos i0 (P.strideOf m.lgCur) (2 ^ m.lgCur) t) a h) (fun a' h' => I i0 (t + 1) a' h'))
    (hskip : ∀ i0 t a h, act0 (pos i0 (P.strideOf m.lgCur) (2 ^ m.lgCur) t) = false → I i0 t a h → I i0 (t + 1) a h)
    (a : σ) (h : Heap) (h0 : ∀ i0, I i0 0 a h) (hcnt : m.numActive = cnt act0 (2 ^ m.lgCur)) :
    SafeF S h (forEachActive P m body a h) (fun a' h' => ∃ i0 t,
      cnt (fun t' => act0 (pos i0 (P.strideOf m.lgCur) (2 ^ m.lgCur) t')) t = m.numActive ∧ I i0 t a' h') := by
  unfold forEachActive
  by_cases hz : m.numActive = 0
  · rw [if_pos hz]
    exact SafeF.pure ⟨0, 0, hz.symm, h0 0⟩
  · rw [if_neg hz, hs]
    apply step_deref
    obtain ⟨hcells, hacteq⟩ := hI 0 0 a h (h0 0)
    apply SafeF.bind (firstActive_spec S s (2 ^ m.lgCur) h hcells (by rw [hacteq, ← hcnt]; exact Nat.pos_of_ne_zero hz)
      (2 ^ m.lgCur) 0 rfl (fun j hj => absurd hj (Nat.not_lt_zero j)))
    intro i0 h' ⟨e, hi0, hact⟩ _
    subst e
    rw [hacteq] at hact
    have hp0 := pos_zero (str := P.strideOf m.lgCur) hi0
    have := iterLoop_walk (S := S) s (2 ^ m.lgCur) (P.strideOf m.lgCur) m.numActive i0 (Nat.two_pow_pos _) body act0 (I i0)
      (hI i0) (fun t a h => hbody i0 t a h hi0) (hskip i0) m.numActive 0 0 a h' rfl rfl (by rw [hp0]; exact hact) (h0 i0)
    rw [hp0] at this
    exact SafeF.mono this (fun a' h'' ⟨t, hc, hi⟩ => ⟨i0, t, hc, hi⟩)

/-- `forEachActive_walk` for an invariant indexed by the number of slots visited -/
theorem forEachActive_safe {σ : Type} {S : Nat → Bool} (P : Params) (m : Map) (s : Nat) (hs : m.states = some s)
    (body : Nat → σ → M σ) (act0 : Nat → Bool) (I : Nat → σ → Heap → Prop)
    (hI : ∀ c a h, I c a h → HasCells h s (2 ^ m.lgCur) ∧ act h s = act0)
    (hbody : ∀ c a h idx, c < m.numActive → I c a h → idx < 2 ^ m.lgCur → act0 idx = true →
      SafeF S h (body idx a h) (fun a' h' => I (c + 1) a' h'))
    (a : σ) (h : Heap) (h0 : I 0 a h) (hcnt : m.numActive = cnt act0 (2 ^ m.lgCur)) :
    SafeF S h (forEachActive P m body a h) (fun a' h' => I m.numActive a' h') := by
  refine SafeF.mono (forEachActive_walk (S := S) P m s hs body act0
    (fun i0 t a h => I (cnt (fun t' => act0 (pos i0 (P.strideOf m.lgCur) (2 ^ m.lgCur) t')) t) a h)
    (fun _ _ a h hi => hI _ a h hi) ?_ ?_ a h (fun _ => h0) hcnt) (fun a' h' ⟨i0, t, hc, hi⟩ => hc ▸ hi)
  · intro i0 t a h _ hc hact hi
    refine SafeF.mono (hbody _ a h _ hc hi (pos_lt _ _ (Nat.two_pow_pos _) t) hact) (fun a' h' hi' => ?_)
    rw [cnt_succ, hact]; exact hi'
  · intro i0 t a h hact hi
    rw [cnt_succ, hact]; exact hi

end DS.Life.Fi
