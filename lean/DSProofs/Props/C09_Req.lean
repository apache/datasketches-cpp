/-
C09 (REQ) — serialization round trip of the REQ image.

ONLY property theorems and their non-vacuity examples (helper lemmas: Lemmas/WireQuant*.lean).
Model: DSModel/Wire/Req.lean, tied to req_sketch_impl.hpp / req_compactor_impl.hpp by `./check c09_quant`.
All statements: every lawful item serde, every constant set with `CfgOK`, every well-formed image, every tail.

FINDING (D6): the advertised size `get_serialized_size_bytes` does not equal the image size for the raw-items
format with 2..4 items (`size_eq_advertised_full_false`); the byte-vector form is therefore longer than the
stream form and zero padded.  The witness is replayed on the real code by every run of the check.
-/
import DSModel.Wire.ReqCode
import DSProofs.Lemmas.WireQuantReq
namespace DS.Wire.Req
open Reader

/-- the reader recovers exactly the image state and consumes exactly the image -/
theorem decode_encode (sd : Serde) (hs : sd.Lawful) (c : Cfg) (hc : CfgOK c) (s : Image) (tail : Bytes)
    (hw : WF sd c s = true) : decode sd c (encode sd c s ++ tail) = some (s, tail) := by
  have hc' := hc
  obtain ⟨_, _, _, _, hfam, hver, hpe, hpx, _⟩ := hc'
  obtain ⟨k, empty, hra, raw, lz, nl, nr, est, ri, cs⟩ := s
  simp only [WF, Bool.and_eq_true, decide_eq_true_eq] at hw
  obtain ⟨⟨⟨hk, hnl⟩, hnr⟩, hb⟩ := hw
  obtain ⟨fe, fh, fr, fl, ff⟩ := flags_rt c hc empty hra raw lz
  have hpre : preOf c nl < 256 := by unfold preOf; split <;> omega
  simp only [decode, encode, header, List.append_assoc]
  rw [bind_u8 _ hpre, bind_u8 _ hver, bind_u8 _ hfam, bind_u8 _ ff, bind_u16 _ hk, bind_u8 _ hnl, bind_u8 _ hnr,
    bind_guard _ (by simp [fe, fh, fr, fl])]
  simp only [fe, fh, fr, fl]
  cases empty with
  | true =>
    simp only [if_true, Bool.and_eq_true, Option.isNone_iff_eq_none, List.isEmpty_iff] at hb
    obtain ⟨⟨h1, h2⟩, h3⟩ := hb
    subst h1; subst h2; subst h3
    simp [encEst, encItems, encList, Reader.pure]
  | false =>
    simp only [Bool.false_eq_true, if_false, Bool.and_eq_true, beq_iff_eq] at hb
    obtain ⟨⟨⟨hshape, hsome⟩, hest⟩, hrest⟩ := hb
    simp only [decodeBody, Bool.false_eq_true, if_false]
    rw [bind_guard _ hshape, bind_ok (decEst_enc sd hs nl est _ hsome hest)]
    cases raw with
    | true =>
      simp only [if_true, Bool.and_eq_true, beq_iff_eq, List.isEmpty_iff] at hrest
      obtain ⟨⟨hlen, hwf⟩, hcs⟩ := hrest
      subst hcs
      simp only [if_true, encList, List.nil_append]
      rw [← hlen, bind_ok (repeatN_items sd hs ri tail hwf)]
      rfl
    | false =>
      simp only [Bool.false_eq_true, if_false, Bool.and_eq_true, beq_iff_eq, List.isEmpty_iff] at hrest
      obtain ⟨⟨⟨hri, hlen⟩, hall⟩, hfirst⟩ := hrest
      subst hri
      simp only [Bool.false_eq_true, if_false, encItems, encList, List.nil_append]
      rw [← hlen, bind_ok (repeatN_compactors sd hs cs tail (List.all_eq_true.1 hall)),
        bind_guard _ (by rw [hlen]; exact hfirst)]
      rfl

/-- the image has exactly `serializedSize` bytes (this is the size of the stream form) -/
theorem size_eq (sd : Serde) (c : Cfg) (hc : CfgOK c) (s : Image) :
    (encode sd c s).length = serializedSize sd c s := by
  obtain ⟨_, _, _, _, _, _, _, _, hp⟩ := hc
  simp +arith only [encode, serializedSize, List.length_append, length_header, length_encCompactors, sizeItems, hp]

/-- FULL statement (what C09 demands): the advertised size is the image size, for every well-formed image -/
def size_eq_advertised_full : Prop :=
  ∀ (sd : Serde) (c : Cfg) (s : Image), sd.Lawful → CfgOK c → WF sd c s = true →
    (encode sd c s).length = advertisedSize sd c s

/-- the documented constant set -/
def docCfg : Cfg :=
  { family := 17, ver := 1, preEst := 4, preExact := 2, bitEmpty := 2, bitHra := 3, bitRaw := 4, bitLz := 5,
    preambleSize := 8, rawMax := 4 }

example : CfgOK docCfg := by decide

/-- D6 witness: two 8-byte items in the raw-items format: 24 bytes are written, 44 are advertised -/
def d6Witness : Image :=
  { k := 4, empty := false, hra := true, raw := true, lz := false, numLevels := 1, numRaw := 2, est := none,
    rawItems := [[1,0,0,0,0,0,0,0], [2,0,0,0,0,0,0,0]], compactors := [] }

/-- the CURRENT code violates the full statement (defect D6; replayed on the implementation by `./check c09_quant`) -/
theorem size_eq_advertised_full_false : ¬ size_eq_advertised_full := by
  intro h
  have := h (Serde.fixed 8) docCfg d6Witness (fixed_lawful 8 (by decide)) (by decide) (by decide)
  revert this
  decide

/-- PARTIAL: outside the raw-items format with 2..4 items the advertised size is the image size.
Missing for the full statement: exactly those images (n = 2, 3, 4), where the code reports 20 bytes too many. -/
theorem size_eq_advertised_partial (sd : Serde) (c : Cfg) (hc : CfgOK c) (s : Image) (hw : WF sd c s = true)
    (hnot : ¬ (s.empty = false ∧ s.raw = true ∧ s.numRaw ≠ 1)) :
    (encode sd c s).length = advertisedSize sd c s := by
  rw [size_eq sd c hc s]
  obtain ⟨k, empty, hra, raw, lz, nl, nr, est, ri, cs⟩ := s
  simp only [WF, Bool.and_eq_true, decide_eq_true_eq] at hw
  obtain ⟨_, hb⟩ := hw
  cases empty with
  | true =>
    simp only [if_true, Bool.and_eq_true, Option.isNone_iff_eq_none, List.isEmpty_iff] at hb
    obtain ⟨⟨h1, h2⟩, h3⟩ := hb
    subst h1; subst h2; subst h3
    simp [serializedSize, advertisedSize, encEst, sizeItems, encItems, encList]
  | false =>
    simp only [Bool.false_eq_true, if_false, Bool.and_eq_true, beq_iff_eq] at hb
    obtain ⟨_, hrest⟩ := hb
    cases raw with
    | true =>
      simp only [if_true, Bool.and_eq_true, beq_iff_eq, List.isEmpty_iff] at hrest
      obtain ⟨_, hcs⟩ := hrest
      subst hcs
      have h1 : nr = 1 := by
        by_cases h : nr = 1
        · exact h
        · exact absurd ⟨rfl, rfl, h⟩ hnot
      simp [serializedSize, advertisedSize, h1]
    | false =>
      simp only [Bool.false_eq_true, if_false, Bool.and_eq_true, beq_iff_eq, List.isEmpty_iff] at hrest
      obtain ⟨⟨⟨hri, _⟩, _⟩, _⟩ := hrest
      subst hri
      simp [serializedSize, advertisedSize, sizeItems, encItems, encList]

/-- non-vacuity: an estimation-mode image with two levels -/
def exImage : Image :=
  { k := 4, empty := false, hra := false, raw := false, lz := true, numLevels := 2, numRaw := 0,
    est := some (7, [1,0,0,0,0,0,0,0], [9,0,0,0,0,0,0,0]), rawItems := [],
    compactors := [{ state := 1, ssr := 0x40800000, lgWeight := 0, numSections := 3, items := [[1,0,0,0,0,0,0,0], [9,0,0,0,0,0,0,0], [5,0,0,0,0,0,0,0]] },
                   { state := 0, ssr := 0x40800000, lgWeight := 1, numSections := 3, items := [[2,0,0,0,0,0,0,0], [7,0,0,0,0,0,0,0]] }] }

example : WF (Serde.fixed 8) docCfg exImage = true := by decide
example : WF (Serde.fixed 8) docCfg d6Witness = true := by decide

/-- the constants the CURRENT headers define satisfy the side conditions, so the theorems above apply to the model the
correspondence check runs (`codeCfg` = DSGen values; a changed flag position / size constant breaks this obligation) -/
theorem codeCfg_ok : CfgOK codeCfg := by decide

/-- round trip at the constants of the current headers -/
theorem decode_encode_code (sd : Serde) (hs : sd.Lawful) (s : Image) (tail : Bytes) (hw : WF sd codeCfg s = true) :
    decode sd codeCfg (encode sd codeCfg s ++ tail) = some (s, tail) :=
  decode_encode sd hs codeCfg codeCfg_ok s tail hw

end DS.Wire.Req
