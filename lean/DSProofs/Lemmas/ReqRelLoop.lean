/- Two runs of the REQ model side by side: the coin cursors (`AccRel`) and the compress loop (`LoopRel`).  Used for C08. -/
import DSProofs.Lemmas.ReqRel
import DSProofs.Lemmas.ReqEach
namespace DS.Req

variable {ρ : Type}

inductive CsRel (hh : Option Nat) : List (Compactor ρ) → List (Compactor ρ) → Prop
  | nil : CsRel hh [] []
  | cons {c c' : Compactor ρ} {t t' : List (Compactor ρ)} : CRel hh c c' → CsRel hh t t' → CsRel hh (c :: t) (c' :: t')

/-- the two coin supplies: `L` is the (anticipated) level trace of all draws; run 2 sees the coins of run 1 with those drawn at
level `h` complemented -/
structure AccRel (L : List Nat) (hh : Option Nat) (a a' : Acc) : Prop where
  used : a'.used = a.used
  lv : a'.lv = a.lv
  oddConst : a'.oddConst = a.oddConst
  throws : a'.throws = a.throws
  lvlen : a.lv.length = a.used
  coins : ∀ h, hh = some h → ∀ i, a'.coins i = (a.coins i != (L[i]? == some h))

theorem CsRel.length_eq {hh : Option Nat} {a b : List (Compactor ρ)} (r : CsRel hh a b) : b.length = a.length := by
  induction r with
  | nil => rfl
  | cons _ _ ih => simp [ih]

theorem CsRel.map_eq {hh : Option Nat} {α : Type} {f : Compactor ρ → α} (hf : ∀ c c', CRel hh c c' → f c' = f c) {a b : List (Compactor ρ)}
    (r : CsRel hh a b) : b.map f = a.map f := by
  induction r with
  | nil => rfl
  | cons rc _ ih => rw [List.map_cons, List.map_cons, hf _ _ rc, ih]

theorem CsRel.sums {hh : Option Nat} (T : Tun) {a b : List (Compactor ρ)} (r : CsRel hh a b) :
    sumItems b = sumItems a ∧ sumCap T b = sumCap T a :=
  ⟨congrArg List.sum (r.map_eq fun _ _ rc => rc.len), congrArg List.sum (r.map_eq fun _ _ rc => rc.nomCap T)⟩

/-- the coin run 2 draws next, when `L` records the draw of run 1 at level `lvl`: complemented iff `lvl` is the flipped level -/
theorem AccRel.peek {L : List Nat} {hh : Option Nat} {a a' : Acc} (r : AccRel L hh a a') {lvl h0 : Nat}
    (hp : a.lv ++ [lvl] <+: L) (e : hh = some h0) : a'.peek = (a.peek != (lvl == h0)) := by
  have : L[a.used]? = some lvl := by
    obtain ⟨t, rfl⟩ := hp
    rw [← r.lvlen]; simp
  show a'.coins a'.used = (a.coins a.used != _)
  rw [r.used, r.coins h0 e, this, Option.some_beq_some]

theorem AccRel.draw {L : List Nat} {hh : Option Nat} {a a' : Acc} (lvl : Nat) (r : AccRel L hh a a') : AccRel L hh (a.draw lvl) (a'.draw lvl) :=
  ⟨congrArg (· + 1) r.used, congrArg (· ++ [lvl]) r.lv, r.oddConst, r.throws, (List.length_append ..).trans (congrArg (· + 1) r.lvlen), r.coins⟩

theorem drawIf_AccRel {L : List Nat} {hh : Option Nat} {a a' : Acc} (b : Bool) (lvl : Nat) (r : AccRel L hh a a') :
    AccRel L hh (a.drawIf b lvl) (a'.drawIf b lvl) := by
  cases b
  · exact r
  · exact r.draw lvl

theorem afterCompact_AccRel {L : List Nat} {hh : Option Nat} {a a' : Acc} (lvl : Nat) (f o k : Bool) (r : AccRel L hh a a') :
    AccRel L hh (a.afterCompact lvl f o k) (a'.afterCompact lvl f o k) :=
  have d := drawIf_AccRel f lvl r
  ⟨d.used, d.lv, congrArg (· || o) d.oddConst, congrArg (· || !k) d.throws, d.lvlen, d.coins⟩

theorem sortIf0_CRel {hh : Option Nat} (h : Nat) {c c' : Compactor ρ} (r : CRel hh c c') : CRel hh (sortIf0 h c) (sortIf0 h c') := by
  unfold sortIf0; split
  · exact sort_CRel r
  · exact r

theorem nextOf_rel {hh : Option Nat} (T : Tun) (F : SecFns ρ) (hra : Bool) (k h : Nat) {rest rest' : List (Compactor ρ)} (d d' : Bool)
    (r : CsRel hh rest rest')
    (hd : ∀ h0, hh = some h0 → rest = [] → T.initCoinRandom = true → d' = (d != (h + 1 == h0))) :
    CRel hh (nextOf T F hra k h rest d) (nextOf T F hra k h rest' d') ∧ CsRel hh rest.tail rest'.tail ∧
    ∀ p h0, balD p h0 rest rest'
      = headD p h0 (nextOf T F hra k h rest d) (nextOf T F hra k h rest' d') + balD p h0 rest.tail rest'.tail := by
  cases r with
  | nil =>
    refine ⟨mkC_CRel T F hh hra (h + 1) k d d' (fun h0 e hf => hd h0 e rfl hf), .nil, fun p h0 => ?_⟩
    have := headD_empty p h0 (Compactor.mkC T F hra (h + 1) k d) (Compactor.mkC T F hra (h + 1) k d')
      (mkC_items ..) (mkC_entered ..) (mkC_entered ..)
    simp only [nextOf, this]; rfl
  | cons rc rt => exact ⟨rc, rt, fun _ _ => rfl⟩

/-- what the compress loop does to two related runs started with the same counters: shapes, counters and coin cursors stay
related, and (for a flipped level, as long as the ghost flag is off) the two-run balance moves from `todo` to the result -/
structure LoopRel (L : List Nat) (hh : Option Nat) (todo todo' : List (Compactor ρ)) (out out' : List (Compactor ρ) × Ctr × Acc) : Prop where
  cs : CsRel hh out.1 out'.1
  ctr : out'.2.1 = out.2.1
  acc : AccRel L hh out.2.2 out'.2.2
  bal : ∀ p h0, hh = some h0 → out.2.2.oddConst = false → balD p h0 out.1 out'.1 = balD p h0 todo todo'

theorem LoopRel.cons {L : List Nat} {hh : Option Nat} {todo todo' mid mid' : List (Compactor ρ)} {x x' : Compactor ρ} {ctr2 ctr2' : Ctr}
    {acc2 acc2' : Acc} {out out' : List (Compactor ρ) × Ctr × Acc}
    (S : LoopRel L hh todo todo' (x :: mid, ctr2, acc2) (x' :: mid', ctr2', acc2')) (I : LoopRel L hh mid mid' out out')
    (hm : AccMono acc2 out.2.2) : LoopRel L hh todo todo' (x :: out.1, out.2) (x' :: out'.1, out'.2) := by
  cases S.cs with
  | cons rx _ =>
    refine ⟨.cons rx I.cs, I.ctr, I.acc, fun p h0 e hodd => ?_⟩
    rw [balD_cons, I.bal p h0 e hodd, ← balD_cons]
    exact S.bal p h0 e (hm.odd hodd)

theorem compactStep_rel {T : Tun} (hT : TunOK T) (F : SecFns ρ) {hra : Bool} {k : Nat} (hk : 2 ≤ k) {L : List Nat} {hh : Option Nat}
    {h : Nat} {c c' x x' : Compactor ρ} {rest rest' mid mid' : List (Compactor ρ)} {ctr ctr2 ctr2' : Ctr} {acc acc' acc2 acc2' : Acc}
    (hinv : CsInv T hra h (c :: rest)) (rc : CRel hh c c') (rrest : CsRel hh rest rest') (ha : AccRel L hh acc acc')
    (hfull : c.nomCap T ≤ c.items.length) (hs : compactStep T F hra k h c rest ctr acc = (x, mid, ctr2, acc2))
    (hs' : compactStep T F hra k h c' rest' ctr acc' = (x', mid', ctr2', acc2')) (hL : acc2.lv <+: L) :
    LoopRel L hh (c :: rest) (c' :: rest') (x :: mid, ctr2, acc2) (x' :: mid', ctr2', acc2') := by
  cases hs; cases hs'
  have hc1 := sortIf0_CInv hinv.1
  have r1 := sortIf0_CRel h rc
  obtain ⟨f1, f2, _⟩ := sortIf0_fields T h c
  have R := compactionRange_ok hT (sortIf0 h c) hc1.ns hc1.ss (by rw [f1, f2]; exact hfull)
  have n1 := (nextOf_spec hT F hk h acc.peek hinv.2 ctr).inv.1
  have hnl : (nextOf T F hra k h rest acc.peek).lgWeight = (sortIf0 h c).lgWeight + 1 := by rw [hc1.lg]; exact n1.lg
  have hemp : rest'.isEmpty = rest.isEmpty := by cases rrest <;> rfl
  have rA1 : AccRel L hh (acc.growDraw T rest.isEmpty (h + 1)) (acc'.growDraw T rest.isEmpty (h + 1)) := by
    rw [growDraw_eq, growDraw_eq]; exact drawIf_AccRel _ _ ha
  -- `L` records the draws of run 1: that of a new top compactor, then that of the compaction
  have hA1 : (acc.growDraw T rest.isEmpty (h + 1)).lv <+: L := (afterCompact_mono _ _ _ _ _).pre.trans hL
  obtain ⟨rnx, rtail, hnb⟩ := nextOf_rel T F hra k h acc.peek acc'.peek rrest fun h0 e hr hf => ha.peek (by
    have : (acc.growDraw T rest.isEmpty (h + 1)).lv = acc.lv ++ [h + 1] := by
      rw [hr]; show (acc.drawIf T.initCoinRandom (h + 1)).lv = _
      rw [hf]; rfl
    exact this ▸ hA1) e
  have hd : ∀ h0, hh = some h0 → ¬ (sortIf0 h c).state % 2 = 1 →
      (acc'.growDraw T rest.isEmpty (h + 1)).peek = ((acc.growDraw T rest.isEmpty (h + 1)).peek != ((sortIf0 h c).lgWeight == h0)) := by
    intro h0 e ho
    refine rA1.peek ?_ e
    have : ((sortIf0 h c).compact T F (nextOf T F hra k h rest acc.peek) (acc.growDraw T rest.isEmpty (h + 1)).peek).fresh = true := by
      show (!decide ((sortIf0 h c).state % 2 = 1)) = true
      rw [decide_eq_false ho]; rfl
    rw [this] at hL; exact hL
  have cr := compact_CRel T F _ _ r1 rnx hnl hd ((length_take_drop _ _ _ R.inside).symm ▸ R.even)
  have hbal := fun p h0 (e : hh = some h0) => compact_bal_heads T F p h0 (nxt := nextOf T F hra k h rest acc.peek)
    (nxt' := nextOf T F hra k h rest' acc'.peek) (acc.growDraw T rest.isEmpty (h + 1)).peek (acc'.growDraw T rest.isEmpty (h + 1)).peek
    (e ▸ r1) hnl (hd h0 e) R.le
  rw [hemp]
  generalize (sortIf0 h c).compact T F (nextOf T F hra k h rest acc.peek) (acc.growDraw T rest.isEmpty (h + 1)).peek = res at cr hbal ⊢
  generalize (sortIf0 h c').compact T F (nextOf T F hra k h rest' acc'.peek) (acc'.growDraw T rest.isEmpty (h + 1)).peek = res' at cr hbal ⊢
  refine ⟨.cons cr.cur (.cons cr.nxt rtail), ?_, ?_, fun p h0 e hodd => ?_⟩
  · show ctrAfter (ctrGrow T ctr rest.isEmpty _) res' = ctrAfter (ctrGrow T ctr rest.isEmpty _) res
    simp only [ctrAfter, ctrGrow, rnx.nomCap T, cr.num, cr.capNew, cr.capOld]
  · show AccRel L hh (Acc.afterCompact _ _ _ _ _) (Acc.afterCompact _ _ _ _ _)
    rw [r1.lg, cr.fresh, cr.oddConst, cr.rangeOk]; exact afterCompact_AccRel _ _ _ _ rA1
  · have hb := hbal p h0 e (Bool.or_eq_false_iff.1 ((afterCompact_oddConst ..).symm.trans hodd)).2
    rw [balD_cons, balD_cons, balD_cons, hnb p h0, ← headD_sort p h0 h c c', ← Int.add_assoc, ← Int.add_assoc, hb]

theorem compressLoop_rel {T : Tun} (hT : TunOK T) (F : SecFns ρ) (hra : Bool) (k : Nat) (hk : 2 ≤ k) (L : List Nat) (hh : Option Nat)
    (fuel h : Nat) (todo todo' : List (Compactor ρ)) (ctr : Ctr) (acc acc' : Acc) (hinv : CsInv T hra h todo) (hr : CsRel hh todo todo')
    (ha : AccRel L hh acc acc') (hL : (compressLoop T F hra k fuel h todo ctr acc).2.2.lv <+: L) :
    LoopRel L hh todo todo' (compressLoop T F hra k fuel h todo ctr acc) (compressLoop T F hra k fuel h todo' ctr acc') := by
  induction fuel generalizing h todo todo' ctr acc acc' with
  | zero => exact ⟨hr, rfl, ha, fun _ _ _ _ => rfl⟩
  | succ fuel ih =>
    cases hr with
    | nil => exact ⟨.nil, rfl, ha, fun _ _ _ _ => rfl⟩
    | @cons c c' rest rest' rc rrest =>
      by_cases hfull : c.nomCap T ≤ c.items.length
      · have hfull' : c'.nomCap T ≤ c'.items.length := by rw [rc.nomCap T, rc.len]; exact hfull
        rcases hs : compactStep T F hra k h c rest ctr acc with ⟨x, mid, ctr2, acc2⟩
        rcases hs' : compactStep T F hra k h c' rest' ctr acc' with ⟨x', mid', ctr2', acc2'⟩
        rw [compressLoop_full fuel hfull hs] at hL ⊢
        rw [compressLoop_full fuel hfull' hs']
        have hm := compressLoop_mono T F hra k fuel (h + 1) mid ctr2 acc2
        have S := compactStep_rel hT F hk hinv rc rrest ha hfull hs hs' (by
          split at hL
          · exact hL
          · exact hm.pre.trans hL)
        have hc2 : ctr2' = ctr2 := S.ctr
        subst hc2
        split
        · exact S
        · rename_i hl; rw [if_neg hl] at hL
          cases S.cs with
          | cons _ rmid =>
            exact S.cons (ih (h + 1) mid mid' ctr2' acc2 acc2' (compactStep_inv hT F hk hinv hfull hs).2 rmid S.acc hL) hm
      · have hnf' : ¬ c'.nomCap T ≤ c'.items.length := by rw [rc.nomCap T, rc.len]; exact hfull
        rw [compressLoop_notFull _ _ _ _ _ _ _ _ _ hfull] at hL ⊢
        rw [compressLoop_notFull _ _ _ _ _ _ _ _ _ hnf']
        have S : LoopRel L hh (c :: rest) (c' :: rest') (c :: rest, ctr, acc) (c' :: rest', ctr, acc') :=
          ⟨.cons rc rrest, rfl, ha, fun _ _ _ _ => rfl⟩
        exact S.cons (ih (h + 1) rest rest' ctr acc acc' hinv.2 rrest ha hL) (compressLoop_mono T F hra k fuel (h + 1) rest ctr acc)

end DS.Req
