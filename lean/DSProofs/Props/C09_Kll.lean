/-
C09 (KLL) — serialization round trip of the KLL image.

ONLY property theorems and their non-vacuity examples (helper lemmas: Lemmas/WireQuant*.lean).
Model: DSModel/Wire/Kll.lean (image state, `encode`, `decode`, `serializedSize`, `project`), tied to
kll_sketch_impl.hpp by `./check c09_quant` (the model decodes what the implementation wrote and must
recover the API content; the implementation's bytes must equal `encode (decode bytes)`).
All statements: every lawful item serde `sd` (instances: raw 4/8-byte arithmetic items, u32-length-prefixed
strings — `ItemType.serde_lawful`), every constant set `c` with `CfgOK c`, every well-formed image, every tail.
-/
import DSModel.Wire.KllCode
import DSProofs.Lemmas.WireQuantKll
namespace DS.Wire.Kll
open Reader

/-- the reader recovers exactly the image state and consumes exactly the image (any tail is left untouched) -/
theorem decode_encode (sd : Serde) (hs : sd.Lawful) (c : Cfg) (hc : CfgOK c) (s : Image) (tail : Bytes)
    (hw : WF sd c s = true) : decode sd c (encode sd c s ++ tail) = some (s, tail) := by
  have hc' := hc
  obtain ⟨_, _, _, _, hps, hpf, hv1, hv2, _, _⟩ := hc'
  cases s with
  | empty k lz =>
    have hk : k < 2 ^ 16 := by simpa [WF] using hw
    simp only [encode]
    rw [decode_header sd c hc _ _ k true lz false hps hv1 hk]
    obtain ⟨fe, fl, fs, _⟩ := flags_rt c hc true lz false
    simp only [decodeBody, fe, fl, fs, if_true]
    rw [bind_guard _ (by simp)]
    rfl
  | single k lz it =>
    simp only [WF, Bool.and_eq_true, decide_eq_true_eq] at hw
    obtain ⟨hk, hit⟩ := hw
    simp only [encode, List.append_assoc]
    rw [decode_header sd c hc _ _ k false lz true hps hv2 hk]
    obtain ⟨fe, fl, fs, _⟩ := flags_rt c hc false lz true
    simp only [decodeBody, fe, fl, fs, if_true, Bool.false_eq_true, if_false]
    rw [bind_guard _ (by simp), bind_ok (hs.rt it _ hit)]
    rfl
  | full k lz n minK levels mn mx items =>
    simp only [WF, Bool.and_eq_true, decide_eq_true_eq, beq_iff_eq] at hw
    obtain ⟨⟨⟨⟨⟨⟨⟨⟨⟨⟨hk, hn⟩, hmk⟩, hl1⟩, hl2⟩, hlv⟩, hok⟩, hmn⟩, hmx⟩, hit⟩, hcnt⟩ := hw
    simp only [encode, List.append_assoc]
    rw [decode_header sd c hc _ _ k false lz false hpf hv1 hk]
    obtain ⟨fe, fl, fs, _⟩ := flags_rt c hc false lz false
    simp only [decodeBody, fe, fl, fs, Bool.false_eq_true, if_false]
    rw [bind_guard _ (by simp), decodeFull, bind_u64 _ hn, bind_u16 _ hmk, bind_u8 _ (by omega), bind_u8 0 (by decide),
      bind_guard _ (by simp [hl1, hl2]),
      bind_ok (repeatN_encList u32_w32 levels _ ((levels_all_iff levels).1 hlv)),
      bind_guard _ hok, bind_ok (hs.rt mn _ hmn), bind_ok (hs.rt mx _ hmx), ← hcnt,
      bind_ok (repeatN_items sd hs items tail hit)]
    rfl

/-- the image has exactly the advertised size (`get_serialized_size_bytes`) -/
theorem size_eq (sd : Serde) (c : Cfg) (hc : CfgOK c) (s : Image) :
    (encode sd c s).length = serializedSize sd c s := by
  obtain ⟨-, -, -, -, -, -, -, -, -, he, hs1, hd⟩ := hc
  cases s with
  | empty k lz => rw [encode, length_header, serializedSize, he]
  | single k lz it => rw [encode, List.length_append, length_header, serializedSize, hs1]
  | full k lz n minK levels mn mx items =>
    simp +arith only [encode, serializedSize, List.length_append, length_header, length_w64, length_w16, length_w8,
      length_encList_w32, sizeItems, hd]

/-- the published bound `get_max_serialized_size_bytes(k, n)` (fixed-size items of `w` bytes) holds for every
well-formed image whose level count is within `ub_on_num_levels(n)` (an invariant of the algorithm: the top level
is never empty and carries weight 2^(levels-1) ≤ n; checked on every implementation image by the harness). -/
theorem size_le_max (w : Nat) (c : Cfg) (hc : CfgOK c) (k : Nat) (lz : Bool) (n minK : Nat) (levels : List Nat)
    (mn mx : Item) (items : List Item)
    (hw : WF (Serde.fixed w) c (.full k lz n minK levels mn mx items) = true)
    (hub : levels.length ≤ ubLevels n) :
    serializedSize (Serde.fixed w) c (.full k lz n minK levels mn mx items) ≤ maxSerializedSize c k n w := by
  simp only [WF, Bool.and_eq_true, decide_eq_true_eq, beq_iff_eq] at hw
  obtain ⟨⟨⟨⟨⟨⟨⟨⟨⟨⟨-, -⟩, -⟩, -⟩, -⟩, -⟩, -⟩, hmn⟩, hmx⟩, hit⟩, hcnt⟩ := hw
  have h1 : ((Serde.fixed w).enc mn).length = w := by simpa [Serde.fixed] using hmn
  have h2 : ((Serde.fixed w).enc mx).length = w := by simpa [Serde.fixed] using hmx
  have h3 := length_encItems_fixed w items hit
  have hmono := totalCapacity_mono k c.m _ _ hub
  have hle : items.length ≤ totalCapacity k c.m (ubLevels n) := by omega
  have hmul : items.length * w ≤ totalCapacity k c.m (ubLevels n) * w := Nat.mul_le_mul_right w hle
  simp only [serializedSize, maxSerializedSize, sizeItems, h1, h2, h3, Nat.add_mul]
  omega

/-- the documented constant set satisfies the side conditions -/
def docCfg : Cfg :=
  { family := 15, preShort := 2, preFull := 5, ver1 := 1, ver2 := 2, m := 8,
    bitEmpty := 0, bitLz := 1, bitSingle := 2, emptySize := 8, dataStartSingle := 8, dataStart := 20 }

example : CfgOK docCfg := by decide

/-- non-vacuity: a two-level image (k = 8: capacity 16, level 0 = [13,15), level 1 = [15,16)) of 8-byte items is well formed -/
example : WF (Serde.fixed 8) docCfg
    (.full 8 true 4 8 [13, 15] [1,0,0,0,0,0,0,0] [4,0,0,0,0,0,0,0]
      [[1,0,0,0,0,0,0,0], [4,0,0,0,0,0,0,0], [3,0,0,0,0,0,0,0]]) = true := by decide

example : WF Serde.lpString docCfg (.single 200 false [104, 105]) = true := by decide

/-- the constants the CURRENT headers define satisfy the side conditions, so the theorems above apply to the model the
correspondence check runs (`codeCfg` = DSGen values; a changed flag position / size constant breaks this obligation) -/
theorem codeCfg_ok : CfgOK codeCfg := by decide

/-- round trip at the constants of the current headers -/
theorem decode_encode_code (sd : Serde) (hs : sd.Lawful) (s : Image) (tail : Bytes) (hw : WF sd codeCfg s = true) :
    decode sd codeCfg (encode sd codeCfg s ++ tail) = some (s, tail) :=
  decode_encode sd hs codeCfg codeCfg_ok s tail hw

end DS.Wire.Kll
