/- The intersection object: the match loop as a filter, and the invariant `IInv` of the state relative to the inputs
   processed so far. -/
import DSProofs.Lemmas.ThetaInv
namespace DS.Theta

variable {σ : Type}

def interStep (pol : σ → σ → σ) (θ : Nat) (tbl : List (Nat × σ)) (e : Nat × σ) : Option (Nat × σ) :=
  if e.1 < θ then (lookup e.1 tbl).map fun x => (e.1, pol x e.2) else none

/-- the match loop is a filter: for ordered inputs the early stop loses nothing -/
theorem interLoop_eq (pol : σ → σ → σ) (θ : Nat) (tbl : List (Nat × σ)) (ord : Bool) (l : List (Nat × σ))
    (hs : ord = true → (keys l).Pairwise (· < ·)) :
    interLoop pol θ tbl ord l = l.filterMap (interStep pol θ tbl) := by
  induction l with
  | nil => rfl
  | cons e t ih =>
    have hs' : ord = true → (∀ k ∈ keys t, e.1 < k) ∧ (keys t).Pairwise (· < ·) := fun ho => List.pairwise_cons.1 (hs ho)
    have ih := ih fun ho => (hs' ho).2
    rw [interLoop, List.filterMap_cons, interStep]
    by_cases hlt : e.1 < θ
    · rw [if_pos hlt, if_pos hlt, ih]
      cases lookup e.1 tbl <;> rfl
    · rw [if_neg hlt, if_neg hlt]
      cases ord with
      | false => exact ih
      | true =>
        -- every later key is above e.1 ≥ θ
        refine (List.filterMap_eq_nil_iff.2 fun a ha => ?_).symm
        have := (hs' rfl).1 a.1 (mem_keys_of_mem t a ha)
        exact if_neg (by omega)

theorem keys_filterMap_interStep (pol : σ → σ → σ) (θ : Nat) (tbl : List (Nat × σ)) (l : List (Nat × σ)) :
    keys (l.filterMap (interStep pol θ tbl)) = (keys l).filter fun k => decide (k < θ) && (lookup k tbl).isSome := by
  induction l with
  | nil => rfl
  | cons e t ih =>
    rw [List.filterMap_cons, interStep, keys_cons, List.filter_cons]
    by_cases hlt : e.1 < θ
    · cases hl : lookup e.1 tbl <;> simp [hlt, ih]
    · simp [hlt, ih]

theorem mem_keys_interLoop (pol : σ → σ → σ) (θ : Nat) (tbl : List (Nat × σ)) (ord : Bool) (l : List (Nat × σ))
    (hs : ord = true → (keys l).Pairwise (· < ·)) (x : Nat) :
    x ∈ keys (interLoop pol θ tbl ord l) ↔ (x ∈ keys l ∧ x < θ ∧ x ∈ keys tbl) := by
  rw [interLoop_eq pol θ tbl ord l hs, keys_filterMap_interStep, List.mem_filter, Bool.and_eq_true, decide_eq_true_eq,
    Option.isSome_iff_exists, lookup_some_iff]

theorem interLoop_sublist (pol : σ → σ → σ) (θ : Nat) (tbl : List (Nat × σ)) (ord : Bool) (l : List (Nat × σ))
    (hs : ord = true → (keys l).Pairwise (· < ·)) : (keys (interLoop pol θ tbl ord l)).Sublist (keys l) := by
  rw [interLoop_eq pol θ tbl ord l hs, keys_filterMap_interStep]
  exact List.filter_sublist

theorem mem_interLoop (pol : σ → σ → σ) (θ : Nat) (tbl : List (Nat × σ)) (ord : Bool) (l : List (Nat × σ))
    (hs : ord = true → (keys l).Pairwise (· < ·)) (k : Nat) (v : σ)
    (h : (k, v) ∈ interLoop pol θ tbl ord l) : ∃ x e2, lookup k tbl = some x ∧ (k, e2) ∈ l ∧ v = pol x e2 := by
  rw [interLoop_eq pol θ tbl ord l hs] at h
  obtain ⟨e, he, hstep⟩ := List.mem_filterMap.1 h
  unfold interStep at hstep
  split at hstep
  · obtain ⟨x, hx, hxe⟩ := Option.map_eq_some_iff.1 hstep
    cases hxe
    exact ⟨x, e.2, hx, he, rfl⟩
  · cases hstep

def common (P : List (Compact σ)) (x : Nat) : Prop := ∀ sk, sk ∈ P → x ∈ keys sk.ents

/-- the least theta of the inputs, empty ones included (`thetaStar` skips those) -/
def minTheta : List (Compact σ) → Nat
  | [] => MAX_THETA
  | sk :: r => min sk.theta (minTheta r)

theorem minTheta_append (P : List (Compact σ)) (sk : Compact σ) : minTheta (P ++ [sk]) = min (minTheta P) sk.theta := by
  induction P with
  | nil => simp [minTheta, Nat.min_comm]
  | cons a t ih => rw [List.cons_append, minTheta, minTheta, ih, Nat.min_assoc]

theorem minTheta_le_max (P : List (Compact σ)) : minTheta P ≤ MAX_THETA := by
  induction P with
  | nil => exact Nat.le_refl _
  | cons a t ih => simp only [minTheta]; omega

theorem common_lt (P : List (Compact σ)) (hw : ∀ sk, sk ∈ P → WFop sk) (hP : P ≠ []) (x : Nat) (hc : common P x) :
    x < minTheta P := by
  induction P with
  | nil => exact absurd rfl hP
  | cons a t ih =>
    simp only [minTheta]
    have ha := (hw a (by simp)).lt_theta x (hc a (by simp))
    by_cases ht : t = []
    · subst ht
      have := (hw a (by simp)).theta_le
      simp only [minTheta]; omega
    · have := ih (fun s hs => hw s (by simp [hs])) ht (fun s hs => hc s (by simp [hs]))
      omega

/-- the intersection after the inputs `P` (oldest first): before the first update (`start`), with a result that is not
flagged empty (`ne`), and exactly empty (`em`) -/
structure IInv (P : List (Compact σ)) (i : Inter σ) : Prop where
  valid_iff : i.valid = true ↔ P ≠ []
  sorted : (keys i.ents).Pairwise (· < ·)
  start : P = [] → i.isEmpty = false ∧ i.ents = [] ∧ i.theta = MAX_THETA
  ne : P ≠ [] → i.isEmpty = false → i.theta = minTheta P ∧ ∀ x, x ∈ keys i.ents ↔ (common P x ∧ x < i.theta)
  em : i.isEmpty = true → i.ents = [] ∧ i.theta = MAX_THETA ∧ P ≠ [] ∧ ∀ x, ¬ common P x

theorem iinv_init : IInv ([] : List (Compact σ)) (interInit : Inter σ) := by
  refine ⟨by simp [interInit], by simp [interInit], fun _ => by simp [interInit], fun h => absurd rfl h, ?_⟩
  intro h; simp [interInit] at h

theorem common_append (P : List (Compact σ)) (sk : Compact σ) (x : Nat) :
    common (P ++ [sk]) x ↔ (common P x ∧ x ∈ keys sk.ents) := by
  unfold common
  constructor
  · intro h; exact ⟨fun s hs => h s (by simp [hs]), h sk (by simp)⟩
  · rintro ⟨h1, h2⟩ s hs
    simp only [List.mem_append, List.mem_singleton] at hs
    rcases hs with hs | rfl
    · exact h1 s hs
    · exact h2


theorem interLoop_nil_tbl (pol : σ → σ → σ) (θ : Nat) (ord : Bool) (l : List (Nat × σ)) :
    interLoop pol θ [] ord l = [] := by
  induction l with
  | nil => rfl
  | cons e t ih => simp only [interLoop, lookup, ih, ite_self]

theorem hasDupKeys_of_nodup : ∀ (l : List Nat), l.Nodup → hasDupKeys l = false
  | [], _ => rfl
  | a :: t, h => by
    rw [List.nodup_cons] at h
    simp only [hasDupKeys, hasDupKeys_of_nodup t h.2, Bool.or_false, List.contains_eq_mem, decide_eq_false_iff_not]
    exact h.1

theorem interUpdate_of_isEmpty (pol : σ → σ → σ) (sh : Nat) (i : Inter σ) (sk : Compact σ) (hi : i.isEmpty = true) :
    interUpdate pol sh i sk = some i := by
  unfold interUpdate; rw [if_pos hi]

/-- The first update copies the input, every later one keeps the matches; the empty flag is the input's, or is raised
because nothing matched at theta = MAX. -/
theorem interUpdate_some (pol : σ → σ → σ) (sh : Nat) (i i' : Inter σ) (sk : Compact σ) (θ : Nat)
    (hθ : θ = if sk.isEmpty then MAX_THETA else min i.theta sk.theta) (hi : i.isEmpty = false)
    (hu : interUpdate pol sh i sk = some i') :
    i'.valid = true ∧ i'.theta = θ ∧
    i'.ents = sortKV (if i.valid then interLoop pol θ i.ents sk.ordered sk.ents else sk.ents) ∧
    (i'.isEmpty = sk.isEmpty ∨ i'.isEmpty = true ∧ i'.ents = [] ∧ θ = MAX_THETA) := by
  unfold interUpdate at hu
  rw [if_neg (by simp [hi])] at hu
  dsimp only at hu
  rw [← hθ] at hu
  -- `by_cases` + `rw [if_pos ..] at hu` throughout: `split at hu` is slow to check on a term of this size
  by_cases hseed : (!sk.isEmpty && decide (sk.seedHash ≠ sh)) = true
  · rw [if_pos hseed] at hu; cases hu
  rw [if_neg hseed] at hu
  cases hv : i.valid with
  | false =>
    simp only [hv, Bool.false_and, Bool.false_eq_true, if_false, Bool.not_false, if_true] at hu
    by_cases he : sk.ents.isEmpty = true
    · rw [if_pos he] at hu; cases hu
      exact ⟨rfl, rfl, by rw [List.isEmpty_iff.1 he]; rfl, Or.inl rfl⟩
    rw [if_neg he] at hu
    by_cases hd : hasDupKeys (keys sk.ents) = true
    · rw [if_pos hd] at hu; cases hu
    · rw [if_neg hd] at hu; cases hu
      exact ⟨rfl, rfl, rfl, Or.inl rfl⟩
  | true =>
    simp only [hv, Bool.true_and, Bool.not_true, Bool.false_eq_true, if_false] at hu
    by_cases he : i.ents.isEmpty = true
    · rw [if_pos he] at hu; cases hu
      exact ⟨rfl, rfl, by rw [List.isEmpty_iff.1 he, interLoop_nil_tbl]; rfl, Or.inl rfl⟩
    rw [if_neg he] at hu
    by_cases hs : sk.ents.isEmpty = true
    · rw [if_pos hs] at hu; cases hu
      exact ⟨rfl, rfl, by rw [List.isEmpty_iff.1 hs]; rfl, Or.inl rfl⟩
    rw [if_neg hs] at hu
    by_cases hm : (interLoop pol θ i.ents sk.ordered sk.ents).isEmpty = true
    · rw [if_pos hm] at hu; cases hu
      refine ⟨rfl, rfl, by rw [List.isEmpty_iff.1 hm]; rfl, ?_⟩
      cases hmax : θ == MAX_THETA with
      | false => exact Or.inl (Bool.or_false _)
      | true => exact Or.inr ⟨Bool.or_true _, rfl, beq_iff_eq.1 hmax⟩
    · rw [if_neg hm] at hu; cases hu
      exact ⟨rfl, rfl, rfl, Or.inl rfl⟩

/-- An update can only fail on a seed mismatch or on duplicate keys in the first input. -/
theorem interUpdate_isSome (pol : σ → σ → σ) (sh : Nat) (i : Inter σ) (sk : Compact σ)
    (hs : sk.isEmpty = true ∨ sk.seedHash = sh) (hn : (keys sk.ents).Nodup) :
    ∃ i', interUpdate pol sh i sk = some i' := by
  have hseed : ¬ (!sk.isEmpty && decide (sk.seedHash ≠ sh)) = true := by rcases hs with h | h <;> simp [h]
  have hdup : ¬ hasDupKeys (keys sk.ents) = true := by simp [hasDupKeys_of_nodup _ hn]
  unfold interUpdate
  dsimp only
  rw [if_neg hseed, if_neg hdup]
  apply Option.isSome_iff_exists.1
  simp only [apply_ite Option.isSome, Option.isSome_some, ite_self]

theorem iinv_update (pol : σ → σ → σ) (sh : Nat) (P : List (Compact σ)) (i i' : Inter σ) (sk : Compact σ)
    (h : IInv P i) (hwP : ∀ s, s ∈ P → WFop s) (hw : WFop sk) (hu : interUpdate pol sh i sk = some i') :
    IInv (P ++ [sk]) i' := by
  have hne' : P ++ [sk] ≠ [] := by simp
  have hwP' : ∀ s, s ∈ P ++ [sk] → WFop s := List.forall_mem_append.2 ⟨hwP, List.forall_mem_singleton.2 hw⟩
  cases hie : i.isEmpty with
  | true =>
    rw [interUpdate_of_isEmpty pol sh i sk hie] at hu
    cases hu
    obtain ⟨h1, h2, h3, h4⟩ := h.em hie
    exact ⟨by simp [h.valid_iff.2 h3], h.sorted, fun hc => absurd hc hne', fun _ hc => (by rw [hie] at hc; cases hc),
      fun _ => ⟨h1, h2, hne', fun x hc => h4 x ((common_append P sk x).1 hc).1⟩⟩
  | false =>
    obtain ⟨hv, hθ, hents, hemp⟩ := interUpdate_some pol sh i i' sk _ rfl hie hu
    have hnd : (keys (if i.valid then interLoop pol (if sk.isEmpty then MAX_THETA else min i.theta sk.theta) i.ents
        sk.ordered sk.ents else sk.ents)).Nodup := by
      split
      · exact hw.nodup.sublist (interLoop_sublist _ _ _ _ _ hw.ord_sorted)
      · exact hw.nodup
    -- whatever the flag says, the entries kept are the keys common to all inputs
    have hkeys : ∀ x, x ∈ keys i'.ents ↔ common (P ++ [sk]) x := by
      intro x
      rw [hents, mem_keys_sortKV, common_append]
      cases hval : i.valid with
      | false =>
        have hP : P = [] := Classical.byContradiction fun hc => by rw [h.valid_iff.2 hc] at hval; cases hval
        subst hP
        rw [if_neg Bool.false_ne_true]
        exact ⟨fun hx => ⟨fun s hs => (by cases hs), hx⟩, fun hx => hx.2⟩
      | true =>
        have hP := h.valid_iff.1 hval
        obtain ⟨ht, hm⟩ := h.ne hP hie
        rw [if_pos rfl, mem_keys_interLoop pol _ i.ents sk.ordered sk.ents hw.ord_sorted, hm]
        constructor
        · rintro ⟨h1, _, h3, _⟩; exact ⟨h3, h1⟩
        · rintro ⟨h1, h2⟩
          have hlt := common_lt P hwP hP x h1
          refine ⟨h2, ?_, h1, ht ▸ hlt⟩
          cases hse : sk.isEmpty with
          | true => rw [hw.empty_nil hse] at h2; cases h2
          | false => rw [if_neg Bool.false_ne_true]; have := hw.lt_theta x h2; omega
    have hth : i'.isEmpty = false → i'.theta = minTheta (P ++ [sk]) := by
      intro hne
      have hse : sk.isEmpty = false := by
        rcases hemp with h1 | ⟨h1, _⟩
        · rw [← h1]; exact hne
        · rw [hne] at h1; cases h1
      rw [hθ, hse, if_neg Bool.false_ne_true, minTheta_append]
      by_cases hP : P = []
      · subst hP; rw [(h.start rfl).2.2]; rfl
      · rw [(h.ne hP hie).1]
    refine ⟨by simp [hv], by rw [hents]; exact sorted_sortKV _ hnd, fun hc => absurd hc hne', fun _ hne => ⟨hth hne, fun x => ?_⟩, fun he => ?_⟩
    · rw [hkeys]
      exact ⟨fun hc => ⟨hc, hth hne ▸ common_lt _ hwP' hne' x hc⟩, fun hc => hc.1⟩
    · have hnil : i'.ents = [] ∧ i'.theta = MAX_THETA := by
        rcases hemp with h1 | ⟨_, h2, h3⟩
        · have hse : sk.isEmpty = true := h1 ▸ he
          refine ⟨?_, by rw [hθ, hse]; rfl⟩
          rw [hents, hw.empty_nil hse]
          split <;> rfl
        · exact ⟨h2, hθ.trans h3⟩
      exact ⟨hnil.1, hnil.2, hne', fun x hc => by have := (hkeys x).2 hc; rw [hnil.1] at this; cases this⟩

theorem interFold_cons (pol : σ → σ → σ) (sh : Nat) (i i' : Inter σ) (sk : Compact σ) (rest : List (Compact σ)) :
    interFold pol sh i (sk :: rest) = some i' ↔
      ∃ i1, interUpdate pol sh i sk = some i1 ∧ interFold pol sh i1 rest = some i' := by
  simp only [interFold]
  cases interUpdate pol sh i sk <;> simp

theorem interFold_induction (pol : σ → σ → σ) (sh : Nat) (Q : List (Compact σ) → Inter σ → Prop)
    (hstep : ∀ P i i' sk, (∀ s, s ∈ P → WFop s) → WFop sk → Q P i → interUpdate pol sh i sk = some i' → Q (P ++ [sk]) i')
    (sks : List (Compact σ)) : ∀ (P : List (Compact σ)) (i i' : Inter σ), (∀ s, s ∈ P → WFop s) →
      (∀ s, s ∈ sks → WFop s) → Q P i → interFold pol sh i sks = some i' → Q (P ++ sks) i' := by
  induction sks with
  | nil =>
    intro P i i' _ _ h hf
    obtain rfl : i = i' := Option.some.inj hf
    rwa [List.append_nil]
  | cons sk rest ih =>
    intro P i i' hwP hw h hf
    obtain ⟨i1, hup, hf⟩ := (interFold_cons pol sh i i' sk rest).1 hf
    have hsk := hw sk List.mem_cons_self
    have := ih (P ++ [sk]) i1 i' (List.forall_mem_append.2 ⟨hwP, List.forall_mem_singleton.2 hsk⟩) (fun s hs => hw s (List.mem_cons_of_mem _ hs))
      (hstep P i i1 sk hwP hsk h hup) hf
    rwa [List.append_assoc] at this

theorem iinv_fold (pol : σ → σ → σ) (sh : Nat) (sks : List (Compact σ)) (i : Inter σ)
    (hw : ∀ s, s ∈ sks → WFop s) (hi : interFold pol sh interInit sks = some i) : IInv sks i :=
  interFold_induction pol sh IInv (fun P i i' sk hwP hsk h hu => iinv_update pol sh P i i' sk h hwP hsk hu)
    sks [] interInit i (fun _ hs => nomatch hs) hw iinv_init hi

theorem interFold_isSome (pol : σ → σ → σ) (sh : Nat) : ∀ (sks : List (Compact σ)) (i : Inter σ),
    (∀ s, s ∈ sks → (s.isEmpty = true ∨ s.seedHash = sh) ∧ (keys s.ents).Nodup) → ∃ i', interFold pol sh i sks = some i'
  | [], i, _ => ⟨i, rfl⟩
  | sk :: rest, i, h => by
    obtain ⟨i1, h1⟩ := interUpdate_isSome pol sh i sk (h sk List.mem_cons_self).1 (h sk List.mem_cons_self).2
    obtain ⟨i', h'⟩ := interFold_isSome pol sh rest i1 (fun s hs => h s (List.mem_cons_of_mem _ hs))
    exact ⟨i', (interFold_cons pol sh i i' sk rest).2 ⟨i1, h1, h'⟩⟩

theorem interFold_isEmpty (pol : σ → σ → σ) (sh : Nat) : ∀ (sks : List (Compact σ)) (i i' : Inter σ),
    interFold pol sh i sks = some i' → (i.isEmpty = true ∨ ∃ sk, sk ∈ sks ∧ sk.isEmpty = true) → i'.isEmpty = true
  | [], i, i', hf, h => by
    obtain rfl : i = i' := Option.some.inj hf
    rcases h with h | ⟨_, h, _⟩
    · exact h
    · cases h
  | a :: rest, i, i', hf, h => by
    obtain ⟨i1, hup, hf⟩ := (interFold_cons pol sh i i' a rest).1 hf
    refine interFold_isEmpty pol sh rest i1 i' hf ?_
    cases hie : i.isEmpty with
    | true => rw [interUpdate_of_isEmpty pol sh i a hie] at hup; cases hup; exact Or.inl hie
    | false =>
      rcases h with h | ⟨sk, hm, he⟩
      · rw [hie] at h; cases h
      · rcases List.mem_cons.1 hm with rfl | hm
        · rcases (interUpdate_some pol sh i i1 sk _ rfl hie hup).2.2.2 with h1 | h1
          · exact Or.inl (h1.trans he)
          · exact Or.inl h1.1
        · exact Or.inr ⟨sk, hm, he⟩

end DS.Theta
