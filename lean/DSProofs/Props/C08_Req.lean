/-
C08 (REQ part) — REQ rank estimates are unbiased over the coin flips; the flips depend on shapes only.

Everything is about the executable model `DS.Req` (DSModel/Req/*.lean); quantified over every admissible tunable set, every
section-size schedule `F`, every history of new / update / merge / copy / query operations over any number of live sketches (any k,
both modes), and every coin vector.  `run T F ops v` executes the history with the coin vector `v` (the i-th call of `random_bit()`
returns `v[i]`, `false` beyond the vector); its second component records how many coins were drawn (`used`), the level of the
compactor that drew each of them (`lv`, ghost) and the ghost flag `oddConst` (some compaction at an odd `state_` flipped a coin that
derives from no draw: the constructor's `coin_(false)`).  Only property statements live here; lemmas are in DSProofs/Lemmas/Req*.lean.
-/
import DSProofs.Lemmas.ReqUnbiased
import DSProofs.Props.C07_Req
namespace DS.Req

variable {ρ : Type}

/-- coin-independent part of a compactor -/
def shapeOf (c : Compactor ρ) : Nat × Nat × Nat × Nat × Nat × Bool × Bool :=
  (c.lgWeight, c.items.length, c.sectionSize, c.numSections, c.state, c.sorted, c.hra)

/-- flips_shape_only: for ANY two coin vectors the history draws the same number of coins, at the same levels in the same order,
and every object ends with the same shape (levels, level sizes, section parameters, state counters, flags, n, num_retained,
max_nom_size, min, max) -/
theorem req_flips_shape_only {T : Tun} (hT : TunOK T) (F : SecFns ρ) (ops : List Op) (v v' : List Bool) :
    (run T F ops v').2.used = (run T F ops v).2.used ∧ (run T F ops v').2.lv = (run T F ops v).2.lv ∧
    (run T F ops v').2.oddConst = (run T F ops v).2.oddConst ∧
    ∀ id, ((run T F ops v).1.get id = none ∧ (run T F ops v').1.get id = none) ∨
      ∃ s s', (run T F ops v).1.get id = some s ∧ (run T F ops v').1.get id = some s' ∧
        s'.compactors.map shapeOf = s.compactors.map shapeOf ∧ s'.n = s.n ∧ s'.numRetained = s.numRetained ∧
        s'.maxNomSize = s.maxNomSize ∧ s'.minItem = s.minItem ∧ s'.maxItem = s.maxItem ∧ s'.k = s.k := by
  obtain ⟨r1, r2⟩ := run_shape hT F ops v v'
  refine ⟨r2.used, r2.lv, r2.oddConst, ?_⟩
  intro id
  rcases ALRel_get r1 id with ⟨h1, h2⟩ | ⟨s, s', h1, h2, hr⟩
  · left; exact ⟨h1, h2⟩
  · right
    exact ⟨s, s', h1, h2, hr.1.cs.map_eq fun _ _ rc => by simp only [shapeOf, rc.lg, rc.len, rc.ss, rc.ns, rc.state, rc.sorted, rc.hra],
      hr.1.n, hr.1.ret, hr.1.maxNom, hr.1.mn, hr.1.mx, hr.1.k⟩

example : (run pinTun (⟨fun _ => (), id, fun _ => 0⟩ : SecFns Unit) ([.new 0 4 false] ++ (List.range 60).map (fun i => Op.upd 0 (Int.ofNat (i * 7 % 31)))) [true, false, true]).2.used = 1 := by
  decide +kernel

/-- compaction_balanced: the two halves a compaction can promote together are the compacted run, for every predicate on items
(so doubling the weight of a fair-coin half preserves every weighted count on average) -/
theorem req_compaction_balanced (p : Int → Bool) (run : List Int) (coin : Bool) :
    ((promote run coin).filter p).length + ((promote run (!coin)).filter p).length = (run.filter p).length :=
  cntP_promote_both p run coin

/-- Σ over all coin vectors of the weight of the retained items satisfying `p` in object `id` -/
def sumOverCoins (T : Tun) (F : SecFns ρ) (ops : List Op) (id : Nat) (p : Int → Bool) : Nat :=
  ((allVecs (run T F ops []).2.used).map (fun v =>
    match (run T F ops v).1.get id with
    | some s => weightP p s.compactors
    | none => 0)).sum

/-- req_unbiased, the full statement for the compactor constructor of the pinned upstream commit (`coin_(false)`, `T.initCoinRandom = false`): for every history and every object, the weight below any point `y` (both criteria), summed
over ALL 2^F coin vectors, is 2^F times the true count -/
def req_unbiased_full : Prop :=
  ∀ (T : Tun), TunOK T → T.initCoinRandom = false → ∀ (F : SecFns Unit) (ops : List Op) (id : Nat) (items : List Int), inputOf ops id = some items →
    ∀ (y : Int) (inclusive : Bool),
      sumOverCoins T F ops id (fun x => if inclusive then decide (x ≤ y) else decide (x < y))
        = 2 ^ (run T F ops []).2.used * (items.filter (fun x => if inclusive then decide (x ≤ y) else decide (x < y))).length

/-- the D9 witness: sketch 1 (k = 4, LRA) compacts once (24 updates); the empty sketch 0 merges it and gets 26 more updates -/
def d9Ops : List Op :=
  [.new 0 4 false, .new 1 4 false] ++ (List.range 24).map (fun i => Op.upd 1 (Int.ofNat i)) ++ [.merge 0 1]
    ++ (List.range 26).map (fun i => Op.upd 0 (Int.ofNat (100 + i)))

/-- FALSE for that shape (D9; the shape with a drawn initial coin is `req_unbiased_repaired` in C08_Req_Repaired.lean): `req_compactor::merge` ORs `state_` but keeps the constant initial `coin_(false)`; the next
compaction of the adopting compactor flips it to the constant `true`.  On the witness one coin is drawn in total, and over both of
its values the weight of the items ≤ 16 in sketch 0 sums to 32, not 2 · 17.  `./check c08req` enumerates the whole coin tree on the
C++ side (regression input corpus/regress/C08/req-merge-adopts-odd-state.txt); /repo carries the repair (its commit 010eb75). -/
theorem req_unbiased_full_false : ¬ req_unbiased_full := by
  intro h
  have h1 := h pinTun req_pinTun_ok rfl ⟨fun _ => (), id, fun _ => 0⟩ d9Ops 0
    ((List.range 26).reverse.map (fun i => Int.ofNat (100 + i)) ++ (List.range 24).reverse.map (fun i => Int.ofNat i))
    (by decide +kernel) 16 true
  revert h1
  decide +kernel

/-- the witness is exactly a history in which the ghost flag fires -/
example : (run pinTun (⟨fun _ => (), id, fun _ => 0⟩ : SecFns Unit) d9Ops []).2.oddConst = true := by decide +kernel

/-- req_unbiased, the proved part: the identity holds for EVERY predicate on items (in particular `≤ y` and `< y`), every history and
every object, under the explicit decidable, coin-independent (`req_flips_shape_only`) hypothesis that no odd-state compaction flips a
coin that derives from no draw.  Proof: shapes are coin independent; the content of level ≤ h never depends on coins drawn at level
≥ h; complementing all coins drawn at level h is an involution on the coin vectors under which (entered level h+1 in the two runs)
= (left level h), so the level-h errors cancel in pairs; the level errors telescope to (weight below) − (true count).
Missing for the full statement: exactly the histories with `oddConst` (merge into a never-compacted compactor whose partner has an
odd state) — where it is false (`req_unbiased_full_false`). -/
theorem req_unbiased_partial {T : Tun} (hT : TunOK T) (F : SecFns ρ) (ops : List Op) (id : Nat) (items : List Int)
    (hin : inputOf ops id = some items) (hno : (run T F ops []).2.oddConst = false) (p : Int → Bool) :
    sumOverCoins T F ops id p = 2 ^ (run T F ops []).2.used * (items.filter p).length := by
  have e : (fun v => match (run T F ops v).1.get id with | some s => weightP p s.compactors | none => 0)
      = fun v => weightP p (csOf T F ops id v) := funext fun v => by unfold csOf; split <;> simp_all
  unfold sumOverCoins
  rw [e]
  exact unbiased_main hT F ops id items hin hno p

/-- req_unbiased for streams: a history WITHOUT merge operations (any number of sketches, updates, copies, queries) always
satisfies the hypothesis, so for every stream the identity holds unconditionally; only merge trees can break it -/
theorem req_unbiased_streams {T : Tun} (hT : TunOK T) (F : SecFns ρ) (ops : List Op) (hnm : ∀ op ∈ ops, isMerge op = false)
    (id : Nat) (items : List Int) (hin : inputOf ops id = some items) (p : Int → Bool) :
    sumOverCoins T F ops id p = 2 ^ (run T F ops []).2.used * (items.filter p).length :=
  req_unbiased_partial hT F ops id items hin (run_odd_noMerge T F ops hnm []) p

/-- in particular: the rank numerator REQ reports (`req_rank_eq_view_rank`: direct rank = view rank = weight below), summed over all
coin vectors, is 2^F times the true count — i.e. the estimated rank averaged over the coin flips is the true rank -/
theorem req_unbiased_rank {T : Tun} (hT : TunOK T) (F : SecFns ρ) (ops : List Op) (id : Nat) (items : List Int)
    (hin : inputOf ops id = some items) (hno : (run T F ops []).2.oddConst = false) (y : Int) (inclusive : Bool) :
    ((allVecs (run T F ops []).2.used).map (fun v =>
        match (run T F ops v).1.get id with
        | some s => s.weightBelow y inclusive
        | none => 0)).sum
      = 2 ^ (run T F ops []).2.used * (items.filter (fun x => if inclusive then decide (x ≤ y) else decide (x < y))).length :=
  req_unbiased_partial hT F ops id items hin hno _

/-- non-vacuity: a two-sketch history with a merge and four coins satisfies the hypothesis -/
example : (run pinTun (⟨fun _ => (), id, fun _ => 0⟩ : SecFns Unit)
    ([.new 0 4 true, .new 1 4 true] ++ (List.range 40).map (fun i => Op.upd 0 (Int.ofNat (i * 5 % 17))) ++
     (List.range 40).map (fun i => Op.upd 1 (Int.ofNat (i * 3 % 23))) ++ [.merge 0 1] ++ (List.range 30).map (fun i => Op.upd 0 (Int.ofNat i))) []).2.oddConst = false
    ∧ (run pinTun (⟨fun _ => (), id, fun _ => 0⟩ : SecFns Unit)
    ([.new 0 4 true, .new 1 4 true] ++ (List.range 40).map (fun i => Op.upd 0 (Int.ofNat (i * 5 % 17))) ++
     (List.range 40).map (fun i => Op.upd 1 (Int.ofNat (i * 3 % 23))) ++ [.merge 0 1] ++ (List.range 30).map (fun i => Op.upd 0 (Int.ofNat i))) []).2.used = 4 := by
  decide +kernel

end DS.Req
