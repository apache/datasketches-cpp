/-
t-digest (C17): what holds for EVERY instance of the numeric classes (no laws are used), in particular for the executed
Float / Float32 instances with real NaN: weight bookkeeping, which state each operation leaves behind (the queries
included: `getRank_state`, `getQuantile_state`), and the induction over histories.
-/
import DSModel.TDigest.Hist
namespace DS.TDigest
open Num Conv
set_option linter.unusedSectionVars false

variable {α δ : Type} [Num α] [Num δ] [Conv α δ]

@[simp] theorem sumWeights_nil : sumWeights ([] : List (Centroid α)) = 0 := rfl

@[simp] theorem sumWeights_cons (c : Centroid α) (l : List (Centroid α)) :
    sumWeights (c :: l) = c.weight + sumWeights l := by simp [sumWeights]

@[simp] theorem sumWeights_append (a b : List (Centroid α)) :
    sumWeights (a ++ b) = sumWeights a + sumWeights b := by simp [sumWeights]

theorem length_le_sumWeights {l : List (Centroid α)} (h : ∀ c ∈ l, 1 ≤ c.weight) : l.length ≤ sumWeights l := by
  induction l with
  | nil => exact Nat.le_refl 0
  | cons c t ih =>
    obtain ⟨hc, ht⟩ := List.forall_mem_cons.1 h
    rw [sumWeights_cons, List.length_cons]
    have := ih ht
    omega

theorem sumWeights_perm {a b : List (Centroid α)} (h : a.Perm b) : sumWeights a = sumWeights b :=
  (h.map _).sum_nat

@[simp] theorem sumWeights_reverse (a : List (Centroid α)) : sumWeights a.reverse = sumWeights a :=
  sumWeights_perm (List.reverse_perm a)

@[simp] theorem sumWeights_map_single (l : List α) : sumWeights (l.map single) = l.length := by
  induction l with
  | nil => rfl
  | cons c t ih => simp [ih, single, Nat.add_comm]

@[simp] theorem cadd_weight {safe : Bool} (a b : Centroid α) : (cadd safe a b).weight = a.weight + b.weight := rfl

theorem insertC_perm (x : Centroid α) (l : List (Centroid α)) : (insertC x l).Perm (x :: l) := by
  induction l with
  | nil => exact .refl _
  | cons y ys ih =>
    simp only [insertC]
    split
    · exact (ih.cons y).trans (.swap x y ys)
    · exact .refl _

theorem stableSort_perm (l : List (Centroid α)) : (stableSort l).Perm l := by
  induction l with
  | nil => exact .refl _
  | cons x xs ih => exact (insertC_perm x _).trans (ih.cons x)

theorem sumWeights_insertC (x : Centroid α) (l : List (Centroid α)) :
    sumWeights (insertC x l) = x.weight + sumWeights l :=
  (sumWeights_perm (insertC_perm x l)).trans (sumWeights_cons x l)

@[simp] theorem sumWeights_stableSort (l : List (Centroid α)) : sumWeights (stableSort l) = sumWeights l :=
  sumWeights_perm (stableSort_perm l)

theorem insertC_ne_nil (x : Centroid α) (l : List (Centroid α)) : insertC x l ≠ [] := fun h =>
  nomatch (h ▸ insertC_perm x l).symm.eq_nil

theorem stableSort_eq_nil {l : List (Centroid α)} : stableSort l = [] ↔ l = [] :=
  ⟨fun h => (h ▸ stableSort_perm l).symm.eq_nil, fun h => h.symm ▸ rfl⟩

theorem sumWeights_cluster (safe : Bool) (sc : Scale δ) (kc cwD : δ) (xs : List (Centroid α)) :
    ∀ (first : Bool) (cur : Centroid α) (wsf : δ),
      sumWeights (cluster safe sc kc cwD first cur wsf xs) = cur.weight + sumWeights xs := by
  induction xs with
  | nil => intro first cur wsf; simp [cluster]
  | cons x xs ih =>
    intro first cur wsf
    simp only [cluster]
    split
    · rw [ih]; simp; omega
    · simp [ih]

theorem cluster_ne_nil (safe : Bool) (sc : Scale δ) (kc cwD : δ) (xs : List (Centroid α)) (first : Bool) (cur : Centroid α) (wsf : δ) :
    cluster safe sc kc cwD first cur wsf xs ≠ [] := by
  cases xs with
  | nil => simp [cluster]
  | cons x xs => simp only [cluster]; split <;> simp [cluster_ne_nil]

/-- The clause `cw` of the invariant `Inv` (Lemmas/TDigestInv.lean) under a name of its own: `Inv` is stated over `Rat`, this
needs no law of the arithmetic and is carried through the histories for every instance (`eval_weight`); `hs.cw` is an
`InvW s`. -/
def InvW (s : St α) : Prop := s.cw = sumWeights s.cs

/-- the sequence `merge(buffer, weight)` iterates over -/
def mergeSeq (s : St α) (tmp : List (Centroid α)) : List (Centroid α) :=
  if s.rev then (stableSort (tmp ++ s.cs)).reverse else stableSort (tmp ++ s.cs)

theorem mergeSeq_perm (s : St α) (tmp : List (Centroid α)) : (mergeSeq s tmp).Perm (tmp ++ s.cs) := by
  unfold mergeSeq
  split
  · exact (List.reverse_perm _).trans (stableSort_perm _)
  · exact stableSort_perm _

theorem mergeSeq_eq_nil {s : St α} {tmp : List (Centroid α)} : mergeSeq s tmp = [] ↔ tmp ++ s.cs = [] :=
  ⟨fun h => (h ▸ mergeSeq_perm s tmp).symm.eq_nil, fun h => (h ▸ mergeSeq_perm s tmp).eq_nil⟩

theorem sumWeights_mergeSeq (s : St α) (tmp : List (Centroid α)) :
    sumWeights (mergeSeq s tmp) = sumWeights tmp + sumWeights s.cs :=
  (sumWeights_perm (mergeSeq_perm s tmp)).trans (sumWeights_append tmp s.cs)

/-- the centroid list `merge(buffer, weight)` leaves behind, given the iteration sequence `x :: xs` -/
def mergeOut (sc : Scale δ) (tun : Tun) (s : St α) (weight : Nat) (x : Centroid α) (xs : List (Centroid α)) : List (Centroid α) :=
  let out := cluster tun.caddSafe sc (ofNat (tun.comprMul * s.k) : δ) (ofNat (s.cw + weight)) true x (ofNat 0) xs
  if s.rev then out.reverse else out

theorem mergeCore_of_seq (sc : Scale δ) (tun : Tun) (s : St α) (tmp : List (Centroid α)) (weight : Nat)
    {x : Centroid α} {xs : List (Centroid α)} (h : mergeSeq s tmp = x :: xs) :
    mergeCore sc tun s tmp weight =
      { rev := !s.rev, k := s.k,
        min := if s.isEmpty then headMean (mergeOut sc tun s weight x xs) s.min
               else stdMin s.min (headMean (mergeOut sc tun s weight x xs) s.min),
        max := if s.isEmpty then lastMean (mergeOut sc tun s weight x xs) s.max
               else stdMax s.max (lastMean (mergeOut sc tun s weight x xs) s.max),
        cs := mergeOut sc tun s weight x xs, cw := s.cw + weight, buf := [] } := by
  unfold mergeSeq at h
  unfold mergeCore mergeOut
  simp only [h]

theorem mergeCore_of_nil (sc : Scale δ) (tun : Tun) (s : St α) (tmp : List (Centroid α)) (weight : Nat)
    (h : mergeSeq s tmp = []) : mergeCore sc tun s tmp weight = s := by
  unfold mergeSeq at h
  unfold mergeCore
  simp only [h]

theorem sumWeights_mergeOut (sc : Scale δ) (tun : Tun) (s : St α) (weight : Nat) (x : Centroid α) (xs : List (Centroid α)) :
    sumWeights (mergeOut sc tun s weight x xs) = x.weight + sumWeights xs := by
  unfold mergeOut
  split <;> simp [sumWeights_cluster]

theorem mergeOut_ne_nil (sc : Scale δ) (tun : Tun) (s : St α) (weight : Nat) (x : Centroid α) (xs : List (Centroid α)) :
    mergeOut sc tun s weight x xs ≠ [] := by
  unfold mergeOut
  split <;> simp [cluster_ne_nil]

theorem mergeCore_weight (sc : Scale δ) (tun : Tun) (s : St α) (tmp : List (Centroid α)) (weight : Nat)
    (hne : tmp ≠ []) (hs : InvW s) (hw : weight = sumWeights tmp) :
    InvW (mergeCore sc tun s tmp weight) ∧ (mergeCore sc tun s tmp weight).buf = [] ∧
    (mergeCore sc tun s tmp weight).cw = s.cw + weight ∧ (mergeCore sc tun s tmp weight).cs ≠ [] := by
  cases hseq : mergeSeq s tmp with
  | nil => rw [mergeSeq_eq_nil] at hseq; simp at hseq; exact absurd hseq.1 hne
  | cons x xs =>
    rw [mergeCore_of_seq sc tun s tmp weight hseq]
    refine ⟨?_, rfl, rfl, mergeOut_ne_nil sc tun s weight x xs⟩
    have hsum : x.weight + sumWeights xs = sumWeights tmp + sumWeights s.cs := by
      rw [← sumWeights_cons, ← hseq, sumWeights_mergeSeq]
    show s.cw + weight = sumWeights (mergeOut sc tun s weight x xs)
    rw [sumWeights_mergeOut, hsum, hw, show s.cw = sumWeights s.cs from hs, Nat.add_comm]

theorem isEmpty_iff (s : St α) : s.isEmpty = true ↔ s.cs = [] ∧ s.buf = [] := by
  simp [St.isEmpty]

theorem isEmpty_false_iff (s : St α) : s.isEmpty = false ↔ s.cs ≠ [] ∨ s.buf ≠ [] := by
  unfold St.isEmpty
  cases s.cs <;> cases s.buf <;> simp

theorem compress_cases (sc : Scale δ) (tun : Tun) (s : St α) :
    (s.buf = [] ∧ compress sc tun s = s) ∨
    (s.buf ≠ [] ∧ compress sc tun s = mergeCore sc tun s (s.buf.map single) s.buf.length) := by
  unfold compress
  cases h : s.buf with
  | nil => left; exact ⟨rfl, rfl⟩
  | cons v t => right; exact ⟨by simp, rfl⟩

theorem compress_of_buf_nil (sc : Scale δ) (tun : Tun) (s : St α) (hb : s.buf = []) : compress sc tun s = s := by
  unfold compress; rw [hb]

/-- the working list of `merge(other)` -/
def mergeTmp (s o : St α) : List (Centroid α) := s.buf.map single ++ o.buf.map single ++ o.cs

theorem mergeTmp_ne_nil {s o : St α} (h : o.isEmpty = false) : mergeTmp s o ≠ [] := by
  unfold mergeTmp
  rcases (isEmpty_false_iff o).1 h with h | h <;> simp [h]

theorem sumWeights_mergeTmp (s o : St α) (ho : InvW o) : s.buf.length + o.totalWeight = sumWeights (mergeTmp s o) := by
  simp [mergeTmp, St.totalWeight, show o.cw = sumWeights o.cs from ho]
  omega

theorem merge_cases (sc : Scale δ) (tun : Tun) (s o : St α) :
    (o.isEmpty = true ∧ merge sc tun s o = s) ∨
    (o.isEmpty = false ∧ merge sc tun s o = mergeCore sc tun s (mergeTmp s o) (s.buf.length + o.totalWeight)) := by
  unfold merge
  cases h : o.isEmpty
  · right; exact ⟨rfl, by simp [mergeTmp]⟩
  · left; exact ⟨rfl, by simp⟩

theorem getRank_state (sc : Scale δ) (tun : Tun) (s : St α) (x : α) :
    (getRank sc tun s x).2 = s ∨ (getRank sc tun s x).2 = compress sc tun s := by
  -- each test either answers with the state untouched or passes on
  have step : ∀ {c : Prop} [Decidable c] (r : Option δ) {b : Option δ × St α},
      (b.2 = s ∨ b.2 = compress sc tun s) →
      ((if c then (r, s) else b).2 = s ∨ (if c then (r, s) else b).2 = compress sc tun s) := by
    intro c _ r b hb
    split
    · exact .inl rfl
    · exact hb
  exact step _ <| step _ <| step _ <| step _ <| step _ <| .inr rfl

theorem getQuantile_state (sc : Scale δ) (tun : Tun) (s : St α) (r : δ) :
    (getQuantile sc tun s r).2 = s ∨ (getQuantile sc tun s r).2 = compress sc tun s := by
  unfold getQuantile
  split
  · exact .inl rfl
  · split
    · exact .inl rfl
    · exact .inr rfl

theorem totalWeight_of_isEmpty {s : St α} (hs : InvW s) (h : s.isEmpty = true) : s.totalWeight = 0 := by
  rw [isEmpty_iff] at h
  unfold St.totalWeight
  unfold InvW at hs
  simp [hs, h.1, h.2]

theorem compress_weight (sc : Scale δ) (tun : Tun) (s : St α) (hs : InvW s) :
    InvW (compress sc tun s) ∧ (compress sc tun s).totalWeight = s.totalWeight := by
  rcases compress_cases sc tun s with ⟨_, e⟩ | ⟨hb, e⟩ <;> rw [e]
  · exact ⟨hs, rfl⟩
  · have h := mergeCore_weight sc tun s (s.buf.map single) s.buf.length (by simpa using hb) hs (by simp)
    refine ⟨h.1, ?_⟩
    unfold St.totalWeight
    rw [h.2.1, h.2.2.1]; simp

/-- what `update` does after its optional `compress()`: the value joins the buffer and the extremes -/
def push (s : St α) (v : α) : St α :=
  { s with buf := s.buf ++ [v],
           min := if s.isEmpty then v else stdMin s.min v,
           max := if s.isEmpty then v else stdMax s.max v }

theorem totalWeight_push (s : St α) (v : α) : (push s v).totalWeight = s.totalWeight + 1 := by
  simp only [push, St.totalWeight, List.length_append, List.length_singleton, Nat.add_assoc]

theorem update_cases (sc : Scale δ) (tun : Tun) (s : St α) (v : α) :
    (isNaN v = true ∧ update sc tun s v = s) ∨
    (isNaN v = false ∧ (update sc tun s v = push s v ∨ update sc tun s v = push (compress sc tun s) v)) := by
  unfold update
  cases isNaN v
  · right
    refine ⟨rfl, ?_⟩
    simp only [Bool.false_eq_true, if_false]
    split
    · exact .inr rfl
    · exact .inl rfl
  · exact .inl ⟨rfl, rfl⟩

/-- Every state of a history arises from a fresh digest by four steps: a value joins the buffer (`push`), `compress()`,
`merge` of an empty operand (nothing happens) and `merge` of a non-empty one.  In the empty-operand case `hskip` the state
stays `s` while the accepted list grows by the operand's `B`: the user shows from `P B o` that `B` adds nothing. -/
theorem eval_induction (sc : Scale δ) (tun : Tun) {P : List α → St α → Prop} (hnew : ∀ k, P [] (init k))
    (hpush : ∀ {A s} (v : α), isNaN v = false → P A s → P (A ++ [v]) (push s v))
    (hcompress : ∀ {A s}, P A s → P A (compress sc tun s))
    (hskip : ∀ {A B s o}, P A s → P B o → o.isEmpty = true → P (A ++ B) s)
    (hmerge : ∀ {A B s o}, P A s → P B o → o.isEmpty = false → P (A ++ B) (merge sc tun s o)) (h : Hist α) :
    P h.accepted (h.eval sc tun) := by
  induction h with
  | new k => exact hnew k
  | update h v ih =>
    rcases update_cases sc tun (h.eval sc tun) v with ⟨hn, e⟩ | ⟨hn, e | e⟩ <;>
      simp only [Hist.eval, Hist.accepted, hn, e, if_true, Bool.false_eq_true, if_false]
    · exact ih
    · exact hpush v hn ih
    · exact hpush v hn (hcompress ih)
  | compress h ih => exact hcompress ih
  | merge h o ih1 ih2 =>
    rcases merge_cases sc tun (h.eval sc tun) (o.eval sc tun) with ⟨he, e⟩ | ⟨he, _⟩
    · simp only [Hist.eval, Hist.accepted, e]; exact hskip ih1 ih2 he
    · exact hmerge ih1 ih2 he

theorem merge_weight (sc : Scale δ) (tun : Tun) (s o : St α) (hs : InvW s) (ho : InvW o) :
    InvW (merge sc tun s o) ∧ (merge sc tun s o).totalWeight = s.totalWeight + o.totalWeight := by
  rcases merge_cases sc tun s o with ⟨he, e⟩ | ⟨he, e⟩ <;> rw [e]
  · exact ⟨hs, by rw [totalWeight_of_isEmpty ho he]; rfl⟩
  · have h := mergeCore_weight sc tun s _ _ (mergeTmp_ne_nil he) hs (sumWeights_mergeTmp s o ho)
    refine ⟨h.1, ?_⟩
    unfold St.totalWeight at *
    rw [h.2.1, h.2.2.1]; simp; omega

theorem eval_weight (sc : Scale δ) (tun : Tun) (h : Hist α) :
    InvW (h.eval sc tun) ∧ (h.eval sc tun).totalWeight = h.accepted.length :=
  eval_induction sc tun (P := fun A s => InvW s ∧ s.totalWeight = A.length) (fun _ => ⟨rfl, rfl⟩)
    (fun v _ ⟨hs, hw⟩ => ⟨hs, by rw [totalWeight_push, hw, List.length_append]; rfl⟩)
    (fun ⟨hs, hw⟩ => ⟨(compress_weight sc tun _ hs).1, (compress_weight sc tun _ hs).2.trans hw⟩)
    (fun ⟨hs, hw⟩ ⟨ho, hwo⟩ he => ⟨hs, by rw [List.length_append, ← hwo, totalWeight_of_isEmpty ho he]; exact hw⟩)
    (fun ⟨hs, hw⟩ ⟨ho, hwo⟩ _ =>
      ⟨(merge_weight sc tun _ _ hs ho).1, by rw [(merge_weight sc tun _ _ hs ho).2, hw, hwo, List.length_append]⟩) h

theorem eval_nonempty (sc : Scale δ) (tun : Tun) (h : Hist α) (hne : h.accepted ≠ []) :
    (h.eval sc tun).isEmpty = false := by
  cases hh : (h.eval sc tun).isEmpty
  · rfl
  · have hw := eval_weight sc tun h
    rw [totalWeight_of_isEmpty hw.1 hh] at hw
    exact absurd (List.eq_nil_of_length_eq_zero hw.2.symm) hne

end DS.TDigest
