/- t-digest image and the two big-endian legacy formats.  Every reader is a fixed header followed by a body reader chosen by
   the header, and each fact is proved for the body and for the header. -/
import DSProofs.Lemmas.WireMisc
import DSModel.Wire.TDigest
namespace DS.Wire.TDigest
open DS.Wire

theorem allBool3_apply (p : Bool → Bool → Bool → Bool) (h : allBool3 p = true) (e s r : Bool) : p e s r = true := by
  simp only [allBool3, Bool.and_eq_true] at h
  cases e <;> cases s <;> cases r <;> simp only [h]

theorem flags_ok (c : Consts) (h : allBool3 (flagsRoundTrip c) = true) (e s r : Bool) :
    flagsOf c e s r < 256 ∧ bitAt c.emptyBit (flagsOf c e s r) = e ∧
    bitAt c.singleBit (flagsOf c e s r) = s ∧ bitAt c.reverseBit (flagsOf c e s r) = r := by
  have := allBool3_apply _ h e s r
  simpa only [flagsRoundTrip, Bool.and_eq_true, decide_eq_true_eq, beq_iff_eq, and_assoc] using this

theorem cent_enc (tsz wsz : Nat) (p : Nat × Nat) (h : p.1 < 256 ^ tsz ∧ p.2 < 256 ^ wsz) (t : Bytes) :
    cent tsz wsz (encodeCent tsz wsz p ++ t) = some (p, t) := by
  rw [cent, encodeCent, List.append_assoc, bind_leNat _ _ h.1, bind_leNat _ _ h.2]
  rfl

theorem decodeBody_enc (tsz wsz k : Nat) (r : Bool) (body : Body) (hb : WFBody tsz wsz body) (tail : Bytes) :
    decodeBody tsz wsz k body.isEmpty body.isSingle r (encodeBody tsz wsz body ++ tail) =
      some ({ k := k, reverse := r, body := body }, tail) := by
  cases body with
  | empty => rfl
  | single v => exact bind_leNat tsz v hb _ tail
  | multi mn mx cents buf =>
    obtain ⟨b1, b2, b3, b4, b5, b6⟩ := hb
    show decodeBody tsz wsz k false false r (encodeBody tsz wsz (.multi mn mx cents buf) ++ tail) = _
    simp only [decodeBody, encodeBody, Bool.false_eq_true, if_false, List.append_assoc]
    rw [bind_u32 _ b3, bind_u32 _ b4, bind_leNat _ _ b1, bind_leNat _ _ b2,
      bind_ok (repeatN_flatMap (cent_enc tsz wsz) cents b5 _), bind_ok (repeatN_flatMap (leNat_wLe tsz) buf b6 _)]
    rfl

theorem decode_header (c : Consts) (hc : c.Valid) (tsz wsz : Nat) (s : Img) (hk : s.k < 2 ^ 16) (tail : Bytes) :
    decode c tsz wsz (encode c tsz wsz s ++ tail) =
      decodeBody tsz wsz s.k s.body.isEmpty s.body.isSingle s.reverse (encodeBody tsz wsz s.body ++ tail) := by
  obtain ⟨h1, h2, h3, h4, h5, _⟩ := hc
  obtain ⟨f1, f2, f3, f4⟩ := flags_ok c h5 s.body.isEmpty s.body.isSingle s.reverse
  have hp : (if s.body.isEmpty || s.body.isSingle then c.preSingle else c.preMulti) < 256 := by
    split <;> assumption
  simp only [encode, decode, List.append_assoc]
  rw [bind_u8 _ hp, bind_u8 _ h3, bind_u8 _ h4, bind_guard _ (beq_self_eq_true _), bind_guard _ (beq_self_eq_true _),
    bind_u16 _ hk, bind_u8 _ f1, f2, f3, f4, bind_guard _ (beq_self_eq_true _), bind_skip]

theorem length_encodeCent (tsz wsz : Nat) (p : Nat × Nat) : (encodeCent tsz wsz p).length = tsz + wsz := by
  simp only [encodeCent, List.length_append, length_wLe]

theorem cent_sized (tsz wsz : Nat) :
    Sized (cent tsz wsz) 0 (fun _ => tsz + wsz) (fun p => p.1 < 256 ^ tsz ∧ p.2 < 256 ^ wsz) :=
  Sized_bind (Sized_leNat tsz) fun _ hm => Sized_bind (Sized_leNat wsz) fun _ hw => Sized_pure _ (by rw [Nat.zero_add]) ⟨hm, hw⟩

theorem decodeBody_sized (tsz wsz k : Nat) (hk : k < 2 ^ 16) (e s r : Bool) :
    Sized (decodeBody tsz wsz k e s r) 8 (serializedSize tsz wsz) (WF tsz wsz) := by
  unfold decodeBody
  exact Post_ite _ (Sized_pure _ rfl ⟨hk, trivial⟩) (Post_ite _
    (Sized_bind (Sized_leNat tsz) fun _ hv => Sized_pure _ rfl ⟨hk, hv⟩)
    (Sized_bind (Sized_leNat 4) fun _ hnc => Sized_bind (Sized_leNat 4) fun _ hnb =>
     Sized_bind (Sized_leNat tsz) fun _ hmn => Sized_bind (Sized_leNat tsz) fun _ hmx =>
     Sized_bind (Sized_repeatN (cent_sized tsz wsz) _) fun _ hc =>
     Sized_bind (Sized_repeatN (Sized_leNat tsz) _) fun _ hb =>
     Sized_pure _ (by simp +arith only [serializedSize, hc.1, hb.1])
       ⟨hk, hmn, hmx, by rw [hc.1]; exact hnc, by rw [hb.1]; exact hnb, hc.2, hb.2⟩))

theorem decode_sized (c : Consts) (tsz wsz : Nat) :
    Sized (decode c tsz wsz) 0 (serializedSize tsz wsz) (WF tsz wsz) :=
  Sized_bind (Sized_leNat 1) fun _ _ => Sized_bind (Sized_leNat 1) fun _ _ => Sized_bind (Sized_leNat 1) fun _ _ =>
  Post_guard fun _ => Post_guard fun _ => Sized_bind (Sized_leNat 2) fun _ hk =>
  Sized_bind (Sized_leNat 1) fun _ _ => Post_guard fun _ => Sized_bind (Sized_skip 2) fun _ _ =>
  decodeBody_sized _ _ _ hk _ _ _

/-- big-endian is little-endian of the reversed bytes -/
theorem leNat_reverse : ∀ bs r : Bytes, leNat bs.length (bs ++ r) = some (beVal bs.reverse, r)
  | [], _ => rfl
  | x :: t, r => by
    rw [List.length_cons, leNat, List.cons_append, bind_ok (rfl : byte (_ :: _) = _), bind_ok (leNat_reverse t r),
      List.reverse_cons, beVal, beVal, List.foldl_append, Reader.pure, Nat.add_comm, Nat.mul_comm]
    rfl

theorem beVal_lt (bs : Bytes) : beVal bs < 256 ^ bs.length := by
  have := ((Sized_leNat _).consumed (leNat_reverse bs.reverse [])).2
  rwa [List.reverse_reverse, List.length_reverse] at this

theorem length_wBe (n x : Nat) : (wBe n x).length = n := by rw [wBe, List.length_reverse, length_wLe]

theorem beVal_wBe (n x : Nat) (h : x < 256 ^ n) : beVal (wBe n x) = x := by
  have := leNat_reverse (wLe n x) []
  rw [length_wLe, leNat_wLe n x h] at this
  exact (Prod.mk.inj (Option.some.inj this)).1.symm

theorem bind_beNat {β : Type} (n x : Nat) (hx : x < 256 ^ n) (f : Nat → Reader β) (r : Bytes) :
    Reader.bind (beNat n) f (wBe n x ++ r) = f x r := by
  rw [beNat, bind_assoc, bind_bytesN _ _ (length_wBe n x), bind_pure, beVal_wBe n x hx]

theorem Sized_beNat (n : Nat) : Sized (beNat n) 0 (fun _ => n) (fun x => x < 256 ^ n) :=
  Sized_bind (Sized_bytesN n) fun bs hbs => Sized_pure _ (by omega) (by rw [← hbs]; exact beVal_lt bs)

theorem pairBe_enc (n : Nat) (p : Nat × Nat) (h : p.1 < 256 ^ n ∧ p.2 < 256 ^ n) (t : Bytes) :
    pairBe n (encodePairBe n p ++ t) = some (p, t) := by
  rw [pairBe, encodePairBe, List.append_assoc, bind_beNat _ _ h.1, bind_beNat _ _ h.2]
  rfl

theorem pairBe_sized (n : Nat) : Sized (pairBe n) 0 (fun _ => n + n) (fun p => p.1 < 256 ^ n ∧ p.2 < 256 ^ n) :=
  Sized_bind (Sized_beNat n) fun _ ha => Sized_bind (Sized_beNat n) fun _ hb => Sized_pure _ (by rw [Nat.zero_add]) ⟨ha, hb⟩

theorem length_encodePairBe (n : Nat) (p : Nat × Nat) : (encodePairBe n p).length = n + n := by
  simp only [encodePairBe, List.length_append, length_wBe]

theorem decodeLegacy_header (c : Consts) (ty : Nat) (hty : ty < 256) (rest : Bytes) :
    decodeLegacy c (wZeros 3 ++ (w8 ty ++ rest)) = decodeLegacyBody c ty rest := by
  have z3 : wZeros 3 = w8 0 ++ (w8 0 ++ w8 0) := by decide
  simp only [decodeLegacy, z3, List.append_assoc]
  rw [bind_u8 _ (by decide), bind_u8 _ (by decide), bind_u8 _ (by decide), bind_guard _ (by decide), bind_u8 _ hty]

theorem decodeLegacyBody_sized (c : Consts) (ty : Nat) : Sized (decodeLegacyBody c ty) 4 legacySize WFLegacy := by
  unfold decodeLegacyBody
  exact Post_ite _
    (Sized_bind (Sized_beNat 8) fun _ hmn => Sized_bind (Sized_beNat 8) fun _ hmx =>
     Sized_bind (Sized_beNat 8) fun _ hcomp => Sized_bind (Sized_beNat 4) fun _ hnc =>
     Sized_bind (Sized_repeatN (pairBe_sized 8) _) fun _ hc =>
     Sized_pure _ (by simp +arith only [legacySize, hc.1]) ⟨hmn, hmx, hcomp, by rw [hc.1]; exact hnc, hc.2⟩)
    (Post_ite _
      (Sized_bind (Sized_beNat 8) fun _ hmn => Sized_bind (Sized_beNat 8) fun _ hmx =>
       Sized_bind (Sized_beNat 4) fun _ hcomp => Sized_bind (Sized_beNat 2) fun _ h1 =>
       Sized_bind (Sized_beNat 2) fun _ h2 => Sized_bind (Sized_beNat 2) fun _ hnc =>
       Sized_bind (Sized_repeatN (pairBe_sized 4) _) fun _ hc =>
       Sized_pure _ (by simp +arith only [legacySize, hc.1])
         ⟨hmn, hmx, hcomp, h1, h2, by rw [hc.1]; exact hnc, hc.2⟩)
      Post_fail)

theorem decodeLegacy_sized (c : Consts) : Sized (decodeLegacy c) 0 legacySize WFLegacy :=
  Sized_bind (Sized_leNat 1) fun _ _ => Sized_bind (Sized_leNat 1) fun _ _ => Sized_bind (Sized_leNat 1) fun _ _ =>
  Post_guard fun _ => Sized_bind (Sized_leNat 1) fun _ _ => decodeLegacyBody_sized c _

end DS.Wire.TDigest
