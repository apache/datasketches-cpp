/- `Spec P ar W X t`: every leaf of the choice tree `t` satisfies `P`, every path consumes exactly the arity sequence `ar`, and the
sum of `W` over all leaves is `∏ ar * X`.  Also here: `wSketch` and `LevelsShape` of the C07/C08 statements, `SortOK`, and the
specs of `ripple` and `carryFrom`. -/
import DSModel.Quantiles.History
import DSProofs.Lemmas.QuantilesBasic
namespace DS.Quantiles

open Tree

variable {α β γ : Type}

structure Spec (P : β → Prop) (ar : List Nat) (W : β → Nat) (X : Nat) (t : Tree β) : Prop where
  all : t.All P
  uni : t.Uniform ar
  sum : t.sum W = prodAr ar * X

theorem Spec.done {P : β → Prop} {W : β → Nat} {X : Nat} {b : β} (hP : P b) (hX : W b = X) :
    Spec P [] W X (Tree.done b) :=
  ⟨hP, trivial, by simp [Tree.sum, hX]⟩

theorem Spec.weaken {P Q : β → Prop} {ar : List Nat} {W : β → Nat} {X : Nat} {t : Tree β}
    (h : Spec P ar W X t) (hpq : ∀ b, P b → Q b) : Spec Q ar W X t :=
  ⟨h.all.mono hpq, h.uni, h.sum⟩

theorem Spec.congr {P : β → Prop} {ar ar' : List Nat} {W : β → Nat} {X X' : Nat} {t : Tree β}
    (h : Spec P ar W X t) (har : ar = ar') (hX : X = X') : Spec P ar' W X' t := by
  subst har; subst hX; exact h

theorem Spec.bind {P : β → Prop} {Q : γ → Prop} {a1 a2 : List Nat} {V : β → Nat} {W : γ → Nat} {X : Nat}
    {t : Tree β} {f : β → Tree γ} (h : Spec P a1 V X t) (hf : ∀ b, P b → Spec Q a2 W (V b) (f b)) :
    Spec Q (a1 ++ a2) W X (t.bind f) := by
  refine ⟨h.all.bind (fun b hb => (hf b hb).all), h.uni.bind h.all (fun b hb => (hf b hb).uni), ?_⟩
  rw [Tree.sum_bind, Tree.sum_congr_all h.all (g := fun b => prodAr a2 * V b) (fun b hb => (hf b hb).sum),
    Tree.sum_mul, h.sum, prodAr_append]
  simp only [Nat.mul_assoc, Nat.mul_left_comm]

theorem Spec.map {P : β → Prop} {Q : γ → Prop} {ar : List Nat} {V : β → Nat} {W : γ → Nat} {X : Nat}
    {t : Tree β} {g : β → γ} (h : Spec P ar V X t) (hg : ∀ b, P b → Q (g b) ∧ W (g b) = V b) :
    Spec Q ar W X (t.map g) := by
  have := Spec.bind (Q := Q) (a2 := []) (W := W) (f := fun b => Tree.done (g b)) h
    (fun b hb => Spec.done (hg b hb).1 (hg b hb).2)
  simpa [Tree.map] using this

theorem Spec.choose {P : β → Prop} {a : Nat} {ar : List Nat} {W : β → Nat} {X : Nat → Nat} {Xtot : Nat}
    {k : Nat → Tree β} (ha : 0 < a) (h : ∀ c, c < a → Spec P ar W (X c) (k c))
    (hX : Tree.sumRange a X = a * Xtot) : Spec P (a :: ar) W Xtot (Tree.choose a k) := by
  refine ⟨⟨ha, fun c hc => (h c hc).all⟩, ⟨rfl, ha, fun c hc => (h c hc).uni⟩, ?_⟩
  simp only [Tree.sum]
  rw [Tree.sumRange_congr (g := fun c => prodAr ar * X c) (fun c hc => (h c hc).sum), Tree.sumRange_mul, hX, prodAr_cons]
  simp only [Nat.mul_assoc, Nat.mul_left_comm]

theorem Spec.add_const {P : β → Prop} {ar : List Nat} {W : β → Nat} {X : Nat} {t : Tree β}
    (h : Spec P ar W X t) (a : Nat) : Spec P ar (fun b => a + W b) (a + X) t := by
  refine ⟨h.all, h.uni, ?_⟩
  rw [Tree.sum_add, Tree.sum_const, h.uni.leafCount, h.sum, Nat.mul_add]

theorem Spec.add {P : β → Prop} {ar : List Nat} {W1 W2 : β → Nat} {X1 X2 : Nat} {t : Tree β}
    (h1 : Spec P ar W1 X1 t) (h2 : Spec P ar W2 X2 t) : Spec P ar (fun b => W1 b + W2 b) (X1 + X2) t :=
  ⟨h1.all, h1.uni, by rw [Tree.sum_add, h1.sum, h2.sum, Nat.mul_add]⟩

theorem Spec.const {P : β → Prop} {ar : List Nat} {W : β → Nat} {X : Nat} {t : Tree β}
    (h : Spec P ar W X t) (a : Nat) : Spec P ar (fun _ => a) a t :=
  ⟨h.all, h.uni, by rw [Tree.sum_const, h.uni.leafCount]⟩

theorem Spec.ite {P : β → Prop} {ar : List Nat} {W W' : β → Nat} {X X' : Nat} {t : Tree β} {c : Prop} [Decidable c]
    (h : Spec P ar W X t) (h' : Spec P ar W' X' t) : Spec P ar (fun b => if c then W b else W' b) (if c then X else X') t := by
  by_cases hc : c
  · simpa only [if_pos hc] using h
  · simpa only [if_neg hc] using h'

/-- `zip_buffer_with_stride`: what a uniform offset `o < s` keeps goes on with `s` times the weight `w`; over all offsets every
item of `buf` is counted `s` times -/
theorem Spec.stride {P : β → Prop} {ar : List Nat} {V : β → Nat} {k : Nat → Tree β} (p : α → Bool) (buf : List α)
    {s : Nat} (hs : 0 < s) (w Y : Nat) (h : ∀ o, o < s → Spec P ar V (s * w * (strided s o buf).countP p + Y) (k o)) :
    Spec P (s :: ar) V (w * buf.countP p + Y) (Tree.choose s k) := by
  refine Spec.choose hs h ?_
  rw [Tree.sumRange_add, Tree.sumRange_const, Tree.sumRange_mul, strided_countP_sum p s hs buf, Nat.mul_add, Nat.mul_assoc]

/-- `zip_buffer`: a fair coin keeps the even or the odd positions -/
theorem Spec.coin {P : β → Prop} {ar : List Nat} {V : β → Nat} {k : Nat → Tree β} (p : α → Bool) (buf : List α)
    (w Y : Nat) (h : ∀ c, c < 2 → Spec P ar V (2 * w * (strided 2 c buf).countP p + Y) (k c)) :
    Spec P (2 :: ar) V (w * buf.countP p + Y) (Tree.choose 2 k) :=
  Spec.stride p buf Nat.two_pos w Y h

/-- Σ over the levels of weight * #(items satisfying `p`), the first level having weight `W`, doubling upwards -/
def wLevels (p : α → Bool) : Nat → List (List α) → Nat
  | _, [] => 0
  | W, l :: r => W * l.countP p + wLevels p (2 * W) r

/-- total weight of the retained items satisfying `p`: base buffer items weigh 1, items of level `i` weigh `2^(i+1)` -/
def wSketch (p : α → Bool) (s : Sketch α) : Nat := s.bb.countP p + wLevels p 2 s.levels

theorem wLevels_append_replicate_nil (p : α → Bool) (W : Nat) (lv : List (List α)) (m : Nat) :
    wLevels p W (lv ++ List.replicate m []) = wLevels p W lv := by
  induction lv generalizing W with
  | nil =>
    induction m generalizing W with
    | zero => rfl
    | succ m ih => simpa [List.replicate_succ, wLevels] using ih (2 * W)
  | cons l r ih => simp [wLevels, ih]

/-- closure properties of a "sortedness" predicate `S` on buffers: instantiated with `Sorted lt` (for a strict weak order) and
with `fun _ => True` (so that the counting theorems need nothing about the comparator) -/
structure SortOK (lt : α → α → Bool) (S : List α → Prop) : Prop where
  nil : S []
  single : ∀ x, S [x]
  sort : ∀ l, S (sortBuf lt l)
  merge : ∀ a b, S a → S b → S (merge2 lt a b)
  strided : ∀ s o l, S l → S (strided s o l)

theorem sortOK_true (lt : α → α → Bool) : SortOK lt (fun _ => True) :=
  ⟨trivial, fun _ => trivial, fun _ => trivial, fun _ _ _ _ => trivial, fun _ _ _ _ => trivial⟩

theorem sortOK_sorted {lt : α → α → Bool} (h : SWO lt) : SortOK lt (Sorted lt) :=
  ⟨sorted_nil lt, fun _ => List.pairwise_singleton _ _, sorted_sortBuf h, fun _ _ ha hb => sorted_merge2 h ha hb,
   fun s o _ hl => sorted_strided hl s o⟩

/-- level `i` holds `k` items if bit `i` of the pattern is set and none otherwise; no bits beyond the vector -/
def LevelsShape (S : List α → Prop) (k : Nat) : List (List α) → Nat → Prop
  | [], b => b = 0
  | l :: rest, b => l.length = (if b % 2 = 1 then k else 0) ∧ S l ∧ LevelsShape S k rest (b / 2)

theorem LevelsShape.lt_two_pow {S : List α → Prop} {k : Nat} :
    ∀ {lv : List (List α)} {b : Nat}, LevelsShape S k lv b → b < 2 ^ lv.length := by
  intro lv b h
  fun_induction LevelsShape S k lv b with
  | case1 b => exact h ▸ Nat.one_pos
  | case2 l r b ih => exact (Nat.div_lt_iff_lt_mul Nat.two_pos).mp (ih h.2.2)

theorem LevelsShape.append_nil {S : List α → Prop} {k : Nat} (hnil : S []) :
    ∀ {lv : List (List α)} {b : Nat} (m : Nat), LevelsShape S k lv b →
    LevelsShape S k (lv ++ List.replicate m []) b := by
  intro lv
  induction lv with
  | nil =>
    intro b m h
    simp only [LevelsShape] at h; subst h
    induction m with
    | zero => simp [LevelsShape]
    | succ m ih => simpa [List.replicate_succ, LevelsShape, hnil] using ih
  | cons l r ih =>
    intro b m h
    exact ⟨h.1, h.2.1, ih m h.2.2⟩

/-- every level satisfies `S`, which is sortedness in the C07 statements and `fun _ => True` where only counting matters -/
theorem LevelsShape.sorted {S : List α → Prop} {k : Nat} :
    ∀ {lv : List (List α)} {b : Nat}, LevelsShape S k lv b → ∀ l ∈ lv, S l := by
  intro lv b h
  fun_induction LevelsShape S k lv b with
  | case1 b => exact fun _ hl => nomatch hl
  | case2 l0 r b ih => exact List.forall_mem_cons.mpr ⟨h.2.1, ih h.2.2⟩

theorem LevelsShape.head_cases {S : List α → Prop} {k b : Nat} {l : List α} {rest : List (List α)}
    (h : LevelsShape S k (l :: rest) b) : b % 2 = 1 ∧ l.length = k ∨ ¬ b % 2 = 1 ∧ l = [] := by
  by_cases hb : b % 2 = 1
  · exact .inl ⟨hb, h.1.trans (if_pos hb)⟩
  · exact .inr ⟨hb, List.eq_nil_of_length_eq_zero (h.1.trans (if_neg hb))⟩

/-! The level vector is a binary counter; these are the steps of `in_place_propagate_carry` on it. -/

theorem LevelsShape.succ_of_even {S : List α → Prop} {k b : Nat} {l : List α} {rest : List (List α)}
    (hb : ¬ b % 2 = 1) (hl : l.length = k) (hSl : S l) (h : LevelsShape S k rest (b / 2)) :
    LevelsShape S k (l :: rest) (b + 1) :=
  ⟨by rw [(succ_half_of_even hb).1]; exact hl, hSl, (succ_half_of_even hb).2 ▸ h⟩

theorem LevelsShape.succ_of_odd {S : List α → Prop} {k b : Nat} {rest : List (List α)}
    (hb : b % 2 = 1) (hnil : S []) (h : LevelsShape S k rest (b / 2 + 1)) : LevelsShape S k ([] :: rest) (b + 1) :=
  ⟨by rw [(succ_half_of_odd hb).1]; rfl, hnil, (succ_half_of_odd hb).2 ▸ h⟩

theorem LevelsShape.add_two_pow_succ {S : List α → Prop} {k b s : Nat} {l : List α} {rest r : List (List α)}
    (h0 : LevelsShape S k (l :: rest) b) (h : LevelsShape S k r (b / 2 + 2 ^ s)) :
    LevelsShape S k (l :: r) (b + 2 ^ (s + 1)) :=
  ⟨(add_two_pow_succ_half b s).1 ▸ h0.1, h0.2.1, (add_two_pow_succ_half b s).2 ▸ h⟩

section levels
variable (lt : α → α → Bool) (p : α → Bool) (k : Nat) {S : List α → Prop} (hS : SortOK lt S)
include hS

theorem ripple_spec : ∀ (lv : List (List α)) (bits : Nat) (cur : List α) (w : Nat),
    LevelsShape S k lv bits → cur.length = k → S cur → bits + 1 < 2 ^ lv.length →
    Spec (fun lv' => LevelsShape S k lv' (bits + 1) ∧ lv'.length = lv.length) (rippleAr lv.length bits)
      (wLevels p w) (w * cur.countP p + wLevels p w lv) (ripple lt lv bits cur) := by
  intro lv
  induction lv with
  | nil => intro bits cur w _ _ _ hroom; simp at hroom
  | cons l rest ih =>
    intro bits cur w hsh hcur hScur hroom
    rcases hsh.head_cases with ⟨hodd, hl⟩ | ⟨heven, rfl⟩
    · rw [ripple, if_pos hodd, List.length_cons, rippleAr, if_pos hodd]
      have hm : (merge2 lt l cur).length = 2 * k := by rw [merge2_length, hl, hcur, Nat.two_mul]
      refine (Spec.coin p (merge2 lt l cur) w (wLevels p (2 * w) rest) fun c hc => ?_).congr rfl ?_
      · refine Spec.map (ih (bits / 2) (strided 2 c (merge2 lt l cur)) (2 * w) hsh.2.2 (strided_length hm hc)
          (hS.strided _ _ _ (hS.merge _ _ hsh.2.1 hScur)) ((succ_half_of_odd hodd).2 ▸ half_lt_two_pow hroom)) fun r hr => ?_
        exact ⟨⟨.succ_of_odd hodd hS.nil hr.1, congrArg (· + 1) hr.2⟩, by simp [wLevels]⟩
      · rw [merge2_countP, Nat.mul_add, wLevels]
        omega
    · rw [ripple, if_neg heven, List.length_cons, rippleAr, if_neg heven]
      exact Spec.done ⟨.succ_of_even heven hcur hScur hsh.2.2, rfl⟩ (by simp [wLevels])

theorem carryFrom_spec : ∀ (start : Nat) (lv : List (List α)) (bits : Nat) (cur : List α) (w : Nat),
    LevelsShape S k lv bits → cur.length = k → S cur → bits + 2 ^ start < 2 ^ lv.length →
    Spec (fun lv' => LevelsShape S k lv' (bits + 2 ^ start) ∧ lv'.length = lv.length)
      (rippleAr (lv.length - start) (bits / 2 ^ start))
      (wLevels p w) (2 ^ start * w * cur.countP p + wLevels p w lv) (carryFrom lt start lv bits cur) := by
  intro start
  induction start with
  | zero =>
    intro lv bits cur w hsh hcur hScur hroom
    simpa [carryFrom] using ripple_spec lt p k hS lv bits cur w hsh hcur hScur (by simpa using hroom)
  | succ s ih =>
    intro lv bits cur w hsh hcur hScur hroom
    cases lv with
    | nil => exact absurd hroom (by simp)
    | cons l rest =>
      rw [carryFrom, List.length_cons]
      have h := (ih rest (bits / 2) cur (2 * w) hsh.2.2 hcur hScur ((add_two_pow_succ_half bits s).2 ▸ half_lt_two_pow hroom)).add_const (w * l.countP p)
      refine (Spec.map h fun r hr => ⟨⟨hsh.add_two_pow_succ hr.1, congrArg (· + 1) hr.2⟩, by simp [wLevels]⟩).congr ?_ ?_
      · rw [Nat.add_sub_add_right, Nat.pow_succ', ← Nat.div_div_eq_div_mul]
      · simp only [wLevels, Nat.pow_succ, Nat.mul_assoc, Nat.add_left_comm]

end levels

end DS.Quantiles
