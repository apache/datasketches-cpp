/- The cover invariant is preserved by every model operation, for the code of the pinned tree and for the repaired code alike (any `fx`).
Where an operation is refused the world is returned as it was and `gstep` computes to the old ghost, so `exact hi` closes the case. -/
import DSProofs.Lemmas.BloomLocal
import DSProofs.Lemmas.BloomParse
namespace DS.Bloom

variable {ι : Type} (P : Params) (fx : Fix) (hf : ι → Nat → Option (Nat × Nat))

/-- every capacity is positive, and a multiple of 64 so that the bit array has no bits beyond the capacity -/
def CapPos (w : World) : Prop := ∀ v f, w.filters v = some f → 0 < f.capBits ∧ f.capBits % 64 = 0

theorem capPos_setFilter {w : World} (hp : CapPos w) (v : Nat) (f : Filter) (hf : 0 < f.capBits ∧ f.capBits % 64 = 0) : CapPos (w.setFilter v f) := by
  intro v' f' h
  simp only [World.setFilter] at h
  by_cases e : v' = v
  · simp [e] at h; rw [← h]; exact hf
  · simp [e] at h; exact hp v' f' h

theorem capPos_setBlock {w : World} (hp : CapPos w) (m : Nat) (b : Block) : CapPos (w.setBlock m b) := hp

theorem capPos_commit {P : Params} {w : World} (hp : CapPos w) (v : Nat) (f : Filter) (hv : w.filters v = some f) (x nbs : Nat) (d : Bool)
    (hdr : Option Nat) : CapPos (commit P w v f x nbs d hdr) := by
  unfold commit
  cases f.ref with
  | owned b => exact capPos_setFilter hp _ _ (hp v f hv)
  | mem m => exact capPos_setFilter (capPos_setBlock hp _ _) _ _ (hp v f hv)

def Inv (w : World) (g : Ghost ι) : Prop := Cover P hf w g ∧ CapPos w

theorem covers_under_key (w : World) (g : Ghost ι) (hi : Inv P hf w g) (key : Key) (c : Cfg) :
    Covers hf (keyVal w key) (keyOff P key) c (g.under key c) := by
  unfold Ghost.under
  by_cases e : g.C key = c
  · rw [if_pos e]; exact e ▸ hi.1 key
  · rw [if_neg e]; exact Covers.nil

theorem covers_under_of_inv (w : World) (g : Ghost ι) (hi : Inv P hf w g) (v : Nat) (f : Filter) (hv : w.filters v = some f) (c : Cfg) :
    Covers hf (w.val f) (f.off P) c (g.under (keyOf v f) c) := by
  rw [val_eq_keyVal w v f hv, off_eq_keyOff P v f]; exact covers_under_key P hf w g hi _ c

/-- `b`: the filter still agrees with its memory -/
theorem inv_insert (hP : P.Layout) (w : World) (g : Ghost ι) (hi : Inv P hf w g) (v : Nat) (f : Filter) (hv : w.filters v = some f)
    (x : ι) (h : Nat × Nat) (hh : hf x f.seed = some h) (nbs : Nat) (d : Bool) (hdr : Option Nat) (b : Bool) :
    Inv P hf (commit P w v f (setBits (w.val f) (f.off P) (indices h.1 h.2 f.capBits f.numHashes)) nbs d hdr)
      (g.set (keyOf v f) f.cfg (if b then x :: g.under (keyOf v f) f.cfg else [])) := by
  have hcap : 0 < f.capBits := (hi.2 v f hv).1
  refine ⟨cover_commit hP hi.1 hv ?_ hcap nbs d hdr, capPos_commit hi.2 v f hv _ _ _ _⟩
  cases b
  · exact Covers.nil
  · exact Covers.cons_setBits (covers_under_of_inv P hf w g hi v f hv f.cfg) hcap hh

theorem inv_empty : Inv P hf World.empty (Ghost.empty : Ghost ι) :=
  ⟨fun _ => Covers.nil, fun _ _ h => nomatch h⟩

variable [DecidableEq ι]

theorem inv_new (w : World) (g : Ghost ι) (hi : Inv P hf w g) (v nb nh seed : Nat) :
    Inv P hf (opNew P w v nb nh seed).1 (gstep P hf g w (opNew P w v nb nh seed).1 (opNew P w v nb nh seed).2 (.new v nb nh seed)) := by
  unfold opNew
  by_cases hb : badSize P nb nh = true
  · rw [if_pos hb]; exact hi
  · rw [if_neg hb]
    exact ⟨cover_set hi.1 _ _ _ (fun key hk => keyVal_setFilter_ne_own hk) Covers.nil,
      capPos_setFilter hi.2 _ _ (roundUp64_pos _ (not_badSize (Bool.eq_false_iff.mpr hb)).2.1)⟩

theorem inv_blk (w : World) (g : Ghost ι) (hi : Inv P hf w g) (m len val : Nat) :
    Inv P hf (opBlk w m len val).1 (gstep P hf g w (opBlk w m len val).1 (opBlk w m len val).2 (.blk m len val)) := by
  unfold opBlk
  cases w.blocks m with
  | some b => exact hi
  | none => exact ⟨cover_set hi.1 _ _ _ (fun key hk => keyVal_setBlock_ne_mem hk) Covers.nil, capPos_setBlock hi.2 _ _⟩

theorem inv_init (w : World) (g : Ghost ι) (hi : Inv P hf w g) (v m nb nh seed : Nat) :
    Inv P hf (opInit P w v m nb nh seed).1 (gstep P hf g w (opInit P w v m nb nh seed).1 (opInit P w v m nb nh seed).2 (.init v m nb nh seed)) := by
  unfold opInit
  by_cases hb : badSize P nb nh = true
  · rw [if_pos hb]; exact hi
  rw [if_neg hb]
  by_cases hl : w.blockLen m < serializedSize P (roundUp64 nb)
  · simp only [if_pos hl]; exact hi
  · simp only [if_neg hl]
    exact ⟨cover_set (cover_set hi.1 _ _ _ (fun key hk => keyVal_setBlock_ne_mem hk) Covers.nil) _ _ _
        (fun key hk => keyVal_setFilter_ne_own hk) Covers.nil,
      capPos_setFilter (capPos_setBlock hi.2 _ _) _ _ (roundUp64_pos _ (not_badSize (Bool.eq_false_iff.mpr hb)).2.1)⟩

theorem inv_upd (hP : P.Layout) (w : World) (g : Ghost ι) (hi : Inv P hf w g) (v : Nat) (x : ι) :
    Inv P hf (step P fx hf w (.upd v x)).1 (gstep P hf g w (step P fx hf w (.upd v x)).1 (step P fx hf w (.upd v x)).2 (.upd v x)) := by
  unfold gstep; simp only [step, opUpdate, hashFor]
  cases hv : w.filters v with
  | none => exact hi
  | some f =>
    simp only []
    cases hh : hf x f.seed with
    | none => simp only [Option.isNone_none, Bool.or_true, if_true]; exact hi
    | some h =>
      cases hro : f.readOnly with
      | true => exact hi
      | false => exact inv_insert P hf hP w g hi v f hv x h hh _ _ _ _

theorem inv_qau (hP : P.Layout) (w : World) (g : Ghost ι) (hi : Inv P hf w g) (v : Nat) (x : ι) :
    Inv P hf (step P fx hf w (.qau v x)).1 (gstep P hf g w (step P fx hf w (.qau v x)).1 (step P fx hf w (.qau v x)).2 (.qau v x)) := by
  unfold gstep; simp only [step, hashFor]
  cases hv : w.filters v with
  | none => simp only [opQau, hv]; exact hi
  | some f =>
    simp only []
    cases hh : hf x f.seed with
    | none => simp only [opQau, hv, Option.isNone_none, Bool.or_true, if_true]; exact hi
    | some h =>
      cases hro : f.readOnly with
      | true => simp only [opQau, hv, hro, Bool.true_or, if_true]; exact hi
      | false =>
        simp only [opQau_eq P fx w v f hv hro h, Option.isNone_some, Bool.or_self, Bool.false_eq_true, if_false]
        by_cases hk : f.numHashes = 0
        · -- world unchanged; the recorded item has no index bits at all
          rw [if_pos hk]
          exact ⟨cover_set hi.1 _ _ _ (fun _ _ => rfl) (covers_of_k0 hf _ _ _ _ hk), hi.2⟩
        · rw [if_neg hk]
          split <;> exact inv_insert P hf hP w g hi v f hv x h hh _ _ _ _

theorem inv_bits (w : World) (g : Ghost ι) (hi : Inv P hf w g) (v : Nat) :
    Inv P hf (opBitsUsed P w v).1 (gstep P hf g w (opBitsUsed P w v).1 (opBitsUsed P w v).2 (.bits v)) := by
  unfold opBitsUsed
  cases hv : w.filters v with
  | none => exact hi
  | some f =>
    simp only []
    cases hd : f.dirty with
    | false => exact hi
    | true => exact ⟨cover_frame hi.1 (keyVal_setFilter_sameRef hv _ rfl), capPos_setFilter hi.2 _ _ (hi.2 v f hv)⟩

theorem inv_reset (w : World) (g : Ghost ι) (hi : Inv P hf w g) (v : Nat) :
    Inv P hf (opReset P w v).1 (gstep P hf g w (opReset P w v).1 (opReset P w v).2 (.reset v)) := by
  cases hv : w.filters v with
  | none => unfold gstep; simp only [opReset, hv]; exact hi
  | some f =>
    by_cases hro : f.readOnly = true
    · unfold gstep; simp [opReset, hv, hro]; exact hi
    · have hro' : f.readOnly = false := by simpa using hro
      unfold gstep; simp only [opReset, hv, hro', Bool.false_eq_true, if_false, if_true]
      exact ⟨cover_set hi.1 _ _ _ (fun key hk => keyVal_commit_ne P w v f _ _ _ _ hv key hk) Covers.nil,
             capPos_commit hi.2 v f hv _ _ _ _⟩

theorem inv_setop (hP : P.Layout) (w : World) (g : Ghost ι) (hi : Inv P hf w g) (op : SetOp) (v u : Nat) :
    Inv P hf (opSet P fx w op v u).1 (gstep P hf g w (opSet P fx w op v u).1 (opSet P fx w op v u).2 (.setop op v u)) := by
  cases hv : w.filters v with
  | none => unfold gstep; simp only [opSet, hv]; exact hi
  | some f =>
    cases hu : w.filters u with
    | none => unfold gstep; simp only [opSet, hv, hu]; exact hi
    | some g' =>
      rw [opSet_eq P fx w op v u f g' hv hu]
      have hidle : Inv P hf w (gstep P hf g w w .thrw (.setop op v u)) := by unfold gstep; simp only [hv, hu]; exact hi
      split
      · exact hidle
      split
      · rename_i hcc
        unfold gstep
        simp only [hv, hu]
        have hcap : 0 < f.capBits := (hi.2 v f hv).1
        refine ⟨cover_commit hP hi.1 hv ?_ hcap _ _ _, capPos_commit hi.2 v f hv _ _ _ _⟩
        have hA := (covers_under_of_inv P hf w g hi v f hv f.cfg).sub (seenBy_sub g w v f)
        have hB := covers_under_of_inv P hf w g hi u g' hu f.cfg
        have hbit := fun j hj => setop_bit P w f g' op j hj (hcc.imp id compatible_cap)
        by_cases hag : agrees w f = true
        · simp only [hag, if_true]
          cases op with
          | union => exact Covers.union_bits hA hB hcap hbit
          | inter => exact Covers.inter_bits hA hB hcap hbit
          | invert => exact Covers.nil
        · simp only [hag, Bool.false_eq_true, if_false]; exact Covers.nil
      · exact hidle

theorem inv_copy (w : World) (g : Ghost ι) (hi : Inv P hf w g) (v v' : Nat) :
    Inv P hf (opCopy w v v').1 (gstep P hf g w (opCopy w v v').1 (opCopy w v v').2 (.copy v v')) := by
  unfold gstep opCopy; simp only []
  cases hv : w.filters v with
  | none => exact hi
  | some f =>
    simp only []
    have hcp : CapPos (w.setFilter v' f) := capPos_setFilter hi.2 _ _ (hi.2 v f hv)
    cases hr : f.ref with
    | mem m => exact ⟨cover_set hi.1 _ _ _ (fun key hk => keyVal_setFilter_ne_own hk) Covers.nil, hcp⟩
    | owned b =>
      refine ⟨cover_set hi.1 _ _ _ (fun key hk => keyVal_setFilter_ne_own hk) ?_, hcp⟩
      rw [keyVal_setFilter_own, hr]
      have := covers_under_of_inv P hf w g hi v f hv f.cfg
      simp only [World.val, Filter.off, keyOf, hr] at this
      exact this

theorem inv_ser (hP : P.Layout) (w : World) (g : Ghost ι) (hi : Inv P hf w g) (v m : Nat) :
    Inv P hf (opSer P w v m).1 (gstep P hf g w (opSer P w v m).1 (opSer P w v m).2 (.ser v m)) := by
  unfold gstep opSer; simp only []
  cases hv : w.filters v with
  | none => exact hi
  | some f =>
    cases hm : w.blocks m with
    | some b => exact hi
    | none =>
      simp only []
      refine ⟨cover_set hi.1 _ _ _ (fun key hk => keyVal_setBlock_ne_mem hk) ?_, capPos_setBlock hi.2 _ _⟩
      rw [keyVal_setBlock_mem]
      cases he : f.isEmpty with
      | true => exact Covers.nil
      | false =>
        have hcap : 0 < f.capBits := (hi.2 v f hv).1
        apply ((covers_under_of_inv P hf w g hi v f hv f.cfg).sub (seenBy_sub g w v f)).mono hcap
        intro j hj hb
        rw [show keyOff P (.mem m) = 256 by rw [keyOff, hP.2], image_bit P w f he j hj]; exact hb

theorem gstep_wrap_not_ok (g : Ghost ι) (w w' : World) (out : Out) (h : out ≠ .ok) (k : WrapKind) (m v : Nat) :
    gstep P hf g w w' out (.wrap k m v) = g := by
  unfold gstep; simp only []
  split
  · exact absurd rfl h
  · rfl

theorem inv_wrap (hP : P.Layout) (w : World) (g : Ghost ι) (hi : Inv P hf w g) (k : WrapKind) (m v : Nat) :
    Inv P hf (opWrap P w k m v).1 (gstep P hf g w (opWrap P w k m v).1 (opWrap P w k m v).2 (.wrap k m v)) := by
  have hres := opWrap_result P w k m v
  generalize opWrap P w k m v = r at hres ⊢
  cases hres with
  | thrw | noBlock _ | outside _ _ _ | short _ _ _ _ _ _ _ _ _ _ => rw [gstep_wrap_not_ok P hf g w _ _ (by simp)]; exact hi
  | empty b nb nh seed hm hp hb =>
    have hbv : w.blockVal m = b.val := by simp [World.blockVal, hm]
    unfold gstep; simp only [setFilter_filters_same, mkOwned, hbv, (parseImage_empty_iff.mp hp).2.1, if_true]
    exact ⟨cover_set hi.1 _ _ _ (fun key hk => keyVal_setFilter_ne_own hk) Covers.nil,
      capPos_setFilter hi.2 _ _ (roundUp64_pos _ (not_badSize hb).2.1)⟩
  | deser b cap nh seed nbs nl hm hp hl =>
    have hbv : w.blockVal m = b.val := by simp [World.blockVal, hm]
    obtain ⟨-, hflag, -⟩ := parseImage_full_iff.mp hp
    have hcap2 := cap_of_full hp
    unfold gstep; simp only [setFilter_filters_same, deserFilter, hbv, hflag, Bool.false_eq_true, if_false]
    refine ⟨cover_set hi.1 _ _ _ (fun key hk => keyVal_setFilter_ne_own hk) ?_, capPos_setFilter hi.2 _ _ hcap2⟩
    rw [keyVal_setFilter_own]
    simp only [Filter.cfg]
    -- the copied bits cover what was recorded for the block under this configuration
    apply (covers_under_key P hf w g hi (.mem m) ⟨cap, nh, seed⟩).mono hcap2.1
    intro j hj hb
    simp only [keyOff, keyVal, hbv, hP.2] at hb
    exact (deser_bit hp j hj).trans hb
  | wrap b cap nh seed nbs nl ro hm hp _ _ =>
    unfold gstep; simp only [setFilter_filters_same, wrapFilter]
    exact ⟨cover_set hi.1 _ _ _ (fun key hk => keyVal_setFilter_ne_own hk) Covers.nil,
      capPos_setFilter hi.2 _ _ (cap_of_full hp)⟩

theorem inv_step (hP : P.Layout) (w : World) (g : Ghost ι) (hi : Inv P hf w g) (op : Op ι) :
    Inv P hf (step P fx hf w op).1 (gstep P hf g w (step P fx hf w op).1 (step P fx hf w op).2 op) := by
  cases op with
  | new v nb nh seed => exact inv_new P hf w g hi v _ _ _
  | blk m len val => exact inv_blk P hf w g hi m len val
  | init v m nb nh seed => exact inv_init P hf w g hi v m _ _ _
  | upd v x => exact inv_upd P fx hf hP w g hi v x
  | qau v x => exact inv_qau P fx hf hP w g hi v x
  | bits v => exact inv_bits P hf w g hi v
  | reset v => exact inv_reset P hf w g hi v
  | setop op v u => exact inv_setop P fx hf hP w g hi op v u
  | copy v v' => exact inv_copy P hf w g hi v v'
  | ser v m => exact inv_ser P hf hP w g hi v m
  | wrap k m v => exact inv_wrap P hf hP w g hi k m v

theorem inv_grun (hP : P.Layout) (s : GWorld ι) (hi : Inv P hf s.w s.g) (ops : List (Op ι)) :
    Inv P hf (grun P fx hf s ops).w (grun P fx hf s ops).g := by
  induction ops generalizing s with
  | nil => exact hi
  | cons op t ih =>
    simp only [grun, List.foldl_cons]
    exact ih _ (inv_step P fx hf hP s.w s.g hi op)

end DS.Bloom
