/- C20: the invariant `RInv` of every state reachable through the public API (`run_rinv`). -/
import DSModel.Density.Hist
import DSProofs.Lemmas.Density
namespace DS.Density

variable {α ρ : Type}

/-- what the compaction loop needs of the state it starts from, and keeps (`top`: only claimed for the repaired shape of
`compact()`; `one`: only for the pinned shape, where a compaction always leaves two levels and no level is ever removed) -/
structure Pre (c : Cfg) (s : Sketch α) : Prop where
  inv : Inv s
  kpos : 1 ≤ s.k
  nge : s.numRetained ≤ s.n
  top : c.popsEmptyTop = true → topNonempty s.levels = true
  one : c.popsEmptyTop = false → s.levels.length = 1 → s.numRetained = s.n

structure RInv (c : Cfg) (s : Sketch α) : Prop extends Pre c s where
  bound : s.numRetained ≤ s.k * s.levels.length

theorem init_rinv (c : Cfg) (k d : Nat) (hk : 1 ≤ k) : RInv c (init k d : Sketch α) :=
  ⟨⟨⟨rfl, List.cons_ne_nil _ _⟩, hk, Nat.le_refl _, fun _ => rfl, fun _ _ => rfl⟩, Nat.zero_le _⟩

theorem sumLen_pushLevel0 (p : Point α) (ls : List (Level α)) : sumLen (pushLevel0 p ls) = sumLen ls + 1 := by
  cases ls with
  | nil => rfl
  | cons l r => simp only [pushLevel0, sumLen, List.length_append, List.length_singleton]; omega

theorem length_pushLevel0 (p : Point α) (ls : List (Level α)) (h : ls ≠ []) : (pushLevel0 p ls).length = ls.length := by
  cases ls with
  | nil => exact absurd rfl h
  | cons l r => rfl

theorem pushLevel0_ne (p : Point α) (ls : List (Level α)) : pushLevel0 p ls ≠ [] := by
  cases ls <;> exact List.cons_ne_nil _ _

theorem topNonempty_pushLevel0 (p : Point α) (ls : List (Level α)) (h : topNonempty ls = true) :
    topNonempty (pushLevel0 p ls) = true := by
  cases ls with
  | nil => rfl
  | cons l r => exact h

theorem sumLen_mergeLevels (a b : List (Level α)) : sumLen (mergeLevels a b) = sumLen a + sumLen b := by
  fun_induction mergeLevels a b with
  | case1 a as b bs ih => simp only [sumLen, List.length_append, ih]; omega
  | case2 bs => exact (Nat.zero_add _).symm
  | case3 as => rfl

theorem length_mergeLevels_ge (a b : List (Level α)) :
    a.length ≤ (mergeLevels a b).length ∧ b.length ≤ (mergeLevels a b).length := by
  fun_induction mergeLevels a b with
  | case1 a as b bs ih => exact ⟨Nat.succ_le_succ ih.1, Nat.succ_le_succ ih.2⟩
  | case2 bs => exact ⟨Nat.zero_le _, Nat.le_refl _⟩
  | case3 as => exact ⟨Nat.le_refl _, Nat.zero_le _⟩

theorem mergeLevels_ne (a b : List (Level α)) (h : a ≠ []) : mergeLevels a b ≠ [] := by
  cases a with
  | nil => exact absurd rfl h
  | cons x xs => cases b <;> exact List.cons_ne_nil _ _

theorem lastNonempty_mergeLevels (a b : List (Level α)) (ha : lastNonempty a = true) (hb : lastNonempty b = true) :
    lastNonempty (mergeLevels a b) = true := by
  fun_induction mergeLevels a b with
  | case1 x xs y ys ih =>
    by_cases hm : mergeLevels xs ys = []
    · have hl := length_mergeLevels_ge xs ys
      rw [hm] at hl ⊢
      cases List.eq_nil_of_length_eq_zero (Nat.le_zero.mp hl.1)
      rw [lastNonempty_singleton] at ha ⊢
      simp [ha]
    · rw [lastNonempty_cons _ hm]
      exact ih (lastNonempty_tail ha) (lastNonempty_tail hb)
  | case2 bs => exact hb
  | case3 as => exact ha

theorem topNonempty_mergeLevels (a b : List (Level α)) (ha : topNonempty a = true) (hb : topNonempty b = true) :
    topNonempty (mergeLevels a b) = true := by
  fun_induction mergeLevels a b with
  | case1 x xs y ys => exact lastNonempty_mergeLevels xs ys ha hb
  | case2 bs => exact hb
  | case3 as => exact ha

theorem compactLoop_length_ge (c : Cfg) (hp : c.popsEmptyTop = false) (P : Picker ρ α) (r : ρ) (s : Sketch α) :
    s.levels.length ≤ (compactLoop c P r s).1.levels.length := (compactLoop_compacted c P r s).len hp

theorem compactLoop_lt (c : Cfg) (P : Picker ρ α) (r : ρ) {s : Sketch α} (hi : Inv s) (hk : 1 ≤ s.k) :
    (compactLoop c P r s).1.numRetained < (compactLoop c P r s).1.k * (compactLoop c P r s).1.levels.length :=
  Nat.not_le.mp (of_decide_eq_false (compactLoop_exits c P r hi hk))

theorem compactLoop_noop (c : Cfg) (P : Picker ρ α) (r : ρ) {s : Sketch α} (hs : Pre c s)
    (h1 : (compactLoop c P r s).1.levels.length = 1)
    (hn : (compactLoop c P r s).1.numRetained = (compactLoop c P r s).1.n) : compactLoop c P r s = (s, r) := by
  have := hs.nge
  rw [(compactLoop_compacted c P r s).n] at hn
  rcases compactLoop_cases c P r hs.inv hs.kpos hs.top with h | h | h
  · exact h
  · omega
  · omega

theorem compactLoop_rinv (c : Cfg) (P : Picker ρ α) (r : ρ) {s : Sketch α} (hs : Pre c s) : RInv c (compactLoop c P r s).1 :=
  have h := compactLoop_compacted c P r s
  ⟨⟨h.inv hs.inv, h.k ▸ hs.kpos, h.n ▸ Nat.le_trans h.le hs.nge, fun hp => h.top hp (hs.top hp), fun hp h1 => by
     rcases compactLoop_cases c P r hs.inv hs.kpos hs.top with he | h2 | h3
     · rw [he] at h1 ⊢
       exact hs.one hp h1
     · omega
     · exact absurd (hp ▸ h3.1) Bool.false_ne_true⟩,
   Nat.le_of_lt (compactLoop_lt c P r hs.inv hs.kpos)⟩

theorem update_refused (c : Cfg) (P : Picker ρ α) (r : ρ) (s : Sketch α) (p : Point α) (h : p.length ≠ s.dim) :
    update c P r s p = (s, r) := by simp [update, h]

theorem update_accepted (c : Cfg) (P : Picker ρ α) (r : ρ) (s : Sketch α) (p : Point α) (h : p.length = s.dim) :
    update c P r s p =
      ({ (compactLoop c P r s).1 with levels := pushLevel0 p (compactLoop c P r s).1.levels,
                                       numRetained := (compactLoop c P r s).1.numRetained + 1,
                                       n := (compactLoop c P r s).1.n + 1 }, (compactLoop c P r s).2) := by
  simp [update, h]

theorem update_rinv (c : Cfg) (P : Picker ρ α) (r : ρ) {s : Sketch α} (hs : RInv c s) (p : Point α) :
    RInv c (update c P r s p).1 := by
  by_cases h : p.length = s.dim
  · rw [update_accepted c P r s p h]
    have hc := compactLoop_rinv c P r hs.toPre
    have hlt := compactLoop_lt c P r hs.inv hs.kpos
    generalize compactLoop c P r s = x at hc hlt ⊢
    have hlen := length_pushLevel0 p _ hc.inv.ne
    have hcnt := hc.inv.cnt
    have hnge := hc.nge
    exact ⟨⟨⟨by simp only [sumLen_pushLevel0]; omega, pushLevel0_ne _ _⟩, hc.kpos, by simp only; omega,
      fun hp => topNonempty_pushLevel0 _ _ (hc.top hp), fun hp h1 => by have := hc.one hp (hlen ▸ h1); simp only; omega⟩,
      by simp only [hlen]; omega⟩
  · rw [update_refused c P r s p h]; exact hs

theorem update_dim (c : Cfg) (P : Picker ρ α) (r : ρ) (s : Sketch α) (p : Point α) : (update c P r s p).1.dim = s.dim := by
  unfold update
  split
  · rfl
  · exact (compactLoop_compacted c P r s).dim

theorem update_n (c : Cfg) (P : Picker ρ α) (r : ρ) (s : Sketch α) (p : Point α) (h : p.length = s.dim) :
    (update c P r s p).1.n = s.n + 1 := by
  rw [update_accepted c P r s p h]; exact congrArg (· + 1) (compactLoop_compacted c P r s).n

/-- the state handed to the loop by an accepted merge -/
def merged (s o : Sketch α) : Sketch α :=
  { s with levels := mergeLevels s.levels o.levels, numRetained := s.numRetained + o.numRetained, n := s.n + o.n }

theorem merge_skipped (c : Cfg) (P : Picker ρ α) (r : ρ) (s o : Sketch α) (h : mergeSkips c o = true) :
    merge c P r s o = (s, r) := by
  simp [merge, h]
theorem merge_refused (c : Cfg) (P : Picker ρ α) (r : ρ) (s o : Sketch α) (h : o.dim ≠ s.dim) : merge c P r s o = (s, r) := by
  simp [merge, h]
theorem merge_accepted (c : Cfg) (P : Picker ρ α) (r : ρ) (s o : Sketch α) (h0 : mergeSkips c o = false) (hd : o.dim = s.dim) :
    merge c P r s o = compactLoop c P r (merged s o) := by
  simp [merge, h0, hd, merged]

theorem merged_one_level {s o : Sketch α} (hs : Inv s) (ho : Inv o) (h1 : (merged s o).levels.length = 1) :
    s.levels.length = 1 ∧ o.levels.length = 1 := by
  have := length_mergeLevels_ge s.levels o.levels
  have := List.length_pos_iff.mpr hs.ne
  have := List.length_pos_iff.mpr ho.ne
  simp only [merged] at h1
  omega

theorem merged_pre {c : Cfg} {s o : Sketch α} (hs : RInv c s) (ho : RInv c o) : Pre c (merged s o) := by
  have := hs.nge
  have := ho.nge
  refine ⟨⟨?_, mergeLevels_ne _ _ hs.inv.ne⟩, hs.kpos, by simp only [merged]; omega,
    fun hp => topNonempty_mergeLevels _ _ (hs.top hp) (ho.top hp), fun hp h1 => ?_⟩
  · simp only [merged, sumLen_mergeLevels]; rw [hs.inv.cnt, ho.inv.cnt]
  · have ⟨l1, l2⟩ := merged_one_level hs.inv ho.inv h1
    have := hs.one hp l1
    have := ho.one hp l2
    simp only [merged]; omega

theorem merge_rinv (c : Cfg) (P : Picker ρ α) (r : ρ) {s o : Sketch α} (hs : RInv c s) (ho : RInv c o) :
    RInv c (merge c P r s o).1 := by
  by_cases h0 : mergeSkips c o = true
  · rw [merge_skipped c P r s o h0]; exact hs
  · by_cases hd : o.dim = s.dim
    · rw [merge_accepted c P r s o (by simpa using h0) hd]
      exact compactLoop_rinv c P r (merged_pre hs ho)
    · rw [merge_refused c P r s o hd]; exact hs

theorem merge_dim (c : Cfg) (P : Picker ρ α) (r : ρ) (s o : Sketch α) : (merge c P r s o).1.dim = s.dim := by
  unfold merge
  split
  · rfl
  · split
    · rfl
    · exact (compactLoop_compacted c P r _).dim

theorem run_dim (c : Cfg) (P : Picker ρ α) (hist : Hist α) (r : ρ) : (run c P hist r).1.dim = hist.dim := by
  induction hist generalizing r with
  | new k d => rfl
  | upd h p ih => simp only [run, Hist.dim]; rw [update_dim]; exact ih r
  | merge h o ih _ => simp only [run, Hist.dim]; rw [merge_dim]; exact ih r

theorem run_rinv (c : Cfg) (P : Picker ρ α) (minK : Nat) (hm : 1 ≤ minK) (hist : Hist α) (hv : hist.valid minK) (r : ρ) :
    RInv c (run c P hist r).1 := by
  induction hist generalizing r with
  | new k d => exact init_rinv c k d (Nat.le_trans hm hv)
  | upd h p ih => exact update_rinv c P _ (ih hv r) p
  | merge h o ih1 ih2 => exact merge_rinv c P _ (ih1 hv.1 r) (ih2 hv.2 _)

end DS.Density
