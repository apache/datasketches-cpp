/-
The count-min model under the weight laws: the estimate as the row minimum, merge as concatenation of the streams, the round trip;
and what the constructor accepts (`construct_some`, no laws needed).
-/
import DSProofs.Lemmas.CountMinSum
namespace DS.CountMin
set_option linter.unusedSectionVars false

variable {W : Type} [Weight W] [L : WeightLaws W] {ι : Type}
open WeightLaws

theorem minW_eq (a b : W) : minW a b = a ∨ minW a b = b := by
  unfold minW; split <;> simp

theorem minW_le_left (a b : W) : minW a b ≤ʷ a := by
  unfold minW; split
  · rename_i hl; exact le_of_not_le ((lt_iff b a).1 hl)
  · exact le_refl a

theorem minW_le_right (a b : W) : minW a b ≤ʷ b := by
  unfold minW; split
  · exact le_refl b
  · rename_i hl
    exact Classical.not_not.mp (fun hn => hl ((lt_iff b a).2 hn))

theorem foldl_minW_spec : ∀ (vs : List W) (v : W), vs.foldl minW v ∈ v :: vs ∧ ∀ u ∈ v :: vs, vs.foldl minW v ≤ʷ u
  | [], v => ⟨List.mem_singleton_self v, fun u hu => List.mem_singleton.mp hu ▸ le_refl v⟩
  | t :: vs, v => by
    obtain ⟨hm, hle⟩ := foldl_minW_spec vs (minW v t)
    simp only [List.mem_cons, List.foldl_cons, forall_eq_or_imp] at hm hle ⊢
    refine ⟨?_, le_trans hle.1 (minW_le_left v t), le_trans hle.1 (minW_le_right v t), hle.2⟩
    rcases hm with e | e
    · rw [e]; exact (minW_eq v t).imp_right .inl
    · exact .inr (.inr e)

theorem estimate_spec (h : ι → Nat → Nat) (s : St W) (x : ι) (hnh : 0 < s.cfg.numHashes) :
    (∃ r, r < s.cfg.numHashes ∧ estimate h s x = cellAt h s x r) ∧
    ∀ r, r < s.cfg.numHashes → estimate h s x ≤ʷ cellAt h s x r := by
  have hrow : ∀ u, u ∈ rowVals h s x ↔ ∃ r, r < s.cfg.numHashes ∧ cellAt h s x r = u := by simp [rowVals]
  unfold estimate
  cases hl : rowVals h s x with
  | nil => exact absurd ((hrow _).mpr ⟨0, hnh, rfl⟩) (by simp [hl])
  | cons v vs =>
    obtain ⟨hm, hle⟩ := foldl_minW_spec vs v
    rw [← hl] at hm hle
    obtain ⟨r, hr, he⟩ := (hrow _).mp hm
    exact ⟨⟨r, hr, he.symm⟩, fun r hr => hle _ ((hrow _).mpr ⟨r, hr, rfl⟩)⟩

def trueAcc [DecidableEq ι] (x : ι) (v : W) (ops : List (ι × W)) : W :=
  ops.foldl (fun acc o => if o.1 = x then Weight.add acc o.2 else acc) v
def negAcc [DecidableEq ι] (x : ι) (v : W) (ops : List (ι × W)) : W :=
  ops.foldl (fun acc o => if o.1 ≠ x ∧ nonnegW o.2 = false then Weight.add acc (Weight.absw o.2) else acc) v
def posAcc [DecidableEq ι] (x : ι) (v : W) (ops : List (ι × W)) : W :=
  ops.foldl (fun acc o => if o.1 ≠ x ∧ nonnegW o.2 = true then Weight.add acc o.2 else acc) v

theorem trueWeight_eq [DecidableEq ι] (x : ι) (ops : List (ι × W)) : trueWeight x ops = trueAcc x 𝟘 ops := rfl
theorem negOther_eq [DecidableEq ι] (x : ι) (ops : List (ι × W)) : negOther x ops = negAcc x 𝟘 ops := rfl
theorem posOther_eq [DecidableEq ι] (x : ι) (ops : List (ι × W)) : posOther x ops = posAcc x 𝟘 ops := rfl

theorem compatible_iff (a b : Cfg) : compatible a b = true ↔ a = b := by
  cases a; cases b; simp [compatible, and_assoc]

theorem St.ext' {a b : St W} (h1 : a.cfg = b.cfg) (h2 : ∀ i : Nat, a.cells[i]? = b.cells[i]?) (h3 : a.total = b.total) :
    a = b := by
  cases a; cases b
  simp only at h1 h3
  have := Array.ext_getElem? h2
  simp only at this
  subst h1 h3 this; rfl

theorem mergeCore_cells (a b : St W) (i : Nat) :
    (mergeCore a b).cells[i]? = (a.cells[i]?).bind (fun u => (b.cells[i]?).map (fun v => u +ʷ v)) := by
  unfold mergeCore; simp only; rw [Array.getElem?_zipWith]
  cases a.cells[i]? <;> cases b.cells[i]? <;> rfl

theorem mergeCore_run (c : Cfg) (h : ι → Nat → Nat) (hb : 0 < c.numBuckets) (sa sb : List (ι × W)) :
    mergeCore (run c h sa) (run c h sb) = run c h (sa ++ sb) := by
  apply St.ext'
  · simp [mergeCore]
  · intro i
    rw [mergeCore_cells, run_cells c h sa hb, run_cells c h sb hb, run_cells c h _ hb, cellSum_append]
    split <;> rfl
  · show (run c h sa).total +ʷ (run c h sb).total = _
    rw [run_total, run_total, run_total, totalAbs_append]

theorem runFrom_mergeCore_run (c : Cfg) (h : ι → Nat → Nat) (hb : 0 < c.numBuckets) (sa sb more : List (ι × W)) :
    runFrom h (mergeCore (run c h sa) (run c h sb)) more = run c h (sa ++ sb ++ more) := by
  rw [mergeCore_run c h hb]; exact (runFrom_append h _ _ more).symm

theorem eval_eq_run (c : Cfg) (h : ι → Nat → Nat) (hb : 0 < c.numBuckets) :
    ∀ t : MTree ι W, t.eval c h = run c h t.stream
  | .leaf ops => rfl
  | .node l r more => by
    rw [MTree.eval, eval_eq_run c h hb l, eval_eq_run c h hb r, runFrom_mergeCore_run c h hb]; rfl

theorem roundTrip_run (c : Cfg) (h : ι → Nat → Nat) (hb : 0 < c.numBuckets) (ops : List (ι × W)) :
    roundTrip (run c h ops) = run c h ops := by
  unfold roundTrip isEmpty
  split
  · rename_i hz
    rw [isZero_iff, run_total] at hz
    apply St.ext'
    · simp
    · intro i
      rw [run_cfg, run_cells c h ops hb, init_cells, cellSum_of_totalAbs_zero c h i hz]
    · rw [run_cfg, run_total, hz]; rfl
  · rfl

theorem construct_some (p : CtorParams) (nh nb seed : Nat) (s : St W) (hc : construct p nh nb seed = some s)
    (hwide : nh * nb < 2 ^ p.arithBits) :
    s = init ⟨nh, nb, seed⟩ ∧ p.minBuckets ≤ nb ∧ nh * nb < p.maxCells := by
  unfold construct at hc
  split at hc
  · rename_i hok
    unfold ctorOk at hok
    simp only [Bool.and_eq_true, Bool.not_eq_true', decide_eq_false_iff_not, Nat.not_lt, ge_iff_le, Nat.not_le] at hok
    rw [Nat.mul_comm nb nh, Nat.mod_eq_of_lt hwide] at hok
    simp only [Option.some.injEq] at hc
    refine ⟨?_, hok.1, hok.2⟩
    rw [← hc]
    unfold init ctorSize
    simp only [Nat.mod_eq_of_lt hwide, hok.2, if_true]
  · cases hc

end DS.CountMin
