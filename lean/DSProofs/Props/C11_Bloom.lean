/-
C11 (Bloom filter part) — truncated images are rejected; the specification reader is bounded.

ONLY property theorems and non-vacuity examples.  The theorems are about the specification reader
`DS.Wire.Bloom.decode` (built only from the bounded combinators, so it cannot read out of bounds by
construction); the exhaustive-prefix / corruption runs of `./check c11_misc` hold
`bloom_filter::deserialize(bytes)`, `deserialize(istream)`, `wrap` and `writable_wrap` to it under sanitizers.
-/
import DSProofs.Props.C09_Bloom
import DSModel.Wire.BloomGen
namespace DS.Wire.Bloom
open DS.Wire

/-- the reader is prefix-safe: a success consumed exactly k bytes, every shorter prefix fails, every
longer prefix gives the same value -/
theorem decode_PS (c : Consts) : PS (decode c) := (decode_sized c).ps

/-- every strict prefix of a valid image is rejected (a Bloom image has no information-free padding) -/
theorem prefix_rejected (c : Consts) (hc : c.Valid) (s : Img) (hs : WF s) (n : Nat)
    (hn : n < (encode c s).length) : decode c ((encode c s).take n) = none :=
  prefix_rejected' (decode c) (decode_PS c) (encode c s) s (decode_encode c hc s hs) n hn

/-- no count field can make the specification reader produce more than the input holds: a successful
decode of ANY byte string consumed exactly `serializedSize` bytes, so the decoded bit array
(8·num_longs bytes) is no longer than the input, and every decoded field is in range. -/
theorem decode_bounded (c : Consts) (b r : Bytes) (s : Img) (h : decode c b = some (s, r)) :
    b.length = serializedSize s + r.length ∧ WF s ∧
    (∀ nbs bits, s.body = some (nbs, bits) → bits.length + 32 ≤ b.length) := by
  obtain ⟨h1, h2⟩ := (decode_sized c).consumed h
  refine ⟨h1, h2, ?_⟩
  intro nbs bits hb
  obtain ⟨_, _, _, h4⟩ := h2
  simp only [hb] at h4
  simp only [serializedSize, hb] at h1
  omega

/-- a 48-byte image: the full image decodes, the 47-byte prefix does not -/
def exImgT : Img := { numHashes := 2, seed := 9001, numLongs := 2,
                      body := some (3, [1, 0, 0, 0x80, 0, 0, 0, 0, 0, 0, 0, 0, 0, 0, 0, 2]) }
example : WF exImgT ∧ decode genConsts ((encode genConsts exImgT).take 47) = none ∧
          (decode genConsts (encode genConsts exImgT)).isSome := by decide +kernel

end DS.Wire.Bloom
