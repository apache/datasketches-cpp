/-
C09 (count-min part) — the serialized image round-trips.

ONLY property theorems + non-vacuity examples (helper lemmas: Lemmas/WireCount.lean).
Model: DSModel/Wire/CountMin.lean (`Image` = exactly what the image stores; `encode` = the documented writer,
`decode` = the reader written from the documentation, built only from the bounded combinators).  Statements are for
EVERY constant set `c` satisfying the decidable side condition `c.ok` (the constants of the current headers satisfy it:
`generated_ok`), every well-formed image state `s` (any number of hashes/buckets, any cell values) and every `tail`.
The tie to count_min_impl.hpp is the two-phase check `./check c09_count` (the model decodes what the code wrote).
-/
import DSProofs.Lemmas.WireCount
import DSModel.Wire.CountMinGen
namespace DS.Wire.CountMin
open DS.Wire

/-- the constants extracted from the current headers satisfy the side conditions of the theorems below -/
theorem generated_ok : generated.ok := by decide

/-- the flag byte written for `empty` is read back as `empty` -/
theorem flags_roundtrip (c : CmConsts) (hc : c.ok) (e : Bool) :
    flagsOf c e < 256 ∧ isEmptyFlags c (flagsOf c e) = e := by
  cases e with
  | false => exact ⟨Nat.zero_lt_succ _, by simp only [flagsOf, isEmptyFlags, Bool.false_eq_true, if_false, Nat.zero_div]; rfl⟩
  | true =>
    have hlt : 2 ^ c.emptyBit < 2 ^ 8 := Nat.pow_lt_pow_right (by decide) hc.2.2.2
    have hdiv : 2 ^ c.emptyBit / 2 ^ c.emptyBit = 1 := Nat.div_self (Nat.pow_pos (by decide))
    exact ⟨hlt, by simp only [flagsOf, isEmptyFlags, if_true, hdiv]; rfl⟩

/-- **round trip**: the documented reader recovers exactly the image state and consumes exactly the image -/
theorem decode_encode (c : CmConsts) (hc : c.ok) (s : Image) (hs : WF c s) (tail : Bytes) :
    decode c (encode c s ++ tail) = some (s, tail) := by
  obtain ⟨hnb, hnh, hsh, hmin, hmax, hbody⟩ := hs
  have hfl := flags_roundtrip c hc s.body.isNone
  obtain ⟨hf, hv, hp, _⟩ := hc
  have hbd : decodeBody (s.numHashes * s.numBuckets) s.body.isNone (encodeBody s.body ++ tail) = some (s.body, tail) := by
    cases hb : s.body with
    | none => rfl
    | some p =>
      obtain ⟨w, cells⟩ := p
      rw [hb] at hbody
      obtain ⟨hw, hlen, hcells⟩ := hbody
      simp only [decodeBody, encodeBody, Option.isNone_some, Bool.false_eq_true, if_false, List.append_assoc]
      rw [bind_u64 _ hw, bind_ok (decU64s_enc cells hlen hcells _)]
      rfl
  simp only [decode, encode, List.append_assoc]
  rw [bind_u8 _ hp, bind_guard _ (by simp), bind_u8 _ hv, bind_guard _ (by simp), bind_u8 _ hf, bind_guard _ (by simp),
    bind_u8 _ hfl.1, bind_skip, bind_u32 _ hnb, bind_u8 _ hnh, bind_u16 _ hsh, bind_skip,
    bind_guard _ (by simp [hmin, hmax]), hfl.2, bind_ok hbd]
  rfl

/-- the image has exactly the advertised size (`get_serialized_size_bytes`) -/
theorem size_eq (c : CmConsts) (h2 : c.preLongs = 2) (s : Image) (hs : WF c s) :
    (encode c s).length = serializedSize c s := by
  have hbody := hs.2.2.2.2.2
  simp only [encode, serializedSize, List.length_append, length_w8, length_w16, length_w32, length_wZeros, h2]
  cases hb : s.body with
  | none => rfl
  | some p =>
    obtain ⟨w, cells⟩ := p
    rw [hb] at hbody
    simp only [encodeBody, List.length_append, length_w64, length_encU64s, hbody.2.1, Nat.mul_add, ← Nat.add_assoc]

/-- non-vacuity: a non-empty 2×3 sketch image and an empty one are well formed under the current constants -/
example : WF generated { numBuckets := 3, numHashes := 2, seedHash := 37836, body := some (5, [1, 0, 4, 0, 5, 0]) } := by decide
example : WF generated { numBuckets := 1000, numHashes := 7, seedHash := 0, body := none } := by decide
example : generated.preLongs = 2 := by decide

end DS.Wire.CountMin
