/- Histories over a list of sketches: `stepT_*` / `truthStep_*` rewrite the operations that act (`Op.ok`); every history
keeps the structural invariant `InvS` (`runT_inv`). -/
import DSProofs.Lemmas.KllMerge
import DSModel.Kll.History
namespace DS.Kll
open DS DS.SortedView DS.Mech

variable {α : Type}

/-- two lists of equal length whose entries at equal positions are related: the shape of every relation between two
states, or a state and its ground truth, of a history -/
def PW {β γ : Type} (R : β → γ → Prop) (l : List β) (l' : List γ) : Prop :=
  l.length = l'.length ∧ ∀ (i : Nat) (a : β) (b : γ), l[i]? = some a → l'[i]? = some b → R a b

theorem PW.refl {β : Type} {R : β → β → Prop} (hR : ∀ a, R a a) (l : List β) : PW R l l :=
  ⟨rfl, fun _ a _ h h' => Option.some.inj (h.symm.trans h') ▸ hR a⟩

theorem PW.get {β γ : Type} {R : β → γ → Prop} {l : List β} {l' : List γ} (h : PW R l l') {i : Nat} (hi : i < l.length) :
    R l[i] (l'[i]'(h.1 ▸ hi)) :=
  h.2 i _ _ (List.getElem?_eq_getElem hi) (List.getElem?_eq_getElem _)

theorem PW.set {β γ : Type} {R : β → γ → Prop} {l : List β} {l' : List γ} (h : PW R l l') (i : Nat) {a : β} {b : γ}
    (hr : R a b) : PW R (l.set i a) (l'.set i b) := by
  refine ⟨by rw [List.length_set, List.length_set, h.1], fun j x y hx hy => ?_⟩
  by_cases hij : i = j
  · subst hij
    have hlt : i < l.length := by
      have := (List.getElem?_eq_some_iff.mp hx).1; rwa [List.length_set] at this
    rw [List.getElem?_set_self hlt, Option.some.injEq] at hx
    rw [List.getElem?_set_self (h.1 ▸ hlt), Option.some.injEq] at hy
    exact hx ▸ hy ▸ hr
  · rw [List.getElem?_set_ne hij] at hx hy
    exact h.2 j x y hx hy

theorem PW.append {β γ : Type} {R : β → γ → Prop} {l : List β} {l' : List γ} (h : PW R l l') {a : β} {b : γ}
    (hr : R a b) : PW R (l ++ [a]) (l' ++ [b]) := by
  refine ⟨by rw [List.length_append, List.length_append, h.1]; rfl, fun j x y hx hy => ?_⟩
  by_cases hj : j < l.length
  · rw [List.getElem?_append_left hj] at hx
    rw [List.getElem?_append_left (h.1 ▸ hj)] at hy
    exact h.2 j x y hx hy
  · have hje : j = l.length := by
      have := (List.getElem?_eq_some_iff.mp hx).1
      rw [List.length_append] at this
      exact Nat.le_antisymm (Nat.le_of_lt_succ this) (Nat.not_lt.mp hj)
    subst hje
    rw [List.getElem?_concat_length, Option.some.injEq] at hx
    rw [h.1, List.getElem?_concat_length, Option.some.injEq] at hy
    exact hx ▸ hy ▸ hr

/-- the operations that act; the others (index out of range, self-merge, invalid k) leave the state and the ground
truth as they are -/
def Op.ok (P : Params) (n : Nat) : Op α → Prop
  | .new k => validK P k = true
  | .upd i _ => i < n
  | .merge i j => i ≠ j ∧ i < n ∧ j < n
  | .copy i => i < n
  | .view i => i < n

theorem stepT_of_not_ok {P : Params} {c : Cmp α} {st : List (Sketch α)} {op : Op α} (h : ¬ op.ok P st.length) :
    stepT P c st op = CT.ret st := by
  cases op with
  | new k => rw [stepT, if_neg (show ¬ validK P k = true from h)]
  | upd i x => simp only [stepT, List.getElem?_eq_none (Nat.not_lt.mp h)]
  | merge i j =>
    simp only [stepT]
    split
    · rfl
    · rename_i hij
      split
      · rename_i a b ha hb
        exact absurd ⟨mt beq_iff_eq.mpr hij, (List.getElem?_eq_some_iff.mp ha).1, (List.getElem?_eq_some_iff.mp hb).1⟩ h
      · rfl
  | copy i => simp only [stepT, List.getElem?_eq_none (Nat.not_lt.mp h)]
  | view i => simp only [stepT, List.getElem?_eq_none (Nat.not_lt.mp h)]

theorem stepT_new {P : Params} (c : Cmp α) (st : List (Sketch α)) {k : Nat} (h : validK P k = true) :
    stepT P c st (.new k) = CT.ret (st ++ [init k]) := by
  rw [stepT, if_pos h]

theorem stepT_upd (P : Params) (c : Cmp α) {st : List (Sketch α)} {i : Nat} (h : i < st.length) (x : α) :
    stepT P c st (.upd i x) = CT.map (fun s' => st.set i s') (updateT P c st[i] x) := by
  simp only [stepT, List.getElem?_eq_getElem h]

theorem stepT_merge (P : Params) (c : Cmp α) {st : List (Sketch α)} {i j : Nat} (h : i ≠ j ∧ i < st.length ∧ j < st.length) :
    stepT P c st (.merge i j) = CT.map (fun s' => st.set i s') (mergeT P c (st[i]'h.2.1) (st[j]'h.2.2)) := by
  simp only [stepT, if_neg (mt beq_iff_eq.mp h.1), List.getElem?_eq_getElem h.2.1, List.getElem?_eq_getElem h.2.2]

theorem stepT_copy (P : Params) (c : Cmp α) {st : List (Sketch α)} {i : Nat} (h : i < st.length) :
    stepT P c st (.copy i) = CT.ret (st ++ [st[i]]) := by
  simp only [stepT, List.getElem?_eq_getElem h]

theorem stepT_view (P : Params) (c : Cmp α) {st : List (Sketch α)} {i : Nat} (h : i < st.length) :
    stepT P c st (.view i) = CT.ret (st.set i (sortLevelZero c st[i])) := by
  simp only [stepT, List.getElem?_eq_getElem h]

theorem truthStep_of_not_ok {P : Params} {c : Cmp α} {tr : List (List α)} {op : Op α} (h : ¬ op.ok P tr.length) :
    truthStep P c tr op = tr := by
  cases op with
  | new k => rw [truthStep, if_neg (show ¬ validK P k = true from h)]
  | upd i x => simp only [truthStep, List.getElem?_eq_none (Nat.not_lt.mp h)]
  | merge i j =>
    simp only [truthStep]
    split
    · rfl
    · rename_i hij
      split
      · rename_i a b ha hb
        exact absurd ⟨mt beq_iff_eq.mpr hij, (List.getElem?_eq_some_iff.mp ha).1, (List.getElem?_eq_some_iff.mp hb).1⟩ h
      · rfl
  | copy i => simp only [truthStep, List.getElem?_eq_none (Nat.not_lt.mp h)]
  | view i => rfl

theorem truthStep_new {P : Params} (c : Cmp α) (tr : List (List α)) {k : Nat} (h : validK P k = true) :
    truthStep P c tr (.new k) = tr ++ [[]] := by
  rw [truthStep, if_pos h]

theorem truthStep_upd (P : Params) (c : Cmp α) {tr : List (List α)} {i : Nat} (h : i < tr.length) (x : α) :
    truthStep P c tr (.upd i x) = tr.set i (if c.isNaN x then tr[i] else x :: tr[i]) := by
  simp only [truthStep, List.getElem?_eq_getElem h]
  by_cases hx : c.isNaN x = true
  · rw [if_pos hx, if_pos hx, List.set_getElem_self]
  · rw [if_neg hx, if_neg hx]

theorem truthStep_merge (P : Params) (c : Cmp α) {tr : List (List α)} {i j : Nat} (h : i ≠ j ∧ i < tr.length ∧ j < tr.length) :
    truthStep P c tr (.merge i j) = tr.set i ((tr[j]'h.2.2) ++ (tr[i]'h.2.1)) := by
  simp only [truthStep, if_neg (mt beq_iff_eq.mp h.1), List.getElem?_eq_getElem h.2.1, List.getElem?_eq_getElem h.2.2]

theorem truthStep_copy (P : Params) (c : Cmp α) {tr : List (List α)} {i : Nat} (h : i < tr.length) :
    truthStep P c tr (.copy i) = tr ++ [tr[i]] := by
  simp only [truthStep, List.getElem?_eq_getElem h]

theorem stepT_inv {P : Params} (ok : ParamsOk P) {c : Cmp α} (sw : StrictWeak c.lt) {st : List (Sketch α)}
    (h : ∀ s ∈ st, InvS P c.lt s) (op : Op α) : CT.All (fun st' => ∀ s ∈ st', InvS P c.lt s) (stepT P c st op) := by
  by_cases hok : op.ok P st.length
  case neg => rw [stepT_of_not_ok hok]; exact h
  have hset : ∀ {i : Nat} {s' : Sketch α}, InvS P c.lt s' → ∀ t ∈ st.set i s', InvS P c.lt t :=
    fun hs' t ht => (List.mem_or_eq_of_mem_set ht).elim (h t) (fun e => e ▸ hs')
  have happ : ∀ {s' : Sketch α}, InvS P c.lt s' → ∀ t ∈ st ++ [s'], InvS P c.lt t :=
    fun hs' t ht => (List.mem_append.mp ht).elim (h t) (fun e => List.mem_singleton.mp e ▸ hs')
  cases op with
  | new k => rw [stepT_new c st hok]; exact happ (init_inv P ok c.lt k hok)
  | upd i x =>
    rw [stepT_upd P c hok x]
    exact CT.All_map (updateT_inv ok sw (h _ (List.getElem_mem hok)) x) (fun _ hs' => hset hs')
  | merge i j =>
    rw [stepT_merge P c hok]
    exact CT.All_map (mergeT_inv ok sw (h _ (List.getElem_mem hok.2.1)) (h _ (List.getElem_mem hok.2.2)))
      (fun _ hs' => hset hs'.1)
  | copy i => rw [stepT_copy P c hok]; exact happ (h _ (List.getElem_mem hok))
  | view i => rw [stepT_view P c hok]; exact hset (sortLevelZero_inv sw (h _ (List.getElem_mem hok)))

theorem runT_inv {P : Params} (ok : ParamsOk P) {c : Cmp α} (sw : StrictWeak c.lt) :
    ∀ (ops : List (Op α)) {st : List (Sketch α)}, (∀ s ∈ st, InvS P c.lt s) →
    CT.All (fun st' => ∀ s ∈ st', InvS P c.lt s) (runT P c ops st)
  | [], _, h => h
  | op :: ops, _, h => CT.All_bind (stepT_inv ok sw h op) (fun _ h' => runT_inv ok sw ops h')

theorem runT_snoc (P : Params) (c : Cmp α) (op : Op α) : ∀ (ops : List (Op α)) (st : List (Sketch α)),
    runT P c (ops ++ [op]) st = CT.bind (runT P c ops st) (fun st' => stepT P c st' op)
  | [], st => by simp only [List.nil_append, runT, CT.bind_ret]; exact CT.bind_ret_right _
  | o :: ops, st => by
    simp only [List.cons_append, runT]
    rw [CT.bind_assoc]
    congr 1
    funext s1
    exact runT_snoc P c op ops s1

theorem truth_snoc (P : Params) (c : Cmp α) (op : Op α) : ∀ (ops : List (Op α)) (tr : List (List α)),
    truth P c (ops ++ [op]) tr = truthStep P c (truth P c ops tr) op
  | [], _ => rfl
  | o :: ops, tr => by simp only [List.cons_append, truth]; exact truth_snoc P c op ops _

/-- after an update with an item that is not NaN, level 0 of the updated sketch is non-empty -/
theorem runT_upd_level0_ne {P : Params} (ok : ParamsOk P) {c : Cmp α} (sw : StrictWeak c.lt) (ops : List (Op α)) (i : Nat) (x : α)
    (hx : c.isNaN x = false) :
    CT.All (fun st' => ∀ s', st'[i]? = some s' → s'.levels.headD [] ≠ []) (runT P c (ops ++ [.upd i x]) []) := by
  rw [runT_snoc]
  refine CT.All_bind (runT_inv ok sw ops (st := []) (by simp)) ?_
  intro st hst
  by_cases hi : i < st.length
  · rw [stepT_upd P c hi x, updateT, if_neg (ne_true_of_eq_false hx)]
    refine CT.All_map (internalUpdateT_inv ok sw (updateMinMax_inv (hst _ (List.getElem_mem hi)) x) x) ?_
    intro s' hs' t ht
    rw [List.getElem?_set_self hi, Option.some.injEq] at ht
    rw [← ht, ← getD_zero]; exact hs'.2.2.2
  · rw [stepT_of_not_ok (op := .upd i x) hi]
    simp only [CT.All_ret]
    intro s' hs'
    rw [List.getElem?_eq_none (Nat.not_lt.mp hi)] at hs'; exact nomatch hs'

end DS.Kll
