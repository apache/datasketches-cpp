/- Basic facts for the classic quantiles model: comparator, sorting/merging, strided sub-lists, bit-pattern arithmetic. -/
import DSModel.Quantiles.Sketch
import DSProofs.Lemmas.QuantilesTree
import DSProofs.Lemmas.ListAux
namespace DS.Quantiles

variable {α : Type}

/-- what `std::sort` / `std::merge` require of `comparator_` -/
structure SWO (lt : α → α → Bool) : Prop where
  irrefl : ∀ a, lt a a = false
  trans : ∀ a b c, lt a b = true → lt b c = true → lt a c = true
  ntrans : ∀ a b c, lt a b = false → lt b c = false → lt a c = false

abbrev leOf (lt : α → α → Bool) : α → α → Bool := fun a b => !lt b a

def Sorted (lt : α → α → Bool) (l : List α) : Prop := l.Pairwise (fun a b => leOf lt a b = true)

theorem SWO.le_trans {lt : α → α → Bool} (h : SWO lt) (a b c : α) :
    leOf lt a b = true → leOf lt b c = true → leOf lt a c = true := by
  simp only [leOf, Bool.not_eq_true']
  intro h1 h2
  exact h.ntrans c b a h2 h1

theorem SWO.le_total {lt : α → α → Bool} (h : SWO lt) (a b : α) : (leOf lt a b || leOf lt b a) = true := by
  simp only [leOf]
  cases hba : lt b a
  · simp
  · cases hab : lt a b
    · simp
    · have := h.trans a b a hab hba
      rw [h.irrefl] at this
      exact absurd this (by simp)

theorem SWO.flip {lt : α → α → Bool} (h : SWO lt) : SWO (fun a b => lt b a) :=
  ⟨h.irrefl, fun a b c hab hbc => h.trans c b a hbc hab, fun a b c hab hbc => h.ntrans c b a hbc hab⟩

theorem sorted_sortBuf {lt : α → α → Bool} (h : SWO lt) (l : List α) : Sorted lt (sortBuf lt l) :=
  List.pairwise_mergeSort (le := leOf lt) h.le_trans h.le_total l

theorem sortBuf_perm (lt : α → α → Bool) (l : List α) : (sortBuf lt l).Perm l := List.mergeSort_perm l _

theorem sortBuf_length (lt : α → α → Bool) (l : List α) : (sortBuf lt l).length = l.length :=
  (sortBuf_perm lt l).length_eq

theorem sorted_merge2 {lt : α → α → Bool} (h : SWO lt) {a b : List α} (ha : Sorted lt a) (hb : Sorted lt b) :
    Sorted lt (merge2 lt a b) :=
  List.pairwise_merge (le := leOf lt) h.le_trans h.le_total b a hb ha

theorem merge2_perm (lt : α → α → Bool) (a b : List α) : (merge2 lt a b).Perm (b ++ a) :=
  List.merge_perm_append _

theorem merge2_length (lt : α → α → Bool) (a b : List α) : (merge2 lt a b).length = a.length + b.length := by
  rw [(merge2_perm lt a b).length_eq, List.length_append, Nat.add_comm]

theorem merge2_countP (lt : α → α → Bool) (p : α → Bool) (a b : List α) :
    (merge2 lt a b).countP p = a.countP p + b.countP p := by
  rw [(merge2_perm lt a b).countP_eq, List.countP_append, Nat.add_comm]

theorem sorted_nil (lt : α → α → Bool) : Sorted lt ([] : List α) := List.Pairwise.nil

@[simp] theorem strided_nil (s o : Nat) : strided s o ([] : List α) = [] := by cases o <;> rfl

theorem strided_sublist (s : Nat) : ∀ (o : Nat) (l : List α), (strided s o l).Sublist l := by
  intro o l
  induction l generalizing o with
  | nil => simp
  | cons x t ih =>
    cases o with
    | zero => exact (ih (s - 1)).cons_cons x
    | succ c => exact (ih c).cons x

theorem sorted_strided {lt : α → α → Bool} {l : List α} (h : Sorted lt l) (s o : Nat) : Sorted lt (strided s o l) :=
  List.Pairwise.sublist (strided_sublist s o l) h

theorem mem_of_mem_strided {s o : Nat} {l : List α} {x : α} (h : x ∈ strided s o l) : x ∈ l :=
  (strided_sublist s o l).subset h

theorem strided_length_formula (s : Nat) (hs : 0 < s) : ∀ (l : List α) (o : Nat), o < s →
    (strided s o l).length = (l.length + (s - 1 - o)) / s := by
  have hlt : ∀ o, s - 1 - o < s := fun o => Nat.lt_of_le_of_lt (Nat.sub_le _ _) (Nat.sub_lt hs Nat.one_pos)
  intro l
  induction l with
  | nil =>
    intro o _
    rw [strided_nil, List.length_nil, Nat.zero_add, Nat.div_eq_of_lt (hlt o)]
  | cons x t ih =>
    intro o ho
    cases o with
    | zero =>
      rw [strided, List.length_cons, ih (s - 1) (Nat.sub_lt hs Nat.one_pos), List.length_cons, Nat.sub_self,
        Nat.add_zero t.length, Nat.sub_zero, Nat.add_assoc, Nat.add_sub_cancel' hs, Nat.add_div_right _ hs]
    | succ c =>
      rw [strided, ih c (Nat.lt_of_succ_lt ho), List.length_cons]
      congr 1
      omega

theorem strided_length {s m o : Nat} {l : List α} (hl : l.length = s * m) (ho : o < s) :
    (strided s o l).length = m := by
  have hs : 0 < s := Nat.zero_lt_of_lt ho
  rw [strided_length_formula s hs l o ho, hl, Nat.mul_add_div hs,
    Nat.div_eq_of_lt (Nat.lt_of_le_of_lt (Nat.sub_le _ _) (Nat.sub_lt hs Nat.one_pos))]
  rfl

/-- over all `s` offsets `zip_buffer_with_stride` keeps every item exactly once (C08 `C08q_compaction_balanced_stride` is this lemma) -/
theorem strided_countP_sum (p : α → Bool) (s : Nat) (hs : 0 < s) (l : List α) :
    Tree.sumRange s (fun o => (strided s o l).countP p) = l.countP p := by
  induction l with
  | nil => simp [Tree.sumRange_const]
  | cons x t ih =>
    obtain ⟨s', rfl⟩ : ∃ s', s = s' + 1 := ⟨s - 1, by omega⟩
    rw [Tree.sumRange_succ']
    simp only [strided, Nat.add_sub_cancel, List.countP_cons]
    rw [← ih, Tree.sumRange]
    omega

theorem succ_half_of_even {b : Nat} (hb : ¬ b % 2 = 1) : (b + 1) % 2 = 1 ∧ (b + 1) / 2 = b / 2 :=
  have h1 : (b + 1) % 2 = 1 := by rw [Nat.add_mod, Nat.mod_two_not_eq_one.mp hb]
  ⟨h1, Nat.succ_div_of_not_dvd fun hd => Nat.one_ne_zero (h1.symm.trans (Nat.mod_eq_zero_of_dvd hd))⟩

theorem succ_half_of_odd {b : Nat} (hb : b % 2 = 1) : (b + 1) % 2 = 0 ∧ (b + 1) / 2 = b / 2 + 1 :=
  have h1 : (b + 1) % 2 = 0 := by rw [Nat.add_mod, hb]
  ⟨h1, Nat.succ_div_of_dvd (Nat.dvd_of_mod_eq_zero h1)⟩

theorem add_two_pow_succ_half (b s : Nat) :
    (b + 2 ^ (s + 1)) % 2 = b % 2 ∧ (b + 2 ^ (s + 1)) / 2 = b / 2 + 2 ^ s := by
  rw [Nat.pow_succ]
  exact ⟨Nat.add_mul_mod_self_right .., Nat.add_mul_div_right _ _ Nat.two_pos⟩

theorem half_ne_zero_of_even {b : Nat} (hb : b ≠ 0) (h : ¬ b % 2 = 1) : b / 2 ≠ 0 := fun h0 =>
  hb (by have := Nat.div_add_mod b 2; rw [h0, Nat.mod_two_not_eq_one.mp h] at this; exact this.symm)

theorem half_lt_two_pow {x n : Nat} (h : x < 2 ^ (n + 1)) : x / 2 < 2 ^ n :=
  Nat.div_lt_of_lt_mul (by rwa [Nat.pow_succ, Nat.mul_comm] at h)

theorem bitLen_zero : bitLen 0 = 0 := by rw [bitLen]; simp

theorem bitLen_pos {x : Nat} (h : x ≠ 0) : bitLen x = bitLen (x / 2) + 1 := by rw [bitLen]; simp [h]

theorem lt_two_pow_bitLen (x : Nat) : x < 2 ^ bitLen x := by
  induction x using Nat.strongRecOn with
  | _ x ih =>
    by_cases h : x = 0
    · subst h; simp [bitLen_zero]
    · rw [bitLen_pos h]
      exact (Nat.div_lt_iff_lt_mul Nat.two_pos).mp (ih (x / 2) (Nat.div_lt_self (Nat.pos_of_ne_zero h) (by decide)))

theorem bitLen_le_of_lt_two_pow {x m : Nat} (h : x < 2 ^ m) : bitLen x ≤ m := by
  induction m generalizing x with
  | zero =>
    have : x = 0 := by simpa using h
    subst this; simp [bitLen_zero]
  | succ m ih =>
    by_cases hx : x = 0
    · subst hx; simp [bitLen_zero]
    · rw [bitLen_pos hx]
      exact Nat.succ_le_succ (ih ((Nat.div_lt_iff_lt_mul Nat.two_pos).mpr h))

theorem bitLen_mono {x y : Nat} (h : x ≤ y) : bitLen x ≤ bitLen y :=
  bitLen_le_of_lt_two_pow (Nat.lt_of_le_of_lt h (lt_two_pow_bitLen y))

theorem bitLen_succ_le (q : Nat) : bitLen (q + 1) ≤ bitLen q + 1 := by
  apply bitLen_le_of_lt_two_pow
  have := lt_two_pow_bitLen q
  rw [Nat.pow_succ]; omega

theorem bitLen_eq_zero {x : Nat} : bitLen x = 0 ↔ x = 0 := by
  constructor
  · intro h
    by_cases hx : x = 0
    · exact hx
    · rw [bitLen_pos hx] at h; omega
  · intro h; subst h; exact bitLen_zero

theorem popcount_zero : popcount 0 = 0 := by rw [popcount]; simp

theorem popcount_step (x : Nat) : popcount x = x % 2 + popcount (x / 2) := by
  by_cases h : x = 0
  · subst h; simp [popcount_zero]
  · rw [popcount]; simp [h]

theorem ctz_two_pow (e : Nat) : ctz (2 ^ e) = e := by
  induction e with
  | zero => rw [ctz]; simp
  | succ e ih =>
    have h2 : 2 ^ (e + 1) % 2 = 0 := Nat.mul_mod_left ..
    have h3 : 2 ^ (e + 1) / 2 = 2 ^ e := Nat.mul_div_cancel _ Nat.two_pos
    rw [ctz, if_neg (Nat.pos_iff_ne_zero.mp (Nat.two_pow_pos _)), h2, if_neg (by decide), h3, ih]

/-- `0 < minK`: `k = 0` passes `check_k`'s bit test `(k & (k - 1)) == 0` too -/
theorem checkK_pow2 {minK maxK k : Nat} (hmin : 0 < minK) (h : checkK minK maxK k = true) : ∃ e, k = 2 ^ e := by
  unfold checkK at h
  simp only [Bool.and_eq_true, decide_eq_true_eq, beq_iff_eq] at h
  exact (Nat.and_sub_one_eq_zero_iff_isPowerOfTwo (Nat.pos_iff_ne_zero.1 (Nat.lt_of_lt_of_le hmin h.1.1))).1 h.2

end DS.Quantiles
