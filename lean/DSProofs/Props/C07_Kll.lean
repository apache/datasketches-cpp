/-
C07, KLL part — the KLL sketch conserves weight, keeps exact extremes, stays within its space bound and answers
coherently.

Model: DSModel/Kll/Sketch.lean (= kll_sketch_impl.hpp / kll_helper_impl.hpp; tied to the headers by `./check c07kll`),
histories: DSModel/Kll/History.lean.  Every theorem is for
  * every parameter set `P` satisfying the decidable side conditions `ParamsOk` (discharged for the constants the
    translator takes from the current headers: `gen_params_side_conditions`, `pow3_table_ok`),
  * every item type `α` and comparator `c.lt` that is a strict weak order (`StrictWeak`),
  * every history `ops` of constructions (any k), updates, merges (any tree, any operand states, unequal k), copies
    and `get_sorted_view` calls over any number of sketches,
  * every coin sequence `coins` (the model's `random_bit`),
and talks about every sketch `s` of the reached state `reach P c ops coins` (`invalid_rejected` alone is about any sketch,
reached or not); `truth P c ops []` is the list of items each sketch has accepted (directly or through merges).  ONLY
property theorems and examples live here (helper lemmas: Lemmas/Kll*.lean).

"Pinned" is the tree of /repo the development started from, before the two repairs (DESIGN §4 D2 and, in Appendix D, `kll-nan-rank-answered`): `Sketch.iter` and `getQuantile`
model its const_iterator and its `get_quantile`.  The headers as they are now have both repairs
(`DSGen.kll_ITER_SKIPS_EMPTY_LEVELS` and `DSGen.kll_NAN_RANK_REJECTED` are `true`); what holds for them is in C07_Kll_Repaired.lean.
Findings kept as witnesses: `weight_conserved_full_false` (the pinned const_iterator, D2).
Not a theorem here: the pinned `get_quantile(NaN)` is answered (finding `kll-nan-rank-answered`); Lean cannot evaluate `Float`
comparisons in the kernel, the witness is replayed on the real code by the check's oracle instead.
-/
import DSProofs.Lemmas.KllReach
import DSProofs.Lemmas.KllView
import DSProofs.Props.C07_View
namespace DS.Kll
open DS DS.SortedView

variable {α : Type}

/-! ### the constants of the current headers satisfy the side conditions -/

theorem gen_params_side_conditions : ParamsOk genParams := gen_params_ok

/-- `powers_of_three[i] = 3^i` for the whole table (an edit of the table breaks this obligation) -/
theorem pow3_table_ok : genParams.pow3 = (List.range 31).map (3 ^ ·) ∧ genParams.m = 8 ∧ genParams.splitDepth = 30 := by
  decide

/-! ### example history used for non-vacuity: two k=8 sketches, 4 and 20 updates, then a merge (3 flips) -/

def exOps : List (Op Int) :=
  [.new 8, .new 8] ++ (List.range 4).map (fun (i : Nat) => Op.upd 0 (100 - (i : Int))) ++
  (List.range 20).map (fun (i : Nat) => Op.upd 1 (200 - (i : Int))) ++ [.merge 0 1]

/-- the same history followed by one more update of sketch 0 -/
def exOps2 : List (Op Int) := exOps ++ [.upd 0 150]

def noCoins : Coins := { bits := [] }

example : ((reach genParams intCmp exOps noCoins)[0]?.map (fun s => (s.n, s.retained, s.levels))) =
    some (24, 12, [[], [98, 100, 182, 184, 185, 187, 189, 191, 194, 196, 198, 200]]) := by decide +kernel

/-- n is the number of accepted items (NaN updates are not accepted; merged items count) -/
theorem n_exact {P : Params} (ok : ParamsOk P) {c : Cmp α} (sw : StrictWeak c.lt) (ops : List (Op α)) (coins : Coins)
    {i : Nat} {s : Sketch α} (h : (reach P c ops coins)[i]? = some s) :
    ∃ inp, (truth P c ops [])[i]? = some inp ∧ s.n = inp.length := by
  obtain ⟨_, inp, hi, ht⟩ := reach_get ok sw ops coins h
  exact ⟨inp, hi, ht.n_eq⟩

/-- min and max are exactly the extremes of the accepted items (absent iff nothing was accepted) -/
theorem minmax_exact {P : Params} (ok : ParamsOk P) {c : Cmp α} (sw : StrictWeak c.lt) (ops : List (Op α)) (coins : Coins)
    {i : Nat} {s : Sketch α} (h : (reach P c ops coins)[i]? = some s) :
    ∃ inp, (truth P c ops [])[i]? = some inp ∧ IsMin c.lt s.minItem inp ∧ IsMax c.lt s.maxItem inp := by
  obtain ⟨_, inp, hi, ht⟩ := reach_get ok sw ops coins h
  exact ⟨inp, hi, ht.min_ok, ht.max_ok⟩

example : ((reach genParams intCmp exOps noCoins)[0]?.map (fun s => (s.n, s.minItem, s.maxItem))) = some (24, some 97, some 200) ∧
    ((truth genParams intCmp exOps [])[0]?.map List.length) = some 24 := by decide +kernel

/-- the levels conserve weight: Σ 2^h·|level h| = n (so `assert_correct_total_weight` never fires), every retained
item is an accepted item, and the iterator yields exactly `num_retained` pairs -/
theorem weight_conserved_levels {P : Params} (ok : ParamsOk P) {c : Cmp α} (sw : StrictWeak c.lt) (ops : List (Op α))
    (coins : Coins) {i : Nat} {s : Sketch α} (h : (reach P c ops coins)[i]? = some s) :
    weightSum 0 s.levels = s.n ∧ s.weightOk = true ∧ s.iter.length = s.retained ∧
    ∃ inp, (truth P c ops [])[i]? = some inp ∧ ∀ x ∈ s.levels.flatten, x ∈ inp := by
  obtain ⟨hi, inp, hti, ht⟩ := reach_get ok sw ops coins h
  exact ⟨hi.weight, by simp [Sketch.weightOk, hi.weight], iter_length s, inp, hti, ht.mem⟩

/-- the FULL statement of the property for the iterator: it yields num_retained pairs whose weights sum to n -/
def weight_conserved_full : Prop :=
  ∀ (α : Type) (P : Params), ParamsOk P → ∀ (c : Cmp α), StrictWeak c.lt → ∀ (ops : List (Op α)) (coins : Coins) (i : Nat) (s : Sketch α),
    (reach P c ops coins)[i]? = some s → s.iter.length = s.retained ∧ (s.iter.map Prod.snd).sum = s.n

/-- FALSE for the pinned const_iterator, which `Sketch.iter` models (defect D2; for the headers as they are see
`weight_conserved_current`): after the merge of `exOps` level 0 of sketch 0 is empty, the
const_iterator starts there with weight 1 and never advances its level: 12 items of weight 1 for n = 24.
The check replays this history on the real headers. -/
theorem weight_conserved_full_false : ¬ weight_conserved_full := by
  intro h
  have hs : ∃ s, (reach genParams intCmp exOps noCoins)[0]? = some s ∧ (s.iter.map Prod.snd).sum = 12 ∧ s.n = 24 := by
    decide +kernel
  obtain ⟨s, h1, h2, h3⟩ := hs
  have := (h Int genParams gen_params_ok intCmp intCmp_sw exOps noCoins 0 s h1).2
  omega

/-- what holds for the pinned iterator: the sum is n whenever level 0 is non-empty (in particular right after
any update) or the sketch is empty; with an empty level 0 every item is reported with weight 1 -/
theorem weight_conserved_partial {P : Params} (ok : ParamsOk P) {c : Cmp α} (sw : StrictWeak c.lt) (ops : List (Op α))
    (coins : Coins) {i : Nat} {s : Sketch α} (h : (reach P c ops coins)[i]? = some s) :
    s.iter.length = s.retained ∧
    (s.levels.headD [] ≠ [] → s.iter = weightedW 1 s.levels ∧ (s.iter.map Prod.snd).sum = s.n) ∧
    (s.levels.headD [] = [] → s.iter = s.levels.flatten.map (fun x => (x, 1))) := by
  obtain ⟨hi, _⟩ := reach_get ok sw ops coins h
  refine ⟨iter_length s, ?_, iter_of_level0_empty s⟩
  intro h0
  have := iter_of_level0_ne s h0
  refine ⟨this, ?_⟩
  rw [this, weightedW_sum, hi.weight]; omega

/-- right after an update of sketch i the iterator of sketch i is correct -/
theorem weight_conserved_after_update {P : Params} (ok : ParamsOk P) {c : Cmp α} (sw : StrictWeak c.lt) (ops : List (Op α))
    (coins : Coins) (i : Nat) (x : α) (hx : c.isNaN x = false) {s : Sketch α}
    (h : (reach P c (ops ++ [.upd i x]) coins)[i]? = some s) :
    (s.iter.map Prod.snd).sum = s.n := by
  -- the last step is an `internal_update`, which leaves level 0 non-empty
  exact ((weight_conserved_partial ok sw _ coins h).2.1 (CT.All.run (runT_upd_level0_ne ok sw ops i x hx) coins s h)).2

example : ((reach genParams intCmp exOps2 noCoins)[0]?.map (fun s => ((s.iter.map Prod.snd).sum, s.n))) = some (25, 25) := by
  decide +kernel

/-- retained ≤ compute_total_capacity(k, m, numLevels) = items_size_, and numLevels ≤ ub_on_num_levels(n);
`find_level_to_compact` always finds a level on a full sketch ("capacity calculation error" is unreachable) -/
theorem retained_bound {P : Params} (ok : ParamsOk P) {c : Cmp α} (sw : StrictWeak c.lt) (ops : List (Op α)) (coins : Coins)
    {i : Nat} {s : Sketch α} (h : (reach P c ops coins)[i]? = some s) :
    s.retained ≤ computeTotalCapacity P s.k s.numLevels ∧ s.itemsSize = computeTotalCapacity P s.k s.numLevels ∧
    s.numLevels ≤ ubOnNumLevels s.n ∧ 1 ≤ s.numLevels ∧
    (s.full = true → findLevel P s.k s.numLevels s.levels 0 < s.numLevels) := by
  obtain ⟨hi, _⟩ := reach_get ok sw ops coins h
  refine ⟨by show sizeSum s.levels ≤ computeTotalCapacity P s.k s.levels.length; rw [← hi.cap]; exact hi.ret_le, hi.cap,
    numLevels_le_ub hi, List.length_pos_iff.mpr hi.ne, ?_⟩
  exact fun hf => (findLevel_of_full ok hi (full_iff.mp hf)).1

example : ((reach genParams intCmp exOps noCoins)[0]?.map (fun s => (s.retained, computeTotalCapacity genParams s.k s.numLevels,
    s.numLevels, ubOnNumLevels s.n))) = some (12, 16, 2, 5) := by decide +kernel

/-- every level above 0 is sorted (precondition of the view and of merges); level 0 is sorted when flagged so -/
theorem levels_sorted {P : Params} (ok : ParamsOk P) {c : Cmp α} (sw : StrictWeak c.lt) (ops : List (Op α)) (coins : Coins)
    {i : Nat} {s : Sketch α} (h : (reach P c ops coins)[i]? = some s) :
    (∀ j, 0 < j → Sorted c.lt (s.levels.getD j [])) ∧ (s.sorted0 = true → Sorted c.lt (s.levels.getD 0 [])) := by
  obtain ⟨hi, _⟩ := reach_get ok sw ops coins h
  exact ⟨hi.sorted, hi.sorted0⟩

/-- `get_sorted_view`: sorted, total weight n, and rank(x) = weight of the retained items below x -/
theorem view_of_sketch {P : Params} (ok : ParamsOk P) {c : Cmp α} (sw : StrictWeak c.lt) (ops : List (Op α)) (coins : Coins)
    {i : Nat} {s : Sketch α} (h : (reach P c ops coins)[i]? = some s) :
    SortedE c.lt (viewRaw c.lt (sortLevelZero c s).levels 0 []) ∧ (getSortedView c s).2.total = s.n ∧
    ∀ x incl, rankNum c.lt (getSortedView c s).2 x incl = Mech.wb (isBelow c.lt x incl) 0 s.levels := by
  obtain ⟨hi, _⟩ := reach_get ok sw ops coins h
  exact view_props sw hi

example : ((reach genParams intCmp exOps noCoins)[0]?.map (fun s => ((getSortedView intCmp s).2.total,
    rankNum intCmp.lt (getSortedView intCmp s).2 150 true))) = some (24, 4) := by decide +kernel

/-- while nothing has been compacted (one level) the retained items are exactly the accepted items, so every rank
numerator is the true count of accepted items `≤ x` resp. `< x`, and (by `quantile_rank_dual`) every quantile is
the true quantile: for the inclusive criterion `#{a < q} < w ≤ #{a ≤ q}`, for the exclusive `#{a < q} ≤ w < #{a ≤ q}` -/
theorem exact_mode_exact {P : Params} (ok : ParamsOk P) {c : Cmp α} (sw : StrictWeak c.lt) (ops : List (Op α)) (coins : Coins)
    {i : Nat} {s : Sketch α} (h : (reach P c ops coins)[i]? = some s) (hex : s.numLevels = 1) :
    ∃ inp, (truth P c ops [])[i]? = some inp ∧ (s.levels.headD []).Perm inp ∧
    (∀ x incl, rankNum c.lt (getSortedView c s).2 x incl = (inp.filter (isBelow c.lt x incl)).length) ∧
    (∀ w q, 1 ≤ w → w ≤ inp.length → quantileAt (getSortedView c s).2 w true = some q →
        w ≤ (inp.filter (isBelow c.lt q true)).length ∧ (inp.filter (isBelow c.lt q false)).length < w) ∧
    (∀ w q, w < inp.length → quantileAt (getSortedView c s).2 w false = some q →
        w < (inp.filter (isBelow c.lt q true)).length ∧ (inp.filter (isBelow c.lt q false)).length ≤ w) := by
  obtain ⟨hi, inp, hti, ht⟩ := reach_get ok sw ops coins h
  obtain ⟨hsrt, htot, hrank⟩ := view_props sw hi
  -- `(getSortedView c s).2` is `build` of the raw view: in that form rank and total rewrite the duality
  have hr : ∀ x incl, rankNum c.lt (build (viewRaw c.lt (sortLevelZero c s).levels 0 [])) x incl
      = (inp.filter (isBelow c.lt x incl)).length := fun x incl => (hrank x incl).trans (exact_wb ht hex _)
  have htot' : (build (viewRaw c.lt (sortLevelZero c s).levels 0 [])).total = inp.length := htot.trans ht.n_eq
  have hd := fun w q => quantile_rank_dual sw _ hsrt w q
  simp only [hr, htot'] at hd
  exact ⟨inp, hti, ht.exact hex, hr, fun w q => (hd w q).1, fun w q => (hd w q).2⟩

/-- instance: 7 updates into a k=8 sketch: exact; rank(4) inclusive = 4 of 7, median = 4 -/
example : let ops : List (Op Int) := .new 8 :: (List.range 7).map (fun (i : Nat) => Op.upd 0 ((7 - i : Nat) : Int))
    ((reach genParams intCmp ops noCoins)[0]?.map (fun s => (s.numLevels, rankNum intCmp.lt (getSortedView intCmp s).2 4 true,
      quantileAt (getSortedView intCmp s).2 4 true))) = some (1, 4, some 4) := by decide +kernel

/-- empty-sketch queries, ranks outside [0,1] and invalid split points are rejected (`none` = the C++ throws);
NaN updates are ignored -/
theorem invalid_rejected (P : Params) (c : Cmp α) (s : Sketch α) :
    (s.n = 0 → (∀ x incl, getRank c s x incl = none) ∧ (∀ r incl, getQuantile c s r incl = none) ∧
                (∀ sps incl, getCDF c s sps incl = none ∧ getPMF c s sps incl = none)) ∧
    (∀ r incl, (r < 0.0 || r > 1.0) = true → getQuantile c s r incl = none) ∧
    (∀ sps incl, checkSplitPoints c.lt c.isNaN sps = false → getCDF c s sps incl = none ∧ getPMF c s sps incl = none) ∧
    (∀ x, c.isNaN x = true → updateT P c s x = CT.ret s) := by
  refine ⟨?_, ?_, ?_, ?_⟩
  · intro h0
    refine ⟨fun x incl => by simp [getRank, h0], fun r incl => by simp [getQuantile, h0], fun sps incl => by simp [getCDF, getPMF, h0]⟩
  · intro r incl hr
    unfold getQuantile
    rw [if_pos hr, ite_self]
  · intro sps incl hv
    unfold getCDF getPMF
    constructor <;> (split; rfl; simp [hv])
  · intro x hx; simp [updateT, hx]

end DS.Kll
