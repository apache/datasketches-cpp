/- Header read-back: what `parseImage` sees in a serialized image, in a freshly initialised block, and after writes. -/
import DSProofs.Lemmas.BloomLocal
import DSProofs.Lemmas.BloomParse
namespace DS.Bloom

/-- the wire constants the readers rely on; for the generated parameters: `genParams_wire` (Props/C15) -/
structure Params.Wire (P : Params) : Prop where
  layout : P.Layout
  dirty : P.dirty = 2 ^ 64 - 1
  preEmpty : P.preEmpty = 3
  preStd : P.preStd = 4
  family : P.family < 256
  serVer : P.serVer < 256
  emptyMask : P.emptyMask = 4

/-- "filter well-formed": the field ranges that every filter of a reachable world has (`Good.fwf`, BloomGood) -/
structure FWF (f : Filter) : Prop where
  capPos : 0 < f.capBits
  cap64 : f.capBits % 64 = 0
  /-- `num_longs` is a 32-bit header field; in particular a population count fits the 64-bit count field -/
  capLt : f.capBits < 2 ^ 38
  nh : f.numHashes < 2 ^ 16
  seed : f.seed < 2 ^ 64

theorem FWF.congr {f f' : Filter} (h : FWF f) (h1 : f'.capBits = f.capBits) (h2 : f'.numHashes = f.numHashes) (h3 : f'.seed = f.seed) :
    FWF f' :=
  ⟨h1 ▸ h.capPos, h1 ▸ h.cap64, h1 ▸ h.capLt, h2 ▸ h.nh, h3 ▸ h.seed⟩

theorem FWF.popCount_mod {f : Filter} (h : FWF f) (x off : Nat) : popCount x off f.capBits % 2 ^ 64 = popCount x off f.capBits :=
  Nat.mod_eq_of_lt (Nat.lt_trans (Nat.lt_of_le_of_lt (popCount_le x off f.capBits) h.capLt) (by decide))

theorem fwf_mkOwned (P : Params) (nb nh seed : Nat) (hb : badSize P nb nh = false) (hle : nb ≤ 2 ^ 38 - 64) (hnh : nh < 2 ^ 16) (hseed : seed < 2 ^ 64) :
    FWF (mkOwned nb nh seed) :=
  ⟨(roundUp64_pos nb (not_badSize hb).2.1).1, (roundUp64_pos nb (not_badSize hb).2.1).2,
    Nat.lt_of_le_of_lt (roundUp64_le nb) (by omega), hnh, hseed⟩

theorem fwf_of_full (P : Params) {b : Block} {cap nh seed nbs nl : Nat} (hp : parseImage P b = .full cap nh seed nbs nl) (f : Filter)
    (h1 : f.capBits = cap) (h2 : f.numHashes = nh) (h3 : f.seed = seed) : FWF f := by
  obtain ⟨-, -, -, hcapeq, -, hnh, hseed, hnl, -⟩ := parseImage_full_iff.mp hp
  refine ⟨h1 ▸ (cap_of_full hp).1, h1 ▸ (cap_of_full hp).2, ?_, ?_, ?_⟩
  · rw [h1, hcapeq, hnl]
    exact Nat.lt_of_le_of_lt (capOf_le P _) (Nat.mul_lt_mul_of_pos_right (getField_lt b.val 128 32) (by decide))
  · rw [h2, hnh]; exact getField_lt _ _ _
  · rw [h3, hseed]; exact getField_lt _ _ _

/-- "k OK": at least one hash function, and fewer than 2^32 bits.  Asked of every view that carries promises (field `k1` of `ViewOK`,
BloomGood): the 32-bit `num_longs << 6` of the readers of the pinned tree (`strict = false`) and `hdrCfg` of the specification both
reduce the capacity mod 2^32 -/
def KOK (f : Filter) : Prop := 1 ≤ f.numHashes ∧ f.capBits < 2 ^ 32

theorem headerVal_fields (P : Params) (pre flags nh seed nl : Nat) :
    getField (headerVal P pre flags nh seed nl) 0 8 = pre % 2 ^ 8 ∧
    getField (headerVal P pre flags nh seed nl) 8 8 = P.serVer % 2 ^ 8 ∧
    getField (headerVal P pre flags nh seed nl) 16 8 = P.family % 2 ^ 8 ∧
    getField (headerVal P pre flags nh seed nl) 24 8 = flags % 2 ^ 8 ∧
    getField (headerVal P pre flags nh seed nl) 32 16 = nh % 2 ^ 16 ∧
    getField (headerVal P pre flags nh seed nl) 64 64 = seed % 2 ^ 64 ∧
    getField (headerVal P pre flags nh seed nl) 128 32 = nl % 2 ^ 32 := by
  unfold headerVal
  -- each field: skip the writes that came after it, read its own
  refine ⟨?_, ?_, ?_, ?_, ?_, ?_, ?_⟩
  all_goals
    repeat rw [getField_setField_disj _ _ _ _ _ _ (by decide)]
    exact getField_setField_same _ _ _ _

theorem headerVal_high (P : Params) (pre flags nh seed nl i : Nat) (hi : 160 ≤ i) :
    (headerVal P pre flags nh seed nl).testBit i = false := by
  unfold headerVal
  repeat rw [testBit_setField_out _ _ _ _ _ (Or.inr (Nat.le_trans (by decide) hi))]
  simp

theorem parseImage_congr (P : Params) (b b' : Block) (hl : b'.len = b.len)
    (h0 : getField b'.val 0 8 = getField b.val 0 8) (h1 : getField b'.val 8 8 = getField b.val 8 8)
    (h2 : getField b'.val 16 8 = getField b.val 16 8) (h3 : getField b'.val 24 8 = getField b.val 24 8)
    (h4 : getField b'.val 32 16 = getField b.val 32 16) (h5 : getField b'.val 64 64 = getField b.val 64 64)
    (h6 : getField b'.val 128 32 = getField b.val 128 32) (h7 : getField b'.val 192 64 = getField b.val 192 64) :
    parseImage P b' = parseImage P b := by
  simp only [parseImage, hl, h0, h1, h2, h3, h4, h5, h6, h7]

theorem accepts_of_header (P : Params) (hP : P.Wire) (b : Block) (pre flags nh seed nl : Nat)
    (hlow : ∀ j, j < 160 → b.val.testBit j = (headerVal P pre flags nh seed nl).testBit j)
    (hpre : pre = if flags &&& 4 != 0 then 3 else 4) (hflags : flags < 2 ^ 8) (hlen : pre * 8 ≤ b.len)
    (hnh0 : nh ≠ 0) (hnh : nh < 2 ^ 16) (hseed : seed < 2 ^ 64) (hnl0 : nl ≠ 0) (hnl : nl < 2 ^ 32) :
    Accepts P b ∧ getField b.val 24 8 = flags ∧ getField b.val 32 16 = nh ∧ getField b.val 64 64 = seed ∧
      getField b.val 128 32 = nl := by
  obtain ⟨f0, f1, f2, f3, f4, f5, f6⟩ := headerVal_fields P pre flags nh seed nl
  have e : ∀ off w, off + w ≤ 160 → getField b.val off w = getField (headerVal P pre flags nh seed nl) off w :=
    fun off w hw => getField_congr _ _ _ _ (fun i hi => hlow _ (Nat.lt_of_lt_of_le (Nat.add_lt_add_left hi off) hw))
  rw [← e _ _ (by decide)] at f0 f1 f2 f3 f4 f5 f6
  rw [Nat.mod_eq_of_lt hP.serVer] at f1
  rw [Nat.mod_eq_of_lt hP.family] at f2
  rw [Nat.mod_eq_of_lt hflags] at f3
  rw [Nat.mod_eq_of_lt hnh] at f4
  rw [Nat.mod_eq_of_lt hseed] at f5
  rw [Nat.mod_eq_of_lt hnl] at f6
  have hp34 : 3 ≤ pre ∧ pre ≤ 4 := by rw [hpre]; split <;> decide
  rw [Nat.mod_eq_of_lt (Nat.lt_of_le_of_lt hp34.2 (by decide))] at f0
  refine ⟨⟨Nat.le_trans (by decide) (Nat.le_trans (Nat.mul_le_mul_right 8 hp34.1) hlen), by rw [f0, hP.preEmpty]; exact hp34.1,
    by rw [f0, hP.preStd]; exact hp34.2, f1, f2, by rw [f0]; exact hlen, fun _ => ?_,
    fun _ => by rw [f4, f6]; exact ⟨hnh0, hnl0⟩⟩, f3, f4, f5, f6⟩
  rw [f0, f3, hP.emptyMask, hP.preEmpty, hP.preStd]; exact hpre

theorem numLongs_of_cap {cap : Nat} (hcap : 0 < cap) (h64 : cap % 64 = 0) (hlt : cap < 2 ^ 32) : cap / 64 ≠ 0 ∧ cap / 64 < 2 ^ 32 :=
  ⟨Nat.ne_of_gt (Nat.div_pos (Nat.le_of_dvd hcap (Nat.dvd_of_mod_eq_zero h64)) (by decide)), Nat.lt_of_le_of_lt (Nat.div_le_self _ _) hlt⟩

theorem parseImage_of_header_full (P : Params) (hP : P.Wire) (b : Block) (cap nh seed : Nat) (hlen : 32 ≤ b.len)
    (hlow : ∀ j, j < 160 → b.val.testBit j = (headerVal P P.preStd 0 nh seed (cap / 64)).testBit j)
    (hcap : 0 < cap) (h64 : cap % 64 = 0) (hlt : cap < 2 ^ 32) (hk : 1 ≤ nh) (hnh : nh < 2 ^ 16) (hseed : seed < 2 ^ 64) :
    parseImage P b = .full cap nh seed (getField b.val 192 64) (cap / 64) := by
  obtain ⟨ha, e3, e4, e5, e6⟩ := accepts_of_header P hP b P.preStd 0 nh seed (cap / 64) hlow (by rw [hP.preStd]; rfl) (by decide)
    (by rw [hP.preStd]; exact hlen) (Nat.ne_of_gt hk) hnh hseed (numLongs_of_cap hcap h64 hlt).1 (numLongs_of_cap hcap h64 hlt).2
  exact parseImage_full_iff.mpr ⟨ha, by rw [e3, hP.emptyMask]; rfl, hlen, (capOf_div64 P h64 hlt).symm, Nat.ne_of_gt hcap, e4.symm, e5.symm, e6.symm, rfl⟩

/-- `initialize_by_size` overwrites the first `W` bits -/
theorem parseImage_init (P : Params) (hP : P.Wire) (len X0 W cap nh seed : Nat) (hW : 256 ≤ W) (hlen : 32 ≤ len)
    (hcap : 0 < cap) (h64 : cap % 64 = 0) (hlt : cap < 2 ^ 32) (hnh : nh < 2 ^ 16) (hseed : seed < 2 ^ 64) (hk : 1 ≤ nh) :
    parseImage P ⟨len, setField X0 0 W (headerVal P P.preStd 0 nh seed (cap / 64))⟩ = .full cap nh seed 0 (cap / 64) := by
  refine (parseImage_of_header_full P hP _ cap nh seed hlen (fun j hj => ?_) hcap h64 hlt hk hnh hseed).trans ?_
  · have := testBit_setField_in X0 0 W (headerVal P P.preStd 0 nh seed (cap / 64)) j (Nat.lt_trans hj (Nat.lt_of_lt_of_le (by decide) hW))
    rwa [Nat.zero_add] at this
  congr 1
  -- the count field lies inside the overwritten prefix, above the header
  rw [getField_setField_inside _ _ _ _ _ (Nat.le_trans (by decide) hW)]
  apply Nat.eq_of_testBit_eq; intro i
  rw [testBit_getField, headerVal_high _ _ _ _ _ _ _ (Nat.le_trans (by decide) (Nat.le_add_right 192 i))]
  simp

theorem init_bits_clear (P : Params) (X0 W cap nh seed j : Nat) (hj : 256 + j < W) :
    (setField X0 0 W (headerVal P P.preStd 0 nh seed (cap / 64))).testBit (256 + j) = false := by
  have := testBit_setField_in X0 0 W (headerVal P P.preStd 0 nh seed (cap / 64)) (256 + j) hj
  rw [Nat.zero_add] at this
  rw [this]; exact headerVal_high _ _ _ _ _ _ _ (Nat.le_trans (by decide) (Nat.le_add_right 256 j))

theorem parseImage_image_full (P : Params) (hP : P.Wire) (w : World) (f : Filter) (hw : FWF f) (hk : KOK f) (hne : f.isEmpty = false) :
    parseImage P (image P w f) = .full f.capBits f.numHashes f.seed ((if f.dirty then P.dirty else f.nbs) % 2 ^ 64) (f.capBits / 64) := by
  simp only [image, hne, Bool.false_eq_true, if_false]
  refine (parseImage_of_header_full P hP _ f.capBits f.numHashes f.seed
    (by simp only; rw [hP.preStd]; exact Nat.mul_le_mul_left 8 (Nat.le_add_right 4 _))
    (fun j hj => by
      rw [testBit_setField_out _ _ _ _ _ (Or.inl (Nat.lt_trans hj (by decide))), testBit_setField_out _ _ _ _ _ (Or.inl (Nat.lt_trans hj (by decide)))])
    hw.capPos hw.cap64 hk.2 hk.1 hw.nh hw.seed).trans ?_
  rw [getField_setField_disj _ _ _ _ _ _ (Or.inl (by decide)), getField_setField_same]

theorem parseImage_image_empty (P : Params) (hP : P.Wire) (w : World) (f : Filter) (hw : FWF f) (hk : KOK f) (he : f.isEmpty = true) :
    parseImage P (image P w f) = .emptyImg f.capBits f.numHashes f.seed := by
  have hnl := numLongs_of_cap hw.capPos hw.cap64 hk.2
  simp only [image, he, if_true]
  obtain ⟨ha, e3, e4, e5, e6⟩ := accepts_of_header P hP
    ⟨8 * P.preEmpty, headerVal P P.preEmpty P.emptyMask f.numHashes f.seed (f.capBits / 64)⟩ P.preEmpty P.emptyMask f.numHashes f.seed (f.capBits / 64)
    (fun _ _ => rfl) (by rw [hP.preEmpty, hP.emptyMask]; rfl) (by rw [hP.emptyMask]; decide) (Nat.le_of_eq (Nat.mul_comm _ _))
    (Nat.ne_of_gt hk.1) hw.nh hw.seed hnl.1 hnl.2
  exact parseImage_empty_iff.mpr ⟨ha, by rw [e3, hP.emptyMask]; rfl, by rw [e6, capOf_div64 P hw.cap64 hk.2], e4.symm, e5.symm⟩

theorem parseImage_write (P : Params) (b : Block) (X' : Nat) (hlow : ∀ j, j < 192 → X'.testBit j = b.val.testBit j)
    (cap nh seed nbs nl : Nat) (h : parseImage P b = .full cap nh seed nbs nl) :
    parseImage P ⟨b.len, X'⟩ = .full cap nh seed (getField X' 192 64) nl := by
  have e : ∀ off w, off + w ≤ 192 → getField b.val off w = getField X' off w :=
    fun off w hw => getField_congr _ _ _ _ (fun i hi => (hlow _ (Nat.lt_of_lt_of_le (Nat.add_lt_add_left hi off) hw)).symm)
  obtain ⟨ha, hflag, hlen, hcap, hcap0, hnh, hseed, hnl, -⟩ := parseImage_full_iff.mp h
  rw [e _ _ (by decide)] at hflag hnh hseed hnl
  exact parseImage_full_iff.mpr ⟨ha.of_low rfl (fun j hj => hlow j (Nat.lt_trans hj (by decide))), hflag, hlen, hcap, hcap0, hnh, hseed, hnl, rfl⟩

theorem hdrCfg_of_parse {P : Params} {b : Block} {cap nh seed nbs nl : Nat} (h : parseImage P b = .full cap nh seed nbs nl)
    (hlt : cap < 2 ^ 32) : hdrCfg b.val = ⟨cap, nh, seed⟩ := by
  obtain ⟨-, -, -, rfl, -, rfl, rfl, rfl, -⟩ := parseImage_full_iff.mp h
  simp only [hdrCfg, capOf_eq_mod hlt]

end DS.Bloom
