/- The union invariant `UInv`; walking a table into the accumulator, `settle`, `reduce_k`, `internal_update`, `get_result`
   preserve / read it out; along a union history the result depends on the coupon set only. -/
import DSProofs.Lemmas.CpcUnionMat
namespace DS.Cpc

/-- the union holds exactly the coupons `ys` (codes on `2^u.lgK` rows) -/
structure UInv (u : Union) (ys : List Nat) : Prop where
  valid : ∀ y ∈ ys, y < 64 * 2^u.lgK
  accCase : ∀ a, u.acc = some a → a.lgK = u.lgK ∧ Inv a ys ∧ a.window = []
  matCase : u.acc = none → MInv u.lgK u.matrix ys

theorem UInv.ofAcc {L : Nat} {a : Sketch} {m ys : List Nat} (hv : ∀ y ∈ ys, y < 64 * 2^L) (hl : a.lgK = L) (h : Inv a ys)
    (hw : a.window = []) : UInv ⟨L, some a, m⟩ ys :=
  ⟨hv, fun _ e => Option.some.inj e ▸ ⟨hl, h, hw⟩, nofun⟩

theorem UInv.ofMatrix {L : Nat} {m ys : List Nat} (hv : ∀ y ∈ ys, y < 64 * 2^L) (hm : MBits (2^L) m ys)
    (hd : 3 * 2^L ≤ 32 * (distinct ys).length) : UInv ⟨L, none, m⟩ ys :=
  ⟨hv, nofun, fun _ => ⟨hm, hd⟩⟩

theorem UInv.acc_eq_none_iff {u : Union} {ys : List Nat} (h : UInv u ys) :
    u.acc = none ↔ 3 * 2^u.lgK ≤ 32 * (distinct ys).length := by
  cases hacc : u.acc with
  | none => exact iff_of_true rfl (h.matCase hacc).dense
  | some a =>
    obtain ⟨hl, hinv, hw⟩ := h.accCase a hacc
    exact iff_of_false nofun (Nat.not_le.2 (hl ▸ hinv.count ▸ hinv.sparseC hw))

theorem uinv_new (lgK : Nat) : UInv (unionNew lgK) [] := .ofAcc nofun rfl (inv_fresh lgK) rfl

theorem walkTable_lgK (T : HipTables) (acc : Sketch) (table : List Nat) : (walkTable T acc table).lgK = acc.lgK :=
  foldl_lgK T _ acc

theorem inv_walkTable (T : HipTables) (acc : Sketch) (ys : List Nat) (table : List Nat) (h : Inv acc ys) :
    Inv (walkTable T acc table) (ys ++ table.map (foldRc acc.lgK)) :=
  inv_foldl T _ acc ys h (valid_map_foldRc _ _)

theorem sparse_fold_congr (L : Nat) (ys : List Nat) (s : Sketch) (xs : List Nat) (h : Inv s xs)
    (hv : ∀ x ∈ xs, x < 64 * 2^s.lgK) (hw : s.window = []) (b : Nat) :
    b ∈ ys ++ s.table.map (foldRc L) ↔ b ∈ ys ++ xs.map (foldRc L) := by
  rw [List.mem_append, List.mem_append]
  exact or_congr Iff.rfl (mem_map_congr (foldRc L) _ _ (h.sparse_table_mem hv hw) b)

theorem settle_lgK (L : Nat) (acc : Sketch) : (settle L acc).lgK = L := ite_eq_of rfl rfl

theorem uinv_settle (L : Nat) (acc : Sketch) (ys : List Nat) (h : Inv acc ys) (hl : acc.lgK = L)
    (hv : ∀ y ∈ ys, y < 64 * 2^L) : UInv (settle L acc) ys := by
  unfold settle
  by_cases hb : beyondSparse acc.lgK acc.numCoupons = true
  · rw [if_pos hb]
    rw [beyondSparse_iff, hl, h.count] at hb
    exact .ofMatrix hv (hl ▸ mbits_buildBitMatrix acc ys h) hb
  · rw [if_neg hb]
    exact .ofAcc hv hl h (Classical.byContradiction fun hw => hb ((beyondSparse_iff _ _).2 (h.winC hw)))

theorem reduceK_lgK (T : HipTables) (u : Union) (L : Nat) : (reduceK T u L).lgK = L := by
  rcases u with ⟨_, _ | a, _⟩
  · rfl
  · exact ite_eq_of rfl (settle_lgK _ _)

theorem uinv_reduceK (T : HipTables) (u : Union) (ys : List Nat) (L : Nat) (h : UInv u ys) (hL : L ≤ u.lgK) :
    UInv (reduceK T u L) (ys.map (foldRc L)) := by
  rcases u with ⟨K, _ | a, m⟩
  · have hm := h.matCase rfl
    refine .ofMatrix (valid_map_foldRc L ys) ?_ (fold_beyond_sparse K L hL ys h.valid hm.dense)
    exact mbits_orRows L (List.replicate (2^L) 0) [] ys (fun i => m.toArray.getD i 0) (2^K) (mbits_zero _) h.valid
      (fun i c hi hc => by rw [getD_toArray]; exact hm.bits i c hi hc)
      (fun i c hi hc => by rw [getD_toArray]; exact hm.high i c hi hc)
  · obtain ⟨hl, hinv, hw⟩ := h.accCase a rfl
    show UInv (if a.numCoupons = 0 then _ else _) _
    by_cases h0 : a.numCoupons = 0
    · rw [if_pos h0, hinv.stream_nil h0]
      exact uinv_new L
    · rw [if_neg h0]
      exact uinv_settle L _ _
        ((inv_walkTable T (fresh L) [] a.table (inv_fresh L)).stream_congr fun b =>
          mem_map_congr (foldRc L) _ _ (hinv.sparse_table_mem (hl ▸ h.valid) hw) b)
        (walkTable_lgK T (fresh L) a.table) (valid_map_foldRc L ys)

theorem updateBody_lgK (T : HipTables) (u : Union) (s : Sketch) : (updateBody T u s).lgK = u.lgK := by
  rcases u with ⟨_, _ | a, _⟩
  · exact ite_eq_of rfl rfl
  · exact ite_eq_of (ite_eq_of rfl (settle_lgK _ _)) rfl

theorem uinv_updateBody (T : HipTables) (u : Union) (ys : List Nat) (s : Sketch) (xs : List Nat)
    (h : UInv u ys) (hs : Inv s xs) (hv : ∀ x ∈ xs, x < 64 * 2^s.lgK) (hL : u.lgK ≤ s.lgK)
    (hne : s.numCoupons ≠ 0) :
    UInv (updateBody T u s) (ys ++ xs.map (foldRc u.lgK)) := by
  have hvalid : ∀ y ∈ ys ++ xs.map (foldRc u.lgK), y < 64 * 2^u.lgK := fun y hy =>
    (List.mem_append.1 hy).elim (h.valid y) (valid_map_foldRc _ _ y)
  by_cases hsp : determineFlavor s.lgK s.numCoupons = .sparse
  · -- a SPARSE source has no window: its table stands for its stream
    have hsw := hs.window_nil ((flavor_sparse_iff _ _).1 hsp).2
    have hcongr := sparse_fold_congr u.lgK ys s xs hs hv hsw
    rcases u with ⟨L, _ | a, m⟩
    · -- case B
      have hm := h.matCase rfl
      show UInv (if _ then _ else _) _
      rw [if_pos hsp]
      exact .ofMatrix hvalid ((mbits_orTable L m ys s.table hm.toMBits).stream_congr hcongr)
        (Nat.le_trans hm.dense (Nat.mul_le_mul_left 32 (distinct_length_mono ys _ fun a ha => List.mem_append_left _ ha)))
    · -- case A
      obtain ⟨hl, hinv, hw⟩ := h.accCase a rfl
      show UInv (if _ then (if _ then _ else _) else _) _
      rw [if_pos hsp]
      by_cases hrepl : a.numCoupons = 0 ∧ L = s.lgK
      · -- the empty accumulator is replaced by (a copy of) the sketch
        rw [if_pos hrepl, hinv.stream_nil hrepl.1, List.nil_append, hrepl.2, map_foldRc_of_lt _ _ hv]
        exact .ofAcc hv rfl hs hsw
      · rw [if_neg hrepl]
        exact uinv_settle L _ _ ((hl ▸ inv_walkTable T a ys s.table hinv).stream_congr hcongr) (by rw [walkTable_lgK, hl]) hvalid
  · -- cases C and D: a source beyond SPARSE is added to the matrix `m` that holds `ys`
    have hns : 3 * 2^s.lgK ≤ 32 * s.numCoupons := Nat.le_of_not_lt fun hc => hsp ((flavor_sparse_iff _ _).2 ⟨hne, hc⟩)
    have dense := fun m (hm : MBits (2^u.lgK) m ys) =>
      UInv.ofMatrix hvalid (mbits_addDense u.lgK m ys s xs hm hs hv hns) (dense_append u.lgK ys s xs hs hv hL hns)
    rcases u with ⟨L, _ | a, m⟩
    · show UInv (if _ then _ else _) _
      rw [if_neg hsp]; exact dense m (h.matCase rfl).toMBits
    · obtain ⟨hl, hinv, -⟩ := h.accCase a rfl
      show UInv (if _ then _ else _) _
      rw [if_neg hsp]; exact dense _ (hl ▸ mbits_buildBitMatrix a ys hinv)

theorem unionUpdate_lgK (T : HipTables) (u : Union) (s : Sketch) : (unionUpdate T u s).lgK = lgKAfter u.lgK s := by
  unfold unionUpdate lgKAfter
  by_cases h0 : s.numCoupons = 0
  · rw [if_pos ((flavor_empty_iff _ _).2 h0), if_pos h0]
  · rw [if_neg (mt (flavor_empty_iff _ _).1 h0), if_neg h0, updateBody_lgK]
    by_cases hlt : s.lgK < u.lgK
    · rw [if_pos hlt, reduceK_lgK, Nat.min_eq_right (Nat.le_of_lt hlt)]
    · rw [if_neg hlt, Nat.min_eq_left (Nat.le_of_not_lt hlt)]

theorem uinv_unionUpdate (T : HipTables) (u : Union) (ys : List Nat) (s : Sketch) (xs : List Nat)
    (h : UInv u ys) (hs : Inv s xs) (hv : ∀ x ∈ xs, x < 64 * 2^s.lgK) :
    UInv (unionUpdate T u s) (ys.map (foldRc (lgKAfter u.lgK s)) ++ xs.map (foldRc (lgKAfter u.lgK s))) := by
  unfold unionUpdate lgKAfter
  by_cases h0 : s.numCoupons = 0
  · rw [if_pos ((flavor_empty_iff _ _).2 h0), if_pos h0, hs.stream_nil h0, List.map_nil, List.append_nil, map_foldRc_of_lt _ _ h.valid]
    exact h
  · rw [if_neg (mt (flavor_empty_iff _ _).1 h0), if_neg h0]
    by_cases hlt : s.lgK < u.lgK
    · rw [if_pos hlt, Nat.min_eq_right (Nat.le_of_lt hlt)]
      have := uinv_updateBody T (reduceK T u s.lgK) _ s xs (uinv_reduceK T u ys s.lgK h (Nat.le_of_lt hlt)) hs hv
        (by rw [reduceK_lgK]; exact Nat.le_refl _) h0
      rwa [reduceK_lgK] at this
    · rw [if_neg hlt, Nat.min_eq_left (Nat.le_of_not_lt hlt), map_foldRc_of_lt _ _ h.valid]
      exact uinv_updateBody T u ys s xs h hs hv (Nat.le_of_not_lt hlt) h0

/-- `h56`: as in `inv_resultFromMatrix` -/
theorem inv_getResult (u : Union) (ys : List Nat) (h : UInv u ys)
    (h56 : determineCorrectOffset u.lgK (distinct ys).length ≤ 56) :
    Inv (getResult u) ys ∧ (getResult u).lgK = u.lgK := by
  rcases u with ⟨L, _ | a, m⟩
  · exact ⟨inv_resultFromMatrix L m ys (h.matCase rfl) h.valid h56, rfl⟩
  · obtain ⟨hl, hinv, -⟩ := h.accCase a rfl
    simp only [getResult]
    by_cases h0 : a.numCoupons = 0
    · rw [if_pos h0, hinv.stream_nil h0]; exact ⟨inv_fresh _, rfl⟩
    · rw [if_neg h0]; exact ⟨hinv.sketch_congr rfl rfl rfl rfl rfl rfl, hl⟩

theorem lgKAfter_le (l : Nat) (s : Sketch) : lgKAfter l s ≤ l := by unfold lgKAfter; split <;> omega

theorem lgKAfter_right_comm (z : Nat) (x y : Sketch) : lgKAfter (lgKAfter z x) y = lgKAfter (lgKAfter z y) x := by
  unfold lgKAfter
  by_cases hx : x.numCoupons = 0 <;> by_cases hy : y.numCoupons = 0 <;> simp only [hx, hy, if_true, if_false]
  exact Nat.min_right_comm _ _ _

theorem foldl_lgKAfter_le (l : Nat) (ss : List Sketch) : ss.foldl lgKAfter l ≤ l := by
  induction ss generalizing l with
  | nil => exact Nat.le_refl _
  | cons s t ih => exact Nat.le_trans (ih _) (lgKAfter_le l s)

theorem lgKAfter_cases (l : Nat) (s : Sketch) : lgKAfter l s = l ∨ s.numCoupons ≠ 0 ∧ lgKAfter l s = s.lgK := by
  unfold lgKAfter
  by_cases h0 : s.numCoupons = 0
  · rw [if_pos h0]; exact .inl rfl
  · rw [if_neg h0]
    exact (Nat.le_total l s.lgK).imp Nat.min_eq_left fun h => ⟨h0, Nat.min_eq_right h⟩

/-- the fold is the minimum of the initial lg_k and the lg_k of the non-empty inputs -/
theorem foldl_lgKAfter_spec (l : Nat) (ss : List Sketch) :
    (∀ s ∈ ss, s.numCoupons ≠ 0 → ss.foldl lgKAfter l ≤ s.lgK) ∧
    (ss.foldl lgKAfter l = l ∨ ∃ s ∈ ss, s.numCoupons ≠ 0 ∧ ss.foldl lgKAfter l = s.lgK) := by
  induction ss generalizing l with
  | nil => exact ⟨nofun, .inl rfl⟩
  | cons a t ih =>
    obtain ⟨ih1, ih2⟩ := ih (lgKAfter l a)
    refine ⟨fun s hs hne => ?_, ?_⟩
    · rcases List.mem_cons.1 hs with rfl | hs
      · exact Nat.le_trans (foldl_lgKAfter_le _ t) (by rw [lgKAfter, if_neg hne]; exact Nat.min_le_right _ _)
      · exact ih1 s hs hne
    · rcases ih2 with h | ⟨s, hs, hne, he⟩
      · exact (lgKAfter_cases l a).imp h.trans fun ⟨hne, h'⟩ => ⟨a, List.mem_cons_self, hne, h.trans h'⟩
      · exact .inr ⟨s, List.mem_cons_of_mem _ hs, hne, he⟩

theorem uinv_foldl (T : HipTables) (inputs : List (Sketch × List Nat))
    (hin : ∀ p ∈ inputs, Inv p.1 p.2 ∧ ∀ x ∈ p.2, x < 64 * 2^p.1.lgK) (u : Union) (ys : List Nat) (h : UInv u ys) :
    let L := (inputs.map Prod.fst).foldl lgKAfter u.lgK
    let u' := (inputs.map Prod.fst).foldl (unionUpdate T) u
    u'.lgK = L ∧ UInv u' (ys.map (foldRc L) ++ inputs.flatMap (fun p => p.2.map (foldRc L))) := by
  induction inputs generalizing u ys with
  | nil =>
    simp only [List.map_nil, List.foldl_nil, List.flatMap_nil, List.append_nil, true_and]
    rw [map_foldRc_of_lt _ _ h.valid]; exact h
  | cons p t ih =>
    have hp := hin p List.mem_cons_self
    have ht : ∀ q ∈ t, Inv q.1 q.2 ∧ ∀ x ∈ q.2, x < 64 * 2^q.1.lgK := fun q hq => hin q (List.mem_cons_of_mem _ hq)
    have h1 := uinv_unionUpdate T u ys p.1 p.2 h hp.1 hp.2
    have hl1 := unionUpdate_lgK T u p.1
    have := ih ht (unionUpdate T u p.1) _ h1
    simp only [List.map_cons, List.foldl_cons, List.flatMap_cons]
    rw [hl1] at this
    refine ⟨this.1, ?_⟩
    have hle : (t.map Prod.fst).foldl lgKAfter (lgKAfter u.lgK p.1) ≤ lgKAfter u.lgK p.1 := foldl_lgKAfter_le _ _
    have key := this.2
    rwa [List.map_append, map_foldRc_foldRc _ _ _ hle, map_foldRc_foldRc _ _ _ hle, List.append_assoc] at key

theorem uinv_unionRun (T : HipTables) (lgK0 : Nat) (inputs : List (Sketch × List Nat))
    (hin : ∀ p ∈ inputs, Inv p.1 p.2 ∧ ∀ x ∈ p.2, x < 64 * 2^p.1.lgK) :
    (unionRun T lgK0 (inputs.map Prod.fst)).lgK = unionLgK lgK0 (inputs.map Prod.fst) ∧
    UInv (unionRun T lgK0 (inputs.map Prod.fst))
      (inputs.flatMap fun p => p.2.map (foldRc (unionLgK lgK0 (inputs.map Prod.fst)))) :=
  uinv_foldl T inputs hin (unionNew lgK0) [] (uinv_new lgK0)

theorem getResult_congr (u u' : Union) (ys ys' : List Nat) (h : UInv u ys) (h' : UInv u' ys') (hl : u.lgK = u'.lgK)
    (he : ∀ a, a ∈ ys ↔ a ∈ ys') : sameContent (getResult u) (getResult u') := by
  have hcnt : (distinct ys).length = (distinct ys').length := distinct_length_congr _ _ he
  -- both have given up the accumulator or neither has
  have hiff : u.acc = none ↔ u'.acc = none := by rw [h.acc_eq_none_iff, h'.acc_eq_none_iff, hl, hcnt]
  rcases u with ⟨L, _ | a, m⟩ <;> rcases u' with ⟨L', _ | a', m'⟩
  · cases hl
    rw [mbits_ext (2^L) m m' ys ys' (h.matCase rfl).toMBits (h'.matCase rfl).toMBits he]
    exact ⟨rfl, rfl, rfl, rfl, rfl, rfl, rfl⟩
  · exact nomatch hiff.1 rfl
  · exact nomatch hiff.2 rfl
  · obtain ⟨hal, hinv, hw⟩ := h.accCase a rfl
    obtain ⟨hal', hinv', hw'⟩ := h'.accCase a' rfl
    have hc : a.numCoupons = a'.numCoupons := by rw [hinv.count, hinv'.count, hcnt]
    show sameContent (if _ then _ else _) (if _ then _ else _)
    by_cases h0 : a.numCoupons = 0
    · rw [if_pos h0, if_pos (hc ▸ h0)]
      cases hl; exact ⟨rfl, rfl, rfl, rfl, rfl, rfl, rfl⟩
    · rw [if_neg h0, if_neg (hc ▸ h0)]
      have ho := hinv.rep.sparse hw
      have ho' := hinv'.rep.sparse hw'
      refine ⟨hal.trans (hl.trans hal'.symm), hc, ?_, hw.trans hw'.symm, ho.trans ho'.symm,
        (Nat.le_zero.1 (ho ▸ hinv.ficLe)).trans (Nat.le_zero.1 (ho' ▸ hinv'.ficLe)).symm, rfl⟩
      refine sorted_ext hinv.rep.sorted hinv'.rep.sorted fun x => ?_
      rw [hinv.sparse_table_mem (hal ▸ h.valid) hw, hinv'.sparse_table_mem (hal' ▸ h'.valid) hw', he]

end DS.Cpc
