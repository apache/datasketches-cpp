/- The const queries keep the sketch invariant; along a history every object of the store satisfies it and refines the specification store. -/
import DSProofs.Lemmas.ReqMerge
import DSProofs.Lemmas.ReqEach
namespace DS.Req

variable {ρ : Type}

/-- what sorting some of the compactors of `cs` (the side effect of the const queries) leaves as it was -/
structure SortedSpec (T : Tun) (hra : Bool) (h : Nat) (cs cs' : List (Compactor ρ)) : Prop where
  inv : CsInv T hra h cs'
  items : sumItems cs' = sumItems cs
  cap : sumCap T cs' = sumCap T cs
  ne : AllNE cs → AllNE cs'
  len : cs'.length = cs.length
  ent : entered0L cs' = entered0L cs
  wp : ∀ p, weightP p cs' = weightP p cs
  ex : ExactL cs → ExactL cs'

theorem SortedSpec.refl {T : Tun} {hra : Bool} {h : Nat} {cs : List (Compactor ρ)} (hinv : CsInv T hra h cs) : SortedSpec T hra h cs cs :=
  ⟨hinv, rfl, rfl, id, rfl, rfl, fun _ => rfl, id⟩

theorem SortedSpec.sort_cons {T : Tun} {hra : Bool} {h : Nat} {c : Compactor ρ} {t t' : List (Compactor ρ)} (hc : CInv T hra h c)
    (I : SortedSpec T hra (h + 1) t t') : SortedSpec T hra h (c :: t) (c.sort :: t') := by
  refine ⟨⟨sort_CInv hc, I.inv⟩, ?_, ?_, ?_, congrArg (· + 1) I.len, sort_entered c, fun p => ?_, fun hex c0 hc0 p => ?_⟩
  · rw [sumItems_cons, sumItems_cons, sort_length, I.items]
  · rw [sumCap_cons, sumCap_cons, sort_nomCap, I.cap]
  · exact fun hne => AllNE_cons.2 ⟨sort_ne (AllNE_cons.1 hne).1, I.ne (AllNE_cons.1 hne).2⟩
  · rw [weightP_cons, weightP_cons, sort_cntP, sort_lgWeight, I.wp p]
  · obtain ⟨rfl, ht⟩ := List.cons.inj hc0
    have : t = [] := List.length_eq_zero_iff.1 (I.len.symm.trans (congrArg List.length ht))
    rw [sort_cntP, sort_entered]; exact hex c (this ▸ rfl) p

theorem sortAll_spec {T : Tun} {hra : Bool} : ∀ {h : Nat} {cs : List (Compactor ρ)}, CsInv T hra h cs → SortedSpec T hra h cs (sortAll cs)
  | _, [], hinv => .refl hinv
  | _, _ :: _, hinv => .sort_cons hinv.1 (sortAll_spec hinv.2)

theorem sortLevel0_spec {T : Tun} {hra : Bool} {h : Nat} : ∀ {cs : List (Compactor ρ)}, CsInv T hra h cs → SortedSpec T hra h cs (sortLevel0 cs)
  | [], hinv => .refl hinv
  | _ :: _, hinv => .sort_cons hinv.1 (.refl hinv.2)

theorem SInv.sorted {T : Tun} {s : Sketch ρ} (h : SInv T s) {cs' : List (Compactor ρ)} (I : SortedSpec T s.hra 0 s.compactors cs') :
    SInv T { s with compactors := cs' } ∧ entered0L cs' = entered0 s := by
  obtain ⟨k2, -, nonnil, ret, cap, tw, ne, one, ent, mn, mx, ex⟩ := h
  have e : entered0L cs' = entered0 s := I.ent
  rw [← e] at ent mn mx
  exact ⟨⟨k2, I.inv, fun e => nonnil (List.length_eq_zero_iff.1 (I.len.symm.trans (congrArg List.length e))), ret.trans I.items.symm,
    cap.trans I.cap.symm, tw.trans (I.wp _).symm, fun hn => I.ne (ne hn), fun hn => I.len.trans (one hn), ent, mn, mx, I.ex ex⟩, e⟩

theorem afterRank_SInv {T : Tun} (s : Sketch ρ) (h : SInv T s) : SInv T s.afterRank ∧ entered0 s.afterRank = entered0 s :=
  h.sorted (sortAll_spec h.cs)

theorem afterView_SInv {T : Tun} (s : Sketch ρ) (h : SInv T s) : SInv T s.afterView ∧ entered0 s.afterView = entered0 s :=
  h.sorted (sortLevel0_spec h.cs)

def SkRefines (T : Tun) (s : Sketch ρ) (sp : SpecSk) : Prop := SInv T s ∧ s.hra = sp.hra ∧ entered0 s = sp.items

abbrev StoreRefines (T : Tun) (st : Store ρ) (m : List (Nat × SpecSk)) : Prop := ALRel (SkRefines T) st m

theorem StoreRefines.sinv {T : Tun} {st : Store ρ} {m : List (Nat × SpecSk)} (h : StoreRefines T st m) {id : Nat} {s : Sketch ρ}
    (hg : st.get id = some s) : SInv T s :=
  let ⟨_, _, hs⟩ := ALRel_get_some h hg; hs.1

theorem StoreRefines.query {T : Tun} {st : Store ρ} {m : List (Nat × SpecSk)} (h : StoreRefines T st m) {id : Nat} {a a' : Sketch ρ}
    (hg : st.get id = some a) (ha : SInv T a → SInv T a' ∧ entered0 a' = entered0 a) (hhra : a'.hra = a.hra) :
    StoreRefines T (st.set id a') m := by
  obtain ⟨b, g2, hab⟩ := ALRel_get_some h hg
  have hs := ALRel_set h id (b := b) ⟨(ha hab.1).1, hhra.trans hab.2.1, (ha hab.1).2.trans hab.2.2⟩
  rwa [AL_set_get_self m id b g2] at hs

theorem stepOp_refines {T : Tun} (hT : TunOK T) (F : SecFns ρ) (st : Store ρ) (m : List (Nat × SpecSk)) (acc : Acc) (op : Op)
    (h : StoreRefines T st m) :
    StoreRefines T (stepOp T F st acc op).1 (specStep m op) := by
  cases op with
  | new id k hra =>
    simp only [stepOp, specStep]
    exact ALRel_set h id ⟨new_SInv hT F k hra acc.peek, rfl, mkC_entered ..⟩
  | upd id x =>
    simp only [stepOp, specStep]
    rcases ALRel_get h id with ⟨h1, h2⟩ | ⟨a, b, h1, h2, hab⟩
    · simp only [Store.get, h1, h2]; exact h
    · simp only [Store.get, h1, h2]
      have u := update_spec hT F a x acc hab.1
      exact ALRel_set h id ⟨u.inv, u.hra.trans hab.2.1, u.ent.trans (congrArg _ hab.2.2)⟩
  | merge i j =>
    simp only [stepOp, specStep]
    split
    · exact h
    · rcases ALRel_get h i with ⟨h1, h2⟩ | ⟨a, b, h1, h2, hab⟩
      · simp only [Store.get, h1, h2]; exact h
      · rcases ALRel_get h j with ⟨g1, g2⟩ | ⟨a', b', g1, g2, hab'⟩
        · simp only [Store.get, h1, h2, g1, g2]; exact h
        · simp only [Store.get, h1, h2, g1, g2]
          cases hm : a.merge T F a' acc with
          | none =>
            simp only
            have := merge_eq_none.1 hm
            rw [hab.2.1, hab'.2.1] at this
            simp only [this, if_true]; exact h
          | some r =>
            obtain ⟨⟨m1, _, m3, m4⟩, m6⟩ := merge_spec hT F a a' acc hab.1 hab'.1 r hm
            have : (b.hra != b'.hra) = false := by rw [← hab.2.1, ← hab'.2.1, m6]; simp
            simp only [this, Bool.false_eq_true, if_false]
            exact ALRel_set h i ⟨m1, m4.trans hab.2.1, by rw [m3, hab.2.2, hab'.2.2]⟩
  | copy i j =>
    simp only [stepOp, specStep]
    rcases ALRel_get h i with ⟨h1, h2⟩ | ⟨a, b, h1, h2, hab⟩
    · simp only [Store.get, h1, h2]; exact h
    · simp only [Store.get, h1, h2]; exact ALRel_set h j hab
  | rankq id =>
    simp only [stepOp, specStep]
    cases hg : st.get id with
    | none => exact h
    | some a => exact h.query hg (afterRank_SInv a) rfl
  | viewq id =>
    simp only [stepOp, specStep]
    cases hg : st.get id with
    | none => exact h
    | some a => exact h.query hg (afterView_SInv a) rfl

theorem runOps_refines {T : Tun} (hT : TunOK T) (F : SecFns ρ) (ops : List Op) : ∀ (st : Store ρ) (m : List (Nat × SpecSk)) (acc : Acc),
    StoreRefines T st m → StoreRefines T (runOps T F st acc ops).1 (specRun m ops) := by
  induction ops with
  | nil => intro st m acc h; exact h
  | cons op ops ih => intro st m acc h; exact ih _ _ _ (stepOp_refines hT F st m acc op h)

theorem SInv_ops {T : Tun} (hT : TunOK T) (F : SecFns ρ) (t : Bool) : OpsPres T F True (SInv T) (fun a => a.throws = t) where
  new k hra acc ha := ⟨new_SInv hT F k hra acc.peek, (drawIf_throws acc _ _).trans ha⟩
  update s x acc hs ha := ⟨(update_spec hT F s x acc hs).inv, (update_spec hT F s x acc hs).throws.trans ha⟩
  merge _ s o acc r hs ho ha hr := ⟨(merge_spec hT F s o acc hs ho r hr).1.inv, (merge_spec hT F s o acc hs ho r hr).1.throws.trans ha⟩
  rank s hs := (afterRank_SInv s hs).1
  view s hs := (afterView_SInv s hs).1

theorem run_refines {T : Tun} (hT : TunOK T) (F : SecFns ρ) (ops : List Op) (coins : List Bool) (id : Nat) (s : Sketch ρ)
    (h : (run T F ops coins).1.get id = some s) :
    ∃ sp, AL.get (specRun [] ops) id = some sp ∧ SkRefines T s sp :=
  ALRel_get_some (runOps_refines hT F ops ([] : Store ρ) [] (Acc.init coins) ALRel_nil) h

end DS.Req
