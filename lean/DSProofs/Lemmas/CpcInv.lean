/- The invariant `Inv s xs` of the CPC sketch model, and the ways a step re-establishes it: a duplicate coupon (`inv_dup`),
   a novel coupon (the content of the new state: `AddsBit.snoc`; `Inv` itself is put together in CpcUpdate, `Inv.of_records`),
   a state that re-encodes the same bits (`inv_reencode`) or is read off a matrix (`inv_of_matrix`). -/
import DSProofs.Lemmas.CpcRep
namespace DS.Cpc

/-- `s` is a correct representation of the coupon stream `xs` -/
structure Inv (s : Sketch) (xs : List Nat) : Prop where
  rep : Rep s
  bits : ∀ r c, r < 2^s.lgK → c < 64 → (s.bit r c = true ↔ r * 64 + c ∈ xs)
  count : s.numCoupons = (distinct xs).length
  ficLe : s.fic ≤ s.offset
  -- every column below `fic` is full in every row, which is why `row_col_update` may ignore coupons there
  ficFull : ∀ r c, r < 2^s.lgK → c < s.fic → s.bit r c = true
  -- the window exists iff `32 C ≥ 3 K` (the flavor is beyond SPARSE)
  sparseC : s.window = [] → 32 * s.numCoupons < 3 * 2^s.lgK
  winC : s.window ≠ [] → 3 * 2^s.lgK ≤ 32 * s.numCoupons
  -- `C` lies in the range of coupon counts of the offset, `(19 + 8 off) K ≤ 8 C < (27 + 8 off) K`; the upper end is open at
  -- offset 56, where the model leaves the window (`move_window` beyond 56 is a `logic_error` in the code)
  offHi : s.window ≠ [] → (8 * s.numCoupons < (27 + 8 * s.offset) * 2^s.lgK ∨ s.offset = 56)
  offLo : 1 ≤ s.offset → (19 + 8 * s.offset) * 2^s.lgK ≤ 8 * s.numCoupons

/-- everything observable of a sketch except the HIP registers -/
def sameContent (r r' : Sketch) : Prop :=
  r.lgK = r'.lgK ∧ r.numCoupons = r'.numCoupons ∧ r.table = r'.table ∧ r.window = r'.window ∧
  r.offset = r'.offset ∧ r.fic = r'.fic ∧ r.merged = r'.merged

theorem Inv.window_nil {s : Sketch} {xs : List Nat} (h : Inv s xs) (hc : 32 * s.numCoupons < 3 * 2^s.lgK) : s.window = [] :=
  Classical.byContradiction fun hw => Nat.not_le.2 hc (h.winC hw)

theorem Inv.window_ne {s : Sketch} {xs : List Nat} (h : Inv s xs) (hc : 3 * 2^s.lgK ≤ 32 * s.numCoupons) : s.window ≠ [] :=
  fun hw => Nat.not_le.2 (h.sparseC hw) hc

/-- below `27 K / 8` coupons the window has not moved: offset 1 starts at `(19 + 8) K / 8` -/
theorem Inv.offset_zero_of_lt27 {s : Sketch} {xs : List Nat} (h : Inv s xs) (h27 : 8 * s.numCoupons < 27 * 2^s.lgK) : s.offset = 0 :=
  Nat.eq_zero_of_not_pos fun hp => Nat.lt_irrefl _ (Nat.lt_of_le_of_lt
    (Nat.le_trans (Nat.mul_le_mul_right _ (show 27 ≤ 19 + 8 * s.offset by omega)) (h.offLo hp)) h27)

theorem Inv.offset_eq {s : Sketch} {xs : List Nat} (h : Inv s xs) :
    s.offset = min 56 (determineCorrectOffset s.lgK s.numCoupons) := by
  have hkpos := Nat.two_pow_pos s.lgK
  by_cases hw : s.window = []
  · have hc := h.sparseC hw
    rw [h.rep.sparse hw, dco_eq s.lgK _ 0 (by omega) (by omega)]; rfl
  · rcases h.offHi hw with hhi | h56
    · rw [dco_eq s.lgK _ s.offset hhi h.offLo, Nat.min_eq_right h.rep.offLe]
    · have := le_dco s.lgK _ 56 (h56 ▸ h.offLo (by omega))
      rw [h56, Nat.min_eq_left this]

theorem Inv.bit_iff_mem {s : Sketch} {xs : List Nat} (h : Inv s xs) (a : Nat) (ha : a < 64 * 2^s.lgK) :
    s.bit (a / 64) (a % 64) = true ↔ a ∈ xs := by
  have := h.bits (a / 64) (a % 64) (Nat.div_lt_of_lt_mul ha) (Nat.mod_lt _ (by decide))
  rwa [Nat.div_add_mod'] at this

theorem Inv.stream_nil {s : Sketch} {xs : List Nat} (h : Inv s xs) (h0 : s.numCoupons = 0) : xs = [] := by
  cases xs with
  | nil => rfl
  | cons a t =>
    have := List.length_pos_of_mem ((mem_distinct a (a :: t)).2 List.mem_cons_self)
    have := h.count
    omega

theorem Inv.sparse_table_mem {s : Sketch} {xs : List Nat} (h : Inv s xs) (hv : ∀ x ∈ xs, x < 64 * 2^s.lgK)
    (hw : s.window = []) (a : Nat) : a ∈ s.table ↔ a ∈ xs := by
  have hbit : s.bit (a / 64) (a % 64) = decide (a ∈ s.table) := by simp [Sketch.bit, hw, Nat.div_add_mod']
  constructor
  · intro ha; exact (h.bit_iff_mem a (h.rep.tbl_lt a ha)).1 (by rw [hbit]; simpa using ha)
  · intro ha; simpa [hbit] using (h.bit_iff_mem a (hv a ha)).2 ha

theorem Inv.nil_of_empty {s : Sketch} {xs : List Nat} (h : Inv s xs) (hv : ∀ x ∈ xs, x < 64 * 2^s.lgK)
    (h0 : s.numCoupons = 0) : s.table = [] ∧ s.window = [] := by
  have hw := h.window_nil (h0 ▸ Nat.mul_pos (by decide) (Nat.two_pow_pos _))
  refine ⟨List.eq_nil_iff_forall_not_mem.2 fun a ha => ?_, hw⟩
  have := (h.sparse_table_mem hv hw a).1 ha
  rw [h.stream_nil h0] at this
  cases this

@[simp] theorem updateHip_lgK (T s rc) : (updateHip T s rc).lgK = s.lgK := rfl
@[simp] theorem updateHip_numCoupons (T s rc) : (updateHip T s rc).numCoupons = s.numCoupons := rfl
@[simp] theorem updateHip_table (T s rc) : (updateHip T s rc).table = s.table := rfl
@[simp] theorem updateHip_window (T s rc) : (updateHip T s rc).window = s.window := rfl
@[simp] theorem updateHip_offset (T s rc) : (updateHip T s rc).offset = s.offset := rfl
@[simp] theorem updateHip_fic (T s rc) : (updateHip T s rc).fic = s.fic := rfl
@[simp] theorem updateHip_merged (T s rc) : (updateHip T s rc).merged = s.merged := rfl
@[simp] theorem updateHip_bit (T s rc r c) : (updateHip T s rc).bit r c = s.bit r c := rfl

theorem rep_updateHip (T s rc) (h : Rep s) : Rep (updateHip T s rc) := ⟨h.1, h.2, h.3, h.4, h.5, h.6, h.7⟩

theorem inv_fresh (lgK : Nat) : Inv (fresh lgK) [] := by
  refine ⟨⟨?_, ?_, ?_, ?_, ?_, ?_, ?_⟩, ?_, ?_, ?_, ?_, ?_, ?_, ?_, ?_⟩ <;>
    simp [fresh, Sketch.bit, distinct]
  exact Nat.two_pow_pos lgK

theorem Inv.stream_congr {s : Sketch} {xs xs' : List Nat} (h : Inv s xs) (he : ∀ a, a ∈ xs ↔ a ∈ xs') : Inv s xs' :=
  ⟨h.rep, fun r c hr hc => by rw [h.bits r c hr hc, he], by rw [h.count, distinct_length_congr xs xs' he],
   h.ficLe, h.ficFull, h.sparseC, h.winC, h.offHi, h.offLo⟩

theorem Inv.sketch_congr {s s' : Sketch} {xs : List Nat} (h : Inv s xs) (e1 : s'.lgK = s.lgK) (e2 : s'.numCoupons = s.numCoupons)
    (e3 : s'.table = s.table) (e4 : s'.window = s.window) (e5 : s'.offset = s.offset) (e6 : s'.fic = s.fic) : Inv s' xs := by
  cases s; cases s'
  cases e1; cases e2; cases e3; cases e4; cases e5; cases e6
  exact ⟨h.rep.sketch_congr rfl rfl rfl rfl, h.bits, h.count, h.ficLe, h.ficFull, h.sparseC, h.winC, h.offHi, h.offLo⟩

theorem inv_dup (s : Sketch) (xs : List Nat) (rc : Nat) (h : Inv s xs) (hm : rc ∈ xs) : Inv s (xs ++ [rc]) :=
  h.stream_congr fun a => by
    rw [List.mem_append, List.mem_singleton]
    exact ⟨Or.inl, fun ha => ha.elim id fun e => e ▸ hm⟩

/-- What an update that records the novel coupon `(r, c)` does to the bits.  With `Inv s xs` it gives the bits and the count of
`xs ++ [r * 64 + c]` (`AddsBit.snoc`), two of the fields of `Inv s'`. -/
def AddsBit (s s' : Sketch) (r c : Nat) : Prop :=
  ∀ r' c', r' < 2^s.lgK → c' < 64 → s'.bit r' c' = (s.bit r' c' || (decide (r' = r) && decide (c' = c)))

theorem AddsBit.snoc {s s' : Sketch} {xs : List Nat} {r c : Nat} (hb : AddsBit s s' r c) (h : Inv s xs)
    (hr : r < 2^s.lgK) (hc : c < 64) (hnew : s.bit r c = false) :
    (∀ r' c', r' < 2^s.lgK → c' < 64 → (s'.bit r' c' = true ↔ r' * 64 + c' ∈ xs ++ [r * 64 + c])) ∧
    (distinct (xs ++ [r * 64 + c])).length = s.numCoupons + 1 := by
  have hnm : r * 64 + c ∉ xs := fun hm => by
    have := (h.bits r c hr hc).2 hm
    rw [hnew] at this; exact Bool.noConfusion this
  refine ⟨fun r' c' hr' hc' => ?_, by rw [distinct_append_singleton_not_mem xs _ hnm, h.count]⟩
  rw [hb r' c' hr' hc', List.mem_append, List.mem_singleton, Bool.or_eq_true, h.bits r' c' hr' hc', rc_inj r c r' c' hc hc']
  simp only [Bool.and_eq_true, decide_eq_true_eq]

theorem inv_reencode (s s' : Sketch) (xs : List Nat) (h : Inv s xs)
    (hlg : s'.lgK = s.lgK) (hrep : Rep s')
    (hbits : ∀ r c, r < 2^s.lgK → c < 64 → s'.bit r c = s.bit r c)
    (hcount : s'.numCoupons = s.numCoupons)
    (hficLe : s'.fic ≤ s'.offset)
    (hficFull : ∀ r c, r < 2^s.lgK → c < s'.fic → s'.bit r c = true)
    (hsp : s'.window = [] → 32 * s'.numCoupons < 3 * 2^s.lgK)
    (hwin : s'.window ≠ [] → 3 * 2^s.lgK ≤ 32 * s'.numCoupons)
    (hhi : s'.window ≠ [] → (8 * s'.numCoupons < (27 + 8 * s'.offset) * 2^s.lgK ∨ s'.offset = 56))
    (hlo : 1 ≤ s'.offset → (19 + 8 * s'.offset) * 2^s.lgK ≤ 8 * s'.numCoupons) :
    Inv s' xs := by
  rw [← hlg] at hbits hficFull hsp hwin hhi hlo
  exact ⟨hrep, fun r c hr hc => by rw [hbits r c hr hc]; exact h.bits r c (hlg ▸ hr) hc, hcount ▸ h.count,
    hficLe, hficFull, hsp, hwin, hhi, hlo⟩

theorem mbits_buildBitMatrix (s : Sketch) (xs : List Nat) (h : Inv s xs) : MBits (2^s.lgK) (buildBitMatrix s) xs :=
  mbits_of_rep s xs h.rep h.bits

theorem inv_of_matrix (s : Sketch) (off : Nat) (m : List Nat) (ys : List Nat) (h : ReadsMatrix s off m.toArray)
    (hm : MBits (2^s.lgK) m ys) (ho : off ≤ 56) (hcount : s.numCoupons = (distinct ys).length)
    (hwin : 3 * 2^s.lgK ≤ 32 * s.numCoupons)
    (hhi : 8 * s.numCoupons < (27 + 8 * off) * 2^s.lgK ∨ off = 56)
    (hlo : 1 ≤ off → (19 + 8 * off) * 2^s.lgK ≤ 8 * s.numCoupons) : Inv s ys :=
  ⟨h.rep ho, fun r c hr hc => by rw [h.bit r c hr hc, getD_toArray]; exact hm.bits r c hr hc, hcount, h.ficLe,
    h.ficFull ho, fun e => absurd e h.window_ne, fun _ => hwin, fun _ => h.offset ▸ hhi, fun h1 => h.offset ▸ hlo (h.offset ▸ h1)⟩

end DS.Cpc
