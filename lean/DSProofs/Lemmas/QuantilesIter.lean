/- The `const_iterator` of the classic quantiles sketch, exactly as coded (DSModel/Quantiles/Query.lean), yields on every sketch
satisfying the invariant the base buffer with weight 1, then the valid levels with weights `2^(i+1)`. -/
import DSProofs.Lemmas.QuantilesMerge
namespace DS.Quantiles

variable {α : Type}

/-- the `(item, weight)` pairs of the levels, the first level with weight `W`, doubling upwards -/
def pairsLevels : Nat → List (List α) → List (α × Nat)
  | _, [] => []
  | W, l :: r => l.map (fun x => (x, W)) ++ pairsLevels (2 * W) r

/-- what the iterator is to yield: the base buffer with weight 1, then the levels from weight 2 on -/
def expectedIter (s : Sketch α) : List (α × Nat) := s.bb.map (fun x => (x, 1)) ++ pairsLevels 2 s.levels

/-- number of items in the levels -/
def totalLen : List (List α) → Nat
  | [] => 0
  | l :: r => l.length + totalLen r

theorem pairsLevels_length (W : Nat) (lv : List (List α)) : (pairsLevels W lv).length = totalLen lv := by
  induction lv generalizing W with
  | nil => rfl
  | cons l r ih => simp [pairsLevels, totalLen, ih]

theorem sum_snd_map_pair (W : Nat) (l : List α) : ((l.map (fun x => (x, W))).map (·.2)).sum = W * l.length := by
  rw [List.map_map]; exact (sum_map_const l W).trans (Nat.mul_comm _ _)

theorem pairsLevels_wsum (W : Nat) (lv : List (List α)) :
    ((pairsLevels W lv).map (·.2)).sum = wLevels (fun _ => true) W lv := by
  induction lv generalizing W with
  | nil => rfl
  | cons l r ih => rw [pairsLevels, List.map_append, List.sum_append, ih, sum_snd_map_pair, wLevels, List.countP_true]

theorem LevelsShape.totalLen_eq {S : List α → Prop} {k : Nat} :
    ∀ {lv : List (List α)} {b : Nat}, LevelsShape S k lv b → totalLen lv = k * popcount b := by
  intro lv
  induction lv with
  | nil => intro b h; simp only [LevelsShape] at h; subst h; simp [totalLen, popcount_zero]
  | cons l r ih =>
    intro b h
    rw [totalLen, ih h.2.2, h.1, popcount_step b, Nat.mul_add]
    rcases Nat.mod_two_eq_zero_or_one b with h0 | h1
    · simp [h0]
    · simp [h1]

theorem LevelsShape.wLevels_true {S : List α → Prop} {k : Nat} :
    ∀ {lv : List (List α)} {b : Nat} (W : Nat), LevelsShape S k lv b → wLevels (fun _ => true) W lv = W * (k * b) := by
  intro lv
  induction lv with
  | nil => intro b W h; cases h; rfl
  | cons l r ih =>
    intro b W h
    rw [wLevels, ih (2 * W) h.2.2, List.countP_true, h.1]
    conv => rhs; rw [← Nat.div_add_mod b 2]
    rcases Nat.mod_two_eq_zero_or_one b with h0 | h1
    · rw [h0, if_neg Nat.zero_ne_one, Nat.mul_zero, Nat.zero_add, Nat.add_zero, Nat.mul_assoc, Nat.mul_left_comm 2 W, Nat.mul_left_comm 2 k]
    · rw [h1, if_pos rfl, Nat.mul_add, Nat.mul_add, Nat.mul_one, Nat.add_comm, Nat.mul_assoc, Nat.mul_left_comm 2 W, Nat.mul_left_comm 2 k]

theorem expectedIter_facts {c : Cmp α} {S : List α → Prop} {s : Sketch α} (h : Inv c S s) :
    (expectedIter s).length = s.numRetained ∧ ((expectedIter s).map (·.2)).sum = s.n := by
  constructor
  · simp only [expectedIter, List.length_append, List.length_map, pairsLevels_length, h.lv_shape.totalLen_eq,
      Sketch.numRetained, computeRetained, h.bb_len, h.bits_eq]
  · rw [expectedIter, List.map_append, List.sum_append, pairsLevels_wsum, h.lv_shape.wLevels_true, sum_snd_map_pair, Nat.one_mul,
      h.bb_len, h.bits_eq]
    have := Nat.mod_add_div s.n (2 * s.k)
    simp only [Nat.mul_assoc] at this ⊢
    exact this

theorem totalLen_le_wLevels (W : Nat) (hW : 0 < W) (lv : List (List α)) : totalLen lv ≤ wLevels (fun _ => true) W lv := by
  induction lv generalizing W with
  | nil => exact Nat.le_refl 0
  | cons l r ih =>
    rw [totalLen, wLevels, List.countP_true]
    exact Nat.add_le_add (Nat.le_mul_of_pos_left _ hW) (ih (2 * W) (Nat.mul_pos Nat.two_pos hW))

/-- for a triple in the order `advFrom` returns, `(level, bits, weight)` -/
def mkIt (r : Nat × Nat × Nat) : Iter := { level := some r.1, index := 0, bits := r.2.1, weight := r.2.2 }

/-- where the constructor's loop and the `do … while` of `operator++` both stop: the start of the lowest valid level from `L` on
(`b ≠ 0`: the pattern shifted to `L`; `W`: the weight of level `L`).  `skipZeros` returns `(level, weight, bits)`, not in
`advFrom`'s order -/
def firstValid (L W b : Nat) : Iter :=
  { level := some (skipZeros L W b).1, index := 0, bits := (skipZeros L W b).2.2, weight := (skipZeros L W b).2.1 }

theorem firstValid_odd {L W b : Nat} (h : b % 2 = 1) :
    firstValid L W b = { level := some L, index := 0, bits := b, weight := W } := by
  have hb : b ≠ 0 := fun h0 => absurd (h0 ▸ h) (by decide)
  rw [firstValid, skipZeros, if_neg hb, if_neg (Nat.mod_two_ne_zero.mpr h)]

theorem firstValid_even {L W b : Nat} (hb : b ≠ 0) (h : ¬ b % 2 = 1) :
    firstValid L W b = firstValid (L + 1) (2 * W) (b / 2) := by
  rw [firstValid, skipZeros, if_neg hb, if_pos (Nat.mod_two_not_eq_one.mp h)]
  rfl

theorem mkIt_advFrom (L b W : Nat) (h : b / 2 ≠ 0) : mkIt (advFrom L b W) = firstValid L (2 * W) (b / 2) := by
  induction L, b, W using advFrom.induct with
  | case1 L b W h0 => exact absurd h0 h
  | case2 L b W _ hodd => rw [advFrom, if_neg h, if_pos hodd, firstValid_odd hodd]; rfl
  | case3 L b W _ hodd ih =>
    rw [advFrom, if_neg h, if_neg hodd, firstValid_even h hodd]
    exact ih (half_ne_zero_of_even h hodd)

section
variable (s : Sketch α)

theorem iterNext_bb_last {j b w : Nat} (hj : j + 1 = s.bb.length) (hlv : s.levels.length > 0) (hb : b ≠ 0) :
    iterNext s { level := none, index := j, bits := b, weight := w } = firstValid 0 (2 * w) b := by
  simp only [iterNext, hj, hlv, and_self, if_true, if_neg hb]
  by_cases hodd : b % 2 = 1
  · rw [if_pos hodd, firstValid_odd hodd]
  · rw [if_neg hodd, firstValid_even hb hodd]
    exact mkIt_advFrom 1 b (2 * w) (half_ne_zero_of_even hb hodd)

/-- `IterAt s S it out`: the iterator `it` stands at a position of `s` from which `out` remains to be yielded: at item `j` of
the base buffer, at item `j` of a valid level (`pre`, `rest` = the levels below and above it, `b` = the pattern shifted
to it), or at `end()` -/
inductive IterAt (S : List α → Prop) : Iter → List (α × Nat) → Prop
  | bb (j : Nat) (hj : j < s.bb.length) :
      IterAt S { level := none, index := j, bits := s.n / (2 * s.k), weight := 1 }
        ((s.bb.drop j).map (fun x => (x, 1)) ++ pairsLevels 2 s.levels)
  | lv (pre : List (List α)) (cur : List α) (rest : List (List α)) (j b W : Nat) (hlv : s.levels = pre ++ cur :: rest)
      (hcur : cur.length = s.k) (hj : j < s.k) (hest : s.n / (2 * s.k) ≠ 0)
      (hsh : LevelsShape S s.k rest (b / 2)) (hlen : rest.length = bitLen (b / 2)) :
      IterAt S { level := some pre.length, index := j, bits := b, weight := W }
        ((cur.drop j).map (fun x => (x, W)) ++ pairsLevels (2 * W) rest)
  | done (it : Iter) (h : iterIsEnd s it = true) : IterAt S it []

variable {S : List α → Prop}

theorem IterAt.firstValid (hest : s.n / (2 * s.k) ≠ 0) (hkpos : 0 < s.k) :
    ∀ (lv pre : List (List α)) (W b : Nat), s.levels = pre ++ lv → LevelsShape S s.k lv b → lv.length = bitLen b → b ≠ 0 →
      IterAt s S (firstValid pre.length W b) (pairsLevels W lv) := by
  intro lv
  induction lv with
  | nil => intro pre W b _ hsh _ hb; exact absurd hsh hb
  | cons l rest ih =>
    intro pre W b hlv hsh hlen hb
    have hlen' : rest.length = bitLen (b / 2) := by rw [bitLen_pos hb] at hlen; exact Nat.succ.inj hlen
    rcases hsh.head_cases with ⟨hodd, hl⟩ | ⟨heven, rfl⟩
    · rw [firstValid_odd hodd]
      exact .lv pre l rest 0 b W hlv hl hkpos hest hsh.2.2 hlen'
    · rw [firstValid_even hb heven]
      have := ih (pre ++ [[]]) (2 * W) (b / 2) (by rw [hlv, List.append_assoc]; rfl) hsh.2.2 hlen' (half_ne_zero_of_even hb heven)
      rwa [List.length_append] at this

/-- one pass of `for (it = begin(); it != end(); ++it)` from a position -/
theorem IterAt.step {c : Cmp α} (h : Inv c S s) {it : Iter} {out : List (α × Nat)} (ha : IterAt s S it out) :
    iterIsEnd s it = true ∧ out = [] ∨
    ∃ x out', out = (x, it.weight) :: out' ∧ iterIsEnd s it = false ∧ iterDeref s it = some x ∧
      IterAt s S (iterNext s it) out' := by
  cases ha with
  | done it h => exact .inl ⟨h, rfl⟩
  | bb j hj =>
    refine .inr ⟨s.bb[j], _, by rw [List.drop_eq_getElem_cons hj]; rfl, ?_, by simp [iterDeref, hj], ?_⟩
    · have hjn : j ≠ s.n := by
        have := h.bb_len; have := Nat.mod_le s.n (2 * s.k); omega
      unfold iterIsEnd
      by_cases he : s.n / (2 * s.k) = 0 <;> simp [he, hjn]
    · by_cases hlast : j + 1 = s.bb.length
      · rw [List.drop_eq_nil_of_le (Nat.le_of_eq hlast.symm)]
        by_cases hb0 : s.n / (2 * s.k) = 0
        · -- exact mode: the index reaches `n`, which is `end()`
          obtain ⟨hn, hlv⟩ := h.of_bits_zero (h.bits_eq.trans hb0)
          simp only [iterNext, hlv, List.length_nil, Nat.lt_irrefl, and_false, if_false, pairsLevels]
          exact .done _ (by simp [iterIsEnd, hb0, hlast, hn])
        · have hlpos : s.levels.length > 0 := by
            rw [h.lv_len, h.bits_eq]; exact Nat.pos_of_ne_zero (mt bitLen_eq_zero.mp hb0)
          rw [iterNext_bb_last s hlast hlpos hb0]
          exact IterAt.firstValid s hb0 h.kpos s.levels [] 2 _ rfl (h.bits_eq ▸ h.lv_shape) (h.bits_eq ▸ h.lv_len) hb0
      · have := IterAt.bb (S := S) (s := s) (j + 1) (by omega)
        simpa [iterNext, hlast] using this
  | lv pre cur rest j b W hlv hcur hj hest hsh hlen =>
    have hget : s.levels[pre.length]? = some cur := by rw [hlv]; simp
    have hjc : j < cur.length := hcur ▸ hj
    refine .inr ⟨cur[j], _, by rw [List.drop_eq_getElem_cons hjc]; rfl, ?_, by simp [iterDeref, hget, hjc], ?_⟩
    · have : pre.length ≠ s.levels.length := by rw [hlv]; simp
      simp [iterIsEnd, hest, this]
    · by_cases hlast : j + 1 = s.k
      · rw [List.drop_eq_nil_of_le (by omega)]
        simp only [iterNext, hlast, if_true, List.map_nil]
        by_cases hb2 : b / 2 = 0
        · -- the pattern is exhausted: this was the top level, and level number `levels_.size()` is `end()`
          rw [hb2, bitLen_zero] at hlen
          obtain rfl := List.eq_nil_of_length_eq_zero hlen
          rw [advFrom, if_pos hb2]
          exact .done _ (by simp [iterIsEnd, hest, hlv])
        · have := IterAt.firstValid s hest h.kpos rest (pre ++ [cur]) (2 * W) (b / 2) (by rw [hlv, List.append_assoc]; rfl)
            hsh hlen hb2
          rw [List.length_append, ← mkIt_advFrom _ _ _ hb2] at this
          exact this
      · have := IterAt.lv (S := S) (s := s) pre cur rest (j + 1) b W hlv hcur (by omega) hest hsh hlen
        simpa [iterNext, hlast] using this

theorem collect_at {c : Cmp α} (h : Inv c S s) : ∀ (f : Nat) (it : Iter) (out : List (α × Nat)), IterAt s S it out →
    out.length < f → iterCollect s f it = out := by
  intro f
  induction f with
  | zero => intro _ _ _ hf; exact absurd hf (Nat.not_lt_zero _)
  | succ f ih =>
    intro it out ha hf
    rcases ha.step s h with ⟨he, rfl⟩ | ⟨x, out', rfl, hne, hd, hnext⟩
    · rw [iterCollect, if_pos he]
    · rw [iterCollect, if_neg (by simp [hne]), hd]
      exact congrArg _ (ih _ _ hnext (Nat.lt_of_succ_lt_succ hf))

/-- `begin()` is a position with everything still to come, and `n + 1` steps are fuel enough -/
theorem iterate_eq {c : Cmp α} (h : Inv c S s) : s.iterate = expectedIter s := by
  have hfuel : (expectedIter s).length < s.n + 1 := by
    have h1 := totalLen_le_wLevels 2 Nat.two_pos s.levels
    rw [h.lv_shape.wLevels_true, h.bits_eq] at h1
    have h2 := Nat.mod_add_div s.n (2 * s.k)
    rw [expectedIter, List.length_append, List.length_map, pairsLevels_length, h.bb_len]
    simp only [Nat.mul_assoc] at h1 h2
    omega
  refine collect_at s h _ _ _ ?_ hfuel
  unfold iterBegin expectedIter
  by_cases hcase : s.n % (2 * s.k) = 0 ∧ s.n / (2 * s.k) > 0
  · have hbb : s.bb = [] := List.eq_nil_of_length_eq_zero (h.bb_len.trans hcase.1)
    have hest : s.n / (2 * s.k) ≠ 0 := Nat.ne_of_gt hcase.2
    rw [if_pos hcase, hbb]
    exact IterAt.firstValid s hest h.kpos s.levels [] 2 _ rfl (h.bits_eq ▸ h.lv_shape) (h.bits_eq ▸ h.lv_len) hest
  · rw [if_neg hcase]
    by_cases hb0 : s.bb.length = 0
    · have hz : s.n / (2 * s.k) = 0 :=
        (Nat.eq_zero_or_pos _).resolve_right fun h0 => hcase ⟨h.bb_len.symm.trans hb0, h0⟩
      obtain ⟨hn, hlv⟩ := h.of_bits_zero (h.bits_eq.trans hz)
      rw [List.eq_nil_of_length_eq_zero hb0, hlv]
      exact .done _ (by simp [iterIsEnd, ← hn, hb0])
    · exact .bb 0 (Nat.pos_of_ne_zero hb0)

end

end DS.Quantiles
