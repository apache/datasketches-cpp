/- `uncompress (compress s)` returns table and window of `s`, flavor by flavor (`compress_lossless`), for any tables that
   satisfy `TablesOK`. -/
import DSProofs.Lemmas.CpcCode
import DSProofs.Lemmas.CpcStep
namespace DS.Cpc

/-- what the compression tables must satisfy (checked on the generated tables by `decide +kernel`, Lemmas/CpcTablesOK.lean) -/
structure TablesOK (C : CompTables) : Prop where
  enc : ∀ p, p < 22 → CodeOK (C.encTab p) 256
  unary : CodeOK C.unary65 65
  perm_lt : ∀ p c, p < 16 → c < 56 → C.perm p c < 56
  perm_inv : ∀ p c, p < 16 → c < 56 → invPerm (C.perm p) (C.perm p c) = c

theorem window_roundtrip (C : CompTables) (h : TablesOK C) (lgK c : Nat) (w : List Nat) (hl : w.length = 2^lgK)
    (hb : ∀ b ∈ w, b < 256) : uncompressWindow C lgK c (compressWindow C lgK c w) = w := by
  unfold uncompressWindow compressWindow
  simp only
  obtain ⟨z, hz⟩ := unpackWords_packWords (encBytes (C.encTab (pseudoPhase lgK c)) w ++ List.replicate 11 false)
  rw [hz, List.append_assoc, ← hl]
  exact decBytes_encBytes _ _ (h.enc _ (pseudoPhase_lt lgK c)) (fun x hx => decTable_getD _ _ x hx) w hb _

theorem pairs_roundtrip (C : CompTables) (h : TablesOK C) (lgK : Nat) (pairs : List Nat) (hp : PairsOK 0 0 pairs) :
    uncompressPairs C lgK pairs.length (compressPairs C lgK pairs) = pairs := by
  unfold uncompressPairs compressPairs
  simp only
  obtain ⟨z, hz⟩ := unpackWords_packWords
    (encPairs C.unary65 (golombBaseBits (2^lgK) pairs.length) 0 0 pairs ++ List.replicate (10 - golombBaseBits (2^lgK) pairs.length) false)
  rw [hz, List.append_assoc]
  exact decPairs_encPairs _ _ _ h.unary (fun x hx => decTable_getD _ _ x hx) pairs 0 0 hp _

/-- HYBRID: the window bytes come back from the pairs with column < 8 -/
theorem window_of_pairs (K : Nat) (w : List Nat) (hl : w.length = K) (hb : ∀ b ∈ w, b < 256) (low : List Nat)
    (hlow : ∀ rc, rc ∈ low ↔ rc ∈ pairsOfWindow w) : (List.range K).map (byteOfPairs low) = w := by
  refine ext_getD_testBit (by simp [hl]) fun r c hr => ?_
  have hr : r < K := by simpa using hr
  have hcol : ∀ rc ∈ low, rc % 64 < 8 := fun rc hrc => ((mem_pairsOfWindow w rc).1 ((hlow rc).1 hrc)).2.1
  rw [getD_map_range _ _ _ _ hr]
  by_cases hc : c < 8
  · rw [byteOfPairs, testBit_foldl_or _ r c (Nat.lt_trans hc (by decide)), Nat.zero_testBit, Bool.false_or, Bool.eq_iff_iff,
      decide_eq_true_eq, hlow, mem_pairsOfWindow, rc_div r c (Nat.lt_trans hc (by decide)), rc_mod r c (Nat.lt_trans hc (by decide))]
    exact ⟨fun h => h.2.2, fun h => ⟨by rw [hl]; omega, hc, h⟩⟩
  · have h8 : 2^8 ≤ 2^c := Nat.pow_le_pow_right (by decide) (Nat.le_of_not_lt hc)
    rw [Nat.testBit_lt_two_pow (Nat.lt_of_lt_of_le (byteOfPairs_lt low r hcol) h8),
      Nat.testBit_lt_two_pow (Nat.lt_of_lt_of_le (getD_lt_of_mem (by decide) hb r) h8)]

theorem slide_unslide (C : CompTables) (hC : TablesOK C) (p off rc : Nat) (hp : p < 16) (ho : off ≤ 56)
    (hz : rc % 64 < off ∨ off + 8 ≤ rc % 64) : unslideCol C p off (slideCol C p off rc) = rc := by
  obtain ⟨hc', hrot⟩ := rotate_col (rc % 64) off (Nat.mod_lt _ (by decide)) ho hz
  have hpl : C.perm p ((rc % 64 + 56 - off) % 64) < 64 := Nat.lt_trans (hC.perm_lt p _ hp hc') (by decide)
  unfold unslideCol slideCol
  rw [rc_div _ _ hpl, rc_mod _ _ hpl, hC.perm_inv p _ hp hc', hrot]
  exact Nat.div_add_mod' rc 64

theorem sorted_hybrid_pairs (s : Sketch) (h : Rep s) (hw : s.window ≠ []) (ho : s.offset = 0) :
    (mergeS s.table (pairsOfWindow s.window)).Pairwise (· < ·) :=
  sorted_mergeS _ _ h.sorted (sorted_pairsOfWindow _)
    (by intro a ha hb; have := h.table_col_ge hw ho a ha; have := ((mem_pairsOfWindow _ a).1 hb).2.1; omega)

/-- PINNED and SLIDING: `l` are the stored pairs (none if the table `t` is empty), `g` maps them back onto `t`; `hz` is the form
`compress` has in both flavors, so that `rfl` discharges it -/
theorem uncompress_windowed (C : CompTables) (hC : TablesOK C) (lgK c : Nat) {win t l : List Nat} (g : Nat → Nat) {z : Compressed}
    (hz : z = if t = [] then { tableWords := [], tableNumEntries := 0, windowWords := compressWindow C lgK c win }
      else { tableWords := compressPairs C lgK l, tableNumEntries := l.length, windowWords := compressWindow C lgK c win })
    (hlen : win.length = 2^lgK) (hb : ∀ b ∈ win, b < 256) (hs : l.Pairwise (· < ·)) (ht : t.Pairwise (· < ·))
    (hp : (l.map g).Perm t) :
    (if z.tableNumEntries = 0 then ([], uncompressWindow C lgK c z.windowWords)
      else (sortPairs ((uncompressPairs C lgK z.tableNumEntries z.tableWords).map g), uncompressWindow C lgK c z.windowWords))
      = (t, win) := by
  subst hz
  by_cases h0 : t = []
  · rw [if_pos h0, if_pos rfl, window_roundtrip C hC lgK c win hlen hb, h0]
  · have hne : l.length ≠ 0 := by
      rw [← List.length_map g, hp.length_eq]; exact fun e => h0 (List.length_eq_zero_iff.1 e)
    rw [if_neg h0, if_neg hne, window_roundtrip C hC lgK c win hlen hb, pairs_roundtrip C hC lgK l (pairsOK_sorted l hs),
      sortPairs_eq_of_perm _ _ hp ht]

theorem compress_lossless (C : CompTables) (hC : TablesOK C) (s : Sketch) (xs : List Nat) (h : Inv s xs)
    (hv : ∀ x ∈ xs, x < 64 * 2^s.lgK) (hoff : s.offset = determineCorrectOffset s.lgK s.numCoupons) :
    uncompress C (compress C s) s.lgK s.numCoupons = (s.table, s.window) := by
  unfold uncompress compress
  rcases flavor_cases s.lgK s.numCoupons with ⟨h0, hf⟩ | ⟨h0, h1, hf⟩ | ⟨h0, h1, h2, hf⟩ | ⟨h0, h1, h2, h3, hf⟩ | ⟨h0, h1, h2, h3, hf⟩
  · -- EMPTY
    simp only [hf]
    obtain ⟨ht, hw⟩ := h.nil_of_empty hv h0
    rw [ht, hw]
  · -- SPARSE
    simp only [hf]
    rw [pairs_roundtrip C hC s.lgK s.table (pairsOK_sorted _ h.rep.sorted), sortPairs_of_sorted _ h.rep.sorted, h.window_nil h1]
  · -- HYBRID: the pairs with column ≥ 8 are the table, those below are the window's bits
    simp only [hf]
    have hw := h.window_ne h1
    have ho : s.offset = 0 := h.offset_zero_of_lt27 (flavor_hp_lt27 _ _ (.inl hf))
    have hz := h.rep.table_col_ge hw ho
    have hlow : ∀ rc ∈ pairsOfWindow s.window, rc % 64 < 8 := fun rc hrc => ((mem_pairsOfWindow _ rc).1 hrc).2.1
    have hall := sorted_hybrid_pairs s h.rep hw ho
    rw [pairs_roundtrip C hC s.lgK _ (pairsOK_sorted _ hall), sortPairs_of_sorted _ (hall.filter _),
      sorted_ext (hall.filter _) h.rep.sorted
        (mem_filter_of_union (mem_mergeS _ _) (8 ≤ · % 64) hz fun rc hrc => Nat.not_le.2 (hlow rc hrc)),
      window_of_pairs (2^s.lgK) s.window (h.rep.win_len hw) h.rep.win_byte _
        (mem_filter_of_union (fun x => (mem_mergeS _ _ x).trans Or.comm) (· % 64 < 8) hlow fun rc hrc => Nat.not_lt.2 (hz rc hrc))]
  · -- PINNED: columns 8.. of the table are stored as 0..
    simp only [hf]
    have hw := h.window_ne h1
    have hz := h.rep.table_col_ge hw (h.offset_zero_of_lt27 h3)
    have hge : ∀ a ∈ s.table, 8 ≤ a := fun a ha => Nat.le_trans (hz a ha) (Nat.mod_le a 64)
    exact uncompress_windowed C hC _ _ (· + 8) rfl (h.rep.win_len hw) h.rep.win_byte
      (List.pairwise_map.2 (h.rep.sorted.imp_of_mem fun ha _ hab => Nat.sub_lt_sub_right (hge _ ha) hab)) h.rep.sorted
      (.of_eq (by rw [List.map_map]; exact map_eq_self fun a ha => Nat.sub_add_cancel (hge a ha)))
  · -- SLIDING: `unslideCol` undoes `slideCol` on the table, whose columns lie outside the window (`hinv`); so `slideCol` is
    -- injective there, the mapped table has no duplicates, and its sort is strictly increasing, as the pair coder needs
    simp only [hf, ← hoff]
    have hw := h.window_ne h1
    have hinv := fun rc (hrc : rc ∈ s.table) => slide_unslide C hC (pseudoPhase s.lgK s.numCoupons) s.offset rc
      (pseudoPhase_sliding s.lgK s.numCoupons (Nat.not_lt.2 h3)) h.rep.offLe (h.rep.zone hw rc hrc)
    exact uncompress_windowed C hC _ _ _ rfl (h.rep.win_len hw) h.rep.win_byte
      (sortPairs_sorted_of_nodup _ (List.pairwise_map.2 (h.rep.sorted.imp_of_mem fun ha hb hab e =>
        Nat.ne_of_lt hab (by rw [← hinv _ ha, ← hinv _ hb, e]))))
      h.rep.sorted (((sortPairs_perm _).map _).trans (.of_eq (by rw [List.map_map]; exact map_eq_self hinv)))

end DS.Cpc
