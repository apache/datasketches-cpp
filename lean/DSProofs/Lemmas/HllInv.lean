/- The invariant `RInv` of the L1 hll_sketch model along a run of coupon updates.  What one `couponUpdate` does is said without a stream
(`couponUpdate_keeps`, `_of_hll`, `_of_mem`, `_new`); `RInv.step` puts the stream beside it. -/
import DSProofs.Lemmas.HllRegs
import DSProofs.Lemmas.HllItems
namespace DS.Hll

variable {ν : Type} [HNum ν]

def distinctStep (acc : List Nat) (c : Nat) : List Nat := if c = 0 ∨ c ∈ acc then acc else acc ++ [c]
/-- the distinct NONZERO coupons of a stream, in first-occurrence order (0 is the EMPTY coupon, which every update ignores) -/
def distinct (cs : List Nat) : List Nat := cs.foldl distinctStep []

theorem distinct_snoc (cs : List Nat) (c : Nat) :
    distinct (cs ++ [c]) = if c = 0 ∨ c ∈ distinct cs then distinct cs else distinct cs ++ [c] := by
  rw [distinct, List.foldl_append]; rfl

theorem mem_distinctStep {acc : List Nat} {c x : Nat} : x ∈ distinctStep acc c ↔ x ∈ acc ∨ (x = c ∧ c ≠ 0) := by
  unfold distinctStep
  by_cases h : c = 0 ∨ c ∈ acc
  · rw [if_pos h]
    exact ⟨Or.inl, fun hx => hx.elim id fun ⟨e, h0⟩ => e ▸ h.resolve_left h0⟩
  · rw [if_neg h, List.mem_append, List.mem_singleton]
    exact or_congr_right ⟨fun e => ⟨e, fun h0 => h (Or.inl h0)⟩, fun e => e.1⟩

theorem nodup_distinctStep {acc : List Nat} (hn : acc.Nodup) (c : Nat) : (distinctStep acc c).Nodup := by
  unfold distinctStep
  by_cases h : c = 0 ∨ c ∈ acc
  · rw [if_pos h]; exact hn
  · rw [if_neg h]
    exact List.nodup_append.2 ⟨hn, List.nodup_cons.2 ⟨List.not_mem_nil, List.nodup_nil⟩,
      fun x hx y hy e => h (Or.inr (List.mem_singleton.1 hy ▸ e ▸ hx))⟩

theorem foldl_distinctStep : ∀ (cs acc : List Nat), acc.Nodup →
    (cs.foldl distinctStep acc).Nodup ∧ ∀ c, c ∈ cs.foldl distinctStep acc ↔ (c ∈ acc ∨ (c ∈ cs ∧ c ≠ 0))
  | [], acc, hn => ⟨hn, by simp⟩
  | a :: l, acc, hn => by
    have ih := foldl_distinctStep l _ (nodup_distinctStep hn a)
    refine ⟨ih.1, fun c => ?_⟩
    rw [List.foldl_cons, ih.2 c, mem_distinctStep, List.mem_cons, or_assoc, or_and_right]
    exact or_congr_right (or_congr_left ⟨fun h => ⟨h.1, h.1 ▸ h.2⟩, fun h => ⟨h.1, h.1 ▸ h.2⟩⟩)

theorem distinct_nodup (cs : List Nat) : (distinct cs).Nodup := (foldl_distinctStep cs [] List.nodup_nil).1

theorem mem_distinct {cs : List Nat} {c : Nat} : c ∈ distinct cs ↔ (c ∈ cs ∧ c ≠ 0) := by
  rw [distinct, (foldl_distinctStep cs [] List.nodup_nil).2 c]; simp

theorem distinct_perm {a b : List Nat} (h : ∀ c, c ≠ 0 → (c ∈ a ↔ c ∈ b)) : (distinct a).Perm (distinct b) := by
  rw [List.perm_ext_iff_of_nodup (distinct_nodup a) (distinct_nodup b)]
  intro c
  rw [mem_distinct, mem_distinct]
  exact and_congr_left (h c)

/-- what `couponUpdate` does to (mode, lgArr) when a NEW coupon arrives and `n'` coupons are then held -/
def modeStep (p : Params) (lgK : Nat) (ph : Mode × Nat) (n' : Nat) : Mode × Nat :=
  match ph.1 with
  | .list => if n' = 2^ph.2 then (if lgK < p.listToHllBelow then (.hll, 0) else (.set, p.lgInitSet)) else ph
  | .set =>
    if p.resizeDen * n' > p.resizeNum * 2^ph.2 then (if ph.2 = lgK - p.setMaxBelow then (.hll, 0) else (.set, ph.2 + 1))
    else ph
  | .hll => ph

/-- (mode, lgArr) after `n` distinct coupons -/
def phase (p : Params) (lgK : Nat) : Nat → Mode × Nat
  | 0 => (.list, p.lgInitList)
  | n + 1 => modeStep p lgK (phase p lgK n) (n + 1)

theorem modeStep_of_hll (p : Params) (lgK : Nat) {ph : Mode × Nat} (n' : Nat) (h : ph.1 = .hll) : modeStep p lgK ph n' = ph := by
  simp only [modeStep, h]

theorem modeStep_of_list {p : Params} {lgK n' : Nat} {ph : Mode × Nat} (h : (modeStep p lgK ph n').1 = .list) :
    modeStep p lgK ph n' = ph := by
  obtain ⟨m, a⟩ := ph
  cases m <;> simp only [modeStep] at h ⊢
  -- LIST, SET: where the test succeeds the new mode is SET or HLL
  all_goals
    split at h
    · split at h <;> cases h
    · rw [if_neg ‹_›]

theorem phase_list_lgArr (p : Params) (lgK : Nat) : ∀ (n : Nat) {a : Nat}, phase p lgK n = (.list, a) → a = p.lgInitList
  | 0, _, h => (Prod.mk.inj h).2.symm
  | n + 1, _, h => by
    have e : phase p lgK (n + 1) = phase p lgK n := modeStep_of_list (congrArg Prod.fst h)
    exact phase_list_lgArr p lgK n (e ▸ h)

/-- the side condition on the tunables: re-inserting a full LIST into a fresh SET does not trigger a resize -/
def Params.listFitsSet (p : Params) : Prop := p.resizeDen * 2^p.lgInitList ≤ p.resizeNum * 2^p.lgInitSet

instance (p : Params) : Decidable p.listFitsSet := by unfold Params.listFitsSet; infer_instance

@[simp] theorem items_mk_tbl (s : St ν) (t : Array Nat) : ({ s with tbl := t } : St ν).items = itemsOf t := rfl

/-- what no coupon update changes: lg_k, the target type, and `startFull` once it is false (a promotion to HLL clears it).
A plain conjunction, so that `Keeps s t` and `Keeps { s with tbl := a } t` are the same statement. -/
def Keeps (s t : St ν) : Prop := t.lgK = s.lgK ∧ t.tt = s.tt ∧ (s.startFull = false → t.startFull = false)

theorem Keeps.trans {s t u : St ν} (a : Keeps s t) (b : Keeps t u) : Keeps s u :=
  ⟨b.1.trans a.1, b.2.1.trans a.2.1, fun h => b.2.2 (a.2.2 h)⟩

theorem setAdd_keeps (p : Params) (s : St ν) (c : Nat) : Keeps s (setAdd p s c).1 := by
  unfold setAdd
  -- `by_cases`, not `split`: the test sits under a projection, where `split` is slow to check
  by_cases h : s.tbl.contains c = true
  · rw [if_pos h]; exact ⟨rfl, rfl, id⟩
  · rw [if_neg h]
    simp only
    split
    · split <;> exact ⟨rfl, rfl, id⟩
    · exact ⟨rfl, rfl, id⟩

theorem foldl_setAdd_keeps (p : Params) : ∀ (l : List Nat) (t : St ν), Keeps t (l.foldl (fun t c => (setAdd p t c).1) t)
  | [], _ => ⟨rfl, rfl, id⟩
  | a :: l, t => (setAdd_keeps p t a).trans (foldl_setAdd_keeps p l _)

/-- `t` is in phase `ph` and holds the coupons `l`: as its items in LIST / SET mode, as register maxima in HLL mode -/
structure HoldsAt (p : Params) (l : List Nat) (ph : Mode × Nat) (t : St ν) : Prop where
  ph : (t.mode, t.lgArr) = ph
  items : t.mode ≠ .hll → t.items.Perm l
  hll : t.mode = .hll → HInv p t (fun c => c ∈ l)

theorem promoteToHll_spec (p : Params) {s : St ν} {l : List Nat} (h : s.items.Perm l) :
    Keeps s (promoteToHll p s) ∧ HoldsAt p l (.hll, 0) (promoteToHll p s) := by
  have f := foldl_hllUpdate_fields p s.items (newHll s.lgK s.tt false : St ν)
  have hi : HInv p (promoteToHll p s) _ :=
    ((HInv.newHll (ν := ν) p s.lgK s.tt false).foldl s.items).of_fields rfl rfl rfl rfl rfl
  exact ⟨⟨f.lgK, f.tt, fun _ => f.startFull⟩, Prod.ext f.mode f.lgArr, fun hne => absurd f.mode hne,
    fun _ => hi.congr fun c => by simp [h.mem_iff]⟩

theorem couponUpdate_keeps (p : Params) (s : St ν) (c : Nat) : Keeps s (couponUpdate p s c) := by
  unfold couponUpdate
  split
  · exact ⟨rfl, rfl, id⟩
  split
  · unfold listUpdate
    split
    · exact ⟨rfl, rfl, id⟩
    simp only
    split
    · split
      · exact (promoteToHll_spec p (.refl _)).1
      · exact foldl_setAdd_keeps p _ _
    · exact ⟨rfl, rfl, id⟩
  · unfold setUpdate
    simp only
    split
    · exact (setAdd_keeps p s c).trans (promoteToHll_spec p (.refl _)).1
    · exact setAdd_keeps p s c
  · have f := hllUpdate_fields p s c
    exact ⟨f.lgK, f.tt, f.startFull.trans⟩

/-- in HLL mode the EMPTY coupon goes the same way as the others: it has value 0 and raises nothing -/
theorem couponUpdate_of_hll (p : Params) {s : St ν} (hm : s.mode = .hll) (c : Nat) : couponUpdate p s c = hllUpdate p s c := by
  unfold couponUpdate
  by_cases hc : c = 0
  · rw [if_pos hc, hc, hllUpdate_value_zero p s 0 (cValue_zero p)]
  · rw [if_neg hc, hm]

theorem couponUpdate_of_mem {p : Params} {s : St ν} {c : Nat} (hm : s.mode ≠ .hll) (h : c = 0 ∨ c ∈ s.items) :
    couponUpdate p s c = s := by
  unfold couponUpdate
  by_cases hc : c = 0
  · rw [if_pos hc]
  · have hin := (contains_iff_mem_itemsOf hc).2 (h.resolve_left hc)
    rw [if_neg hc]
    cases hmode : s.mode with
    | hll => exact absurd hmode hm
    | list => exact if_pos hin
    | set => simp only [setUpdate, setAdd, if_pos hin, Bool.false_eq_true, if_false]

theorem setAdd_of_not_mem (p : Params) {s : St ν} {c : Nat} (hc : c ≠ 0) (hn : c ∉ s.items) :
    setAdd p s c =
      if p.resizeDen * (s.items.length + 1) > p.resizeNum * 2^s.lgArr then
        if s.lgArr = s.lgK - p.setMaxBelow then ({ s with tbl := setPlace p s.tbl s.lgArr c }, true)
        else ({ s with tbl := growSet p (setPlace p s.tbl s.lgArr c) s.lgArr, lgArr := s.lgArr + 1 }, false)
      else ({ s with tbl := setPlace p s.tbl s.lgArr c }, false) := by
  unfold setAdd
  rw [if_neg (mt (contains_iff_mem_itemsOf hc).1 hn)]
  simp only [items_mk_tbl, (setPlace_perm p hc).length_eq, List.length_cons]
  rfl

theorem foldl_setAdd_nogrow (p : Params) : ∀ (l : List Nat) (t : St ν), (l ++ t.items).Nodup → (∀ c ∈ l, c ≠ 0) →
    p.resizeDen * (l ++ t.items).length ≤ p.resizeNum * 2^t.lgArr →
    l.foldl (fun t c => (setAdd p t c).1) t = { t with tbl := l.foldl (fun tb c => setPlace p tb t.lgArr c) t.tbl }
  | [], _, _, _, _ => rfl
  | a :: l, t, hnd, hnz, hload => by
    have ha := hnz a List.mem_cons_self
    have hin : a ∉ t.items := fun e => (List.nodup_cons.1 hnd).1 (List.mem_append_right _ e)
    have hle : ¬ p.resizeDen * (t.items.length + 1) > p.resizeNum * 2^t.lgArr :=
      Nat.not_lt.2 (Nat.le_trans (Nat.mul_le_mul_left _ (by simp only [List.length_cons, List.length_append]; omega)) hload)
    -- with `a` placed, the coupons still to come and those held are the same as before, in another order
    have hmid : (l ++ itemsOf (setPlace p t.tbl t.lgArr a)).Perm (a :: (l ++ t.items)) :=
      (List.Perm.append_left l (setPlace_perm p ha)).trans List.perm_middle
    rw [List.foldl_cons, setAdd_of_not_mem p ha hin, if_neg hle]
    exact foldl_setAdd_nogrow p l { t with tbl := setPlace p t.tbl t.lgArr a } (hmid.nodup_iff.2 hnd)
      (fun c hc => hnz c (List.mem_cons_of_mem _ hc)) (by rw [items_mk_tbl, hmid.length_eq]; exact hload)

theorem promoteListToSet_holds (p : Params) {s : St ν} {l : List Nat} (h : s.items.Perm l) (hnd : s.items.Nodup)
    (hload : p.resizeDen * s.items.length ≤ p.resizeNum * 2^p.lgInitSet) :
    HoldsAt p l (.set, p.lgInitSet) (promoteListToSet p s) := by
  have hnz : ∀ c ∈ s.items, c ≠ 0 := fun c hc e => zero_not_mem_itemsOf _ (e ▸ hc)
  unfold promoteListToSet
  rw [foldl_setAdd_nogrow p _ _ (by simpa [St.items, itemsOf_replicate_zero] using hnd) hnz
    (by simpa [St.items, itemsOf_replicate_zero] using hload)]
  exact ⟨rfl, fun _ => (foldl_setPlace_replicate p _ _ hnz).trans h, fun hh => nomatch hh⟩

theorem couponUpdate_new {p : Params} (hp : p.listFitsSet) {s : St ν} {c : Nat} (hc : c ≠ 0) (hin : c ∉ s.items)
    (hm : s.mode ≠ .hll) (hnd : s.items.Nodup) (hl : s.mode = .list → s.lgArr = p.lgInitList) :
    HoldsAt p (c :: s.items) (modeStep p s.lgK (s.mode, s.lgArr) (s.items.length + 1)) (couponUpdate p s c) := by
  unfold couponUpdate
  rw [if_neg hc]
  cases hmode : s.mode with
  | hll => exact absurd hmode hm
  | list =>
    have h1 : ({ s with tbl := placeFirst s.tbl c } : St ν).items.Perm (c :: s.items) := placeFirst_perm hc
    simp only [listUpdate, modeStep, if_neg (mt (contains_iff_mem_itemsOf hc).1 hin), h1.length_eq, List.length_cons]
    by_cases hfull : s.items.length + 1 = 2^s.lgArr
    · rw [if_pos hfull, if_pos hfull]
      by_cases hk : s.lgK < p.listToHllBelow
      · rw [if_pos hk, if_pos hk]
        exact (promoteToHll_spec p h1).2
      · rw [if_neg hk, if_neg hk]
        exact promoteListToSet_holds p h1 (h1.nodup_iff.2 (List.nodup_cons.2 ⟨hin, hnd⟩))
          (by rw [h1.length_eq, List.length_cons, hfull, hl hmode]; exact hp)
    · rw [if_neg hfull, if_neg hfull]
      exact ⟨Prod.ext hmode rfl, fun _ => h1, fun hh => absurd hh hm⟩
  | set =>
    have h1 : ({ s with tbl := setPlace p s.tbl s.lgArr c } : St ν).items.Perm (c :: s.items) := setPlace_perm p hc
    simp only [modeStep]
    unfold setUpdate
    rw [setAdd_of_not_mem p hc hin]
    by_cases hover : p.resizeDen * (s.items.length + 1) > p.resizeNum * 2^s.lgArr
    · rw [if_pos hover, if_pos hover]
      by_cases hmax : s.lgArr = s.lgK - p.setMaxBelow
      · rw [if_pos hmax, if_pos hmax]
        exact (promoteToHll_spec p h1).2
      · rw [if_neg hmax, if_neg hmax]
        exact ⟨Prod.ext hmode rfl, fun _ => (growSet_perm p _ _).trans h1, fun hh => absurd hh hm⟩
    · rw [if_neg hover, if_neg hover]
      exact ⟨Prod.ext hmode rfl, fun _ => h1, fun hh => absurd hh hm⟩

/-- the invariant of a run: a sketch that started as an empty LIST and has been offered the coupons `cs`.  Mode and coupon-array size are
`phase` of the number of distinct nonzero coupons; in LIST / SET mode the items are those coupons up to order, in HLL mode the
registers are their per-slot maxima (`HInv`) -/
structure RInv (p : Params) (lgK : Nat) (s : St ν) (cs : List Nat) : Prop where
  lgK_eq : s.lgK = lgK
  sf : s.startFull = false
  ph : (s.mode, s.lgArr) = phase p lgK (distinct cs).length
  items_perm : s.mode ≠ .hll → s.items.Perm (distinct cs)
  hll : s.mode = .hll → HInv p s (fun c => c ∈ cs ∧ c ≠ 0)

theorem RInv.init (p : Params) (lgK : Nat) (tt : TType) : RInv p lgK (newList p lgK tt : St ν) [] := by
  refine ⟨rfl, rfl, rfl, ?_, ?_⟩
  · intro _; simp [St.items, newList, itemsOf_replicate_zero, distinct]
  · intro h; simp [newList] at h

theorem RInv.congr_nz {p : Params} {k : Nat} {s : St ν} {cs cs' : List Nat} (h : RInv p k s cs)
    (hmem : ∀ c, c ≠ 0 → (c ∈ cs ↔ c ∈ cs')) : RInv p k s cs' :=
  have hd := distinct_perm hmem
  ⟨h.lgK_eq, h.sf, by rw [← hd.length_eq]; exact h.ph, fun hm => (h.items_perm hm).trans hd,
    fun hm => (h.hll hm).congr_nz fun c _ => and_congr_left (hmem c)⟩

theorem RInv.mem_items {p : Params} {k : Nat} {s : St ν} {cs : List Nat} (h : RInv p k s cs) (hm : s.mode ≠ .hll) (c : Nat) :
    c ∈ s.items ↔ (c ∈ cs ∧ c ≠ 0) := by
  rw [(h.items_perm hm).mem_iff, mem_distinct]

theorem RInv.items_exact {p : Params} {k : Nat} {s : St ν} {cs : List Nat} (h : RInv p k s cs) (hm : s.mode ≠ .hll) :
    s.items.Nodup ∧ ∀ c, c ∈ s.items ↔ (c ∈ cs ∧ c ≠ 0) :=
  ⟨(h.items_perm hm).nodup_iff.2 (distinct_nodup cs), h.mem_items hm⟩

theorem RInv.isEmpty_iff {p : Params} {k : Nat} {s : St ν} {cs : List Nat} (h : RInv p k s cs) (hm : s.mode ≠ .hll) :
    isEmpty s = true ↔ ∀ c, c ∈ cs → c = 0 := by
  have hie : isEmpty s = true ↔ s.items = [] := by
    unfold isEmpty
    cases hmm : s.mode with
    | hll => exact absurd hmm hm
    | list => simp
    | set => simp
  rw [hie, List.eq_nil_iff_forall_not_mem]
  exact forall_congr' fun c => by rw [h.mem_items hm c, not_and, Decidable.not_not]

theorem RInv.step {p : Params} (hp : p.listFitsSet) {lgK : Nat} {s : St ν} {cs : List Nat} (h : RInv p lgK s cs) (c : Nat) :
    RInv p lgK (couponUpdate p s c) (cs ++ [c]) := by
  by_cases hm : s.mode = .hll
  · rw [couponUpdate_of_hll p hm]
    have f := hllUpdate_fields p s c
    refine ⟨f.lgK.trans h.lgK_eq, f.startFull.trans h.sf, ?_, fun hne => absurd (f.mode.trans hm) hne,
      fun _ => ((h.hll hm).hllUpdate c).congr_nz fun x hx => by simp [hx]⟩
    -- HLL mode absorbs: one more distinct coupon or not, the phase is the same
    rw [f.mode, f.lgArr, h.ph, distinct_snoc]
    split
    · rfl
    · rw [List.length_append, List.length_singleton, phase, modeStep_of_hll p lgK _ (by rw [← h.ph]; exact hm)]
  · have hperm := h.items_perm hm
    by_cases hold : c = 0 ∨ c ∈ s.items
    · have hd : distinct (cs ++ [c]) = distinct cs := by rw [distinct_snoc, if_pos (hold.imp_right hperm.mem_iff.1)]
      rw [couponUpdate_of_mem hm hold]
      exact ⟨h.lgK_eq, h.sf, by rw [hd]; exact h.ph, by rw [hd]; exact h.items_perm, fun hm' => absurd hm' hm⟩
    · have hd : distinct (cs ++ [c]) = distinct cs ++ [c] := by
        rw [distinct_snoc, if_neg (fun e => hold (e.imp_right hperm.mem_iff.2))]
      have hcs : (c :: s.items).Perm (distinct (cs ++ [c])) := by
        rw [hd]; exact (List.Perm.cons c hperm).trans (List.perm_append_singleton c _).symm
      obtain ⟨hk, -, hsf⟩ := couponUpdate_keeps p s c
      obtain ⟨hph, hi, hH⟩ := couponUpdate_new hp (fun e => hold (Or.inl e)) (fun e => hold (Or.inr e)) hm
        (h.items_exact hm).1
        (fun hl => phase_list_lgArr p lgK _ (h.ph.symm.trans (congrArg (·, s.lgArr) hl)))
      refine ⟨hk.trans h.lgK_eq, hsf h.sf, ?_, fun hm' => (hi hm').trans hcs,
        fun hm' => (hH hm').congr fun x => by rw [hcs.mem_iff, mem_distinct]⟩
      rw [hph, hd, List.length_append, List.length_singleton, phase, ← h.ph, h.lgK_eq, hperm.length_eq]

theorem RInv.run {p : Params} (hp : p.listFitsSet) {lgK : Nat} : ∀ (l : List Nat) {s : St ν} {cs : List Nat},
    RInv p lgK s cs → RInv p lgK (run p s l) (cs ++ l)
  | [], s, cs, h => by rw [List.append_nil]; exact h
  | a :: l, s, cs, h => by
    have := RInv.run hp l (h.step hp a)
    rw [List.append_assoc] at this
    exact this

theorem RInv.of_newSketch {p : Params} (hp : p.listFitsSet) (lgK : Nat) (tt : TType) (cs : List Nat) :
    RInv p lgK (DS.Hll.run p (newSketch p lgK tt false : St ν) cs) cs := by
  have h := RInv.run hp cs (RInv.init (ν := ν) p lgK tt)
  rwa [List.nil_append] at h

theorem run_eq_foldl_hllUpdate (p : Params) : ∀ (l : List Nat) (s : St ν), s.mode = .hll → run p s l = l.foldl (hllUpdate p) s
  | [], _, _ => rfl
  | a :: l, s, hm => by
    show run p (couponUpdate p s a) l = l.foldl (hllUpdate p) (hllUpdate p s a)
    rw [couponUpdate_of_hll p hm]
    exact run_eq_foldl_hllUpdate p l _ ((hllUpdate_fields p s a).mode.trans hm)

theorem run_newSketch (p : Params) (hp : p.listFitsSet) (lgK : Nat) (tt : TType) (sf : Bool) (cs : List Nat) :
    (run p (newSketch p lgK tt sf : St ν) cs).lgK = lgK ∧
    ((run p (newSketch p lgK tt sf : St ν) cs).mode ≠ .hll → RInv p lgK (run p (newSketch p lgK tt sf : St ν) cs) cs) ∧
    ((run p (newSketch p lgK tt sf : St ν) cs).mode = .hll →
      HInv p (run p (newSketch p lgK tt sf : St ν) cs) (fun c => c ∈ cs ∧ c ≠ 0)) ∧
    (sf = true → (run p (newSketch p lgK tt sf : St ν) cs).mode = .hll) := by
  cases sf with
  | false =>
    have h := RInv.of_newSketch (ν := ν) hp lgK tt cs
    exact ⟨h.lgK_eq, fun _ => h, h.hll, fun hf => absurd hf (by simp)⟩
  | true =>
    have hm : (newSketch p lgK tt true : St ν).mode = .hll := rfl
    rw [run_eq_foldl_hllUpdate p cs _ hm]
    have f := foldl_hllUpdate_fields p cs (newSketch p lgK tt true : St ν)
    exact ⟨f.lgK, fun hne => absurd (f.mode.trans hm) hne,
      fun _ => ((HInv.newHll (ν := ν) p lgK tt true).foldl cs).congr_nz fun c hc => by simp [hc], fun _ => f.mode.trans hm⟩

end DS.Hll
