/-
C09 (compact theta sketch images) — serialization round trip.

ONLY property theorems and their non-vacuity examples (helper lemmas: Lemmas/WireTheta*.lean, Lemmas/BitPack*.lean).
Model: DSModel/Wire/Theta.lean — specification writer `encode` / `encodeV4` and reader `decode` of the documented
layouts, parametric in the wire constants `c` (instantiated from the CURRENT headers by the driver; pinned to the
documented values by C10).  Tied to theta_sketch_impl.hpp / compact_theta_sketch_parser_impl.hpp by `./check c09_theta`
(every image the real sketches write is decoded by `decode`, re-encoded, compared).

All statements are for every set of constants satisfying the decidable side condition `c.ok`, every well-formed image
state `s` (any number of entries, any theta, any seed hash), every expected seed hash and every byte tail.
-/
import DSProofs.Lemmas.WireThetaLegacy
import DSProofs.Lemmas.WireThetaBounded
import DSProofs.Gen.BitPack
import DSProofs.Lemmas.WireThetaV4IR
namespace DS.Wire.Theta
open DS.Wire

/-- uncompressed (serial version 3): the reader inverts the writer and consumes exactly the image. -/
theorem decode_encode (c : Consts) (hc : c.ok = true) (s : Image) (hwf : WF s) (exp : Nat)
    (hseed : s.isEmpty = true ∨ s.seedHash = exp) (tail : Bytes) :
    decode c exp (encode c s ++ tail) = some (s, tail) :=
  decode_encode' (COk.of_ok hc) s hwf exp hseed tail

example : WF ⟨false, false, 37836, 4611686018427387904, [2206043092153046979, 405753591161026837, 3]⟩ := by decide
example : WF ⟨true, true, 0, maxTheta, []⟩ := by decide

/-- the image has exactly the advertised size `8·preamble_longs + 8·entries` (`get_serialized_size_bytes`). -/
theorem size_eq (c : Consts) (s : Image) : (encode c s).length = serializedSize s := length_encode c s

/-- `get_max_serialized_size_bytes(lg_k)` bounds every image with at most `capacity(lg_k)` entries. -/
theorem size_le_max (s : Image) (rbdNum rbdDen lgK : Nat) (hn : s.entries.length ≤ 2 ^ (lgK + 1) * rbdNum / rbdDen) :
    serializedSize s ≤ maxSerializedSize rbdNum rbdDen lgK := by
  unfold serializedSize maxSerializedSize
  have := preLongs_le3 s
  omega

/-- re-serialization of what was read from an encoding gives the same bytes: `decode_encode` read the other way.  It says
nothing of bytes that no writer produced; that converse is stated for HLL only (C09_Hll `encode_decode`). -/
theorem encode_decode (c : Consts) (hc : c.ok = true) (s : Image) (hwf : WF s) (exp : Nat)
    (hseed : s.isEmpty = true ∨ s.seedHash = exp) (tail : Bytes) :
    (decode c exp (encode c s ++ tail)).map (fun p => encode c p.1) = some (encode c s) := by
  rw [decode_encode c hc s hwf exp hseed tail]; rfl

/-- **compressed format** (serial version 4): bit packing (`unpackFields_packFields`, the specification arithmetic; that the
translated block routines compute it is `bitpack_roundtrip` below, not used here) + the delta-sum lemma + entry-width adequacy. -/
theorem theta_v4_roundtrip (c : Consts) (hc : c.ok = true) (s : Image) (h4 : WFv4 s) (exp : Nat) (hseed : s.seedHash = exp) (tail : Bytes) :
    decode c exp (encodeV4 c s ++ tail) = some (s, tail) :=
  decode_encode_v4 (COk.of_ok hc) s h4 exp hseed tail

example : WFv4 ⟨false, true, 37836, maxTheta, [405753591161026837, 2206043092153046979, 6730918654704304314]⟩ := by decide
example : entryBits [405753591161026837, 2206043092153046979, 6730918654704304314] = 62 := by decide

theorem size_eq_v4 (c : Consts) (s : Image) : (encodeV4 c s).length = serializedSizeV4 s := length_encodeV4 c s

/-- the compressed image is never larger than the uncompressed one (so `get_max_serialized_size_bytes` bounds both). -/
theorem size_v4_le (s : Image) (h4 : WFv4 s) : serializedSizeV4 s ≤ serializedSize s := by
  obtain ⟨hwf, hsuit, hasc, h63⟩ := h4
  obtain ⟨_, hemp, hne⟩ := suitable_facts s hwf hsuit
  have heb := entryBits_le_63 s.entries h63
  have hneb := numEntriesBytes_le_4 _ hwf.2.2.2.1
  have hn : 1 ≤ s.entries.length := by
    cases h : s.entries with
    | nil => exact absurd h hne
    | cons a t => simp
  have hmul : entryBits s.entries * s.entries.length ≤ 63 * s.entries.length := Nat.mul_le_mul_right _ heb
  have hbytes : BitPack.bytesForBits (entryBits s.entries * s.entries.length) ≤ 8 * s.entries.length := by
    unfold BitPack.bytesForBits; omega
  unfold serializedSizeV4 serializedSize preLongs
  by_cases hest : s.estMode = true
  · simp only [hest, ↓reduceIte]; omega
  · have hest' : s.estMode = false := by simpa using hest
    simp only [suitable, Bool.and_eq_true, bne_iff_ne, ne_eq, Bool.not_eq_true', Bool.and_eq_false_imp, beq_iff_eq, hest', Bool.not_false] at hsuit
    have h1 : s.entries.length ≠ 1 := by
      intro h; have := hsuit.2 h; simp at this
    simp only [hest', Bool.false_eq_true, ↓reduceIte, hemp, Bool.false_or, beq_iff_eq, h1]
    omega

theorem delta_sum (es : List Nat) (hasc : ascFrom 0 es) (hlt : ∀ e ∈ es, e < 2 ^ 64) : undelta 0 (deltas 0 es) = es :=
  undelta_deltas 0 es hasc hlt

/-- entry-bits adequacy: every delta fits into `compute_entry_bits` bits, and that width is in 1..63. -/
theorem entry_bits_adequate (es : List Nat) (hne : es ≠ []) (hasc : ascFrom 0 es) (h63 : ∀ e ∈ es, e < 2 ^ 63) :
    (∀ d ∈ deltas 0 es, d < 2 ^ entryBits es) ∧ 1 ≤ entryBits es ∧ entryBits es ≤ 63 :=
  ⟨deltas_lt_entryBits es, entryBits_pos es hne hasc, entryBits_le_63 es h63⟩

/-- `serialize_compressed`: compressed when suitable, uncompressed otherwise; either way the reader inverts it. -/
theorem compressed_roundtrip (c : Consts) (hc : c.ok = true) (s : Image) (hwf : WF s) (h4 : suitable s = true → WFv4 s) (exp : Nat)
    (hseed : s.isEmpty = true ∨ s.seedHash = exp) (tail : Bytes) :
    decode c exp (encodeCompressed c s ++ tail) = some (s, tail) := by
  unfold encodeCompressed
  by_cases hs : suitable s = true
  · have hne := (suitable_facts s hwf hs).2.1
    have : s.seedHash = exp := by
      rcases hseed with h | h
      · rw [hne] at h; exact absurd h (by simp)
      · exact h
    simp only [hs, ↓reduceIte]
    exact theta_v4_roundtrip c hc s (h4 hs) exp this tail
  · simp only [hs, Bool.false_eq_true, ↓reduceIte]
    exact decode_encode c hc s hwf exp hseed tail

/-! ### the compressed format over the routines translated from bit_packing.hpp -/

/-- every translated block routine pair (through the translated `switch` dispatchers) round-trips all inputs: for every
width n = 1..63 and all 8 values below 2^n, `pack_bits_block8` into a zero-filled block followed by
`unpack_bits_block8` returns the values, and the bytes in between are the documented MSB-first layout.
(Lifted from the kernel-evaluated `bitpack_layouts_ok` by the soundness lemma of the symbolic evaluator.) -/
theorem bitpack_roundtrip (n : Nat) (h1 : 1 ≤ n) (h63 : n ≤ 63) (vals : List Nat) (h8 : vals.length = 8) (hv : ∀ v ∈ vals, v < 2 ^ n) :
    BitPack.irPack8 n vals = BitPack.packFields n vals ∧ BitPack.irUnpack8 n (BitPack.irPack8 n vals) = vals := by
  have hp := BitPack.irPack8_eq n h1 h63 vals h8 hv
  refine ⟨hp, ?_⟩
  rw [hp, BitPack.irUnpack8_eq n h1 h63 _ (by rw [BitPack.length_packFields, h8]; unfold BitPack.bytesForBits; omega)]
  have := BitPack.unpackFields_packFields n vals hv
  rw [h8] at this
  exact this

example : BitPack.irPack8 3 [1, 2, 3, 4, 5, 6, 7, 0] = [0x29, 0xcb, 0xb8] := by decide

/-- the writer that packs whole blocks of 8 deltas with the TRANSLATED routines (and the tail as a bit stream, as the scalar
`pack_bits` does) produces exactly the specification image, so `theta_v4_roundtrip` holds for it. -/
theorem encodeV4_over_translated_routines (c : Consts) (s : Image) (h4 : WFv4 s) : encodeV4IR c s = encodeV4 c s :=
  encodeV4IR_eq c s h4

/-- wrapped read-only access and `deserialize(bytes)`: both decode the packed area block by block with
`unpack_bits_block8` and finish with the scalar tail, undoing the deltas as they go; on EVERY input that is the same
function as the whole-stream specification reader (hence wrapped iteration = deserialization = `decode`). -/
theorem wrapped_iter_eq_deserialize (exp pre : Nat) (b : Bytes) : decodeV4IR exp pre b = decodeV4 exp pre b :=
  decodeV4IR_eq exp pre b

end DS.Wire.Theta
