/- `reach`: the state a history reaches under a coin sequence, with the invariants `InvS` and `InvT` of every sketch in it;
the generated parameters and the integer comparator of the examples in Props/C07_Kll.lean and Props/C08_Kll.lean. -/
import DSProofs.Lemmas.KllTruth2
import DSProofs.Lemmas.KllIter
import DSModel.Kll.Gen
namespace DS.Kll
open DS DS.SortedView

variable {α : Type}

/-- the sketches the history `ops`, started with none, ends with under the coins `coins` -/
def reach (P : Params) (c : Cmp α) (ops : List (Op α)) (coins : Coins) : List (Sketch α) :=
  ((runT P c ops []).run coins).1

theorem reach_inv {P : Params} (ok : ParamsOk P) {c : Cmp α} (sw : StrictWeak c.lt) (ops : List (Op α)) (coins : Coins) :
    (∀ s ∈ reach P c ops coins, InvS P c.lt s) ∧ Coupled c (reach P c ops coins) (truth P c ops []) :=
  CT.All.run (runT_invT ok sw ops (st := []) (tr := []) (by simp) ⟨rfl, by simp⟩) coins

theorem reach_get {P : Params} (ok : ParamsOk P) {c : Cmp α} (sw : StrictWeak c.lt) (ops : List (Op α)) (coins : Coins)
    {i : Nat} {s : Sketch α} (h : (reach P c ops coins)[i]? = some s) :
    InvS P c.lt s ∧ ∃ inp, (truth P c ops [])[i]? = some inp ∧ InvT c s inp := by
  obtain ⟨hi, hc⟩ := reach_inv ok sw ops coins
  refine ⟨hi s (List.mem_of_getElem? h), ?_⟩
  have hlt : i < (truth P c ops []).length := by rw [← hc.1]; exact (List.getElem?_eq_some_iff.mp h).1
  exact ⟨_, List.getElem?_eq_getElem hlt, hc.2 i s _ h (List.getElem?_eq_getElem hlt)⟩

theorem gen_params_ok : ParamsOk genParams := ⟨by decide, by decide, by decide⟩

def intCmp : Cmp Int := { lt := fun a b => decide (a < b), isNaN := fun _ => false }

theorem intCmp_sw : StrictWeak intCmp.lt :=
  ⟨by intro a b h; simp only [intCmp, decide_eq_true_eq, decide_eq_false_iff_not] at h ⊢; omega,
   by intro a b c h1 h2; simp only [intCmp, decide_eq_false_iff_not] at h1 h2 ⊢; omega⟩

end DS.Kll
