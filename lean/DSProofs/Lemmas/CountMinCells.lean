/-
Cell-level lemmas for the count-min model: what `update` does to every flat cell, and the resulting
closed form of the cells / total / config of `runFrom`.  No algebraic laws are needed here.
-/
import DSProofs.Lemmas.CountMin
namespace DS.CountMin

variable {W : Type} [Weight W] {ι : Type}

theorem cellIdx_div (c : Cfg) (h : ι → Nat → Nat) (x : ι) (r : Nat) (hb : 0 < c.numBuckets) :
    cellIdx c h x r / c.numBuckets = r := by
  unfold cellIdx
  rw [Nat.mul_comm, Nat.mul_add_div hb, Nat.div_eq_of_lt (Nat.mod_lt _ hb), Nat.add_zero]

theorem cellIdx_mod (c : Cfg) (h : ι → Nat → Nat) (x : ι) (r : Nat) :
    cellIdx c h x r % c.numBuckets = h x r % c.numBuckets := by
  unfold cellIdx
  rw [Nat.mul_comm, Nat.mul_add_mod, Nat.mod_mod]

theorem cellIdx_lt (c : Cfg) (h : ι → Nat → Nat) (x : ι) {r : Nat} (hr : r < c.numHashes) (hb : 0 < c.numBuckets) :
    cellIdx c h x r < c.numHashes * c.numBuckets :=
  Nat.lt_of_lt_of_le (Nat.add_lt_add_left (Nat.mod_lt _ hb) _) (Nat.succ_mul r _ ▸ Nat.mul_le_mul_right _ hr)

theorem hits_iff (c : Cfg) (h : ι → Nat → Nat) (x : ι) (i : Nat) (hb : 0 < c.numBuckets) :
    hits c h x i = true ↔ ∃ r, r < c.numHashes ∧ cellIdx c h x r = i := by
  unfold hits
  simp only [Bool.and_eq_true, decide_eq_true_eq, beq_iff_eq]
  constructor
  · rintro ⟨h1, h2⟩
    refine ⟨i / c.numBuckets, h1, ?_⟩
    unfold cellIdx
    rw [h2]; exact Nat.div_add_mod' i c.numBuckets
  · rintro ⟨r, hr, rfl⟩
    rw [cellIdx_div c h x r hb, cellIdx_mod]
    exact ⟨hr, rfl⟩

theorem hits_cellIdx (c : Cfg) (h : ι → Nat → Nat) (x : ι) {r : Nat} (hr : r < c.numHashes) (hb : 0 < c.numBuckets) :
    hits c h x (cellIdx c h x r) = true := (hits_iff c h x _ hb).2 ⟨r, hr, rfl⟩

theorem addRows_getElem? (c : Cfg) (h : ι → Nat → Nat) (x : ι) (w : W) (hb : 0 < c.numBuckets) :
    ∀ (rs : List Nat) (a : Array W) (i : Nat), rs.Nodup →
      (addRows c h x w rs a)[i]? =
        if ∃ r, r ∈ rs ∧ cellIdx c h x r = i then a[i]?.map (fun v => Weight.add v w) else a[i]?
  | [], a, i, _ => by simp [addRows]
  | r :: rs, a, i, hnd => by
    have ⟨hr, hnd'⟩ := List.nodup_cons.1 hnd
    rw [addRows, addRows_getElem? c h x w hb rs _ i hnd', Array.getElem?_modify]
    by_cases h1 : cellIdx c h x r = i
    · -- distinct rows have distinct cells
      have hno : ¬ ∃ r', r' ∈ rs ∧ cellIdx c h x r' = i := fun ⟨r', hr', he⟩ =>
        hr (by rw [← cellIdx_div c h x r hb, h1, ← he, cellIdx_div c h x r' hb]; exact hr')
      simp [h1, hno]
    · simp [h1]

theorem update_cells (h : ι → Nat → Nat) (s : St W) (x : ι) (w : W) (hb : 0 < s.cfg.numBuckets) (i : Nat) :
    (update h s x w).cells[i]? =
      if hits s.cfg h x i then s.cells[i]?.map (fun v => Weight.add v w) else s.cells[i]? := by
  show (addRows s.cfg h x w (List.range s.cfg.numHashes) s.cells)[i]? = _
  rw [addRows_getElem? s.cfg h x w hb _ _ i List.nodup_range]
  simp only [hits_iff s.cfg h x i hb, List.mem_range]

@[simp] theorem update_cfg (h : ι → Nat → Nat) (s : St W) (x : ι) (w : W) : (update h s x w).cfg = s.cfg := rfl
@[simp] theorem update_total (h : ι → Nat → Nat) (s : St W) (x : ι) (w : W) :
    (update h s x w).total = Weight.add s.total (Weight.absw w) := rfl

@[simp] theorem runFrom_nil (h : ι → Nat → Nat) (s : St W) : runFrom h s [] = s := rfl
@[simp] theorem runFrom_cons (h : ι → Nat → Nat) (s : St W) (o : ι × W) (ops : List (ι × W)) :
    runFrom h s (o :: ops) = runFrom h (update h s o.1 o.2) ops := rfl
theorem runFrom_append (h : ι → Nat → Nat) (s : St W) (a b : List (ι × W)) :
    runFrom h s (a ++ b) = runFrom h (runFrom h s a) b := by
  unfold runFrom; rw [List.foldl_append]

@[simp] theorem runFrom_cfg (h : ι → Nat → Nat) : ∀ (ops : List (ι × W)) (s : St W), (runFrom h s ops).cfg = s.cfg
  | [], _ => rfl
  | o :: ops, s => by rw [runFrom_cons, runFrom_cfg h ops]; rfl

theorem runFrom_total (h : ι → Nat → Nat) (ops : List (ι × W)) (s : St W) :
    (runFrom h s ops).total = ops.foldl (fun acc o => Weight.add acc (Weight.absw o.2)) s.total :=
  (List.foldl_hom St.total fun _ _ => rfl).symm

theorem cellAcc_cons (c : Cfg) (h : ι → Nat → Nat) (i : Nat) (v : W) (o : ι × W) (ops : List (ι × W)) :
    cellAcc c h i v (o :: ops) = cellAcc c h i (if hits c h o.1 i then Weight.add v o.2 else v) ops := rfl

theorem runFrom_cells (h : ι → Nat → Nat) (i : Nat) : ∀ (ops : List (ι × W)) (s : St W), 0 < s.cfg.numBuckets →
    (runFrom h s ops).cells[i]? = s.cells[i]?.map (fun v => cellAcc s.cfg h i v ops)
  | [], s, _ => by simp [cellAcc]
  | o :: ops, s, hb => by
    rw [runFrom_cons, runFrom_cells h i ops (update h s o.1 o.2) hb, update_cells h s o.1 o.2 hb i, update_cfg]
    cases s.cells[i]? with
    | none => split <;> rfl
    | some v => simp only [cellAcc_cons]; split <;> rfl

@[simp] theorem init_cfg (c : Cfg) : (init c : St W).cfg = c := rfl
@[simp] theorem init_total (c : Cfg) : (init c : St W).total = Weight.zero := rfl
theorem init_cells (c : Cfg) (i : Nat) :
    (init c : St W).cells[i]? = if i < c.numHashes * c.numBuckets then some Weight.zero else none := by
  unfold init; simp only; rw [Array.getElem?_replicate]

@[simp] theorem run_cfg (c : Cfg) (h : ι → Nat → Nat) (ops : List (ι × W)) : (run c h ops).cfg = c := by
  unfold run; simp

theorem run_total (c : Cfg) (h : ι → Nat → Nat) (ops : List (ι × W)) : (run c h ops).total = totalAbs ops := by
  unfold run totalAbs; rw [runFrom_total]; rfl

theorem run_cells (c : Cfg) (h : ι → Nat → Nat) (ops : List (ι × W)) (hb : 0 < c.numBuckets) (i : Nat) :
    (run c h ops).cells[i]? = if i < c.numHashes * c.numBuckets then some (cellSum c h i ops) else none := by
  unfold run
  rw [runFrom_cells h i ops _ (by simpa using hb), init_cells]
  by_cases hi : i < c.numHashes * c.numBuckets <;> simp [hi, cellSum]

theorem run_cellAt (c : Cfg) (h : ι → Nat → Nat) (ops : List (ι × W)) (hb : 0 < c.numBuckets) (x : ι) {r : Nat}
    (hr : r < c.numHashes) : cellAt h (run c h ops) x r = cellSum c h (cellIdx c h x r) ops := by
  unfold cellAt
  rw [Array.getD_eq_getD_getElem?, run_cfg, run_cells c h ops hb]
  simp [cellIdx_lt c h x hr hb]

end DS.CountMin
