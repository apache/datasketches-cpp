/-
C09 (EBPPS part) — the serialized image round-trips.

ONLY property theorems + non-vacuity examples (helper lemmas: Lemmas/WireCount.lean).  Model: DSModel/Wire/Ebpps.lean.
Statements are for EVERY constant set with the decidable side condition `c.ok` (`generated_ok`), EVERY lawful item serde,
every well-formed image state (with and without partial item) and every tail.  Well-formedness contains the one
non-obvious coupling of this format: the item count is not stored, it is ⌊c⌋, and the partial item is present exactly
when c has a fractional part (`f64FloorFrac c = (items.length, partialItem.isSome)`).
-/
import DSProofs.Lemmas.WireCount
import DSModel.Wire.EbppsGen
namespace DS.Wire.Ebpps
open DS.Wire

variable {ι : Type}

theorem generated_ok : generated.ok := by decide

/-- **round trip**: the documented reader recovers exactly the image state and consumes exactly the image -/
theorem decode_encode (c : EbConsts) (hc : c.ok) (sd : Serde ι) (hsd : sd.Lawful) (s : Image ι) (hs : WF c sd s) (tail : Bytes) :
    decode c sd (encode c sd s ++ tail) = some (s, tail) := by
  obtain ⟨hk, hk1, hkm, hbody⟩ := hs
  obtain ⟨hf, hv, hpe, hpf, f10, f00, f01⟩ := hc
  obtain ⟨k, body⟩ := s
  cases body with
  | none =>
    simp only [decode, encode, hasPartial, encodeBody, Option.isNone_none, if_true, List.append_assoc]
    rw [bind_u8 _ hpe, bind_u8 _ hv, bind_u8 _ hf, bind_u8 _ f10.1, bind_u32 _ hk, f10.2.1, f10.2.2,
      bind_guard _ (by simp [hk1, hkm]), bind_guard _ (by simp), bind_guard _ (by simp)]
    rfl
  | some b =>
    obtain ⟨hn, hcw, hwm, hrho, hcc, hlen, hfloor, hits, hpart⟩ := hbody
    have hfl : flagsRT c false b.partialItem.isSome := by cases b.partialItem.isSome <;> assumption
    simp only [decode, encode, hasPartial, encodeBody, Option.isNone_some, Bool.false_eq_true, if_false, List.append_assoc]
    rw [bind_u8 _ hpf, bind_u8 _ hv, bind_u8 _ hf, bind_u8 _ hfl.1, bind_u32 _ hk, hfl.2.1, hfl.2.2,
      bind_guard _ (by simp [hk1, hkm]), bind_guard _ (by simp), bind_guard _ (by simp)]
    simp only [Bool.false_eq_true, if_false, decodeBody]
    rw [bind_assoc, bind_u64 _ hn, bind_assoc, bind_u64 _ hcw, bind_assoc, bind_u64 _ hwm, bind_assoc, bind_u64 _ hrho,
      bind_assoc, bind_u64 _ hcc]
    simp only [hfloor, hfl.2.2]
    rw [bind_assoc, bind_guard _ (decide_eq_true hlen), bind_assoc, bind_ok (decItems_enc sd hsd b.items rfl hits _), bind_assoc]
    obtain ⟨n, cw, wm, rho, cc, items, partialItem⟩ := b
    cases partialItem with
    | none => rfl
    | some x =>
      simp only [decPartial, encPartial, Option.isSome_some, if_true]
      rw [bind_assoc, bind_ok (hsd.rt x tail (hpart x rfl))]
      rfl

/-- the image has exactly the advertised size (`get_serialized_size_bytes`: 8, or 40 + 8 + Σ size_of_item) -/
theorem size_eq (c : EbConsts) (h1 : c.preEmpty = 1) (h5 : c.preFull = 5) (sd : Serde ι) (s : Image ι) :
    (encode c sd s).length = serializedSize c sd s := by
  simp only [encode, serializedSize, List.length_append, length_w8, length_w32, h1, h5]
  cases s.body with
  | none => rfl
  | some b =>
    simp only [encodeBody, List.length_append, length_w64, length_encItems, ← Nat.add_assoc]
    cases b.partialItem <;> rfl

/-- c = 2.666… (0x4005555555555555): two full items and a partial item (string items "ad", "ae", "ac") -/
def exPartial : Image Bytes :=
  { k := 3,
    body := some
      { n := 4, cumWt := 0x4020000000000000, wtMax := 0x4008000000000000, rho := 0x3fd5555555555555,
        c := 0x4005555555555555, items := [[0x61, 0x64], [0x61, 0x65]], partialItem := some [0x61, 0x63] } }
/-- c = 2.0: two full items, no partial item -/
def exWhole : Image Nat :=
  { k := 5,
    body := some
      { n := 2, cumWt := 0x4000000000000000, wtMax := 0x3ff0000000000000, rho := 0x3ff0000000000000,
        c := 0x4000000000000000, items := [7, 9], partialItem := none } }

example : WF generated serdeStr exPartial := by
  unfold WF serdeStr exPartial
  decide
example : WF generated serdeU64 exWhole := by
  unfold WF serdeU64 exWhole
  decide
example : generated.preEmpty = 1 ∧ generated.preFull = 5 := by decide

end DS.Wire.Ebpps
