/- C06: definedness lemmas used by the non-vacuity examples of Props/C06.lean (the bound functions return a value,
   i.e. the C++ does not throw, on ordinary arguments). -/
import DSProofs.Lemmas.BoundsCpc
namespace DS.Bounds
set_option linter.unusedSectionVars false

variable {K : Type} [Field K] [LinearOrder K] [IsStrictOrderedRing K] (F : MathFns K)

theorem gauss_defined (T : BinomTables) (n : Nat) (hn : 120 < n) (θ : K) (h0 : 0 < θ) (h1 : θ < 1) (k : Nat) (hk1 : 1 ≤ k) (hk3 : k ≤ 3) :
    ∃ lb ub, @getLowerBound K (fieldNum F) T n θ k = some lb ∧ @getUpperBound K (fieldNum F) T n θ k = some ub := by
  have ha : @argsOk K (fieldNum F) θ k = true := (argsOk_iff F θ k).mpr ⟨⟨le_of_lt h0, le_of_lt h1⟩, hk1, hk3⟩
  have e : (fieldNum F).eqb θ ((1 : Nat) : K) = false := by rw [eqb_eq]; exact decide_eq_false (by simpa using ne_of_lt h1)
  have c2 : ¬ n = 0 := by omega
  have c3 : ¬ n = 1 := by omega
  unfold getLowerBound getUpperBound approxLb approxUb
  simp only [ha, if_true, nat_eq, e, Bool.false_eq_true, if_false, c2, c3, gt_iff_lt, hn, Option.map_some]
  exact ⟨_, _, rfl, rfl⟩

theorem hll_hip_defined (s : HllReg K) (hooo : s.ooo = false) (h4 : 4 ≤ s.lgK) (h12 : s.lgK ≤ 12) (sd : Nat) (h1 : 1 ≤ sd) (h3 : sd ≤ 3) :
    @hllEstimate K (fieldNum F) hllT s = some s.hip ∧
    ∃ lb ub, @hllLowerBound K (fieldNum F) hllT s sd = some lb ∧ @hllUpperBound K (fieldNum F) hllT s sd = some ub := by
  have hs : sdOk sd = true := (sdOk_iff sd).mpr ⟨h1, h3⟩
  have hmin : hllT.minLgK = 4 := rfl
  have hmax : hllT.maxLgK = 21 := rfl
  have hr : ¬ (s.lgK < hllT.minLgK ∨ s.lgK > hllT.maxLgK) := by rw [hmin, hmax]; omega
  have hb : ¬ s.lgK > 12 := by omega
  unfold hllLowerBound hllUpperBound hllEstimate hllRelErr
  simp only [hs, hooo, Bool.not_true, Bool.false_eq_true, if_false, hr, hb]
  exact ⟨trivial, _, _, rfl, rfl⟩

theorem cpc_hip_defined (s : CpcState K) (hm : s.merged = false) (hc : s.numCoupons ≠ 0) (h4 : 4 ≤ s.lgK) (k : Nat) (h1 : 1 ≤ k) (h3 : k ≤ 3) :
    @cpcEstimate K (fieldNum F) cpcT s = some s.hip ∧
    ∃ lb ub, @cpcLowerBound K (fieldNum F) cpcT s k = some lb ∧ @cpcUpperBound K (fieldNum F) cpcT s k = some ub := by
  have hk : kappaOk k = true := (kappaOk_iff k).mpr ⟨h1, h3⟩
  have h4' : ¬ s.lgK < 4 := by omega
  unfold cpcEstimate cpcLowerBound cpcUpperBound hipConfidenceLb hipConfidenceUb
  simp only [hk, hm, Bool.not_true, Bool.not_false, Bool.false_eq_true, if_false, if_true, hc, h4']
  exact ⟨trivial, _, _, rfl, rfl⟩

end DS.Bounds
