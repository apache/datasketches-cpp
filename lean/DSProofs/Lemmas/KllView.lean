/- The sorted view of a KLL sketch: sortedness, total weight, rank = weight below (the bridge to C08's `wb`). -/
import DSProofs.Lemmas.KllTruth
import DSProofs.Lemmas.KllMech
-- `SortedView2` and not `SortedView` (whose lemmas are the ones used here): Props/C08_Kll sees Mathlib through this module,
-- and without it `2 ^ n` in the statements there elaborates with another `Nat` power instance
import DSProofs.Lemmas.SortedView2
namespace DS.Kll
open DS DS.SortedView

variable {α : Type}

theorem viewRaw_sorted {lt : α → α → Bool} (sw : StrictWeak lt) : ∀ (L : List (List α)) (h : Nat) (acc : List (α × Nat)),
    SortedE lt acc → (∀ l ∈ L, Sorted lt l) → SortedE lt (viewRaw lt L h acc)
  | [], _, acc, ha, _ => ha
  | l :: t, h, acc, ha, hl => by
    simp only [viewRaw]
    exact viewRaw_sorted sw t (h + 1) _ (add_sorted sw (2 ^ h) ha (hl l (by simp))) (fun l' hl' => hl l' (List.mem_cons_of_mem _ hl'))

theorem viewRaw_wP (lt : α → α → Bool) (p : α → Bool) : ∀ (L : List (List α)) (h : Nat) (acc : List (α × Nat)),
    wP p (viewRaw lt L h acc) = wP p acc + Mech.wb p h L
  | [], _, acc => rfl
  | l :: t, h, acc => by
    rw [viewRaw, viewRaw_wP lt p t (h + 1), wP_add, Mech.wb, Nat.add_assoc]; rfl

theorem all_levels_sorted {P : Params} {lt : α → α → Bool} {s : Sketch α} (h : InvS P lt s) (h0 : s.sorted0 = true) :
    ∀ l ∈ s.levels, Sorted lt l := by
  intro l hl
  obtain ⟨i, hi, rfl⟩ := List.getElem_of_mem hl
  have e : s.levels[i] = s.levels.getD i [] := by
    rw [List.getD_eq_getElem?_getD, List.getElem?_eq_getElem hi]; rfl
  rw [e]
  cases i with
  | zero => exact h.sorted0 h0
  | succ j => exact h.sorted _ (by omega)

theorem sortLevelZero_sorted0 (c : Cmp α) (s : Sketch α) : (sortLevelZero c s).sorted0 = true := by
  unfold sortLevelZero; split
  · assumption
  · rfl

theorem sortLevelZero_n (c : Cmp α) (s : Sketch α) : (sortLevelZero c s).n = s.n := by
  unfold sortLevelZero; split <;> rfl

theorem sortLevelZero_wb (c : Cmp α) (s : Sketch α) (p : α → Bool) :
    Mech.wb p 0 (sortLevelZero c s).levels = Mech.wb p 0 s.levels := by
  unfold sortLevelZero; split
  · rfl
  · cases s.levels with
    | nil => rfl
    | cons l t => simp only [sortHead, Mech.wb, Mech.cnt_sortBy]

theorem view_props {P : Params} {c : Cmp α} (sw : StrictWeak c.lt) {s : Sketch α} (h : InvS P c.lt s) :
    SortedE c.lt (viewRaw c.lt (sortLevelZero c s).levels 0 []) ∧
    (getSortedView c s).2.total = s.n ∧
    ∀ x incl, rankNum c.lt (getSortedView c s).2 x incl = Mech.wb (isBelow c.lt x incl) 0 s.levels := by
  have h' := sortLevelZero_inv sw h
  have hsrt : SortedE c.lt (viewRaw c.lt (sortLevelZero c s).levels 0 []) :=
    viewRaw_sorted sw _ 0 [] (by unfold SortedE Sorted; simp) (all_levels_sorted h' (sortLevelZero_sorted0 c s))
  refine ⟨hsrt, ?_, ?_⟩
  · simp only [getSortedView, viewOf, build, total_eq_sumW]
    rw [sumW_eq_wP, viewRaw_wP, Mech.wb_true_eq_weightSum, h'.weight, sortLevelZero_n]; exact Nat.zero_add _
  · intro x incl
    simp only [getSortedView, viewOf]
    rw [rankNum_eq sw _ hsrt, viewRaw_wP, sortLevelZero_wb]; exact Nat.zero_add _

/-- `levels.length = 1`: exact mode -/
theorem exact_wb {c : Cmp α} {s : Sketch α} {inp : List α} (ht : InvT c s inp) (h1 : s.levels.length = 1) (p : α → Bool) :
    Mech.wb p 0 s.levels = (inp.filter p).length := by
  have hp := ht.exact h1
  obtain ⟨l0, hs⟩ := List.length_eq_one_iff.1 h1
  rw [hs] at hp ⊢
  simp only [Mech.wb, Mech.cnt, Nat.pow_zero, Nat.one_mul, Nat.add_zero]
  exact (hp.filter p).length_eq

end DS.Kll
