/- C06, obligations over the GENERATED tables, those that the C06 theorems consume: per table a SEMANTIC fact, re-proved by `decide +kernel` whenever the
   headers change (structural damage -- swapped rows, a dropped entry, a sign, a wrong power of two -- breaks one of them).
   Facts are over the exact source values num/den (compared by cross multiplication; all denominators are positive).
   The indexed forms (`∀ n < N, …`) are what the C06 theorems consume. -/
import DSModel.Bounds.Num
import DSGen.Bounds
import DSGen.BoundsHll
import DSGen.BoundsHllComposite
import DSGen.BoundsCpc
import DSProofs.Lemmas.BoundsRows
namespace DS.Bounds.Gen
open DSGen.Bounds

def num (t : Lit) : Int := t.2.1
def den (t : Lit) : Int := (t.2.2 : Int)
/-! a < b, a ≤ b, 0 < a, a < 0 on exact values (each also checks that the denominators are positive) -/
def denPos (t : Lit) : Bool := decide (0 < t.2.2)
def qlt (a b : Lit) : Bool := denPos a && denPos b && decide (num a * den b < num b * den a)
def qle (a b : Lit) : Bool := denPos a && denPos b && decide (num a * den b ≤ num b * den a)
def qpos (a : Lit) : Bool := denPos a && decide (0 < num a)
def qneg (a : Lit) : Bool := denPos a && decide (num a < 0)

theorem delta_indexed : ∀ k, k < 4 → 1 ≤ k →
    (qpos (at' deltaOfNumStdDevs k) && qlt (at' deltaOfNumStdDevs k) DS.Bounds.c1
      && (decide (k = 3) || qlt (at' deltaOfNumStdDevs (k + 1)) (at' deltaOfNumStdDevs k))) = true := by decide +kernel

/-- lb_equiv_table / ub_equiv_table: 121 rows of 3; in every real row (n = 1..120) the equivalent number of standard
    deviations is positive and strictly increasing in the std-dev index -/
theorem lbEquiv_rows : decide (lbEquivTable.length = 363) = true ∧ ∀ n, n < 121 → 1 ≤ n →
    (qpos (at' lbEquivTable (3 * n)) && qlt (at' lbEquivTable (3 * n)) (at' lbEquivTable (3 * n + 1))
      && qlt (at' lbEquivTable (3 * n + 1)) (at' lbEquivTable (3 * n + 2))) = true :=
  have hl : (rows3 lbEquivTable).length = 121 := by decide +kernel
  ⟨by decide +kernel, fun _ hn _ => rows3_all (p := fun a b c => qpos a && qlt a b && qlt b c) (by decide +kernel) (hl ▸ hn)⟩

theorem ubEquiv_rows : decide (ubEquivTable.length = 363) = true ∧ ∀ n, n < 121 → 1 ≤ n →
    (qpos (at' ubEquivTable (3 * n)) && qlt (at' ubEquivTable (3 * n)) (at' ubEquivTable (3 * n + 1))
      && qlt (at' ubEquivTable (3 * n + 1)) (at' ubEquivTable (3 * n + 2))) = true :=
  have hl : (rows3 ubEquivTable).length = 121 := by decide +kernel
  ⟨by decide +kernel, fun _ hn _ => rows3_all (p := fun a b c => qpos a && qlt a b && qlt b c) (by decide +kernel) (hl ▸ hn)⟩

def m1 : Lit := (0, -1, 1)
def rowLbOk (t : List Lit) (r : Nat) : Bool :=
  qpos (at' t (3 * r)) && qlt (at' t (3 * r)) (at' t (3 * r + 1)) && qlt (at' t (3 * r + 1)) (at' t (3 * r + 2))
def rowUbOk (t : List Lit) (r : Nat) : Bool :=
  qneg (at' t (3 * r)) && qlt (at' t (3 * r + 1)) (at' t (3 * r)) && qlt (at' t (3 * r + 2)) (at' t (3 * r + 1)) && qlt m1 (at' t (3 * r + 2))

/-- relative-error tables (lgK 4..12 × 1,2,3 std devs): lower-bound tables positive and increasing in the number of std devs,
    upper-bound tables in (−1, 0) and decreasing -/
theorem relErr_signed_monotone :
    (decide (relErrHipLb.length = 27) && decide (relErrNonHipLb.length = 27) && decide (relErrHipUb.length = 27)
      && decide (relErrNonHipUb.length = 27)) = true ∧
    ∀ r, r < 9 → (rowLbOk relErrHipLb r && rowLbOk relErrNonHipLb r && rowUbOk relErrHipUb r && rowUbOk relErrNonHipUb r) = true := by
  decide +kernel

/-- RSE factors used above lgK 12 and in coupon mode: positive, and 3 standard deviations stay below 100 % -/
theorem rse_factors :
    (qpos hllHipRseFactor && qlt hllHipRseFactor hllNonHipRseFactor
      -- (3·rse)² < 2¹³  (so 3·rse/√k < 1 for every k ≥ 2¹³)
      && decide (9 * num hllNonHipRseFactor * num hllNonHipRseFactor < 8192 * den hllNonHipRseFactor * den hllNonHipRseFactor)
      && qpos couponRse && decide (3 * num couponRse < den couponRse)
      && decide (hllMinLgK = 4) && decide (12 < hllMaxLgK)) = true := by decide +kernel

/-- one row r = lgK − 4 of a confidence table (κ = 1, 2, 3, in units of 10⁻⁴): positive, κ·x_κ strictly increasing in κ, and the
    relative half-width 3·x₃/√k below 1 -/
def confRowOk (t : List Nat) (r : Nat) : Bool :=
  let a := t.getD (3 * r) 0; let b := t.getD (3 * r + 1) 0; let c := t.getD (3 * r + 2) 0
  decide (0 < a) && decide (a < 2 * b) && decide (2 * b < 3 * c) && decide ((3 * c) ^ 2 < 10 ^ 8 * 2 ^ (r + 4))

/-- the four confidence tables (lgK 4..14), row by row; and the asymptotic constants used above lgK 14: positive, 3·x/√k < 1 from 2¹⁵ on -/
theorem cpc_confidence_tables :
    (decide (iconLowSide.length = 33) && decide (iconHighSide.length = 33) && decide (hipLowSide.length = 33)
      && decide (hipHighSide.length = 33)
      && qpos iconErrorConstant && qpos hipErrorConstant
      && decide (9 * num iconErrorConstant ^ 2 < 2 ^ 15 * den iconErrorConstant ^ 2)
      && decide (9 * num hipErrorConstant ^ 2 < 2 ^ 15 * den hipErrorConstant ^ 2)) = true ∧
    ∀ r, r < 11 → (confRowOk iconLowSide r && confRowOk iconHighSide r && confRowOk hipLowSide r && confRowOk hipHighSide r) = true := by
  decide +kernel

end DS.Bounds.Gen
