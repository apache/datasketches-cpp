/- Bit streams: `bitsOf` / `valOf` / `peek`, unary codes, word packing. -/
import DSModel.Cpc.Compress
namespace DS.Cpc

@[simp] theorem length_bitsOf (v n : Nat) : (bitsOf v n).length = n := by simp [bitsOf]

theorem bitsOf_succ (v n : Nat) : bitsOf v (n + 1) = decide (v % 2 = 1) :: bitsOf (v / 2) n := by
  unfold bitsOf
  rw [List.range_succ_eq_map, List.map_cons, List.map_map]
  congr 1
  · exact Nat.testBit_zero v
  · apply List.map_congr_left; intro i _; simp [Nat.testBit_succ]

theorem testBit_valOf (l : Bits) (i : Nat) : (valOf l).testBit i = l.getD i false := by
  induction l generalizing i with
  | nil => simp [valOf]
  | cons b t ih =>
    cases i with
    | zero =>
      rw [Nat.testBit_zero]; simp only [valOf, List.getD_cons_zero]
      cases b <;> simp <;> omega
    | succ i =>
      rw [Nat.testBit_succ, List.getD_cons_succ, ← ih]
      congr 1
      simp only [valOf]; split <;> omega

theorem valOf_bitsOf (v n : Nat) : valOf (bitsOf v n) = v % 2^n := by
  refine Nat.eq_of_testBit_eq fun i => ?_
  rw [testBit_valOf, Nat.testBit_mod_two_pow, bitsOf, List.getD_eq_getElem?_getD, List.getElem?_map]
  by_cases hi : i < n
  · rw [List.getElem?_range hi, decide_eq_true hi]; rfl
  · rw [List.getElem?_eq_none (by simpa using hi), decide_eq_false hi]; rfl

theorem valOf_append (a b : Bits) : valOf (a ++ b) = valOf a + 2^a.length * valOf b := by
  induction a with
  | nil => simp [valOf]
  | cons x t ih =>
    simp only [List.cons_append, valOf, ih, List.length_cons, Nat.pow_succ]
    rw [Nat.mul_add, ← Nat.mul_assoc, Nat.mul_comm 2 (2^t.length)]
    omega

theorem valOf_lt (a : Bits) : valOf a < 2^a.length :=
  Nat.lt_pow_two_of_testBit _ fun i hi => by
    rw [testBit_valOf, List.getD_eq_getElem?_getD, List.getElem?_eq_none hi]; rfl

theorem peek_lt (n : Nat) (bs : Bits) : peek n bs < 2^n := by
  unfold peek
  exact Nat.lt_of_lt_of_le (valOf_lt _) (Nat.pow_le_pow_right (by decide) (List.length_take_le n bs))

theorem peek_bitsOf_append_mod (v len n : Nat) (rest : Bits) (h : len ≤ n) :
    peek n (bitsOf v len ++ rest) % 2^len = v % 2^len := by
  unfold peek
  rw [List.take_append, length_bitsOf, List.take_of_length_le (by simp; exact h), valOf_append, length_bitsOf, valOf_bitsOf]
  rw [Nat.add_mul_mod_self_left, Nat.mod_mod]

theorem peek_bitsOf_append (v len : Nat) (rest : Bits) : peek len (bitsOf v len ++ rest) = v % 2^len := by
  rw [← peek_bitsOf_append_mod v len len rest (Nat.le_refl _), Nat.mod_eq_of_lt (peek_lt len _)]

theorem drop_bitsOf_append (v len : Nat) (rest : Bits) : (bitsOf v len ++ rest).drop len = rest := by
  rw [List.drop_append, length_bitsOf, Nat.sub_self, List.drop_zero, List.drop_of_length_le (by simp), List.nil_append]

theorem readUnary_unaryBits (n : Nat) (rest : Bits) : readUnary (unaryBits n ++ rest) = (n, rest) := by
  induction n with
  | zero => simp [unaryBits, readUnary]
  | succ n ih =>
    have : unaryBits (n + 1) ++ rest = false :: (unaryBits n ++ rest) := by
      simp [unaryBits, List.replicate_succ]
    rw [this, readUnary, ih]

theorem bitsOf_valOf (l : Bits) (n : Nat) (h : l.length ≤ n) : bitsOf (valOf l) n = l ++ List.replicate (n - l.length) false := by
  apply List.ext_getElem
  · simp; omega
  · intro i h1 h2
    simp only [bitsOf, List.getElem_map, List.getElem_range, testBit_valOf]
    rw [List.getD_eq_getElem?_getD]
    by_cases hi : i < l.length
    · rw [List.getElem_append_left hi, List.getElem?_eq_getElem hi]; rfl
    · rw [List.getElem_append_right (by omega), List.getElem_replicate, List.getElem?_eq_none (by omega)]; rfl

theorem unpackWords_packWords (bs : Bits) : ∃ z, unpackWords (packWords bs) = bs ++ List.replicate z false := by
  fun_induction packWords bs with
  | case1 => exact ⟨0, by simp [unpackWords]⟩
  | case2 bs hb ih =>
    obtain ⟨z, hz⟩ := ih
    simp only [unpackWords, List.flatMap_cons] at hz ⊢
    rw [hz, bitsOf_valOf _ 32 (by simp; omega)]
    by_cases h32 : 32 ≤ bs.length
    · refine ⟨z, ?_⟩
      rw [List.length_take, Nat.min_eq_left h32, Nat.sub_self, List.replicate_zero, List.append_nil,
        ← List.append_assoc, List.take_append_drop]
    · have hd : bs.drop 32 = [] := List.drop_of_length_le (by omega)
      have ht : bs.take 32 = bs := List.take_of_length_le (by omega)
      refine ⟨32 - bs.length + z, ?_⟩
      rw [hd, ht, List.nil_append, List.append_assoc, List.replicate_append_replicate]

theorem packWords_lt (bs : Bits) : ∀ w ∈ packWords bs, w < 256^4 := by
  fun_induction packWords bs with
  | case1 => simp
  | case2 bs hb ih =>
    intro w hw
    rcases List.mem_cons.1 hw with rfl | hw
    · calc valOf (bs.take 32) < 2^(bs.take 32).length := valOf_lt _
        _ ≤ 2^32 := Nat.pow_le_pow_right (by decide) (List.length_take_le 32 bs)
        _ = 256^4 := by decide
    · exact ih w hw

theorem packWords_ne_nil (bs : Bits) (h : bs ≠ []) : packWords bs ≠ [] := by
  rw [packWords, dif_neg h]; simp

theorem length_packWords_le (bs : Bits) : (packWords bs).length ≤ bs.length := by
  fun_induction packWords bs with
  | case1 => simp
  | case2 bs hb ih =>
    have hpos : 0 < bs.length := List.length_pos_iff.2 hb
    simp only [List.length_cons, List.length_drop] at ih ⊢
    omega

end DS.Cpc
