/-
C11 (KLL) — truncated images are rejected by the specification reader; no count field makes it read or
allocate beyond the input.

ONLY property theorems and their non-vacuity examples.  The specification reader `Kll.decode` is built only
from bounds-checked combinators; `./check c11_quant` holds the real `kll_sketch::deserialize` (bytes and
stream) to its verdict on EVERY strict prefix of every generated image under ASan/UBSan.
-/
import DSProofs.Props.C09_Kll
namespace DS.Wire.Kll
open Reader

theorem decodeFull_PS (sd : Serde) (hs : sd.Lawful) (c : Cfg) (k : Nat) (lz : Bool) : PS (decodeFull sd c k lz) :=
  (decodeFull_within sd hs c k lz).ps

theorem decodeBody_PS (sd : Serde) (hs : sd.Lawful) (c : Cfg) (pre ver flags k : Nat) :
    PS (decodeBody sd c pre ver flags k) :=
  (decodeBody_within sd hs c pre ver flags k).ps

/-- the specification reader is prefix-safe -/
theorem decode_PS (sd : Serde) (hs : sd.Lawful) (c : Cfg) : PS (decode sd c) := (decode_within sd hs c).ps

/-- EVERY strict prefix of a well-formed image is rejected (the KLL image has no information-free padding) -/
theorem prefix_rejected (sd : Serde) (hs : sd.Lawful) (c : Cfg) (hc : CfgOK c) (s : Image) (hw : WF sd c s = true)
    (n : Nat) (hn : n < (encode sd c s).length) : decode sd c ((encode sd c s).take n) = none :=
  prefix_rejected' (decode sd c) (decode_PS sd hs c) _ s (fun tail => decode_encode sd hs c hc s tail hw) n hn

theorem decodeFull_bounded (sd : Serde) (hs : sd.Lawful) (c : Cfg) (k : Nat) (lz : Bool) (b r : Bytes) (s : Image)
    (h : decodeFull sd c k lz b = some (s, r)) : s.count ≤ b.length :=
  (decodeFull_within sd hs c k lz).le h

/-- a successful decode of `b` yields an image holding at most `|b|` retained items: the item count
(derived from k, num_levels and levels[0]) cannot make the specification reader produce more than the input holds -/
theorem decode_bounded (sd : Serde) (hs : sd.Lawful) (c : Cfg) (b r : Bytes) (s : Image)
    (h : decode sd c b = some (s, r)) : s.count ≤ b.length :=
  (decode_within sd hs c).le h

/-- non-vacuity: truncating the two-level example image after 30 of its 68 bytes is rejected -/
example : decode (Serde.fixed 8) docCfg
    ((encode (Serde.fixed 8) docCfg (.full 8 true 4 8 [13, 15] [1,0,0,0,0,0,0,0] [4,0,0,0,0,0,0,0]
      [[1,0,0,0,0,0,0,0], [4,0,0,0,0,0,0,0], [3,0,0,0,0,0,0,0]])).take 30) = none := by decide

/-- prefix rejection at the constants of the current headers (what `./check c11_quant` compares the real readers with) -/
theorem prefix_rejected_code (sd : Serde) (hs : sd.Lawful) (s : Image) (hw : WF sd codeCfg s = true)
    (n : Nat) (hn : n < (encode sd codeCfg s).length) : decode sd codeCfg ((encode sd codeCfg s).take n) = none :=
  prefix_rejected sd hs codeCfg codeCfg_ok s hw n hn

end DS.Wire.Kll
