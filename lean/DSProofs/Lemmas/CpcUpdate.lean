/- `update_sparse`, `update_windowed`, `row_col_update` preserve the invariant, so it holds after every stream (`inv_run`). -/
import DSProofs.Lemmas.CpcStep
import DSProofs.Lemmas.ListAux
namespace DS.Cpc

/-- replacing table and window of `s` by `t` and `w` records the novel coupon `(r, c)`: the representation stays well formed
and its bits are those of `s` and this one -/
structure Records (s : Sketch) (t w : List Nat) (r c : Nat) : Prop where
  novel : s.bit r c = false
  rep : Rep { s with table := t, window := w }
  bits : AddsBit s { s with table := t, window := w } r c

/-- `Inv` after a novel coupon was recorded and the window stays where it is: the raised count must then still lie in the range
of the offset (`hsp`, `hwin`, `hhi`).  `kxp`, `hip` are arbitrary: `Inv` does not read them. -/
theorem Inv.of_records {s : Sketch} {xs : List Nat} {r c : Nat} (h : Inv s xs) (hr : r < 2^s.lgK) (hc : c < 64)
    {t w : List Nat} (kxp hip : Float) (hrec : Records s t w r c)
    (hsp : w = [] → 32 * (s.numCoupons + 1) < 3 * 2^s.lgK) (hwin : w ≠ [] → 3 * 2^s.lgK ≤ 32 * (s.numCoupons + 1))
    (hhi : w ≠ [] → 8 * (s.numCoupons + 1) < (27 + 8 * s.offset) * 2^s.lgK ∨ s.offset = 56) :
    Inv { s with table := t, window := w, numCoupons := s.numCoupons + 1, kxp := kxp, hip := hip } (xs ++ [r * 64 + c]) := by
  obtain ⟨hb, hn⟩ := hrec.bits.snoc h hr hc hrec.novel
  refine ⟨hrec.rep.sketch_congr rfl rfl rfl rfl, hb, hn.symm, h.ficLe, fun r' c' hr' hc' => ?_, hsp, hwin, hhi,
    fun h1 => Nat.le_trans (h.offLo h1) (Nat.mul_le_mul_left 8 (Nat.le_succ _))⟩
  have hc64 : c' < 64 := Nat.lt_of_lt_of_le hc' (Nat.le_trans h.ficLe (Nat.le_trans h.rep.offLe (by decide)))
  exact (hrec.bits r' c' hr' hc64).trans (by rw [h.ficFull r' c' hr' hc']; rfl)

/-! Off the window (before it, after it, or with no window at all) a bit is the table membership of its code, inverted
before the window.  `update_sparse` and `update_windowed` record a novel coupon there by inserting or erasing its
code; both are a table `t` that differs from the old one in that code alone. -/

theorem bit_table_flip (s : Sketch) (t : List Nat) (r c : Nat)
    (hz : c < s.offset ∨ s.offset + 8 ≤ c ∨ s.window = []) (hrc : r * 64 + c ∈ t ↔ r * 64 + c ∉ s.table) :
    Sketch.bit { s with table := t } r c = !s.bit r c := by
  unfold Sketch.bit
  simp only [hrc, decide_not]
  rcases hz with hz | hz | hz
  · simp only [hz, if_true]; split <;> rfl
  · have h1 : ¬ c < s.offset := Nat.not_lt.2 (Nat.le_of_add_right_le hz)
    simp only [h1, Nat.not_lt.2 hz, if_false, ite_self]
  · simp only [hz, List.isEmpty_nil, if_true]

theorem records_setTable (s : Sketch) (h : Rep s) (t : List Nat) (hs : t.Pairwise (· < ·)) (r c : Nat)
    (hr : r < 2^s.lgK) (hc : c < 64) (hnew : s.bit r c = false) (hz : c < s.offset ∨ s.offset + 8 ≤ c ∨ s.window = [])
    (hrc : r * 64 + c ∈ t ↔ r * 64 + c ∉ s.table) (ht : ∀ x, x ≠ r * 64 + c → (x ∈ t ↔ x ∈ s.table)) :
    Records s t s.window r c := by
  refine ⟨hnew, ⟨hs, fun x hx => ?_, h.offLe, h.sparse, h.win_len, h.win_byte, fun hw x hx => ?_⟩, fun r' c' _ hc' => ?_⟩
  · by_cases e : x = r * 64 + c
    · rw [e]; show r * 64 + c < 64 * 2^s.lgK; omega
    · exact h.tbl_lt x ((ht x e).1 hx)
  · by_cases e : x = r * 64 + c
    · rw [e, rc_mod r c hc]
      exact hz.imp_right fun hz => hz.resolve_right hw
    · exact h.zone hw x ((ht x e).1 hx)
  · by_cases e : r' = r ∧ c' = c
    · obtain ⟨rfl, rfl⟩ := e
      rw [bit_table_flip s t _ _ hz hrc, hnew]; simp
    · have := ht _ (mt (rc_inj r c r' c' hc hc').1 e)
      simp [Sketch.bit, this, e]

theorem records_insert (s : Sketch) (h : Rep s) (r c : Nat) (hr : r < 2^s.lgK) (hc : c < 64) (hnew : s.bit r c = false)
    (hz : s.offset + 8 ≤ c ∨ s.window = []) (hm : r * 64 + c ∉ s.table) :
    Records s (insertS (r * 64 + c) s.table) s.window r c :=
  records_setTable s h _ (sorted_insertS _ _ h.sorted) r c hr hc hnew (.inr hz) (iff_of_true ((mem_insertS _ _ _).2 (.inl rfl)) hm)
    fun x hx => by rw [mem_insertS]; exact or_iff_right hx

theorem inv_updateSparse (T : HipTables) (s : Sketch) (xs : List Nat) (r c : Nat) (h : Inv s xs)
    (hw : s.window = []) (hr : r < 2^s.lgK) (hc : c < 64) :
    Inv (updateSparse T s (r * 64 + c)) (xs ++ [r * 64 + c]) := by
  have ho : s.offset = 0 := h.rep.sparse hw
  have hbit : s.bit r c = decide (r * 64 + c ∈ s.table) := by simp [Sketch.bit, hw]
  unfold updateSparse
  by_cases hm : r * 64 + c ∈ s.table
  · rw [if_pos hm]
    exact inv_dup s xs _ h ((h.bits r c hr hc).1 (by rw [hbit]; exact decide_eq_true hm))
  · rw [if_neg hm]
    have hnew : s.bit r c = false := by rw [hbit]; exact decide_eq_false hm
    have hrec := records_insert s h.rep r c hr hc hnew (.inr hw) hm
    let s1 : Sketch := updateHip T { s with table := insertS (r * 64 + c) s.table, numCoupons := s.numCoupons + 1 } (r * 64 + c)
    show Inv (if 32 * (s.numCoupons + 1) ≥ 3 * 2^s.lgK then promote s1 else s1) _
    by_cases hge : 32 * (s.numCoupons + 1) ≥ 3 * 2^s.lgK
    · rw [if_pos hge]
      -- the promoted state has the same bits; the count is still below the range of offset 1
      exact h.of_records hr hc (t := (promote s1).table) (w := (promote s1).window) _ _
        ⟨hnew, (rep_promote s1 (hrec.rep.sketch_congr rfl rfl rfl rfl) ho).sketch_congr rfl rfl rfl rfl,
          fun r' c' hr' hc' => (promote_bit s1 hw ho r' c' hr' hc').trans (hrec.bits r' c' hr' hc')⟩
        (fun e => absurd e (promote_window_ne s1)) (fun _ => hge) fun _ => .inl (by have := h.sparseC hw; rw [ho]; omega)
    · rw [if_neg hge]
      exact h.of_records hr hc _ _ hrec (fun _ => Nat.lt_of_not_le hge) (absurd hw) (absurd hw)

theorem inv_afterNovel (T : HipTables) (s : Sketch) (xs : List Nat) (r c : Nat) (h : Inv s xs)
    (hw : s.window ≠ []) (hr : r < 2^s.lgK) (hc : c < 64) {t w : List Nat}
    (hrec : Records s t w r c) (hw1 : w ≠ []) :
    Inv (afterNovelWindowed T { s with table := t, window := w } (r * 64 + c)) (xs ++ [r * 64 + c]) := by
  let s2 : Sketch := updateHip T { s with table := t, window := w, numCoupons := s.numCoupons + 1 } (r * 64 + c)
  have hwin : 3 * 2^s.lgK ≤ 32 * (s.numCoupons + 1) := Nat.le_trans (h.winC hw) (Nat.mul_le_mul_left 32 (Nat.le_succ _))
  -- the window stays where it is
  have stay : (8 * (s.numCoupons + 1) < (27 + 8 * s.offset) * 2^s.lgK ∨ s.offset = 56) → Inv s2 (xs ++ [r * 64 + c]) :=
    fun hhi => h.of_records hr hc _ _ hrec (fun e => absurd e hw1) (fun _ => hwin) fun _ => hhi
  show Inv (if 8 * (s.numCoupons + 1) ≥ (27 + 8 * s.offset) * 2^s.lgK then moveWindow T s2 else s2) _
  by_cases hmv : 8 * (s.numCoupons + 1) ≥ (27 + 8 * s.offset) * 2^s.lgK
  · rw [if_pos hmv]
    by_cases hle : s.offset + 1 ≤ 56
    · -- the window moves: the new state is read off the matrix of `s2`
      -- `hl`, `hn` carry the facts about `s2`, whose `lgK` and `numCoupons` are `s.lgK` and `s.numCoupons + 1` by unfolding,
      -- over to the moved state
      obtain ⟨hb2, hn2⟩ := hrec.bits.snoc h hr hc hrec.novel
      have hl := moveWindow_lgK T s2
      have hn := moveWindow_numCoupons T s2
      refine inv_of_matrix _ (s.offset + 1) (buildBitMatrix s2) _ (readsMatrix_moveWindow T s2 hle)
        (hl ▸ mbits_of_rep s2 _ (hrec.rep.sketch_congr rfl rfl rfl rfl) hb2) hle (hn.trans hn2.symm) (hl ▸ hn ▸ hwin) ?_ ?_
      · rw [hl, hn]
        exact Or.inl (offHi_succ _ _ _ (Nat.two_pow_pos _) ((h.offHi hw).resolve_right (by omega)))
      · intro _; rw [hl, hn, offLo_succ]; exact hmv
    · rw [moveWindow_of_gt T s2 (Nat.lt_of_not_le hle)]
      exact stay (Or.inr (by have := h.rep.offLe; omega))
  · rw [if_neg hmv]
    exact stay (Or.inl (Nat.lt_of_not_le hmv))

theorem records_orWindow (s : Sketch) (h : Rep s) (r c : Nat) (hr : r < s.window.length) (hnew : s.bit r c = false)
    (h1 : ¬ c < s.offset) (h2 : c < s.offset + 8) :
    Records s s.table (s.window.set r (s.window.getD r 0 ||| 2^(c - s.offset))) r c := by
  have hnil : ∀ v, s.window.set r v = [] ↔ s.window = [] := List.set_eq_nil_iff r
  have hw : s.window ≠ [] := fun e => by rw [e] at hr; exact Nat.not_lt_zero _ hr
  refine ⟨hnew, ⟨h.sorted, h.tbl_lt, h.offLe, fun e => h.sparse ((hnil _).1 e), fun _ => ?_, fun b hb => ?_,
    fun e => h.zone (mt (hnil _).2 e)⟩, fun r' c' _ _ => ?_⟩
  · show (s.window.set r _).length = _; rw [List.length_set]; exact h.win_len hw
  · rcases List.mem_or_eq_of_mem_set hb with hb | rfl
    · exact h.win_byte b hb
    · exact Nat.or_lt_two_pow (n := 8) (getD_window_lt s h r) (Nat.pow_lt_pow_right (by decide) (by omega))
  · simp only [Sketch.bit, List.isEmpty_eq_false_iff.2 hw, List.isEmpty_eq_false_iff.2 (mt (hnil _).1 hw), Bool.false_eq_true, if_false]
    -- off the window nothing changes, and `c'` is not `c`
    have off : c' ≠ c → ∀ b : Bool, b = (b || decide (r' = r) && decide (c' = c)) := fun e b => by
      rw [decide_eq_false e, Bool.and_false, Bool.or_false]
    by_cases g1 : c' < s.offset
    · rw [if_pos g1, if_pos g1]; exact off (fun e => h1 (e ▸ g1)) _
    · rw [if_neg g1, if_neg g1]
      by_cases g2 : c' < s.offset + 8
      · rw [if_pos g2, if_pos g2, getD_set]
        by_cases e : r' = r
        · subst e
          rw [if_pos ⟨rfl, hr⟩, Nat.testBit_or, Nat.testBit_two_pow, decide_eq_true rfl, Bool.true_and]
          exact congrArg _ (decide_eq_decide.2 (by omega))
        · rw [if_neg fun h => e h.1, decide_eq_false e, Bool.false_and, Bool.or_false]
      · rw [if_neg g2, if_neg g2]; exact off (fun e => g2 (e ▸ h2)) _

theorem inv_updateWindowed (T : HipTables) (s : Sketch) (xs : List Nat) (r c : Nat) (h : Inv s xs)
    (hw : s.window ≠ []) (hr : r < 2^s.lgK) (hc : c < 64) :
    Inv (updateWindowed T s (r * 64 + c)) (xs ++ [r * 64 + c]) := by
  have hne := List.isEmpty_eq_false_iff.2 hw
  have dup : s.bit r c = true → Inv s (xs ++ [r * 64 + c]) := fun hb => inv_dup s xs _ h ((h.bits r c hr hc).1 hb)
  unfold updateWindowed
  simp only [rc_mod r c hc, rc_div r c hc]
  by_cases h1 : c < s.offset
  · -- before the window: inverted logic
    rw [if_pos h1]
    have hbit : s.bit r c = !decide (r * 64 + c ∈ s.table) := by simp [Sketch.bit, hne, h1]
    by_cases hm : r * 64 + c ∈ s.table
    · rw [if_pos hm]
      have hnew : s.bit r c = false := by rw [hbit]; simp [hm]
      exact inv_afterNovel T s xs r c h hw hr hc (records_setTable s h.rep _ (h.rep.sorted.sublist List.erase_sublist) r c hr hc hnew (.inl h1)
        (iff_of_false (fun he => ((mem_erase_sorted _ _ _ h.rep.sorted).1 he).1 rfl) (not_not_intro hm))
        fun x hx => by rw [mem_erase_sorted _ _ _ h.rep.sorted]; exact and_iff_right hx) hw
    · rw [if_neg hm]
      exact dup (by rw [hbit]; simp [hm])
  · rw [if_neg h1]
    by_cases h2 : c < s.offset + 8
    · -- inside the window
      rw [if_pos h2]
      have hbit : s.bit r c = (s.window.getD r 0).testBit (c - s.offset) := by simp [Sketch.bit, hne, h1, h2]
      by_cases he : s.window.getD r 0 ||| 2^(c - s.offset) = s.window.getD r 0
      · rw [if_pos he]
        exact dup (by rw [hbit]; exact (or_two_pow_eq_self_iff _ _).1 he)
      · rw [if_neg he]
        exact inv_afterNovel T s xs r c h hw hr hc (records_orWindow s h.rep r c (by rw [h.rep.win_len hw]; exact hr)
          (by rw [hbit, ← Bool.not_eq_true]; exact mt (or_two_pow_eq_self_iff _ _).2 he) h1 h2) (mt (List.set_eq_nil_iff _ _).1 hw)
    · -- after the window
      rw [if_neg h2]
      have hbit : s.bit r c = decide (r * 64 + c ∈ s.table) := by simp [Sketch.bit, hne, h1, h2]
      by_cases hm : r * 64 + c ∈ s.table
      · rw [if_pos hm]
        exact dup (by rw [hbit]; exact decide_eq_true hm)
      · rw [if_neg hm]
        have hnew : s.bit r c = false := by rw [hbit]; exact decide_eq_false hm
        exact inv_afterNovel T s xs r c h hw hr hc (records_insert s h.rep r c hr hc hnew (.inl (Nat.le_of_not_lt h2)) hm) hw

theorem inv_rowColUpdate (T : HipTables) (s : Sketch) (xs : List Nat) (rc : Nat) (h : Inv s xs)
    (hrc : rc < 64 * 2^s.lgK) : Inv (rowColUpdate T s rc) (xs ++ [rc]) := by
  have hr : rc / 64 < 2^s.lgK := Nat.div_lt_of_lt_mul hrc
  have hc : rc % 64 < 64 := Nat.mod_lt _ (by decide)
  rw [← Nat.div_add_mod' rc 64, rowColUpdate, rc_mod _ _ hc]
  by_cases hf : rc % 64 < s.fic
  · -- every column below fic is full: the coupon is already there
    rw [if_pos hf]
    exact inv_dup s xs _ h ((h.bits _ _ hr hc).1 (h.ficFull _ _ hr hf))
  · rw [if_neg hf]
    by_cases hw : s.window = []
    · rw [if_pos (List.isEmpty_iff.2 hw)]; exact inv_updateSparse T s xs _ _ h hw hr hc
    · rw [if_neg (mt List.isEmpty_iff.1 hw)]; exact inv_updateWindowed T s xs _ _ h hw hr hc

theorem updateSparse_lgK (T s rc) : (updateSparse T s rc).lgK = s.lgK := ite_eq_of rfl (ite_eq_of rfl rfl)

theorem afterNovelWindowed_lgK (T s rc) : (afterNovelWindowed T s rc).lgK = s.lgK := ite_eq_of (moveWindow_lgK T _) rfl

theorem updateWindowed_lgK (T s rc) : (updateWindowed T s rc).lgK = s.lgK :=
  ite_eq_of (ite_eq_of (afterNovelWindowed_lgK T _ rc) rfl)
    (ite_eq_of (ite_eq_of rfl (afterNovelWindowed_lgK T _ rc)) (ite_eq_of rfl (afterNovelWindowed_lgK T _ rc)))

theorem rowColUpdate_lgK (T s rc) : (rowColUpdate T s rc).lgK = s.lgK :=
  ite_eq_of rfl (ite_eq_of (updateSparse_lgK T s rc) (updateWindowed_lgK T s rc))

theorem run_snoc (T : HipTables) (lgK : Nat) (rcs : List Nat) (rc : Nat) :
    run T lgK (rcs ++ [rc]) = rowColUpdate T (run T lgK rcs) rc := by
  simp [run, List.foldl_append]

theorem foldl_lgK (T : HipTables) (rcs : List Nat) (s : Sketch) : (rcs.foldl (rowColUpdate T) s).lgK = s.lgK := by
  induction rcs generalizing s with
  | nil => rfl
  | cons x t ih => rw [List.foldl_cons, ih, rowColUpdate_lgK]

theorem run_lgK (T : HipTables) (lgK : Nat) (rcs : List Nat) : (run T lgK rcs).lgK = lgK := foldl_lgK T rcs (fresh lgK)

theorem inv_foldl (T : HipTables) (rcs : List Nat) (s : Sketch) (xs : List Nat) (h : Inv s xs)
    (hr : ∀ rc ∈ rcs, rc < 64 * 2^s.lgK) : Inv (rcs.foldl (rowColUpdate T) s) (xs ++ rcs) := by
  induction rcs generalizing s xs with
  | nil => simpa using h
  | cons x t ih =>
    rw [List.foldl_cons]
    have := ih (rowColUpdate T s x) (xs ++ [x]) (inv_rowColUpdate T s xs x h (hr x List.mem_cons_self))
      (by intro rc hrc; rw [rowColUpdate_lgK]; exact hr rc (List.mem_cons_of_mem _ hrc))
    simpa using this

theorem inv_run (T : HipTables) (lgK : Nat) (rcs : List Nat) (h : ∀ rc ∈ rcs, rc < 64 * 2^lgK) :
    Inv (run T lgK rcs) rcs := by
  have := inv_foldl T rcs (fresh lgK) [] (inv_fresh lgK) h
  simpa [run] using this

end DS.Cpc
