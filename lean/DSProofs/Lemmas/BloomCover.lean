/- The ghost of Spec.lean and the bit states it speaks of: `Covers` / `Cover` ("every recorded item's index bits are set"), and
what `setFilter`, `setBlock` and `commit` do to the bit state of a key (`keyVal`).  Imported by every Bloom module that speaks of the ghost or the world
(BloomLocal and all above it), so it also holds the index bounds and the argument checks of the constructors (`roundUp64_*`, `not_badSize`). -/
import DSProofs.Lemmas.BloomBits
import DSModel.Bloom.Spec
namespace DS.Bloom

variable {ι : Type}

theorem Ghost.set_S (g : Ghost ι) (k k' : Key) (c : Cfg) (l : List ι) : (g.set k c l).S k' = if k' = k then l else g.S k' := rfl
theorem Ghost.set_C (g : Ghost ι) (k k' : Key) (c : Cfg) (l : List ι) : (g.set k c l).C k' = if k' = k then c else g.C k' := rfl

theorem mem_under (g : Ghost ι) (k : Key) (c : Cfg) (x : ι) : x ∈ g.under k c ↔ g.C k = c ∧ x ∈ g.S k := by
  unfold Ghost.under
  by_cases h : g.C k = c <;> simp [h]

theorem seenBy_sub (g : Ghost ι) (w : World) (v : Nat) (f : Filter) : ∀ y, y ∈ g.seenBy w v f → y ∈ g.under (keyOf v f) f.cfg := by
  unfold Ghost.seenBy
  by_cases h : agrees w f = true
  · rw [if_pos h]; exact fun _ h => h
  · rw [if_neg h]; exact fun _ h => nomatch h

theorem idx_lt (h0 h1 cap i : Nat) (hc : 0 < cap) : idx h0 h1 cap i < cap := Nat.mod_lt _ hc

theorem mem_indices_lt (h0 h1 cap k j : Nat) (hc : 0 < cap) (hj : j ∈ indices h0 h1 cap k) : j < cap := by
  simp only [indices, List.mem_map] at hj
  rcases hj with ⟨a, _, rfl⟩
  exact idx_lt _ _ _ _ hc

theorem idx1_mem_indices (h0 h1 cap k : Nat) (hk : 0 < k) : idx h0 h1 cap 1 ∈ indices h0 h1 cap k := by
  simp only [indices, List.mem_map, List.mem_range]
  exact ⟨0, hk, rfl⟩

theorem allSet_false_of_idx1_clear (x off h0 h1 cap k : Nat) (hk : 0 < k) (hclr : x.testBit (off + idx h0 h1 cap 1) = false) :
    allSet x off (indices h0 h1 cap k) = false :=
  Bool.eq_false_iff.mpr fun hall => by
    rw [(allSet_iff _ _ _).mp hall _ (idx1_mem_indices h0 h1 cap k hk)] at hclr; cases hclr

/-- every item of `l` has all its index bits (configuration `c`) set in `X` at bit offset `off` -/
def Covers (hf : ι → Nat → Option (Nat × Nat)) (X off : Nat) (c : Cfg) (l : List ι) : Prop :=
  ∀ x ∈ l, ∀ h, hf x c.seed = some h → allSet X off (indices h.1 h.2 c.cap c.k) = true

theorem Covers.nil {hf : ι → Nat → Option (Nat × Nat)} {X off : Nat} {c : Cfg} : Covers hf X off c [] := fun _ hx => nomatch hx

theorem covers_of_k0 (hf : ι → Nat → Option (Nat × Nat)) (X off : Nat) (c : Cfg) (l : List ι) (h : c.k = 0) : Covers hf X off c l := by
  intro x _ hh _
  simp [h, indices, allSet]

theorem Covers.mono {hf : ι → Nat → Option (Nat × Nat)} {X Y off off' : Nat} {c : Cfg} {l : List ι}
    (hc : Covers hf X off c l) (hcap : 0 < c.cap)
    (hm : ∀ j, j < c.cap → X.testBit (off + j) = true → Y.testBit (off' + j) = true) : Covers hf Y off' c l :=
  fun x hx h hh => allSet_mono X Y off off' _ (fun j hj hb => hm j (mem_indices_lt _ _ _ _ _ hcap hj) hb) (hc x hx h hh)

theorem Covers.sub {hf : ι → Nat → Option (Nat × Nat)} {X off : Nat} {c : Cfg} {l l' : List ι}
    (hc : Covers hf X off c l) (hs : ∀ x, x ∈ l' → x ∈ l) : Covers hf X off c l' :=
  fun x hx h hh => hc x (hs x hx) h hh

theorem Covers.append {hf : ι → Nat → Option (Nat × Nat)} {X off : Nat} {c : Cfg} {l l' : List ι}
    (h1 : Covers hf X off c l) (h2 : Covers hf X off c l') : Covers hf X off c (l ++ l') := by
  intro x hx h hh
  rcases List.mem_append.mp hx with hx | hx
  · exact h1 x hx h hh
  · exact h2 x hx h hh

theorem Covers.cons_setBits {hf : ι → Nat → Option (Nat × Nat)} {X off : Nat} {c : Cfg} {l : List ι} {x : ι} {h : Nat × Nat}
    (hc : Covers hf X off c l) (hcap : 0 < c.cap) (hx : hf x c.seed = some h) :
    Covers hf (setBits X off (indices h.1 h.2 c.cap c.k)) off c (x :: l) := by
  intro y hy h' hh'
  rcases List.mem_cons.mp hy with rfl | hy
  · rw [hx] at hh'; cases hh'; exact allSet_setBits _ _ _
  · exact (hc.mono hcap (fun j _ hb => testBit_setBits_mono _ _ _ _ hb)) y hy h' hh'

theorem Covers.inter [DecidableEq ι] {hf : ι → Nat → Option (Nat × Nat)} {X Y Z ox oy oz : Nat} {c : Cfg} {l l' : List ι}
    (hx : Covers hf X ox c l) (hy : Covers hf Y oy c l') (hcap : 0 < c.cap)
    (hm : ∀ j, j < c.cap → X.testBit (ox + j) = true → Y.testBit (oy + j) = true → Z.testBit (oz + j) = true) :
    Covers hf Z oz c (l.filter (fun x => decide (x ∈ l'))) := by
  intro x hx' h hh
  rw [List.mem_filter, decide_eq_true_eq] at hx'
  exact allSet_mono X Z ox oz _
    (fun j hj hb => hm j (mem_indices_lt _ _ _ _ _ hcap hj) hb ((allSet_iff _ _ _).mp (hy x hx'.2 h hh) j hj)) (hx x hx'.1 h hh)

/-- `Covers.mono` / `Covers.inter` for a result whose bits are given by an equation with `combineBit`, which is how `setop_bit`
(BloomLocal) describes a set operation -/
theorem Covers.union_bits {hf : ι → Nat → Option (Nat × Nat)} {X Y Z ox oy oz : Nat} {c : Cfg} {l l' : List ι}
    (hx : Covers hf X ox c l) (hy : Covers hf Y oy c l') (hcap : 0 < c.cap)
    (hbit : ∀ j, j < c.cap → Z.testBit (oz + j) = combineBit .union (X.testBit (ox + j)) (Y.testBit (oy + j))) :
    Covers hf Z oz c (l ++ l') :=
  (hx.mono hcap fun j hj hb => by rw [hbit j hj, hb]; rfl).append
    (hy.mono hcap fun j hj hb => by rw [hbit j hj, hb]; exact Bool.or_true _)

theorem Covers.inter_bits [DecidableEq ι] {hf : ι → Nat → Option (Nat × Nat)} {X Y Z ox oy oz : Nat} {c : Cfg} {l l' : List ι}
    (hx : Covers hf X ox c l) (hy : Covers hf Y oy c l') (hcap : 0 < c.cap)
    (hbit : ∀ j, j < c.cap → Z.testBit (oz + j) = combineBit .inter (X.testBit (ox + j)) (Y.testBit (oy + j))) :
    Covers hf Z oz c (l.filter (fun x => decide (x ∈ l'))) :=
  hx.inter hy hcap fun j hj ha hb => by rw [hbit j hj, ha, hb]; rfl

/-- a memory-backed view owns no bit state: its `.own` key holds 0, and `gstep` records nothing for it (`⟨0, 0, 0⟩ []`) -/
def keyVal (w : World) : Key → Nat
  | .own v => match w.filters v with
    | some f => (match f.ref with | .owned b => b | .mem _ => 0)
    | none => 0
  | .mem m => w.blockVal m

def keyOff (P : Params) : Key → Nat
  | .own _ => 0
  | .mem _ => 8 * P.bitsOff

theorem val_eq_keyVal (w : World) (v : Nat) (f : Filter) (h : w.filters v = some f) : w.val f = keyVal w (keyOf v f) := by
  unfold World.val keyOf keyVal
  cases hr : f.ref with
  | owned b => simp [h, hr]
  | mem m => simp

theorem off_eq_keyOff (P : Params) (v : Nat) (f : Filter) : f.off P = keyOff P (keyOf v f) := by
  unfold Filter.off keyOf keyOff
  cases f.ref <;> rfl

/-- the invariant: every bit state covers what the ghost recorded for it -/
def Cover (P : Params) (hf : ι → Nat → Option (Nat × Nat)) (w : World) (g : Ghost ι) : Prop :=
  ∀ key, Covers hf (keyVal w key) (keyOff P key) (g.C key) (g.S key)

/-- where the sequential writers put the count and the bit array -/
def Params.Layout (P : Params) : Prop := P.nbsOff = 24 ∧ P.bitsOff = 32

@[simp] theorem setFilter_filters_same (w : World) (v : Nat) (f : Filter) : (w.setFilter v f).filters v = some f := by
  simp [World.setFilter]

theorem World.setFilter_self {w : World} {v : Nat} {f : Filter} (hv : w.filters v = some f) : w.setFilter v f = w := by
  cases w with
  | mk fs bs =>
    simp only [World.setFilter, World.mk.injEq, and_true]
    funext u
    by_cases e : u = v
    · rw [if_pos e, e]; exact hv.symm
    · rw [if_neg e]

theorem World.setBlock_self {w : World} {m : Nat} {b : Block} (hb : w.blocks m = some b) : w.setBlock m b = w := by
  cases w with
  | mk fs bs =>
    simp only [World.setBlock, World.mk.injEq, true_and]
    funext u
    by_cases e : u = m
    · rw [if_pos e, e]; exact hb.symm
    · rw [if_neg e]

theorem keyVal_setFilter_mem (w : World) (v : Nat) (f : Filter) (m : Nat) : keyVal (w.setFilter v f) (.mem m) = keyVal w (.mem m) := rfl

theorem keyVal_setFilter_own (w : World) (v : Nat) (f : Filter) :
    keyVal (w.setFilter v f) (.own v) = (match f.ref with | .owned b => b | .mem _ => 0) := by
  simp [keyVal, World.setFilter]

theorem keyVal_setBlock_own (w : World) (m : Nat) (b : Block) (v : Nat) : keyVal (w.setBlock m b) (.own v) = keyVal w (.own v) := rfl

theorem keyVal_setBlock_mem (w : World) (m : Nat) (b : Block) : keyVal (w.setBlock m b) (.mem m) = b.val := by
  simp [keyVal, World.setBlock, World.blockVal]

theorem keyVal_setFilter_ne_own {w : World} {v : Nat} {f : Filter} {key : Key} (h : key ≠ .own v) :
    keyVal (w.setFilter v f) key = keyVal w key := by
  cases key with
  | own v' => simp [keyVal, World.setFilter, mt (congrArg Key.own) h]
  | mem m => rfl

theorem keyVal_setFilter_sameRef {w : World} {v : Nat} {f : Filter} (hv : w.filters v = some f) (f' : Filter) (hr : f'.ref = f.ref) (key : Key) :
    keyVal (w.setFilter v f') key = keyVal w key := by
  by_cases e : key = .own v
  · subst e; rw [keyVal_setFilter_own, hr]; simp [keyVal, hv]
  · exact keyVal_setFilter_ne_own e

theorem keyVal_setBlock_ne_mem {w : World} {m : Nat} {b : Block} {key : Key} (h : key ≠ .mem m) :
    keyVal (w.setBlock m b) key = keyVal w key := by
  cases key with
  | own v' => rfl
  | mem m' => simp [keyVal, World.setBlock, World.blockVal, mt (congrArg Key.mem) h]

theorem keyOf_eq_own_iff {u v : Nat} {fu : Filter} : keyOf u fu = .own v → u = v := by
  unfold keyOf
  cases fu.ref with
  | owned b => intro e; injection e
  | mem m => intro e; cases e

theorem keyOf_mem_of_eq {u : Nat} {fu : Filter} {m : Nat} (h : keyOf u fu = .mem m) : fu.ref = .mem m ∧ isMem fu = true := by
  unfold keyOf at h; unfold isMem
  cases hr : fu.ref with
  | owned b => rw [hr] at h; cases h
  | mem m' => rw [hr] at h; injection h with h; subst h; exact ⟨rfl, rfl⟩

theorem ref_of_isMem {f : Filter} (hm : isMem f = true) : ∃ m, f.ref = .mem m := by
  unfold isMem at hm
  cases hr : f.ref with
  | owned b => rw [hr] at hm; cases hm
  | mem m => exact ⟨m, rfl⟩

theorem off_mem (P : Params) (hP : P.Layout) {f : Filter} (hm : isMem f = true) : f.off P = 256 := by
  obtain ⟨m, hr⟩ := ref_of_isMem hm
  simp [Filter.off, hr, hP.2]

theorem keyOf_of_mem {f : Filter} {m : Nat} (hr : f.ref = .mem m) (u : Nat) : keyOf u f = .mem m := by simp [keyOf, hr]

/-- content of the acting filter's bit state after `commit` -/
def commitVal (P : Params) (f : Filter) (x : Nat) (hdr : Option Nat) : Nat :=
  match f.ref with
  | .owned _ => x
  | .mem _ => match hdr with
    | some h => if f.readOnly then x else setField x (8 * P.nbsOff) 64 h
    | none => x

theorem commit_owned (P : Params) (w : World) (v : Nat) (f : Filter) (b : Nat) (hr : f.ref = .owned b) (x nbs : Nat) (d : Bool)
    (hdr : Option Nat) : commit P w v f x nbs d hdr = w.setFilter v { f with ref := .owned x, nbs := nbs, dirty := d } := by
  simp only [commit, hr]

theorem commit_mem (P : Params) (w : World) (v : Nat) (f : Filter) (m : Nat) (hr : f.ref = .mem m) (x nbs : Nat) (d : Bool)
    (hdr : Option Nat) :
    commit P w v f x nbs d hdr = (w.setBlock m ⟨w.blockLen m, commitVal P f x hdr⟩).setFilter v { f with nbs := nbs, dirty := d } := by
  simp only [commit, commitVal, hr]; rfl

theorem commitVal_none (P : Params) (f : Filter) (x : Nat) : commitVal P f x none = x := by
  unfold commitVal; split <;> rfl

/-- `commit` alters `x` only in the count field of a memory block, bytes 24..31 -/
theorem testBit_commitVal (P : Params) (hP : P.Layout) (f : Filter) (x : Nat) (hdr : Option Nat) {j : Nat} (hj : j < 192 ∨ 256 ≤ j) :
    (commitVal P f x hdr).testBit j = x.testBit j := by
  unfold commitVal
  split
  · rfl
  · split
    · split
      · rfl
      · exact testBit_setField_out _ _ _ _ _ (by rw [hP.1]; omega)
    · rfl

theorem commitVal_nbs (P : Params) (f : Filter) (hm : isMem f = true) (hro : f.readOnly = false) (x h : Nat) :
    getField (commitVal P f x (some h)) (8 * P.nbsOff) 64 = h % 2 ^ 64 := by
  obtain ⟨m, hr⟩ := ref_of_isMem hm
  unfold commitVal
  simp only [hr, hro, Bool.false_eq_true, if_false]
  exact getField_setField_same _ _ _ _

theorem commitVal_count (P : Params) (hP : P.Layout) (f : Filter) (hm : isMem f = true) (hro : f.readOnly = false) (x h : Nat) :
    getField (commitVal P f x (some h)) 192 64 = h % 2 ^ 64 := by
  rw [show 192 = 8 * P.nbsOff by rw [hP.1]]; exact commitVal_nbs P f hm hro x h

theorem keyVal_commit_ne (P : Params) (w : World) (v : Nat) (f : Filter) (x nbs : Nat) (d : Bool) (hdr : Option Nat)
    (hv : w.filters v = some f) (key : Key) (hk : key ≠ keyOf v f) :
    keyVal (commit P w v f x nbs d hdr) key = keyVal w key := by
  cases hr : f.ref with
  | owned b =>
    rw [commit_owned P w v f b hr]
    exact keyVal_setFilter_ne_own (by simpa [keyOf, hr] using hk)
  | mem m =>
    rw [commit_mem P w v f m hr, keyVal_setFilter_sameRef (w := w.setBlock m _) hv _ (by rfl)]
    exact keyVal_setBlock_ne_mem (by rwa [keyOf_of_mem hr] at hk)

theorem keyVal_commit_bit (P : Params) (hP : P.Layout) (w : World) (v : Nat) (f : Filter) (x nbs : Nat) (d : Bool)
    (hdr : Option Nat) (j : Nat) :
    (keyVal (commit P w v f x nbs d hdr) (keyOf v f)).testBit (keyOff P (keyOf v f) + j) = x.testBit (keyOff P (keyOf v f) + j) := by
  cases hr : f.ref with
  | owned b => rw [commit_owned P w v f b hr, show keyOf v f = .own v by simp [keyOf, hr], keyVal_setFilter_own]
  | mem m =>
    rw [commit_mem P w v f m hr, keyOf_of_mem hr, keyVal_setFilter_mem, keyVal_setBlock_mem]
    -- the bit array starts at byte 32, above the count field
    exact testBit_commitVal P hP f x hdr (Or.inr (by rw [keyOff, hP.2]; exact Nat.le_add_right 256 j))

theorem cover_set {P : Params} {hf : ι → Nat → Option (Nat × Nat)} {w w' : World} {g : Ghost ι}
    (hc : Cover P hf w g) (k : Key) (c : Cfg) (l : List ι)
    (hframe : ∀ key, key ≠ k → keyVal w' key = keyVal w key)
    (hk : Covers hf (keyVal w' k) (keyOff P k) c l) : Cover P hf w' (g.set k c l) := by
  intro key
  rw [Ghost.set_S, Ghost.set_C]
  by_cases e : key = k
  · rw [if_pos e, if_pos e, e]; exact hk
  · rw [if_neg e, if_neg e, hframe key e]; exact hc key

theorem cover_frame {P : Params} {hf : ι → Nat → Option (Nat × Nat)} {w w' : World} {g : Ghost ι}
    (hc : Cover P hf w g) (hframe : ∀ key, keyVal w' key = keyVal w key) : Cover P hf w' g := by
  intro key; rw [hframe key]; exact hc key

theorem cover_commit {P : Params} {hf : ι → Nat → Option (Nat × Nat)} (hP : P.Layout) {w : World} {g : Ghost ι} {v : Nat} {f : Filter}
    {x : Nat} {c : Cfg} {l : List ι} (hc : Cover P hf w g) (hv : w.filters v = some f) (hl : Covers hf x (f.off P) c l)
    (hcap : 0 < c.cap) (nbs : Nat) (d : Bool) (hdr : Option Nat) :
    Cover P hf (commit P w v f x nbs d hdr) (g.set (keyOf v f) c l) :=
  cover_set hc _ c l (fun key hk => keyVal_commit_ne P w v f x nbs d hdr hv key hk)
    (hl.mono hcap fun j _ hb => by rw [keyVal_commit_bit P hP, ← off_eq_keyOff P v f]; exact hb)

theorem roundUp64_pos (n : Nat) (h : n ≠ 0) : 0 < roundUp64 n ∧ roundUp64 n % 64 = 0 :=
  ⟨Nat.mul_pos (Nat.div_pos (Nat.add_le_add_right (Nat.pos_of_ne_zero h) 63) (by decide)) (by decide), Nat.mul_mod_left _ _⟩

theorem roundUp64_le (n : Nat) : roundUp64 n ≤ n + 63 := Nat.div_mul_le_self (n + 63) 64

theorem not_badSize {P : Params} {nb nh : Nat} (h : badSize P nb nh = false) : 1 ≤ nh ∧ nb ≠ 0 ∧ nb ≤ P.maxBits := by
  simp only [badSize, Bool.or_eq_false_iff, beq_eq_false_iff_ne, decide_eq_false_iff_not, Nat.not_lt] at h
  exact ⟨Nat.pos_of_ne_zero h.1.1, h.1.2, h.2⟩

end DS.Bloom
