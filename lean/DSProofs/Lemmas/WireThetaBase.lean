/- Shared by the theta / tuple / array-of-doubles wire proofs: the payload reader `payloadRd` common to compact theta (serial
   version 3) and tuple images, with its round trip and its bound; the byte arithmetic of `Theta.flagBit`, of which all three
   flags bytes are made. -/
import DSProofs.Lemmas.Wire
import DSModel.Wire.Theta
namespace DS.Wire
open Reader

variable {α β : Type}

theorem Theta.lt_of_le_maxTheta {th : Nat} (h : th ≤ Theta.maxTheta) : th < 2 ^ 64 := Nat.lt_of_le_of_lt h (by decide)

theorem repeatN_u64_wU64s (l : List Nat) (hl : ∀ x ∈ l, x < 2 ^ 64) (r : Bytes) :
    repeatN u64 l.length (Theta.wU64s l ++ r) = some (l, r) :=
  repeatN_enc u64_w64 rfl (fun _ _ => rfl) l r hl

theorem length_wU64s (l : List Nat) : (Theta.wU64s l).length = 8 * l.length :=
  (length_elementwise rfl (fun _ _ => rfl) l fun x _ => length_w64 x).trans (Nat.mul_comm ..)

/-- What the compact theta and tuple readers do once the flags and the seed hash are read: `fe`, `fo` are the empty and
ordered flags, `pre` the preamble longs, `rdE` reads one entry and `mk` builds the image.  The models write this out inline:
the tails of `Theta.decodeV3` and `Tuple.decode` unfold to `payloadRd … Image.mk …` by definitional equality, and that is how
`payloadRd_enc` and `payloadRd_within` are applied to them. -/
def payloadRd (rdE : Reader α) (mk : Bool → Bool → Nat → Nat → List α → β) (fe fo : Bool) (sh exp pre : Nat) : Reader β :=
  if fe then Reader.pure (mk true true sh Theta.maxTheta [])
  else
    Reader.bind (guard (sh == exp)) fun _ =>
    if pre = 1 then Reader.bind rdE fun e => Reader.pure (mk false true sh Theta.maxTheta [e])
    else
      Reader.bind u32 fun n =>
      Reader.bind (skip 4) fun _ =>
      Reader.bind (if pre > 2 then u64 else Reader.pure Theta.maxTheta) fun theta =>
      Reader.bind (repeatN rdE n) fun es =>
      Reader.pure (mk false (fo || decide (n ≤ 1)) sh theta es)

/-- over the components of a well-formed image (`est` its estimation mode, `pre` its preamble longs) and any entry writer `wE`
that `rdE` reads back -/
theorem payloadRd_enc (rdE : Reader α) (wE : List α → Bytes) (mk : Bool → Bool → Nat → Nat → List α → β)
    (e o : Bool) (sh th exp : Nat) (es : List α) (tail : Bytes) (est : Bool) (pre : Nat)
    (hest : est = (decide (th < Theta.maxTheta) && !e))
    (hpre : pre = if est then 3 else if e || es.length == 1 then 1 else 2)
    (hth : th ≤ Theta.maxTheta) (hlen : es.length < 2 ^ 32)
    (hemp : e = true → es = [] ∧ th = Theta.maxTheta) (hord : es.length ≤ 1 → o = true)
    (hseed : e = true ∨ sh = exp) (hrt : repeatN rdE es.length (wE es ++ tail) = some (es, tail)) :
    payloadRd rdE mk e o sh exp pre
      ((if pre > 1 then w32 es.length ++ w32 0 else []) ++ ((if est then w64 th else []) ++ (wE es ++ tail))) =
      some (mk e o sh th es, tail) := by
  subst hest hpre
  unfold payloadRd
  cases e with
  | true =>
    obtain ⟨rfl, rfl⟩ := hemp rfl
    obtain rfl := hord (Nat.zero_le 1)
    obtain ⟨_, h⟩ := pure_some hrt
    simp [Reader.pure, ← h]
  | false =>
    obtain rfl : sh = exp := hseed.resolve_left Bool.false_ne_true
    have hb : (o || decide (es.length ≤ 1)) = o := by
      by_cases h1 : es.length ≤ 1
      · simp [hord h1]
      · simp [h1]
    simp only [Bool.false_eq_true, ↓reduceIte, beq_self_eq_true, bind_guard_true, Bool.not_false, Bool.and_true, Bool.false_or]
    by_cases hlt : th < Theta.maxTheta
    · -- estimation mode: 3 preamble longs
      simp only [hlt, decide_true, ↓reduceIte, Nat.reduceEqDiff, Nat.reduceLT, gt_iff_lt, List.append_assoc]
      rw [bind_u32 _ hlen, bind_skip_of (length_w32 _), bind_u64 _ (Theta.lt_of_le_maxTheta hth), bind_ok hrt, hb]
      rfl
    · obtain rfl : th = Theta.maxTheta := Nat.le_antisymm hth (Nat.le_of_not_lt hlt)
      simp only [Nat.lt_irrefl, decide_false, Bool.false_eq_true, ↓reduceIte, List.nil_append]
      by_cases h1 : es.length = 1
      · -- single entry: 1 preamble long
        match es, h1 with
        | [x], _ =>
          obtain rfl := hord (Nat.le_refl 1)
          simp only [List.length_cons, List.length_nil, beq_self_eq_true, ↓reduceIte, Nat.lt_irrefl, gt_iff_lt, List.nil_append]
          rw [bind_ok (repeatN_one hrt)]
          rfl
      · simp only [beq_iff_eq, h1, ↓reduceIte, Nat.reduceEqDiff, Nat.reduceLT, gt_iff_lt, Nat.lt_irrefl, List.append_assoc]
        rw [bind_u32 _ hlen, bind_skip_of (length_w32 _), bind_pure, bind_ok hrt, hb]
        rfl

/-- the quantile group has a `repeatN_length` of its own (WireQuant: the length alone, no `Consumes`); no module imports both -/
theorem repeatN_length (rd : Reader α) (k : Nat) (hk : Consumes rd k) :
    ∀ n b xs r, repeatN rd n b = some (xs, r) → xs.length = n ∧ r.length + k * n ≤ b.length
  | 0, _, _, _, h => by obtain ⟨rfl, rfl⟩ := pure_some h; exact ⟨rfl, Nat.le_refl _⟩
  | n + 1, b, _, r, h => by
    obtain ⟨x, r1, h1, h⟩ := bind_some h
    obtain ⟨t, r2, h2, h⟩ := bind_some h
    obtain ⟨rfl, rfl⟩ := pure_some h
    obtain ⟨hl, hr⟩ := repeatN_length rd k hk n r1 t r h2
    rw [List.length_cons, hl, Nat.mul_succ, ← Nat.add_assoc]
    exact ⟨rfl, Nat.le_trans (Nat.add_le_add_right hr k) (hk b x r1 h1)⟩

/-- entries of at least 8 bytes each give one entry per 8 bytes; stated at `k = 8` (8 entries per byte), the bound a
bit-packed image meets -/
theorem payloadRd_within {rdE : Reader α} (hE : Within 1 0 rdE fun _ => 8) {mk : Bool → Bool → Nat → Nat → List α → β}
    {sz : β → Nat} (hsz : ∀ e o sh th es, sz (mk e o sh th es) ≤ es.length) (fe fo : Bool) (sh exp pre : Nat) :
    Within 8 0 (payloadRd rdE mk fe fo sh exp pre) sz :=
  Post_ite _ (Within_pure (hsz ..)) <|
    Post_guard fun _ =>
    Post_ite _ (Within_bind (Within_item hE (by decide)) fun _ => Within_pure (hsz ..)) <|
      Within_pass (PS_leNat 4) fun n =>
      Within_pass (PS_skip 4) fun _ =>
      Within_pass (PS_ite _ _ _ (PS_leNat 8) (PS_pure _)) fun _ =>
      Within_bind (Within_items hE (by decide) n) fun _ => Within_pure (Nat.le_trans (hsz ..) (Nat.le_add_left _ 0))

namespace Theta

theorem two_pow_lt_256 (p : Nat) (hp : p < 8) : 2 ^ p < 256 :=
  show 2 ^ p < 2 ^ 8 from Nat.pow_lt_pow_right (by decide) hp

theorem flagBit_lt (p : Nat) (b : Bool) (hp : p < 8) : flagBit p b < 256 := by
  unfold flagBit; split
  · exact two_pow_lt_256 p hp
  · decide

theorem or_lt_256 (a b : Nat) (ha : a < 256) (hb : b < 256) : a ||| b < 256 :=
  Nat.or_lt_two_pow (n := 8) ha hb

theorem testBit_flagBit (p q : Nat) (b : Bool) : (flagBit p b).testBit q = (b && decide (p = q)) := by
  unfold flagBit; cases b <;> simp [Nat.testBit_two_pow]

end Theta
end DS.Wire
