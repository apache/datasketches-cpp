/- C19 / FI: constructor, destructor, copy and move constructor and `get` of the map, and the sketch constructor. -/
import DSProofs.Lemmas.LifeFiArrays
namespace DS.Life.Fi
open DS.Life

theorem ctor_spec (P : Params) (n0 : Nat) (S : Nat → Bool) (hS : ∀ b, n0 ≤ b → S b = true) (lgCur lgMax : Nat)
    (hlg : P.lgMinMap ≤ lgCur) (h0 : Heap) :
    TripleS n0 S (fun h => h = h0 ∧ IdsLt h) (ctor lgCur lgMax)
      (fun m h' => Usable P h' m ∧ Grown h0 h' [] (owned m) []) := by
  intro h hn ⟨he, hlt⟩
  subst he
  unfold ctor
  apply gstep_newTable _ (Grown.refl (own := []) (X := []) hlt (fun _ hb => absurd hb List.not_mem_nil))
    (fun b hb => hS b (Nat.le_trans hn hb))
  intro h' k v s g T hc _ _ _
  exact SafeF.pure ⟨⟨hlg, Nat.zero_le _, T, hc.symm⟩, g⟩

/-- the destruction loop leaves the keys array all raw: `num` counts the active slots from `i` on, so when it runs out
    the remaining slots are inactive, hence raw already -/
theorem dtorLoop_spec (n0 : Nat) (S : Nat → Bool) (k v s n : Nat) (hS : S k = true) (h0 : Heap)
    (T : Tbl false [] h0 k v s n) :
    ∀ f i num, f + i = n → TripleS n0 S
      (fun h => SameOutside [k] h0 h ∧ HasCells h k n ∧ Swept (stAt h0 k) (stAt h k) i (fun _ st => st = .raw) ∧
        cnt (act h0 s) n = cnt (act h0 s) i + num)
      (dtorLoop k s f i num)
      (fun _ h => SameOutside [k] h0 h ∧ HasCells h k n ∧ ∀ j, j < n → stAt h k j = .raw) := by
  intro f
  induction f with
  | zero =>
    intro i num hfi h _ ⟨sb, hc, sw, _⟩
    exact SafeF.pure ⟨sb, hc, fun j hj => sw.done j (fuel_zero hfi ▸ hj)⟩
  | succ f ih =>
    intro i num hfi h hn ⟨sb, hc, sw, hcnt⟩
    have hi : i < n := fuel_lt hfi
    rw [dtorLoop]
    have es : h.find? s = h0.find? s := sb.out s (fun e => T.ks (List.mem_singleton.1 e).symm)
    apply vstep_readWord (HasCells_congr es T.cs) hi
    rw [wordAt_congr es]
    have hslot := T.slot i hi List.not_mem_nil
    by_cases hw : wordAt h0 s i > 0
    · rw [if_pos hw]
      have hnr : stAt h k i ≠ .raw := by rw [sw.rest i (Nat.le_refl _)]; exact hslot.nonraw_of_pos hw
      obtain ⟨ck, eck, est, _⟩ := cell_of_stAt_ne_raw hnr
      apply stepR_destroy eck (est ▸ hnr) hS
      intro h' up
      obtain ⟨hcnt', hlast⟩ := cnt_scan_true hi (act_pos.2 hw) hcnt
      have sw' := sw.step (fun j hj => up.stAt_idx hj k) up.stAt_eq
      by_cases hnum : num - 1 = 0
      · rw [if_pos hnum]
        refine SafeF.pure ⟨sb.trans (up.sameOutside (.head _)), up.hasCells hc, fun j hj => ?_⟩
        by_cases hji : j < i + 1
        · exact sw'.done j hji
        · rw [sw'.rest j (Nat.le_of_not_lt hji)]
          exact (T.slot j hj List.not_mem_nil).raw_of_zero (act_zero.1 (hlast hnum j (Nat.le_of_not_lt hji) hj))
      · rw [if_neg hnum]
        exact ih (i + 1) (num - 1) (fuel_succ hfi) h' (up.next ▸ hn)
          ⟨sb.trans (up.sameOutside (.head _)), up.hasCells hc, sw', hcnt'⟩
    · rw [if_neg hw]
      have hw0 : wordAt h0 s i = 0 := Nat.eq_zero_of_not_pos hw
      exact ih (i + 1) num (fuel_succ hfi) h hn ⟨sb, hc, sw.skip (hslot.raw_of_zero hw0), cnt_scan_false (act_zero.2 hw0) hcnt⟩

theorem dtor_spec (P : Params) (n0 : Nat) (S : Nat → Bool) (m : Map) (hS : ∀ b, b ∈ owned m → S b = true) (h0 : Heap) :
    TripleS n0 S (fun h => h = h0 ∧ Inv P h m ∧ IdsLt h) (dtor m) (fun _ h' => Grown h0 h' (owned m) [] []) := by
  intro h hn ⟨he, hi, hlt⟩
  subst he
  unfold dtor
  rcases InvG.ptrs hi with ⟨k, v, s, hk, hv, hs, ho, T, hc⟩ | ⟨hk, hv, hs, ho, _, hc⟩
  · rw [ho] at hS ⊢
    simp only [hk, hv, hs]
    -- the three deallocations, from a heap that differs from `h` in the keys array only
    have tail : ∀ h1, SameOutside [k] h h1 → HasCells h1 k (2 ^ m.lgCur) → (∀ j, j < 2 ^ m.lgCur → stAt h1 k j = .raw) →
        SafeF S h1 ((dealloc k (2 ^ m.lgCur) >>= fun _ => dealloc v (2 ^ m.lgCur) >>= fun _ => dealloc s (2 ^ m.lgCur)) h1)
          (fun _ h' => Grown h h' [k, v, s] [] []) := by
      intro h1 sb ck1 rk1
      -- the last `dealloc` has no continuation: give it `pure`, so that the step rule applies
      rw [← bind_pure_M (dealloc s _)]
      apply gstep_dealloc3 (A := []) ((Grown.refl hlt (fun b hb => (T.ids b hb).1)).sameOutside sb
          (fun _ hb => Or.inl (List.mem_singleton.1 hb ▸ .head _))) hlt (fun _ _ => List.not_mem_nil)
        T (sb.out v (fun e => T.kv (List.mem_singleton.1 e).symm)) (sb.out s (fun e => T.ks (List.mem_singleton.1 e).symm))
        ck1 rk1 hS
      intro h' g _ _
      exact SafeF.pure g
    by_cases hna : m.numActive > 0
    · rw [if_pos hna]
      apply step_deref
      apply step_deref
      apply SafeF.bind_triple (dtorLoop_spec n0 S k v s (2 ^ m.lgCur) (hS k (.head _)) h T (2 ^ m.lgCur) 0 m.numActive rfl)
        hn ⟨SameOutside.refl _ _, T.ck, Swept.init _ _, hc ▸ (Nat.zero_add _).symm⟩
      intro _ h1 ⟨sb, ck1, rk1⟩ _
      exact tail h1 sb ck1 rk1
    · rw [if_neg hna]
      refine tail h (SameOutside.refl _ _) T.ck (fun j hj => ?_)
      have := cnt_eq_zero_imp (hc ▸ Nat.eq_zero_of_not_pos hna) j hj
      exact (T.slot j hj List.not_mem_nil).raw_of_zero (act_zero.1 this)
  · simp only [hk, hv, hs, ho]
    rw [if_neg (hc ▸ Nat.lt_irrefl 0)]
    exact SafeF.pure (Grown.refl hlt (fun _ hb => absurd hb List.not_mem_nil))

/-- the state of key slot `j` of the copy matches the activity `a j` of the source -/
def KeyMatches (a : Nat → Bool) (j : Nat) (st : Slot) : Prop :=
  (a j = true → ∃ x, st = .live x) ∧ (a j = false → st = .raw)

theorem KeyMatches.of_false {a : Nat → Bool} {j : Nat} (h : a j = false) : KeyMatches a j .raw :=
  ⟨fun ht => absurd (h.symm.trans ht) (by simp), fun _ => rfl⟩

theorem copyLoop_spec (n0 : Nat) (S : Nat → Bool) (ok ov os k v n : Nat) (hSk : S k = true) (hSv : S v = true) (h3 : Heap)
    (T : Tbl true [] h3 ok ov os n) (hkv : k ≠ v) (hold : ∀ b, b ∈ [ok, ov, os] → b ∉ [k, v]) :
    ∀ f i num, f + i = n → TripleS n0 S
      (fun h => SameOutside [k, v] h3 h ∧ HasCells h k n ∧ HasCells h v n ∧ (∀ j, stAt h v j = .raw) ∧
        Swept (fun _ => .raw) (stAt h k) i (KeyMatches (act h3 os)) ∧ cnt (act h3 os) n = cnt (act h3 os) i + num)
      (copyLoop ok ov os k v f i num)
      (fun _ h => SameOutside [k, v] h3 h ∧ HasCells h k n ∧ HasCells h v n ∧ (∀ j, stAt h v j = .raw) ∧
        ∀ j, j < n → KeyMatches (act h3 os) j (stAt h k j)) := by
  have hos := hold os (.tail _ (.tail _ (.head _)))
  intro f
  induction f with
  | zero =>
    intro i num hfi h _ ⟨sb, ck, cv, rv, sw, _⟩
    exact SafeF.pure ⟨sb, ck, cv, rv, fun j hj => sw.done j (fuel_zero hfi ▸ hj)⟩
  | succ f ih =>
    intro i num hfi h hn ⟨sb, ck, cv, rv, sw, hcnt⟩
    have hi : i < n := fuel_lt hfi
    rw [copyLoop]
    have T' : Tbl true [] h ok ov os n := T.sameOutside sb hold
    have eos : h.find? os = h3.find? os := sb.out os hos
    apply vstep_readWord T'.cs hi
    by_cases hw : wordAt h os i > 0
    · rw [if_pos hw, copyConstruct_bind]
      have hai : act h3 os i = true := act_pos.2 (wordAt_congr eos i ▸ hw)
      obtain ⟨hcnt', hlast⟩ := cnt_scan_true hi hai hcnt
      obtain ⟨x, hx⟩ := (T'.slot i hi List.not_mem_nil).live_of_pos hw
      apply vstep_readLive hx
      obtain ⟨ck0, eck0, _, estk0⟩ := ck.cell_st hi
      apply stepR_construct x eck0 (estk0.trans (sw.rest i (Nat.le_refl _))) hSk
      intro h1 u1
      apply vstep_readWord (u1.hasCells T'.cv) hi
      obtain ⟨cv0, ecv0⟩ := (u1.hasCells cv).cell hi
      apply stepR_writeWord _ ecv0 hSv
      intro h2 u2
      have sb2 : SameOutside [k, v] h3 h2 := (sb.trans (u1.sameOutside (.head _))).trans (u2.sameOutside (.tail _ (.head _)))
      have rv2 : ∀ j, stAt h2 v j = .raw := fun j =>
        ((u2.stAt_same ecv0 rfl v j).trans (u1.stAt_ne (fun hh => hkv hh.1.symm))).trans (rv j)
      have sw2 : Swept (fun _ => .raw) (stAt h2 k) (i + 1) (KeyMatches (act h3 os)) :=
        sw.step (fun j hj => (u2.stAt_same ecv0 rfl k j).trans (u1.stAt_idx hj k))
          ⟨fun _ => ⟨x, (u2.stAt_same ecv0 rfl k i).trans u1.stAt_eq⟩, fun hf => absurd (hai.symm.trans hf) (by simp)⟩
      by_cases hnum : num - 1 = 0
      · rw [if_pos hnum]
        refine SafeF.pure ⟨sb2, u2.hasCells (u1.hasCells ck), u2.hasCells (u1.hasCells cv), rv2, fun j hj => ?_⟩
        by_cases hji : j < i + 1
        · exact sw2.done j hji
        · rw [sw2.rest j (Nat.le_of_not_lt hji)]
          exact KeyMatches.of_false (hlast hnum j (Nat.le_of_not_lt hji) hj)
      · rw [if_neg hnum]
        exact ih (i + 1) (num - 1) (fuel_succ hfi) h2 (by rw [u2.next, u1.next]; exact hn)
          ⟨sb2, u2.hasCells (u1.hasCells ck), u2.hasCells (u1.hasCells cv), rv2, sw2, hcnt'⟩
    · rw [if_neg hw]
      have hai : act h3 os i = false := act_zero.2 (wordAt_congr eos i ▸ Nat.eq_zero_of_not_pos hw)
      exact ih (i + 1) num (fuel_succ hfi) h hn ⟨sb, ck, cv, rv, sw.skip (KeyMatches.of_false hai), cnt_scan_false hai hcnt⟩

theorem copyCtor_spec (P : Params) (n0 : Nat) (S : Nat → Bool) (hS : ∀ b, n0 ≤ b → S b = true) (o : Map) (h0 : Heap) :
    TripleS n0 S (fun h => h = h0 ∧ Usable P h o ∧ IdsLt h) (copyCtor o)
      (fun m' h' => Usable P h' m' ∧ Grown h0 h' [] (owned m') []) := by
  intro h hn ⟨he, hu, hlt⟩
  subst he
  obtain ⟨ok, ov, os, hok, hov, hos, _, T, hc⟩ := Usable.ptrs hu
  unfold copyCtor
  have hS' : ∀ b, h.next ≤ b → S b = true := fun b hb => hS b (Nat.le_trans hn hb)
  apply gstep_alloc3 _ (Grown.refl (own := []) (X := []) hlt (fun _ hb => absurd hb List.not_mem_nil)) hS'
  intro h3 k v s g3 N
  have mk : k ∈ [k, v, s] := .head _
  have mv : v ∈ [k, v, s] := .tail _ (.head _)
  have ms : s ∈ [k, v, s] := .tail _ (.tail _ (.head _))
  obtain ⟨T3, a3⟩ := T.of_agree (fun b hb => N.old b (T.ids b hb).2) N.next_le
  have hc3 : o.numActive = cnt (act h3 os) (2 ^ o.lgCur) := by rw [a3]; exact hc
  -- the source arrays are older than the three new ones
  have hne : ∀ b, b ∈ [ok, ov, os] → ∀ x, x ∈ [k, v, s] → b ≠ x := fun b hb x hx =>
    Nat.ne_of_lt (Nat.lt_of_lt_of_le (T.ids b hb).2 (N.lo x hx))
  have hold : ∀ b, b ∈ [ok, ov, os] → b ∉ [k, v] := fun b hb => not_mem_pair (hne b hb k mk) (hne b hb v mv)
  have mos : os ∈ [ok, ov, os] := .tail _ (.tail _ (.head _))
  -- the states are copied wholesale; then the copy is a table whose key slots match the source's activity
  have tail : ∀ h4, SameOutside [k, v] h3 h4 → HasCells h4 k (2 ^ o.lgCur) → HasCells h4 v (2 ^ o.lgCur) →
      (∀ j, stAt h4 v j = .raw) → (∀ j, j < 2 ^ o.lgCur → KeyMatches (act h3 os) j (stAt h4 k j)) →
      SafeF S h4 ((deref (some os) >>= fun os => loopUp (fun i => do let w ← readWord os i; writeWord s i w) (2 ^ o.lgCur) 0 >>=
          fun _ => pure { o with keys := some k, values := some v, states := some s }) h4)
        (fun m' h' => Usable P h' m' ∧ Grown h h' [] (owned m') []) := by
    intro h4 sb ck cv rv hKS
    apply step_deref
    have eos : h4.find? os = h3.find? os := sb.out os (hold os mos)
    have es : h4.find? s = h3.find? s := sb.out s (not_mem_pair N.ks.symm N.vs.symm)
    apply SafeF.bind_triple (copyWords_spec 0 S os s (2 ^ o.lgCur) (hS' s (N.lo s ms)) (hne os mos s ms) h4
      (HasCells_congr es N.rs.cells) (HasCells_congr eos T3.cs)) (Nat.zero_le _) rfl
    intro _ h' ⟨sb', cs', rs', hw'⟩ _
    have ek' : h'.find? k = h4.find? k := sb'.out k (fun e => N.ks (List.mem_singleton.1 e))
    have ev' : h'.find? v = h4.find? v := sb'.out v (fun e => N.vs (List.mem_singleton.1 e))
    have hact : ∀ j, j < 2 ^ o.lgCur → act h' s j = act h3 os j := fun j hj => by
      simp only [act, hw' j hj, wordAt_congr eos]
    have hnx : h'.next = h3.next := sb'.next.trans sb.next
    refine SafeF.pure ⟨InvG.mk_some (k := k) (v := v) (s := s) rfl rfl rfl hu.lg hu.cap ?_ (hc3.trans (cnt_congr hact).symm),
      (g3.sameOutside sb (fun _ hb => Or.inl ((List.mem_cons.1 hb).elim (fun e => e ▸ mk) (fun e => List.mem_singleton.1 e ▸ mv)))).sameOutside sb'
        (fun _ hb => Or.inl (List.mem_singleton.1 hb ▸ ms))⟩
    refine ⟨HasCells_congr ek' ck, HasCells_congr ev' cv, cs', N.kv, N.ks, N.vs, hnx ▸ N.hi k mk, hnx ▸ N.hi v mv, hnx ▸ N.hi s ms,
      fun j => (stAt_congr ev' j).trans (rv j), fun j => ((rs' j).trans (stAt_congr es j)).trans (N.rs.raw j), fun j hj _ => ?_⟩
    have hks := hKS j hj
    rw [← stAt_congr ek'] at hks
    cases hb : act h3 os j with
    | true =>
      obtain ⟨x, hx⟩ := hks.1 hb
      exact SlotOK.active (act_pos.1 ((hact j hj).trans hb)) hx
    | false => exact SlotOK.inactive (act_zero.1 ((hact j hj).trans hb)) (hks.2 hb)
  simp only [hok, hov, hos]
  by_cases hna : o.numActive > 0
  · rw [if_pos hna]
    apply step_deref
    apply step_deref
    apply step_deref
    apply SafeF.bind_triple (copyLoop_spec 0 S ok ov os k v (2 ^ o.lgCur) (hS' k (N.lo k mk)) (hS' v (N.lo v mv)) h3 T3 N.kv hold
      (2 ^ o.lgCur) 0 o.numActive rfl) (Nat.zero_le _)
      ⟨SameOutside.refl _ _, N.rk.cells, N.rv.cells, N.rv.raw, ⟨fun j hj => absurd hj (Nat.not_lt_zero j), fun j _ => N.rk.raw j⟩,
        hc3 ▸ (Nat.zero_add _).symm⟩
    intro _ h4 ⟨sb, ck, cv, rv, hKS⟩ _
    exact tail h4 sb ck cv rv hKS
  · rw [if_neg hna]
    refine tail h3 (SameOutside.refl _ _) N.rk.cells N.rv.cells N.rv.raw (fun j hj => ?_)
    rw [N.rk.raw j]
    exact KeyMatches.of_false (cnt_eq_zero_imp (hc3 ▸ Nat.eq_zero_of_not_pos hna) j hj)

/-- move constructor: the new object takes the three pointers, the source is left with null pointers and `numActive = 0`; no heap
    program runs -/
theorem moveCtor_spec {P : Params} {h : Heap} {m : Map} (hu : Usable P h m) :
    Usable P h (moveCtor m).1 ∧ Inv P h (moveCtor m).2 ∧ owned (moveCtor m).1 = owned m ∧ owned (moveCtor m).2 = [] := by
  refine ⟨hu, ?_, rfl, rfl⟩
  exact ⟨hu.1, Nat.zero_le _, rfl, rfl⟩

theorem getLoop_spec (S : Nat → Bool) (k v s n kv : Nat) (h : Heap) (T : Tbl true [] h k v s n) :
    ∀ f probe, probe < n → SafeF S h (getLoop k v s n kv f probe h) (fun _ h' => h' = h) := by
  intro f
  induction f with
  | zero => intro probe _; exact SafeF.exc _
  | succ f ih =>
    intro probe hp
    rw [getLoop]
    apply vstep_readWord T.cs hp
    by_cases hw : wordAt h s probe > 0
    · rw [if_pos hw]
      obtain ⟨x, hx⟩ := (T.slot probe hp List.not_mem_nil).live_of_pos hw
      apply vstep_readLive hx
      by_cases hkk : x = kv
      · rw [if_pos hkk]
        apply SafeF.last
        apply vstep_readWord T.cv hp
        exact SafeF.pure rfl
      · rw [if_neg hkk]
        exact ih _ (Nat.mod_lt _ (Nat.zero_lt_of_lt hp))
    · rw [if_neg hw]
      exact SafeF.pure rfl

theorem sketchCtor_spec (P : Params) (n0 : Nat) (S : Nat → Bool) (hS : ∀ b, n0 ≤ b → S b = true) (lgMax lgStart : Nat)
    (h0 : Heap) :
    TripleS n0 S (fun h => h = h0 ∧ IdsLt h) (Sketch.ctor P lgMax lgStart)
      (fun d h' => Usable P h' d.map ∧ Grown h0 h' [] (owned d.map) []) := by
  intro h hn ⟨he, hlt⟩
  subst he
  unfold Sketch.ctor
  apply SafeF.bind_triple (ctor_spec P n0 S hS _ _ (Nat.le_max_right _ _) h) hn ⟨rfl, hlt⟩
  intro m h1 ⟨hu, g⟩ _
  by_cases hl : lgStart > lgMax
  · rw [if_pos hl]
    -- the constructor body throws after the member was built: the member is destroyed
    apply SafeF.bind_triple (dtor_spec P 0 S m (fun b hb => hS b ?_) h1) (Nat.zero_le _) ⟨rfl, hu.inv, g.lt⟩
    · intro _ _ _ _
      exact SafeF.exc _
    · exact Nat.le_trans hn ((g.fresh b hb).elim (fun e => absurd e List.not_mem_nil) id)
  · rw [if_neg hl]
    exact SafeF.pure ⟨hu, g⟩

end DS.Life.Fi
