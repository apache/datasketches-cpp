/-
The symbolic evaluators of DSModel/Wire/BitPack.lean on numbers, for the kernel: a symbolic word (one `SBit` per bit) is ONE
natural number with a 16-bit digit per bit, an array of words likewise, so that a statement is a few arithmetic operations.
A number `x` stands for `p ↦ SBit.ofCode (digit x p)` whatever its digits are (`ofCode` is total and reads every even digit as
`zero`), so the simulation needs no invariant.  `deviations_eq_fast` is what Gen/BitPack.lean evaluates.
-/
import DSModel.Wire.BitPack
import DSProofs.Lemmas.BitPackSym
namespace DS.Wire.BitPack

def digit (x p : Nat) : Nat := x >>> (16 * p) % 65536

theorem digit_lt (x p : Nat) : digit x p < 65536 := Nat.mod_lt _ (by decide)

theorem testBit_digit (x p i : Nat) : (digit x p).testBit i = (decide (i < 16) && x.testBit (16 * p + i)) := by
  rw [digit, show (65536 : Nat) = 2 ^ 16 from rfl, Nat.testBit_mod_two_pow, Nat.testBit_shiftRight]

theorem digit_or (a b p : Nat) : digit (a ||| b) p = digit a p ||| digit b p := by
  apply Nat.eq_of_testBit_eq; intro i
  simp only [testBit_digit, Nat.testBit_or, Bool.and_or_distrib_left]

theorem digit_and (a b p : Nat) : digit (a &&& b) p = digit a p &&& digit b p := by
  apply Nat.eq_of_testBit_eq; intro i
  simp only [testBit_digit, Nat.testBit_and]
  cases decide (i < 16) <;> simp

theorem digit_shiftRight (x k p : Nat) : digit (x >>> (16 * k)) p = digit x (p + k) := by
  rw [digit, digit, ← Nat.shiftRight_add, Nat.mul_add, Nat.add_comm]

theorem digit_shiftLeft (x k p : Nat) : digit (x <<< (16 * k)) p = if p < k then 0 else digit x (p - k) := by
  split
  · rename_i h
    obtain ⟨d, rfl⟩ := Nat.exists_eq_add_of_lt h
    rw [digit, show 16 * (p + d + 1) = 16 * d + 16 + 16 * p by omega, Nat.shiftLeft_add, Nat.shiftLeft_shiftRight,
      Nat.shiftLeft_add, Nat.shiftLeft_eq _ 16, Nat.mul_mod_left]
  · rename_i h
    have := digit_shiftRight (x <<< (16 * k)) k (p - k)
    rwa [Nat.shiftLeft_shiftRight, Nat.sub_add_cancel (Nat.le_of_not_lt h), eq_comm] at this

theorem digit_mod (x w p : Nat) : digit (x % 65536 ^ w) p = if p < w then digit x p else 0 := by
  apply Nat.eq_of_testBit_eq; intro i
  rw [show (65536 : Nat) = 2 ^ 16 from rfl, ← Nat.pow_mul, testBit_digit, Nat.testBit_mod_two_pow]
  split
  · rename_i h
    rw [testBit_digit]
    cases hi : decide (i < 16)
    · rfl
    · rw [decide_eq_true (by have := of_decide_eq_true hi; omega), Bool.true_and]
  · rw [Nat.zero_testBit, decide_eq_false (by omega : ¬ 16 * p + i < 16 * w), Bool.false_and, Bool.and_false]

theorem digit_zero (x : Nat) : digit x 0 = x % 65536 := by simp [digit]

theorem digit_succ (x p : Nat) : digit x (p + 1) = digit (x / 65536) p := by
  rw [digit, digit, Nat.mul_succ, Nat.add_comm, Nat.shiftRight_add, Nat.shiftRight_eq_div_pow x 16]

theorem digit_mul (c : Nat) : ∀ p m, (∀ q, digit m q * c < 65536) → digit (m * c) p = digit m p * c := by
  have split_mul : ∀ m, m * c = m % 65536 * c + 65536 * (m / 65536 * c) := fun m => by
    rw [← Nat.mul_assoc, ← Nat.add_mul, Nat.mod_add_div]
  intro p
  induction p with
  | zero =>
    intro m h
    have h0 := h 0
    rw [digit_zero] at h0
    rw [digit_zero, digit_zero, split_mul, Nat.add_mul_mod_self_left, Nat.mod_eq_of_lt h0]
  | succ p ih =>
    intro m h
    have h0 := h 0
    rw [digit_zero] at h0
    have hd : m * c / 65536 = m / 65536 * c := by
      rw [split_mul, Nat.add_mul_div_left _ _ (by decide : 0 < 65536), Nat.div_eq_of_lt h0, Nat.zero_add]
    rw [digit_succ, digit_succ, hd]
    exact ih _ fun q => by have := h (q + 1); rwa [digit_succ] at this

/-- digit 1 in the low `w` places -/
def ones (w : Nat) : Nat := (65536 ^ w - 1) / 65535

theorem ones_spec (w : Nat) : 65536 ^ w = 65535 * ones w + 1 := by
  have : ∃ o, 65536 ^ w = 65535 * o + 1 := by
    induction w with
    | zero => exact ⟨0, rfl⟩
    | succ w ih =>
      obtain ⟨o, ho⟩ := ih
      exact ⟨65536 * o + 1, by rw [Nat.pow_succ, ho, Nat.add_mul, Nat.mul_add, Nat.mul_assoc, Nat.mul_comm o]⟩
  obtain ⟨o, ho⟩ := this
  rw [ones, ho, Nat.add_sub_cancel, Nat.mul_div_cancel_left _ (by decide)]

theorem ones_succ (w : Nat) : ones (w + 1) = 65536 * ones w + 1 := by
  have h := ones_spec (w + 1)
  rw [Nat.pow_succ, ones_spec w] at h
  omega

theorem digit_ones (w p : Nat) : digit (ones w) p = if p < w then 1 else 0 := by
  induction w generalizing p with
  | zero => simp [ones, digit]
  | succ w ih =>
    rw [ones_succ]
    cases p with
    | zero => rw [digit_zero]; simp
    | succ p =>
      rw [digit_succ, show (65536 * ones w + 1) / 65536 = ones w by omega, ih]
      simp

/-- `n` words of `w` digits, word `k` = `f k` (word 0 lowest) -/
def ofWords (w : Nat) (f : Nat → Nat) : Nat → Nat
  | 0 => 0
  | n + 1 => ofWords w f n ||| f n <<< (16 * (w * n))

theorem digit_ofWords (w : Nat) (f : Nat → Nat) (n j p : Nat) (hp : p < w) (hf : ∀ k q, k < n → w ≤ q → digit (f k) q = 0) :
    digit (ofWords w f n) (w * j + p) = if j < n then digit (f j) p else 0 := by
  induction n with
  | zero => simp [ofWords, digit]
  | succ n ih =>
    rw [ofWords, digit_or, ih fun k q hk => hf k q (Nat.lt_succ_of_lt hk), digit_shiftLeft]
    rcases Nat.lt_trichotomy j n with h | rfl | h
    · rw [if_pos h, if_pos (word_lt hp h), if_pos (Nat.lt_succ_of_lt h), Nat.or_zero]
    · rw [if_neg (Nat.lt_irrefl j), if_neg (by omega), if_pos j.lt_succ_self, Nat.zero_or, Nat.add_sub_cancel_left]
    · have := Nat.mul_le_mul_left w h
      rw [Nat.mul_succ] at this
      rw [if_neg (by omega), if_neg (by omega), if_neg (by omega), Nat.zero_or]
      exact hf n _ n.lt_succ_self (by omega)

theorem digit_ofWords_one (f : Nat → Nat) (n p : Nat) (hf : ∀ q, q < n → f q < 65536) :
    digit (ofWords 1 f n) p = if p < n then f p else 0 := by
  have := digit_ofWords 1 f n p 0 Nat.one_pos fun k q hk hq => by
    have := digit_mod (f k) 1 q
    rwa [Nat.pow_one, Nat.mod_eq_of_lt (hf k hk), if_neg (by omega)] at this
  rw [Nat.one_mul, Nat.add_zero, digit_zero] at this
  rw [this]
  split
  · exact Nat.mod_eq_of_lt (hf p ‹_›)
  · rfl

/-- a source bit is odd: bit 0 of a digit says "occupied" -/
def SBit.code : SBit → Nat
  | .zero => 0
  | .src i p => 256 * i + 2 * p + 1
  | .bad => 65535

def SBit.ofCode (d : Nat) : SBit :=
  if d % 2 = 0 then .zero else if d = 65535 then .bad else .src (d / 256) (d / 2 % 128)

/-- the source bits that have a code of their own -/
theorem SBit.ofCode_src {i p : Nat} (hi : i < 255) (hp : p < 128) : ofCode (SBit.src i p).code = .src i p := by
  have ⟨h1, h2, e1, e2⟩ : (256 * i + 2 * p + 1) % 2 ≠ 0 ∧ 256 * i + 2 * p + 1 ≠ 65535 ∧
      (256 * i + 2 * p + 1) / 256 = i ∧ (256 * i + 2 * p + 1) / 2 % 128 = p := by omega
  rw [code, ofCode, if_neg h1, if_neg h2, e1, e2]

theorem SBit.code_eq_zero {s : SBit} : s.code = 0 ↔ s = .zero := by
  cases s <;> simp [code]

/-- the coded word `p ↦ vbit w i p`: digit `p < w` is the code of `src i p`, the others are 0 (`digit_srcWord`).
The part built digit by digit does not mention `i`: it is one closed term per width, which the kernel evaluates once
(see `onValue` below); with `i` inside it, it would be built again for every statement. -/
def srcWord (i w : Nat) : Nat := ones w * (256 * i) ||| ofWords 1 (fun p => 2 * p + 1) w

theorem digit_srcWord (i w p : Nat) (hi : i < 255) (hw : w ≤ 128) : digit (srcWord i w) p = (vbit w i p).code := by
  rw [srcWord, digit_or, digit_mul _ _ _ fun q => by rw [digit_ones]; split <;> omega, digit_ones,
    digit_ofWords_one _ _ _ fun q hq => by omega, vbit]
  split
  · rw [SBit.code, Nat.one_mul, Nat.add_assoc, show 256 * i = 2 ^ 8 * i from rfl, Nat.two_pow_add_eq_or_of_lt (by omega)]
  · rw [Nat.zero_mul]; rfl

theorem ofCode_srcWord (i w p : Nat) (hi : i < 255) (hw : w ≤ 128) : SBit.ofCode (digit (srcWord i w) p) = vbit w i p := by
  rw [digit_srcWord i w p hi hw, vbit]
  split
  · exact SBit.ofCode_src hi (by omega)
  · rfl

theorem and_65535 (c : Nat) (hc : c < 65536) : c &&& 65535 = c := by
  rw [show (65535 : Nat) = 2 ^ 16 - 1 from rfl, Nat.and_two_pow_sub_one_eq_mod, Nat.mod_eq_of_lt hc]

def symWord (w x : Nat) : List SBit := (List.range w).map fun p => SBit.ofCode (digit x p)

/-- `SBit.or` digit by digit: digits that are not occupied are cleared, the others OR-ed, and a digit occupied on
both sides is filled with ones -/
def orWord (w a b : Nat) : Nat :=
  let fa := a &&& ones w
  let fb := b &&& ones w
  a &&& fa * 65535 ||| b &&& fb * 65535 ||| (fa &&& fb) * 65535

theorem digit_orWord (w a b p : Nat) (hp : p < w) : digit (orWord w a b) p = orWord 1 (digit a p) (digit b p) := by
  have flag : ∀ c q, digit (c &&& ones w) q * 65535 < 65536 := fun c q => by
    rw [digit_and, digit_ones]
    have : digit c q &&& (if q < w then 1 else 0) ≤ 1 := Nat.le_trans Nat.and_le_right (by split <;> omega)
    omega
  simp only [orWord, digit_or, digit_and, digit_mul _ _ _ (flag a), digit_mul _ _ _ (flag b),
    digit_mul _ _ (a &&& ones w &&& (b &&& ones w)) fun q => by
      rw [digit_and]; exact Nat.lt_of_le_of_lt (Nat.mul_le_mul_right _ Nat.and_le_right) (flag b q)]
  simp only [digit_ones, if_pos hp, show ones 1 = 1 from rfl]

theorem SBit.ofCode_or (x y : Nat) (hx : x < 65536) (hy : y < 65536) : ofCode (orWord 1 x y) = (ofCode x).or (ofCode y) := by
  have odd : ∀ z, z % 2 = 1 → ofCode z ≠ .zero := fun z hz => by
    unfold ofCode; rw [if_neg (by omega)]; split <;> simp
  simp only [orWord, show ones 1 = 1 from rfl, Nat.and_one_is_mod]
  rcases Nat.mod_two_eq_zero_or_one x with h1 | h1 <;> rcases Nat.mod_two_eq_zero_or_one y with h2 | h2
  · simp [h1, h2, ofCode, SBit.or]
  · have : ofCode x = .zero := by simp [ofCode, h1]
    simp [h1, h2, and_65535 y hy, this, SBit.or]
  · have : ofCode y = .zero := by simp [ofCode, h2]
    simp only [h1, h2, Nat.one_mul, Nat.zero_mul, Nat.and_zero, Nat.or_zero, and_65535 x hx, this]
    cases ofCode x <;> rfl
  · have hb : x ||| y ||| 65535 = 65535 := by
      have h := Nat.or_lt_two_pow (Nat.or_lt_two_pow (n := 16) hx hy) (by decide : 65535 < 2 ^ 16)
      have : 65535 ≤ x ||| y ||| 65535 := Nat.right_le_or
      omega
    simp only [h1, h2, Nat.one_mul, and_65535 x hx, and_65535 y hy, Nat.and_self, hb]
    rw [show ofCode 65535 = .bad by decide]
    cases hx : ofCode x with
    | zero => exact absurd hx (odd x h1)
    | _ => cases hy : ofCode y with
      | zero => exact absurd hy (odd y h2)
      | _ => rfl

theorem orBits_map (l : List Nat) (f g : Nat → SBit) : orBits (l.map f) (l.map g) = l.map fun p => (f p).or (g p) := by
  rw [orBits_eq_zipWith, List.zipWith_map, List.zipWith_self]

theorem symWord_orWord (w a b : Nat) : symWord w (orWord w a b) = orBits (symWord w a) (symWord w b) := by
  rw [symWord, symWord, symWord, orBits_map]
  refine List.map_congr_left fun p hp => ?_
  rw [digit_orWord _ _ _ _ (List.mem_range.1 hp), SBit.ofCode_or _ _ (digit_lt _ _) (digit_lt _ _)]

def symWords (w n m : Nat) : List (List SBit) :=
  (List.range n).map fun j => (List.range w).map fun b => SBit.ofCode (digit m (w * j + b))

theorem symWords_eq {w n m : Nat} (g : Nat → Nat → SBit) (h : ∀ j b, j < n → b < w → SBit.ofCode (digit m (w * j + b)) = g j b) :
    symWords w n m = (List.range n).map fun j => (List.range w).map (g j) :=
  List.map_congr_left fun j hj => List.map_congr_left fun b hb => h j b (List.mem_range.1 hj) (List.mem_range.1 hb)

theorem symWords_init (w n : Nat) : symWords w n (ones (w * n) * 65535) = List.replicate n (List.replicate w .bad) := by
  rw [symWords_eq fun _ _ => .bad]
  · simp [List.map_const']
  · intro j b hj hb
    rw [digit_mul _ _ _ fun p => by rw [digit_ones]; split <;> decide, digit_ones, if_pos (word_lt hb hj)]
    decide

/-- `m` with word `j` (its digits `w j .. w j + w - 1`) replaced by the low `w` digits of `y` -/
def setWord (w m j y : Nat) : Nat :=
  m % 65536 ^ (w * j) ||| (y % 65536 ^ w) <<< (16 * (w * j)) ||| m >>> (16 * (w * (j + 1))) <<< (16 * (w * (j + 1)))

theorem digit_setWord (w m j y i b : Nat) (hb : b < w) :
    digit (setWord w m j y) (w * i + b) = if j = i then digit y b else digit m (w * i + b) := by
  simp only [setWord, digit_or, digit_mod, digit_shiftLeft, digit_shiftRight, Nat.mul_succ]
  rcases Nat.lt_trichotomy i j with h | rfl | h
  · have := word_lt hb h
    rw [if_pos this, if_pos this, if_pos (by omega), if_neg (Nat.ne_of_gt h), Nat.or_zero, Nat.or_zero]
  · rw [if_neg (by omega), if_neg (by omega), Nat.add_sub_cancel_left, if_pos hb, if_pos (by omega), if_pos rfl, Nat.zero_or,
      Nat.or_zero]
  · have := Nat.mul_le_mul_left w h
    rw [Nat.mul_succ] at this
    rw [if_neg (by omega), if_neg (by omega), if_neg (by omega), if_neg (by omega), if_neg (Nat.ne_of_lt h), Nat.zero_or,
      Nat.zero_or, Nat.sub_add_cancel (by omega)]

theorem symWords_set (w n m j y : Nat) : (symWords w n m).set j (symWord w y) = symWords w n (setWord w m j y) := by
  apply List.ext_getElem (by simp [symWords])
  intro i h1 _
  simp only [symWords, symWord, List.getElem_set, List.getElem_map, List.getElem_range]
  refine .trans ?_ (List.map_congr_left fun b hb => congrArg SBit.ofCode (digit_setWord w m j y i b (List.mem_range.1 hb)).symm)
  split <;> rfl

def updWord (w m j : Nat) (isOr : Bool) (e : Nat) : Nat :=
  setWord w m j (if isOr then orWord w (m >>> (16 * (w * j))) e else e)

theorem symWords_upd (w n m j : Nat) (hj : j < n) (isOr : Bool) (e : Nat) :
    (symWords w n m).set j (if isOr then orBits ((symWords w n m).getD j []) (symWord w e) else symWord w e) =
      symWords w n (updWord w m j isOr e) := by
  have hold : (symWords w n m).getD j [] = symWord w (m >>> (16 * (w * j))) := by
    simp [symWords, symWord, List.getD_eq_getElem?_getD, hj, digit_shiftRight, Nat.add_comm]
  rw [updWord, ← symWords_set, hold, ← symWord_orWord]
  cases isOr <;> rfl

def shWordN (sh : Sh) (x w : Nat) : Nat :=
  match sh with
  | .none => x % 65536 ^ w
  | .shl k => x <<< (16 * k) % 65536 ^ w
  | .shr k => x >>> (16 * k) % 65536 ^ w

theorem symWord_shWordN (sh : Sh) (x w : Nat) (f : Nat → SBit) (hx : ∀ p, SBit.ofCode (digit x p) = f p) :
    symWord w (shWordN sh x w) = (List.range w).map (shBit sh f) := by
  refine List.map_congr_left fun p hp => ?_
  have hp := List.mem_range.1 hp
  cases sh with
  | none => rw [shWordN, digit_mod, if_pos hp]; exact hx p
  | shl k => rw [shWordN, digit_mod, if_pos hp, digit_shiftLeft, shBit]; split; rfl; exact hx _
  | shr k => rw [shWordN, digit_mod, if_pos hp, digit_shiftRight]; exact hx _

/-- `regroupLayout a la b lb w`, coded: the `la` source words of `a` digits side by side (the last one lowest) are the
stream; field `j` of the result is its `b` digits from `b (lb-1-j)` on, held in a word of `w` digits -/
def regroupN (a la b lb w : Nat) : Nat :=
  let stream := ofWords a (fun k => srcWord (la - 1 - k) a) la
  ofWords w (fun j => stream >>> (16 * (b * (lb - 1 - j))) % 65536 ^ b) lb

theorem regroupLayout_eq (a la b lb w : Nat) (ha : a ≤ 128) (hla : la ≤ 255) (hab : a * la = b * lb) (hbw : b ≤ w) :
    regroupLayout a la b lb w = symWords w lb (regroupN a la b lb w) := by
  refine (symWords_eq _ fun j p hj hp => ?_).symm
  have hi : ∀ k, la - 1 - k < 255 := fun k => by omega
  rw [regroupN, digit_ofWords w _ lb j p hp fun k q _ hq => by rw [digit_mod, if_neg (by omega)], if_pos hj, digit_mod]
  split
  · rename_i hpb
    have hP := regroup_pos_lt hab hj hpb
    have ha0 : 0 < a := Nat.pos_of_ne_zero fun h => by rw [h, Nat.zero_mul] at hP; omega
    have := digit_ofWords a (fun k => srcWord (la - 1 - k) a) la ((b * (lb - 1 - j) + p) / a) ((b * (lb - 1 - j) + p) % a) (Nat.mod_lt _ ha0)
      fun k q _ hq => by rw [digit_srcWord _ _ _ (hi k) ha, vbit, if_neg (by omega)]; rfl
    rw [Nat.div_add_mod, if_pos ((Nat.div_lt_iff_lt_mul ha0).2 (Nat.mul_comm a la ▸ hP))] at this
    rw [digit_shiftRight, Nat.add_comm p, this, ofCode_srcWord _ _ _ (hi _) ha, vbit, if_pos (Nat.mod_lt _ ha0)]
  · rfl

def spstepN (n : Nat) (s : Nat × Nat) (st : PStmt) : Option (Nat × Nat) :=
  if s.1 < n ∧ st.vi < 8 ∧ shOk st.sh then
    some (if st.inc then s.1 + 1 else s.1, updWord 8 s.2 s.1 st.isOr (shWordN st.sh (srcWord st.vi n) 8))
  else none

def sprunN (n : Nat) : List PStmt → Nat × Nat → Option (Nat × Nat)
  | [], s => some s
  | st :: t, s => match spstepN n s st with
    | some s' => sprunN n t s'
    | none => none

def symPackN (n : Nat) (stmts : List PStmt) : Option Nat :=
  (sprunN n stmts (0, ones (8 * n) * 65535)).map (·.2)

def SPState.ofN (n : Nat) (c : Nat × Nat) : SPState := ⟨c.1, symWords 8 n c.2⟩

theorem spstep_sym (n : Nat) (hn : n ≤ 128) (c : Nat × Nat) (st : PStmt) :
    spstep n (SPState.ofN n c) st = (spstepN n c st).map (SPState.ofN n) := by
  unfold spstep spstepN
  have hlen : (symWords 8 n c.2).length = n := by simp [symWords]
  simp only [SPState.ofN, hlen]
  split
  · rename_i h
    rw [packSBit_eq, ← symWord_shWordN st.sh _ 8 _ fun p => ofCode_srcWord st.vi n p (by omega) hn,
      symWords_upd 8 n c.2 c.1 h.1]
    rfl
  · rfl

theorem sprun_sym (n : Nat) (hn : n ≤ 128) (stmts : List PStmt) (c : Nat × Nat) :
    sprun n stmts (SPState.ofN n c) = (sprunN n stmts c).map (SPState.ofN n) := by
  induction stmts generalizing c with
  | nil => rfl
  | cons st t ih =>
    simp only [sprun, sprunN, spstep_sym n hn]
    cases spstepN n c st with
    | none => rfl
    | some c' => exact ih c'

theorem symPack_eq (n : Nat) (hn : n ≤ 128) (stmts : List PStmt) :
    symPack n stmts = (symPackN n stmts).map (symWords 8 n) := by
  have := sprun_sym n hn stmts (0, ones (8 * n) * 65535)
  rw [SPState.ofN, symWords_init 8 n] at this
  rw [symPack, symPackInit, symPackN, this, Option.map_map, Option.map_map]
  rfl

theorem xbit_zero_of_ge (j pre mask t : Nat) (ht : 8 ≤ t) : xbit j pre mask t = .zero := by
  unfold xbit
  have : ¬ (t + pre < 8 ∧ mask.testBit t = true) := by intro h; omega
  simp [this]

/-- `f n`, written so that the kernel has evaluated `n` to a numeral when `f` gets it.  The kernel keeps what closed terms
evaluate to: applications of `f` to equal numbers are then one term, evaluated once, whereas `f st.mask` is another term
for every statement `st`. -/
def onValue {α : Type} (n : Nat) (f : Nat → α) : α :=
  match n with
  | 0 => f 0
  | k + 1 => f (k + 1)

theorem onValue_eq {α : Type} (n : Nat) (f : Nat → α) : onValue n f = f n := by
  cases n <;> rfl

def spreadMask (mask : Nat) : Nat := ofWords 1 (fun t => if mask.testBit t then 65535 else 0) 8

/-- `(byte >> pre) & mask` for byte `j`.  The routines use a handful of masks, so the spread mask goes through `onValue`. -/
def maskedN (j : Nat) (st : UStmt) : Nat :=
  srcWord j 8 >>> (16 * st.pre) &&& onValue st.mask spreadMask

/-- `ushOk`, with the reach of a left shift read off the operand's word: it has no digit from `31 - k` on -/
def ushOkN (j : Nat) (st : UStmt) : Bool :=
  st.pre < 32 &&
  match st.sh with
  | .none => true
  | .shr k => k < 32
  | .shl k => if st.cast then k < 64 else k < 32 && maskedN j st >>> (16 * (31 - k)) == 0

theorem digit_maskedN (j : Nat) (st : UStmt) (hj : j < 255) (t : Nat) :
    digit (maskedN j st) t = (xbit j st.pre st.mask t).code := by
  rw [maskedN, onValue_eq, spreadMask, digit_and, digit_shiftRight, digit_ofWords_one _ _ _ fun q _ => by split <;> decide, xbit]
  by_cases h1 : t + st.pre < 8
  · rw [if_pos (by omega : t < 8)]
    cases st.mask.testBit t
    · simp; rfl
    · rw [if_pos rfl, if_pos ⟨h1, rfl⟩, and_65535 _ (digit_lt _ _), digit_srcWord _ _ _ hj (by decide), vbit, if_pos h1]
  · rw [digit_srcWord _ _ _ hj (by decide), vbit, if_neg h1, if_neg (mt And.left h1)]; exact Nat.zero_and _

theorem ofCode_maskedN (j : Nat) (st : UStmt) (hj : j < 255) (t : Nat) :
    SBit.ofCode (digit (maskedN j st) t) = xbit j st.pre st.mask t := by
  rw [digit_maskedN j st hj, xbit]
  split
  · exact SBit.ofCode_src hj (by omega)
  · rfl

theorem shiftRight_eq_zero_iff (x d : Nat) : x >>> (16 * d) = 0 ↔ ∀ p, digit x (p + d) = 0 := by
  constructor
  · intro h p
    rw [← digit_shiftRight, h, digit, Nat.zero_shiftRight]
  · intro h
    apply Nat.eq_of_testBit_eq
    intro i
    have := testBit_digit x (i / 16 + d) (i % 16)
    rw [h, Nat.zero_testBit, decide_eq_true (Nat.mod_lt i (by decide)), Bool.true_and] at this
    rw [Nat.zero_testBit, Nat.testBit_shiftRight, this, ← Nat.div_add_mod i 16]
    congr 1; omega

theorem ushOkN_eq (j : Nat) (st : UStmt) (hj : j < 255) : ushOkN j st = ushOk j st := by
  have reach : ∀ k, k < 32 → (maskedN j st >>> (16 * (31 - k)) == 0) =
      (List.range 8).all fun t => xbit j st.pre st.mask t == .zero || t + k < 31 := fun k hk => by
    rw [Bool.eq_iff_iff]
    simp only [beq_iff_eq, shiftRight_eq_zero_iff, digit_maskedN j st hj, SBit.code_eq_zero, List.all_eq_true, List.mem_range,
      Bool.or_eq_true, decide_eq_true_eq]
    constructor
    · intro h t _
      by_cases h2 : t + k < 31
      · exact .inr h2
      · have := h (t - (31 - k))
        rw [Nat.sub_add_cancel (by omega)] at this
        exact .inl this
    · intro h p
      by_cases h2 : p + (31 - k) < 8
      · exact (h _ h2).resolve_right (by omega)
      · exact xbit_zero_of_ge _ _ _ _ (by omega)
  unfold ushOkN ushOk
  cases st.sh with
  | shl k =>
    by_cases hk : k < 32
    · simp only [reach k hk]
    · simp only [hk, decide_false, Bool.false_and]
  | _ => rfl

def sustepN (nbytes : Nat) (s : Nat × Nat) (st : UStmt) : Option (Nat × Nat) :=
  if s.1 < nbytes ∧ st.vi < 8 ∧ ushOkN s.1 st then
    some (if st.inc then s.1 + 1 else s.1, updWord 64 s.2 st.vi st.isOr (shWordN st.sh (maskedN s.1 st) 64))
  else none

def surunN (nbytes : Nat) : List UStmt → Nat × Nat → Option (Nat × Nat)
  | [], s => some s
  | st :: t, s => match sustepN nbytes s st with
    | some s' => surunN nbytes t s'
    | none => none

def symUnpackN (n : Nat) (stmts : List UStmt) : Option Nat :=
  (surunN n stmts (0, ones (64 * 8) * 65535)).map (·.2)

def SUState.ofN (c : Nat × Nat) : SUState := ⟨c.1, symWords 64 8 c.2⟩

theorem sustep_sym (n : Nat) (hn : n ≤ 128) (c : Nat × Nat) (st : UStmt) :
    sustep n (SUState.ofN c) st = (sustepN n c st).map SUState.ofN := by
  unfold sustep sustepN
  have hlen : (symWords 64 8 c.2).length = 8 := by simp [symWords]
  simp only [SUState.ofN, hlen]
  by_cases hp : c.1 < n
  case neg => rw [if_neg fun h => hp h.1, if_neg fun h => hp h.1]; rfl
  rw [ushOkN_eq c.1 st (by omega)]
  split
  · rename_i h
    rw [unpackSBit_eq, ← symWord_shWordN st.sh _ 64 _ (ofCode_maskedN c.1 st (by omega)), symWords_upd 64 8 c.2 st.vi h.2.1]
    rfl
  · rfl

theorem surun_sym (n : Nat) (hn : n ≤ 128) (stmts : List UStmt) (c : Nat × Nat) :
    surun n stmts (SUState.ofN c) = (surunN n stmts c).map SUState.ofN := by
  induction stmts generalizing c with
  | nil => rfl
  | cons st t ih =>
    simp only [surun, surunN, sustep_sym n hn]
    cases sustepN n c st with
    | none => rfl
    | some c' => exact ih c'

theorem symUnpack_eq (n : Nat) (hn : n ≤ 128) (stmts : List UStmt) :
    symUnpack n stmts = (symUnpackN n stmts).map (symWords 64 8) := by
  have := surun_sym n hn stmts (0, ones (64 * 8) * 65535)
  rw [SUState.ofN, symWords_init 64 8] at this
  rw [symUnpack, symUnpackN, this, Option.map_map, Option.map_map]
  rfl

/-- by the Nat-coded evaluator, the routine of width `n` has the specification layout whatever the output block held before -/
def packFast (packR : List (Nat × List PStmt)) (n : Nat) : Bool :=
  n ≤ 64 && match lookupNat n packR with
    | some st => symPackN n st == some (regroupN n 8 8 n 8)
    | none => false

def unpackFast (unpackR : List (Nat × List UStmt)) (n : Nat) : Bool :=
  n ≤ 64 && match lookupNat n unpackR with
    | some st => symUnpackN n st == some (regroupN 8 n n 8 64)
    | none => false

theorem packStatus_eq_fast (packR : List (Nat × List PStmt)) (n : Nat) :
    packStatus packR n = if packFast packR n then 0 else packStatus packR n := by
  split
  · rename_i h
    unfold packFast at h
    unfold packStatus
    revert h
    cases lookupNat n packR with
    | none => simp
    | some st =>
      simp only [Bool.and_eq_true, decide_eq_true_eq, beq_iff_eq]
      intro h
      rw [symPack_eq n (by omega), h.2, specPackLayout_eq_regroup,
        regroupLayout_eq n 8 8 n 8 (by omega) (by decide) (Nat.mul_comm n 8) (Nat.le_refl 8)]
      simp
  · rfl

theorem unpackStatus_eq_fast (unpackR : List (Nat × List UStmt)) (n : Nat) :
    unpackStatus unpackR n = if unpackFast unpackR n then 0 else unpackStatus unpackR n := by
  split
  · rename_i h
    unfold unpackFast at h
    unfold unpackStatus
    revert h
    cases lookupNat n unpackR with
    | none => simp
    | some st =>
      simp only [Bool.and_eq_true, decide_eq_true_eq, beq_iff_eq]
      intro h
      rw [symUnpack_eq n (by omega), h.2, specUnpackLayout_eq_regroup,
        regroupLayout_eq 8 n n 8 64 (by decide) (by omega) (Nat.mul_comm 8 n) h.1]
      simp
  · rfl

/-- `deviations`, asking the evaluators of the model only about the routines that the Nat-coded ones do not accept -/
def deviationsFast (packR : List (Nat × List PStmt)) (unpackR : List (Nat × List UStmt)) : List (Bool × Nat × Nat) :=
  ((List.range 63).filterMap fun i =>
    let s := if packFast packR (i + 1) then 0 else packStatus packR (i + 1)
    if s = 0 then none else some (true, i + 1, s)) ++
  ((List.range 63).filterMap fun i =>
    let s := if unpackFast unpackR (i + 1) then 0 else unpackStatus unpackR (i + 1)
    if s = 0 then none else some (false, i + 1, s))

theorem deviations_eq_fast (packR : List (Nat × List PStmt)) (unpackR : List (Nat × List UStmt)) :
    deviations packR unpackR = deviationsFast packR unpackR := by
  simp only [deviations, deviationsFast, ← packStatus_eq_fast, ← unpackStatus_eq_fast]

end DS.Wire.BitPack
