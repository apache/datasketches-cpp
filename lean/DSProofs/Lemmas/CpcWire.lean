/- Little-endian fields and word arrays of the serialized image in the byte model of C05, `DSModel/Cpc/Wire.lean`.
   (`Lemmas/WireCpc.lean` belongs to the other image model, the Reader model `DSModel/Wire/Cpc.lean` of C09.) -/
import DSModel.Cpc.Wire
namespace DS.Cpc

@[simp] theorem length_leBytes (n x : Nat) : (leBytes n x).length = n := by simp [leBytes]

theorem leBytes_succ (n x : Nat) : leBytes (n + 1) x = x % 256 :: leBytes n (x / 256) := by
  unfold leBytes
  rw [List.range_succ_eq_map, List.map_cons, List.map_map]
  congr 1
  · simp
  · apply List.map_congr_left
    intro i _
    simp only [Function.comp, Nat.succ_eq_add_one, Nat.pow_succ]
    rw [Nat.mul_comm, ← Nat.div_div_eq_div_mul]

theorem ofLe_leBytes (n x : Nat) (h : x < 256^n) : ofLe (leBytes n x) = x := by
  induction n generalizing x with
  | zero => simp [leBytes, ofLe] at *; omega
  | succ n ih =>
    rw [leBytes_succ]
    simp only [ofLe, List.foldr_cons]
    have : x / 256 < 256^n := by rw [Nat.pow_succ] at h; omega
    have := ih (x / 256) this
    simp only [ofLe] at this
    rw [this]; omega

theorem takeLe_leBytes (n x : Nat) (rest : List Nat) (h : x < 256^n) : takeLe n (leBytes n x ++ rest) = some (x, rest) := by
  unfold takeLe
  have hl : ¬ (leBytes n x ++ rest).length < n := by simp
  rw [if_neg hl]
  rw [List.take_append_of_le_length (by simp), List.take_of_length_le (by simp), List.drop_append_of_le_length (by simp),
    List.drop_of_length_le (by simp), List.nil_append, ofLe_leBytes n x h]

theorem takeWords_flatMap (ws : List Nat) (rest : List Nat) (h : ∀ w ∈ ws, w < 256^4) :
    takeWords ws.length (ws.flatMap (leBytes 4) ++ rest) = some (ws, rest) := by
  induction ws with
  | nil => simp [takeWords]
  | cons a t ih =>
    simp only [List.length_cons, List.flatMap_cons, List.append_assoc, takeWords]
    rw [takeLe_leBytes 4 a _ (h a List.mem_cons_self)]
    simp only
    rw [ih (fun w hw => h w (List.mem_cons_of_mem _ hw))]

end DS.Cpc
