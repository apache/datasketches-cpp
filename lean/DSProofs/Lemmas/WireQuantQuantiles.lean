/- Classic quantiles image (for Props/C09_Quantiles .. C11_Quantiles). -/
import DSModel.Wire.Quantiles
import DSProofs.Lemmas.WireQuant
namespace DS.Wire.Quantiles
open Reader

/-- `docCfg` of Props/C09_Quantiles satisfies them -/
def CfgOK (c : Cfg) : Prop := c.family < 256 ∧ c.emptySize = 8 ∧ c.dataStart = 16

instance (c : Cfg) : Decidable (CfgOK c) := by unfold CfgOK; infer_instance

theorem length_header (c : Cfg) (s : Image) : (header c s).length = 8 := by simp [header]

theorem levels_all_iff (sd : Serde) (k : Nat) (ls : List (List Item)) :
    ls.all (fun l => l.length == k && allWf sd l) = true ↔ ∀ l ∈ ls, l.length = k ∧ allWf sd l = true := by
  simp [List.all_eq_true]

theorem repeatN_levels (sd : Serde) (hs : sd.Lawful) (k : Nat) (ls : List (List Item)) (r : Bytes)
    (h : ∀ l ∈ ls, l.length = k ∧ allWf sd l = true) :
    repeatN (repeatN sd.dec k) ls.length (encList (encItems sd) ls ++ r) = some (ls, r) :=
  repeatN_encList (fun l hl r' => hl.1 ▸ repeatN_items sd hs l r' hl.2) ls r h

theorem decodeBody_enc (sd : Serde) (hs : sd.Lawful) (c : Cfg) (pre ver flags k unused : Nat) (b : Body) (r : Bytes)
    (hw : bodyWF sd c ver flags k b = true) :
    decodeBody sd c pre ver flags k unused (encodeBody sd c ver b ++ r) =
      some ({ pre := pre, ver := ver, flags := flags, k := k, unused := unused, body := some b }, r) := by
  simp only [bodyWF, Bool.and_eq_true, decide_eq_true_eq, beq_iff_eq, Bool.or_eq_true] at hw
  obtain ⟨⟨⟨⟨⟨⟨⟨⟨⟨⟨⟨h1, hn⟩, hmn⟩, hmx⟩, hpad⟩, hpad0⟩, hbb⟩, hbbw⟩, hex⟩, hexw⟩, hlv⟩, hlvw⟩ := hw
  simp only [decodeBody, encodeBody, List.append_assoc]
  rw [bind_u64 _ hn, bind_guard _ (decide_eq_true h1), bind_ok (hs.rt b.min _ hmn),
    bind_ok (hs.rt b.max _ hmx),
    bind_opt Iff.rfl (fun _ => u64_w64 _ hpad) (fun hv => hpad0.resolve_left fun h => hv (beq_iff_eq.2 h)), ← hbb, bind_ok (repeatN_items sd hs b.bb _ hbbw), ← hex,
    bind_ok (repeatN_items sd hs b.extra _ hexw), ← hlv,
    bind_ok (repeatN_levels sd hs k b.levels r ((levels_all_iff sd k b.levels).1 hlvw))]
  rfl

theorem decodeBody_within (sd : Serde) (hs : sd.Lawful) (c : Cfg) (pre ver flags k unused : Nat) :
    Within 1 0 (decodeBody sd c pre ver flags k unused) Image.count :=
  Within_pass (PS_leNat 8) fun _ => Post_guard fun _ => Within_pass hs.ps fun _ => Within_pass hs.ps fun _ =>
  Within_pass (PS_ite _ _ _ (PS_leNat 8) (PS_pure _)) fun _ =>
  Within_bind (Within_items_consuming hs.ps hs.progress _) fun _ => Within_bind (Within_items_consuming hs.ps hs.progress _) fun _ =>
  Within_bind (Within_repeatN (Within_items_consuming hs.ps hs.progress k) _) fun _ => Within_pure (Nat.le_of_eq (by rw [Nat.zero_add]; rfl))

theorem decode_within (sd : Serde) (hs : sd.Lawful) (c : Cfg) : Within 1 0 (decode sd c) Image.count :=
  Within_pass (PS_leNat 1) fun _ => Within_pass (PS_leNat 1) fun _ => Within_pass (PS_leNat 1) fun _ => Within_pass (PS_leNat 1) fun _ =>
  Within_pass (PS_leNat 2) fun _ => Within_pass (PS_leNat 2) fun _ => Post_guard fun _ =>
  Post_ite _ (Within_pure (Nat.le_refl 0)) (decodeBody_within sd hs c _ _ _ _ _)

theorem length_encLevels (sd : Serde) (ls : List (List Item)) :
    (encList (encItems sd) ls).length = (ls.map (fun l => sizeItems sd l)).sum := by
  induction ls with
  | nil => rfl
  | cons x t ih => simp [encList, ih, sizeItems]

end DS.Wire.Quantiles
