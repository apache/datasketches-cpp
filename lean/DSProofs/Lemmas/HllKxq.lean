/- kxq0 + kxq1 in exact arithmetic: the incremental updates keep it equal to Σ_slots 2^(-register). -/
import DSProofs.Lemmas.HllRegs
import DSProofs.Lemmas.ListAux
namespace DS.Hll

/-- exact instance of the update arithmetic: numbers scaled by 2^63 (so `2^-v`, v ≤ 63, is the integer `2^(63-v)`); `div` and the
coupon estimator are irrelevant for kxq and set to 0 -/
@[reducible] def exactNum : HNum Int :=
  { ofNat := fun n => (n : Int) * 2^63, add := (· + ·), sub := (· - ·), div := fun _ _ => 0,
    invPow2 := fun v => 2^(63 - v), couponEst := fun _ => 0 }

/-- Σ 2^(-v) over the registers, scaled by 2^63 (`exactNum.invPow2`) -/
def sumPow (l : List Nat) : Int := (l.map (fun v => (2 : Int)^(63 - v))).sum

theorem sumPow_set : ∀ (l : List Nat) (i x : Nat), i < l.length →
    sumPow (l.set i x) = sumPow l - (2 : Int)^(63 - l.getD i 0) + (2 : Int)^(63 - x)
  | [], i, x, h => by simp at h
  | a :: t, 0, x, _ => by
    simp only [List.set_cons_zero, sumPow, List.map_cons, List.sum_cons, List.getD_cons_zero]
    omega
  | a :: t, i + 1, x, h => by
    have ih := sumPow_set t i x (by simpa using h)
    simp only [List.set_cons_succ, sumPow, List.map_cons, List.sum_cons, List.getD_cons_succ] at ih ⊢
    rw [ih]; omega

theorem sumPow_replicate_zero (n : Nat) : sumPow (List.replicate n 0) = (n : Int) * 2^63 := by
  induction n with
  | zero => simp [sumPow]
  | succ k ih =>
    simp only [sumPow, List.replicate_succ, List.map_cons, List.sum_cons] at ih ⊢
    rw [ih]; push_cast; omega

section
attribute [local instance] exactNum

/-- both sides scaled by 2^63, as `exactNum` scales -/
def KxqOk (s : St Int) : Prop := s.kxq0 + s.kxq1 = sumPow s.regs.toList

theorem KxqOk.newHll (lgK : Nat) (tt : TType) (sf : Bool) : KxqOk (newHll lgK tt sf : St Int) := by
  unfold KxqOk DS.Hll.newHll
  simp only [Array.toList_replicate]
  rw [sumPow_replicate_zero]
  show ((2^lgK : Nat) : Int) * 2^63 + (0 : Int) * 2^63 = _
  omega

private theorem ite_sub_add (c : Prop) [Decidable c] (a b x : Int) : (if c then a - x else a) + (if c then b else b - x) = a + b - x := by
  split <;> omega

private theorem ite_add_add (c : Prop) [Decidable c] (a b x : Int) : (if c then a + x else a) + (if c then b else b + x) = a + b + x := by
  split <;> omega

/-- the value removed and the value added each go to one of the two accumulators `kxq0`, `kxq1` -/
theorem hipKxq_sum (s : St Int) (old new : Nat) :
    (hipKxq s old new).kxq0 + (hipKxq s old new).kxq1 = s.kxq0 + s.kxq1 - (2 : Int)^(63 - old) + (2 : Int)^(63 - new) :=
  (ite_add_add ..).trans (congrArg (· + (2 : Int)^(63 - new)) (ite_sub_add ..))

theorem KxqOk.hllUpdate {p : Params} {s : St Int} (h : KxqOk s) (hsz : s.regs.size = 2^s.lgK) (c : Nat) :
    KxqOk (hllUpdate p s c) ∧ (hllUpdate p s c).regs.size = 2^(hllUpdate p s c).lgK := by
  refine hllUpdate_cases (P := fun t => KxqOk t ∧ t.regs.size = 2^t.lgK) p s c ⟨h, hsz⟩ fun _ => ⟨?_, by simp [hsz]⟩
  have hs : cSlot p s.lgK c < s.regs.toList.length := by rw [Array.length_toList, hsz]; exact cSlot_lt p s.lgK c
  unfold KxqOk raiseReg bumpCounts
  show (hipKxq s _ _).kxq0 + (hipKxq s _ _).kxq1 = sumPow (s.regs.setIfInBounds _ _).toList
  rw [hipKxq_sum, Array.toList_setIfInBounds, sumPow_set _ _ _ hs, h, ← getD_toArray]

theorem kxq_exact_foldl (p : Params) : ∀ (cs : List Nat) (s : St Int), KxqOk s → s.regs.size = 2^s.lgK →
    KxqOk (cs.foldl (hllUpdate p) s)
  | [], _, h, _ => h
  | c :: cs, s, h, hsz => by
    have st := h.hllUpdate (p := p) hsz c
    exact kxq_exact_foldl p cs _ st.1 st.2

end

end DS.Hll
