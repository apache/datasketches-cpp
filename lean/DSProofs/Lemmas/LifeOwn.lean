/- C19: what the FI proofs carry through an execution beside `Fi.Upd` (theta and KLL use nothing of this file): `SameOutside` and
   the ownership delta `Grown`. -/
import DSProofs.Lemmas.LifeView
namespace DS.Life

namespace Fi

/-- the second conjunct of `Heap.WF`: all of it that the ownership bookkeeping below needs -/
def IdsLt (h : Heap) : Prop := ∀ b, b ∈ h.ids → b < h.next

theorem IdsLt_setCell {h : Heap} (b i : Nat) (c : Cell) (w : IdsLt h) : IdsLt (h.setCell b i c) := by
  intro x hx; simpa using w x (by simpa using hx)

theorem IdsLt_addLog {h : Heap} (e : Ev) (w : IdsLt h) : IdsLt (h.addLog e) := w

theorem _root_.DS.Life.Alloced.idsLt {h h' : Heap} {n : Nat} (A : Alloced h h' n) (w : IdsLt h) : IdsLt h' := by
  intro x hx
  rw [A.next]; rw [A.ids] at hx
  exact (List.mem_cons.1 hx).elim (fun e => e ▸ Nat.lt_succ_self _) (fun m => Nat.lt_succ_of_lt (w x m))

theorem _root_.DS.Life.Freed.idsLt {h h' : Heap} {t : Nat} (A : Freed h h' t) (w : IdsLt h) : IdsLt h' := by
  intro x hx
  rw [A.next]; rw [A.ids] at hx
  exact w x (List.mem_filter.1 hx).1

theorem IdsLt_afterAlloc {h : Heap} (k : Kind) (n : Nat) (w : IdsLt h) : IdsLt (h.afterAlloc k n) :=
  (Alloced.afterAlloc h k n).idsLt w

theorem IdsLt_afterFree {h : Heap} (b : Nat) (k : Kind) (n : Nat) (w : IdsLt h) : IdsLt (h.afterFree b k n) :=
  (Freed.afterFree h b k n).idsLt w

theorem Upd.idsLt {h h' : Heap} {b i : Nat} {c' : Cell} (u : Upd h h' b i c') (w : IdsLt h) : IdsLt h' := by
  intro x hx; rw [u.next]; exact w x (u.ids ▸ hx)

end Fi
open Fi (IdsLt Upd)

structure SameOutside (T : List Nat) (h h' : Heap) : Prop where
  next : h'.next = h.next
  ids : h'.ids = h.ids
  out : ∀ b, b ∉ T → h'.find? b = h.find? b

theorem SameOutside.refl (T : List Nat) (h : Heap) : SameOutside T h h := ⟨rfl, rfl, fun _ _ => rfl⟩

theorem SameOutside.trans {T : List Nat} {h1 h2 h3 : Heap} (a : SameOutside T h1 h2) (b : SameOutside T h2 h3) : SameOutside T h1 h3 :=
  ⟨b.next.trans a.next, b.ids.trans a.ids, fun x hx => (b.out x hx).trans (a.out x hx)⟩

theorem SameOutside.mono {T T' : List Nat} {h h' : Heap} (a : SameOutside T h h') (hsub : ∀ b, b ∈ T → b ∈ T') : SameOutside T' h h' :=
  ⟨a.next, a.ids, fun x hx => a.out x (fun hm => hx (hsub x hm))⟩

theorem SameOutside.idsLt {T : List Nat} {h h' : Heap} (a : SameOutside T h h') (w : IdsLt h) : IdsLt h' := by
  intro b hb; rw [a.next]; exact w b (a.ids ▸ hb)

theorem Fi.Upd.sameOutside {T : List Nat} {h h' : Heap} {b i : Nat} {c' : Cell} (u : Upd h h' b i c') (hb : b ∈ T) :
    SameOutside T h h' :=
  ⟨u.next, u.ids, fun x hx => u.out x (fun e => hx (by rw [e]; exact hb))⟩

/-- how a (possibly allocating) run on an object owning `own0` changed the heap.  `X`: blocks of another object that the run may
    write (the source of a moved key); the old blocks outside `own0` and `X` are equal by `find?`.  It is stepped at `gstep_alloc`, `gstep_dealloc`
    and `Grown.sameOutside` (cell writes) and read off as `Owns` at the end (`Grown.owns`), so that no proof handles `ids` lists -/
structure Grown (h0 h' : Heap) (own0 own' X : List Nat) : Prop where
  ids : ∀ b, b ∈ h'.ids ↔ (b ∈ h0.ids ∧ b ∉ own0) ∨ b ∈ own'
  fresh : ∀ b, b ∈ own' → b ∈ own0 ∨ h0.next ≤ b
  next : h0.next ≤ h'.next
  lt : IdsLt h'
  out : ∀ b, b ∉ own0 → b ∉ X → b < h0.next → h'.find? b = h0.find? b

namespace Grown
variable {h0 h h' : Heap} {own0 own own' X : List Nat}

theorem of_sameOutside (sb : SameOutside (own ++ X) h0 h') (hlt : IdsLt h0)
    (hown : ∀ b, b ∈ own → b ∈ h0.ids) : Grown h0 h' own own X :=
  have o : Owns h' h0.ids own own h0.next := Owns.same sb.ids hown fun _ => Iff.rfl
  ⟨o.ids, o.fresh, Nat.le_of_eq sb.next.symm, sb.idsLt hlt, fun b h1 h2 _ => sb.out b (by simp [h1, h2])⟩

theorem refl (hlt : IdsLt h) (hown : ∀ b, b ∈ own → b ∈ h.ids) : Grown h h own own X :=
  Grown.of_sameOutside (SameOutside.refl _ _) hlt hown

theorem mem_ids (g : Grown h0 h own0 own X) {b : Nat} (hb : b ∈ own) : b ∈ h.ids := (g.ids b).2 (Or.inr hb)

theorem not_mem_of_lt (g : Grown h0 h own0 own X) {b : Nat} (hb : b ∉ own0) (hl : b < h0.next) : b ∉ own :=
  fun hm => (g.fresh b hm).elim hb fun e => Nat.lt_irrefl _ (Nat.lt_of_lt_of_le hl e)

theorem trans {h1 h2 : Heap} {own1 own2 : List Nat} (a : Grown h0 h1 own0 own1 X)
    (c : Grown h1 h2 own1 own2 X) (hlt : IdsLt h0) : Grown h0 h2 own0 own2 X where
  ids := fun b => by
    rw [c.ids b, a.ids b]
    constructor
    · rintro (⟨⟨hb, hn0⟩ | hb1, hn1⟩ | hb2)
      · exact Or.inl ⟨hb, hn0⟩
      · exact absurd hb1 hn1
      · exact Or.inr hb2
    · rintro (⟨hb, hn0⟩ | hb2)
      · by_cases h2 : b ∈ own2
        · exact Or.inr h2
        · exact Or.inl ⟨Or.inl ⟨hb, hn0⟩, a.not_mem_of_lt hn0 (hlt b hb)⟩
      · exact Or.inr hb2
  fresh := fun b hb => (c.fresh b hb).elim (a.fresh b) (fun e => Or.inr (Nat.le_trans a.next e))
  next := Nat.le_trans a.next c.next
  lt := c.lt
  out := fun b hb hx hlt' => by
    rw [c.out b (a.not_mem_of_lt hb hlt') hx (Nat.lt_of_lt_of_le hlt' a.next), a.out b hb hx hlt']

theorem owns {n0 : Nat} (g : Grown h0 h' own0 own' X) (hn : n0 ≤ h0.next) : Owns h' h0.ids own0 own' n0 :=
  ⟨g.ids, fun b hb => (g.fresh b hb).imp_right (Nat.le_trans hn)⟩

theorem sameOutside {T : List Nat} (g : Grown h0 h own0 own X) (sb : SameOutside T h h')
    (hT : ∀ b, b ∈ T → b ∈ own ∨ b ∈ X) : Grown h0 h' own0 own X where
  ids := fun b => by rw [sb.ids]; exact g.ids b
  fresh := g.fresh
  next := sb.next ▸ g.next
  lt := sb.idsLt g.lt
  out := fun b hb hx hl => by
    rw [sb.out b (fun hm => (hT b hm).elim (g.not_mem_of_lt hb hl) hx), g.out b hb hx hl]

theorem alloc {n : Nat} (g : Grown h0 h own0 own X) (A : Alloced h h' n) : Grown h0 h' own0 (h.next :: own) X where
  ids := fun b => by
    rw [A.ids, List.mem_cons, List.mem_cons, g.ids b, or_left_comm]
  fresh := fun b hb => (List.mem_cons.1 hb).elim (fun e => Or.inr (e ▸ g.next)) (g.fresh b)
  next := A.next ▸ Nat.le_succ_of_le g.next
  lt := A.idsLt g.lt
  out := fun b hb hx hl => by
    rw [A.out b (Nat.ne_of_lt (Nat.lt_of_lt_of_le hl g.next)), g.out b hb hx hl]

theorem free {t : Nat} (g : Grown h0 h own0 own X) (hlt0 : IdsLt h0)
    (ht : t ∈ own) (hown : ∀ x, x ∈ own' ↔ x ∈ own ∧ x ≠ t) (A : Freed h h' t) : Grown h0 h' own0 own' X where
  ids := fun b => by
    rw [A.ids, List.mem_filter, bne_iff_ne, g.ids b, hown b]
    refine ⟨fun ⟨x, hne⟩ => x.imp_right (fun x => ⟨x, hne⟩), fun x => x.elim (fun x => ⟨Or.inl x, fun e => ?_⟩)
      (fun x => ⟨Or.inr x.1, x.2⟩)⟩
    exact g.not_mem_of_lt x.2 (hlt0 b x.1) (e ▸ ht)
  fresh := fun b hb => g.fresh b ((hown b).1 hb).1
  next := A.next ▸ g.next
  lt := A.idsLt g.lt
  out := fun b hb hx hl => by
    rw [A.out b (fun (e : b = t) => g.not_mem_of_lt hb hl (e ▸ ht)), g.out b hb hx hl]

theorem frame (g : Grown h0 h own0 own X) (Y : List Nat) (hY : ∀ b, b ∈ Y → b ∈ h0.ids ∧ b ∉ own0) :
    Grown h0 h (own0 ++ Y) (own ++ Y) X :=
  have o := (g.owns (Nat.le_refl _)).append Y hY
  ⟨o.ids, o.fresh, g.next, g.lt, fun b hb hx hl => g.out b (fun x => hb (List.mem_append_left _ x)) hx hl⟩

/-- only the old blocks among `X` matter -/
theorem weakenX {X' : List Nat} (g : Grown h0 h own0 own X) (hX : ∀ b, b ∈ X → b < h0.next → b ∈ X') :
    Grown h0 h own0 own X' :=
  ⟨g.ids, g.fresh, g.next, g.lt, fun b hb hx hl => g.out b hb (fun x => hx (hX b x hl)) hl⟩

theorem congr {o0 o' : List Nat} (g : Grown h0 h own0 own X) (e0 : ∀ b, b ∈ o0 ↔ b ∈ own0) (e' : ∀ b, b ∈ o' ↔ b ∈ own) :
    Grown h0 h o0 o' X :=
  ⟨fun b => by rw [g.ids b, e0, e'], fun b hb => by rw [e0]; exact g.fresh b ((e' b).1 hb), g.next, g.lt,
    fun b hb => g.out b (fun x => hb ((e0 b).2 x))⟩

end Grown

theorem gstep_alloc {β} {S} {h0 h : Heap} {own0 own X : List Nat} (k : Kind) (n : Nat) {f : Nat → M β}
    {Q : β → Heap → Prop} (g : Grown h0 h own0 own X) (hS : S h.next = true)
    (s : ∀ h', Grown h0 h' own0 (h.next :: own) X → h.next ∉ own → RawBlock h' h.next n →
      (∀ b, b ≠ h.next → h'.find? b = h.find? b) → h'.next = h.next + 1 → SafeF S h' (f h.next h') Q) :
    SafeF S h ((alloc k n >>= f) h) Q :=
  astep_alloc k n hS fun h' A => s h' (g.alloc A) (fun hm => Nat.lt_irrefl _ (g.lt _ (g.mem_ids hm))) A.raw A.out A.next

theorem gstep_dealloc {β} {S} {h0 h : Heap} {own0 own own' X : List Nat} {t n : Nat} {f : Unit → M β}
    {Q : β → Heap → Prop} (g : Grown h0 h own0 own X) (hlt0 : IdsLt h0) (hc : HasCells h t n)
    (hr : ∀ i, i < n → stAt h t i = .raw) (hS : S t = true) (ht : t ∈ own) (hown : ∀ x, x ∈ own' ↔ x ∈ own ∧ x ≠ t)
    (s : ∀ h', Grown h0 h' own0 own' X → (∀ b, b ≠ t → h'.find? b = h.find? b) → h'.next = h.next →
      SafeF S h' (f () h') Q) :
    SafeF S h ((dealloc t n >>= f) h) Q :=
  astep_dealloc hc hr hS fun h' A => s h' (g.free hlt0 ht hown A) A.out A.next

end DS.Life
