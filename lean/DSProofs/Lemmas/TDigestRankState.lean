/-
t-digest (C17), exact arithmetic: `get_rank` on a state satisfying the invariant.  After the compress the first / last
centroid means ARE min / max, so the two tail branches of `get_rank` (whose left formula lacks the division by the total
weight) are never taken from a state reachable by updates and merges.
-/
import DSProofs.Lemmas.TDigestInv
import DSProofs.Lemmas.TDigestRank
namespace DS.TDigest
open Num Conv

theorem rankC_eq {s : St Rat} (h : Compressed s) (x : Rat) (h1 : s.min ≤ x) (h2 : x ≤ s.max) :
    rankC s x = some (rankW s.cs x / (s.cw : Rat)) := by
  obtain ⟨f, hf, hfm, _⟩ := h.head
  obtain ⟨l, hl, hlm, _⟩ := h.last
  rw [← rankMid_eq_rankW h.inv.sorted hf hl x (hfm ▸ h1) (hlm ▸ h2)]
  unfold rankC
  rw [hf, hl]
  -- the first / last mean is min / max: neither tail branch is taken
  have a : (x <. f.mean) = false := by simp [hfm, h1]
  have b : (l.mean <. x) = false := by simp [hlm, h2]
  simp only [a, b, Bool.false_eq_true, if_false]
  rfl

theorem rankC_piece {s : St Rat} (h : Compressed s) : Piece True (fun x => s.min ≤ x ∧ x ≤ s.max) 0 1 (rankC s) := by
  have hcw : (0 : Rat) < (s.cw : Rat) := by exact_mod_cast h.cw_pos
  refine ⟨fun x hx => ⟨_, rankC_eq h x hx.1 hx.2, div_nonneg (rankW_nonneg s.cs x) hcw.le,
    (div_le_one hcw).2 (h.inv.cw ▸ rankW_le s.cs x)⟩, fun _ d1 d2 h12 e1 e2 => ?_⟩
  rw [rankC_eq h _ d1.1 d1.2] at e1
  rw [rankC_eq h _ d2.1 d2.2] at e2
  rw [← Option.some.inj e1, ← Option.some.inj e2]
  exact div_le_div_of_nonneg_right (rankW_mono h.inv.sorted h12) hcw.le

theorem getRank_fst (sc : Scale Rat) (tun : Tun) (s : St Rat) (hne : s.isEmpty = false) (x : Rat) :
    (getRank sc tun s x).1 =
      if x < s.min then some 0 else if ¬ s.max < x then
        if s.cs.length + s.buf.length = 1 then some (1 / 2) else rankC (compress sc tun s) x
      else some 1 := by
  unfold getRank
  simp only [hne, Bool.false_eq_true, if_false, rat_isNaN, rat_lt, rat_ofNat, rat_half, Nat.cast_zero, Nat.cast_one,
    apply_ite Prod.fst, ite_not]

theorem getRank_piece (sc : Scale Rat) (hsc : ScaleOK sc) (tun : Tun) (s : St Rat) (hs : Inv s)
    (hne : s.isEmpty = false) : Piece True (fun _ => True) 0 1 fun x => (getRank sc tun s x).1 := by
  simp only [getRank_fst sc tun s hne]
  refine .glue (fun _ _ h12 c => h12.trans_lt c) le_rfl zero_le_one (.const le_rfl le_rfl)
    (.glue (fun _ _ h12 c c' => c (c'.trans_le h12)) zero_le_one le_rfl ?_ (.const le_rfl le_rfl))
  by_cases h1 : s.cs.length + s.buf.length = 1
  · simp only [if_pos h1]
    exact .const (by norm_num) (by norm_num)
  · simp only [if_neg h1]
    obtain ⟨hmin, hmax⟩ := compress_extremes sc hsc tun s hs hne
    exact (rankC_piece (compress_compressed sc hsc tun s hs hne)).on fun x hx =>
      ⟨hmin ▸ not_lt.1 hx.1.2, hmax ▸ not_lt.1 hx.2⟩

theorem getRank_range (sc : Scale Rat) (hsc : ScaleOK sc) (tun : Tun) (s : St Rat) (hs : Inv s)
    (hne : s.isEmpty = false) (x : Rat) :
    ∃ r, (getRank sc tun s x).1 = some r ∧ 0 ≤ r ∧ r ≤ 1 ∧ (x < s.min → r = 0) ∧ (s.max < x → r = 1) := by
  have hmm : s.min ≤ s.max := by
    rcases hs.minAtt hne with h | ⟨c, hc, hcm⟩
    · exact hs.bufHi _ h
    · rw [← hcm]; exact hs.csHi c (List.mem_of_head? hc)
  obtain ⟨r, hr, r0, r1⟩ := (getRank_piece sc hsc tun s hs hne).val x trivial
  refine ⟨r, hr, r0, r1, fun h => ?_, fun h => ?_⟩ <;> rw [getRank_fst sc tun s hne] at hr
  · rw [if_pos h] at hr
    exact (Option.some.inj hr).symm
  · rw [if_neg (hmm.trans_lt h).not_gt, if_neg (not_not.2 h)] at hr
    exact (Option.some.inj hr).symm

theorem getRank_mono (sc : Scale Rat) (hsc : ScaleOK sc) (tun : Tun) (s : St Rat) (hs : Inv s)
    (hne : s.isEmpty = false) (x y : Rat) (hxy : x ≤ y) (rx ry : Rat)
    (hx : (getRank sc tun s x).1 = some rx) (hy : (getRank sc tun s y).1 = some ry) : rx ≤ ry :=
  (getRank_piece sc hsc tun s hs hne).mono trivial trivial trivial hxy hx hy

end DS.TDigest
