/- What the operations do to any world, in solved form. -/
import DSProofs.Lemmas.BloomCover
namespace DS.Bloom

def committed (f : Filter) (x nbs : Nat) (d : Bool) : Filter :=
  match f.ref with
  | .owned _ => { f with ref := .owned x, nbs := nbs, dirty := d }
  | .mem _ => { f with nbs := nbs, dirty := d }

theorem commit_filter (P : Params) (w : World) (v : Nat) (f : Filter) (x nbs : Nat) (d : Bool) (hdr : Option Nat) :
    (commit P w v f x nbs d hdr).filters v = some (committed f x nbs d) := by
  unfold commit committed
  cases f.ref <;> simp

theorem committed_key (v : Nat) (f : Filter) (x nbs : Nat) (d : Bool) : keyOf v (committed f x nbs d) = keyOf v f := by
  unfold committed keyOf
  cases hr : f.ref <;> simp

theorem committed_fields (f : Filter) (x nbs : Nat) (d : Bool) :
    (committed f x nbs d).capBits = f.capBits ∧ (committed f x nbs d).numHashes = f.numHashes ∧ (committed f x nbs d).seed = f.seed ∧
    (committed f x nbs d).nbs = nbs ∧ (committed f x nbs d).dirty = d ∧ (committed f x nbs d).readOnly = f.readOnly := by
  unfold committed
  cases f.ref <;> simp

theorem committed_off (P : Params) (f : Filter) (x nbs : Nat) (d : Bool) : (committed f x nbs d).off P = f.off P := by
  unfold committed Filter.off
  cases hr : f.ref <;> simp

theorem commit_bit (P : Params) (hP : P.Layout) (w : World) (v : Nat) (f : Filter) (x nbs : Nat) (d : Bool) (hdr : Option Nat) (j : Nat) :
    ((commit P w v f x nbs d hdr).val (committed f x nbs d)).testBit ((committed f x nbs d).off P + j) = x.testBit (f.off P + j) := by
  rw [val_eq_keyVal _ v _ (commit_filter P w v f x nbs d hdr), committed_key, committed_off, off_eq_keyOff P v f]
  exact keyVal_commit_bit P hP w v f x nbs d hdr j

theorem commit_header (P : Params) (w : World) (v : Nat) (f : Filter) (m : Nat) (hr : f.ref = .mem m) (hro : f.readOnly = false)
    (x nbs : Nat) (d : Bool) (n : Nat) :
    getField ((commit P w v f x nbs d (some n)).blockVal m) (8 * P.nbsOff) 64 = n % 2 ^ 64 := by
  rw [commit_mem P w v f m hr]
  simp only [World.blockVal, World.setFilter, World.setBlock, if_true]
  exact commitVal_nbs P f (by simp [isMem, hr]) hro x n

theorem commit_noop (P : Params) (w : World) (v : Nat) (f : Filter) (hv : w.filters v = some f)
    (hb : ∀ m, f.ref = .mem m → ∃ b, w.blocks m = some b) : commit P w v f (w.val f) f.nbs f.dirty none = w := by
  cases hr : f.ref with
  | owned b =>
    have hself : ({ f with ref := .owned (w.val f), nbs := f.nbs, dirty := f.dirty } : Filter) = f := by
      rcases f with ⟨_, _, _, r, _, _, _⟩; cases hr; rfl
    rw [commit_owned P w v f b hr, hself, World.setFilter_self hv]
  | mem m =>
    obtain ⟨b, hbm⟩ := hb m hr
    have : (⟨w.blockLen m, commitVal P f (w.val f) none⟩ : Block) = b := by
      simp [commitVal, World.val, World.blockLen, World.blockVal, hr, hbm]
    rw [commit_mem P w v f m hr, this, World.setBlock_self hbm, World.setFilter_self hv]

def setopVal (P : Params) (w : World) (op : SetOp) (f g' : Filter) : Nat :=
  setField (w.val f) (f.off P) f.capBits (combine op f.capBits (w.bitsOf P f) (w.bitsOf P g'))

theorem setopVal_out (P : Params) (w : World) (op : SetOp) (f g' : Filter) (j : Nat) (h : j < f.off P ∨ f.off P + f.capBits ≤ j) :
    (setopVal P w op f g').testBit j = (w.val f).testBit j := testBit_setField_out _ _ _ _ _ h

theorem opSet_eq (P : Params) (fx : Fix) (w : World) (op : SetOp) (v u : Nat) (f g' : Filter)
    (hv : w.filters v = some f) (hu : w.filters u = some g') :
    opSet P fx w op v u =
      if (fx.roSetopsRefused && f.readOnly) = true then (w, .thrw)
      else if op = .invert ∨ compatible f g' = true then
        (commit P w v f (setopVal P w op f g') (popCount (setopVal P w op f g') (f.off P) f.capBits) false
          (some (popCount (setopVal P w op f g') (f.off P) f.capBits)), .nat (popCount (setopVal P w op f g') (f.off P) f.capBits))
      else (w, .thrw) := by
  simp only [opSet, hv, hu]
  by_cases hro : (fx.roSetopsRefused && f.readOnly) = true
  · rw [if_pos hro, if_pos hro]
  rw [if_neg hro, if_neg hro]
  have e : (op != .invert && !compatible f g') = true ↔ ¬ (op = .invert ∨ compatible f g' = true) := by simp [not_or]
  by_cases hcc : op = .invert ∨ compatible f g' = true
  · rw [if_pos hcc, if_neg (mt e.mp (not_not_intro hcc))]; rfl
  · rw [if_neg hcc, if_pos (e.mpr hcc)]

/-- the content is that of `update`; the count is left alone without hash functions and for a dirty filter under the repair -/
theorem opQau_eq (P : Params) (fx : Fix) (w : World) (v : Nat) (f : Filter) (hv : w.filters v = some f) (hro : f.readOnly = false)
    (h : Nat × Nat) :
    opQau P fx w v (some h) =
      (if f.numHashes = 0 then w
       else if (fx.qauKeepsDirty && f.dirty) = true then
         commit P w v f (setBits (w.val f) (f.off P) (indices h.1 h.2 f.capBits f.numHashes)) f.nbs true none
       else commit P w v f (setBits (w.val f) (f.off P) (indices h.1 h.2 f.capBits f.numHashes))
         (qauLoop (f.off P) (indices h.1 h.2 f.capBits f.numHashes) (w.val f, f.nbs, true)).2.1 false
         (some (qauLoop (f.off P) (indices h.1 h.2 f.capBits f.numHashes) (w.val f, f.nbs, true)).2.1),
       .bool (allSet (w.val f) (f.off P) (indices h.1 h.2 f.capBits f.numHashes))) := by
  simp only [opQau, hv, hro, Bool.false_eq_true, if_false]
  rw [qauLoop_eq]
  by_cases hk : f.numHashes = 0
  · rw [if_pos hk, if_pos (beq_iff_eq.mpr hk)]
  · rw [if_neg hk, if_neg (mt beq_iff_eq.mp hk)]
    by_cases hd : (fx.qauKeepsDirty && f.dirty) = true
    · rw [if_pos hd, if_pos hd]
    · rw [if_neg hd, if_neg hd]

theorem opQau_answer (P : Params) (fx : Fix) (w : World) (v : Nat) (f : Filter) (hv : w.filters v = some f) (hro : f.readOnly = false)
    (h : Nat × Nat) : (opQau P fx w v (some h)).2 = .bool (allSet (w.val f) (f.off P) (indices h.1 h.2 f.capBits f.numHashes)) := by
  rw [opQau_eq P fx w v f hv hro h]

theorem setop_bit (P : Params) (w : World) (f g' : Filter) (op : SetOp) (j : Nat) (hj : j < f.capBits)
    (hc : op = .invert ∨ g'.capBits = f.capBits) :
    (setopVal P w op f g').testBit (f.off P + j)
      = combineBit op ((w.val f).testBit (f.off P + j)) ((w.val g').testBit (g'.off P + j)) := by
  unfold setopVal
  rw [testBit_setField_in _ _ _ _ _ hj]
  cases op <;> simp_all [combine, combineBit, World.bitsOf, testBit_getField, Nat.testBit_two_pow_sub_one]

theorem compatible_cfg {f g' : Filter} (h : compatible f g' = true) : g'.cfg = f.cfg := by
  simp [compatible] at h
  simp [Filter.cfg, h.1.1, h.1.2, h.2]

theorem compatible_cap {f g' : Filter} (h : compatible f g' = true) : g'.capBits = f.capBits :=
  congrArg Cfg.cap (compatible_cfg h)

theorem image_bit (P : Params) (w : World) (f : Filter) (hne : f.isEmpty = false) (j : Nat) (hj : j < f.capBits) :
    (image P w f).val.testBit (256 + j) = (w.val f).testBit (f.off P + j) := by
  simp only [image, hne, Bool.false_eq_true, if_false]
  rw [testBit_setField_in _ _ _ _ _ hj]
  simp [World.bitsOf, testBit_getField, hj]

/-- the paths through `opWrap`: refused, outside the modelled domain (no such block; count or capacity unreadable; a wrap whose bit
array would end outside the block), or one of the three kinds of filter bound to `v` -/
inductive WrapResult (P : Params) (w : World) (m v : Nat) : World × Out → Prop
  | thrw : WrapResult P w m v (w, .thrw)
  | noBlock (hm : w.blocks m = none) : WrapResult P w m v (w, .oob)
  | outside (b : Block) (hm : w.blocks m = some b) (hp : parseImage P b = .outside) : WrapResult P w m v (w, .oob)
  | short (b : Block) (cap nh seed nbs nl : Nat) (hm : w.blocks m = some b) (hp : parseImage P b = .full cap nh seed nbs nl)
      (hst : P.strict = true → nbytesOf P nl ≤ b.len - 32) (hl : b.len < 32 + cap / 8) : WrapResult P w m v (w, .oob)
  | empty (b : Block) (nb nh seed : Nat) (hm : w.blocks m = some b) (hp : parseImage P b = .emptyImg nb nh seed)
      (hb : badSize P nb nh = false) : WrapResult P w m v (w.setFilter v (mkOwned nb nh seed), .ok)
  | deser (b : Block) (cap nh seed nbs nl : Nat) (hm : w.blocks m = some b) (hp : parseImage P b = .full cap nh seed nbs nl)
      (hl : nbytesOf P nl ≤ b.len - 32) : WrapResult P w m v (w.setFilter v (deserFilter P b.val cap nh seed nbs nl), .ok)
  | wrap (b : Block) (cap nh seed nbs nl : Nat) (ro : Bool) (hm : w.blocks m = some b)
      (hp : parseImage P b = .full cap nh seed nbs nl) (hst : P.strict = true → nbytesOf P nl ≤ b.len - 32)
      (hl : 32 + cap / 8 ≤ b.len) : WrapResult P w m v (w.setFilter v (wrapFilter P m b.val cap nh seed nbs ro), .ok)

theorem opWrap_result (P : Params) (w : World) (k : WrapKind) (m v : Nat) : WrapResult P w m v (opWrap P w k m v) := by
  unfold opWrap
  cases hm : w.blocks m with
  | none => exact .noBlock hm
  | some b =>
    simp only []
    cases hp : parseImage P b with
    | refuse => exact .thrw
    | outside => exact .outside b hm hp
    | emptyImg nb nh seed =>
      simp only []
      by_cases hk : (k == .wwrap) = true
      · rw [if_pos hk]; exact .thrw
      rw [if_neg hk]
      by_cases hb : badSize P nb nh = true
      · rw [if_pos hb]; exact .thrw
      rw [if_neg hb]
      exact .empty b nb nh seed hm hp (Bool.eq_false_iff.mpr hb)
    | full cap nh seed nbs nl =>
      simp only []
      by_cases hst : (P.strict && decide (b.len - 32 < nbytesOf P nl)) = true
      · rw [if_pos hst]; exact .thrw
      rw [if_neg hst]
      have hst' : P.strict = true → nbytesOf P nl ≤ b.len - 32 := by
        intro hs; simpa [hs] using hst
      cases k with
      | deser =>
        simp only []
        by_cases hl : b.len - 32 < nbytesOf P nl
        · rw [if_pos hl]; exact .thrw
        · rw [if_neg hl]; exact .deser b cap nh seed nbs nl hm hp (Nat.le_of_not_lt hl)
      | wrap =>
        simp only []
        by_cases hl : b.len < 32 + cap / 8
        · rw [if_pos hl]; exact .short b cap nh seed nbs nl hm hp hst' hl
        · rw [if_neg hl]; exact .wrap b cap nh seed nbs nl true hm hp hst' (Nat.le_of_not_lt hl)
      | wwrap =>
        simp only []
        by_cases hl : b.len < 32 + cap / 8
        · rw [if_pos hl]; exact .short b cap nh seed nbs nl hm hp hst' hl
        · rw [if_neg hl]; exact .wrap b cap nh seed nbs nl false hm hp hst' (Nat.le_of_not_lt hl)

end DS.Bloom
