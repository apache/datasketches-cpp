/- C06: the CPC bounds over an ordered field: the relative half-width `cpcEps` lies in [0, 1) and grows with κ (`cpcEps_facts`, from the
   generated confidence tables), and the four confidence functions of cpc_confidence.hpp have one shape (`cpc_bounds_shape`). -/
import DSProofs.Lemmas.BoundsHll
namespace DS.Bounds
set_option linter.unusedSectionVars false
open DS.Bounds.Gen

variable {K : Type} [Field K] [LinearOrder K] [IsStrictOrderedRing K] (F : MathFns K)

theorem kappaOk_iff (k : Nat) : kappaOk k = true ↔ 1 ≤ k ∧ k ≤ 3 := by
  unfold kappaOk; simp

/-- the data a confidence table row provides: κ·x_κ increasing in κ, at most 3·x₃, and 3·x₃ below 10⁴·√k -/
theorem confRow_facts {t : List Nat} {r : Nat} (h : confRowOk t r = true) (k : Nat) (hk1 : 1 ≤ k) (hk3 : k ≤ 3) :
    k * t.getD (3 * r + (k - 1)) 0 ≤ 3 * t.getD (3 * r + 2) 0 ∧
    (k < 3 → k * t.getD (3 * r + (k - 1)) 0 ≤ (k + 1) * t.getD (3 * r + k) 0) ∧
    (3 * t.getD (3 * r + 2) 0) * (3 * t.getD (3 * r + 2) 0) < 2 ^ (r + 4) * (10000 * 10000) := by
  unfold confRowOk at h
  simp only [Bool.and_eq_true, decide_eq_true_eq] at h
  obtain ⟨⟨⟨a, b⟩, c⟩, d⟩ := h
  rw [Nat.pow_two, Nat.mul_comm (10 ^ 8)] at d
  obtain rfl | rfl | rfl : k = 1 ∨ k = 2 ∨ k = 3 := by omega
  all_goals simp only [Nat.reduceSub, Nat.add_zero]; exact ⟨by omega, fun _ => by omega, d⟩

/-- what `cpcEps` needs of a confidence table and of the constant that replaces it above lgK 14 -/
structure ConfOK (tbl : List Nat) (dflt : Lit) : Prop where
  row : ∀ r, r < 11 → confRowOk tbl r = true
  pos : qpos dflt = true
  small : 9 * Gen.num dflt ^ 2 < 2 ^ 15 * Gen.den dflt ^ 2

theorem cpcEps_facts (hF : F.OK) {tbl : List Nat} {dflt : Lit} (hp : ConfOK tbl dflt) (lgK : Nat) (hlg : 4 ≤ lgK)
    (k : Nat) (hk1 : 1 ≤ k) (hk3 : k ≤ 3) :
    0 ≤ @cpcEps K (fieldNum F) tbl dflt lgK k ∧ @cpcEps K (fieldNum F) tbl dflt lgK k < 1 ∧
    (k < 3 → @cpcEps K (fieldNum F) tbl dflt lgK k ≤ @cpcEps K (fieldNum F) tbl dflt lgK (k + 1)) := by
  obtain ⟨hq, hqq⟩ := sqrt_pow2 F hF lgK
  unfold cpcEps
  simp only [nat_eq, lit_eq, sqrt_eq]
  by_cases hb : lgK ≤ 14
  · -- in terms of the integers y = κ·x_κ ≤ y₃ = 3·x₃, with (y₃/10⁴)² < k = q²
    simp only [hb, if_true, Nat.add_one_sub_one, show (litK c10000 : K) = 10000 by simp [litK, c10000], ← mul_div_assoc,
      ← Nat.cast_mul]
    obtain ⟨t3, tstep, td⟩ := confRow_facts (hp.row (lgK - 4) (by omega)) k hk1 hk3
    rw [Nat.sub_add_cancel hlg] at td
    generalize F.sqrt ((2 ^ lgK : Nat) : K) = q at *
    have bound : ((3 * tbl.getD (3 * (lgK - 4) + 2) 0 : Nat) : K) / 10000 * (((3 * tbl.getD (3 * (lgK - 4) + 2) 0 : Nat) : K) / 10000)
        < q * q := by
      rw [hqq, div_mul_div_comm, div_lt_iff₀ (by norm_num)]
      exact_mod_cast td
    obtain ⟨g0, g1⟩ := div_q_facts q _ _ hq (div_nonneg (Nat.cast_nonneg _) (by norm_num))
      (div_le_div_of_nonneg_right (Nat.cast_le.2 t3) (by norm_num)) bound
    exact ⟨g0, g1, fun h => div_le_div_of_nonneg_right (div_le_div_of_nonneg_right (Nat.cast_le.2 (tstep h)) (by norm_num)) hq.le⟩
  · simp only [hb, if_false]
    have hs := hp.small
    obtain ⟨g1, g2, g3⟩ := ratio_facts F hF lgK 15 (by omega) _ (litK_pos_of_qpos hp.pos)
      (three_litK_sq_lt (qpos_denPos hp.pos) (by push_cast; linarith)) k hk3
    rw [← mul_div_assoc, ← mul_div_assoc]
    exact ⟨g1, g2, fun _ => g3⟩

theorem ubForm_ge (hF : F.OK) (e eps : K) (h0 : 0 ≤ e) (he : 0 ≤ eps) (h1 : eps < 1) : e ≤ F.ceil (e / (1 - eps)) :=
  (le_div_self h0 (sub_pos.2 h1) (sub_le_self 1 he)).trans (hF.le_ceil _)

theorem ubForm_mono (hF : F.OK) (e eps eps' : K) (h0 : 0 ≤ e) (hee : eps ≤ eps') (h1 : eps' < 1) :
    F.ceil (e / (1 - eps)) ≤ F.ceil (e / (1 - eps')) :=
  hF.ceil_mono _ _ (div_le_div_of_nonneg_left h0 (sub_pos.2 h1) (sub_le_sub_left hee 1))

/-- with r = c/k this is r ≤ 0.794…·2^r (`F.ExpOK`) multiplied by k -/
theorem iconExp_ge (hexp : F.ExpOK) {k c : K} (hk : 0 < k) (h : 5 * k ≤ c) :
    c ≤ @iconExponentialApproximation K (fieldNum F) k c :=
  calc c = c / k * k := (div_mul_cancel₀ _ hk.ne').symm
    _ ≤ (litK cIconExp * F.pow 2 (c / k)) * k := mul_le_mul_of_nonneg_right (hexp _ ((le_div_iff₀ hk).2 h)) hk.le
    _ = litK cIconExp * k * F.pow (litK c2) (c / k) := by rw [litK_c2]; exact mul_right_comm _ _ _

/-! which table / constant cpc_sketch::get_lower_bound and get_upper_bound use, as a function of `was_merged` -/
def lbTbl (m : Bool) : List Nat := if m then cpcT.iconHighSide else cpcT.hipHighSide
def ubTbl (m : Bool) : List Nat := if m then cpcT.iconLowSide else cpcT.hipLowSide
def confDflt (m : Bool) : Lit := if m then cpcT.iconErrorConstant else cpcT.hipErrorConstant
theorem confOK (m : Bool) : ConfOK (lbTbl m) (confDflt m) ∧ ConfOK (ubTbl m) (confDflt m) := by
  obtain ⟨h1, h2⟩ := Gen.cpc_confidence_tables
  simp only [Bool.and_eq_true, decide_eq_true_eq] at h1 h2
  obtain ⟨⟨⟨⟨_, p1⟩, p2⟩, p3⟩, p4⟩ := h1
  cases m
  · exact ⟨⟨fun r hr => (h2 r hr).2, p2, p4⟩, ⟨fun r hr => (h2 r hr).1.2, p2, p4⟩⟩
  · exact ⟨⟨fun r hr => (h2 r hr).1.1.2, p1, p3⟩, ⟨fun r hr => (h2 r hr).1.1.1, p1, p3⟩⟩

/-- the guards shared by the four confidence functions -/
theorem conf_guard {n lgK k : Nat} {body : Option K} {r : K}
    (h : (if n = 0 then some (litK c0) else if lgK < 4 then none else if (!kappaOk k) = true then none else body) = some r) :
    (n = 0 → r = 0) ∧ (n ≠ 0 → 4 ≤ lgK ∧ body = some r) := by
  split at h
  · rename_i hn
    rw [litK_c0] at h
    exact ⟨fun _ => (Option.some.inj h).symm, fun hc => absurd hn hc⟩
  · rename_i hn
    refine ⟨fun hc => absurd hc hn, fun _ => ?_⟩
    split at h
    · cases h
    · rename_i h4
      split at h
      · cases h
      · exact ⟨Nat.le_of_not_lt h4, h⟩

theorem cpc_bounds_shape (s : CpcState K) (k : Nat) (e lb ub : K) (he : @cpcEstimate K (fieldNum F) cpcT s = some e)
    (hl : @cpcLowerBound K (fieldNum F) cpcT s k = some lb) (hu : @cpcUpperBound K (fieldNum F) cpcT s k = some ub) :
    (1 ≤ k ∧ k ≤ 3) ∧ (s.numCoupons = 0 → lb = 0 ∧ ub = 0) ∧ (s.numCoupons ≠ 0 → 4 ≤ s.lgK ∧
      lb = max (e / (1 + @cpcEps K (fieldNum F) (lbTbl s.merged) (confDflt s.merged) s.lgK k)) (s.numCoupons : K) ∧
      ub = F.ceil (e / (1 - @cpcEps K (fieldNum F) (ubTbl s.merged) (confDflt s.merged) s.lgK k))) := by
  have hk : kappaOk k = true := by
    by_contra hk; simp [cpcLowerBound, hk] at hl
  refine ⟨(kappaOk_iff k).mp hk, ?_⟩
  unfold cpcLowerBound at hl
  unfold cpcUpperBound at hu
  unfold cpcEstimate at he
  -- HIP (not merged: `he` says `s.hip = e`) and ICON (`he` gives the estimate under `Option.map`) read the same from here
  cases hm : s.merged
  all_goals
    simp only [hk, hm, Bool.not_true, Bool.not_false, Bool.false_eq_true, if_true, if_false, Option.some.injEq] at hl hu he
    obtain ⟨zl, nl⟩ := conf_guard hl
    obtain ⟨zu, nu⟩ := conf_guard hu
    refine ⟨fun c0 => ⟨zl c0, zu c0⟩, fun c0 => ?_⟩
    have bl := (nl c0).2
    have bu := (nu c0).2
    simp only [he, Option.map_some, lit_eq, litK_c1, nat_eq, ceil_eq, Option.some.injEq] at bl bu
    -- `bl : (if result < check then check else result) = lb`, which is `stdMax result check` unfolded
    exact ⟨(nl c0).1, ((stdMax_eq F _ _).symm.trans bl).symm, bu.symm⟩

end DS.Bounds
