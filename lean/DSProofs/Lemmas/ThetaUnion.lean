/- The union object: the entry loop as a fold, the state `UState` of the union relative to three values of the inputs
   so far (`offered`, `thetaStar`, `allEmpty`, each a library fold), which sequences it accepts, and the
   characterisation `ResultSpec` of what `get_result` returns, which determines it. -/
import DSProofs.Lemmas.ThetaInv
namespace DS.Theta

variable {σ : Type}

def entryF (pol : σ → σ → σ) (e : Nat × σ) : Option σ → σ := fun o => match o with | none => e.2 | some x => pol x e.2

theorem unionEntry_eq (c : Cfg) (pol : σ → σ → σ) (u : Union σ) (e : Nat × σ) :
    unionEntry c pol u e = { u with tbl := insertSt c u.tbl e.1 (entryF pol e) } := by
  unfold unionEntry insertSt
  cases lookup e.1 u.tbl.ents <;> rfl

def uStep (c : Cfg) (pol : σ → σ → σ) (u : Union σ) (e : Nat × σ) : Union σ :=
  if e.1 < u.unionTheta ∧ e.1 < u.tbl.theta then unionEntry c pol u e else u

/-- The entry loop is a fold: the early stop at the first entry of an ordered input that is at or above one of the
thetas only passes over the rest, which is larger still and meets the same thetas. -/
theorem unionLoop_eq (c : Cfg) (pol : σ → σ → σ) (ord : Bool) (l : List (Nat × σ)) (u : Union σ)
    (hs : ord = true → (keys l).Pairwise (· < ·)) : unionLoop c pol ord l u = l.foldl (uStep c pol) u := by
  induction l generalizing u with
  | nil => rfl
  | cons e t ih =>
    have hs' : ord = true → (∀ k ∈ keys t, e.1 < k) ∧ (keys t).Pairwise (· < ·) := fun ho => List.pairwise_cons.1 (hs ho)
    rw [unionLoop, List.foldl_cons, uStep]
    by_cases hq : e.1 < u.unionTheta ∧ e.1 < u.tbl.theta
    · rw [if_pos hq, if_pos hq]; exact ih _ fun ho => (hs' ho).2
    · rw [if_neg hq, if_neg hq]
      cases ord with
      | false => exact ih u fun ho => (hs' ho).2
      | true =>
        rw [if_pos rfl]
        have hlt := (hs' rfl).1
        clear ih hs hs'
        induction t with
        | nil => rfl
        | cons a r ihr =>
          have := hlt a.1 List.mem_cons_self
          rw [List.foldl_cons, uStep, if_neg (by omega)]
          exact ihr fun k hk => hlt k (List.mem_cons_of_mem _ hk)

def offered : List (Compact σ) → List Nat
  | [] => []
  | sk :: r => (if sk.isEmpty then [] else keys sk.ents) ++ offered r

/-- `θ*`: the starting theta lowered by the theta of every non-empty input -/
def thetaStar (t0 : Nat) : List (Compact σ) → Nat
  | [] => t0
  | sk :: r => thetaStar (if sk.isEmpty then t0 else min t0 sk.theta) r

def allEmpty : List (Compact σ) → Bool
  | [] => true
  | sk :: r => sk.isEmpty && allEmpty r

-- The three are library folds, so they depend on the inputs as a multiset only.

theorem offered_eq (sks : List (Compact σ)) :
    offered sks = sks.flatMap fun sk => if sk.isEmpty then [] else keys sk.ents := by
  induction sks with
  | nil => rfl
  | cons a t ih => rw [offered, ih, List.flatMap_cons]

theorem thetaStar_eq (sks : List (Compact σ)) : ∀ t0,
    thetaStar t0 sks = sks.foldl (fun t sk => if sk.isEmpty then t else min t sk.theta) t0 := by
  induction sks with
  | nil => exact fun _ => rfl
  | cons a t ih => exact fun t0 => ih _

theorem allEmpty_eq (sks : List (Compact σ)) : allEmpty sks = sks.all (·.isEmpty) := by
  induction sks with
  | nil => rfl
  | cons a t ih => rw [allEmpty, ih, List.all_cons]

theorem mem_offered (sks : List (Compact σ)) (x : Nat) :
    x ∈ offered sks ↔ ∃ sk, sk ∈ sks ∧ sk.isEmpty = false ∧ x ∈ keys sk.ents := by
  rw [offered_eq, List.mem_flatMap]
  refine exists_congr fun sk => and_congr_right fun _ => ?_
  cases sk.isEmpty <;> simp

theorem offered_perm (l1 l2 : List (Compact σ)) (hp : l1.Perm l2) : (offered l1).Perm (offered l2) := by
  rw [offered_eq, offered_eq]; exact hp.flatMap_right _

theorem thetaStar_perm (t0 : Nat) (l1 l2 : List (Compact σ)) (hp : l1.Perm l2) : thetaStar t0 l1 = thetaStar t0 l2 := by
  rw [thetaStar_eq, thetaStar_eq]
  refine hp.foldl_eq' (fun x _ y _ z => ?_) t0
  cases x.isEmpty <;> cases y.isEmpty
  · exact Nat.min_right_comm ..
  all_goals rfl

theorem allEmpty_perm (l1 l2 : List (Compact σ)) (hp : l1.Perm l2) : allEmpty l1 = allEmpty l2 := by
  rw [allEmpty_eq, allEmpty_eq]; exact hp.all_eq

/-- The union at any point of a run of updates, between two inputs or between two entries of one: `S` = the keys
offered so far, `θ` = θ* and `b` = `allEmpty` of the inputs so far, the one being read included.  A non-empty
`get_result` reads `union_theta_` only through `min(union_theta_, table_.theta_)`, and that is `θ` lowered to the
table's theta: so `θ` stands for `union_theta_` as the screen of the table invariant. -/
structure UState (c : Cfg) (S : List Nat) (θ : Nat) (b : Bool) (u : Union σ) : Prop where
  inv : TInv c S θ u.tbl
  uth : min u.unionTheta u.tbl.theta = min θ u.tbl.theta
  ths : θ ≤ c.theta0
  emp : u.tbl.isEmpty = b

theorem ustate_init (c : Cfg) : UState c [] c.theta0 true (unionInit c : Union σ) := by
  refine ⟨⟨?_, ?_, ?_, ?_, ?_, ?_⟩, rfl, Nat.le_refl _, rfl⟩ <;> simp [unionInit, init]

theorem UState.test_iff {c : Cfg} {S : List Nat} {θ : Nat} {b : Bool} {u : Union σ} (h : UState c S θ b u) (x : Nat) :
    (x < u.unionTheta ∧ x < u.tbl.theta) ↔ (x < θ ∧ x < u.tbl.theta) := by
  rw [← Nat.lt_min, ← Nat.lt_min, h.uth]

/-- the equation between the screens is kept when the table's theta drops -/
theorem min_screen {a b t t' : Nat} (h : min a t = min b t) (ht : t' ≤ t) : min a t' = min b t' := by
  rw [← Nat.min_eq_right ht, ← Nat.min_assoc, h, Nat.min_assoc]

theorem ustate_step (c : Cfg) (pol : σ → σ → σ) (S : List Nat) (θ : Nat) (b : Bool) (u : Union σ) (e : Nat × σ)
    (h : UState c S θ b u) : UState c (S ++ [e.1]) θ b (uStep c pol u e) := by
  rw [uStep]
  by_cases hq : e.1 < θ ∧ e.1 < u.tbl.theta
  · rw [if_pos ((h.test_iff e.1).2 hq), unionEntry_eq]
    have hi := tinv_insert c S θ u.tbl e.1 (entryF pol e) h.inv hq.2
    exact ⟨hi.1, min_screen h.uth hi.2, h.ths, (insertSt_isEmpty c _ _ _).trans h.emp⟩
  · rw [if_neg (mt (h.test_iff e.1).1 hq)]
    exact ⟨tinv_add_ge c S [e.1] θ u.tbl h.inv fun x hx => by rw [List.mem_singleton.1 hx]; omega, h.uth, h.ths, h.emp⟩

theorem ustate_loop (c : Cfg) (pol : σ → σ → σ) (ord : Bool) (l : List (Nat × σ)) (S : List Nat) (θ : Nat) (b : Bool)
    (u : Union σ) (h : UState c S θ b u) (hs : ord = true → (keys l).Pairwise (· < ·)) :
    UState c (S ++ keys l) θ b (unionLoop c pol ord l u) := by
  rw [unionLoop_eq c pol ord l u hs]
  clear hs
  induction l generalizing S u with
  | nil => rwa [keys_nil, List.append_nil]
  | cons e t ih =>
    have := ih (S ++ [e.1]) (uStep c pol u e) (ustate_step c pol S θ b u e h)
    rwa [List.append_assoc] at this

/-- `update` before its entry loop: the table is no longer empty, `union_theta_` is lowered by the input's theta -/
def uStart (u : Union σ) (sk : Compact σ) : Union σ :=
  { tbl := { u.tbl with isEmpty := false }, unionTheta := min u.unionTheta sk.theta }
/-- `update` after its entry loop: `union_theta_` is lowered to the table's theta -/
def uFinish (u2 : Union σ) : Union σ := { u2 with unionTheta := min u2.unionTheta u2.tbl.theta }

theorem unionUpdate_empty (c : Cfg) (pol : σ → σ → σ) (sh : Nat) (u : Union σ) (sk : Compact σ)
    (he : sk.isEmpty = true) : unionUpdate c pol sh u sk = some u := by
  simp [unionUpdate, he]

theorem unionUpdate_mismatch (c : Cfg) (pol : σ → σ → σ) (sh : Nat) (u : Union σ) (sk : Compact σ)
    (he : sk.isEmpty = false) (hs : sk.seedHash ≠ sh) : unionUpdate c pol sh u sk = none := by
  simp [unionUpdate, he, hs]

theorem unionUpdate_some (c : Cfg) (pol : σ → σ → σ) (sh : Nat) (u u' : Union σ) (sk : Compact σ) :
    unionUpdate c pol sh u sk = some u' ↔ (sk.isEmpty = true ∧ u = u') ∨
      (sk.isEmpty = false ∧ sk.seedHash = sh ∧ uFinish (unionLoop c pol sk.ordered sk.ents (uStart u sk)) = u') := by
  unfold unionUpdate
  cases sk.isEmpty <;> by_cases hs : sk.seedHash = sh <;> simp [hs, uStart, uFinish]

theorem ustate_uStart (c : Cfg) (S : List Nat) (θ : Nat) (b : Bool) (u : Union σ) (sk : Compact σ) (h : UState c S θ b u) :
    UState c S (min θ sk.theta) false (uStart u sk) := by
  refine ⟨(tinv_mono_U c S θ _ u.tbl (Nat.min_le_left _ _) h.inv).congr rfl rfl, ?_, Nat.le_trans (Nat.min_le_left _ _) h.ths, rfl⟩
  show min (min u.unionTheta sk.theta) u.tbl.theta = min (min θ sk.theta) u.tbl.theta
  rw [Nat.min_right_comm, h.uth, Nat.min_right_comm]

theorem ustate_update (c : Cfg) (pol : σ → σ → σ) (sh : Nat) (S : List Nat) (θ : Nat) (b : Bool) (u u' : Union σ)
    (sk : Compact σ) (h : UState c S θ b u) (hw : WFop sk) (hu : unionUpdate c pol sh u sk = some u') :
    UState c (S ++ (if sk.isEmpty then [] else keys sk.ents)) (if sk.isEmpty then θ else min θ sk.theta) (b && sk.isEmpty) u' := by
  rcases (unionUpdate_some c pol sh u u' sk).1 hu with ⟨he, rfl⟩ | ⟨he, _, rfl⟩
  · rwa [he, if_pos rfl, if_pos rfl, List.append_nil, Bool.and_true]
  · rw [he, if_neg Bool.false_ne_true, if_neg Bool.false_ne_true, Bool.and_false]
    have h2 := ustate_loop c pol sk.ordered sk.ents S _ false _ (ustate_uStart c S θ b u sk h) hw.ord_sorted
    exact ⟨h2.inv, (Nat.min_assoc ..).trans (Nat.min_self _ ▸ h2.uth), h2.ths, h2.emp⟩

theorem unionFold_cons (c : Cfg) (pol : σ → σ → σ) (sh : Nat) (u u' : Union σ) (sk : Compact σ) (rest : List (Compact σ)) :
    unionFold c pol sh u (sk :: rest) = some u' ↔
      ∃ u1, unionUpdate c pol sh u sk = some u1 ∧ unionFold c pol sh u1 rest = some u' := by
  simp only [unionFold]
  cases unionUpdate c pol sh u sk <;> simp

theorem ustate_fold (c : Cfg) (pol : σ → σ → σ) (sh : Nat) (sks : List (Compact σ)) :
    ∀ (S : List Nat) (θ : Nat) (b : Bool) (u u' : Union σ), UState c S θ b u → (∀ sk, sk ∈ sks → WFop sk) →
      unionFold c pol sh u sks = some u' → UState c (S ++ offered sks) (thetaStar θ sks) (b && allEmpty sks) u' := by
  induction sks with
  | nil =>
    intro S θ b u u' h _ hf
    cases hf
    rwa [offered, thetaStar, allEmpty, List.append_nil, Bool.and_true]
  | cons sk rest ih =>
    intro S θ b u u' h hw hf
    obtain ⟨u1, hup, hf⟩ := (unionFold_cons c pol sh u u' sk rest).1 hf
    have := ih _ _ _ u1 u' (ustate_update c pol sh S θ b u u1 sk h (hw sk List.mem_cons_self) hup)
      (fun s hs => hw s (List.mem_cons_of_mem _ hs)) hf
    rwa [offered, thetaStar, allEmpty, ← List.append_assoc, ← Bool.and_assoc]

theorem unionFold_of_allEmpty (c : Cfg) (pol : σ → σ → σ) (sh : Nat) (u : Union σ) :
    ∀ (sks : List (Compact σ)), allEmpty sks = true → unionFold c pol sh u sks = some u
  | [], _ => rfl
  | a :: t, h => by
    rw [allEmpty, Bool.and_eq_true] at h
    rw [unionFold, unionUpdate_empty c pol sh u a h.1]
    exact unionFold_of_allEmpty c pol sh u t h.2

theorem unionUpdate_isSome (c : Cfg) (pol : σ → σ → σ) (sh : Nat) (u : Union σ) (sk : Compact σ) :
    (∃ u', unionUpdate c pol sh u sk = some u') ↔ (sk.isEmpty = true ∨ sk.seedHash = sh) := by
  simp only [unionUpdate_some]
  cases sk.isEmpty <;> simp

theorem unionFold_isSome (c : Cfg) (pol : σ → σ → σ) (sh : Nat) (sks : List (Compact σ)) : ∀ (u : Union σ),
    (∃ u', unionFold c pol sh u sks = some u') ↔ ∀ sk, sk ∈ sks → sk.isEmpty = true ∨ sk.seedHash = sh := by
  induction sks with
  | nil => exact fun u => ⟨fun _ _ hs => (nomatch hs), fun _ => ⟨u, rfl⟩⟩
  | cons a t ih =>
    intro u
    rw [List.forall_mem_cons, ← unionUpdate_isSome c pol sh u a]
    constructor
    · rintro ⟨u', hu'⟩
      obtain ⟨u1, h1, h2⟩ := (unionFold_cons c pol sh u u' a t).1 hu'
      exact ⟨⟨u1, h1⟩, (ih u1).1 ⟨u', h2⟩⟩
    · rintro ⟨⟨u1, h1⟩, h2⟩
      obtain ⟨u', hu'⟩ := (ih u1).2 h2
      exact ⟨u', (unionFold_cons c pol sh u u' a t).2 ⟨u1, h1, hu'⟩⟩

/-- what `get_result` returns (`theta`, `ks` = its theta and keys) after inputs whose offered keys are `S` and whose θ* is
`θs`; `k = 2^lgNom` -/
structure ResultSpec (S : List Nat) (θs k : Nat) (theta : Nat) (ks : List Nat) : Prop where
  sorted : ks.Pairwise (· < ·)
  mem    : ∀ x, x ∈ ks ↔ (x ∈ S ∧ x < theta)
  len_le : ks.length ≤ k
  th_le  : theta ≤ θs
  th_lt  : theta < θs → ks.length = k ∧ theta ∈ S

theorem ResultSpec.lt_length {S : List Nat} {θs k t : Nat} {l : List Nat} (h : ResultSpec S θs k t l) (hlt : t < θs)
    (D : List Nat) (hD : ∀ x, x ∈ S → x ≤ t → x ∈ D) : k < D.length :=
  (h.th_lt hlt).1 ▸ length_lt_of_sorted_subset l D t h.sorted (fun x hx => ((h.mem x).1 hx).2)
    (fun x hx => hD x ((h.mem x).1 hx).1 (Nat.le_of_lt ((h.mem x).1 hx).2)) (hD t (h.th_lt hlt).2 (Nat.le_refl t))

/-- the result is a function of the SET of offered keys, θ* and k only -/
theorem resultSpec_unique (S1 S2 : List Nat) (θs k t1 t2 : Nat) (l1 l2 : List Nat)
    (hS : ∀ x, x ∈ S1 ↔ x ∈ S2) (h1 : ResultSpec S1 θs k t1 l1) (h2 : ResultSpec S2 θs k t2 l2) : t1 = t2 ∧ l1 = l2 := by
  -- were `ta < tb`, the k entries of `la` and `ta` itself would all be entries of `lb`
  have key : ∀ (Sa Sb : List Nat) (ta tb : Nat) (la lb : List Nat), (∀ x, x ∈ Sa ↔ x ∈ Sb) →
      ResultSpec Sa θs k ta la → ResultSpec Sb θs k tb lb → ¬ ta < tb := fun Sa Sb ta tb la lb hSab ha hb hlt =>
    Nat.not_lt.2 hb.len_le (ha.lt_length (Nat.lt_of_lt_of_le hlt hb.th_le) lb fun x hx hle =>
      (hb.mem x).2 ⟨(hSab x).1 hx, Nat.lt_of_le_of_lt hle hlt⟩)
  have ht : t1 = t2 := by
    have a := key S1 S2 t1 t2 l1 l2 hS h1 h2
    have b := key S2 S1 t2 t1 l2 l1 (fun x => (hS x).symm) h2 h1
    omega
  subst ht
  refine ⟨rfl, sorted_ext h1.sorted h2.sorted ?_⟩
  intro x
  rw [h1.mem, h2.mem, hS]

theorem ResultSpec.theta_eq_of_fits {S : List Nat} {θs k t : Nat} {l : List Nat} (h : ResultSpec S θs k t l)
    (hk : S.length ≤ k) : t = θs :=
  Nat.le_antisymm h.th_le (Nat.not_lt.1 fun hlt => Nat.not_lt.2 hk (h.lt_length hlt S fun _ hx _ => hx))

theorem ResultSpec.wfop {S : List Nat} {θs k : Nat} (r : Compact σ) (h : ResultSpec S θs k r.theta (keys r.ents))
    (hne : r.isEmpty = false) (hθ : θs ≤ MAX_THETA) : WFop r :=
  ⟨fun x hx => ((h.mem x).1 hx).2, fun _ => h.sorted, nodup_of_sorted h.sorted,
    fun he => (by rw [hne] at he; cases he), Nat.le_trans h.th_le hθ⟩

theorem unionResult_seedHash (c : Cfg) (u : Union σ) (ord : Bool) (sh : Nat) : (unionResult c u ord sh).seedHash = sh := by
  unfold unionResult
  split
  · rfl
  · split <;> rfl

theorem unionEnts_eq (c : Cfg) (S : List Nat) (θ : Nat) (b : Bool) (u : Union σ) (h : UState c S θ b u) :
    unionEnts u = u.tbl.ents.filter fun e => decide (e.1 < min u.unionTheta u.tbl.theta) := by
  unfold unionEnts
  split
  · rename_i hle
    exact (List.filter_eq_self.2 fun e he => decide_eq_true
      (Nat.lt_of_lt_of_le (h.inv.sub e.1 (mem_keys_of_mem _ e he)).2 (Nat.le_min.2 ⟨hle, Nat.le_refl _⟩))).symm
  · rfl

theorem unionEnts_spec (c : Cfg) (S : List Nat) (θ : Nat) (b : Bool) (u : Union σ) (h : UState c S θ b u) :
    (keys (unionEnts u)).Pairwise (· < ·) ∧ ∀ x, x ∈ keys (unionEnts u) ↔ (x ∈ S ∧ x < min θ u.tbl.theta) := by
  rw [unionEnts_eq c S θ b u h, h.uth]
  refine ⟨keys_filter_sorted _ _ h.inv.sorted, fun x => ?_⟩
  rw [keys_filter_mem u.tbl.ents (fun k => decide (k < min θ u.tbl.theta)) x, decide_eq_true_eq]
  exact ⟨fun hx => ⟨(h.inv.sub x hx.1).1, hx.2⟩,
    fun hx => ⟨h.inv.low x hx.1 (Nat.lt_min.1 hx.2).1 (Nat.lt_min.1 hx.2).2, hx.2⟩⟩

theorem unionResult_spec (c : Cfg) (S : List Nat) (θ : Nat) (u : Union σ) (ord : Bool) (sh : Nat)
    (h : UState c S θ false u) :
    ResultSpec S θ (2^c.lgNom) (unionResult c u ord sh).theta (keys (unionResult c u ord sh).ents) ∧
    (unionResult c u ord sh).isEmpty = false := by
  obtain ⟨hs0, hm0⟩ := unionEnts_spec c S θ false u h
  unfold unionResult
  rw [if_neg (by rw [h.emp]; exact Bool.false_ne_true), h.uth]
  split
  · -- more than k entries survive: theta drops to the key of rank k
    rename_i t ht
    have ht' := (hm0 t).1 (List.mem_of_getElem? ht)
    have hklt : 2^c.lgNom < (keys (unionEnts u)).length := (List.getElem?_eq_some_iff.1 ht).1
    have hlen : (keys ((unionEnts u).take (2^c.lgNom))).length = 2^c.lgNom := by
      rw [keys_take, List.length_take]; omega
    refine ⟨⟨?_, fun x => ?_, Nat.le_of_eq hlen, Nat.le_of_lt (Nat.lt_min.1 ht'.2).1, fun _ => ⟨hlen, ht'.1⟩⟩, rfl⟩
    · show (keys ((unionEnts u).take (2^c.lgNom))).Pairwise (· < ·)
      rw [keys_take]; exact hs0.take
    · show x ∈ keys ((unionEnts u).take (2^c.lgNom)) ↔ _
      rw [keys_take, mem_take_sorted _ hs0 _ t ht, hm0]
      exact ⟨fun hx => ⟨hx.1.1, hx.2⟩, fun hx => ⟨⟨hx.1, Nat.lt_trans hx.2 ht'.2⟩, hx.2⟩⟩
  · rename_i hnone
    have hlen : (keys (unionEnts u)).length ≤ 2^c.lgNom := List.getElem?_eq_none_iff.1 hnone
    refine ⟨⟨hs0, hm0, hlen, Nat.min_le_left _ _, ?_⟩, rfl⟩
    · -- the minimum is below θ*: it is the table's theta, which is below theta0, so the table holds at least k entries;
      -- `union_theta_` is not below it, so all of them are copied out
      dsimp only
      intro hlt
      have hTθ : u.tbl.theta < θ := by omega
      have hmin := Nat.min_eq_right (Nat.le_of_lt hTθ)
      have hTU := Nat.min_le_left u.unionTheta u.tbl.theta
      rw [h.uth, hmin] at hTU
      have hT0 := Nat.lt_of_lt_of_le hTθ h.ths
      rw [unionEnts, if_pos hTU, keys_length] at hlen ⊢
      rw [hmin]
      exact ⟨Nat.le_antisymm hlen (h.inv.klen hT0), h.inv.t_mem.resolve_left (Nat.ne_of_lt hT0)⟩

theorem unionResult_mem_table (c : Cfg) (S : List Nat) (θ : Nat) (b : Bool) (u : Union σ) (ord : Bool) (sh : Nat)
    (hu : UState c S θ b u) (e : Nat × σ) (h : e ∈ (unionResult c u ord sh).ents) :
    e ∈ u.tbl.ents ∧ e.1 < u.unionTheta := by
  have hents : e ∈ unionEnts u → e ∈ u.tbl.ents ∧ e.1 < u.unionTheta := fun he => by
    rw [unionEnts_eq c S θ b u hu, List.mem_filter, decide_eq_true_eq] at he
    exact ⟨he.1, Nat.lt_of_lt_of_le he.2 (Nat.min_le_left _ _)⟩
  unfold unionResult at h
  split at h
  · cases h
  · split at h
    · exact hents (List.mem_of_mem_take h)
    · exact hents h

end DS.Theta
