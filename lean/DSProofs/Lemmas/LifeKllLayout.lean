/- C19, KLL sketch: the layout of a block as a list of fenced segments, `Lay h b p [(c₁, q₁), (c₂, q₂), …]`.  The fences are
   absolute, so that the positions a program computes are the fences themselves and a literal list is `xs ++ (ys ++ zs)` for
   every way of cutting it. -/
import DSProofs.Lemmas.LifeKllSteps
namespace DS.Life.Kll
open DS.Life

/-- from position `p` on, block `b` consists of the segments `(c, q)`: class `c` up to the fence `q` -/
def Lay (h : Heap) (b : Nat) : Nat → List (Cls × Nat) → Prop
  | _, [] => True
  | p, (c, q) :: r => p ≤ q ∧ On c h b p q ∧ Lay h b q r

def fence : Nat → List (Cls × Nat) → Nat
  | p, [] => p
  | _, (_, q) :: r => fence q r

theorem Lay.le_fence {h : Heap} {b : Nat} : ∀ {xs : List (Cls × Nat)} {p : Nat}, Lay h b p xs → p ≤ fence p xs
  | [], _, _ => Nat.le_refl _
  | _ :: _, _, l => Nat.le_trans l.1 (Lay.le_fence l.2.2)

theorem Lay.append {h : Heap} {b : Nat} {ys : List (Cls × Nat)} :
    ∀ {xs : List (Cls × Nat)} {p : Nat}, Lay h b p (xs ++ ys) ↔ Lay h b p xs ∧ Lay h b (fence p xs) ys
  | [], _ => ⟨fun l => ⟨trivial, l⟩, fun l => l.2⟩
  | (c, q) :: r, p => by
    show (p ≤ q ∧ On c h b p q ∧ Lay h b q (r ++ ys)) ↔ (p ≤ q ∧ On c h b p q ∧ Lay h b q r) ∧ Lay h b (fence q r) ys
    rw [Lay.append (xs := r), and_assoc, and_assoc]

theorem Lay.frame_of {h h' : Heap} {X : Nat → Nat → Prop} {b : Nat} (sb : SameBut h h' X) :
    ∀ {xs : List (Cls × Nat)} {p : Nat}, (∀ j, p ≤ j → j < fence p xs → ¬ X b j) → Lay h b p xs → Lay h' b p xs
  | [], _, _, _ => trivial
  | (_, _) :: _, _, hx, l =>
    ⟨l.1, l.2.1.frame_of sb (fun j a d => hx j a (Nat.lt_of_lt_of_le d (Lay.le_fence l.2.2))),
      Lay.frame_of sb (fun j a d => hx j (Nat.le_trans l.1 a) d) l.2.2⟩

/-- the frame rule: a change confined to the middle segments `ys`, which brings them into the layout `ys'` with the same last
    fence, leaves the segments before and after as they were -/
theorem Lay.splice {h h' : Heap} {b p : Nat} {xs ys ys' zs : List (Cls × Nat)} (l : Lay h b p (xs ++ (ys ++ zs)))
    (sb : SameBut h h' (fun b' j => b' = b ∧ fence p xs ≤ j ∧ j < fence (fence p xs) ys))
    (m : Lay h' b (fence p xs) ys') (he : fence (fence p xs) ys' = fence (fence p xs) ys) : Lay h' b p (xs ++ (ys' ++ zs)) := by
  obtain ⟨lx, lyz⟩ := Lay.append.1 l
  obtain ⟨_, lz⟩ := Lay.append.1 lyz
  refine Lay.append.2 ⟨Lay.frame_of sb (fun j _ d x => Nat.not_le_of_lt d x.2.1) lx, Lay.append.2 ⟨m, ?_⟩⟩
  rw [he]
  exact Lay.frame_of sb (fun j a _ x => Nat.not_le_of_lt x.2.2 a) lz


theorem Lay.mid {h : Heap} {b p : Nat} {xs ys zs : List (Cls × Nat)} (l : Lay h b p (xs ++ (ys ++ zs))) :
    Lay h b (fence p xs) ys := (Lay.append.1 (Lay.append.1 l).2).1

theorem Lay.flat {c : Cls} {h : Heap} {b : Nat} :
    ∀ {xs : List (Cls × Nat)} {p : Nat}, (∀ x, x ∈ xs → x.1 = c) → Lay h b p xs → On c h b p (fence p xs)
  | [], _, _, _ => fun _ a d => absurd a (Nat.not_le_of_lt d)
  | (c', _) :: _, _, hx, l => by
    have e : c' = c := hx _ (List.mem_cons_self ..)
    subst e
    exact l.2.1.append (Lay.flat (fun x m => hx x (List.mem_cons_of_mem _ m)) l.2.2)

/-- block `b` (of `n` cells) along a run from `h0` that touches no other block: its present layout -/
structure Blk (h0 h : Heap) (b n : Nat) (segs : List (Cls × Nat)) : Prop where
  cells : HasCells h b n
  same : SameBut h0 h (fun b' _ => b' = b)
  lay : Lay h b 0 segs

theorem Blk.splice {h0 h h' : Heap} {b n : Nat} {xs ys ys' zs : List (Cls × Nat)} (k : Blk h0 h b n (xs ++ (ys ++ zs)))
    (sb : SameBut h h' (fun b' j => b' = b ∧ fence 0 xs ≤ j ∧ j < fence (fence 0 xs) ys))
    (m : Lay h' b (fence 0 xs) ys') (he : fence (fence 0 xs) ys' = fence (fence 0 xs) ys) : Blk h0 h' b n (xs ++ (ys' ++ zs)) :=
  ⟨sb.cells _ _ k.cells, k.same.trans sb (fun _ _ x => x) (fun _ _ x => x.1), k.lay.splice sb m he⟩

theorem Blk.mid {h0 h : Heap} {b n : Nat} {xs ys zs : List (Cls × Nat)} (k : Blk h0 h b n (xs ++ (ys ++ zs))) :
    Lay h b (fence 0 xs) ys := k.lay.mid

end DS.Life.Kll
