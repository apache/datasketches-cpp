/-
C11 (CPC part) — truncated images are rejected; no count field can make the specification reader allocate beyond
the input length.

ONLY property theorems + non-vacuity examples.  Model: DSModel/Wire/Cpc.lean.  `decode` is built only from the bounded
combinators, which cannot read out of bounds by construction; `decode_within` (one line per combinator, Lemmas/WireCpc.lean)
gives prefix safety and the bound,
and with C09's round trip every strict prefix of every valid image is rejected (CPC images have no information-free
padding, so there is no `isPadding` disjunct).  The real readers are held to this verdict by the exhaustive-prefix runs
of `./check c11_cpc`.
-/
import DSProofs.Props.C09_Cpc
namespace DS.Wire.Cpc
open DS.Wire

theorem decHip_PS (p : Bool) : PS (decHip p) := PS_decHip p

theorem decOpt32_PS (p : Bool) : PS (decOpt32 p) := PS_decOpt32 p

theorem decBody_PS (h t w : Bool) : PS (decBody h t w) := (decBody_within h t w).ps

/-- the documented reader is prefix-safe (for every constant set) -/
theorem decode_PS (c : Consts) : PS (decode c) := (decode_within c).ps

/-- **every strict prefix of every valid image is rejected** -/
theorem prefix_rejected (c : Consts) (hc : c.ok) (s : Image) (hs : WF s) (n : Nat) (hn : n < (encode c s).length) :
    decode c ((encode c s).take n) = none :=
  prefix_rejected' (decode c) (decode_PS c) (encode c s) s (decode_encode c hc s hs) n hn

/-- **bounded**: whatever bytes are accepted, the image state holds at most `|b| / 4` words: neither word count read
from the image can make the specification reader materialise more than it was given -/
theorem decode_bounded (c : Consts) (b r : Bytes) (s : Image) (h : decode c b = some (s, r)) :
    4 * count s ≤ b.length :=
  (decode_within c).le h

/-- non-vacuity: the 60-byte example image of C09; its 59-byte prefix and its 8-byte header alone are rejected by the
executable reader, and an image that announces 2^32-1 window words in 16 bytes is rejected, not allocated -/
example : decode generated ((encode generated exImage).take 59) = none ∧ decode generated ((encode generated exImage).take 8) = none := by
  decide
example : decode generated [4, 1, 16, 10, 0, 0x12, 0xcc, 0x93, 5, 0, 0, 0, 0xff, 0xff, 0xff, 0xff] = none := by decide

end DS.Wire.Cpc
