/- The serialized image: what `compress` produces for a valid sketch (`compress_shape`); the image state of a sketch expands to the
   sketch again (`expand_imageOf`; the HIP registers of an EMPTY one come back as the shape of `deserialize` makes them); the bytes
   of `serialize` read back as that image state (`deserialize_serialize`).  The image state (`Image`, `WF`, `imageOf`, `expand`,
   namespace `DS.Wire.Cpc`) is that of DSModel/Wire/Cpc.lean and CpcContent.lean, shared with the Reader model of C09. -/
import DSProofs.Lemmas.CpcWire
import DSProofs.Lemmas.CpcTablesOK
import DSModel.Wire.CpcContent
namespace DS.Cpc

/-- What the layout relies on for the compressed form `z` of a non-empty sketch with `c` coupons and `n` table entries.
`any`: there is a word array, so `serialize` writes a body and `deserialize` reads one.  `le`: the entry count fits its 32-bit
field once `n` and `c` do (it is the table length or `c`; that the table length is at most `c` is not shown, hence `n`).
`numEntries`: the count that `deserialize` hands to `uncompress` (the stored one, which is there only beside both word arrays, or
`c` when there is no window) is the one `compress` produced. -/
structure Shape (z : Compressed) (c n : Nat) : Prop where
  any : (!z.tableWords.isEmpty || !z.windowWords.isEmpty) = true
  numEntries : (if (!z.windowWords.isEmpty) = true then
      (if (!z.tableWords.isEmpty && !z.windowWords.isEmpty) = true then z.tableNumEntries else 0) else c) = z.tableNumEntries
  le : z.tableNumEntries ≤ max n c
  table_lt : ∀ w ∈ z.tableWords, w < 256^4
  window_lt : ∀ w ∈ z.windowWords, w < 256^4

theorem compressPairs_isEmpty (C : CompTables) (lgK : Nat) {l : List Nat} (h : l ≠ []) : (compressPairs C lgK l).isEmpty = false := by
  cases l with
  | nil => exact absurd rfl h
  | cons a t => exact List.isEmpty_eq_false_iff.2 (packWords_ne_nil _ fun e => by simp [encPairs, unaryBits] at e)

theorem compressWindow_isEmpty (C : CompTables) (lgK c : Nat) (w : List Nat) : (compressWindow C lgK c w).isEmpty = false :=
  List.isEmpty_eq_false_iff.2 (packWords_ne_nil _ fun e => by simp at e)

/-- SPARSE and HYBRID: all `c` pairs, no window -/
theorem shape_pairs (C : CompTables) (lgK n : Nat) {l : List Nat} {c : Nat} (hl : l.length = c) (hc : c ≠ 0) :
    Shape { tableWords := compressPairs C lgK l, tableNumEntries := l.length, windowWords := [] } c n :=
  have hne : l ≠ [] := by rintro rfl; exact hc hl.symm
  ⟨by simp [compressPairs_isEmpty C lgK hne], by simp [hl], hl ▸ Nat.le_max_right .., fun w => packWords_lt _ w, by simp⟩

/-- PINNED and SLIDING: the window, and the table entries `t` in the form `l` if there are any -/
theorem shape_window (C : CompTables) (lgK k c : Nat) (w : List Nat) {t l : List Nat} (hl : l.length = t.length) :
    Shape (if t = [] then { tableWords := [], tableNumEntries := 0, windowWords := compressWindow C lgK k w }
      else { tableWords := compressPairs C lgK l, tableNumEntries := l.length, windowWords := compressWindow C lgK k w }) c t.length := by
  split
  · exact ⟨by simp [compressWindow_isEmpty], by simp [compressWindow_isEmpty], Nat.zero_le _, by simp, fun w => packWords_lt _ w⟩
  · rename_i ht
    have hne : l ≠ [] := by rintro rfl; exact ht (List.length_eq_zero_iff.1 hl.symm)
    exact ⟨by simp [compressWindow_isEmpty], by simp [compressWindow_isEmpty, compressPairs_isEmpty C lgK hne],
      hl ▸ Nat.le_max_left .., fun w => packWords_lt _ w, fun w => packWords_lt _ w⟩

theorem compress_shape (C : CompTables) (s : Sketch) (xs : List Nat) (h : Inv s xs) (hv : ∀ x ∈ xs, x < 64 * 2^s.lgK)
    (hc0 : s.numCoupons ≠ 0) : Shape (compress C s) s.numCoupons s.table.length := by
  unfold compress
  rcases flavor_cases s.lgK s.numCoupons with ⟨h0, hf⟩ | ⟨h0, h1, hf⟩ | ⟨h0, h1, h2, hf⟩ | ⟨h0, h1, h2, h3, hf⟩ | ⟨h0, h1, h2, h3, hf⟩
  · exact absurd h0 hc0
  · simp only [hf]
    exact shape_pairs C _ _ (h.count ▸ length_eq_distinct h.rep.sorted (h.sparse_table_mem hv (h.window_nil h1))) hc0
  · simp only [hf]
    have hw := h.window_ne h1
    have ho : s.offset = 0 := h.offset_zero_of_lt27 (flavor_hp_lt27 _ _ (.inl hf))
    exact shape_pairs C _ _ (h.count ▸ length_eq_distinct (sorted_hybrid_pairs s h.rep hw ho)
      fun a => by rw [mem_mergeS]; exact mem_offset_zero s xs h hv hw ho a) hc0
  · simp only [hf]
    exact shape_window C _ _ _ _ (List.length_map _)
  · simp only [hf]
    exact shape_window C _ _ _ _ (by rw [length_sortPairs, List.length_map])

theorem takeHip_append (hb : HipBits) (rest : List Nat) (hk : hb.kxp < 256^8) (hh : hb.hip < 256^8) :
    takeHip ((leBytes 8 hb.kxp ++ leBytes 8 hb.hip) ++ rest) = some (hb, rest) := by
  simp only [takeHip, List.append_assoc, takeLe_leBytes 8 _ _ hk, takeLe_leBytes 8 _ _ hh, Option.bind_eq_bind, Option.bind_some,
    Option.pure_def]

theorem leBytes_two (x : Nat) : leBytes 2 x = [x % 256, x / 256 % 256] := by
  simp [leBytes, List.range_succ]

/-- an optional field `w`, present when `p` holds: its reader `f` runs then, and a default is returned otherwise.  This lemma,
`takeNe_opt` and `preambleInts_le_fields` are stated in the shape the goal has once `readBody` / `serializeCore` are unfolded, so
that `rw` and `exact` apply to it as it stands. -/
theorem read_opt {α} (p : Bool) (f : List Nat → Option (α × List Nat)) (w r : List Nat) (a d : α)
    (h : f (w ++ r) = some (a, r)) :
    (if p = true then f ((if p = true then w else []) ++ r) else some (d, (if p = true then w else []) ++ r))
      = some (if p = true then a else d, r) := by
  cases p
  · rfl
  · exact h

/-- the entry count, with the HIP registers `hip` behind it, is present when table and window both are -/
theorem takeNe_opt (b hasHip : Bool) (ne : Nat) (hb : HipBits) (hip r : List Nat) (hne : ne < 256^4)
    (hhip : ∀ r, takeHip (hip ++ r) = some (hb, r)) :
    (if b = true then
        (takeLe 4 ((if b = true then leBytes 4 ne ++ (if hasHip = true then hip else []) else []) ++ r)).bind
          fun x => if hasHip = true then (takeHip x.snd).bind fun y => some (x.fst, y.fst, y.snd)
            else some (x.fst, (⟨0, 0⟩ : HipBits), x.snd)
      else some (0, ⟨0, 0⟩, (if b = true then leBytes 4 ne ++ (if hasHip = true then hip else []) else []) ++ r))
      = some (if b = true then ne else 0, if (b && hasHip) = true then hb else ⟨0, 0⟩, r) := by
  cases b
  · rfl
  · simp only [if_true, List.append_assoc, takeLe_leBytes 4 ne _ hne, Option.bind_some]
    cases hasHip
    · rfl
    · simp only [if_true, hhip, Option.bind_some, Bool.and_self]

theorem ite_length (l : List Nat) : (if (!l.isEmpty) = true then l.length else 0) = l.length := by cases l <;> rfl

/-- `hip`: any bytes that read back as the HIP registers `hb` -/
theorem readBody_written (hasHip : Bool) (c ne : Nat) (hb : HipBits) (hip tw ww tail : List Nat)
    (hor : (!tw.isEmpty || !ww.isEmpty) = true)
    (hc : c < 256^4) (hne : ne < 256^4) (hhip : ∀ r, takeHip (hip ++ r) = some (hb, r))
    (htl : tw.length < 256^4) (hwl : ww.length < 256^4)
    (htw : ∀ w ∈ tw, w < 256^4) (hww : ∀ w ∈ ww, w < 256^4) :
    readBody hasHip (!tw.isEmpty) (!ww.isEmpty)
      (leBytes 4 c
        ++ ((if !tw.isEmpty && !ww.isEmpty then leBytes 4 ne ++ (if hasHip then hip else []) else [])
        ++ ((if !tw.isEmpty then leBytes 4 tw.length else [])
        ++ ((if !ww.isEmpty then leBytes 4 ww.length else [])
        ++ ((if hasHip && !(!tw.isEmpty && !ww.isEmpty) then hip else [])
        ++ (ww.flatMap (leBytes 4) ++ (tw.flatMap (leBytes 4) ++ tail)))))))
      = some (c, (if !ww.isEmpty then (if !tw.isEmpty && !ww.isEmpty then ne else 0) else c), (if hasHip then hb else ⟨0, 0⟩),
          ww, tw, tail) := by
  unfold readBody
  rw [if_pos hor]
  simp only [Option.bind_eq_bind, Option.pure_def]
  rw [takeLe_leBytes 4 c _ hc, Option.bind_some]; dsimp only
  rw [takeNe_opt _ _ _ hb _ _ hne hhip, Option.bind_some]; dsimp only
  rw [read_opt _ (takeLe 4) _ _ _ 0 (takeLe_leBytes 4 _ _ htl), Option.bind_some]; dsimp only
  rw [read_opt _ (takeLe 4) _ _ _ 0 (takeLe_leBytes 4 _ _ hwl), Option.bind_some]; dsimp only
  rw [read_opt _ takeHip _ _ hb _ (hhip _), Option.bind_some]; dsimp only
  rw [ite_length, takeWords_flatMap _ _ hww, Option.bind_some]; dsimp only
  rw [ite_length, takeWords_flatMap _ _ htw, Option.bind_some]
  cases hasHip <;> cases (!tw.isEmpty && !ww.isEmpty) <;> rfl

theorem deserializeCore_accept (W : WireConsts) (hW : FlagsOK W) (C : CompTables) (sh : Nat) (ofBits : Nat → Float)
    (pre lgK fic flags sh0 sh1 : Nat) (rest : List Nat) (hasHip hasTable hasWindow : Bool) (c ne : Nat) (hb : HipBits)
    (ww tw : List Nat)
    (hf : flags = 2^W.flagCompressed + (if hasHip then 2^W.flagHip else 0) + (if hasTable then 2^W.flagTable else 0)
      + (if hasWindow then 2^W.flagWindow else 0))
    (hbody : readBody hasHip hasTable hasWindow rest = some (c, (if hasWindow then ne else c), hb, ww, tw, []))
    (hlen : 4 * pre ≤ 8 + rest.length) (hpre : pre = preambleInts c hasHip hasTable hasWindow) (hsh : sh0 + 256 * sh1 = sh) :
    deserializeCore W C sh (pre :: W.serialVersion :: W.family :: lgK :: fic :: flags :: sh0 :: sh1 :: rest) ofBits
      = some (DS.Wire.Cpc.expand C W.emptyKxpIsK ⟨lgK, fic, sh, hasHip, hasTable, hasWindow, c, ne, hb.kxp, hb.hip, ww, tw⟩ ofBits) := by
  obtain ⟨f1, f2, f3⟩ := hW _ _ _ _ hf
  have hl : ¬ (pre :: W.serialVersion :: W.family :: lgK :: fic :: flags :: sh0 :: sh1 :: rest).length < 4 * pre := by
    simp only [List.length_cons]; omega
  unfold deserializeCore DS.Wire.Cpc.expand
  simp only [f1, f2, f3, hbody, if_neg hl, ← hpre, hsh, List.isEmpty_nil, Bool.not_true, Bool.false_eq_true, if_false, ne_eq,
    not_true_eq_false]

/-- `n`: the bytes of the words, which the preamble ints do not count -/
theorem preambleInts_le_fields (c : Nat) (hc0 : c ≠ 0) (a b d : Bool) (n : Nat) :
    4 * preambleInts c a b d ≤ 8 + (4 + ((if b && d then 4 + (if a then 8 + 8 else 0) else 0) + ((if b then 4 else 0)
      + ((if d then 4 else 0) + ((if a && !(b && d) then 8 + 8 else 0) + n))))) := by
  rw [preambleInts, if_neg hc0]
  -- with `n` moved to the outside the rest is closed: 4 * preamble ints = the bytes before the words, in each of the 8 cases
  simp only [← Nat.add_assoc]
  refine Nat.le_add_right_of_le ?_
  cases a <;> cases b <;> cases d <;> decide

theorem compress_empty (C : CompTables) (s : Sketch) (h0 : s.numCoupons = 0) :
    compress C s = { tableWords := [], tableNumEntries := 0, windowWords := [] } := by
  unfold compress
  simp only [(flavor_empty_iff s.lgK s.numCoupons).2 h0]

end DS.Cpc

/-! `imageOf` / `expand` (DSModel/Wire/CpcContent.lean) are what `serialize` stores and what `deserialize` builds from it.  The
sketch-level round trip `expand_imageOf` is proved once; each of the two byte models (the Reader model of C09, `serializeCore` /
`deserializeCore` here) adds its own byte-level round trip of the image state.  The three theorems stand in the namespace of
`imageOf` and `expand`, where C09 uses the first two; `deserialize_serialize` is about `DS.Cpc.deserializeCore`. -/
namespace DS.Wire.Cpc
open DS.Cpc

theorem expand_imageOf (C : CompTables) (hC : TablesOK C) (r : Bool) (sh : Nat) (s : Sketch) (xs : List Nat) (hb : HipBits)
    (ofBits : Nat → Float) (h : Inv s xs) (hv : ∀ x ∈ xs, x < 64 * 2 ^ s.lgK)
    (hoff : s.offset = determineCorrectOffset s.lgK s.numCoupons) :
    sameContent (expand C r (imageOf C sh s hb) ofBits).1 s ∧
    (expand C r (imageOf C sh s hb) ofBits).2 =
      if s.numCoupons = 0 then (if r = true then ⟨pow2Bits s.lgK, 0⟩ else ⟨0, 0⟩) else if s.merged = true then ⟨0, 0⟩ else hb := by
  have hless := compress_lossless C hC s xs h hv hoff
  by_cases hc0 : s.numCoupons = 0
  · rw [compress_empty C s hc0, hc0] at hless
    simp only [imageOf, expand, compress_empty C s hc0, hc0, List.isEmpty_nil, Bool.not_true, Bool.or_self, Bool.false_eq_true,
      if_false, if_true, Bool.and_false, true_and, hless]
    exact ⟨⟨rfl, hc0.symm, rfl, rfl, by rw [hoff, hc0], rfl, Bool.not_not _⟩, trivial⟩
  · have hz := compress_shape C s xs h hv hc0
    simp only [imageOf, expand, hz.any, if_true, Bool.and_true, hc0, false_and, if_false, hz.numEntries, hless]
    exact ⟨⟨rfl, rfl, rfl, rfl, hoff.symm, rfl, Bool.not_not _⟩, by cases s.merged <;> rfl⟩

theorem wf_imageOf (C : CompTables) (sh : Nat) (s : Sketch) (xs : List Nat) (hb : HipBits)
    (hsh : sh < 2 ^ 16) (h : Inv s xs) (hv : ∀ x ∈ xs, x < 64 * 2 ^ s.lgK)
    (hlg : s.lgK < 2 ^ 8) (hcn : s.numCoupons < 2 ^ 32) (hk : hb.kxp < 2 ^ 64) (hh : hb.hip < 2 ^ 64)
    (htl : s.table.length < 2 ^ 32)
    (hwl : (compress C s).tableWords.length < 2 ^ 32) (hwl' : (compress C s).windowWords.length < 2 ^ 32) :
    WF (imageOf C sh s hb) := by
  have hfic : s.fic < 2 ^ 8 := Nat.lt_of_le_of_lt (Nat.le_trans h.ficLe h.rep.offLe) (by decide)
  by_cases hc0 : s.numCoupons = 0
  · simp only [imageOf, compress_empty C s hc0]
    unfold WF; simp; exact ⟨hlg, hfic, hsh⟩
  · have hz := compress_shape C s xs h hv hc0
    have hne := Nat.lt_of_le_of_lt hz.le (Nat.max_lt.2 ⟨htl, hcn⟩)
    simp only [imageOf, hz.any, if_true, Bool.and_true]
    unfold WF
    refine ⟨hlg, hfic, hsh, hcn, ite_lt hne (Nat.two_pow_pos 32), ite_lt hk (Nat.two_pow_pos 64), ite_lt hh (Nat.two_pow_pos 64),
      hwl', hwl, hz.window_lt, hz.table_lt, not_isEmpty_eq_false.1, not_isEmpty_eq_false.1, ?_, ?_, fun _ => hc0, ?_⟩
    · intro e; simp only [e]; simp
    · intro e; simp only at e; rw [hz.any] at e; exact absurd e (by simp)
    · intro e; simp only at e; rw [hz.any, Bool.and_true] at e; simp [e]

theorem deserialize_serialize (W : WireConsts) (hW : FlagsOK W) (C : CompTables) (sh : Nat) (s : Sketch) (xs : List Nat)
    (hb : HipBits) (ofBits : Nat → Float) (hsh : sh < 65536) (h : Inv s xs) (hv : ∀ x ∈ xs, x < 64 * 2^s.lgK)
    (hc : s.numCoupons < 256^4) (hk : hb.kxp < 256^8) (hh : hb.hip < 256^8) (htl : s.table.length < 256^4)
    (hwl : (compress C s).tableWords.length < 256^4) (hwl' : (compress C s).windowWords.length < 256^4) :
    deserializeCore W C sh (serializeCore W C sh s hb) ofBits = some (expand C W.emptyKxpIsK (imageOf C sh s hb) ofBits) := by
  have hsh' : sh % 256 + 256 * (sh / 256 % 256) = sh := by
    rw [Nat.mod_eq_of_lt (Nat.div_lt_of_lt_mul hsh)]; exact Nat.mod_add_div sh 256
  unfold serializeCore
  by_cases hc0 : s.numCoupons = 0
  · simp only [compress_empty C s hc0, hc0, if_true, List.isEmpty_nil, Bool.not_true, leBytes_two, List.cons_append, List.nil_append]
    rw [deserializeCore_accept W hW C sh ofBits _ _ _ _ _ _ [] _ _ _ 0 0 ⟨0, 0⟩ [] [] rfl rfl (Nat.le_refl 8) rfl hsh']
    simp only [imageOf, compress_empty C s hc0, List.isEmpty_nil, Bool.not_true, Bool.or_self, Bool.false_eq_true,
      if_false, Bool.and_false]
  · obtain ⟨hany, -, hle, htw, hww⟩ := compress_shape C s xs h hv hc0
    have hbody := readBody_written (!s.merged) s.numCoupons (compress C s).tableNumEntries hb _ _ _ [] hany hc
      (Nat.lt_of_le_of_lt hle (Nat.max_lt.2 ⟨htl, hc⟩)) (takeHip_append hb · hk hh) hwl hwl' htw hww
    simp only [List.append_nil] at hbody
    simp only [hc0, if_false, imageOf, hany, if_true, Bool.and_true, leBytes_two, List.cons_append, List.nil_append, List.append_assoc]
    rw [deserializeCore_accept W hW C sh ofBits _ _ _ _ _ _ _ _ _ _ _ _ _ _ _ rfl hbody ?_ rfl hsh']
    · cases s.merged <;> rfl
    · simp only [List.length_append, length_leBytes, apply_ite List.length, List.length_nil]
      exact preambleInts_le_fields _ hc0 _ _ _ _

end DS.Wire.Cpc
