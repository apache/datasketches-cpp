/-
C09 (density sketch part) — serialization round trip of the density sketch image, float (`tsz` = 4)
and double (`tsz` = 8) — the theorems hold for every value width.

ONLY property theorems and non-vacuity examples (helper lemmas: Lemmas/WireMisc*.lean).
Model: DSModel/Wire/Density.lean = the documented layout.  The image does not store the number of
levels; a reader takes levels until `num retained` points are read.  Hence well-formedness (`WF`)
requires the LAST level to be non-empty: an image whose last level is empty is not recovered by any
reader of this layout (`decode_encode_full_false` — the correspondence check replays that case on
the real code, see `./check c09_misc`).
-/
import DSProofs.Lemmas.WireMiscDensity
import DSModel.Wire.DensityGen
namespace DS.Wire.Density
open DS.Wire

/-- the constants extracted from the current headers satisfy the side conditions of the theorems below -/
theorem genConsts_valid : genConsts.Valid := by decide

/-- decoding an encoded well-formed image gives back the image and leaves exactly the bytes that followed it -/
theorem decode_encode (c : Consts) (hc : c.Valid) (tsz : Nat) (s : Img) (hs : WF tsz s) (tail : Bytes) :
    decode c tsz (encode c tsz s ++ tail) = some (s, tail) := by
  rw [decode_header c hc tsz s hs.1 hs.2.1 tail]
  obtain ⟨k, dim, body⟩ := s
  cases body with
  | none => rfl
  | some b =>
    obtain ⟨nr, n, levels⟩ := b
    obtain ⟨b1, b2, b3, (b4 : totalPoints levels = nr), b5, b6, b7⟩ := hs.2.2
    subst b4
    show decodeBody tsz k dim false (w32 (totalPoints levels) ++ (w64 n ++ encodeLevels tsz levels) ++ tail) = _
    simp only [decodeBody, Bool.false_eq_true, if_false, List.append_assoc]
    rw [bind_u32 _ b1, bind_guard _ (decide_eq_true b3), bind_u64 _ b2,
      bind_ok (levelsLoop_enc tsz dim levels maxLevels b6 (Or.inr b5) b1 b7 tail)]
    rfl

/-- the image size is 12 bytes when empty, else 24 + Σ_levels (4 + size·dim·sizeof(T)) -/
theorem size_eq (c : Consts) (tsz : Nat) (s : Img) (hs : WF tsz s) :
    (encode c tsz s).length = serializedSize tsz s := by
  have h12 : (encode c tsz s).length = 12 + (encodeBody tsz s.body).length := by
    simp +arith only [encode, List.length_append, length_w8, length_w16, length_w32, length_wZeros]
  obtain ⟨_, _, g3⟩ := hs
  obtain ⟨k, dim, body⟩ := s
  rw [h12]
  cases body with
  | none => rfl
  | some b =>
    have := length_encodeLevels tsz dim b.levels (fun l hl p hp => (g3.2.2.2.2.2.2 l hl p hp).1)
    simp +arith only [serializedSize, encodeBody, List.length_append, length_w32, length_w64, this]

/-- re-serialisation of a restored image is byte-identical -/
theorem encode_decode_encode (c : Consts) (hc : c.Valid) (tsz : Nat) (s : Img) (hs : WF tsz s) :
    (decode c tsz (encode c tsz s)).map (fun p => encode c tsz p.1) = some (encode c tsz s) := by
  have := decode_encode c hc tsz s hs []
  simp only [List.append_nil] at this
  simp [this]

/-- The full C09 statement for the layout AS DOCUMENTED would be: every image the writer can produce
(levels of any sizes summing to num_retained > 0) decodes to itself. -/
def decode_encode_full : Prop :=
  ∀ (c : Consts), c.Valid → ∀ (tsz : Nat) (s : Img),
    (s.k < 2^16 ∧ s.dim < 2^32 ∧ ∀ b, s.body = some b →
      b.numRetained < 2^32 ∧ b.n < 2^64 ∧ 0 < b.numRetained ∧ totalPoints b.levels = b.numRetained ∧
      b.levels.length ≤ maxLevels ∧ ∀ l ∈ b.levels, ∀ p ∈ l, p.length = s.dim ∧ ∀ v ∈ p, v < 256 ^ tsz) →
    decode c tsz (encode c tsz s) = some (s, [])

/-- It is false: the layout does not record the number of levels, so a trailing EMPTY level (written as a
4-byte zero size) is not read back — the reader stops 4 bytes early and reports one level fewer
(`is_estimation_mode` can flip).  `decode_encode` above is the statement with the hypothesis
"last level non-empty" (part of `WF`), which is what holds. -/
theorem decode_encode_full_false : ¬ decode_encode_full := by
  intro h
  have := h { preShort := 3, preLong := 6, serVer := 1, familyId := 19, emptyBit := 2 } (by decide) 4
    { k := 4, dim := 1, body := some { numRetained := 1, n := 4, levels := [[[0x3f800000]], []] } } (by decide)
  revert this
  decide +kernel

/-- a 2-level float image: 2 points of dimension 2 at level 0 (weight 1), 1 point at level 1 (weight 2) -/
def exImg : Img :=
  { k := 4, dim := 2,
    body := some { numRetained := 3, n := 4, levels := [[[0x3f800000, 0x40000000], [0, 0x80000000]], [[0x7f7fffff, 1]]] } }
/-- a level-0-empty image (right after a compaction): both points at level 1 -/
def exGap : Img := { k := 2, dim := 1, body := some { numRetained := 2, n := 4, levels := [[], [[5], [6]]] } }
def exEmpty : Img := { k := 10, dim := 3, body := none }

example : WF 4 exImg ∧ WF 4 exGap ∧ WF 8 exGap ∧ WF 4 exEmpty := by decide +kernel
example : decode genConsts 4 (encode genConsts 4 exImg ++ [7]) = some (exImg, [7]) := by decide +kernel
example : (encode genConsts 4 exImg).length = 24 + (4 + 16) + (4 + 8) ∧ (encode genConsts 8 exEmpty).length = 12 := by decide +kernel

end DS.Wire.Density
