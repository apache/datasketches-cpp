/- The vocabulary of the VarOpt proofs (Rat instance), and the mid-update invariant `Mid` of the candidate-set loop of
   `grow_candidate_set`. -/
import DSModel.VarOpt.Sketch
import DSProofs.Lemmas.VarOptHeap
namespace DS.VarOpt
open DS

/-- The sum of the weights of a list of entries: the form every VarOpt proof works in.  The statements of C16 also use `sumR` (the
same sum over a list of `Rat`) and `totalW` (over `(item, weight)` pairs), both in VarOptQuery: `sumW_eq_sumR`, `sumW_entriesOf` (VarOptQuery)
and `totalW_map_H` (VarOptUnion) convert; the model's accumulating loops reduce to `sumW` by `sumAll_eq` (VarOptQuery) and
`foldl_add_eq` (VarOptResult). -/
def sumW : List E → Rat
  | [] => 0
  | e :: t => e.wt + sumW t

theorem sumW_append (a b : List E) : sumW (a ++ b) = sumW a + sumW b := by
  induction a with
  | nil => exact (zero_add _).symm
  | cons e t ih => rw [List.cons_append, sumW, sumW, ih, add_assoc]

theorem sumW_perm {a b : List E} (h : a.Perm b) : sumW a = sumW b := by
  induction h with
  | nil => rfl
  | cons x _ ih => rw [sumW, sumW, ih]
  | swap x y l => rw [sumW, sumW, sumW, sumW, add_left_comm]
  | trans _ _ ih1 ih2 => exact ih1.trans ih2

theorem sumW_pos {l : List E} (hne : l ≠ []) (hpos : ∀ e ∈ l, 0 < e.wt) : 0 < sumW l := by
  induction l with
  | nil => exact absurd rfl hne
  | cons e t ih =>
    rw [sumW]
    have he := hpos e List.mem_cons_self
    by_cases ht : t = []
    · rwa [ht, sumW, add_zero]
    · exact add_pos he (ih ht fun x hx => hpos x (List.mem_cons_of_mem _ hx))

def countMarks (l : List E) : Nat := (l.filter (·.mark)).length

theorem countMarks_perm {a b : List E} (h : a.Perm b) : countMarks a = countMarks b :=
  (h.filter _).length_eq

theorem countMarks_cons (e : E) (t : List E) : countMarks (e :: t) = (if e.mark then 1 else 0) + countMarks t := by
  by_cases h : e.mark = true
  · rw [countMarks, List.filter_cons_of_pos h, if_pos h, Nat.add_comm]; rfl
  · rw [countMarks, List.filter_cons_of_neg h, if_neg h, Nat.zero_add]; rfl

theorem countMarks_append (a b : List E) : countMarks (a ++ b) = countMarks a + countMarks b := by
  simp [countMarks, List.filter_append]

theorem countMarks_append_single (l : List E) (e : E) : countMarks (l ++ [e]) = countMarks l + (if e.mark then 1 else 0) := by
  rw [countMarks_append, countMarks_cons]; rfl

/-- the counter `num_marks_in_h_` agrees with the marks stored in H; a non-gadget stores no marks -/
def MarksOK (g : Bool) (nm : Nat) (H : List E) : Prop :=
  nm = countMarks H ∧ (g = false → ∀ e ∈ H, e.mark = false)

theorem MarksOK.insert {g : Bool} {nm nm' : Nat} {H H' : List E} {e : E} (h : MarksOK g nm H) (hp : H'.Perm (e :: H))
    (he : g = false → e.mark = false) (hnm : nm' = nm + if e.mark then 1 else 0) : MarksOK g nm' H' :=
  ⟨by rw [hnm, countMarks_perm hp, countMarks_cons, h.1, Nat.add_comm],
   fun hg x hx => (List.mem_cons.1 (hp.subset hx)).elim (· ▸ he hg) (h.2 hg x)⟩

/-- the mark counter after popping `root` out of H -/
def popCount (g : Bool) (nm : Nat) (root : E) : Nat := if g && root.mark then nm - 1 else nm

theorem MarksOK.pop {g : Bool} {nm : Nat} {root : E} {t : List E} (h : MarksOK g nm (root :: t)) :
    MarksOK g (popCount g nm root) (heapPopRest (root :: t)) := by
  obtain ⟨hcnt, hng⟩ := h
  have hpp := heapPopRest_perm root t
  refine ⟨?_, fun hg e he => hng hg e (hpp.subset (List.mem_cons_of_mem _ he))⟩
  rw [← countMarks_perm hpp, countMarks_cons] at hcnt
  -- the counter goes down exactly when the popped root carries a mark, which only a gadget stores
  by_cases hrm : root.mark = true
  · have hg : g = true := by cases g with | true => rfl | false => exact absurd (hng rfl root List.mem_cons_self) (by simp [hrm])
    rw [popCount, hg, hrm, if_pos (Bool.and_self true), hcnt, if_pos hrm, Nat.add_comm]; rfl
  · rw [if_neg hrm, Nat.zero_add] at hcnt
    rw [popCount, if_neg (fun h => hrm (Bool.and_eq_true_iff.1 h).2), hcnt]

theorem pop_facts {g : Bool} {nm : Nat} {root : E} {t : List E} (hh : IsHeap (root :: t)) (hmk : MarksOK g nm (root :: t)) :
    IsHeap (heapPopRest (root :: t)) ∧ (root :: heapPopRest (root :: t)).Perm (root :: t) ∧
    (heapPopRest (root :: t)).length = t.length ∧ (∀ e ∈ root :: t, root.wt ≤ e.wt) ∧
    MarksOK g (popCount g nm root) (heapPopRest (root :: t)) :=
  ⟨heapPopRest_heap _ hh, heapPopRest_perm root t, by rw [heapPopRest_length]; rfl,
   fun e he => by have := heap_root_min hh he; rwa [wtAt_zero_cons] at this, MarksOK.pop hmk⟩

/-- State in the middle of an update: H heap, M the explicit-weight candidates, R the reservoir (absorbed
    inputs `L`, total weight `sumW L`), `wt`/`nc` weight and number of candidates; `W0/r0` the tau before.
    With `τ' = wt/(nc-1)`, the tau the candidates would give if the loop stopped now: `mLight` says every M weight is below
    `τ'`, `tauMono` that `τ'` is at least the old tau, `mLeH` that no candidate is heavier than an H entry; `lLight`/`hHeavy`
    are the old tau separating the absorbed inputs from H (all cross-multiplied). -/
structure Mid (H M L : List E) (R : List Int) (k : Nat) (wt : Rat) (nc : Nat) (W0 : Rat) (r0 : Nat)
    (ins : List E) : Prop where
  heap : IsHeap H
  perm : ins.Perm (H ++ (M ++ L))
  nc_eq : nc = M.length + R.length
  nc1 : 1 ≤ nc
  cnt : H.length + nc = k + 1
  wt_eq : wt = sumW M + sumW L
  rItems : ∀ x ∈ R, ∃ e ∈ L, e.item = x
  rLen : R.length ≤ L.length
  mLight : ∀ m ∈ M, m.wt * ((nc : Rat) - 1) < wt
  mLeH : ∀ m ∈ M, ∀ e ∈ H, m.wt ≤ e.wt
  r0pos : 0 < r0
  lLight : ∀ e ∈ L, e.wt * (r0 : Rat) ≤ W0
  hHeavy : ∀ e ∈ H, W0 ≤ e.wt * (r0 : Rat)
  tauMono : W0 * ((nc : Rat) - 1) ≤ wt * (r0 : Rat)
  pos : ∀ e ∈ ins, 0 < e.wt

/-- one iteration of the `grow_candidate_set` loop: the root of H passes the lightness test and joins the candidates -/
theorem Mid.pop {g : Bool} {nm : Nat} {root : E} {t M L : List E} {R : List Int} {k : Nat} {wt : Rat} {nc : Nat} {W0 : Rat}
    {r0 : Nat} {ins : List E} (hmid : Mid (root :: t) M L R k wt nc W0 r0 ins) (hmk : MarksOK g nm (root :: t))
    (hc : root.wt * (nc : Rat) < wt + root.wt) :
    Mid (heapPopRest (root :: t)) (root :: M) L R k (wt + root.wt) (nc + 1) W0 r0 ins ∧
      MarksOK g (popCount g nm root) (heapPopRest (root :: t)) ∧ (heapPopRest (root :: t)).length = t.length := by
  obtain ⟨hheap, hpp, hplen, hroot_min, hpmk⟩ := pop_facts hmid.heap hmk
  have hsub : ∀ e ∈ heapPopRest (root :: t), e ∈ root :: t := fun e he => hpp.subset (List.mem_cons_of_mem _ he)
  refine ⟨{ heap := hheap, perm := ?_, nc_eq := ?_, nc1 := Nat.le_add_left 1 nc, cnt := ?_, wt_eq := ?_,
            rItems := hmid.rItems, rLen := hmid.rLen, mLight := ?_, mLeH := ?_, r0pos := hmid.r0pos,
            lLight := hmid.lLight, hHeavy := fun e he => hmid.hHeavy e (hsub e he), tauMono := ?_, pos := hmid.pos }, hpmk, hplen⟩
  · exact hmid.perm.trans ((List.Perm.append_right _ hpp.symm).trans List.perm_middle.symm)
  · rw [hmid.nc_eq, List.length_cons, Nat.succ_add]
  · rw [hplen, ← hmid.cnt, List.length_cons, Nat.succ_add]; rfl
  · rw [hmid.wt_eq, sumW]; ring
  · intro m hm
    rw [Nat.cast_succ, add_sub_cancel_right]
    rcases List.mem_cons.mp hm with rfl | hm'
    · exact hc
    · -- `m` is at most the root, and was light before
      have h2 := mul_le_mul_of_nonneg_right (hmid.mLeH m hm' root List.mem_cons_self) (Nat.cast_nonneg nc : (0 : Rat) ≤ nc)
      linarith [hmid.mLight m hm']
  · intro m hm e he
    rcases List.mem_cons.mp hm with rfl | hm'
    · exact hroot_min e (hsub e he)
    · exact hmid.mLeH m hm' e (hsub e he)
  · rw [Nat.cast_succ, add_sub_cancel_right]
    linarith [hmid.tauMono, hmid.hHeavy root List.mem_cons_self]

/-- when the loop exits every remaining H entry is at least the new tau `wt'/(nc'-1)` -/
theorem growLoop_spec (g : Bool) {L : List E} {R : List Int} {k : Nat} {W0 : Rat} {r0 : Nat} {ins : List E}
    (fuel : Nat) : ∀ (H M : List E) (nm : Nat) (wt : Rat) (nc : Nat), H.length ≤ fuel →
    Mid H M L R k wt nc W0 r0 ins → MarksOK g nm H →
    ∃ H' M' nm' wt' nc', growLoop g fuel H M nm wt nc = (H', M', nm', wt', nc') ∧
      Mid H' M' L R k wt' nc' W0 r0 ins ∧ MarksOK g nm' H' ∧ nc ≤ nc' ∧
      (∀ e ∈ H', wt' ≤ e.wt * ((nc' : Rat) - 1)) := by
  intro H M nm wt nc hlen hmid hmk
  fun_induction growLoop g fuel H M nm wt nc with
  | case1 H =>
    obtain rfl := List.eq_nil_of_length_eq_zero (Nat.le_zero.1 hlen)
    exact ⟨[], _, _, _, _, rfl, hmid, hmk, le_refl _, fun _ h => absurd h List.not_mem_nil⟩
  | case2 => exact ⟨[], _, _, _, _, rfl, hmid, hmk, le_refl _, fun _ h => absurd h List.not_mem_nil⟩
  | case3 f M nm wt nc root t nextTot hc ih =>
    -- the root is light enough: it joins the candidates
    have hc' : root.wt * (nc : Rat) < wt + root.wt := of_decide_eq_true hc
    obtain ⟨hmid', hpmk, hplen⟩ := hmid.pop hmk hc'
    obtain ⟨H', M', nm', wt', nc', h1, h2, h3, h4, h5⟩ :=
      ih (hplen.trans_le (Nat.le_of_succ_le_succ hlen)) hmid' hpmk
    exact ⟨H', M', nm', wt', nc', h1, h2, h3, (Nat.le_succ _).trans h4, h5⟩
  | case4 f M nm wt nc root t nextTot hc =>
    -- the loop stops here
    refine ⟨_, _, _, _, _, rfl, hmid, hmk, le_refl _, fun e he => ?_⟩
    have hc' : wt + root.wt ≤ root.wt * (nc : Rat) := not_lt.1 fun h => hc (decide_eq_true h)
    have hnc : (1 : Rat) ≤ (nc : Rat) := by exact_mod_cast hmid.nc1
    have hroot := heap_root_min hmid.heap he
    rw [wtAt_zero_cons] at hroot
    have h3 := mul_le_mul_of_nonneg_right hroot (sub_nonneg.2 hnc)
    linarith

end DS.VarOpt
