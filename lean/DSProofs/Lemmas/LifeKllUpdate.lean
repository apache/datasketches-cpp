/- C19, KLL sketch: `update`.  The compaction inside `compress_while_updating` is proved as one forward pass over the layout
   of the items block; each fork of the program has a lemma with one postcondition for both branches and any continuation. -/
import DSProofs.Lemmas.LifeKllInPlace
namespace DS.Life.Kll
open DS.Life

/-- `levels_` before (`ls`) and after (`ls3`) `compress_while_updating` compacts level `level = [rawBeg, rawLim)`: `half` items go
    up a level, so `levels_[level + 1]` drops by `half`, and everything from `levels_[level]` down moves up over the vacated slots -/
def CompLevels (ls ls3 : List Nat) (level rawBeg rawLim half : Nat) : Prop :=
  ls3.length = ls.length ∧
  ∀ j, ls3.getD j 0 = if j < level then ls.getD j 0 + half else if j = level then rawBeg + half
    else if j = level + 1 then rawLim - half else ls.getD j 0

section
variable {ls ls3 : List Nat} {level rawBeg rawLim half : Nat} (c : CompLevels ls ls3 level rawBeg rawLim half)
include c

theorem CompLevels.getD_le (eb : ls.getD level 0 = rawBeg) {j : Nat} (hj : j ≤ level) : ls3.getD j 0 = ls.getD j 0 + half := by
  rw [c.2 j]
  by_cases e : j < level
  · rw [if_pos e]
  · rw [if_neg e, if_pos (Nat.le_antisymm hj (Nat.le_of_not_lt e)), ← eb, Nat.le_antisymm hj (Nat.le_of_not_lt e)]

theorem CompLevels.getD_succ (el : ls.getD (level + 1) 0 = rawLim) : ls3.getD (level + 1) 0 = ls.getD (level + 1) 0 - half := by
  rw [c.2, if_neg (Nat.not_lt_of_le (Nat.le_succ _)), if_neg (Nat.succ_ne_self _), if_pos rfl, el]

theorem CompLevels.getD_gt {j : Nat} (hj : level + 1 < j) : ls3.getD j 0 = ls.getD j 0 := by
  rw [c.2, if_neg (Nat.not_lt_of_le (Nat.le_of_succ_le (Nat.le_of_lt hj))), if_neg (Nat.ne_of_gt (Nat.lt_of_succ_lt hj)),
    if_neg (Nat.ne_of_gt hj)]

end

/-- the two writes to `levels_[level + 1]`, `levels_[level]`, then the shift of the entries below `level` -/
theorem CompLevels.of_sets {ls ls3 : List Nat} {level rawBeg rawLim half : Nat} (hlen : level + 1 < ls.length)
    (hl3 : ls3.length = ls.length)
    (hg : ∀ j, ls3.getD j 0 =
      if j < level then ((ls.set (level + 1) (rawLim - half)).set level (rawBeg + half)).getD j 0 + half
      else ((ls.set (level + 1) (rawLim - half)).set level (rawBeg + half)).getD j 0) :
    CompLevels ls ls3 level rawBeg rawLim half := by
  refine ⟨hl3, fun j => ?_⟩
  rw [hg j]
  by_cases c1 : j < level
  · rw [if_pos c1, if_pos c1, getD_set_ne _ _ _ _ (Nat.ne_of_lt c1), getD_set_ne _ _ _ _ (Nat.ne_of_lt (Nat.lt_succ_of_lt c1))]
  · rw [if_neg c1, if_neg c1]
    by_cases c2 : j = level
    · rw [if_pos c2, c2, getD_set_eq _ _ _ (by rw [List.length_set]; exact Nat.lt_of_succ_lt hlen)]
    · rw [if_neg c2, getD_set_ne _ _ _ _ c2]
      by_cases c3 : j = level + 1
      · rw [if_pos c3, c3, getD_set_eq _ _ _ hlen]
      · rw [if_neg c3, getD_set_ne _ _ _ _ c3]

theorem CompLevels.levelsOK {k m nl sz : Nat} {ls ls3 : List Nat} {level rawBeg rawLim half : Nat}
    (c : CompLevels ls ls3 level rawBeg rawLim half) (lok : LevelsOK k m nl ls sz) (hlv : level + 2 ≤ nl)
    (eb : ls.getD level 0 = rawBeg) (el : ls.getD (level + 1) 0 = rawLim) (hh : 2 * half ≤ rawLim - rawBeg) :
    LevelsOK k m nl ls3 sz := by
  subst eb el
  refine ⟨lok.nl, c.1.trans lok.len, fun i hi => ?_, (c.getD_gt hlv).trans lok.top, lok.cap⟩
  have h1 := lok.mono i hi
  by_cases c1 : i < level
  · rw [c.getD_le rfl (Nat.le_of_lt c1), c.getD_le rfl c1]
    exact Nat.add_le_add_right h1 _
  · by_cases c2 : i = level
    · subst c2
      rw [c.getD_le rfl (Nat.le_refl _), c.getD_succ rfl]
      refine Nat.le_sub_of_add_le ?_
      rw [Nat.add_assoc, ← Nat.two_mul, Nat.add_comm]
      exact Nat.add_le_of_le_sub h1 hh
    · by_cases c3 : i = level + 1
      · subst c3
        rw [c.getD_succ rfl, c.getD_gt (j := level + 1 + 1) (Nat.lt_succ_self _)]
        exact Nat.le_trans (Nat.sub_le _ _) h1
      · have hi' : level + 1 < i := by omega
        rw [c.getD_gt hi', c.getD_gt (Nat.lt_succ_of_lt hi')]
        exact h1

theorem CompLevels.weight {k m nl sz : Nat} {ls ls3 : List Nat} {level rawBeg rawLim half : Nat}
    (c : CompLevels ls ls3 level rawBeg rawLim half) (lok : LevelsOK k m nl ls sz) (hlv : level + 2 ≤ nl)
    (eb : ls.getD level 0 = rawBeg) (el : ls.getD (level + 1) 0 = rawLim) (hh : 2 * half ≤ rawLim - rawBeg) :
    sumSampleWeights nl ls3 = sumSampleWeights nl ls := by
  subst eb el
  rw [sumSampleWeights_eq, sumSampleWeights_eq]
  refine wsum_move (i := level) (hh := half) hlv ?_ ?_ fun l h1 h2 => ?_
  · show ls3.getD (level + 1) 0 - ls3.getD level 0 + 2 * half = ls.getD (level + 1) 0 - ls.getD level 0
    rw [c.getD_le rfl (Nat.le_refl _), c.getD_succ rfl, Nat.sub_sub, Nat.add_left_comm, ← Nat.two_mul, ← Nat.sub_sub,
      Nat.sub_add_cancel hh]
  · show ls3.getD (level + 1 + 1) 0 - ls3.getD (level + 1) 0 = ls.getD (level + 1 + 1) 0 - ls.getD (level + 1) 0 + half
    rw [c.getD_gt (j := level + 1 + 1) (Nat.lt_succ_self _), c.getD_succ rfl,
      ← Nat.add_sub_sub_cancel (Nat.le_trans (Nat.le_trans (Nat.le_mul_of_pos_left half Nat.zero_lt_two) hh) (Nat.sub_le _ _)),
      Nat.add_sub_of_le (lok.mono (level + 1) hlv)]
  · show ls3.getD (l + 1) 0 - ls3.getD l 0 = ls.getD (l + 1) 0 - ls.getD l 0
    by_cases c1 : l < level
    · rw [c.getD_le rfl c1, c.getD_le rfl (Nat.le_of_lt c1)]
      exact Nat.add_sub_add_right _ _ _
    · have hl : level + 1 < l := by omega
      rw [c.getD_gt hl, c.getD_gt (Nat.lt_succ_of_lt hl)]

theorem nextCoin_le (coins : List Bool) : (nextCoin coins).1 ≤ 1 := by
  cases coins with
  | nil => simp [nextCoin]
  | cons c cs => cases c <;> simp [nextCoin]

/-- `raw_pop - 1` when the population is odd (`raw_beg + 1` then is `ite_parity`) -/
theorem oddAdj_pop (p : Nat) : (if p % 2 = 1 then p - 1 else p) = 2 * (p / 2) := by
  have e := Nat.div_add_mod p 2
  by_cases h : p % 2 = 1
  · rw [if_pos h]; rw [h] at e; exact Nat.sub_eq_of_eq_add e.symm
  · rw [if_neg h]; rw [(Nat.mod_two_eq_zero_or_one p).resolve_right h] at e; exact e.symm

theorem odd_half (pop : Nat) : ∃ odd half, pop = odd + 2 * half ∧ odd ≤ 1 ∧ pop % 2 = odd ∧ pop / 2 = half :=
  ⟨pop % 2, pop / 2, (Nat.mod_add_div pop 2).symm, Nat.le_of_lt_succ (Nat.mod_lt _ Nat.zero_lt_two), rfl, rfl⟩

/-- the fields that no step on the items part (compaction, new top level, `internal_update`) changes; `Usable` of the result
    reads them off the sketch before -/
structure SameMeta (s s' : Sketch) : Prop where
  self : s'.self = s.self
  k : s'.k = s.k
  m : s'.m = s.m
  view : s'.view = s.view

theorem SameMeta.refl (s : Sketch) : SameMeta s s := ⟨rfl, rfl, rfl, rfl⟩
theorem SameMeta.trans {s1 s2 s3 : Sketch} (a : SameMeta s1 s2) (b : SameMeta s2 s3) : SameMeta s1 s3 :=
  ⟨b.self.trans a.self, b.k.trans a.k, b.m.trans a.m, b.view.trans a.view⟩

/-- what the specs from `compress_while_updating` to `internal_update`, and the loop of `merge`, carry about the items block `b`
    of `s`: `Usable` without the object's own storage, the view and the weight (`ItemsLive` is its heap part alone) -/
structure ItemsOK (h : Heap) (s : Sketch) (b : Nat) : Prop where
  hb : s.items = some b
  lok : LevelsOK s.k s.m s.numLevels s.levels s.itemsSize
  il : ItemsLive h b (s.levels.getD 0 0) s.itemsSize

/-- `levels_[level]` follows `levels_[level + 1]`; the leftover item of an odd level (`odd ≤ 1` items at `rawBeg`) moves up
    over the `half` vacated slots -/
theorem vstep_oddMove {β} {S} {h : Heap} {b n level rawBeg odd half : Nat} {ls : List Nat}
    {f : List Nat → M β} {Q : β → Heap → Prop}
    (hc : HasCells h b n) (hlen : level + 1 < ls.length) (el : ls.getD (level + 1) 0 = rawBeg + odd + half)
    (ho : odd ≤ 1) (hh : 1 ≤ half) (hle : rawBeg + odd + half ≤ n)
    (l : Lay h b rawBeg [(.live, rawBeg + odd), (.obj, rawBeg + odd + half)]) (hS : S b = true)
    (s : ∀ h', SameBut h h' (fun b' j => b' = b ∧ rawBeg ≤ j ∧ j < rawBeg + odd + half) →
          Lay h' b rawBeg [(.obj, rawBeg + half), (.live, rawBeg + odd + half)] →
          SafeF S h' (f (ls.set level (rawBeg + half)) h') Q) :
    SafeF S h ((do
        let levels ← if odd = 1 then do
            let l1 ← lv ls (level + 1)
            let levels ← setLv ls level (l1 - 1)
            if l1 - 1 ≠ rawBeg then moveAssignSlot b rawBeg b (l1 - 1)
            pure levels
          else do
            let l1 ← lv ls (level + 1)
            setLv ls level l1
        f levels) h) Q := by
  have hlv : level < ls.length := Nat.lt_of_succ_lt hlen
  by_cases hp : odd = 1
  · subst hp
    rw [if_pos rfl]
    apply step_lv hlen
    apply step_setLv _ hlv
    rw [el, Nat.add_right_comm rawBeg 1 half, Nat.add_sub_cancel]
    have hbs : rawBeg + half + 1 ≤ n := Nat.add_right_comm rawBeg 1 half ▸ hle
    obtain ⟨_, lo, _, nr, _⟩ := l
    rw [Nat.add_right_comm rawBeg 1 half] at nr s
    apply vstep_moveIfNe hc (Nat.lt_of_lt_of_le (Nat.lt_succ_of_le (Nat.le_add_right _ _)) hbs) hbs
      (lo _ (Nat.le_refl _) (Nat.lt_succ_self _)) (nr _ (Nat.add_le_add_left hh _) (Nat.lt_succ_self _)) hS
    intro h2 sb2 hd hs
    exact s h2 (sb2.within ⟨Nat.le_add_right _ _, Nat.lt_succ_self _⟩ ⟨Nat.le_refl _, Nat.lt_succ_of_le (Nat.le_add_right _ _)⟩)
      ⟨Nat.le_add_right _ _,
      On.after_move sb2 hd hs ((LiveOn.toObj lo).append (On.mono nr (Nat.le_refl _) (Nat.le_succ _))), Nat.le_succ _,
      LiveOn.single hd, trivial⟩
  · obtain rfl : odd = 0 := Nat.eq_zero_of_le_zero (Nat.le_of_lt_succ (Nat.lt_of_le_of_ne ho hp))
    rw [if_neg hp]
    apply step_lv hlen
    apply step_setLv _ hlv
    rw [el]
    exact s h (SameBut.refl _ _) ⟨Nat.le_add_right _ _, l.2.2.2.1, Nat.le_refl _, On.nil (Nat.le_refl _), trivial⟩

/-- the levels below `level` (the items of `[l0, rawBeg)`) shift up over the `half` vacated slots -/
theorem vstep_shiftBelow {β} {S} {h : Heap} {b n level l0 rawBeg half : Nat} {ls : List Nat} {f : List Nat → M β}
    {Q : β → Heap → Prop}
    (hc : HasCells h b n) (hlen : level < ls.length) (hl0 : 0 < level → ls.getD 0 0 = l0) (hl0' : level = 0 → rawBeg = l0)
    (h0b : l0 ≤ rawBeg) (hle : rawBeg + half ≤ n) (hh : 1 ≤ half)
    (l : Lay h b l0 [(.live, rawBeg), (.obj, rawBeg + half)]) (hS : S b = true)
    (s : ∀ h' ls3, SameBut h h' (fun b' j => b' = b ∧ l0 ≤ j ∧ j < rawBeg + half) →
          Lay h' b l0 [(.obj, l0 + half), (.live, rawBeg + half)] → ls3.length = ls.length →
          (∀ j, ls3.getD j 0 = if j < level then ls.getD j 0 + half else ls.getD j 0) → SafeF S h' (f ls3 h') Q) :
    SafeF S h ((do
        let levels ← if level > 0 then do
            let l0 ← lv ls 0
            let amount := rawBeg - l0
            loopDown (fun i => moveAssignSlot b i b (i + half)) amount l0
            foldUp (fun lvl (ls : List Nat) => do let x ← lv ls lvl; setLv ls lvl (x + half)) level 0 ls
          else pure ls
        f levels) h) Q := by
  by_cases hlv : level > 0
  · rw [if_pos hlv]
    apply step_lv (Nat.zero_lt_of_lt hlen)
    rw [hl0 hlv]
    obtain ⟨amount, rfl⟩ : ∃ a, rawBeg = l0 + a := ⟨_, (Nat.add_sub_cancel' h0b).symm⟩
    rw [Nat.add_sub_cancel_left]
    apply vstep_shiftUp hc hle hh l hS
    intro h2 sb2 l2
    obtain ⟨ls3, e3, hlen3, hg3⟩ := shiftLevels_ok half level 0 ls (Nat.le_of_lt ((Nat.zero_add level).symm ▸ hlen))
    rw [e3, pure_bind_apply]
    refine s h2 ls3 sb2 l2 hlen3 fun j => ?_
    rw [hg3 j, Nat.zero_add]
    by_cases hj : j < level
    · rw [if_pos ⟨Nat.zero_le _, hj⟩, if_pos hj]
    · rw [if_neg (fun x => hj x.2), if_neg hj]
  · rw [if_neg hlv]
    obtain rfl := Nat.eq_zero_of_not_pos hlv
    obtain rfl := hl0' rfl
    exact s h ls (SameBut.refl _ _) ⟨Nat.le_add_right _ _, l.2.2.2.1, Nat.le_refl _, On.nil (Nat.le_refl _), trivial⟩ rfl
      (fun j => (if_neg (Nat.not_lt_zero j)).symm)

/-- the items block `b` of a sketch was kept (`b' = b`) or replaced by a block allocated meanwhile; nothing else
    happened to the set of blocks (this part also holds across a merge, where blocks of the other operand change) -/
structure ReallocIds (h h' : Heap) (b b' : Nat) : Prop where
  next : h.next ≤ h'.next
  fresh : b' = b ∨ (h.next ≤ b' ∧ b' < h'.next)
  mem : ∀ x, x ∈ h'.ids ↔ x = b' ∨ (x ≠ b ∧ x < h.next ∧ x ∈ h.ids)

/-- `ReallocIds` (with `mem` by cases: an old block other than `b`, a new block, `b` itself), and the other old blocks
    look the same -/
structure Realloc (h h' : Heap) (b b' : Nat) : Prop where
  next : h.next ≤ h'.next
  fresh : b' = b ∨ (h.next ≤ b' ∧ b' < h'.next)
  old : ∀ x, x < h.next → x ≠ b → (x ∈ h'.ids ↔ x ∈ h.ids)
  new : ∀ x, h.next ≤ x → (x ∈ h'.ids ↔ x = b')
  self : b ∈ h'.ids ↔ b' = b
  others : ∀ x, x < h.next → x ≠ b → SameOn h h' x

theorem ReallocIds.ne_new {h h' : Heap} {b b' x : Nat} (r : ReallocIds h h' b b') (hx : x < h.next) (hxb : x ≠ b) : x ≠ b' :=
  fun e => r.fresh.elim (fun e' => hxb (e.trans e')) fun e' => Nat.not_le_of_lt hx (e ▸ e'.1)

theorem ReallocIds.lt_next {h h' : Heap} {b b' : Nat} (r : ReallocIds h h' b b') (hb : b < h.next) : b' < h'.next :=
  r.fresh.elim (fun e => e ▸ Nat.lt_of_lt_of_le hb r.next) (·.2)

theorem Realloc.toIds {h h' : Heap} {b b' : Nat} (r : Realloc h h' b b') : ReallocIds h h' b b' := by
  refine ⟨r.next, r.fresh, fun x => ?_⟩
  by_cases hn : x < h.next
  · by_cases hb : x = b
    · rw [hb, r.self]
      exact ⟨fun e => Or.inl e.symm, fun e => e.elim Eq.symm fun e => absurd rfl e.1⟩
    · rw [r.old x hn hb]
      refine ⟨fun e => Or.inr ⟨hb, hn, e⟩, fun e => (e.resolve_left fun e => ?_).2.2⟩
      exact r.fresh.elim (fun e' => hb (e.trans e')) fun e' => Nat.not_le_of_lt hn (e ▸ e'.1)
  · rw [r.new x (Nat.le_of_not_lt hn)]
    exact ⟨Or.inl, fun e => e.elim id fun e => absurd e.2.1 hn⟩

theorem ReallocIds.with_others {h h' : Heap} {b b' : Nat} (r : ReallocIds h h' b b')
    (o : ∀ x, x < h.next → x ≠ b → SameOn h h' x) : Realloc h h' b b' :=
  ⟨r.next, r.fresh,
    fun x hn hb => (r.mem x).trans ⟨fun e => e.elim (fun e => absurd e (r.ne_new hn hb)) (·.2.2), fun e => Or.inr ⟨hb, hn, e⟩⟩,
    fun x hn => (r.mem x).trans ⟨fun e => e.elim id fun e => absurd e.2.1 (Nat.not_lt.2 hn), Or.inl⟩,
    (r.mem b).trans ⟨fun e => e.elim Eq.symm fun e => absurd rfl e.1, fun e => Or.inl e.symm⟩, o⟩

theorem ReallocIds.of_mem {h h' : Heap} {b : Nat} (hmem : ∀ x, x ∈ h'.ids ↔ x ∈ h.ids) (hnx : h.next ≤ h'.next)
    (hwf : ∀ x, x ∈ h.ids → x < h.next) (hb : b ∈ h.ids) : ReallocIds h h' b b :=
  ⟨hnx, Or.inl rfl, fun x => (hmem x).trans
    ⟨fun e => (Decidable.em (x = b)).imp_right fun hx => ⟨hx, hwf x e, e⟩, fun e => e.elim (· ▸ hb) (·.2.2)⟩⟩

theorem ReallocIds.replace {h h' : Heap} {b b' : Nat} (hmem : ∀ x, x ∈ h'.ids ↔ x = b' ∨ (x ∈ h.ids ∧ x ≠ b))
    (hwf : ∀ x, x ∈ h.ids → x < h.next) (hge : h.next ≤ b') (hlt : b' < h'.next) :
    ReallocIds h h' b b' :=
  ⟨Nat.le_trans hge (Nat.le_of_lt hlt), Or.inr ⟨hge, hlt⟩, fun x => (hmem x).trans
    (or_congr_right ⟨fun e => ⟨e.2, hwf x e.1, e.1⟩, fun e => ⟨e.2.2, e.1⟩⟩)⟩

theorem ReallocIds.congr {h h2 h3 : Heap} {b b1 : Nat} (r : ReallocIds h h2 b b1) (hid : h3.ids = h2.ids)
    (hnx : h3.next = h2.next) : ReallocIds h h3 b b1 :=
  ⟨hnx ▸ r.next, hnx ▸ r.fresh, hid ▸ r.mem⟩

theorem ReallocIds.wf {h h' : Heap} {b b' : Nat} (r : ReallocIds h h' b b') (hblt : b < h.next) :
    ∀ x, x ∈ h'.ids → x < h'.next :=
  fun x hx => ((r.mem x).1 hx).elim (· ▸ r.lt_next hblt) fun e => Nat.lt_of_lt_of_le e.2.1 r.next

theorem ReallocIds.trans {h h' h'' : Heap} {b b' b'' : Nat} (r1 : ReallocIds h h' b b') (r2 : ReallocIds h' h'' b' b'') :
    ReallocIds h h'' b b'' := by
  refine ⟨Nat.le_trans r1.next r2.next, ?_, fun x => ?_⟩
  · rcases r2.fresh with rfl | e
    · exact r1.fresh.imp_right fun e => ⟨e.1, Nat.lt_of_lt_of_le e.2 r2.next⟩
    · exact Or.inr ⟨Nat.le_trans r1.next e.1, e.2⟩
  · rw [r2.mem, r1.mem]
    exact or_congr_right ⟨fun e => e.2.2.resolve_left e.1,
      fun e => ⟨r1.ne_new e.2.1 e.1, Nat.lt_of_lt_of_le e.2.1 r1.next, Or.inr e⟩⟩

theorem Realloc.of_sameBut {h h' : Heap} {b : Nat} (sb : SameBut h h' (fun b' _ => b' = b))
    (hwf : ∀ x, x ∈ h.ids → x < h.next) (hb : b ∈ h.ids) : Realloc h h' b b :=
  (ReallocIds.of_mem (fun x => by rw [sb.ids]) (Nat.le_of_eq sb.next.symm) hwf hb).with_others
    (fun x _ hx => sb.sameOn (fun j e => hx e))

theorem Realloc.wf {h h' : Heap} {b b' : Nat} (r : Realloc h h' b b') (_hwf : ∀ x, x ∈ h.ids → x < h.next)
    (hblt : b < h.next) : ∀ x, x ∈ h'.ids → x < h'.next := r.toIds.wf hblt

theorem Realloc.trans {h h' h'' : Heap} {b b' b'' : Nat} (r1 : Realloc h h' b b') (r2 : Realloc h' h'' b' b'')
    (hblt : b < h.next) : Realloc h h'' b b'' :=
  (r1.toIds.trans r2.toIds).with_others fun x hx hxb =>
    (r1.others x hx hxb).trans (r2.others x (Nat.lt_of_lt_of_le hx r1.next) (r1.toIds.ne_new hx hxb))

theorem findLevelToCompact_spec {S : Nat → Bool} (s : Sketch) (h : Heap) (hlen : s.numLevels + 1 ≤ s.levels.length) :
    ∀ fuel level, SafeF S h (findLevelToCompact s fuel level h)
      (fun r h' => h' = h ∧ r < s.numLevels ∧ levelCapacity s.k s.numLevels r s.m ≤ pop s.levels r)
  | 0, _ => SafeF.exc _
  | fuel + 1, level => by
    unfold findLevelToCompact
    by_cases hl : level ≥ s.numLevels
    · rw [if_pos hl]; exact SafeF.exc _
    · rw [if_neg hl]
      have hl := Nat.lt_of_not_le hl
      apply step_lv (Nat.lt_of_lt_of_le (Nat.lt_succ_of_lt hl) hlen)
      apply step_lv (Nat.lt_of_lt_of_le (Nat.succ_lt_succ hl) hlen)
      by_cases hc : pop s.levels level ≥ levelCapacity s.k s.numLevels level s.m
      · rw [pop] at hc
        rw [if_pos hc]
        exact SafeF.pure ⟨rfl, hl, hc⟩
      · rw [pop] at hc
        rw [if_neg hc]
        exact findLevelToCompact_spec s h hlen fuel (level + 1)

theorem addEmptyTopLevel_spec {S : Nat → Bool} {s : Sketch} {b : Nat} {h : Heap} (io : ItemsOK h s b) (hSb : S b = true)
    (hSn : S h.next = true) (hblt : b < h.next) (hwf : ∀ x, x ∈ h.ids → x < h.next) :
    SafeF S h (addEmptyTopLevel s h)
      (fun s' h' => ItemsOK h' s' h.next ∧ Realloc h h' b h.next ∧ SameMeta s s' ∧ s'.n = s.n ∧
        s'.numLevels = s.numLevels + 1 ∧ W s' = W s ∧ ∀ l, l < s.numLevels → pop s'.levels l = pop s.levels l) := by
  obtain ⟨hb, lok, il⟩ := io
  have hlen := lok.len
  unfold addEmptyTopLevel
  apply step_lv (hlen ▸ Nat.lt_succ_self _)
  apply step_lv (hlen ▸ Nat.succ_pos _)
  rw [lok.top]
  by_cases hl0 : s.levels.getD 0 0 ≠ 0
  · rw [if_pos hl0]; exact SafeF.exc _
  rw [if_neg hl0, if_neg (fun x => x rfl)]
  have hz : s.levels.getD 0 0 = 0 := Decidable.not_not.1 hl0
  generalize hdc : levelCapacity s.k (s.numLevels + 1) 0 s.m = dc
  have hgg := growLevels_getD s.levels (s.numLevels + 2)
  have hg3 := growLevels_length_eq s.levels (s.numLevels + 2) (hlen ▸ Nat.le_succ _)
  generalize growLevels s.levels (s.numLevels + 2) = G at hgg hg3
  apply vstep_alloc _ _ hSn
  intro h1 hc1 hr1 so1 hid1 hnx1
  apply step_deref_eq hb
  have hne : b ≠ h.next := Nat.ne_of_lt hblt
  have sob := so1 b hne
  apply vstep_moveConstructRange (sob.cells _ il.cells) hc1 hne (Nat.zero_le _) (Nat.le_refl _) (Nat.le_of_eq (Nat.add_comm _ _))
    (fun j _ h2' => by rw [sob.st]; exact il.live j (by rw [hz]; exact Nat.zero_le _) h2')
    (fun j _ h2' => hr1 j (Nat.lt_of_lt_of_le h2' (Nat.le_of_eq (Nat.add_comm _ _)))) hSb hSn
  intro h2 sb2 hr2 hl2
  apply vstep_dealloc (sb2.cells _ _ (sob.cells _ il.cells)) (fun i hi => hr2 i (Nat.zero_le _) hi) hSb
  intro h3 so3 hid3 hnx3
  obtain ⟨L1, eL1, hlen1, hgL1⟩ := shiftLevels_ok dc (s.numLevels + 1) 0 G (by rw [hg3, Nat.zero_add]; exact Nat.le_succ _)
  rw [eL1, pure_bind_apply]
  have hT1 : s.numLevels + 1 < L1.length := by rw [hlen1, hg3]; exact Nat.lt_succ_self _
  apply step_lv (Nat.lt_of_succ_lt hT1)
  -- the levels: the old ones shifted by `dc`, and the new top
  have hg1 : ∀ i, i ≤ s.numLevels → L1.getD i 0 = s.levels.getD i 0 + dc := fun i hi => by
    rw [hgL1, if_pos ⟨Nat.zero_le _, by rw [Nat.zero_add]; exact Nat.lt_succ_of_le hi⟩,
      hgg _ (by rw [hlen]; exact Nat.lt_succ_of_le hi)]
  rw [hg1 _ (Nat.le_refl _), lok.top, if_neg (fun x => x rfl)]
  apply step_setLv _ hT1
  apply SafeF.pure
  generalize hL : L1.set (s.numLevels + 1) (s.itemsSize + dc) = L
  have hgL : ∀ i, i ≤ s.numLevels → L.getD i 0 = s.levels.getD i 0 + dc := fun i hi => by
    rw [← hL, getD_set_ne _ _ _ _ (Nat.ne_of_lt (Nat.lt_succ_of_le hi)), hg1 i hi]
  have hgT : L.getD (s.numLevels + 1) 0 = s.itemsSize + dc := by rw [← hL, getD_set_eq _ _ _ hT1]
  have hpop : ∀ l, l < s.numLevels → pop L l = pop s.levels l := fun l hl => by
    rw [pop, hgL l (Nat.le_of_lt hl), hgL (l + 1) hl]
    exact Nat.add_sub_add_right _ _ _
  have son := so3 _ hne.symm
  refine ⟨⟨rfl, ⟨Nat.succ_pos _, by rw [← hL, List.length_set, hlen1, hg3], fun i hi => ?_, hgT, ?_⟩, ?_⟩, ?_,
    ⟨rfl, rfl, rfl, rfl⟩, rfl, rfl, ?_, hpop⟩
  · by_cases e : i = s.numLevels
    · rw [e, hgL _ (Nat.le_refl _), hgT, lok.top]; exact Nat.le_refl _
    · have hi' : i < s.numLevels := Nat.lt_of_le_of_ne (Nat.le_of_lt_succ hi) e
      rw [hgL i (Nat.le_of_lt hi'), hgL (i + 1) hi']
      exact Nat.add_le_add_right (lok.mono i hi') _
  · rw [computeTotalCapacity_succ, ← lok.cap, hdc]
  · rw [hgL 0 (Nat.zero_le _), hz, Nat.zero_add]
    refine ⟨son.cells _ (sb2.cells _ _ hc1), fun i hi => ?_, fun i h1' h2' => ?_⟩
    · rw [son.st, sb2.st _ _ fun x => x.elim (fun y => hne y.1.symm) fun y => Nat.not_le_of_lt hi y.2.1]
      exact hr1 i (Nat.lt_of_lt_of_le hi (Nat.le_add_left _ _))
    · rw [son.st]
      exact hl2 i h1' (Nat.add_comm _ _ ▸ h2')
  · refine (ReallocIds.replace (fun x => ?_) hwf (Nat.le_refl _) (by rw [hnx3, sb2.next, hnx1]; exact Nat.lt_succ_self _)).with_others
      fun x hx hxb => ((so1 x (Nat.ne_of_lt hx)).trans
        (sb2.sameOn fun j y => y.elim (fun y => hxb y.1) fun y => Nat.ne_of_lt hx y.1)).trans (so3 x hxb)
    rw [hid3, sb2.ids, hid1, List.mem_filter, List.mem_cons, bne_iff_ne]
    exact ⟨fun e => e.1.imp_right fun e' => ⟨e', e.2⟩, fun e => e.elim (fun e => ⟨Or.inl e, e ▸ hne.symm⟩) fun e => ⟨Or.inr e.1, e.2⟩⟩
  · show sumSampleWeights (s.numLevels + 1) L = sumSampleWeights s.numLevels s.levels
    rw [sumSampleWeights_eq, sumSampleWeights_eq, wsum, pop, hgT, hgL _ (Nat.le_refl _), lok.top, Nat.sub_self]
    exact wsum_congr hpop

/-- the number of levels is unchanged, or grew by one because the (heavy) top level was compacted -/
def LevelGrowth (s s' : Sketch) : Prop :=
  s'.numLevels = s.numLevels ∨ (s'.numLevels = s.numLevels + 1 ∧ 2 ^ s.numLevels ≤ W s)

theorem PW.step {s s' : Sketch} (hw : W s' = W s + 1) (hg : LevelGrowth s s') (p : PW s) : PW s' := by
  unfold PW at *
  rw [hw]
  rcases hg with e | ⟨e, hge⟩
  · rw [e]
    exact p.imp_right Nat.le_succ_of_le
  · rw [e, Nat.add_sub_cancel]
    exact Or.inr (Nat.le_succ_of_le hge)

theorem compressWhileUpdating_spec {S : Nat → Bool} (s0 : Sketch) {b0 : Nat} (coins : List Bool) (h0 : Heap) (hSb : S b0 = true)
    (hSn : ∀ x, h0.next ≤ x → S x = true) (io : ItemsOK h0 s0 b0) (hm2 : 2 ≤ s0.m) (hblt : b0 < h0.next)
    (hwf : ∀ x, x ∈ h0.ids → x < h0.next) :
    SafeF S h0 (compressWhileUpdating s0 coins h0)
      (fun r h' => ∃ b', ItemsOK h' r.1 b' ∧ 1 ≤ r.1.levels.getD 0 0 ∧ Realloc h0 h' b0 b' ∧ SameMeta s0 r.1 ∧
        r.1.n = s0.n ∧ S b' = true ∧ W r.1 = W s0 ∧ LevelGrowth s0 r.1) := by
  have lok0 := io.lok
  unfold compressWhileUpdating
  apply SafeF.bind (findLevelToCompact_spec s0 h0 (Nat.le_of_eq lok0.len.symm) (s0.numLevels + 1) 0)
  intro level h1 ⟨e1, hlv0, hcap⟩ _
  subst h1
  have hpop0 : 2 ≤ pop s0.levels level := Nat.le_trans hm2 (Nat.le_trans (levelCapacity_ge ..) hcap)
  -- the sketch that is compacted: as it was, or with a new empty top level in a new block
  apply SafeF.bind_ite (Q1 := fun s h => ∃ b, ItemsOK h s b ∧ S b = true ∧ Realloc h0 h b0 b ∧ SameMeta s0 s ∧ s.n = s0.n ∧
    level + 2 ≤ s.numLevels ∧ 2 ≤ pop s.levels level ∧ W s = W s0 ∧ LevelGrowth s0 s)
  · by_cases htop : level = s0.numLevels - 1
    · rw [if_pos htop]
      have enl : s0.numLevels = level + 1 := htop ▸ (Nat.sub_add_cancel lok0.nl).symm
      -- the top level alone weighs `2 ^ level * 2`
      have hgrow : 2 ^ s0.numLevels ≤ W s0 := by
        rw [W, sumSampleWeights_eq, enl, Nat.pow_succ]
        exact Nat.le_trans (Nat.mul_le_mul_left _ hpop0) (wsum_top_le _ _)
      have hSx := hSn _ (Nat.le_refl _)
      refine (addEmptyTopLevel_spec io hSb hSx hblt hwf).mono ?_
      intro s1 h1 ⟨io1, re1, sm1, n1, nl1, w1, pop1⟩
      exact ⟨_, io1, hSx, re1, sm1, n1, nl1 ▸ Nat.succ_le_succ hlv0, pop1 level hlv0 ▸ hpop0, w1,
        Or.inr ⟨nl1, hgrow⟩⟩
    · rw [if_neg htop]
      exact SafeF.pure ⟨b0, io, hSb, .of_sameBut (SameBut.refl _ _) hwf io.il.cells.mem_ids, .refl s0, rfl,
        Nat.succ_le_of_lt (Nat.lt_of_le_of_ne (Nat.succ_le_of_lt hlv0) fun e => htop (Nat.eq_sub_of_add_eq e)), hpop0, rfl,
        Or.inl rfl⟩
  · intro s h ⟨b, ⟨hb, lok, il⟩, hS, re1, sm1, n1, hlv, hp2, w1, hg1⟩ _
    have hmem := il.cells.mem_ids
    have hlen : level + 2 < s.levels.length := lok.len ▸ Nat.lt_succ_of_le hlv
    apply step_deref_eq hb
    apply step_lv (Nat.lt_of_succ_lt (Nat.lt_of_succ_lt hlen))
    apply step_lv (Nat.lt_of_succ_lt hlen)
    apply step_lv hlen
    apply step_lv (Nat.zero_lt_of_lt hlen)
    -- the level as its leftover item and its pairs: `[B, B + odd + 2 * half)`
    obtain ⟨pop, hpop⟩ : ∃ pop, s.levels.getD (level + 1) 0 = s.levels.getD level 0 + pop :=
      ⟨_, (Nat.add_sub_cancel' (lok.mono level (Nat.lt_of_succ_lt (Nat.lt_of_succ_le hlv)))).symm⟩
    obtain ⟨odd, half, rfl, ho, e1, e2⟩ := odd_half pop
    rw [Kll.pop, hpop, Nat.add_sub_cancel_left] at hp2
    have hh : 1 ≤ half := e2 ▸ (Nat.le_div_iff_mul_le Nat.zero_lt_two).2 hp2
    rw [hpop, Nat.add_sub_cancel_left, ite_parity, oddAdj_pop, e1, e2, Nat.mul_div_cancel_left half Nat.zero_lt_two, ← Nat.add_assoc]
    rw [← Nat.add_assoc] at hpop
    generalize hB : s.levels.getD level 0 = B at hpop ⊢
    generalize htop : s.levels.getD (level + 2) 0 = top
    generalize hl0 : s.levels.getD 0 0 = l0 at il ⊢
    have h0b : l0 ≤ B := hl0 ▸ hB ▸ lok.le_of_le level 0 (Nat.zero_le _) (Nat.le_trans (Nat.le_add_right level 2) hlv)
    have hlt : B + odd + 2 * half ≤ top := hpop ▸ htop ▸ lok.mono (level + 1) hlv
    have hts : top ≤ s.itemsSize := htop ▸ lok.le_top _ hlv
    have hBA : B ≤ B + odd := Nat.le_add_right _ _
    have hAL : B + odd ≤ B + odd + 2 * half := Nat.le_add_right _ _
    have hLs : B + odd + 2 * half ≤ s.itemsSize := Nat.le_trans hlt hts
    have hAs : B + odd ≤ s.itemsSize := Nat.le_trans hAL hLs
    have hHs : B + odd + half ≤ s.itemsSize :=
      Nat.le_trans (Nat.add_le_add_left (Nat.le_mul_of_pos_left half Nat.zero_lt_two) _) hLs
    have hsub : B + odd + 2 * half - half = B + odd + half := by
      rw [Nat.two_mul, ← Nat.add_assoc]; exact Nat.add_sub_cancel ..
    -- raw | the levels below | the odd item | the pairs of the level | the level above | the higher levels, a line each
    have k0 : Blk h h b s.itemsSize [(.raw, l0), (.live, B), (.live, B + odd), (.live, B + odd + 2 * half), (.live, top),
        (.live, s.itemsSize)] :=
      ⟨il.cells, SameBut.refl _ _,
        Nat.zero_le _, fun j _ d => il.raw j d,
        h0b, il.live.mono (Nat.le_refl _) (Nat.le_trans hBA hAs),
        hBA, il.live.mono h0b hAs,
        hAL, il.live.mono (Nat.le_trans h0b hBA) hLs,
        hlt, il.live.mono (Nat.le_trans h0b (Nat.le_trans hBA hAL)) hts,
        hts, il.live.mono (Nat.le_trans h0b (Nat.le_trans hBA (Nat.le_trans hAL hlt))) (Nat.le_refl _), trivial⟩
    apply vstep_sortIf (lo := B + odd) k0.cells hLs (k0.mid (xs := [_, _, _]) (ys := [_]) (zs := [_, _])).2.1 hS
    intro h1 sb1 l1
    have k1 := k0.splice (xs := [_, _, _]) (ys := [_]) (ys' := [(.live, B + odd + 2 * half)]) (zs := [_, _]) sb1
      ⟨Nat.le_add_right _ _, l1, trivial⟩ rfl
    clear k0 sb1 l1
    cases hnc : nextCoin coins with
    | mk coin coins' =>
    have hcoin : coin ≤ 1 := by have := nextCoin_le coins; rw [hnc] at this; exact this
    simp only
    apply vstep_halveMerge k1.cells rfl hts (k1.mid (xs := [_, _, _]) (ys := [_, _]) (zs := [_])) hcoin hS
    intro h2 sb2 l2
    have k2 := k1.splice (xs := [_, _, _]) (ys := [_, _]) (zs := [_]) sb2 l2 rfl
    clear k1 sb2 l2 h1
    apply step_lv (Nat.lt_of_succ_lt hlen)
    apply step_setLv _ (Nat.lt_of_succ_lt hlen)
    rw [hpop]
    have hlen1 : level + 1 < (s.levels.set (level + 1) (B + odd + 2 * half - half)).length := by
      rw [List.length_set]; exact Nat.lt_of_succ_lt hlen
    apply vstep_oddMove (rawBeg := B) k2.cells hlen1 ((getD_set_eq _ _ _ (Nat.lt_of_succ_lt hlen)).trans hsub) ho hh
      hHs (k2.mid (xs := [_, _]) (ys := [_, _]) (zs := [_, _])) hS
    intro h3 sb3 l3
    have k3 := k2.splice (xs := [_, _]) (ys := [_, _]) (zs := [_, _]) sb3 l3 rfl
    clear k2 sb3 l3 h2
    have hlv1 : level < ((s.levels.set (level + 1) (B + odd + 2 * half - half)).set level (B + half)).length := by
      rw [List.length_set]; exact Nat.lt_of_succ_lt hlen1
    apply step_lv hlv1
    rw [getD_set_eq _ _ _ (Nat.lt_of_succ_lt hlen1), if_neg (fun x => x rfl)]
    apply vstep_shiftBelow (l0 := l0) k3.cells hlv1
      (fun hp => by rw [getD_set_ne _ _ _ _ (Nat.ne_of_lt hp), getD_set_ne _ _ _ _ (Nat.succ_ne_zero _).symm]; exact hl0)
      (fun hp => by rw [← hB, hp]; exact hl0) h0b
      (Nat.le_trans (Nat.add_le_add_right hBA half) hHs) hh (k3.mid (xs := [_]) (ys := [_, _]) (zs := [_, _, _])) hS
    intro h4 ls3 sb4 l4 hlen3 hg3
    have k4 := k3.splice (xs := [_]) (ys := [_, _]) (zs := [_, _, _]) sb4 l4 rfl
    clear k3 sb4 l4 h3
    apply vstep_destroyRange (start := l0) k4.cells
      (Nat.le_trans (Nat.add_le_add_right (Nat.le_trans h0b hBA) half) hHs) (k4.mid (xs := [_]) (ys := [_]) (zs := [_, _, _, _])).2.1 hS
    intro h5 sb5 hr5
    apply SafeF.pure
    have k5 := k4.splice (xs := [_]) (ys := [_]) (ys' := [(.raw, l0 + half)]) (zs := [_, _, _, _]) sb5
      ⟨Nat.le_add_right _ _, hr5, trivial⟩ rfl
    have cl : CompLevels s.levels ls3 level B (B + odd + 2 * half) half :=
      CompLevels.of_sets (Nat.lt_of_succ_lt hlen) (by rw [hlen3, List.length_set, List.length_set]) hg3
    have h2h : 2 * half ≤ B + odd + 2 * half - B := by
      rw [Nat.add_assoc, Nat.add_sub_cancel_left]; exact Nat.le_add_left _ _
    have e3 : ls3.getD 0 0 = l0 + half := hl0 ▸ cl.getD_le hB (Nat.zero_le _)
    refine ⟨b, ⟨hb, cl.levelsOK lok hlv hB hpop h2h, ?_⟩, e3 ▸ Nat.le_trans hh (Nat.le_add_left _ _),
      re1.trans (.of_sameBut k5.same (re1.wf hwf hblt) hmem) hblt, ⟨sm1.self, sm1.k, sm1.m, sm1.view⟩, n1, hS,
      (cl.weight lok hlv hB hpop h2h).trans w1, hg1⟩
    rw [e3]
    exact ⟨k5.cells, fun i hi => (k5.mid (xs := []) (ys := [_, _]) (zs := [_, _, _, _])).flat (c := .raw) (by simp) i
      (Nat.zero_le _) hi, (k5.mid (xs := [_, _]) (ys := [_, _, _, _]) (zs := [])).flat (c := .live) (by simp)⟩

theorem internalUpdate_spec {S : Nat → Bool} (s : Sketch) {b : Nat} (coins : List Bool) (h : Heap) (hSb : S b = true)
    (hSn : ∀ x, h.next ≤ x → S x = true) (io : ItemsOK h s b) (hm2 : 2 ≤ s.m) (hblt : b < h.next)
    (hwf : ∀ x, x ∈ h.ids → x < h.next) :
    SafeF S h (internalUpdate s coins h)
      (fun r h' => ∃ b', r.1.items = some b' ∧ LevelsOK r.1.k r.1.m r.1.numLevels r.1.levels r.1.itemsSize ∧
        r.1.levels.getD 0 0 = r.2.1 ∧ ItemsLive h' b' (r.2.1 + 1) r.1.itemsSize ∧ r.2.1 < r.1.itemsSize ∧
        Realloc h h' b b' ∧ SameMeta s r.1 ∧ r.1.n = s.n + 1 ∧ S b' = true ∧ W r.1 = W s + 1 ∧ LevelGrowth s r.1) := by
  unfold internalUpdate
  apply step_lv (io.lok.len ▸ Nat.succ_pos _)
  -- the postcondition of `compress_while_updating` holds as well when it is not called
  apply SafeF.bind_ite
  · by_cases hz : s.levels.getD 0 0 = 0
    · rw [if_pos hz]
      exact compressWhileUpdating_spec s coins h hSb hSn io hm2 hblt hwf
    · rw [if_neg hz]
      exact SafeF.pure ⟨b, io, Nat.pos_of_ne_zero hz, .of_sameBut (SameBut.refl _ _) hwf io.il.cells.mem_ids, .refl s, rfl, hSb,
        rfl, Or.inl rfl⟩
  · intro ⟨s1, c1⟩ h1 ⟨b1, ⟨hb1, lok1, il1⟩, h1p, re, sm, hn, hS1, hw1, hg1⟩ _
    have h0 : 0 < s1.levels.length := lok1.len ▸ Nat.succ_pos _
    apply step_lv h0
    rw [if_neg (Nat.ne_of_gt h1p)]
    apply step_setLv _ h0
    apply SafeF.pure
    have e0 : (s1.levels.set 0 (s1.levels.getD 0 0 - 1)).getD 0 0 = s1.levels.getD 0 0 - 1 := getD_set_eq _ _ _ h0
    have hne : ∀ {i}, (s1.levels.set 0 (s1.levels.getD 0 0 - 1)).getD (i + 1) 0 = s1.levels.getD (i + 1) 0 :=
      getD_set_ne _ _ _ _ (Nat.succ_ne_zero _)
    refine ⟨b1, hb1, ⟨lok1.nl, (List.length_set ..).trans lok1.len, fun i hi => ?_, ?_, lok1.cap⟩, e0, ?_,
      Nat.lt_of_lt_of_le (Nat.sub_lt h1p Nat.one_pos) (lok1.le_top 0 (Nat.zero_le _)), re, ⟨sm.self, sm.k, sm.m, sm.view⟩,
      congrArg (· + 1) hn, hS1, ?_, hg1⟩
    · show (s1.levels.set 0 _).getD i 0 ≤ (s1.levels.set 0 _).getD (i + 1) 0
      rw [hne]
      cases i with
      | zero => rw [e0]; exact Nat.le_trans (Nat.sub_le _ _) (lok1.mono 0 hi)
      | succ i => rw [hne]; exact lok1.mono _ hi
    · show (s1.levels.set 0 _).getD s1.numLevels 0 = _
      rw [getD_set_ne _ _ _ _ (Nat.ne_of_gt lok1.nl)]
      exact lok1.top
    · show ItemsLive h1 b1 (s1.levels.getD 0 0 - 1 + 1) s1.itemsSize
      rw [Nat.sub_add_cancel h1p]
      exact il1
    · rw [← hw1]
      show sumSampleWeights s1.numLevels (s1.levels.set 0 _) = sumSampleWeights s1.numLevels s1.levels + 1
      rw [sumSampleWeights_eq, sumSampleWeights_eq]
      refine wsum_bump0 lok1.nl ?_ fun l hl => ?_
      · obtain ⟨d, hd⟩ : ∃ d, s1.levels.getD (0 + 1) 0 = s1.levels.getD 0 0 + d := Nat.exists_eq_add_of_le (lok1.mono 0 lok1.nl)
        rw [pop, pop, e0, hne, hd, Nat.add_sub_sub_cancel h1p, Nat.add_sub_cancel_left]
      · obtain ⟨l, rfl⟩ := Nat.exists_eq_succ_of_ne_zero hl
        rw [pop, pop, hne, hne]

/-- ownership after the items block was kept or replaced (`re`, starting from `hA`) and the sorted view released: what
    `update` and `merge` end with -/
theorem owns_realloc_reset {P : Params} {h hA h2 h4 : Heap} {s s' : Sketch} {b b1 n0 : Nat} {ids0 : List Nat}
    (inv : Inv P h s) (hb : s.items = some b) (hid : h.ids = ids0) (hnx : h.next = n0) (hAid : hA.ids = ids0)
    (hAnx : hA.next = n0) (hwf : ∀ x, x ∈ ids0 → x < n0) (re : ReallocIds hA h2 b b1)
    (hid4 : h4.ids = h2.ids.filter (fun x => s.view != some x)) (e1 : s'.self = s.self) (e2 : s'.items = some b1)
    (e3 : s'.view = none) : Owns h4 ids0 (owned s) (owned s') n0 := by
  have hown' : ∀ x, x ∈ owned s' ↔ x = s.self ∨ x = b1 := fun x => by
    rw [mem_owned, e1, e2, e3]
    simp only [reduceCtorEq, or_false, Option.some.injEq, eq_comm]
  refine ⟨fun x => ?_, fun x hx => ((hown' x).1 hx).elim (fun e => Or.inl (mem_owned.2 (Or.inl e))) fun e => ?_⟩
  · rw [hid4, List.mem_filter, bne_iff_ne, re.mem, hAid, hAnx, hown', mem_owned, hb, Option.some.injEq]
    constructor
    · rintro ⟨e | ⟨hxb, _, hxi⟩, hv⟩
      · exact Or.inr (Or.inr e)
      · exact (Decidable.em (x = s.self)).elim (fun hs => Or.inr (Or.inl hs)) fun hs =>
          Or.inl ⟨hxi, fun d => d.elim hs fun d => d.elim (fun d => hxb d.symm) hv⟩
    · rintro (⟨hxi, hn⟩ | rfl | rfl)
      · exact ⟨Or.inr ⟨fun e => hn (Or.inr (Or.inl e.symm)), hwf x hxi, hxi⟩, fun e => hn (Or.inr (Or.inr e))⟩
      · exact ⟨Or.inr ⟨(inv.items_ne_self hb).symm, hnx ▸ inv.self_lt, hid ▸ inv.self_cells.mem_ids⟩, fun e => inv.view_ne_self e rfl⟩
      · exact ⟨Or.inl rfl, fun e => re.ne_new (hAnx ▸ hnx ▸ inv.view_lt e) (fun e' => inv.items_ne_view hb (e' ▸ e)) rfl⟩
  · exact re.fresh.imp (fun e' => mem_owned.2 (Or.inr (Or.inl ((e.trans e') ▸ hb)))) fun e' => e ▸ hAnx ▸ e'.1

/-- `update` after `update_min_max`: what both branches of its `if (is_empty())` go on with, under a name so that
    `updTail_spec` is stated once; `update` unfolds to it, so `update_contract` closes each branch with `updTail_spec` -/
def updTail (s : Sketch) (v : Nat) (coins : List Bool) : M (Sketch × List Bool) := do
  let (s, index, coins) ← internalUpdate s coins
  let items ← deref s.items
  construct items index v
  let s ← resetSortedView s
  pure (s, coins)

/-- `h0`, `h1`: the heaps after `update_min_max` has written cell 0 (min), then cell 1 (max), of the object's storage; constructed or
    assigned or left alone, both are live afterwards -/
theorem updTail_spec {P : Params} (hP : P.OK) {n0 : Nat} {s : Sketch} (v : Nat) (coins : List Bool) {ids0 : List Nat}
    {h h0 h1 : Heap} (u : Usable P h s) (hid : h.ids = ids0) (hnx : h.next = n0) (hwf : ∀ x, x ∈ ids0 → x < n0)
    (sb0 : SameBut h h0 (fun b' j => b' = s.self ∧ j = 0)) (hl0 : ∃ w, stAt h0 s.self 0 = .live w)
    (sb1 : SameBut h0 h1 (fun b' j => b' = s.self ∧ j = 1)) (hl1 : ∃ w, stAt h1 s.self 1 = .live w) :
    SafeF (foot (owned s) n0) h1 (updTail s v coins h1)
      (fun r h' => Usable P h' r.1 ∧ Owns h' ids0 (owned s) (owned r.1) n0) := by
  have sb : SameBut h h1 (fun b' _ => b' = s.self) := sb0.trans sb1 (fun _ _ x => x.1) (fun _ _ x => x.1)
  have inv := u.toInv
  obtain ⟨b, hb, _⟩ := u.items
  obtain ⟨lok, _, hblt, hbself, hbview⟩ := inv.items_ok b hb
  have hnx1 : h1.next = n0 := sb.next.trans hnx
  have hblt1 : b < h1.next := hnx1.symm ▸ hnx ▸ hblt
  unfold updTail
  apply SafeF.bind (internalUpdate_spec (S := foot (owned s) n0) s coins h1 (foot_own (mem_owned.2 (Or.inr (Or.inl hb))))
    (fun x hx => foot_new (hnx1 ▸ hx)) ⟨hb, lok, (u.itemsLive hb).transfer (sb.sameOn fun j e => hbself e)⟩
    (inv.m_eq ▸ hP.1) hblt1 (fun x hx => hnx1.symm ▸ hwf x (hid ▸ sb.ids ▸ hx)))
  intro ⟨s1, index, c1⟩ h2 ⟨b1, hb1, lok1, e0, il2, hidx, re, sm, hn1, hSb1, hw1, hg1⟩ _
  apply step_deref_eq hb1
  apply vstep_construct v il2.cells hidx (il2.raw index (Nat.lt_succ_self _)) hSb1
  intro h3 sb3 _ hst3
  -- an old block other than `b` is not `b1` and is as in `h1`
  have old : ∀ x, x < n0 → x ≠ b → x ≠ b1 ∧ SameOn h1 h3 x := fun x hx hxb =>
    have hne := re.toIds.ne_new (hnx1.symm ▸ hx) hxb
    ⟨hne, (re.others x (hnx1.symm ▸ hx) hxb).trans (sb3.sameOn fun j e => hne e.1)⟩
  have hself_lt : s.self < n0 := hnx ▸ inv.self_lt
  have oldv : ∀ w, s.view = some w → w ≠ b1 ∧ SameOn h1 h3 w := fun w hw =>
    old w (hnx ▸ inv.view_lt hw) fun e => hbview (e ▸ hw)
  obtain ⟨hselfb1, self3⟩ := old _ hself_lt hbself.symm
  apply vstep_resetSortedView (s := s1)
  · intro w hw
    rw [sm.view] at hw
    have sw := (sb.sameOn fun j e => inv.view_ne_self hw e).trans (oldv w hw).2
    exact ⟨sw.cells _ (inv.view_cells hw), (sw.st 0).trans (inv.view_raw hw), foot_own (mem_owned.2 (Or.inr (Or.inr hw)))⟩
  intro h4 so4 hid4 hnx4
  apply SafeF.pure
  have self4 : SameOn h1 h4 s.self := self3.trans (so4 _ (sm.view ▸ fun e => inv.view_ne_self e rfl))
  have b14 : SameOn h3 h4 b1 := so4 _ (sm.view ▸ fun e => (oldv _ e).1 rfl)
  have hnx4' : h4.next = h2.next := hnx4.trans sb3.next
  have wt1 : W s1 = s1.n := hw1.trans ((congrArg (· + 1) u.wt).trans hn1.symm)
  refine ⟨Usable.build (s := { s1 with view := none }) (b := b1) (sm.m.trans inv.m_eq)
      (sm.self ▸ self4.cells _ (sb.cells _ _ inv.self_cells))
      (sm.self ▸ hnx4' ▸ Nat.lt_of_lt_of_le hself_lt (hnx1 ▸ re.next)) nofun hb1 lok1 (e0 ▸ ?_)
      (hnx4' ▸ re.toIds.lt_next hblt1) (sm.self ▸ hselfb1.symm) nofun
      (fun e => absurd (hn1.symm.trans e) (Nat.succ_ne_zero _)) (fun _ => ?_) (fun _ => e0 ▸ hidx) wt1
      ((PW.step hw1 hg1 (u.pw.imp_right (le_of_le_of_eq · u.wt.symm))).imp_right (le_of_le_of_eq · wt1)),
    owns_realloc_reset inv hb hid hnx (sb.ids.trans hid) hnx1 hwf re.toIds (by rw [hid4, sb3.ids, sm.view]) sm.self hb1 rfl⟩
  · refine ⟨b14.cells _ (sb3.cells _ _ il2.cells), fun i hi => ?_, fun i h1' h2' => ?_⟩
    · rw [b14.st, sb3.st _ _ fun e => Nat.lt_irrefl _ (e.2 ▸ hi)]
      exact il2.raw i (Nat.lt_succ_of_lt hi)
    · rw [b14.st]
      by_cases e : i = index
      · exact e ▸ ⟨v, hst3⟩
      · rw [sb3.st _ _ fun x => e x.2]
        exact il2.live i (Nat.lt_of_le_of_ne h1' (Ne.symm e)) h2'
  · show (∃ w, stAt h4 s1.self 0 = .live w) ∧ ∃ w, stAt h4 s1.self 1 = .live w
    rw [sm.self, self4.st, self4.st, sb1.st _ _ fun x => Nat.zero_ne_one x.2]
    exact ⟨hl0, hl1⟩

theorem vstep_assignIf {β} {S} {h : Heap} {b i n : Nat} (v : Nat) {c : Prop} [Decidable c] {f : Unit → M β}
    {Q : β → Heap → Prop} (hc : HasCells h b n) (hi : i < n) (hl : ∃ w, stAt h b i = .live w) (hS : S b = true)
    (s : ∀ h', SameBut h h' (fun b' j => b' = b ∧ j = i) → (∃ w, stAt h' b i = .live w) → SafeF S h' (f () h') Q) :
    SafeF S h ((if c then assign b i v >>= f else f ()) h) Q := by
  by_cases hc' : c
  · rw [if_pos hc']
    obtain ⟨w, hw⟩ := hl
    exact vstep_assign v hc hi (hw ▸ nofun) hS fun h' sb _ hs => s h' sb ⟨v, hs⟩
  · rw [if_neg hc']
    exact s h (SameBut.refl _ _) hl

theorem update_contract (P : Params) (hP : P.OK) (n0 : Nat) (s : Sketch) (v : Nat) (coins : List Bool) (ids0 : List Nat) :
    TripleS n0 (foot (owned s) n0)
      (fun h => Usable P h s ∧ h.ids = ids0 ∧ h.next = n0 ∧ (∀ x, x ∈ ids0 → x < n0)) (update s v coins)
      (fun r h' => Usable P h' r.1 ∧ Owns h' ids0 (owned s) (owned r.1) n0) := by
  intro h _ ⟨u, hid, hnx, hwf⟩
  have hc := u.toInv.self_cells
  have hSs : foot (owned s) n0 s.self = true := foot_own (mem_owned.2 (Or.inl rfl))
  unfold update
  by_cases hn0 : s.n = 0
  · rw [if_pos hn0]
    obtain ⟨r0, r1⟩ := u.mm0 hn0
    apply vstep_construct v hc Nat.zero_lt_two r0 hSs
    intro h1 sb1 _ hs1
    apply vstep_construct v (sb1.cells _ _ hc) Nat.one_lt_two ((sb1.st _ _ fun x => Nat.one_ne_zero x.2).trans r1) hSs
    intro h2 sb2 _ hs2
    exact updTail_spec hP v coins u hid hnx hwf sb1 ⟨v, hs1⟩ sb2 ⟨v, hs2⟩
  · rw [if_neg hn0]
    obtain ⟨⟨v0, hv0⟩, ⟨v1, hv1⟩⟩ := u.mm1 hn0
    apply vstep_read hc Nat.zero_lt_two hv0
    apply vstep_assignIf v hc Nat.zero_lt_two ⟨v0, hv0⟩ hSs
    intro h1 sb1 hl0
    have hv1' : stAt h1 s.self 1 = .live v1 := (sb1.st _ _ fun x => Nat.one_ne_zero x.2).trans hv1
    apply vstep_read (sb1.cells _ _ hc) Nat.one_lt_two hv1'
    apply vstep_assignIf v (sb1.cells _ _ hc) Nat.one_lt_two ⟨v1, hv1'⟩ hSs
    intro h2 sb2 hl1
    exact updTail_spec hP v coins u hid hnx hwf sb1 hl0 sb2 hl1

end DS.Life.Kll
