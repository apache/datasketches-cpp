/- C19 — value semantics and allocator discipline (DESIGN.md §3 C19): the property theorems.
   The statements, their non-vacuity examples and two helpers (`allowed_all`, `world_inv_of_run`); the `life_slots_inv*` theorems
   read the class invariants off `WorldInv` here, everything else is proved in DSProofs/Lemmas/Life*.lean.

   Setting.  `DSModel/Life/Heap.lean` is a heap calculus (blocks of cells; a cell is raw storage, a live object or a
   moved-from object, plus one plain machine word) whose primitives check their PRECONDITIONS (`Err.pre`).
   `DSModel/Life/{Theta,Kll,Fi}.lean` are the special members and mutators of the hand-managed classes written as
   programs over those primitives; `DSModel/Life/World.lean` runs lifecycle histories over several live objects in
   one heap.  `run C World.init ops` = the outcome of a history: `.ok w`, `.error (.pre _)` (a primitive was applied
   outside its precondition: double destroy, construct over a live object, read of a raw or moved-from slot, release
   with a wrong size or with live objects inside, null / dangling dereference …), `.error (.exc _)` (the modelled C++
   throws; the history ends there and nothing more is claimed), `.error (.bad _)` (ill-formed history).

   The theorems quantify over ALL histories, over any number of live objects of the three modelled classes mixed in
   one heap (theta / tuple hash table, KLL sketch, frequent-items reverse purge hash map + sketch), over all
   parameters, item values, coin sequences, hash functions and summary policies.  Two things are NOT claimed:
   (i) what happens after the modelled code throws (`Err.exc`: the C++ `std::logic_error`/`invalid_argument` throws,
   the fuel bound of probe loops, `n_` beyond 2^64) – exception safety is outside the calculus; that the internal
   `logic_error`s are unreachable is not proved;
   (ii) classes without a program model (monitored only by the harness: see vlib/props/c19.py). -/
import DSProofs.Lemmas.LifeSpecAll
import DSGen.Life
namespace DS.Life

/-- the configuration built from the constants that DSGen/Life.lean takes from the headers of /repo (`hashOf`, `strideOf`, `comb`
    are free: the theorems hold for every hash function, iterator stride and summary policy) -/
def genCfg (hashOf strideOf : Nat → Nat) (comb : Nat → Nat → Nat) : Cfg :=
  { theta := { rszNum := DSGen.life_theta_RESIZE_THRESHOLD_num, rszDen := DSGen.life_theta_RESIZE_THRESHOLD_den,
               rbdNum := DSGen.life_theta_REBUILD_THRESHOLD_num, rbdDen := DSGen.life_theta_REBUILD_THRESHOLD_den,
               strideBits := DSGen.life_theta_STRIDE_HASH_BITS, minLgK := DSGen.life_theta_MIN_LG_K },
    thetaMaxLgK := DSGen.life_theta_MAX_LG_K,
    kll := { defaultM := DSGen.life_kll_DEFAULT_M, minK := DSGen.life_kll_MIN_K, maxK := DSGen.life_kll_MAX_K,
             moveAssignResetsSource := DSGen.life_kll_MOVE_ASSIGN_SHAPE == 2 },
    fi := { loadNum := DSGen.life_fi_LOAD_FACTOR_num, loadDen := DSGen.life_fi_LOAD_FACTOR_den,
            driftLimit := DSGen.life_fi_DRIFT_LIMIT, maxSample := DSGen.life_fi_MAX_SAMPLE_SIZE,
            lgMinMap := DSGen.life_fi_LG_MIN_MAP_SIZE, hashOf := hashOf, strideOf := strideOf },
    comb := comb }

/-- the side conditions on the tunables hold for the values DSGen/Life.lean takes from the headers of /repo -/
theorem life_generated_tunables_ok (hashOf strideRaw : Nat → Nat) (comb : Nat → Nat → Nat) :
    (genCfg hashOf (fun lg => strideRaw lg ||| 1) comb).OK := by
  refine ⟨?_, ?_, fun lg => Nat.or_mod_two_eq_one.2 (Or.inr rfl), ?_⟩
  · unfold Theta.Params.OK genCfg
    simp only
    decide
  · unfold Fi.Params.OK genCfg
    simp only
    decide
  · unfold Kll.Params.OK genCfg
    simp only
    decide

/-- every operation is covered: contracts are proved for all three modelled classes -/
theorem allowed_all (ops : List Op) : ∀ op, op ∈ ops → Allowed coverage op := by
  intro op _
  cases op <;> trivial

/-- every history keeps the world invariant (helper for the statements below) -/
theorem world_inv_of_run (C : Cfg) (hC : C.OK) (ops : List Op) (w : World) (hr : run C World.init ops = .ok w) :
    WorldInv (spec C) w := by
  have := run_safe (contracts C hC) ops (WorldInv.init (spec C)) (allowed_all ops)
  rw [hr] at this
  exact this

/-- NO PRECONDITION FAILURE: in every lifecycle history over any number of live objects no primitive is ever applied
    outside its precondition (no double destroy, no construct over a live object, no read of a moved-from / raw slot,
    no release with a wrong size or with live objects inside, no use of a released or foreign block).
    (An `Err.exc` outcome – the modelled C++ throws – ends a history; nothing is claimed after it.) -/
theorem life_no_precondition_failure (C : Cfg) (hC : C.OK) (ops : List Op) (msg : String) :
    run C World.init ops ≠ .error (.pre msg) := by
  have := run_safe (contracts C hC) ops (WorldInv.init (spec C)) (allowed_all ops)
  intro e
  rw [e] at this
  exact this

/-- non-vacuity: the hypothesis `C.OK` holds for the generated configuration (any hash, any `… | 1` stride, any policy), and
    the conclusion applies to a history that mixes the three classes -/
example (msg : String) : run (genCfg (fun v => v * 2654435761) (fun lg => (2 ^ lg * 5 / 8) ||| 1) (fun a b => a + b)) World.init
    [.newTable 0 5 0 (2 ^ 63 - 1), .newFi 3 4 3, .newKll 6 8, .update 0 11 1 [], .update 3 7 2 [], .update 6 5 0 [true], .copy 0 1,
     .move 0 2, .copyAssign 0 1, .moveAssign 1 2, .copy 3 4, .merge 3 4 true [], .copy 6 7, .merge 6 7 false [], .trim 1, .reset 0,
     .serialize 1, .roundTrip 3 5, .query 6 1, .destroy 2, .destroy 0, .destroy 1, .destroy 3, .destroy 4, .destroy 5, .destroy 6,
     .destroy 7] ≠ .error (.pre msg) :=
  life_no_precondition_failure _ (life_generated_tunables_ok _ _ _) _ msg

/-- SLOTS = COUNTERS: after every operation of every history, for every live table object the set of non-raw slots of its
    block is exactly the set of slots with a non-zero key, the block has `2^lg_cur_size` cells, `num_entries_` is the
    number of non-zero keys, and a moved-from object owns nothing. -/
theorem life_slots_inv (C : Cfg) (hC : C.OK) (ops : List Op) (w : World)
    (hr : run C World.init ops = .ok w) (e : Entry) (he : e ∈ w.objs) (t : Theta.Table) (ht : e.obj = .table t) :
    match t.entries with
    | none => True
    | some b =>
      w.heap.count? b = some (2 ^ t.lgCur) ∧
      (∀ i, i < 2 ^ t.lgCur → (stAt w.heap b i ≠ .raw ↔ wordAt w.heap b i ≠ 0)) ∧
      (∀ i, i < 2 ^ t.lgCur → stAt w.heap b i ≠ .moved) ∧
      t.num = cnt (fun i => wordAt w.heap b i != 0) (2 ^ t.lgCur) := by
  have := world_inv_of_run C hC ops w hr
  have hi := (this.inv e he).1
  rw [ht] at hi
  cases hb : t.entries with
  | none => trivial
  | some b =>
    replace hi := Theta.inv_iff.1 hi b hb
    simp only
    refine ⟨hi.slots.cells, fun i hlt => ?_, fun i hlt => ?_, hi.count⟩
    · rcases hi.slots.ok i hlt with ⟨hz, hr'⟩ | ⟨hnz, v, hv⟩
      · exact ⟨fun x => absurd hr' x, fun x => absurd hz x⟩
      · exact ⟨fun _ => hnz, fun _ => hv ▸ nofun⟩
    · rcases (hi.slots.ok i hlt).live_or_raw with ⟨v, hv⟩ | hr'
      · exact hv ▸ nofun
      · exact hr' ▸ nofun

/-- SLOTS = COUNTERS for the frequent-items map: the three blocks have `2^lg_cur_size` cells, slot `i` of `keys_` holds an
    object exactly when `states_[i] > 0`, `values_` / `states_` never hold objects, and `num_active_` is the number of
    active states. -/
theorem life_slots_inv_fi (C : Cfg) (hC : C.OK) (ops : List Op) (w : World)
    (hr : run C World.init ops = .ok w) (e : Entry) (he : e ∈ w.objs) (s : Fi.Sketch) (hs : e.obj = .fi s) :
    (∃ k v st, s.map.keys = some k ∧ s.map.values = some v ∧ s.map.states = some st ∧
      w.heap.count? k = some (2 ^ s.map.lgCur) ∧ w.heap.count? v = some (2 ^ s.map.lgCur) ∧
      w.heap.count? st = some (2 ^ s.map.lgCur) ∧
      (∀ i, i < 2 ^ s.map.lgCur → (stAt w.heap k i ≠ .raw ↔ 0 < wordAt w.heap st i)) ∧
      (∀ i, stAt w.heap v i = .raw ∧ stAt w.heap st i = .raw) ∧
      s.map.numActive = cnt (fun i => decide (0 < wordAt w.heap st i)) (2 ^ s.map.lgCur)) ∨
    (s.map.keys = none ∧ s.map.values = none ∧ s.map.states = none ∧ s.map.numActive = 0) := by
  have := world_inv_of_run C hC ops w hr
  have hi := (this.inv e he).1
  rw [hs] at hi
  change Fi.Inv C.fi w.heap s.map at hi
  rcases Fi.InvG.ptrs hi with ⟨k, v, st, hk, hv, hst, _, T, hc⟩ | ⟨hk, hv, hst, _, _, hc⟩
  · refine Or.inl ⟨k, v, st, hk, hv, hst, T.ck, T.cv, T.cs, ?_, fun i => ⟨T.rawv i, T.raws i⟩, hc⟩
    intro i hlt
    rcases T.slot i hlt (by simp) with ⟨hz, hr'⟩ | ⟨hp, hnr, _⟩
    · simp [hz, hr']
    · simp [hp, hnr]
  · exact Or.inr ⟨hk, hv, hst, hc⟩

/-- SLOTS = COUNTERS for KLL: the items buffer has `items_size_` cells, the non-raw cells are exactly the index range
    `[levels_[0], levels_[num_levels_])` (= `[levels_[0], items_size_)`), `levels_` is non-decreasing with
    `num_levels_ + 1` entries, and for an object that is not moved-from every retained item is live. -/
theorem life_slots_inv_kll (C : Cfg) (hC : C.OK) (ops : List Op) (w : World)
    (hr : run C World.init ops = .ok w) (e : Entry) (he : e ∈ w.objs) (s : Kll.Sketch) (hs : e.obj = .kll s)
    (b : Nat) (hb : s.items = some b) :
    w.heap.count? b = some s.itemsSize ∧
    s.levels.length = s.numLevels + 1 ∧ s.levels.getD s.numLevels 0 = s.itemsSize ∧
    (∀ i, i < s.numLevels → s.levels.getD i 0 ≤ s.levels.getD (i + 1) 0) ∧
    (∀ i, i < s.itemsSize → (stAt w.heap b i ≠ .raw ↔ s.levels.getD 0 0 ≤ i)) ∧
    (e.usable = true → ∀ i, s.levels.getD 0 0 ≤ i → i < s.itemsSize → ∃ v, stAt w.heap b i = .live v) := by
  have := world_inv_of_run C hC ops w hr
  obtain ⟨hi, hu⟩ := this.inv e he
  rw [hs] at hi hu
  change Kll.Inv C.kll w.heap s at hi
  obtain ⟨lv, ia, _, _, _⟩ := hi.items_ok b hb
  refine ⟨ia.cells, lv.len, lv.top, lv.mono, ?_, ?_⟩
  · intro i hlt
    by_cases hle : s.levels.getD 0 0 ≤ i
    · exact ⟨fun _ => hle, fun _ => ia.nonraw i hle hlt⟩
    · exact ⟨fun hnr => absurd (ia.raw i (by omega)) hnr, fun h2 => absurd h2 hle⟩
  · intro hus i h1 h2
    have u : Kll.Usable C.kll w.heap s := hu hus
    obtain ⟨b', hb', hl⟩ := u.items
    rw [hb] at hb'
    cases hb'
    exact hl i h1 h2

/-- OWNERSHIP: live objects own pairwise disjoint blocks, every block of the heap is owned by some live object, and
    every owned block exists.  (Copy: `life_copy_fresh_equal`; move: `life_move_transfers`.) -/
theorem life_ownership (C : Cfg) (hC : C.OK) (ops : List Op) (w : World)
    (hr : run C World.init ops = .ok w) :
    (∀ e1 e2, e1 ∈ w.objs → e2 ∈ w.objs → e1.id ≠ e2.id → ∀ b, b ∈ (spec C).owned e1.obj → b ∉ (spec C).owned e2.obj) ∧
    (∀ b, b ∈ w.heap.ids → ∃ e, e ∈ w.objs ∧ b ∈ (spec C).owned e.obj) ∧
    (∀ e, e ∈ w.objs → ∀ b, b ∈ (spec C).owned e.obj → b ∈ w.heap.ids) ∧
    w.heap.ids.Nodup := by
  have := world_inv_of_run C hC ops w hr
  exact ⟨this.disj, this.owner, fun e he b hb => ((spec C).owned_ids (this.inv e he).1 b hb).1, this.wf.1⟩

/-- COPY yields a fresh block and an equal abstraction: the copy constructor of a usable table allocates a new block
    (id not below the old `next`), gives it the same keys slot by slot with a live entry exactly where the source has
    one, leaves the source and every other block untouched, and both satisfy the invariant afterwards. -/
theorem life_copy_fresh_equal (P : Theta.Params) (n0 : Nat) (o : Theta.Table) (ob : Nat) (hb : o.entries = some ob)
    (h : Heap) (hn : n0 ≤ h.next) (ht : Theta.TableAt P h ob o.lgCur o.num) :
    SafeX (Theta.copyCtor o h) (fun t' h' => ∃ nb, n0 ≤ nb ∧ nb ≠ ob ∧ t' = { o with entries := some nb } ∧
      Theta.TableAt P h' nb o.lgCur o.num ∧ Theta.TableAt P h' ob o.lgCur o.num ∧ h'.ids = nb :: h.ids ∧
      (∀ i, i < 2 ^ o.lgCur → wordAt h' nb i = wordAt h ob i ∧
        ((∃ v, stAt h ob i = .live v ∧ stAt h' nb i = .live v) ∨ (stAt h ob i = .raw ∧ stAt h' nb i = .raw)))) := by
  refine SafeX.mono (Theta.copyCtor_spec P hb (foot_new (own := []) hn) ht) ?_
  intro t' h' ⟨⟨et, tn, to, hid, hv⟩, _⟩
  refine ⟨h.next, hn, Nat.ne_of_gt ht.slots.lt, et, tn, to, hid, fun i hi => ⟨(hv i hi).1, ?_⟩⟩
  rw [(hv i hi).2]
  exact (ht.slots.ok i hi).live_or_raw.imp (fun ⟨v, e⟩ => ⟨v, e, e⟩) fun e => ⟨e, e⟩

/-- MOVE transfers the block and leaves a source whose destructor and assignment are safe: the move constructor is a
    pointer hand-over (the heap is untouched), the new object is usable and owns exactly what the source owned, the
    source owns nothing and satisfies the invariant that the destructor and both assignments require. -/
theorem life_move_transfers (P : Theta.Params) (h : Heap) (t : Theta.Table) (u : Theta.Usable P h t) :
    Theta.Usable P h (Theta.moveCtor t).1 ∧ Theta.Inv P h (Theta.moveCtor t).2 ∧
    Theta.owned (Theta.moveCtor t).1 = Theta.owned t ∧ Theta.owned (Theta.moveCtor t).2 = [] :=
  Theta.moveCtor_transfers P h t u

/-- DESTRUCTORS RETURN EVERYTHING: when a history has destroyed all its objects the heap is empty. -/
theorem life_dtor_returns_all (C : Cfg) (hC : C.OK) (ops : List Op) (w : World)
    (hr : run C World.init ops = .ok w) (hnone : w.objs = []) : w.heap.blocks = [] :=
  (world_inv_of_run C hC ops w hr).blocks_nil hnone

def exampleCfg : Cfg := genCfg (fun v => v * 2654435761) (fun lg => (2 ^ lg * 5 / 8) ||| 1) (fun a b => a + b)

def exampleHistory : List Op :=
  [.newTable 0 5 0 (2 ^ 63 - 1), .newFi 3 4 3, .newKll 6 8, .update 0 11 1 [], .update 0 12 1 [], .update 3 7 2 [], .update 3 9 1 [],
   .update 6 5 0 [true], .update 6 2 0 [], .copy 0 1, .move 0 2, .copyAssign 0 1, .moveAssign 1 2, .copy 3 4, .merge 3 4 true [],
   .copy 6 7, .merge 6 7 false [], .trim 1, .reset 0, .serialize 1, .roundTrip 3 5, .query 3 7, .moveAssign 6 6, .copyAssign 7 7,
   .destroy 2, .destroy 0, .destroy 1, .destroy 3, .destroy 4, .destroy 5, .destroy 6, .destroy 7]

/- non-vacuity of the hypothesis `run … = .ok w` (and of `w.objs = []`): a history over the three classes – copies,
   moves, both assignments incl. self-assignment, merges by reference and by move, round trip – runs to a normal end
   in which every object was destroyed, and the heap is indeed empty (evaluated by the kernel) -/
example : (match run exampleCfg World.init exampleHistory with
    | .ok w => w.objs.length == 0 && w.heap.blocks.length == 0
    | .error _ => false) = true := by
  decide +kernel

end DS.Life
