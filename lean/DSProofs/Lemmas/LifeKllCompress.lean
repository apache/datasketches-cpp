/- C19, KLL sketch, second half of `merge_higher_levels`: `ub_on_num_levels` and `general_compress` (the loop invariant
   `GCInv` and its step `GCInv.advance`; the loop `generalCompressLoop_spec`, which unfolds `generalCompressLoop` and joins the
   branches that do-notation made of it with `SafeF.bind_ite`). -/
import DSProofs.Lemmas.LifeKllUpdate
namespace DS.Life.Kll
open DS.Life

theorem floorLog2Loop_spec (n : Nat) : ∀ fuel c, 2 ^ c ≤ n →
    c ≤ floorLog2Loop n fuel (2 ^ c) c ∧ 2 ^ (floorLog2Loop n fuel (2 ^ c) c) ≤ n ∧
    (n < 2 ^ (c + fuel) → n < 2 ^ (floorLog2Loop n fuel (2 ^ c) c + 1)) := by
  intro fuel
  induction fuel with
  | zero =>
    intro c hc
    refine ⟨Nat.le_refl _, hc, fun hlt => ?_⟩
    simp only [Nat.add_zero] at hlt
    omega
  | succ f ih =>
    intro c hc
    unfold floorLog2Loop
    have e : 2 * 2 ^ c = 2 ^ (c + 1) := by rw [Nat.pow_succ]; omega
    by_cases h : 2 * 2 ^ c > n
    · rw [if_pos h]
      exact ⟨Nat.le_refl _, hc, fun _ => by rw [← e]; exact h⟩
    · rw [if_neg h, e]
      obtain ⟨a, b, d⟩ := ih (c + 1) (by rw [← e]; omega)
      refine ⟨by omega, b, fun hlt => d ?_⟩
      have : c + 1 + f = c + (f + 1) := by omega
      rw [this]; exact hlt

theorem ub_pos (n : Nat) : 1 ≤ ubOnNumLevels n := by
  unfold ubOnNumLevels
  split <;> omega

theorem pow_le_of_le_ub {n N : Nat} (h : N ≤ ubOnNumLevels n) : N ≤ 1 ∨ 2 ^ (N - 1) ≤ n := by
  unfold ubOnNumLevels at h
  by_cases hn : n = 0
  · rw [if_pos hn] at h; exact Or.inl h
  · rw [if_neg hn, if_neg (by omega)] at h
    obtain ⟨_, b, _⟩ := floorLog2Loop_spec n 64 0 (by simp; omega)
    simp only [Nat.pow_zero] at b h
    right
    exact Nat.le_trans (Nat.pow_le_pow_right (by omega) (by omega)) b

/-- `h64`: the width of `n_` (`ub_on_num_levels` runs a 64-step loop) -/
theorem le_ub_of_pow_le {n N : Nat} (h64 : n < 2 ^ 64) (hp : 2 ^ (N - 1) ≤ n) : N ≤ ubOnNumLevels n := by
  have hn : n ≠ 0 := by
    have := Nat.pow_pos (a := 2) (n := N - 1) (by omega); omega
  unfold ubOnNumLevels
  rw [if_neg hn, if_neg (by omega)]
  obtain ⟨_, _, d⟩ := floorLog2Loop_spec n 64 0 (by simp; omega)
  simp only [Nat.pow_zero, Nat.zero_add] at d
  have hlt := d h64
  generalize floorLog2Loop n 64 1 0 = r at hlt ⊢
  apply Classical.byContradiction
  intro hc
  have : 2 ^ (r + 1) ≤ 2 ^ (N - 1) := Nat.pow_le_pow_right (by omega) (by omega)
  omega

/-- the population of level `l` while level `cl` is next: levels below `cl` are read in the out-levels, the others in the in-levels -/
def mixPop (OL IL : List Nat) (cl l : Nat) : Nat := if l < cl then pop OL l else pop IL l

/-- before level `cl` is handled (the loop began in `h0` with `N0` levels), the work buffer `wb` is live on `[0, out[cl])`
    (levels done), non-raw on the gap `[out[cl], in[cl])` and live on `[in[cl], tmp)` (levels to do); `cap` is why the result
    fits the final capacity: a finished level keeps fewer items than its capacity, so each of the `cl` finished levels has
    banked one unit of slack (`+ cl`), and the levels still to come fit into the capacities of `N - cl` levels.  At
    `cl = curNumLevels` this is the state the loop ends in (`GCInv.post`) -/
structure GCInv (k m wb tmp ub finalN : Nat) (h0 : Heap) (N0 : Nat) (h : Heap) (cl : Nat) (g : GcState) : Prop where
  lenI : g.inLevels.length = ub + 2
  lenO : g.outLevels.length = ub + 2
  hN : g.curNumLevels ≤ ub
  hcl : cl ≤ g.curNumLevels
  out0 : g.outLevels.getD 0 0 = 0
  outMono : ∀ l, l < cl → g.outLevels.getD l 0 ≤ g.outLevels.getD (l + 1) 0
  inMono : ∀ l, cl ≤ l → l < g.curNumLevels → g.inLevels.getD l 0 ≤ g.inLevels.getD (l + 1) 0
  inTop : g.inLevels.getD g.curNumLevels 0 = tmp
  oi : g.outLevels.getD cl 0 ≤ g.inLevels.getD cl 0
  cells : HasCells h wb tmp
  live1 : LiveOn h wb 0 (g.outLevels.getD cl 0)
  gap : On .obj h wb (g.outLevels.getD cl 0) (g.inLevels.getD cl 0)
  live2 : LiveOn h wb (g.inLevels.getD cl 0) tmp
  tgt : g.target = computeTotalCapacity k m g.curNumLevels
  cap : g.curItemCount < g.target ∨
    g.outLevels.getD cl 0 + cl + computeTotalCapacity k m (g.curNumLevels - cl) ≤
      computeTotalCapacity k m g.curNumLevels
  wt : cl < g.curNumLevels → wsum (mixPop g.outLevels g.inLevels cl) g.curNumLevels = finalN
  same : SameBut h0 h (fun b' _ => b' = wb)
  nle : N0 ≤ g.curNumLevels

/-- postcondition of the loop started in `h0` with `N0` levels: the invariant has reached the number of levels -/
def GCQ (k m wb tmp ub finalN N0 : Nat) (h0 : Heap) : GcState → Heap → Prop :=
  fun g' h' => GCInv k m wb tmp ub finalN h0 N0 h' g'.curNumLevels g'

theorem GCInv.post {k m wb tmp ub finalN N0 cl : Nat} {g : GcState} {h0 h : Heap}
    (inv : GCInv k m wb tmp ub finalN h0 N0 h cl g) (e : cl = g.curNumLevels) : GCQ k m wb tmp ub finalN N0 h0 g h := by
  subst e; exact inv

theorem succ_of_top {cl N : Nat} (hcl : cl < N) (e : cl = N - 1) : N = cl + 1 := by
  rw [e, Nat.sub_add_cancel (Nat.zero_lt_of_lt hcl)]

theorem lt_of_not_top {cl N : Nat} (hcl : cl < N) (e : cl ≠ N - 1) : cl + 1 < N :=
  Nat.lt_of_le_of_ne hcl fun x => e (x ▸ (Nat.add_sub_cancel ..).symm)

/-- `L'` is `L` with entry `i` set to `x`, as far as `getD` and `length` see -/
structure SetAt (L L' : List Nat) (i x : Nat) : Prop where
  len : L'.length = L.length
  same : ∀ l, l ≠ i → L'.getD l 0 = L.getD l 0
  new : L'.getD i 0 = x

theorem SetAt.set {L : List Nat} {i x y : Nat} (hi : i < L.length) (hx : y = x) : SetAt L (L.set i y) i x :=
  hx ▸ ⟨List.length_set .., fun _ hl => getD_set_ne _ _ _ _ hl, getD_set_eq _ _ _ hi⟩

theorem SetAt.refl {L : List Nat} {i x : Nat} (hx : L.getD i 0 = x) : SetAt L L i x := ⟨rfl, fun _ _ => rfl, hx⟩

theorem outMono_succ {OL OL' : List Nat} {cl x : Nat} (hm : ∀ l, l < cl → OL.getD l 0 ≤ OL.getD (l + 1) 0)
    (hO : SetAt OL OL' (cl + 1) (OL.getD cl 0 + x)) : ∀ l, l < cl + 1 → OL'.getD l 0 ≤ OL'.getD (l + 1) 0 := by
  intro l hl
  by_cases e : l = cl
  · rw [e, hO.new, hO.same cl (Nat.ne_of_lt (Nat.lt_succ_self _))]; exact Nat.le_add_right _ _
  · have hlc : l < cl := Nat.lt_of_le_of_ne (Nat.le_of_lt_succ hl) e
    rw [hO.same l (Nat.ne_of_lt hl), hO.same (l + 1) (fun x => e (Nat.succ.inj x))]; exact hm l hlc

theorem wsum_mixPop_advance {OL OL' IL IL2 : List Nat} {cl kept half N : Nat}
    (hO : SetAt OL OL' (cl + 1) (OL.getD cl 0 + kept)) (hI : SetAt IL IL2 (cl + 1) (IL.getD cl 0 + kept + half))
    (hpop : IL.getD (cl + 1) 0 = IL.getD cl 0 + kept + 2 * half) (htop : IL.getD (cl + 1) 0 ≤ IL.getD (cl + 1 + 1) 0)
    (hlt : cl + 1 < N) : wsum (mixPop OL' IL2 (cl + 1)) N = wsum (mixPop OL IL cl) N := by
  apply wsum_move (i := cl) (hh := half) hlt
  · simp only [mixPop, pop]
    rw [if_pos (Nat.lt_succ_self _), if_neg (Nat.lt_irrefl _), hO.new, hO.same cl (Nat.ne_of_lt (Nat.lt_succ_self _)), hpop]
    omega
  · simp only [mixPop, pop]
    rw [if_neg (Nat.lt_irrefl _), if_neg (by omega), hI.new, hI.same (cl + 1 + 1) (by omega)]
    omega
  · intro l h1 h2
    simp only [mixPop, pop]
    by_cases e : l < cl
    · rw [if_pos (by omega), if_pos e, hO.same l (by omega), hO.same (l + 1) (by omega)]
    · rw [if_neg (by omega), if_neg e, hI.same l (by omega), hI.same (l + 1) (by omega)]

theorem GCInv.ext {k m wb tmp ub finalN N0 cl : Nat} {g : GcState} {h0 h : Heap}
    (inv : GCInv k m wb tmp ub finalN h0 N0 h cl g) {IL' : List Nat} (hlen : IL'.length = g.inLevels.length)
    (hsame : ∀ l, l ≤ g.curNumLevels → IL'.getD l 0 = g.inLevels.getD l 0) :
    GCInv k m wb tmp ub finalN h0 N0 h cl { g with inLevels := IL' } := by
  have e := hsame cl inv.hcl
  refine ⟨hlen.trans inv.lenI, inv.lenO, inv.hN, inv.hcl, inv.out0, inv.outMono, fun l h1 h2 => ?_,
    (hsame _ (Nat.le_refl _)).trans inv.inTop, ?_, inv.cells, inv.live1, ?_, ?_, inv.tgt, inv.cap, fun hlt => ?_, inv.same,
    inv.nle⟩
  · show IL'.getD l 0 ≤ IL'.getD (l + 1) 0
    rw [hsame l (Nat.le_of_lt h2), hsame (l + 1) h2]; exact inv.inMono l h1 h2
  · show _ ≤ IL'.getD cl 0
    rw [e]; exact inv.oi
  · show On .obj h wb _ (IL'.getD cl 0)
    rw [e]; exact inv.gap
  · show LiveOn h wb (IL'.getD cl 0) tmp
    rw [e]; exact inv.live2
  · rw [← inv.wt hlt]
    exact wsum_congr fun l hl => by
      simp only [mixPop, pop]
      rw [hsame l (Nat.le_of_lt hl), hsame (l + 1) hl]

/-- the invariant at `cl + 1` from the invariant at `cl`, given the fields that depend on whether the number of levels
    grew -/
theorem GCInv.advance_core {k m wb tmp ub finalN N0 cl : Nat} {g g' : GcState} {h0 h h2 : Heap}
    (inv : GCInv k m wb tmp ub finalN h0 N0 h cl g) {kept half : Nat}
    (hO : SetAt g.outLevels g'.outLevels (cl + 1) (g.outLevels.getD cl 0 + kept))
    (hI : SetAt g.inLevels g'.inLevels (cl + 1) (g.inLevels.getD cl 0 + kept + half))
    (hpop : g.inLevels.getD (cl + 1) 0 = g.inLevels.getD cl 0 + kept + 2 * half)
    (hN' : cl + 1 ≤ g'.curNumLevels) (hlt : cl + 1 < g'.curNumLevels ∨ half = 0)
    (habove : cl + 1 < g'.curNumLevels → g.inLevels.getD (cl + 1) 0 ≤ g.inLevels.getD (cl + 1 + 1) 0)
    (hnle : g.curNumLevels ≤ g'.curNumLevels) (hub' : g'.curNumLevels ≤ ub)
    (hwold : wsum (mixPop g.outLevels g.inLevels cl) g'.curNumLevels = finalN)
    (hmono : ∀ l, cl + 1 < l → l < g'.curNumLevels → g.inLevels.getD l 0 ≤ g.inLevels.getD (l + 1) 0)
    (htop : g.inLevels.getD g'.curNumLevels 0 = tmp) (htgt : g'.target = computeTotalCapacity k m g'.curNumLevels)
    (hcap : g'.curItemCount < g'.target ∨
      g.outLevels.getD cl 0 + kept + (cl + 1) + computeTotalCapacity k m (g'.curNumLevels - (cl + 1)) ≤
        computeTotalCapacity k m g'.curNumLevels)
    (sb : SameBut h h2 (fun b' _ => b' = wb)) (hc2 : HasCells h2 wb tmp)
    (l1 : LiveOn h2 wb 0 (g.outLevels.getD cl 0 + kept))
    (nr : On .obj h2 wb (g.outLevels.getD cl 0 + kept) (g.inLevels.getD cl 0 + kept + half))
    (l2 : LiveOn h2 wb (g.inLevels.getD cl 0 + kept + half) tmp) :
    GCInv k m wb tmp ub finalN h0 N0 h2 (cl + 1) g' := by
  refine ⟨hI.len.trans inv.lenI, hO.len.trans inv.lenO, hub', hN', ?_, outMono_succ inv.outMono hO, ?_, ?_, ?_, hc2, ?_, ?_,
    ?_, htgt, ?_, fun hlt' => hwold ▸ wsum_mixPop_advance hO hI hpop (habove hlt') hlt',
    inv.same.trans sb (fun _ _ x => x) (fun _ _ x => x), Nat.le_trans inv.nle hnle⟩
  · rw [hO.same 0 (Nat.succ_ne_zero cl).symm]; exact inv.out0
  · intro l h1 h2
    by_cases e : l = cl + 1
    · have := habove (e ▸ h2)
      rw [e, hI.new, hI.same (cl + 1 + 1) (Nat.succ_ne_self _)]
      omega
    · rw [hI.same l e, hI.same (l + 1) (by omega)]
      exact hmono l (by omega) h2
  · rcases Nat.lt_or_ge (cl + 1) g'.curNumLevels with hlt' | hge
    · rw [hI.same _ (Nat.ne_of_gt hlt')]; exact htop
    · -- the top level was moved over as it is
      rw [← Nat.le_antisymm hN' hge, hpop, hlt.resolve_left (Nat.not_lt.2 hge)] at htop
      rw [← Nat.le_antisymm hN' hge, hI.new, hlt.resolve_left (Nat.not_lt.2 hge)]
      exact htop
  · rw [hO.new, hI.new]
    exact Nat.le_trans (Nat.add_le_add_right inv.oi kept) (Nat.le_add_right _ _)
  · rw [hO.new]; exact l1
  · rw [hO.new, hI.new]; exact nr
  · rw [hI.new]; exact l2
  · rw [hO.new]; exact hcap

/-- the capacity bound of the invariant one level up: `kept` items stay below a level of capacity `lc` that is taken out of
    the count (when the number of levels stays, `lc` is the summand that `computeTotalCapacity_pred` splits off) or added on top -/
theorem cap_adv {o kept c t T lc : Nat} (d : kept < lc) (hc : o + c + t ≤ T) : o + kept + (c + 1) + t ≤ T + lc := by omega

/-- level `cl` is done: `kept` of its items stay where the out-levels put them, `2·half` are compacted into `half` at the
    start of the level above; when that level did not exist (then entry `curNumLevels + 1` of the in-levels has been set to
    `tmp`) the number of levels grows -/
theorem GCInv.advance {k m wb tmp ub finalN N0 : Nat} (h64 : finalN < 2 ^ 64) (hub : ub = ubOnNumLevels finalN)
    {cl : Nat} {g g' : GcState} {h0 h h2 : Heap} (inv : GCInv k m wb tmp ub finalN h0 N0 h cl g) (hcl : cl < g.curNumLevels)
    {kept half : Nat} (hO : SetAt g.outLevels g'.outLevels (cl + 1) (g.outLevels.getD cl 0 + kept))
    (hI : SetAt g.inLevels g'.inLevels (cl + 1) (g.inLevels.getD cl 0 + kept + half))
    (hpop : g.inLevels.getD (cl + 1) 0 = g.inLevels.getD cl 0 + kept + 2 * half)
    (hcnt : g'.curItemCount ≤ g.curItemCount)
    (hcase : (g'.curNumLevels = g.curNumLevels ∧ (cl + 1 < g.curNumLevels ∨ half = 0) ∧ g'.target = g.target ∧
        (g'.curItemCount < g'.target ∨ kept < levelCapacity k g.curNumLevels cl m)) ∨
      (g'.curNumLevels = g.curNumLevels + 1 ∧ cl = g.curNumLevels - 1 ∧ g.inLevels.getD (g.curNumLevels + 1) 0 = tmp ∧
        g'.target = g.target + levelCapacity k (g.curNumLevels + 1) 0 m ∧ kept < m ∧ 1 ≤ half))
    (sb : SameBut h h2 (fun b' _ => b' = wb)) (hc2 : HasCells h2 wb tmp)
    (l1 : LiveOn h2 wb 0 (g.outLevels.getD cl 0 + kept))
    (nr : On .obj h2 wb (g.outLevels.getD cl 0 + kept) (g.inLevels.getD cl 0 + kept + half))
    (l2 : LiveOn h2 wb (g.inLevels.getD cl 0 + kept + half) tmp) :
    GCInv k m wb tmp ub finalN h0 N0 h2 (cl + 1) g' := by
  have hwt := inv.wt hcl
  rcases hcase with ⟨a, b, c, d⟩ | ⟨a, b, t, c, d, hh⟩
  · refine inv.advance_core hO hI hpop (by rw [a]; exact hcl) (a ▸ b)
      (fun hlt => inv.inMono (cl + 1) (Nat.le_succ _) (a ▸ hlt)) (Nat.le_of_eq a.symm) (by rw [a]; exact inv.hN)
      (by rw [a]; exact hwt) (fun l h1 h2 => inv.inMono l (Nat.le_of_lt (Nat.lt_of_succ_lt h1)) (a ▸ h2))
      (by rw [a]; exact inv.inTop) (by rw [a, c]; exact inv.tgt) ?_ sb hc2 l1 nr l2
    rcases d with d | d
    · exact Or.inl d
    · rcases inv.cap with hc | hc
      · exact Or.inl (by rw [c]; exact Nat.lt_of_le_of_lt hcnt hc)
      · right
        rw [a]
        rw [levelCapacity_depth k _ cl m] at d
        rw [Nat.sub_add_eq]
        rw [computeTotalCapacity_pred k m (g.curNumLevels - cl) (Nat.sub_pos_of_lt hcl)] at hc
        -- `cap_adv` with the capacity `lc` of the level just finished on both sides, cancelled
        exact Nat.le_of_add_le_add_right ((Nat.add_assoc ..).symm ▸ cap_adv d hc)
  · have e3 : g.curNumLevels = cl + 1 := succ_of_top hcl b
    refine inv.advance_core hO hI hpop (by rw [a, e3]; exact Nat.le_succ _)
      (.inl (by rw [a, e3]; exact Nat.lt_succ_self _)) (fun _ => by rw [← e3, t, inv.inTop]; exact Nat.le_refl _)
      (a ▸ Nat.le_succ _) ?_ ?_
      (fun l h1 h2 => by rw [a, e3] at h2; exact absurd h1 (Nat.not_lt.2 (Nat.le_of_lt_succ h2)))
      (by rw [a]; exact t) (by rw [a, c, computeTotalCapacity_succ, inv.tgt]) ?_ sb hc2 l1 nr l2
    · -- level `cl` held at least two items, so `2 ^ N ≤ finalN`
      have h1 := wsum_top_le (mixPop g.outLevels g.inLevels cl) cl
      rw [← e3, hwt] at h1
      have h2 : mixPop g.outLevels g.inLevels cl cl = kept + 2 * half := by
        simp only [mixPop, pop]
        rw [if_neg (Nat.lt_irrefl _), hpop, Nat.add_assoc]; exact Nat.add_sub_cancel_left _ _
      rw [h2] at h1
      have h3 : 2 ^ cl * 2 ≤ 2 ^ cl * (kept + 2 * half) :=
        Nat.mul_le_mul_left _ (Nat.le_trans (Nat.mul_le_mul_left 2 hh) (Nat.le_add_left _ _))
      rw [a, hub]
      exact le_ub_of_pow_le h64 (by rw [Nat.add_sub_cancel, e3, Nat.pow_succ]; exact Nat.le_trans h3 h1)
    · -- the added level is empty
      rw [a]
      simp only [wsum]
      rw [hwt]
      have : mixPop g.outLevels g.inLevels cl g.curNumLevels = 0 := by
        simp only [mixPop, pop]
        rw [if_neg (Nat.not_lt.2 (Nat.le_of_lt hcl)), t, inv.inTop]
        exact Nat.sub_self _
      rw [this]; rfl
    · rcases inv.cap with hc | hc
      · exact Or.inl (by rw [c]; exact Nat.lt_of_lt_of_le (Nat.lt_of_le_of_lt hcnt hc) (Nat.le_add_right _ _))
      · right
        rw [a, computeTotalCapacity_succ]
        rw [Nat.add_sub_add_right]
        exact cap_adv (Nat.lt_of_lt_of_le d (levelCapacity_ge k (g.curNumLevels + 1) 0 m)) hc

/-- the leftover item of an odd level (`odd ≤ 1` items at `I`) goes down to `O`, where the out-levels continue -/
theorem vstep_oddOut {β} {S} {h : Heap} {b n cl O I odd : Nat} {c : Prop} [Decidable c] {OL : List Nat}
    {f : List Nat → M β} {Q : β → Heap → Prop}
    (hc : HasCells h b n) (hlen : cl + 1 < OL.length) (hpar : c ↔ odd = 1) (ho : odd ≤ 1) (hoi : O ≤ I) (hle : I + odd ≤ n)
    (l : Lay h b O [(.obj, I), (.live, I + odd)]) (hS : S b = true)
    (s : ∀ h', SameBut h h' (fun b' j => b' = b ∧ O ≤ j ∧ j < I + odd) →
          Lay h' b O [(.live, O + odd), (.obj, I + odd)] → SafeF S h' (f (OL.set (cl + 1) (O + odd)) h') Q) :
    SafeF S h ((do
        let outL ← if c then do
            if O ≠ I then moveAssignSlot b I b O
            setLv OL (cl + 1) (O + 1)
          else setLv OL (cl + 1) O
        f outL) h) Q := by
  have gap : On .obj h b O I := l.2.1
  by_cases hp : c
  · have e1 := hpar.1 hp
    subst e1
    rw [if_pos hp]
    have lv : LiveOn h b I (I + 1) := l.2.2.2.1
    have ob := gap.append lv.toObj
    apply vstep_moveIfNe hc hle (Nat.lt_of_le_of_lt hoi hle) (lv I (Nat.le_refl _) (Nat.lt_succ_self _))
      (ob O (Nat.le_refl _) (Nat.lt_succ_of_le hoi)) hS
    intro h1 sb1 hd hs
    apply step_setLv _ hlen
    exact s h1 (sb1.within ⟨Nat.le_refl _, Nat.lt_succ_of_le hoi⟩ ⟨hoi, Nat.lt_succ_self _⟩)
      ⟨Nat.le_succ _, LiveOn.single hd, Nat.succ_le_succ hoi,
        (On.after_move sb1 hd hs ob).mono (Nat.le_succ _) (Nat.le_refl _), trivial⟩
  · have e1 : odd = 0 := Nat.eq_zero_of_le_zero (Nat.le_of_lt_succ
      (Nat.lt_of_le_of_ne ho fun e => hp (hpar.2 e)))
    subst e1
    rw [if_neg hp]
    apply step_setLv _ hlen
    exact s h (SameBut.refl _ _) ⟨Nat.le_refl _, fun j a d => absurd a (Nat.not_le_of_lt d), hoi, gap, trivial⟩

theorem tc_zero (k m : Nat) : computeTotalCapacity k m 0 = 0 := rfl

/-- the end of one iteration: the loop stops after the top level or goes on one level up -/
theorem gcNext_spec {S : Nat → Bool} {k m wb tmp ub finalN N0 : Nat} {h0 : Heap} {srt : Bool} {f : Nat}
    (ih : ∀ cl g h, GCInv k m wb tmp ub finalN h0 N0 h cl g → cl < g.curNumLevels →
      SafeF S h (generalCompressLoop k m wb srt f cl g h) (GCQ k m wb tmp ub finalN N0 h0))
    {cl : Nat} {g : GcState} {h : Heap} (inv : GCInv k m wb tmp ub finalN h0 N0 h (cl + 1) g) :
    SafeF S h ((if cl = g.curNumLevels - 1 then pure g else generalCompressLoop k m wb srt f (cl + 1) g) h)
      (GCQ k m wb tmp ub finalN N0 h0) := by
  have hcl := inv.hcl
  by_cases e : cl = g.curNumLevels - 1
  · rw [if_pos e]
    exact SafeF.pure (inv.post (by omega))
  · rw [if_neg e]
    exact ih (cl + 1) g h inv (by omega)

/-- the `while (!done_yet)` loop.  Do-notation has put what follows an `if` into both of its branches; `SafeF.bind_ite` joins
    them again, with what the branches establish as the intermediate assertion.  The in-levels get an entry above the
    top level, which the invariant does not read (`GCInv.ext`); then level `cl` is either moved over as it is, or compacted in one
    pass over the layout of the work buffer: done levels | gap | leftover item | pairs | level above | higher levels -/
theorem generalCompressLoop_spec {S : Nat → Bool} {k m wb tmp ub finalN N0 : Nat} {h0 : Heap} {srt : Bool} (hm2 : 2 ≤ m)
    (h64 : finalN < 2 ^ 64) (hub : ub = ubOnNumLevels finalN) (hS : S wb = true) :
    ∀ fuel cl g h, GCInv k m wb tmp ub finalN h0 N0 h cl g → cl < g.curNumLevels →
      SafeF S h (generalCompressLoop k m wb srt fuel cl g h) (GCQ k m wb tmp ub finalN N0 h0) := by
  intro fuel
  induction fuel with
  | zero =>
    intro cl g h _ _
    unfold generalCompressLoop
    exact SafeF.exc _
  | succ f ih =>
    intro cl g h inv hcl
    have hclu : cl < ub := Nat.lt_of_lt_of_le hcl inv.hN
    have hlenO := inv.lenO
    have ho0 : cl < g.outLevels.length := by rw [hlenO]; exact Nat.lt_of_lt_of_le hclu (Nat.le_add_right _ _)
    have ho1 : cl + 1 < g.outLevels.length := by rw [hlenO]; exact Nat.succ_lt_succ (Nat.lt_succ_of_lt hclu)
    unfold generalCompressLoop
    dsimp only
    rw [← M.bind_assoc (lv g.inLevels (cl + 1)) (fun x => setLv g.inLevels (cl + 2) x)]
    apply SafeF.bind_ite (Q1 := fun inL h1 => h = h1 ∧ inL.length = g.inLevels.length ∧
      (∀ l, l ≤ g.curNumLevels → inL.getD l 0 = g.inLevels.getD l 0) ∧
      (cl = g.curNumLevels - 1 → inL.getD (g.curNumLevels + 1) 0 = tmp))
    · by_cases etop : cl = g.curNumLevels - 1
      · rw [if_pos etop]
        have e2 : cl + 1 = g.curNumLevels := (succ_of_top hcl etop).symm
        have hi2 : cl + 2 < g.inLevels.length := by rw [inv.lenI]; exact Nat.add_lt_add_right hclu 2
        apply step_lv (Nat.lt_of_succ_lt hi2)
        rw [setLv_ok _ hi2]
        refine SafeF.pure ⟨rfl, List.length_set .., fun l hl => getD_set_ne _ _ _ _ (Nat.ne_of_lt
          (Nat.lt_succ_of_le (Nat.le_trans hl (Nat.le_of_eq e2.symm)))), fun _ => ?_⟩
        rw [show g.curNumLevels + 1 = cl + 2 from congrArg Nat.succ e2.symm, getD_set_eq _ _ _ hi2, e2]
        exact inv.inTop
      · rw [if_neg etop]
        exact SafeF.pure ⟨rfl, rfl, fun _ _ => rfl, fun e => absurd e etop⟩
    intro inL _ ⟨e, hlenL, hsame, top⟩ _
    subst e
    have inv' := inv.ext hlenL hsame
    have hlenI : inL.length = ub + 2 := inv'.lenI
    have hoi : g.outLevels.getD cl 0 ≤ inL.getD cl 0 := inv'.oi
    have hmonoL : ∀ l, cl ≤ l → l < g.curNumLevels → inL.getD l 0 ≤ inL.getD (l + 1) 0 := inv'.inMono
    have hTopL : inL.getD g.curNumLevels 0 = tmp := inv'.inTop
    have gap : On .obj h wb (g.outLevels.getD cl 0) (inL.getD cl 0) := inv'.gap
    have live2 : LiveOn h wb (inL.getD cl 0) tmp := inv'.live2
    have hbl : inL.getD cl 0 ≤ inL.getD (cl + 1) 0 := hmonoL cl (Nat.le_refl _) hcl
    have hlim : inL.getD (cl + 1) 0 ≤ tmp :=
      hTopL ▸ mono_chain hmonoL g.curNumLevels (cl + 1) (Nat.le_succ _) hcl (Nat.le_refl _)
    have hi1 : cl + 1 < inL.length := by rw [hlenI]; exact Nat.succ_lt_succ (Nat.lt_succ_of_lt hclu)
    apply step_lv (Nat.lt_of_succ_lt hi1)
    apply step_lv hi1
    apply step_lv ho0
    obtain ⟨pop, hpop⟩ : ∃ pop, inL.getD (cl + 1) 0 = inL.getD cl 0 + pop := ⟨_, (Nat.add_sub_cancel' hbl).symm⟩
    rw [show inL.getD (cl + 1) 0 - inL.getD cl 0 = pop by rw [hpop]; exact Nat.add_sub_cancel_left _ _]
    have hpl : inL.getD cl 0 + pop ≤ tmp := hpop ▸ hlim
    by_cases hA : g.curItemCount < g.target ∨ pop < levelCapacity k g.curNumLevels cl m
    · rw [if_pos hA, if_neg (Nat.not_lt.2 hoi)]
      -- the level is moved over as it is
      apply vstep_shiftDown inv.cells hpl hoi (live2.mono (Nat.le_refl _) hpl) gap hS
      intro h1 sb1 lv1 nr1
      apply step_setLv _ ho1
      exact gcNext_spec ih (inv'.advance h64 hub hcl (kept := pop) (half := 0) (.set ho1 rfl) (.refl hpop) hpop (Nat.le_refl _)
        (Or.inl ⟨rfl, .inr rfl, rfl, hA⟩) (sb1.mono fun _ _ x => x.1) (sb1.cells _ _ inv.cells)
        ((inv.live1.frame sb1 (.inl (Nat.le_refl _))).append lv1) nr1
        ((live2.mono (Nat.le_add_right _ _) (Nat.le_refl _)).frame sb1 (.inr (Nat.le_refl _))))
    rw [if_neg hA]
    have hpop2 : 2 ≤ pop :=
      Nat.le_trans hm2 (Nat.le_trans (levelCapacity_ge k g.curNumLevels cl m) (Nat.not_lt.1 (fun x => hA (Or.inr x))))
    apply step_lv (by rw [hlenI]; exact Nat.add_lt_add_right hclu 2)
    obtain ⟨odd, half, epop, ho, e1, e2⟩ := odd_half pop
    have hh : 1 ≤ half := e2 ▸ (Nat.le_div_iff_mul_le Nat.zero_lt_two).2 hpop2
    have hadj : inL.getD cl 0 + odd + 2 * half = inL.getD (cl + 1) 0 := by rw [hpop, epop, Nat.add_assoc]
    simp only [ite_parity, oddAdj_pop]
    simp only [e1, e2, Nat.mul_div_cancel_left half Nat.zero_lt_two]
    -- the entry above level `cl + 1`
    have htop : inL.getD (cl + 1) 0 ≤ inL.getD (cl + 2) 0 ∧ inL.getD (cl + 2) 0 ≤ tmp := by
      by_cases e : cl = g.curNumLevels - 1
      · have e2 : cl + 1 = g.curNumLevels := (succ_of_top hcl e).symm
        rw [show cl + 2 = g.curNumLevels + 1 from congrArg Nat.succ e2, top e, e2, hTopL]
        exact ⟨Nat.le_refl _, Nat.le_refl _⟩
      · have hlt := lt_of_not_top hcl e
        exact ⟨hmonoL (cl + 1) (Nat.le_succ _) hlt,
          hTopL ▸ mono_chain hmonoL g.curNumLevels (cl + 2) (Nat.le_add_right _ _) hlt (Nat.le_refl _)⟩
    have hI1 : inL.getD cl 0 ≤ inL.getD cl 0 + odd := Nat.le_add_right _ _
    have hI2 : inL.getD cl 0 + odd ≤ inL.getD cl 0 + odd + 2 * half := Nat.le_add_right _ _
    have hI3 : inL.getD cl 0 + odd + 2 * half ≤ inL.getD (cl + 2) 0 := hadj ▸ htop.1
    -- a line for each segment: its fence is not below the one before, its cells are of its class
    have k0 : Blk h h wb tmp [(.live, g.outLevels.getD cl 0), (.obj, inL.getD cl 0),
        (.live, inL.getD cl 0 + odd), (.live, inL.getD cl 0 + odd + 2 * half),
        (.live, inL.getD (cl + 2) 0), (.live, tmp)] :=
      ⟨inv.cells, SameBut.refl _ _,
        Nat.zero_le _, inv.live1,
        hoi, gap,
        hI1, live2.mono (Nat.le_refl _) (Nat.le_trans hI2 (Nat.le_trans hI3 htop.2)),
        hI2, live2.mono hI1 (Nat.le_trans hI3 htop.2),
        hI3, live2.mono (Nat.le_trans hI1 hI2) htop.2,
        htop.2, live2.mono (Nat.le_trans hI1 (Nat.le_trans hI2 hI3)) (Nat.le_refl _), trivial⟩
    rw [← hadj]
    apply vstep_oddOut (O := g.outLevels.getD cl 0) (I := inL.getD cl 0) k0.cells ho1 Iff.rfl ho hoi
      (Nat.le_trans hI2 (Nat.le_trans hI3 htop.2)) (k0.mid (xs := [_]) (ys := [_, _]) (zs := [_, _, _])) hS
    intro h1 sb1 l1
    have k1 := k0.splice (xs := [_]) (ys := [_, _]) (zs := [_, _, _]) sb1 l1 rfl
    clear k0 sb1 l1
    apply vstep_sortIf (lo := inL.getD cl 0 + odd) k1.cells (Nat.le_trans hI3 htop.2)
      (k1.mid (xs := [_, _, _]) (ys := [_]) (zs := [_, _])).2.1 hS
    intro h2 sb2 l2
    have k2 := k1.splice (xs := [_, _, _]) (ys := [_]) (ys' := [(.live, inL.getD cl 0 + odd + 2 * half)]) (zs := [_, _])
      sb2 ⟨hI2, l2, trivial⟩ rfl
    clear k1 sb2 l2 h1
    apply vstep_halveMerge k2.cells rfl htop.2 (k2.mid (xs := [_, _, _]) (ys := [_, _]) (zs := [_])) (nextCoin_le g.coins) hS
    intro h3 sb3 l3
    have k3 := k2.splice (xs := [_, _, _]) (ys := [_, _]) (zs := [_]) sb3 l3 rfl
    clear k2 sb3 l3 h2
    have lv1 : LiveOn h3 wb 0 (g.outLevels.getD cl 0 + odd) :=
      (k3.mid (xs := []) (ys := [_, _]) (zs := [_, _, _, _])).flat (c := .live) (by simp)
    have nr : On .obj h3 wb (g.outLevels.getD cl 0 + odd) (inL.getD cl 0 + odd + half) :=
      (k3.mid (xs := [_, _]) (ys := [_, _]) (zs := [_, _])).flat (c := .obj) (by simp)
    have lv2 : LiveOn h3 wb (inL.getD cl 0 + odd + half) tmp :=
      (k3.mid (xs := [_, _, _, _]) (ys := [_, _]) (zs := [])).flat (c := .live) (by simp)
    apply step_lv hi1
    apply step_setLv _ hi1
    have hI : SetAt inL (inL.set (cl + 1) (inL.getD (cl + 1) 0 - half)) (cl + 1) (inL.getD cl 0 + odd + half) :=
      .set hi1 (by rw [← hadj, Nat.two_mul, ← Nat.add_assoc]; exact Nat.add_sub_cancel ..)
    have hkm : odd < m := Nat.lt_of_le_of_lt ho hm2
    by_cases etop : cl = g.curNumLevels - 1
    case' pos => rw [if_pos etop]
    case' neg => rw [if_neg etop]
    all_goals refine gcNext_spec ih (inv'.advance h64 hub hcl (.set ho1 rfl) hI hadj.symm (Nat.sub_le _ _) ?_ k3.same k3.cells lv1 nr lv2)
    case pos => exact Or.inr ⟨rfl, etop, top etop, rfl, hkm, hh⟩
    case neg => exact Or.inl ⟨rfl, .inl (lt_of_not_top hcl etop), rfl, Or.inr (Nat.lt_of_lt_of_le hkm (levelCapacity_ge _ _ _ _))⟩

/-- what `general_compress` hands to the end of `merge_higher_levels`: the out-levels `OL` (ascending from 0 to the number of items,
    which fits the final capacity) and the work buffer `wb`, live up to that number and raw above -/
structure Compressed (k m wb tmp ub : Nat) (res : CompressResult) (OL : List Nat) (h : Heap) : Prop where
  lenO : OL.length = ub + 2
  hN : res.finalNumLevels ≤ ub
  out0 : OL.getD 0 0 = 0
  mono : ∀ l, l < res.finalNumLevels → OL.getD l 0 ≤ OL.getD (l + 1) 0
  top : OL.getD res.finalNumLevels 0 = res.finalNumItems
  fits : res.finalNumItems ≤ res.finalCapacity
  cap : res.finalCapacity = computeTotalCapacity k m res.finalNumLevels
  le : res.finalNumItems ≤ tmp
  cells : HasCells h wb tmp
  live : LiveOn h wb 0 res.finalNumItems
  raw : On .raw h wb res.finalNumItems tmp

theorem Compressed.transfer {k m wb tmp ub : Nat} {res : CompressResult} {OL : List Nat} {h h' : Heap}
    (c : Compressed k m wb tmp ub res OL h) (so : SameOn h h' wb) : Compressed k m wb tmp ub res OL h' :=
  { c with
    cells := so.cells _ c.cells
    live := fun j a d => by rw [so.st]; exact c.live j a d
    raw := fun j a d => by rw [so.st]; exact c.raw j a d }

theorem generalCompress_spec {S : Nat → Bool} {k m wb tmp ub finalN prov : Nat} {srt : Bool} {coins : List Bool}
    (hm2 : 2 ≤ m) (h64 : finalN < 2 ^ 64) (hub : ub = ubOnNumLevels finalN) (hS : S wb = true) {h : Heap}
    {WL : List Nat} (hlen : WL.length = ub + 2) (hp1 : 1 ≤ prov) (hpu : prov ≤ ub) (hw0 : WL.getD 0 0 = 0)
    (hmono : ∀ l, l < prov → WL.getD l 0 ≤ WL.getD (l + 1) 0) (htop : WL.getD prov 0 = tmp)
    (hwt : wsum (pop WL) prov = finalN) (hc : HasCells h wb tmp) (hl : LiveOn h wb 0 tmp) :
    SafeF S h (generalCompress k m prov wb WL (List.replicate (ub + 2) 0) srt coins h)
      (fun r h' => Compressed k m wb tmp ub r.1 r.2.1 h' ∧ prov ≤ r.1.finalNumLevels ∧
        SameBut h h' (fun b' _ => b' = wb)) := by
  unfold generalCompress
  have hlt : prov < WL.length := hlen ▸ Nat.lt_succ_of_le (Nat.le_succ_of_le hpu)
  rw [if_neg (Nat.ne_of_gt hp1)]
  apply step_lv hlt
  apply step_lv (Nat.zero_lt_of_lt hlt)
  apply step_setLv _ (by simp)
  rw [htop, hw0, Nat.sub_zero]
  generalize hOL0 : (List.replicate (ub + 2) 0).set 0 0 = OL0
  have hlenO : OL0.length = ub + 2 := by rw [← hOL0]; simp
  have hO0 : OL0.getD 0 0 = 0 := by rw [← hOL0, getD_set_eq _ _ _ (by simp)]
  have inv0 : GCInv k m wb tmp ub finalN h prov h 0
      (⟨WL, OL0, prov, tmp, computeTotalCapacity k m prov, coins⟩ : GcState) :=
    ⟨hlen, hlenO, hpu, Nat.zero_le _, hO0, fun l hl' => absurd hl' (Nat.not_lt_zero l), fun l _ h2 => hmono l h2, htop,
      Nat.le_of_eq (hO0.trans hw0.symm), hc, On.nil (c := .live) (Nat.le_of_eq hO0), On.nil (Nat.le_of_eq (hw0.trans hO0.symm)),
      (hw0.symm ▸ hl : LiveOn h wb (WL.getD 0 0) tmp), rfl,
      Or.inr (Nat.le_of_eq (show OL0.getD 0 0 + 0 + _ = _ by rw [hO0]; exact Nat.zero_add _)),
      fun _ => hwt ▸ wsum_congr fun l _ => if_neg (Nat.not_lt_zero l), SameBut.refl _ _, Nat.le_refl _⟩
  apply SafeF.bind (generalCompressLoop_spec (S := S) (srt := srt) hm2 h64 hub hS (WL.length + 1) 0 _ h inv0 hp1)
  intro g1 h1 inv1 _
  have nonraw : On .obj h1 wb (g1.outLevels.getD g1.curNumLevels 0) tmp := inv1.inTop ▸ inv1.gap
  have hlt1 : g1.curNumLevels < g1.outLevels.length := inv1.lenO ▸ Nat.lt_succ_of_le (Nat.le_succ_of_le inv1.hN)
  apply step_lv hlt1
  apply step_lv (Nat.zero_lt_of_lt hlt1)
  rw [inv1.out0, Nat.sub_zero]
  by_cases hchk : g1.outLevels.getD g1.curNumLevels 0 ≠ g1.curItemCount
  · rw [if_pos hchk]; exact SafeF.exc _
  rw [if_neg hchk]
  have ecnt : g1.outLevels.getD g1.curNumLevels 0 = g1.curItemCount := Decidable.not_not.1 hchk
  have hle : g1.curItemCount ≤ tmp := ecnt ▸ inv1.inTop ▸ inv1.oi
  have e := Nat.add_sub_cancel' hle
  apply vstep_destroyRange inv1.cells (Nat.le_of_eq e) (e.symm ▸ ecnt ▸ nonraw) hS
  intro h2 sb2 hr2
  rw [e] at hr2
  exact SafeF.pure ⟨⟨inv1.lenO, inv1.hN, inv1.out0, inv1.outMono, ecnt,
    inv1.cap.elim Nat.le_of_lt fun c => inv1.tgt ▸ ecnt ▸ Nat.le_trans (Nat.le_add_right _ _) (Nat.le_trans (Nat.le_add_right _ _) c),
    inv1.tgt, hle, sb2.cells _ _ inv1.cells, (ecnt ▸ inv1.live1).frame sb2 (.inl (Nat.le_refl _)), hr2⟩, inv1.nle,
    inv1.same.trans (sb2.mono (fun _ _ x => x.1)) (fun _ _ x => x) (fun _ _ x => x)⟩

end DS.Life.Kll
