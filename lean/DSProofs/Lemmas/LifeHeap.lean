/- C19: the judgements of the heap calculus and their rules.  `SafeF S h r Q` (the outcome `r` of a run started in `h` is no
   precondition failure, satisfies `Q`, and left the blocks outside the footprint `S` untouched) is what every proof is written in;
   `TripleS n0 S P m Q` is `SafeF` for every start heap satisfying `P`: the form in which specs and contracts are stated. -/
import DSModel.Life.Heap
namespace DS.Life

/-- a C++ exception thrown by the modelled code (`Err.exc`) is allowed and ends the story.  `Err.bad` is rejected
    because no class program reports an ill-formed history; only the world-level `step` does, which is judged by
    `StepOK` (LifeStep) instead -/
def SafeX {α} (r : Except Err (α × Heap)) (Q : α → Heap → Prop) : Prop :=
  match r with
  | .ok (a, h') => Q a h'
  | .error (.exc _) => True
  | .error _ => False

def Out (S : Nat → Bool) (h : Heap) : List Block := h.blocks.filter (fun B => !S B.id)

def Heap.WF (h : Heap) : Prop := h.ids.Nodup ∧ ∀ b, b ∈ h.ids → b < h.next

def Frame (S : Nat → Bool) (h h' : Heap) : Prop := Out S h' = Out S h ∧ h.next ≤ h'.next ∧ (h.WF → h'.WF)

theorem Frame.refl (S : Nat → Bool) (h : Heap) : Frame S h h := ⟨rfl, Nat.le_refl _, id⟩

theorem Frame.trans {S : Nat → Bool} {h1 h2 h3 : Heap} (a : Frame S h1 h2) (b : Frame S h2 h3) : Frame S h1 h3 :=
  ⟨b.1.trans a.1, Nat.le_trans a.2.1 b.2.1, fun w => b.2.2 (a.2.2 w)⟩

/-- `SafeF S h (m h) Q` (below) for every start heap satisfying `P`, written out: `TripleS.iff_SafeF`.  `n0` serves footprints
    of the form `foot own n0` (LifeInv: the owned blocks and every id from `n0` on): with `n0 ≤ next` such a footprint covers
    whatever the run allocates -/
def TripleS {α} (n0 : Nat) (S : Nat → Bool) (P : Heap → Prop) (m : M α) (Q : α → Heap → Prop) : Prop :=
  ∀ h, n0 ≤ h.next → P h → SafeX (m h) (fun a h' => Q a h' ∧ Frame S h h')

theorem SafeX.mono {α} {r : Except Err (α × Heap)} {Q Q' : α → Heap → Prop}
    (h : SafeX r Q) (hq : ∀ a h', Q a h' → Q' a h') : SafeX r Q' := by
  cases r with
  | ok p => exact hq _ _ h
  | error e => cases e <;> exact h

def SafeF {α} (S : Nat → Bool) (h : Heap) (r : Except Err (α × Heap)) (Q : α → Heap → Prop) : Prop :=
  SafeX r (fun a h' => Q a h' ∧ Frame S h h')

theorem TripleS.iff_SafeF {α} {n0 S} {P : Heap → Prop} {m : M α} {Q : α → Heap → Prop} :
    TripleS n0 S P m Q ↔ ∀ h, n0 ≤ h.next → P h → SafeF S h (m h) Q := Iff.rfl

theorem SafeF.of_triple {α} {n0 S} {P : Heap → Prop} {m : M α} {Q : α → Heap → Prop} {h : Heap}
    (t : TripleS n0 S P m Q) (hn : n0 ≤ h.next) (hp : P h) : SafeF S h (m h) Q := t h hn hp

theorem SafeF.ok {α} {S} {h h' : Heap} {Q : α → Heap → Prop} {a : α} (q : Q a h') (fr : Frame S h h') :
    SafeF S h (.ok (a, h')) Q := ⟨q, fr⟩

theorem SafeF.pure {α} {S} {h : Heap} {Q : α → Heap → Prop} {a : α} (q : Q a h) : SafeF S h ((pure a : M α) h) Q :=
  SafeF.ok q (Frame.refl S h)

theorem SafeF.exc {α} {S} {h : Heap} {Q : α → Heap → Prop} (msg : String) : SafeF S h ((throwExc msg : M α) h) Q :=
  trivial

theorem SafeF.rebase {α} {S} {h h1 : Heap} {r : Except Err (α × Heap)} {Q : α → Heap → Prop}
    (fr : Frame S h h1) (s : SafeF S h1 r Q) : SafeF S h r Q :=
  SafeX.mono s (fun _ _ ⟨q, f⟩ => ⟨q, fr.trans f⟩)

theorem SafeF.mono {α} {S} {h : Heap} {r : Except Err (α × Heap)} {Q Q' : α → Heap → Prop}
    (s : SafeF S h r Q) (hq : ∀ a h', Q a h' → Q' a h') : SafeF S h r Q' :=
  SafeX.mono s (fun a h' ⟨q, f⟩ => ⟨hq a h' q, f⟩)

theorem filter_filter_of_imp {α} {p q : α → Bool} (hqp : ∀ a, q a = true → p a = true) (l : List α) :
    (l.filter p).filter q = l.filter q := by
  rw [List.filter_filter]
  refine List.filter_congr fun a _ => ?_
  cases hq : q a
  · rfl
  · exact hqp a hq

theorem Out_mono {S S' : Nat → Bool} (hsub : ∀ b, S b = true → S' b = true) {h h' : Heap}
    (ho : Out S h' = Out S h) : Out S' h' = Out S' h := by
  have key (h : Heap) : (Out S h).filter (fun B => !S' B.id) = Out S' h :=
    filter_filter_of_imp (fun B hB => by cases hs : S B.id; rfl; rw [hsub _ hs] at hB; exact hB) _
  rw [← key h', ← key h, ho]

theorem Frame.mono {S S' : Nat → Bool} (hsub : ∀ b, S b = true → S' b = true) {h h' : Heap}
    (fr : Frame S h h') : Frame S' h h' := ⟨Out_mono hsub fr.1, fr.2.1, fr.2.2⟩

theorem SafeF.weaken {α} {S S' : Nat → Bool} (hsub : ∀ b, S b = true → S' b = true) {h : Heap}
    {r : Except Err (α × Heap)} {Q : α → Heap → Prop} (s : SafeF S h r Q) : SafeF S' h r Q :=
  SafeX.mono s (fun _ _ ⟨q, f⟩ => ⟨q, Frame.mono hsub f⟩)

theorem bind_eq {α β} (m : M α) (f : α → M β) (h : Heap) :
    (m >>= f) h = match m h with | .ok (a, h') => f a h' | .error e => .error e := rfl

theorem pure_eq {α} (a : α) (h : Heap) : (pure a : M α) h = .ok (a, h) := rfl

theorem M.bind_pure {α} (m : M α) : (m >>= fun a => (Pure.pure a : M α)) = m := by
  funext h
  rw [bind_eq]
  cases m h with
  | error e => rfl
  | ok r => rfl

theorem M.bind_assoc {α β γ} (m : M α) (f : α → M β) (g : β → M γ) :
    ((m >>= f) >>= g) = (m >>= fun a => f a >>= g) := by
  funext h
  rw [bind_eq, bind_eq, bind_eq]
  cases m h <;> rfl

theorem SafeF.bind {α β} {S} {h : Heap} {m : M α} {f : α → M β} {Q1 : α → Heap → Prop} {Q : β → Heap → Prop}
    (s : SafeF S h (m h) Q1) (k : ∀ a h1, Q1 a h1 → Frame S h h1 → SafeF S h1 (f a h1) Q) :
    SafeF S h ((m >>= f) h) Q := by
  rw [bind_eq]
  cases hm : m h with
  | error e =>
    rw [hm] at s
    cases e <;> exact s
  | ok r =>
    rw [hm] at s
    exact (k r.1 r.2 s.1 s.2).rebase s.2

/-- `SafeF.bind` at a join point of a `do` block: both branches of an `if` go on with `f` -/
theorem SafeF.bind_ite {α β} {S} {h : Heap} {c : Prop} [Decidable c] {m1 m2 : M α} {f : α → M β}
    {Q1 : α → Heap → Prop} {Q : β → Heap → Prop} (s : SafeF S h ((if c then m1 else m2) h) Q1)
    (k : ∀ a h1, Q1 a h1 → Frame S h h1 → SafeF S h1 (f a h1) Q) : SafeF S h ((if c then m1 >>= f else m2 >>= f) h) Q := by
  by_cases hc : c
  · rw [if_pos hc] at s ⊢; exact s.bind k
  · rw [if_neg hc] at s ⊢; exact s.bind k

theorem SafeF.bind_ok {α β} {S} {h h1 : Heap} {m : M α} {f : α → M β} {Q : β → Heap → Prop} {a : α}
    (e : m h = .ok (a, h1)) (fr : Frame S h h1) (s : SafeF S h1 (f a h1) Q) : SafeF S h ((m >>= f) h) Q := by
  rw [bind_eq, e]
  exact s.rebase fr

theorem SafeF.bind_triple {α β} {n0 S} {P : Heap → Prop} {m : M α} {Q1 : α → Heap → Prop} {h : Heap}
    {f : α → M β} {Q : β → Heap → Prop} (t : TripleS n0 S P m Q1) (hn : n0 ≤ h.next) (hp : P h)
    (k : ∀ a h1, Q1 a h1 → h.next ≤ h1.next → SafeF S h1 (f a h1) Q) : SafeF S h ((m >>= f) h) Q :=
  SafeF.bind (t h hn hp) (fun a h1 q fr => k a h1 q fr.2.1)

/-- a program that is the last statement: `m` alone is `m >>= pure` -/
theorem SafeF.last {α} {S} {h : Heap} {m : M α} {Q : α → Heap → Prop} (s : SafeF S h ((m >>= fun a => (Pure.pure a : M α)) h) Q) :
    SafeF S h (m h) Q := by
  rwa [M.bind_pure] at s

theorem TripleS.conseq {α} {n0 S} {P P' : Heap → Prop} {m : M α} {Q Q' : α → Heap → Prop}
    (t : TripleS n0 S P m Q) (hp : ∀ h, P' h → P h) (hq : ∀ a h, Q a h → Q' a h) : TripleS n0 S P' m Q' :=
  fun h hn hP => SafeF.mono (t h hn (hp h hP)) hq

theorem TripleS.pre {α} {n0 S} {P P' : Heap → Prop} {m : M α} {Q : α → Heap → Prop} (t : TripleS n0 S P m Q)
    (hp : ∀ h, P' h → P h) : TripleS n0 S P' m Q :=
  t.conseq hp fun _ _ q => q

theorem TripleS.pure {α} {n0 S} {P : Heap → Prop} (a : α) : TripleS n0 S P (pure a) (fun x h => x = a ∧ P h) :=
  fun _ _ hP => SafeF.pure ⟨rfl, hP⟩

theorem TripleS.pure_of {α} {n0 S} {P : Heap → Prop} {Q : α → Heap → Prop} (a : α) (hq : ∀ h, P h → Q a h) :
    TripleS n0 S P (Pure.pure a : M α) Q :=
  fun h _ hP => SafeF.pure (hq h hP)

theorem TripleS.bind {α β} {n0 S} {P : Heap → Prop} {m : M α} {Q : α → Heap → Prop} {f : α → M β} {R : β → Heap → Prop}
    (t1 : TripleS n0 S P m Q) (t2 : ∀ a, TripleS n0 S (Q a) (f a) R) : TripleS n0 S P (m >>= f) R :=
  fun _ hn hP => SafeF.bind_triple t1 hn hP (fun a h1 q le => t2 a h1 (Nat.le_trans hn le) q)

theorem TripleS.map {α β} {n0 S} {P : Heap → Prop} {m : M α} {Q : β → Heap → Prop} (f : α → β)
    (t : TripleS n0 S P m (fun a h => Q (f a) h)) : TripleS n0 S P (m >>= fun a => (Pure.pure (f a) : M β)) Q :=
  TripleS.bind t (fun a => TripleS.pure_of (f a) (fun _ q => q))

theorem TripleS.ite {α} {n0 S} {P : Heap → Prop} {c : Prop} [Decidable c] {m1 m2 : M α} {Q : α → Heap → Prop}
    (t1 : c → TripleS n0 S P m1 Q) (t2 : ¬c → TripleS n0 S P m2 Q) : TripleS n0 S P (if c then m1 else m2) Q := by
  by_cases hc : c
  · simp [hc]; exact t1 hc
  · simp [hc]; exact t2 hc

theorem id_of_find? {l : List Block} {b : Nat} {B : Block} (e : l.find? (fun B => B.id == b) = some B) : B.id = b :=
  beq_iff_eq.mp (List.find?_some (p := fun B : Block => B.id == b) e)

theorem find?_map_upd (l : List Block) (b b' : Nat) (f : Block → Block) (hf : ∀ B, (f B).id = B.id) :
    (l.map (fun B => if B.id = b then f B else B)).find? (fun B => B.id == b') =
      if b' = b then (l.find? (fun B => B.id == b)).map f else l.find? (fun B => B.id == b') := by
  have hg : ((fun B => B.id == b') ∘ fun B => if B.id = b then f B else B) = fun B => B.id == b' :=
    funext fun B => by simp only [Function.comp, apply_ite Block.id, hf, ite_self]
  rw [List.find?_map, hg]
  -- the block found has id `b'`, which decides the `if` of the update
  by_cases hb : b' = b
  · rw [if_pos hb, ← hb]
    exact Option.map_congr fun B e => if_pos (id_of_find? e)
  · rw [if_neg hb]
    exact (Option.map_congr fun B e => if_neg (id_of_find? e ▸ hb)).trans Option.map_id'

theorem map_upd_ids (l : List Block) (b : Nat) (f : Block → Block) (hf : ∀ B, (f B).id = B.id) :
    (l.map (fun B => if B.id = b then f B else B)).map (·.id) = l.map (·.id) := by
  rw [List.map_map]
  refine List.map_congr_left fun B _ => ?_
  show (if B.id = b then f B else B).id = B.id
  split
  · exact hf B
  · rfl

theorem filter_map_upd (S : Nat → Bool) (l : List Block) (b : Nat) (f : Block → Block) (hf : ∀ B, (f B).id = B.id)
    (hS : S b = true) :
    (l.map (fun B => if B.id = b then f B else B)).filter (fun B => !S B.id) = l.filter (fun B => !S B.id) := by
  induction l with
  | nil => rfl
  | cons B Bs ih =>
    rw [List.map_cons, List.filter_cons, List.filter_cons, ih]
    by_cases hB : B.id = b
    · rw [if_pos hB, hf, hB, hS]
      rfl
    · rw [if_neg hB]

theorem find?_filter_id (q : Nat → Bool) (l : List Block) (b : Nat) :
    (l.filter (fun B => q B.id)).find? (fun B => B.id == b) = if q b then l.find? (fun B => B.id == b) else none := by
  rw [List.find?_filter]
  cases hq : q b
  · refine List.find?_eq_none.mpr fun B _ hB => ?_
    obtain ⟨h1, h2⟩ := of_decide_eq_true hB
    rw [beq_iff_eq.mp h2, hq] at h1
    cases h1
  · exact congrArg (List.find? · l) (funext fun B => by by_cases hB : B.id = b <;> simp [hB, hq])

@[simp] theorem find?_setCell (h : Heap) (b i : Nat) (c : Cell) (b' : Nat) :
    (h.setCell b i c).find? b' =
      if b' = b then (h.find? b).map (fun B => { B with cells := B.cells.set i c }) else h.find? b' := by
  unfold Heap.setCell Heap.find?
  exact find?_map_upd h.blocks b b' (fun B => { B with cells := B.cells.set i c }) (fun _ => rfl)

theorem find?_setCell_ne (h : Heap) {b b' : Nat} (i : Nat) (c : Cell) (hb : b' ≠ b) :
    (h.setCell b i c).find? b' = h.find? b' := by
  rw [find?_setCell, if_neg hb]

@[simp] theorem next_setCell (h : Heap) (b i : Nat) (c : Cell) : (h.setCell b i c).next = h.next := rfl
@[simp] theorem next_addLog (h : Heap) (e : Ev) : (h.addLog e).next = h.next := rfl
@[simp] theorem find?_addLog (h : Heap) (e : Ev) (b : Nat) : (h.addLog e).find? b = h.find? b := rfl
@[simp] theorem blocks_addLog (h : Heap) (e : Ev) : (h.addLog e).blocks = h.blocks := rfl

@[simp] theorem ids_setCell (h : Heap) (b i : Nat) (c : Cell) : (h.setCell b i c).ids = h.ids :=
  map_upd_ids h.blocks b _ (fun _ => rfl)

@[simp] theorem ids_addLog (h : Heap) (e : Ev) : (h.addLog e).ids = h.ids := rfl

theorem cell?_def (h : Heap) (b i : Nat) : h.cell? b i = (h.find? b).bind (·.cells[i]?) := rfl

theorem cell?_of_find? {h : Heap} {b : Nat} {B : Block} (hf : h.find? b = some B) (j : Nat) :
    h.cell? b j = B.cells[j]? := by
  simp [cell?_def, hf]

@[simp] theorem cell?_addLog (h : Heap) (e : Ev) (b i : Nat) : (h.addLog e).cell? b i = h.cell? b i := rfl
@[simp] theorem count?_addLog (h : Heap) (e : Ev) (b : Nat) : (h.addLog e).count? b = h.count? b := rfl
@[simp] theorem kind?_addLog (h : Heap) (e : Ev) (b : Nat) : (h.addLog e).kind? b = h.kind? b := rfl

theorem cell?_setCell (h : Heap) (b i : Nat) (c : Cell) (b' j : Nat) :
    (h.setCell b i c).cell? b' j =
      if b' = b ∧ j = i ∧ (h.cell? b i).isSome then some c else h.cell? b' j := by
  rw [cell?_def, find?_setCell]
  by_cases hb : b' = b
  · subst hb
    rw [if_pos rfl, cell?_def, cell?_def]
    cases h.find? b' with
    | none => exact (if_neg fun x => Bool.noConfusion x.2.2).symm
    | some B =>
      simp only [Option.map_some, Option.bind_some]
      rw [List.getElem?_set]
      by_cases hj : i = j
      · subst hj
        by_cases hlt : i < B.cells.length
        · rw [if_pos rfl, if_pos hlt, if_pos ⟨trivial, rfl, by rw [List.getElem?_eq_getElem hlt]; rfl⟩]
        · rw [if_pos rfl, if_neg hlt, List.getElem?_eq_none (Nat.le_of_not_lt hlt)]
          exact (if_neg fun x => Bool.noConfusion x.2.2).symm
      · rw [if_neg hj, if_neg (fun x => hj x.2.1.symm : ¬ (True ∧ j = i ∧ _))]
  · rw [if_neg hb, if_neg fun x => hb x.1, cell?_def]

@[simp] theorem count?_setCell (h : Heap) (b i : Nat) (c : Cell) (b' : Nat) :
    (h.setCell b i c).count? b' = h.count? b' := by
  unfold Heap.count?
  rw [find?_setCell]
  by_cases hb : b' = b
  · subst hb; cases h.find? b' <;> simp
  · simp [hb]

@[simp] theorem kind?_setCell (h : Heap) (b i : Nat) (c : Cell) (b' : Nat) :
    (h.setCell b i c).kind? b' = h.kind? b' := by
  unfold Heap.kind?
  rw [find?_setCell]
  by_cases hb : b' = b
  · subst hb; cases h.find? b' <;> simp
  · simp [hb]

theorem Out_setCell (S : Nat → Bool) (h : Heap) (b i : Nat) (c : Cell) (hS : S b = true) :
    Out S (h.setCell b i c) = Out S h :=
  filter_map_upd S h.blocks b _ (fun _ => rfl) hS

@[simp] theorem Out_addLog (S : Nat → Bool) (h : Heap) (e : Ev) : Out S (h.addLog e) = Out S h := rfl

theorem cell?_lt_count (h : Heap) (b i : Nat) (n : Nat) (hc : h.count? b = some n) :
    (h.cell? b i).isSome ↔ i < n := by
  unfold Heap.count? at hc
  unfold Heap.cell?
  cases hf : h.find? b with
  | none => simp [hf] at hc
  | some B =>
    simp [hf] at hc
    subst hc
    simp

theorem find?_of_Out (S : Nat → Bool) (h h' : Heap) (ho : Out S h' = Out S h) (b : Nat) (hb : S b = false) :
    h'.find? b = h.find? b := by
  have key (h : Heap) : (Out S h).find? (fun B => B.id == b) = h.find? b := by
    rw [Out, find?_filter_id (fun x => !S x), hb]; rfl
  rw [← key h', ← key h, ho]

theorem readWord_ok {h : Heap} {b i : Nat} {c : Cell} (hc : h.cell? b i = some c) :
    readWord b i h = .ok (c.word, h) := by
  simp [readWord, hc]

theorem writeWord_ok {h : Heap} {b i : Nat} {c : Cell} (w : Nat) (hc : h.cell? b i = some c) :
    writeWord b i w h = .ok ((), h.setCell b i { c with word := w }) := by
  simp [writeWord, hc]

theorem construct_ok {h : Heap} {b i : Nat} {c : Cell} (v : Nat) (hc : h.cell? b i = some c) (hr : c.st = .raw) :
    construct b i v h = .ok ((), (h.setCell b i { c with st := .live v }).addLog (.ctor b ((h.kind? b).getD .item))) := by
  simp [construct, hc, hr]

theorem destroy_ok {h : Heap} {b i : Nat} {c : Cell} (hc : h.cell? b i = some c) (hr : c.st ≠ .raw) :
    destroy b i h = .ok ((), (h.setCell b i { c with st := .raw }).addLog (.dtor b ((h.kind? b).getD .item))) := by
  obtain ⟨st, w⟩ := c
  cases st with
  | raw => exact absurd rfl hr
  | _ => simp [destroy, hc]

theorem read_ok {h : Heap} {b i : Nat} {c : Cell} {v : Nat} (hc : h.cell? b i = some c) (hl : c.st = .live v) :
    read b i h = .ok (v, h) := by
  simp [read, hc, hl]

theorem moveFrom_ok {h : Heap} {b i : Nat} {c : Cell} {v : Nat} (hc : h.cell? b i = some c) (hl : c.st = .live v) :
    moveFrom b i h = .ok (v, h.setCell b i { c with st := .moved }) := by
  simp [moveFrom, hc, hl]

theorem assign_ok {h : Heap} {b i : Nat} {c : Cell} (v : Nat) (hc : h.cell? b i = some c) (hr : c.st ≠ .raw) :
    assign b i v h = .ok ((), h.setCell b i { c with st := .live v }) := by
  obtain ⟨st, w⟩ := c
  cases st with
  | raw => exact absurd rfl hr
  | _ => simp [assign, hc]

theorem deref_some (b : Nat) (h : Heap) : deref (some b) h = .ok (b, h) := rfl

def Heap.afterAlloc (h : Heap) (k : Kind) (n : Nat) : Heap :=
  { next := h.next + 1,
    blocks := { id := h.next, kind := k, cells := List.replicate n ⟨.raw, poison⟩ } :: h.blocks,
    log := .alloc k n :: h.log }

theorem alloc_ok (k : Kind) (n : Nat) (h : Heap) : alloc k n h = .ok (h.next, h.afterAlloc k n) := rfl

theorem find?_afterAlloc (h : Heap) (k : Kind) (n : Nat) (b : Nat) :
    (h.afterAlloc k n).find? b =
      if b = h.next then some { id := h.next, kind := k, cells := List.replicate n ⟨.raw, poison⟩ } else h.find? b := by
  unfold Heap.afterAlloc Heap.find?
  rw [List.find?_cons]
  by_cases hb : b = h.next
  · rw [if_pos hb, beq_iff_eq.mpr hb.symm]
  · rw [if_neg hb, beq_eq_false_iff_ne.mpr (Ne.symm hb)]

theorem cell?_afterAlloc (h : Heap) (k : Kind) (n : Nat) (b i : Nat) :
    (h.afterAlloc k n).cell? b i =
      if b = h.next then (if i < n then some ⟨.raw, poison⟩ else none) else h.cell? b i := by
  rw [cell?_def, find?_afterAlloc]
  by_cases hb : b = h.next
  · rw [if_pos hb, if_pos hb]
    exact List.getElem?_replicate
  · rw [if_neg hb, if_neg hb, cell?_def]

theorem count?_afterAlloc (h : Heap) (k : Kind) (n : Nat) (b : Nat) :
    (h.afterAlloc k n).count? b = if b = h.next then some n else h.count? b := by
  unfold Heap.count?
  rw [find?_afterAlloc]
  by_cases hb : b = h.next <;> simp [hb]

theorem kind?_afterAlloc (h : Heap) (k : Kind) (n : Nat) (b : Nat) :
    (h.afterAlloc k n).kind? b = if b = h.next then some k else h.kind? b := by
  unfold Heap.kind?
  rw [find?_afterAlloc]
  by_cases hb : b = h.next <;> simp [hb]

@[simp] theorem ids_afterAlloc (h : Heap) (k : Kind) (n : Nat) : (h.afterAlloc k n).ids = h.next :: h.ids := rfl
@[simp] theorem next_afterAlloc (h : Heap) (k : Kind) (n : Nat) : (h.afterAlloc k n).next = h.next + 1 := rfl

theorem Out_afterAlloc (S : Nat → Bool) (h : Heap) (k : Kind) (n : Nat) (hS : S h.next = true) :
    Out S (h.afterAlloc k n) = Out S h := by
  unfold Out Heap.afterAlloc
  simp [hS]

def Heap.afterFree (h : Heap) (b : Nat) (k : Kind) (n : Nat) : Heap :=
  { h with blocks := h.blocks.filter (fun B => B.id != b), log := .free k n :: h.log }

theorem find?_afterFree (h : Heap) (b : Nat) (k : Kind) (n : Nat) (b' : Nat) :
    (h.afterFree b k n).find? b' = if b' = b then none else h.find? b' := by
  refine (find?_filter_id (· != b) h.blocks b').trans ?_
  by_cases hb : b' = b <;> simp [hb, Heap.find?]

theorem cell?_afterFree (h : Heap) (b : Nat) (k : Kind) (n : Nat) (b' i : Nat) :
    (h.afterFree b k n).cell? b' i = if b' = b then none else h.cell? b' i := by
  simp only [cell?_def, find?_afterFree]
  by_cases hb : b' = b <;> simp [hb]

theorem count?_afterFree (h : Heap) (b : Nat) (k : Kind) (n : Nat) (b' : Nat) :
    (h.afterFree b k n).count? b' = if b' = b then none else h.count? b' := by
  unfold Heap.count?
  rw [find?_afterFree]
  by_cases hb : b' = b <;> simp [hb]

theorem kind?_afterFree (h : Heap) (b : Nat) (k : Kind) (n : Nat) (b' : Nat) :
    (h.afterFree b k n).kind? b' = if b' = b then none else h.kind? b' := by
  unfold Heap.kind?
  rw [find?_afterFree]
  by_cases hb : b' = b <;> simp [hb]

@[simp] theorem ids_afterFree (h : Heap) (b : Nat) (k : Kind) (n : Nat) :
    (h.afterFree b k n).ids = h.ids.filter (fun x => x != b) :=
  (List.filter_map (f := Block.id) (p := fun x => x != b)).symm

@[simp] theorem next_afterFree (h : Heap) (b : Nat) (k : Kind) (n : Nat) : (h.afterFree b k n).next = h.next := rfl

theorem Out_afterFree (S : Nat → Bool) (h : Heap) (b : Nat) (k : Kind) (n : Nat) (hS : S b = true) :
    Out S (h.afterFree b k n) = Out S h :=
  filter_filter_of_imp (fun B hB => bne_iff_ne.mpr fun e => by rw [e, hS] at hB; exact Bool.noConfusion hB) _

theorem dealloc_ok {h : Heap} {b n : Nat} {B : Block} (hf : h.find? b = some B) (hn : B.cells.length = n)
    (hr : ∀ c ∈ B.cells, c.st = .raw) : dealloc b n h = .ok ((), h.afterFree b B.kind n) := by
  have hall : B.cells.all (fun c => c.st == .raw) = true :=
    List.all_eq_true.mpr fun c hc => beq_iff_eq.mpr (hr c hc)
  simp [dealloc, hf, hn, hall, Heap.afterFree]

theorem find?_of_count? {h : Heap} {b n : Nat} (hc : h.count? b = some n) :
    ∃ B, h.find? b = some B ∧ B.cells.length = n := by
  unfold Heap.count? at hc
  cases hf : h.find? b with
  | none => simp [hf] at hc
  | some B => exact ⟨B, rfl, by simpa [hf] using hc⟩

theorem foldUp_zero {σ} (body : Nat → σ → M σ) (s : Nat) (a : σ) : foldUp body 0 s a = pure a := rfl
theorem foldUp_succ {σ} (body : Nat → σ → M σ) (c s : Nat) (a : σ) :
    foldUp body (c + 1) s a = (do let a' ← body s a; foldUp body c (s + 1) a') := rfl

theorem TripleS.foldUp {σ} {n0 S} (I : Nat → σ → Heap → Prop) (body : Nat → σ → M σ) (cnt start : Nat) (a0 : σ)
    (hbody : ∀ i a, start ≤ i → i < start + cnt → TripleS n0 S (I i a) (body i a) (fun a' h => I (i + 1) a' h)) :
    TripleS n0 S (I start a0) (foldUp body cnt start a0) (fun a h => I (start + cnt) a h) := by
  induction cnt generalizing start a0 with
  | zero => exact fun _ _ hI => SafeF.pure hI
  | succ c ih =>
    rw [foldUp_succ, ← Nat.add_assoc, Nat.add_right_comm]
    exact (hbody start a0 (Nat.le_refl _) (Nat.lt_add_of_pos_right (Nat.succ_pos c))).bind fun a' =>
      ih (start + 1) a' fun i a h1 h2 => hbody i a (Nat.le_of_succ_le h1) (by rwa [Nat.add_assoc, Nat.add_comm 1 c] at h2)

theorem loopUp_zero (body : Nat → M Unit) (s : Nat) : loopUp body 0 s = pure () := rfl
theorem loopUp_succ (body : Nat → M Unit) (c s : Nat) : loopUp body (c + 1) s = (do body s; loopUp body c (s + 1)) := rfl

theorem loopUp_eq_foldUp (body : Nat → M Unit) :
    ∀ cnt start, loopUp body cnt start = foldUp (fun i _ => body i) cnt start ()
  | 0, _ => rfl
  | c + 1, s => by rw [loopUp_succ, foldUp_succ, loopUp_eq_foldUp body c]

theorem TripleS.loopUp {n0 S} (I : Nat → Heap → Prop) (body : Nat → M Unit) (cnt start : Nat)
    (hbody : ∀ i, start ≤ i → i < start + cnt → TripleS n0 S (I i) (body i) (fun _ h => I (i + 1) h)) :
    TripleS n0 S (I start) (loopUp body cnt start) (fun _ h => I (start + cnt) h) := by
  rw [loopUp_eq_foldUp]
  exact TripleS.foldUp (fun i _ => I i) _ cnt start () fun i _ => hbody i

/-- `TripleS.loopUp` with the invariant indexed by the number of iterations done, as `TripleS.loopDown` has it -/
theorem TripleS.loopUp' {n0 S} (I : Nat → Heap → Prop) (body : Nat → M Unit) (cnt start : Nat)
    (hbody : ∀ k, k < cnt → TripleS n0 S (I k) (body (start + k)) (fun _ h => I (k + 1) h)) :
    TripleS n0 S (I 0) (DS.Life.loopUp body cnt start) (fun _ h => I cnt h) := by
  have t := TripleS.loopUp (n0 := n0) (S := S) (fun i => I (i - start)) body cnt start fun i h1 h2 => by
    obtain ⟨k, rfl⟩ := Nat.exists_eq_add_of_le h1
    rw [Nat.add_assoc, Nat.add_sub_cancel_left, Nat.add_sub_cancel_left]
    exact hbody k (Nat.lt_of_add_lt_add_left h2)
  rwa [Nat.sub_self, Nat.add_sub_cancel_left] at t

theorem loopDown_zero (body : Nat → M Unit) (s : Nat) : loopDown body 0 s = pure () := rfl
theorem loopDown_succ (body : Nat → M Unit) (c s : Nat) : loopDown body (c + 1) s = (do body (s + c); loopDown body c s) := rfl

theorem TripleS.loopDown {n0 S} (I : Nat → Heap → Prop) (body : Nat → M Unit) (cnt start : Nat)
    (hbody : ∀ c, c < cnt → TripleS n0 S (I (c + 1)) (body (start + c)) (fun _ h => I c h)) :
    TripleS n0 S (I cnt) (loopDown body cnt start) (fun _ h => I 0 h) := by
  induction cnt with
  | zero => exact fun _ _ hI => SafeF.pure hI
  | succ c ih =>
    rw [loopDown_succ]
    exact (hbody c (Nat.lt_succ_self c)).bind fun _ => ih fun c' h' => hbody c' (Nat.lt_succ_of_lt h')

/-! ### fuel of a loop that scans upwards: `f` iterations are left at index `i` -/

theorem fuel_lt {f i n : Nat} (h : f + 1 + i = n) : i < n :=
  Nat.lt_of_lt_of_eq (Nat.lt_add_of_pos_left (Nat.succ_pos f)) h

theorem fuel_succ {f i n : Nat} (h : f + 1 + i = n) : f + (i + 1) = n :=
  (Nat.add_right_comm f 1 i).symm.trans h

theorem fuel_zero {i n : Nat} (h : 0 + i = n) : i = n := (Nat.zero_add i).symm.trans h

theorem TripleS.of_false_pre {α} {n0 S} {P : Heap → Prop} {m : M α} {Q : α → Heap → Prop} (hf : ∀ h, P h → False) :
    TripleS n0 S P m Q := fun h _ hp => (hf h hp).elim

theorem TripleS.of_ok {α} {n0 S} {P : Heap → Prop} {m : M α} {Q : α → Heap → Prop}
    (hm : ∀ h, n0 ≤ h.next → P h → ∃ a h', m h = .ok (a, h') ∧ Q a h' ∧ Frame S h h') :
    TripleS n0 S P m Q := by
  intro h hn hP
  obtain ⟨a, h', e, q, fr⟩ := hm h hn hP
  rw [e]
  exact ⟨q, fr⟩

/-- `Heap.WF` speaks of `ids` and `next` only -/
theorem Frame.of_ids {S : Nat → Bool} {h h' : Heap} (ho : Out S h' = Out S h) (hi : h'.ids = h.ids) (hn : h'.next = h.next) :
    Frame S h h' :=
  ⟨ho, Nat.le_of_eq hn.symm, fun w => by rw [Heap.WF, hi, hn]; exact w⟩

theorem Frame_setCell (S : Nat → Bool) (h : Heap) (b i : Nat) (c : Cell) (hS : S b = true) : Frame S h (h.setCell b i c) :=
  .of_ids (Out_setCell S h b i c hS) (ids_setCell h b i c) rfl

theorem Frame_addLog (S : Nat → Bool) (h : Heap) (e : Ev) : Frame S h (h.addLog e) := ⟨rfl, Nat.le_refl _, id⟩

theorem Frame_afterAlloc (S : Nat → Bool) (h : Heap) (k : Kind) (n : Nat) (hS : S h.next = true) :
    Frame S h (h.afterAlloc k n) := by
  refine ⟨Out_afterAlloc S h k n hS, Nat.le_succ _, fun ⟨nd, lt⟩ =>
    ⟨List.nodup_cons.mpr ⟨fun hm => Nat.lt_irrefl _ (lt _ hm), nd⟩, fun b hb => ?_⟩⟩
  rcases List.mem_cons.mp hb with rfl | hb
  · exact Nat.lt_succ_self _
  · exact Nat.lt_succ_of_lt (lt b hb)

theorem Frame_afterFree (S : Nat → Bool) (h : Heap) (b : Nat) (k : Kind) (n : Nat) (hS : S b = true) :
    Frame S h (h.afterFree b k n) := by
  refine ⟨Out_afterFree S h b k n hS, Nat.le_refl _, fun ⟨nd, lt⟩ => ?_⟩
  rw [Heap.WF, ids_afterFree]
  exact ⟨nd.filter _, fun x hx => lt x (List.mem_filter.mp hx).1⟩

theorem step_readWord {β} {S} {h : Heap} {b i : Nat} {c : Cell} {f : Nat → M β} {Q : β → Heap → Prop}
    (hc : h.cell? b i = some c) (s : SafeF S h (f c.word h) Q) : SafeF S h ((readWord b i >>= f) h) Q :=
  SafeF.bind_ok (readWord_ok hc) (Frame.refl _ _) s

theorem step_read {β} {S} {h : Heap} {b i : Nat} {c : Cell} {v : Nat} {f : Nat → M β} {Q : β → Heap → Prop}
    (hc : h.cell? b i = some c) (hl : c.st = .live v) (s : SafeF S h (f v h) Q) : SafeF S h ((read b i >>= f) h) Q :=
  SafeF.bind_ok (read_ok hc hl) (Frame.refl _ _) s

theorem step_deref {β} {S} {h : Heap} (b : Nat) {f : Nat → M β} {Q : β → Heap → Prop}
    (s : SafeF S h (f b h) Q) : SafeF S h ((deref (some b) >>= f) h) Q :=
  SafeF.bind_ok (deref_some b h) (Frame.refl _ _) s

/-! General rules in spite of their namespace: the theta copy assignment (LifeThetaContracts) runs the copy constructor's spec
    under a frame with `withFrame` and calls the destructor's contract, proved for the footprint of the old table alone, with
    `bind_sub`; `sub`, the form without a continuation, has no user. -/
namespace Fi

theorem SafeF.withFrame {α} {S : Nat → Bool} {h : Heap} {r : Except Err (α × Heap)} {Q : α → Heap → Prop}
    (s : SafeF S h r Q) : SafeF S h r (fun a h' => Q a h' ∧ Frame S h h') :=
  SafeX.mono s (fun _ _ ⟨q, f⟩ => ⟨⟨q, f⟩, f⟩)

/-- call a sub-program whose triple was proved for a smaller footprint and a later allocation mark; the continuation
    gets the sub-program's own frame -/
theorem SafeF.bind_sub {α β} {n1 : Nat} {S0 S : Nat → Bool} {P : Heap → Prop} {m : M α} {Q1 : α → Heap → Prop} {h : Heap}
    {f : α → M β} {Q : β → Heap → Prop} (t : TripleS n1 S0 P m Q1) (hsub : ∀ b, S0 b = true → S b = true)
    (hn : n1 ≤ h.next) (hp : P h)
    (k : ∀ a h1, Q1 a h1 → Frame S0 h h1 → SafeF S h1 (f a h1) Q) : SafeF S h ((m >>= f) h) Q :=
  SafeF.bind (SafeF.weaken hsub (SafeF.withFrame (SafeF.of_triple t hn hp))) (fun a h1 q _ => k a h1 q.1 q.2)

theorem SafeF.sub {α} {n1 : Nat} {S0 S : Nat → Bool} {P : Heap → Prop} {m : M α} {Q1 Q : α → Heap → Prop} {h : Heap}
    (t : TripleS n1 S0 P m Q1) (hsub : ∀ b, S0 b = true → S b = true)
    (hn : n1 ≤ h.next) (hp : P h) (k : ∀ a h1, Q1 a h1 → Frame S0 h h1 → Q a h1) : SafeF S h (m h) Q := by
  have h1 := t h hn hp
  exact SafeF.weaken hsub (SafeX.mono h1 (fun a h' ⟨q, f⟩ => ⟨k a h' q f, f⟩))

end Fi

end DS.Life
