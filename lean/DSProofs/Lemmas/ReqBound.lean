/- retained < max_nom_size after every public operation (non-lazy compression, capacity-monotone section schedule).  Used for C07. -/
import DSProofs.Lemmas.ReqStore
import DSProofs.Lemmas.ReqEach
namespace DS.Req

variable {ρ : Type}

def iterN (f : ρ → ρ) : Nat → ρ → ρ
  | 0, x => x
  | n + 1, x => f (iterN f n x)

/-- the section-size schedule never shrinks the nominal capacity: for every k the constructor can produce and every point of the
schedule raw_j = next^j (float k): `nearest_even (float k) = k`, and if the next section size is still ≥ MIN_K it is at least half
the current one (so doubling the number of sections does not reduce the capacity).  For the float code this is checked by execution
for every k and the whole schedule (`dsmodel_req selftest`); the kernel cannot evaluate Float32. -/
structure SecOK (T : Tun) (F : SecFns ρ) : Prop where
  init : ∀ k0, F.ne (F.ofNat (effectiveK T k0)) = effectiveK T k0
  grow : ∀ k0 j, T.minK ≤ F.ne (F.next (iterN F.next j (F.ofNat (effectiveK T k0)))) →
    F.ne (iterN F.next j (F.ofNat (effectiveK T k0))) ≤ 2 * F.ne (F.next (iterN F.next j (F.ofNat (effectiveK T k0))))

def SecInv (F : SecFns ρ) (k : Nat) (c : Compactor ρ) : Prop :=
  ∃ j, c.ssRaw = iterN F.next j (F.ofNat k) ∧ c.sectionSize = F.ne c.ssRaw

theorem ensureEnough_sec {T : Tun} {F : SecFns ρ} (hF : SecOK T F) {k0 : Nat} {c : Compactor ρ} (h : SecInv F (effectiveK T k0) c) :
    SecInv F (effectiveK T k0) (c.ensureEnough T F).1 ∧ c.nomCap T ≤ (c.ensureEnough T F).1.nomCap T := by
  obtain ⟨j, h1, h2⟩ := h
  simp only [Compactor.ensureEnough]
  split
  · rename_i hc
    refine ⟨⟨j + 1, by show F.next c.ssRaw = _; rw [h1]; rfl, rfl⟩, ?_⟩
    have hg := hF.grow k0 j (by rw [← h1]; exact hc.2)
    rw [← h1, ← h2] at hg
    show T.multiplier * c.numSections * c.sectionSize ≤ T.multiplier * (2 * c.numSections) * F.ne (F.next c.ssRaw)
    calc T.multiplier * c.numSections * c.sectionSize ≤ T.multiplier * c.numSections * (2 * F.ne (F.next c.ssRaw)) := Nat.mul_le_mul_left _ hg
      _ = T.multiplier * (2 * c.numSections) * F.ne (F.next c.ssRaw) := by
        simp only [Nat.mul_assoc, Nat.mul_left_comm 2]
  · exact ⟨⟨j, h1, h2⟩, Nat.le_refl _⟩

def EffK (T : Tun) (k : Nat) : Prop := ∃ k0, k = effectiveK T k0

theorem sec_pres {T : Tun} {F : SecFns ρ} (hF : SecOK T F) : CPres T F True (EffK T) (SecInv F) (fun _ _ => True) where
  knew k0 := ⟨k0, rfl⟩
  fresh := fun ⟨k0, hk⟩ hra lg d => by
    subst hk; rw [mkC_eq]; exact ⟨0, rfl, (hF.init k0).symm⟩
  congr := fun ⟨j, a, b⟩ h1 h2 _ _ => ⟨j, by rw [h1, a], by rw [h2, h1, b]⟩
  ensure := fun ⟨k0, hk⟩ h => by subst hk; exact (ensureEnough_sec hF h).1
  step h := h
  orState _ _ _ _ h := h
  refl _ := trivial
  trans _ _ := trivial
  draw _ _ _ := trivial
  compact _ _ _ _ := trivial

/-- what one compaction leaves behind is below the (old, hence the new) nominal capacity -/
theorem compact_bound {T : Tun} (hT : TunOK T) {F : SecFns ρ} (hF : SecOK T F) {k0 : Nat} {hra : Bool} {h : Nat} {c : Compactor ρ}
    (nxt : Compactor ρ) (d : Bool) (hc : CInv T hra h c) (hsec : SecInv F (effectiveK T k0) c) (hfull : c.nomCap T ≤ c.items.length) :
    (c.compact T F nxt d).cur.items.length < (c.compact T F nxt d).cur.nomCap T := by
  have R := compactionRange_ok hT c hc.ns hc.ss hfull
  rw [compact_cur, (ensureEnough_same T F _).items]
  exact length_kept c.items _ _ R.le R.inside ▸ Nat.lt_of_lt_of_le R.keptLt (ensureEnough_sec hF (c := c.compacted T d) hsec).2

def AllBelow (T : Tun) (cs : List (Compactor ρ)) : Prop := ∀ c ∈ cs, c.items.length < c.nomCap T

/-- `num ≥ 1` items leave level `h`, half as many arrive above, at most one level is added -/
theorem step_measure {cur num cl nl nx S S' tl rl : Nat} (a1 : cur + 2 * num = cl) (a2 : nl = nx + num) (a3 : 1 ≤ num) (n4 : nx + S' = S)
    (ht : tl ≤ rl) : nl + S' + (tl + 1) < cl + S + (rl + 1) := by
  omega

theorem compactStep_below {T : Tun} (hT : TunOK T) {F : SecFns ρ} (hF : SecOK T F) {k0 : Nat} {hra : Bool} {h : Nat}
    {c x : Compactor ρ} {rest mid : List (Compactor ρ)} {ctr ctr2 : Ctr} {acc acc2 : Acc}
    (hinv : CsInv T hra h (c :: rest)) (hsc : SecInv F (effectiveK T k0) c) (hfull : c.nomCap T ≤ c.items.length)
    (hs : compactStep T F hra (effectiveK T k0) h c rest ctr acc = (x, mid, ctr2, acc2)) :
    x.items.length < x.nomCap T ∧ CsInv T hra (h + 1) mid ∧ sumItems mid + mid.length < sumItems (c :: rest) + (c :: rest).length := by
  cases hs
  obtain ⟨f1, f2, _⟩ := sortIf0_fields T h c
  have N := nextOf_spec hT F (effectiveK_ge hT k0) h acc.peek hinv.2 ctr
  have hfull1 : (sortIf0 h c).nomCap T ≤ (sortIf0 h c).items.length := by rw [f1, f2]; exact hfull
  have sp := compact_spec hT F (acc.growDraw T rest.isEmpty (h + 1)).peek (sortIf0_CInv hinv.1) (sortIf0_sorted hinv.1) N.inv.1 hfull1
  refine ⟨compact_bound hT hF _ _ (sortIf0_CInv hinv.1) ((sec_pres hF).sortIf0 h hsc) hfull1, ⟨sp.nx, N.inv.2⟩, ?_⟩
  have n4 := N.items
  simp only [sumItems_cons, List.length_cons, List.length_tail] at n4 ⊢
  exact step_measure (f1 ▸ sp.lenCur) sp.lenNxt sp.num1 n4 (Nat.sub_le _ _)

theorem compressLoop_below {T : Tun} (hT : TunOK T) (hlazy : T.lazy = false) {F : SecFns ρ} (hF : SecOK T F) (k0 : Nat) (hra : Bool)
    (fuel h : Nat) (todo : List (Compactor ρ)) (ctr : Ctr) (acc : Acc) (hinv : CsInv T hra h todo)
    (hsec : ∀ c ∈ todo, SecInv F (effectiveK T k0) c) (hf : sumItems todo + todo.length ≤ fuel) :
    AllBelow T (compressLoop T F hra (effectiveK T k0) fuel h todo ctr acc).1 := by
  induction fuel generalizing h todo ctr acc with
  | zero =>
    cases todo with
    | nil => exact fun _ hc => nomatch hc
    | cons a b => exact absurd hf (Nat.not_succ_le_zero _)
  | succ fuel ih =>
    cases todo with
    | nil => exact fun _ hc => nomatch hc
    | cons c rest =>
      obtain ⟨hsc, hsr⟩ := List.forall_mem_cons.1 hsec
      by_cases hfull : c.nomCap T ≤ c.items.length
      · rcases hs : compactStep T F hra (effectiveK T k0) h c rest ctr acc with ⟨x, mid, ctr2, acc2⟩
        obtain ⟨b1, b2, b3⟩ := compactStep_below hT hF hinv hsc hfull hs
        rw [compressLoop_full fuel hfull hs, hlazy, Bool.false_and, if_neg Bool.false_ne_true]
        exact List.forall_mem_cons.2 ⟨b1, ih (h + 1) mid ctr2 acc2 b2 ((sec_pres hF).compactStep ⟨k0, rfl⟩ hsc hsr hs).2.1 (by omega)⟩
      · rw [compressLoop_notFull _ _ _ _ _ _ _ _ _ hfull]
        simp only [sumItems_cons, List.length_cons] at hf
        exact List.forall_mem_cons.2 ⟨Nat.not_le.1 hfull, ih (h + 1) rest ctr acc hinv.2 hsr (by omega)⟩

theorem sum_lt_of_AllBelow (T : Tun) (cs : List (Compactor ρ)) (hne : cs ≠ []) (hb : AllBelow T cs) : sumItems cs < sumCap T cs := by
  induction cs with
  | nil => exact absurd rfl hne
  | cons c t ih =>
    obtain ⟨h1, ht⟩ := List.forall_mem_cons.1 hb
    rw [sumItems_cons, sumCap_cons]
    by_cases e : t = []
    · subst e; exact Nat.add_lt_add_right h1 0
    · exact Nat.add_lt_add h1 (ih e ht)

/-- what `bound_ops` carries along a history: besides the bound `lt`, the invariant and the section schedule, from which the next
`compress` re-establishes it -/
structure BInv (T : Tun) (F : SecFns ρ) (s : Sketch ρ) : Prop where
  inv : SInv T s
  sec : SkEach (EffK T) (SecInv F) s
  lt : s.numRetained < s.maxNomSize

theorem compress_BInv {T : Tun} (hT : TunOK T) (hlazy : T.lazy = false) {F : SecFns ρ} (hF : SecOK T F) (s : Sketch ρ) (acc : Acc)
    (h : SInv T s) (hn : s.n ≠ 0) (hsec : SkEach (EffK T) (SecInv F) s) : BInv T F (s.compress T F acc).1 := by
  obtain ⟨⟨k0, hk0⟩, hs⟩ := hsec
  have hI := (compress_spec hT F s acc h hn).inv
  have cb := compressLoop_below hT hlazy hF k0 s.hra (sumItems s.compactors + s.compactors.length + 1) 0 s.compactors
    { retained := s.numRetained, maxNom := s.maxNomSize } acc h.cs (hk0 ▸ hs) (by omega)
  rw [← hk0] at cb
  refine ⟨hI, ((sec_pres hF).compress acc ⟨⟨k0, hk0⟩, hs⟩).1, ?_⟩
  rw [hI.ret, hI.cap]
  exact sum_lt_of_AllBelow T _ hI.nonnil cb

theorem bound_ops {T : Tun} (hT : TunOK T) (hlazy : T.lazy = false) {F : SecFns ρ} (hF : SecOK T F) :
    OpsPres T F True (BInv T F) (fun _ => True) where
  new k hra acc _ := by
    refine ⟨⟨new_SInv hT F k hra acc.peek, (sec_pres hF).new k hra acc.peek, ?_⟩, trivial⟩
    rw [new_eq]
    show 0 < sumCap T [_]
    rw [sumCap_cons, sumCap_nil, Nat.add_zero, mkC_nomCap]
    exact Nat.mul_pos (Nat.mul_pos (Nat.lt_of_lt_of_le Nat.zero_lt_two hT.mult2) hT.sec1) (Nat.lt_of_lt_of_le Nat.zero_lt_two (effectiveK_ge hT k))
  update s x acc hb _ := by
    refine ⟨?_, trivial⟩
    have hI1 := (append1_SInv s x hb.inv).1
    have hs1 := (sec_pres hF).append1 x hb.sec
    simp only [Sketch.update]
    split
    · exact compress_BInv hT hlazy hF _ acc hI1 (by simp [Sketch.append1]) hs1
    · rename_i hne
      exact ⟨hI1, hs1, Nat.lt_of_le_of_ne hb.lt hne⟩
  merge _ s o acc r hb ho _ hr := by
    refine ⟨?_, trivial⟩
    have hm := (merge_spec hT F s o acc hb.inv ho.inv r hr).1.inv
    have hsec := ((sec_pres hF).merge trivial o acc r hb.sec hr).1
    obtain ⟨hhra, ⟨_, rfl⟩ | ⟨hn0, hr⟩⟩ := merge_some hr
    · exact hb
    obtain ⟨⟨hI2, _, _, _⟩, hn2⟩ := mergePre_spec hT F s o acc hb.inv ho.inv hhra hn0
    rcases hr with ⟨_, rfl⟩ | ⟨hlt, rfl⟩
    · exact compress_BInv hT hlazy hF _ _ hI2 (by rw [hn2]; omega) ((sec_pres hF).mergePre trivial o acc hb.sec).1
    · exact ⟨hm, hsec, hlt⟩
  rank s hb := ⟨(afterRank_SInv s hb.inv).1, (sec_pres hF).afterRank hb.sec, hb.lt⟩
  view s hb := ⟨(afterView_SInv s hb.inv).1, (sec_pres hF).afterView hb.sec, hb.lt⟩

end DS.Req
