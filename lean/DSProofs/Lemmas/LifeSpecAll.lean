/- C19: the world-level spec (`spec`) and `contracts` for the three classes, assembled from the class-level contracts. -/
import DSProofs.Lemmas.LifeSpec
import DSProofs.Lemmas.LifeThetaContracts
import DSProofs.Lemmas.LifeFi
import DSProofs.Lemmas.LifeKll
namespace DS.Life

def thetaClass (P : Theta.Params) : ClassSpec Theta.Table where
  owned := Theta.owned
  Inv := Theta.Inv P
  Usable := Theta.Usable P
  usable_inv := Theta.Usable.inv
  inv_local := Theta.Inv.local
  usable_local := Theta.Usable.local
  owned_ids := Theta.Inv.owned_ids

def fiClass (P : Fi.Params) : ClassSpec Fi.Sketch where
  owned := fun s => Fi.owned s.map
  Inv := fun h s => Fi.Inv P h s.map
  Usable := fun h s => Fi.Usable P h s.map
  usable_inv := Fi.Usable.inv
  inv_local := Fi.Inv.local
  usable_local := Fi.Usable.local
  owned_ids := Fi.Inv.owned_ids

def kllClass (P : Kll.Params) : ClassSpec Kll.Sketch where
  owned := Kll.owned
  Inv := Kll.Inv P
  Usable := Kll.Usable P
  usable_inv := Kll.Usable.inv
  inv_local := Kll.Inv.local
  usable_local := Kll.Usable.local
  owned_ids := Kll.Inv.owned_ids

/-- the side conditions on the tunables of the three classes (each class's `Params.OK`), and an odd iterator stride of the FI map,
    as `… | 1` in the C++ makes it -/
def Cfg.OK (C : Cfg) : Prop := C.theta.OK ∧ C.fi.OK ∧ (∀ lg, C.fi.strideOf lg % 2 = 1) ∧ C.kll.OK

def coverage : Coverage := ⟨True, True, True⟩

def spec (C : Cfg) : ObjSpec := combine (thetaClass C.theta) (kllClass C.kll) (fiClass C.fi)

/-! Theta's and FI's move constructor, move assignment and self move assignment only hand pointers over: no heap program runs,
    and what is owned is what was (`Owns.same`). -/

theorem MutC.pure {sp : ObjSpec} (o : Obj) : MutC sp o (pure o) id := fun _ _ =>
  TripleS.pure_of o fun _ ⟨u, e, _⟩ => ⟨u, Owns.same e (fun b hb => e ▸ (sp.owned_ids (sp.usable_inv u) b hb).1) fun _ => Iff.rfl⟩

theorem MoveC.pure {sp : ObjSpec} {o r1 r2 : Obj}
    (hs : ∀ h, sp.Usable h o → sp.Usable h r1 ∧ sp.Inv h r2 ∧ sp.owned r1 = sp.owned o ∧ sp.owned r2 = []) :
    MoveC sp o (pure (r1, r2)) := fun _ _ =>
  TripleS.pure_of (r1, r2) fun h ⟨u, e, _⟩ => by
    obtain ⟨u1, i2, o1, o2⟩ := hs h u
    exact ⟨u1, i2, fun b _ hb => by simp [o2] at hb,
      Owns.same e (fun b hb => e ▸ (sp.owned_ids (sp.usable_inv u) b hb).1) fun b => by simp only [o1, o2, List.append_nil]⟩

theorem MAssignC.pure {sp : ObjSpec} {t o r1 r2 : Obj}
    (hs : ∀ h, sp.Inv h t → sp.Usable h o → sp.Usable h r1 ∧ sp.Inv h r2 ∧ sp.owned r1 = sp.owned o ∧ sp.owned r2 = sp.owned t) :
    MAssignC sp t o (pure (r1, r2)) := fun _ _ =>
  TripleS.pure_of (r1, r2) fun h ⟨i, u, dj, e, _⟩ => by
    obtain ⟨u1, i2, o1, o2⟩ := hs h i u
    refine ⟨u1, i2, fun b (hb1 : b ∈ sp.owned r1) (hb2 : b ∈ sp.owned r2) => dj b (o2 ▸ hb2) (o1 ▸ hb1), Owns.same e (fun b hb => e ▸ ?_) fun b => ?_⟩
    · exact (List.mem_append.1 hb).elim (fun hb => (sp.owned_ids i b hb).1) fun hb => (sp.owned_ids (sp.usable_inv u) b hb).1
    · simp only [o1, o2, List.mem_append, Or.comm]

theorem contracts (C : Cfg) (hC : C.OK) : Contracts C (spec C) coverage where
  dtor := by
    intro o n0 ids0
    cases o with
    | table t => exact (Theta.dtor_contract C.theta n0 t ids0 fun _ => foot_own).pre fun h ⟨i, e, _⟩ => ⟨i, e⟩
    | kll s => exact (Kll.dtor_contract C.kll n0 s ids0).pre fun h ⟨i, e, _⟩ => ⟨i, e⟩
    | fi s => exact Fi.dtor_contract.pre fun h ⟨i, e, en, lt⟩ => ⟨i, e, Fi.idsLt_of_fresh lt (Nat.le_of_eq en.symm) e⟩
  copy := by
    intro o n0 ids0
    cases o with
    | table t => exact TripleS.map Obj.table ((Theta.copyCtor_contract C.theta n0 t ids0).pre fun h ⟨u, e, _⟩ => ⟨u, e⟩)
    | kll s =>
      exact TripleS.map Obj.kll ((Kll.copyCtor_contract C.kll n0 s ids0).pre fun h ⟨u, e, n, _, lt⟩ => ⟨u, e, n, lt⟩)
    | fi s =>
      exact TripleS.map (fun m => Obj.fi { s with map := m }) (Fi.copyCtor_contract.conseq
        (fun h ⟨u, e, en, lt, _⟩ => ⟨u, e, Fi.idsLt_of_fresh lt (Nat.le_of_eq en.symm) e⟩) fun _ _ ⟨u, _, ow⟩ => ⟨u, ow⟩)
  move := by
    intro o
    cases o with
    | table t => exact MoveC.pure fun h u => Theta.moveCtor_transfers C.theta h t u
    | kll s =>
      exact fun n0 ids0 => TripleS.map (fun r : Kll.Sketch × Kll.Sketch => (Obj.kll r.1, Obj.kll r.2))
        ((Kll.moveCtor_contract C.kll n0 s ids0).pre fun h ⟨u, e, n, _⟩ => ⟨u, e, n⟩)
    | fi s => exact MoveC.pure fun h u => Fi.moveCtor_spec u
  cassign := by
    intro t o hc n0 ids0
    cases t with
    | table t =>
      cases o with
      | table o =>
        exact TripleS.map Obj.table
          ((Theta.copyAssign_contract C.theta n0 t o ids0).pre fun h ⟨i, u, _, e, _, lt, _⟩ => ⟨i, u, e, lt⟩)
      | _ => cases hc
    | kll t =>
      cases o with
      | kll o =>
        exact TripleS.map Obj.kll
          ((Kll.copyAssign_contract C.kll n0 t o ids0).pre fun h ⟨i, u, rel, rest⟩ => ⟨i, u, rel.imp_left Obj.kll.inj, rest⟩)
      | _ => cases hc
    | fi t =>
      cases o with
      | fi o =>
        exact TripleS.map (fun m => Obj.fi { o with map := m }) (Fi.copyAssign_contract.pre
          fun h ⟨i, u, rel, e, en, _, lto, lt⟩ =>
            ⟨i, u, rel.imp_left fun r => congrArg Fi.Sketch.map (Obj.fi.inj r), e, lto, Fi.idsLt_of_fresh lt (Nat.le_of_eq en.symm) e⟩)
      | _ => cases hc
  massign := by
    intro t o hc
    cases t with
    | table t =>
      cases o with
      | table o => exact MAssignC.pure fun h i u => Theta.moveAssign_spec' C.theta h t o i u
      | _ => cases hc
    | kll t =>
      cases o with
      | kll o =>
        exact fun n0 ids0 => TripleS.map (fun r : Kll.Sketch × Kll.Sketch => (Obj.kll r.1, Obj.kll r.2))
          ((Kll.moveAssign_contract C.kll C.kll.moveAssignResetsSource n0 t o ids0).pre
            fun h ⟨i, u, dj, e, n, _⟩ => ⟨i, u, dj, e, n⟩)
      | _ => cases hc
    | fi t =>
      cases o with
      | fi o => exact MAssignC.pure fun _ i u => ⟨u, i, rfl, rfl⟩
      | _ => cases hc
  selfmove := by
    intro o
    cases o with
    | table t => exact MutC.pure _
    | kll s =>
      exact fun n0 ids0 => TripleS.map Obj.kll
        ((Kll.selfMoveAssign_contract C.kll n0 s ids0).pre fun h ⟨u, e, n, _⟩ => ⟨u, e, n⟩)
    | fi s => exact MutC.pure _
  newTable := fun _ lgK rf theta0 _ n0 ids0 =>
    (Theta.ctor_contract C.theta n0 _ lgK rf theta0 ids0 (Theta.startingSubMultiple_pos hC.1.2.2)).pre fun h x => x.1
  tblUpdate := fun t a b n0 ids0 =>
    (Theta.update_contract C.theta hC.1 n0 t a b C.comb ids0).pre fun h ⟨u, e, _⟩ => ⟨u, e⟩
  tblSer := fun t n0 ids0 => (Theta.serialize_contract C.theta n0 t ids0).pre fun h ⟨u, e, _, lt, _⟩ => ⟨u, e, lt⟩
  tblTrim := fun t n0 ids0 => (Theta.trim_contract C.theta n0 t ids0).pre fun h ⟨u, e, _⟩ => ⟨u, e⟩
  tblReset := fun t n0 ids0 => (Theta.reset_contract C.theta n0 t ids0).pre fun h ⟨u, e, _⟩ => ⟨u, e⟩
  newKll := fun _ k n0 ids0 => (Kll.ctor_contract C.kll hC.2.2.2 n0 k ids0).pre fun h ⟨e, n, _⟩ => ⟨e, n⟩
  kllUpdate := fun s a coins n0 ids0 => Kll.update_contract C.kll hC.2.2.2 n0 s a coins ids0
  kllMerge := by
    intro a b byMove coins n0 ids0
    unfold Kll.mergeChecked
    by_cases hov : b.numLevels ≥ 2 ∧ a.n + b.n ≥ 2 ^ 64
    · rw [if_pos hov]
      exact fun _ _ _ => SafeF.exc _
    · rw [if_neg hov]
      exact Kll.merge_contract C.kll hC.2.2.2 n0 a b byMove coins ids0 fun h2 => Nat.lt_of_not_le fun h => hov ⟨h2, h⟩
  kllQuery := fun s n0 ids0 => (Kll.query_contract C.kll n0 s ids0).pre fun h ⟨u, e, n, _⟩ => ⟨u, e, n⟩
  kllSer := fun s n0 ids0 =>
    (Kll.serialize_contract C.kll n0 s ids0).conseq (fun h ⟨u, e, _⟩ => ⟨u, e⟩) fun _ h' x => x ▸ fun _ => Iff.rfl
  kllRound := fun s n0 ids0 =>
    (Kll.roundTrip_contract C.kll hC.2.2.2 n0 s ids0).pre fun h ⟨u, e, n, _, lt⟩ => ⟨u, e, n, lt⟩
  newFi := fun _ lgMax lgStart n0 ids0 => Fi.ctor_contract.pre fun h ⟨e, en, lt⟩ => ⟨e, Fi.idsLt_of_fresh lt (Nat.le_of_eq en.symm) e⟩
  fiUpdate := fun s a b n0 ids0 =>
    (Fi.update_contract_wf hC.2.1).pre fun h ⟨u, e, n, lt⟩ => ⟨u, e, Fi.idsLt_of_fresh lt (Nat.le_of_eq n.symm) e⟩
  fiMerge := fun a b byMove n0 ids0 =>
    (Fi.merge_contract_wf hC.2.1 fun _ => hC.2.2.1).pre
      fun h ⟨ua, ub, dj, e, n, _, _, lt⟩ => ⟨ua, ub, dj, e, Fi.idsLt_of_fresh lt (Nat.le_of_eq n.symm) e⟩
  fiQuery := fun s arg n0 ids0 =>
    Fi.get_contract.conseq (fun h ⟨u, e, _⟩ => ⟨u, e⟩) fun _ h' x => x.2 ▸ fun _ => Iff.rfl
  fiSer := fun s n0 ids0 =>
    Fi.serialize_contract_wf.conseq (fun h ⟨u, e, n, lt, _⟩ => ⟨u, e, Fi.idsLt_of_fresh lt (Nat.le_of_eq n.symm) e⟩) fun _ _ x => x.2
  fiRound := fun s n0 ids0 =>
    (Fi.roundTrip_contract_wf hC.2.1).conseq (fun h ⟨u, e, n, lt, _⟩ => ⟨u, e, Fi.idsLt_of_fresh lt (Nat.le_of_eq n.symm) e⟩) fun _ _ x => ⟨x.1, x.2.2⟩

end DS.Life
