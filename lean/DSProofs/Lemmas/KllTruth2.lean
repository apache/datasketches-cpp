/- The ground-truth invariant `InvT` through update, merge and whole histories. -/
import DSProofs.Lemmas.KllTruth
namespace DS.Kll
open DS DS.SortedView DS.Mech

variable {α : Type}

theorem updateT_invT {P : Params} (ok : ParamsOk P) {c : Cmp α} (sw : StrictWeak c.lt) {s : Sketch α} {inp : List α}
    (h : InvS P c.lt s) (ht : InvT c s inp) (x : α) :
    CT.All (fun s' => InvT c s' (if c.isNaN x then inp else x :: inp)) (updateT P c s x) := by
  unfold updateT
  split
  · exact ht
  · have h1 := updateMinMax_inv h x
    have hlv : (updateMinMax c s x).levels = s.levels := by unfold updateMinMax; split <;> rfl
    have hn : (updateMinMax c s x).n = s.n := by unfold updateMinMax; split <;> rfl
    obtain ⟨hm, hM⟩ := updateMinMax_minmax sw ht x
    refine CT.All.imp ?_ (CT.All.and (internalUpdateT_inv ok sw h1 x)
      (internalUpdateT_prov ok sw h1 (inp := inp) (hlv ▸ ht.prov) x))
    intro s' ⟨⟨_, hn', _, _⟩, hp, hmin, hmax⟩
    exact ⟨by rw [hn', hn, ht.n_eq]; rfl, hp.1, hmin ▸ hm, hmax ▸ hM, hp.2⟩

theorem replayT_prov {P : Params} (ok : ParamsOk P) {c : Cmp α} (sw : StrictWeak c.lt) :
    ∀ (xs : List α) {s : Sketch α} {inp : List α}, InvS P c.lt s → Prov s.levels inp →
    CT.All (fun s' => Prov s'.levels (xs.reverse ++ inp) ∧ s'.minItem = s.minItem ∧ s'.maxItem = s.maxItem) (replayT P c s xs)
  | [], _, _, _, hp => ⟨hp, rfl, rfl⟩
  | x :: t, s, inp, h, hp => by
    simp only [replayT, List.reverse_cons, List.append_assoc, List.singleton_append]
    refine CT.All_bind (CT.All.and (internalUpdateT_inv ok sw h x) (internalUpdateT_prov ok sw h hp x)) ?_
    intro s1 ⟨⟨h1, _⟩, hp1, hm1⟩
    exact CT.All.imp (fun s2 ⟨hp2, hm2⟩ => ⟨hp2, hm2.1.trans hm1.1, hm2.2.trans hm1.2⟩) (replayT_prov ok sw t h1 hp1)

theorem mem_zipLevels {lt : α → α → Bool} {a b : List (List α)} {y : α} (h : y ∈ (zipLevels lt a b).flatten) :
    y ∈ a.flatten ∨ y ∈ b.flatten := by
  obtain ⟨i, hi⟩ := mem_flatten_iff_getD.mp h
  rw [zipLevels_getD] at hi
  rcases mem_mergeUp.mp hi with h1 | h1
  · exact Or.inl (mem_flatten_iff_getD.mpr ⟨i, h1⟩)
  · exact Or.inr (mem_flatten_iff_getD.mpr ⟨i, h1⟩)

theorem mergeHigherT_prov {P : Params} (ok : ParamsOk P) (c : Cmp α) (s o : Sketch α) :
    CT.All (fun s' => (∀ y ∈ s'.levels.flatten, y ∈ s.levels.flatten ∨ y ∈ o.levels.flatten) ∧
              s'.minItem = s.minItem ∧ s'.maxItem = s.maxItem) (mergeHigherT P c s o) := by
  unfold mergeHigherT
  refine CT.All_bind (gcLoop_All ok c.lt s.k s.sorted0
    (Q := fun L => ∀ y ∈ L.flatten, y ∈ (s.levels.headD [] :: zipLevels c.lt s.levels.tail o.levels.tail).flatten)
    (fun L i up cn hi _ h y hy => h y (mem_compactCore hi hy)) _ [] _ _ _ _ (GcInv.init P s.k _ _) (fun y hy => hy)) ?_
  intro r hr
  refine ⟨fun y hy => ?_, rfl, rfl⟩
  have := hr y hy
  rw [List.flatten_cons, List.mem_append] at this
  rcases this with h1 | h1
  · exact Or.inl (mem_flatten_headD h1)
  · exact (mem_zipLevels h1).imp mem_flatten_tail mem_flatten_tail

theorem mergeT_invT {P : Params} (ok : ParamsOk P) {c : Cmp α} (sw : StrictWeak c.lt) {s o : Sketch α} {is io : List α}
    (hs : InvS P c.lt s) (ho : InvS P c.lt o) (hts : InvT c s is) (hto : InvT c o io) :
    CT.All (fun s' => InvT c s' (io ++ is)) (mergeT P c s o) := by
  unfold mergeT
  split
  · rename_i h0
    rw [show io = [] from List.eq_nil_of_length_eq_zero (hto.n_eq ▸ eq_of_beq h0)]
    exact hts
  · rename_i h0
    have hio : io ≠ [] := fun h => h0 (by rw [hto.n_eq, h]; rfl)
    have hmm := mergeMinMax_inv hs o
    obtain ⟨hmin, hmax⟩ := mergeMinMax_minmax sw hts hto hio
    refine CT.All_bind (CT.All.and (replayT_inv ok sw (o.levels.headD []) hmm)
      (replayT_prov ok sw (o.levels.headD []) hmm (inp := is) ((mergeMinMax_fields c s o).2.2.1 ▸ hts.prov))) ?_
    intro s2 ⟨⟨h2, _⟩, hp2, hmin2, hmax2⟩
    have hsub : ∀ y ∈ (o.levels.headD []).reverse ++ is, y ∈ io ++ is := fun y hy =>
      (List.mem_append.mp hy).elim (fun h => List.mem_append_left _ (hto.mem y (mem_flatten_headD (List.mem_reverse.mp h))))
        (List.mem_append_right _)
    -- the levels above 0 of `o`, if any, come in: then there is more than one level; if none, `o` is exact
    have hmid : CT.All (fun s3 => Prov s3.levels (io ++ is) ∧ s3.minItem = s2.minItem ∧ s3.maxItem = s2.maxItem)
        (if o.numLevels ≥ 2 then mergeHigherT P c s2 o else CT.ret s2) := by
      split
      · rename_i ho2
        refine CT.All.imp ?_ (CT.All.and (mergeHigherT_inv ok sw h2 ho ho2) (mergeHigherT_prov ok c s2 o))
        intro s3 ⟨⟨_, _, _, hl3⟩, hmem3, hm3⟩
        exact ⟨Prov.of_two hl3 fun y hy => (hmem3 y hy).elim (fun h => hsub y (hp2.1 y h))
          (fun h => List.mem_append_left _ (hto.mem y h)), hm3⟩
      · rename_i ho2
        have ho1 : o.levels.length = 1 :=
          Nat.le_antisymm (Nat.le_of_lt_succ (Nat.not_le.mp ho2)) (List.length_pos_iff.mpr ho.ne)
        exact ⟨hp2.mono hsub fun _ => List.Perm.append_right _ ((List.reverse_perm _).trans (hto.exact ho1)), rfl, rfl⟩
    refine CT.All_bind hmid ?_
    intro s3 ⟨hp3, hmin3, hmax3⟩
    exact ⟨by rw [List.length_append, Nat.add_comm, ← hts.n_eq, ← hto.n_eq], hp3.1,
      by show IsMin c.lt s3.minItem _; rw [hmin3, hmin2]; exact hmin,
      by show IsMax c.lt s3.maxItem _; rw [hmax3, hmax2]; exact hmax, hp3.2⟩

/-- `PW (InvT c)`, written out -/
def Coupled (c : Cmp α) (st : List (Sketch α)) (tr : List (List α)) : Prop :=
  st.length = tr.length ∧ ∀ (i : Nat) (s : Sketch α) (inp : List α), st[i]? = some s → tr[i]? = some inp → InvT c s inp

theorem Coupled.append {c : Cmp α} {st : List (Sketch α)} {tr : List (List α)} (h : Coupled c st tr)
    {s' : Sketch α} {inp' : List α} (h' : InvT c s' inp') : Coupled c (st ++ [s']) (tr ++ [inp']) :=
  PW.append (R := InvT c) h h'

theorem sortLevelZero_invT {c : Cmp α} {s : Sketch α} {inp : List α} (h : InvT c s inp) : InvT c (sortLevelZero c s) inp := by
  unfold sortLevelZero
  split
  · exact h
  · have := h.prov.sortHead c.lt
    exact ⟨h.n_eq, this.1, h.min_ok, h.max_ok, this.2⟩

theorem stepT_invT {P : Params} (ok : ParamsOk P) {c : Cmp α} (sw : StrictWeak c.lt) {st : List (Sketch α)}
    {tr : List (List α)} (hi : ∀ s ∈ st, InvS P c.lt s) (h : PW (InvT c) st tr) (op : Op α) :
    CT.All (fun st' => PW (InvT c) st' (truthStep P c tr op)) (stepT P c st op) := by
  by_cases hok : op.ok P st.length
  case neg => rw [stepT_of_not_ok hok, truthStep_of_not_ok (h.1 ▸ hok)]; exact h
  have hok' : op.ok P tr.length := h.1 ▸ hok
  cases op with
  | new k => rw [stepT_new c st hok, truthStep_new c tr hok]; exact h.append (init_invT c k)
  | upd i x =>
    rw [stepT_upd P c hok x, truthStep_upd P c hok' x]
    exact CT.All_map (updateT_invT ok sw (hi _ (List.getElem_mem hok)) (h.get hok) x) (fun s' hs' => h.set i hs')
  | merge i j =>
    rw [stepT_merge P c hok, truthStep_merge P c hok']
    exact CT.All_map (mergeT_invT ok sw (hi _ (List.getElem_mem hok.2.1)) (hi _ (List.getElem_mem hok.2.2))
      (h.get hok.2.1) (h.get hok.2.2)) (fun s' hs' => h.set i hs')
  | copy i => rw [stepT_copy P c hok, truthStep_copy P c hok']; exact h.append (h.get hok)
  | view i =>
    rw [stepT_view P c hok]
    have := h.set i (sortLevelZero_invT (h.get hok))
    rwa [List.set_getElem_self] at this

theorem runT_invT {P : Params} (ok : ParamsOk P) {c : Cmp α} (sw : StrictWeak c.lt) :
    ∀ (ops : List (Op α)) {st : List (Sketch α)} {tr : List (List α)}, (∀ s ∈ st, InvS P c.lt s) → PW (InvT c) st tr →
    CT.All (fun st' => (∀ s ∈ st', InvS P c.lt s) ∧ PW (InvT c) st' (truth P c ops tr)) (runT P c ops st)
  | [], _, _, hi, h => ⟨hi, h⟩
  | op :: ops, _, _, hi, h => by
    simp only [runT, truth]
    refine CT.All_bind (CT.All.and (stepT_inv ok sw hi op) (stepT_invT ok sw hi h op)) ?_
    intro st' ⟨hi', h'⟩
    exact runT_invT ok sw ops hi' h'

end DS.Kll
