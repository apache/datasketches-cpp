/-
C09 (CPC part) — the CPC image round-trips.

ONLY property theorems + non-vacuity examples (helpers: Lemmas/WireCpc.lean).  Model: DSModel/Wire/Cpc.lean
(`Image` = exactly what the image stores: raw fields and the two compressed word arrays).  What the words mean is
the compression model of C05; `image_restores_sketch` joins the two: for every valid sketch state, the image
state built from `compress`, written by `encode`, read by the documented reader `decode` and expanded by
`uncompress` gives back the sketch (table, window, and through the stored fields lg_k, C, fic, merged, HIP).
The API publishes no guaranteed size bound for CPC (`get_max_serialized_size_bytes` is an empirical 99.9 % figure),
so there is no `≤ max` theorem; the harness reports exceedances as statistics.
-/
import DSProofs.Lemmas.WireCpc
import DSProofs.Lemmas.CpcImage
import DSModel.Wire.CpcGen
import DSModel.Wire.CpcContent
namespace DS.Wire.Cpc
open DS.Wire

/-- **round trip**: the documented reader recovers the image state and leaves exactly the tail -/
theorem decode_encode (c : Consts) (hc : c.ok) (s : Image) (hs : WF s) (tail : Bytes) :
    decode c (encode c s ++ tail) = some (s, tail) := by
  obtain ⟨hf, fH, fT, fW⟩ := flags_rt c hc s.hasHip s.hasTable s.hasWindow
  have hpre := preInts_lt c hc s.coupons s.hasHip s.hasTable s.hasWindow
  have hbody := decBody_enc s hs tail
  obtain ⟨hlg, hfic, hsh, _⟩ := hs
  unfold decode encode
  simp only [List.append_assoc, Reader.bind, u8_w8 _ hpre, u8_w8 _ (show c.serVer < 2 ^ 8 from hc.2.1),
    u8_w8 _ (show c.familyId < 2 ^ 8 from hc.1), u8_w8 _ hlg, u8_w8 _ hfic, u8_w8 _ hf, u16_w16 _ hsh,
    beq_self_eq_true, guard_true, fH, fT, fW, hbody, Reader.pure]

/-- **size**: the image has `4 · (preamble ints + table words + window words)` bytes, as `serialize` allocates -/
theorem size_eq (c : Consts) (hz : c.sizeOk) (s : Image) (hs : WF s) : (encode c s).length = serializedSize c s := by
  obtain ⟨-, -, -, -, -, -, -, -, -, -, -, ht0, hw0, -, hc0, hc1, -⟩ := hs
  obtain ⟨z1, z2, z3, z4, z5, z6⟩ := hz
  unfold encode encBody serializedSize preInts encHip
  rw [z1, z2, z3, z4, z5, z6]
  simp only [apply_ite List.length, List.length_append, List.length_nil, length_w8, length_w16, length_w32, length_w64,
    length_encWords]
  cases hany : s.hasTable || s.hasWindow
  · obtain ⟨hT, hW⟩ := Bool.or_eq_false_iff.1 hany
    rw [if_pos (hc0 hany), ht0 hT, hw0 hW]
    rfl
  · rw [if_neg (hc1 hany), if_pos rfl]
    cases s.hasHip <;> cases s.hasTable <;> cases s.hasWindow <;>
      simp +arith only [Bool.and_true, Bool.and_false, Bool.not_true, Bool.not_false, if_true, if_false, Bool.false_eq_true]

/-! ### from the sketch to the image and back -/

open DS.Cpc in
/-- **the image restores the sketch**: for every valid sketch state `s` (C05's invariant `Inv`, which C05 proves for every
state reachable by updates, `inv_run`, and for every union result, `cpc_union_spec`; for a deserialized state it is one
`Inv.sketch_congr` away from the `sameContent` conjunct below, but no theorem states it) whose offset is
`determine_correct_offset` and whose sizes fit the 32/64-bit fields, the image state `imageOf s` is well formed,
and reading its bytes back with the documented reader and expanding the words gives a sketch with the same lg_k, C,
surprising-value table, window, offset, first interesting column and merged flag, and — if the sketch is not merged —
the same two HIP registers (for an EMPTY sketch: the registers of a new sketch, in the repaired shape of `deserialize`). -/
theorem image_restores_sketch (c : Consts) (hc : c.ok) (C : CompTables) (hC : TablesOK C) (sh : Nat) (s : Sketch)
    (xs : List Nat) (hb : HipBits) (ofBits : Nat → Float) (tail : Bytes)
    (hsh : sh < 2 ^ 16) (h : Inv s xs) (hv : ∀ x ∈ xs, x < 64 * 2 ^ s.lgK)
    (hoff : s.offset = determineCorrectOffset s.lgK s.numCoupons)
    (hlg : s.lgK < 2 ^ 8) (hcn : s.numCoupons < 2 ^ 32) (hk : hb.kxp < 2 ^ 64) (hh : hb.hip < 2 ^ 64)
    (htl : s.table.length < 2 ^ 32)
    (hwl : (compress C s).tableWords.length < 2 ^ 32) (hwl' : (compress C s).windowWords.length < 2 ^ 32)
    (hregs : s.numCoupons = 0 → hb = ⟨pow2Bits s.lgK, 0⟩) :
    WF (imageOf C sh s hb) ∧
    ∃ s' hb', (decode c (encode c (imageOf C sh s hb) ++ tail)).map (fun p => (expand C true p.1 ofBits, p.2)) = some ((s', hb'), tail) ∧
      sameContent s' s ∧ (s.merged = false → hb' = hb) := by
  have hwf := wf_imageOf C sh s xs hb hsh h hv hlg hcn hk hh htl hwl hwl'
  obtain ⟨e1, e2⟩ := expand_imageOf C hC true sh s xs hb ofBits h hv hoff
  refine ⟨hwf, _, _, ?_, e1, fun hm => e2.trans ?_⟩
  · rw [decode_encode c hc _ hwf tail]; rfl
  · by_cases h0 : s.numCoupons = 0
    · rw [if_pos h0]; exact (hregs h0).symm
    · rw [if_neg h0, if_neg (by rw [hm]; exact Bool.false_ne_true)]

/-! Non-vacuity: the constants generated from the current headers satisfy the side conditions; a well-formed image with
a table, a window and HIP registers (the layout with every optional field) round-trips through the executable functions. -/
example : generated.ok ∧ generated.sizeOk := by decide
def exImage : Image :=
  { lgK := 5, fic := 0, seedHash := 37836, hasHip := true, hasTable := true, hasWindow := true, coupons := 40, numEntries := 3,
    kxp := 0x4030000000000000, hip := 0x4044000000000000, windowWords := [1, 2, 0xffffffff], tableWords := [7, 9] }
example : WF exImage := by decide
example : (encode generated exImage).length = 60 ∧ serializedSize generated exImage = 60 ∧
    decode generated (encode generated exImage ++ [1, 2, 3]) = some (exImage, [1, 2, 3]) := by decide

end DS.Wire.Cpc
