/-
Compressed theta images (serial version 4): delta coding, the entry width fits every delta, count bytes, round trip.
-/
import DSProofs.Lemmas.WireTheta
import DSProofs.Lemmas.BitPack
namespace DS.Wire.Theta
open DS.Wire Reader DS.Wire.BitPack

theorem length_deltas (p : Nat) (es : List Nat) : (deltas p es).length = es.length := by
  induction es generalizing p with
  | nil => rfl
  | cons e t ih => rw [deltas, List.length_cons, ih, List.length_cons]

theorem length_undelta (p : Nat) (ds : List Nat) : (undelta p ds).length = ds.length := by
  induction ds generalizing p with
  | nil => rfl
  | cons d t ih => simp [undelta, ih]

theorem undelta_deltas (p : Nat) (es : List Nat) (hasc : ascFrom p es) (hlt : ∀ e ∈ es, e < 2 ^ 64) :
    undelta p (deltas p es) = es := by
  induction es generalizing p with
  | nil => rfl
  | cons e t ih =>
    rw [deltas, undelta, Nat.add_sub_cancel' (Nat.le_of_lt hasc.1), Nat.mod_eq_of_lt (hlt e List.mem_cons_self),
      ih e hasc.2 fun x hx => hlt x (List.mem_cons_of_mem e hx)]

theorem deltas_lt (p : Nat) (es : List Nat) (k : Nat) (hlt : ∀ e ∈ es, e < k) : ∀ d ∈ deltas p es, d < k := by
  induction es generalizing p with
  | nil => exact fun d hd => nomatch hd
  | cons e t ih =>
    intro d hd
    rcases List.mem_cons.1 hd with rfl | hd
    · exact Nat.lt_of_le_of_lt (Nat.sub_le e p) (hlt e List.mem_cons_self)
    · exact ih e (fun x hx => hlt x (List.mem_cons_of_mem e hx)) d hd

theorem deltas_pos (p : Nat) (es : List Nat) (hasc : ascFrom p es) : ∀ d ∈ deltas p es, 0 < d := by
  induction es generalizing p with
  | nil => exact fun d hd => nomatch hd
  | cons e t ih =>
    intro d hd
    rcases List.mem_cons.1 hd with rfl | hd
    · exact Nat.sub_pos_of_lt hasc.1
    · exact ih e hasc.2 d hd

theorem le_orAll (ds : List Nat) : ∀ d ∈ ds, d ≤ orAll ds := by
  induction ds with
  | nil => exact fun d hd => nomatch hd
  | cons x t ih =>
    intro d hd
    rcases List.mem_cons.1 hd with rfl | hd
    · exact Nat.left_le_or
    · exact Nat.le_trans (ih d hd) Nat.right_le_or

theorem orAll_lt (ds : List Nat) (k : Nat) (h : ∀ d ∈ ds, d < 2 ^ k) : orAll ds < 2 ^ k := by
  induction ds with
  | nil => exact Nat.two_pow_pos k
  | cons x t ih => exact Nat.or_lt_two_pow (h x List.mem_cons_self) (ih fun d hd => h d (List.mem_cons_of_mem x hd))

theorem lt_two_pow_bitLen (x : Nat) : x < 2 ^ bitLen x := by
  unfold bitLen; split
  · subst_vars; decide
  · exact Nat.lt_log2_self

theorem bitLen_le (x k : Nat) (h : x < 2 ^ k) : bitLen x ≤ k := by
  unfold bitLen; split
  · omega
  · rename_i hx
    have := (Nat.log2_lt hx).2 h
    omega

theorem bitLen_pos (x : Nat) (h : 0 < x) : 0 < bitLen x := by
  unfold bitLen; split <;> omega

theorem deltas_lt_entryBits (es : List Nat) : ∀ d ∈ deltas 0 es, d < 2 ^ entryBits es := by
  intro d hd
  exact Nat.lt_of_le_of_lt (le_orAll _ d hd) (lt_two_pow_bitLen _)

theorem entryBits_le_63 (es : List Nat) (h : ∀ e ∈ es, e < 2 ^ 63) : entryBits es ≤ 63 :=
  bitLen_le _ _ (orAll_lt _ _ (deltas_lt 0 es _ h))

theorem entryBits_pos (es : List Nat) (hne : es ≠ []) (hasc : ascFrom 0 es) : 0 < entryBits es :=
  match es, hne with
  | e :: t, _ => bitLen_pos _ (Nat.lt_of_lt_of_le (deltas_pos 0 (e :: t) hasc (e - 0) List.mem_cons_self)
      (le_orAll (deltas 0 (e :: t)) (e - 0) List.mem_cons_self))

theorem lt_numEntriesBytes (n : Nat) : n < 256 ^ numEntriesBytes n := by
  unfold numEntriesBytes
  rw [← two_pow_8_mul]
  exact Nat.lt_of_lt_of_le (lt_two_pow_bitLen n) (Nat.pow_le_pow_right (by decide) (eight_bytesForBits _))

theorem numEntriesBytes_le_4 (n : Nat) (h : n < 2 ^ 32) : numEntriesBytes n ≤ 4 := by
  have := bitLen_le n 32 h
  unfold numEntriesBytes bytesForBits
  omega

theorem flagsByteV4_lt {c : Consts} (hc : COk c) : flagsByteV4 c < 256 := by
  unfold flagsByteV4
  exact or_lt_256 _ _ (or_lt_256 _ _ (two_pow_lt_256 _ hc.co) (two_pow_lt_256 _ hc.ro)) (two_pow_lt_256 _ hc.od)

theorem suitable_facts (s : Image) (hwf : WF s) (hs : suitable s = true) :
    s.isOrdered = true ∧ s.isEmpty = false ∧ s.entries ≠ [] := by
  obtain ⟨_, _, _, _, hemp, _⟩ := hwf
  simp only [suitable, Bool.and_eq_true, bne_iff_ne, ne_eq, Bool.not_eq_true'] at hs
  obtain ⟨⟨ho, hn⟩, _⟩ := hs
  have hne : s.entries ≠ [] := by intro h; simp [h] at hn
  refine ⟨ho, ?_, hne⟩
  cases he : s.isEmpty with
  | false => rfl
  | true => exact absurd (hemp he).1 hne

theorem decode_encode_v4 {c : Consts} (hc : COk c) (s : Image) (h4 : WFv4 s) (exp : Nat) (hseed : s.seedHash = exp) (tail : Bytes) :
    decode c exp (encodeV4 c s ++ tail) = some (s, tail) := by
  obtain ⟨hwf, hsuit, hasc, h63⟩ := h4
  obtain ⟨hord, hemp, hne⟩ := suitable_facts s hwf hsuit
  obtain ⟨hsh, hth, hes, hlen, _, _⟩ := hwf
  have heb := entryBits_le_63 s.entries h63
  have hneb := numEntriesBytes_le_4 _ hlen
  have hpos := entryBits_pos s.entries hne hasc
  have hpre : (if s.estMode = true then 2 else 1) < 256 := by cases s.estMode <;> decide
  have hg : (s.seedHash == exp && decide (numEntriesBytes s.entries.length ≤ 4) && decide (1 ≤ entryBits s.entries ∧ entryBits s.entries ≤ 63)) = true := by
    rw [hseed, beq_self_eq_true, decide_eq_true hneb, decide_eq_true ⟨hpos, heb⟩]; rfl
  have hu := unpackFields_packFields (entryBits s.entries) (deltas 0 s.entries) (deltas_lt_entryBits s.entries)
  rw [length_deltas] at hu
  -- theta is stored exactly in estimation mode (2 preamble longs); otherwise it is the default the reader substitutes
  have hpq : (if s.estMode = true then 2 else 1) > 1 ↔ s.estMode = true := by cases s.estMode <;> decide
  have hdflt : ¬ s.estMode = true → s.theta = maxTheta := fun h => by
    rw [Image.estMode, hemp, Bool.not_false, Bool.and_true, decide_eq_true_eq] at h
    exact Nat.le_antisymm hth (Nat.le_of_not_lt h)
  unfold decode encodeV4
  simp only [List.append_assoc]
  rw [bind_u8 _ hpre, bind_u8 _ hc.v4, bind_u8 _ hc.ty]
  simp only [beq_self_eq_true, bind_guard_true, ↓reduceIte]
  unfold decodeV4
  rw [bind_u8 _ (by omega), bind_u8 _ (by omega), bind_u8 _ (flagsByteV4_lt hc), bind_u16 _ hsh, hg, bind_guard_true,
    bind_opt hpq (fun _ => u64_w64 s.theta (lt_of_le_maxTheta hth)) hdflt,
    bind_leNat _ _ (lt_numEntriesBytes _), bind_bytesN _ _ (by rw [length_packFields, length_deltas]), hu,
    undelta_deltas 0 s.entries hasc hes, ← hord, ← hemp]
  rfl

theorem length_encodeV4 (c : Consts) (s : Image) : (encodeV4 c s).length = serializedSizeV4 s := by
  unfold encodeV4 serializedSizeV4
  simp only [List.length_append, w8, w16, w64, length_wLe, length_packFields, length_deltas]
  cases s.estMode <;> simp only [if_true, if_false, Bool.false_eq_true, length_wLe, List.length_nil] <;> omega

end DS.Wire.Theta
