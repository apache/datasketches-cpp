/-
C01 — Theta update sketch is an exact hash-threshold sample of the distinct inputs.

ONLY property theorems and their non-vacuity examples live here (helper lemmas: Lemmas/Theta*.lean).
Model: DSModel/Theta/Update.lean (tied to theta_update_sketch_base_impl.hpp by the correspondence
check `./check C01`).  All statements are for every configuration `c` (any lg_k, resize factor,
starting theta, thresholds) and every finite operation history `ops` (update / trim / reset, any
order, any duplicates); `seenOf ops` = the hashes offered since the last reset.

Literal-statement carve-out: the 63-bit hash value 0 is reserved by the code for empty table
slots and is dropped by design; the statements say "nonzero hashes".
-/
import DSProofs.Lemmas.ThetaInv
namespace DS.Theta

variable {σ : Type}

/-- none missing, none extra, none twice: the retained keys are strictly increasing (hence distinct)
and are exactly the nonzero offered hashes strictly below the current theta. -/
theorem C01_retained_exact (c : Cfg) (ops : List (Op σ)) :
    (keys (run c ops).ents).Pairwise (· < ·) ∧
    ∀ x, x ∈ keys (run c ops).ents ↔ (x ∈ seenOf ops ∧ 0 < x ∧ x < (run c ops).theta) :=
  ⟨(inv_run c ops).sorted, (inv_run c ops).mem⟩

/-- theta never increases (except by an explicit reset). -/
theorem C01_theta_antitone (c : Cfg) (ops : List (Op σ)) (op : Op σ)
    (hop : match op with | .reset => False | _ => True) :
    (run c (ops ++ [op])).theta ≤ (run c ops).theta := by
  rw [run_snoc]
  have h := inv_run c ops
  cases op with
  | upd hash f => exact (inv_offer c _ _ hash f h).2
  | trim => exact (inv_trim c _ _ h).2
  | reset => exact absurd hop (by simp)

/-- theta is the configured starting value or one of the (nonzero) hashes seen. -/
theorem C01_theta_mem (c : Cfg) (ops : List (Op σ)) :
    (run c ops).theta = c.theta0 ∨ ((run c ops).theta ∈ seenOf ops ∧ 0 < (run c ops).theta) :=
  (inv_run c ops).theta_mem

/-- theta is below the starting value only while at least k = 2^lgNom hashes are retained. -/
theorem C01_theta_lt_k (c : Cfg) (ops : List (Op σ)) :
    (run c ops).theta < c.theta0 → 2^c.lgNom ≤ (run c ops).ents.length :=
  (inv_run c ops).klen

/-- exact while the stream fits: if the distinct nonzero hashes seen are covered by a
list `D` of at most k elements (duplicates in `D` only weaken the hypothesis) then theta is still the starting value, so (with `C01_retained_exact`)
the retained keys are exactly the distinct nonzero hashes below theta0 and `get_estimate` = their count
when p = 1. -/
theorem C01_exact_when_fits (c : Cfg) (ops : List (Op σ)) (D : List Nat)
    (hcov : ∀ x, x ∈ seenOf ops → 0 < x → x ∈ D) (hk : D.length ≤ 2^c.lgNom) :
    (run c ops).theta = c.theta0 := by
  have h := inv_run (σ := σ) c ops
  rcases Nat.lt_or_ge (run c ops).theta c.theta0 with hlt | hge
  · exfalso
    have hlen := h.klen hlt
    rcases h.theta_mem with h1 | ⟨h1, h2⟩
    · omega
    · -- the retained keys are below theta and, like theta itself, among the hashes covered by `D`
      have := length_lt_of_sorted_subset _ D _ h.sorted (fun x hx => ((h.mem x).1 hx).2.2)
        (fun x hx => hcov x ((h.mem x).1 hx).1 ((h.mem x).1 hx).2.1) (hcov _ h1 h2)
      rw [keys_length] at this
      omega
  · exact Nat.le_antisymm h.theta_le hge

/-- trim() leaves at most k entries. -/
theorem C01_trim_le_k (c : Cfg) (ops : List (Op σ)) :
    (run c (ops ++ [Op.trim])).ents.length ≤ 2^c.lgNom := by
  rw [run_snoc]; exact trim_length_le c _

/-- compact() / compact(ordered) expose the same theta64, emptiness and entry set; the model's entry
order is ascending (what the ordered form promises). -/
theorem C01_compact_same (c : Cfg) (ops : List (Op σ)) (ordered : Bool) (sh : Nat) :
    let s := run c ops
    (compact s ordered sh).theta = theta64 s ∧ (compact s ordered sh).isEmpty = s.isEmpty ∧
    (s.isEmpty = false → (compact s ordered sh).ents = s.ents) ∧
    (keys (compact s ordered sh).ents).Pairwise (· < ·) := by
  have h := inv_run (σ := σ) c ops
  refine ⟨rfl, rfl, ?_, ?_⟩
  · intro he; simp [compact, he]
  · simp only [compact]; split
    · simp
    · exact h.sorted

/-- an update sketch that reports empty has been offered nothing since the last reset (a screened-out
hash already makes it non-empty, as in the code).  Only this direction is stated. -/
theorem C01_empty_iff (c : Cfg) (ops : List (Op σ)) :
    (run c ops).isEmpty = true → seenOf ops = [] :=
  (inv_run c ops).empty_nil

/-! Non-vacuity: a concrete history with duplicates, a zero hash, a rebuild and a trim. -/
def exCfg : Cfg := { lgNom := 1, lgRf := 0, theta0 := 100, lgStart := 2 }
def exOps : List (Op Unit) :=
  [.upd 50 (fun _ => ()), .upd 20 (fun _ => ()), .upd 50 (fun _ => ()), .upd 0 (fun _ => ()),
   .upd 70 (fun _ => ()), .upd 10 (fun _ => ()), .upd 60 (fun _ => ()), .trim]
example : (run exCfg exOps).theta = 50 ∧ keys (run exCfg exOps).ents = [10, 20] := by decide +kernel
example : (run exCfg (exOps.take 3)).theta = exCfg.theta0 ∧ keys (run exCfg (exOps.take 3)).ents = [20, 50] := by decide +kernel

end DS.Theta
