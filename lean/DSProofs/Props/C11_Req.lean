/-
C11 (REQ) — truncated images are rejected by the specification reader; the per-level item counts cannot make it
read or allocate beyond the input.

ONLY property theorems and their non-vacuity examples.  `./check c11_quant` holds the real `req_sketch::deserialize`
(bytes and stream) to the verdict of `Req.decode` on EVERY strict prefix of every generated image under ASan/UBSan.
-/
import DSProofs.Props.C09_Req
namespace DS.Wire.Req
open Reader

theorem decodeBody_PS (sd : Serde) (hs : sd.Lawful) (c : Cfg) (k : Nat) (hra raw lz : Bool) (nl nr : Nat) :
    PS (decodeBody sd c k hra raw lz nl nr) :=
  (decodeBody_within sd hs c k hra raw lz nl nr).ps

/-- the specification reader is prefix-safe -/
theorem decode_PS (sd : Serde) (hs : sd.Lawful) (c : Cfg) : PS (decode sd c) := (decode_within sd hs c).ps

/-- EVERY strict prefix of a well-formed image is rejected -/
theorem prefix_rejected (sd : Serde) (hs : sd.Lawful) (c : Cfg) (hc : CfgOK c) (s : Image) (hw : WF sd c s = true)
    (n : Nat) (hn : n < (encode sd c s).length) : decode sd c ((encode sd c s).take n) = none :=
  prefix_rejected' (decode sd c) (decode_PS sd hs c) _ s (fun tail => decode_encode sd hs c hc s tail hw) n hn

theorem decodeBody_bounded (sd : Serde) (hs : sd.Lawful) (c : Cfg) (k : Nat) (hra raw lz : Bool) (nl nr : Nat)
    (b r : Bytes) (s : Image) (h : decodeBody sd c k hra raw lz nl nr b = some (s, r)) : s.count ≤ b.length :=
  (decodeBody_within sd hs c k hra raw lz nl nr).le h

/-- a successful decode of `b` yields an image holding at most `|b|` items: neither `num_raw_items` nor any
per-level `num_items` can make the specification reader produce more than the input holds -/
theorem decode_bounded (sd : Serde) (hs : sd.Lawful) (c : Cfg) (b r : Bytes) (s : Image)
    (h : decode sd c b = some (s, r)) : s.count ≤ b.length :=
  (decode_within sd hs c).le h

/-- non-vacuity: the two-level example image truncated in the middle of the second level header is rejected -/
example : decode (Serde.fixed 8) docCfg ((encode (Serde.fixed 8) docCfg exImage).take 90) = none := by decide

/-- prefix rejection at the constants of the current headers (what `./check c11_quant` compares the real readers with) -/
theorem prefix_rejected_code (sd : Serde) (hs : sd.Lawful) (s : Image) (hw : WF sd codeCfg s = true)
    (n : Nat) (hn : n < (encode sd codeCfg s).length) : decode sd codeCfg ((encode sd codeCfg s).take n) = none :=
  prefix_rejected sd hs codeCfg codeCfg_ok s hw n hn

end DS.Wire.Req
