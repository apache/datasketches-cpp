/-
C10 (HLL group) — the bytes follow the documented HLL layout.  The documented contract is written here BY HAND
(`docConsts`, the literal offsets/ids below, transcribed from the layout comments of hll/include/HllUtil.hpp and
HllSketchImpl-internal.hpp, cf. DESIGN.md Appendix A); the code side is lean/DSGen/WireHll.lean, regenerated from the
CURRENT headers by tools/trules/wire_hll.py on every run.  A consistent writer+reader change of any of them passes
every round trip but breaks a theorem here (and the committed baseline corpus no longer decodes).
HLL has a single serial version (1); the only older-writer tolerance of the readers is an absent lg_arr byte
(`legacy_set_decode_encode`).
-/
import DSProofs.Lemmas.WireHllSize
import DSModel.Wire.HllGen
import DSProofs.Props.C09_Hll

namespace DS.Wire.Hll
open DS.Wire

/-- the documented value constants -/
def docConsts : Consts where
  serVer := 1
  familyId := 7
  listPreInts := 2
  setPreInts := 3
  hllPreInts := 10
  emptyMask := 4
  compactMask := 8
  oooMask := 16
  fullSizeMask := 32
  lgInitListSize := 3
  lgInitSetSize := 5
  resizeNumer := 3
  resizeDenom := 4
  lgAuxArrInts := [0, 2, 2, 2, 2, 2, 2, 3, 3, 3, 4, 4, 5, 5, 6, 7, 8, 9, 10, 11, 12, 13, 14, 15, 16, 17, 18]
  keyBits := 26

/-- Every wire constant extracted from the current headers equals its documented value. -/
theorem wire_consts_documented :
    DSGen.whll_SER_VER = 1 ∧ DSGen.whll_FAMILY_ID = 7 ∧
    DSGen.whll_EMPTY_FLAG_MASK = 4 ∧ DSGen.whll_COMPACT_FLAG_MASK = 8 ∧ DSGen.whll_OUT_OF_ORDER_FLAG_MASK = 16 ∧
    DSGen.whll_FULL_SIZE_FLAG_MASK = 32 ∧
    DSGen.whll_PREAMBLE_INTS_BYTE = 0 ∧ DSGen.whll_SER_VER_BYTE = 1 ∧ DSGen.whll_FAMILY_BYTE = 2 ∧ DSGen.whll_LG_K_BYTE = 3 ∧
    DSGen.whll_LG_ARR_BYTE = 4 ∧ DSGen.whll_FLAGS_BYTE = 5 ∧ DSGen.whll_LIST_COUNT_BYTE = 6 ∧ DSGen.whll_HLL_CUR_MIN_BYTE = 6 ∧
    DSGen.whll_MODE_BYTE = 7 ∧
    DSGen.whll_LIST_INT_ARR_START = 8 ∧ DSGen.whll_LIST_PREINTS = 2 ∧
    DSGen.whll_HASH_SET_COUNT_INT = 8 ∧ DSGen.whll_HASH_SET_INT_ARR_START = 12 ∧ DSGen.whll_HASH_SET_PREINTS = 3 ∧
    DSGen.whll_HLL_PREINTS = 10 ∧ DSGen.whll_HLL_BYTE_ARR_START = 40 ∧ DSGen.whll_HIP_ACCUM_DOUBLE = 8 ∧
    DSGen.whll_KXQ0_DOUBLE = 16 ∧ DSGen.whll_KXQ1_DOUBLE = 24 ∧ DSGen.whll_CUR_MIN_COUNT_INT = 32 ∧ DSGen.whll_AUX_COUNT_INT = 36 ∧
    DSGen.whll_EMPTY_SKETCH_SIZE_BYTES = 8 ∧
    DSGen.whll_KEY_BITS_26 = 26 ∧ DSGen.whll_VAL_BITS_6 = 6 ∧ DSGen.whll_MIN_LOG_K = 4 ∧ DSGen.whll_MAX_LOG_K = 21 ∧
    DSGen.whll_LG_INIT_LIST_SIZE = 3 ∧ DSGen.whll_LG_INIT_SET_SIZE = 5 ∧ DSGen.whll_RESIZE_NUMER = 3 ∧ DSGen.whll_RESIZE_DENOM = 4 ∧
    DSGen.whll_AUX_TOKEN = 15 ∧
    DSGen.whll_LG_AUX_ARR_INTS = [0, 2, 2, 2, 2, 2, 2, 3, 3, 3, 4, 4, 5, 5, 6, 7, 8, 9, 10, 11, 12, 13, 14, 15, 16, 17, 18] ∧
    -- mode byte: cur_mode in the low 2 bits (LIST 0, SET 1, HLL 2), tgt_type in the next 2 (HLL_4 0, HLL_6 1, HLL_8 2)
    DSGen.whll_CUR_MODE_MASK = 3 ∧ DSGen.whll_TGT_SHIFT = 2 ∧ DSGen.whll_TGT_MASK = 3 ∧
    DSGen.whll_MODE_LIST = 0 ∧ DSGen.whll_MODE_SET = 1 ∧ DSGen.whll_MODE_HLL = 2 ∧
    DSGen.whll_TGT_HLL_4 = 0 ∧ DSGen.whll_TGT_HLL_6 = 1 ∧ DSGen.whll_TGT_HLL_8 = 2 ∧
    DSGen.whll_TGT_HLL_4_SHIFT = 2 ∧ DSGen.whll_TGT_HLL_6_SHIFT = 2 ∧ DSGen.whll_TGT_HLL_8_SHIFT = 2 ∧
    -- register array sizes: 4-bit 2^(lg_k-1), 6-bit (3·2^lg_k >> 2) + 1, 8-bit 2^lg_k
    DSGen.whll_ARR4_SHIFT_SUB = 1 ∧ DSGen.whll_ARR6_MUL = 3 ∧ DSGen.whll_ARR6_SHR = 2 ∧ DSGen.whll_ARR6_ADD = 1 ∧
    DSGen.whll_ARR8_SHIFT_SUB = 0 := by
  decide

/-- hence the model runs with exactly the documented constants -/
theorem genConsts_documented : genConsts = docConsts := rfl

/-- preamble-ints code of an image kind -/
def preInts (c : Consts) : Img → Nat
  | .list _ => c.listPreInts
  | .set _ => c.setPreInts
  | .hll _ => c.hllPreInts

/-- The model's sequential layout puts every header byte at the offset the CURRENT headers name for it. -/
theorem header_at_generated_offsets (c : Consts) (s : Img) :
    (encode c s)[DSGen.whll_PREAMBLE_INTS_BYTE]? = some (UInt8.ofNat (preInts c s % 256)) ∧
    (encode c s)[DSGen.whll_SER_VER_BYTE]? = some (UInt8.ofNat (c.serVer % 256)) ∧
    (encode c s)[DSGen.whll_FAMILY_BYTE]? = some (UInt8.ofNat (c.familyId % 256)) ∧
    (encode c s)[DSGen.whll_LG_K_BYTE]? = some (UInt8.ofNat (s.hdr.lgK % 256)) ∧
    (encode c s)[DSGen.whll_LG_ARR_BYTE]? = some (UInt8.ofNat (s.hdr.lgArr % 256)) ∧
    (encode c s)[DSGen.whll_FLAGS_BYTE]? = some (UInt8.ofNat (s.hdr.flags % 256)) ∧
    (encode c s)[DSGen.whll_LIST_COUNT_BYTE]? = some (UInt8.ofNat (s.hdr.b6 % 256)) ∧
    (encode c s)[DSGen.whll_HLL_CUR_MIN_BYTE]? = some (UInt8.ofNat (s.hdr.b6 % 256)) ∧
    (encode c s)[DSGen.whll_MODE_BYTE]? = some (UInt8.ofNat (s.hdr.mode % 256)) := by
  obtain ⟨body, h⟩ : ∃ body, encode c s = encodeHdr c (preInts c s) s.hdr ++ body := by
    cases s <;> exact ⟨_, rfl⟩
  rw [h]
  exact ⟨rfl, rfl, rfl, rfl, rfl, rfl, rfl, rfl, rfl⟩

/-- … the coupon arrays start at LIST_INT_ARR_START / HASH_SET_INT_ARR_START, the set count sits at HASH_SET_COUNT_INT … -/
theorem list_set_at_generated_offsets (c : Consts) (l : ListImg) (s : SetImg) :
    (encode c (.list l)).drop DSGen.whll_LIST_INT_ARR_START = wU32s l.coupons ∧
    (encode c (.set s)).drop DSGen.whll_HASH_SET_COUNT_INT = w32 s.count ++ (encode c (.set s)).drop DSGen.whll_HASH_SET_INT_ARR_START ∧
    (encode c (.set s)).drop DSGen.whll_HASH_SET_INT_ARR_START = wU32s s.slots := by
  have d8 := List.drop_left' (l₂ := w32 s.count ++ wU32s s.slots) (length_encodeHdr c c.setPreInts s.h)
  have d12 := drop_add_of_drop d8 (length_w32 _)
  exact ⟨List.drop_left' (length_encodeHdr _ _ _), d8.trans (congrArg (w32 s.count ++ ·) d12.symm), d12⟩

/-- … and the HLL estimator fields, counters, registers and aux area at HIP_ACCUM_DOUBLE, KXQ0_DOUBLE, KXQ1_DOUBLE,
CUR_MIN_COUNT_INT, AUX_COUNT_INT, HLL_BYTE_ARR_START. -/
theorem hll_at_generated_offsets (c : Consts) (s : HllImg) :
    let b := encode c (.hll s)
    b.drop DSGen.whll_HIP_ACCUM_DOUBLE = w64 s.hip ++ b.drop DSGen.whll_KXQ0_DOUBLE ∧
    b.drop DSGen.whll_KXQ0_DOUBLE = w64 s.kxq0 ++ b.drop DSGen.whll_KXQ1_DOUBLE ∧
    b.drop DSGen.whll_KXQ1_DOUBLE = w64 s.kxq1 ++ b.drop DSGen.whll_CUR_MIN_COUNT_INT ∧
    b.drop DSGen.whll_CUR_MIN_COUNT_INT = w32 s.numAtCurMin ++ b.drop DSGen.whll_AUX_COUNT_INT ∧
    b.drop DSGen.whll_AUX_COUNT_INT = w32 s.auxCount ++ b.drop DSGen.whll_HLL_BYTE_ARR_START ∧
    b.drop DSGen.whll_HLL_BYTE_ARR_START = s.regs ++ wU32s s.aux := by
  intro b
  have d8 := List.drop_left' (l₂ := hllBodyG c false s) (length_encodeHdr c c.hllPreInts s.h)
  have d16 := drop_add_of_drop d8 (length_w64 _)
  have d24 := drop_add_of_drop d16 (length_w64 _)
  have d32 := drop_add_of_drop d24 (length_w64 _)
  have d36 := drop_add_of_drop d32 (length_w32 _)
  have d40 := drop_add_of_drop d36 (length_w32 _)
  exact ⟨d8.trans (congrArg (w64 s.hip ++ ·) d16.symm), d16.trans (congrArg (w64 s.kxq0 ++ ·) d24.symm),
    d24.trans (congrArg (w64 s.kxq1 ++ ·) d32.symm), d32.trans (congrArg (w32 s.numAtCurMin ++ ·) d36.symm),
    d36.trans (congrArg (w32 s.auxCount ++ ·) d40.symm), d40⟩

/-- The model's mode-byte accessors and register-array sizes are the ones the current code computes
(`modeByte & CUR_MODE_MASK`, `(modeByte >> TGT_SHIFT) & TGT_MASK`, `hll4/6/8ArrBytes`). -/
theorem mode_byte_and_array_sizes_as_coded (h : Hdr) (lgK : Nat) :
    h.curMode = h.mode &&& DSGen.whll_CUR_MODE_MASK ∧
    h.tgt = (h.mode >>> DSGen.whll_TGT_SHIFT) &&& DSGen.whll_TGT_MASK ∧
    arrBytes DSGen.whll_TGT_HLL_4 lgK = 2 ^ (lgK - DSGen.whll_ARR4_SHIFT_SUB) ∧
    arrBytes DSGen.whll_TGT_HLL_6 lgK = ((2 ^ lgK * DSGen.whll_ARR6_MUL) >>> DSGen.whll_ARR6_SHR) + DSGen.whll_ARR6_ADD ∧
    arrBytes DSGen.whll_TGT_HLL_8 lgK = 2 ^ (lgK - DSGen.whll_ARR8_SHIFT_SUB) := by
  refine ⟨?_, ?_, rfl, ?_, rfl⟩
  · show h.mode % 4 = h.mode &&& (2 ^ 2 - 1)
    rw [Nat.and_two_pow_sub_one_eq_mod]
  · show (h.mode / 4) % 4 = (h.mode >>> 2) &&& (2 ^ 2 - 1)
    rw [Nat.and_two_pow_sub_one_eq_mod, Nat.shiftRight_eq_div_pow]
  · show 3 * 2 ^ lgK / 4 + 1 = ((2 ^ lgK * 3) >>> 2) + 1
    rw [Nat.shiftRight_eq_div_pow, Nat.mul_comm]

/-- Older writers left byte 4 (lg_arr) zero; the readers then recompute the table size from the count.  Such set
images (only `Valid`, not writer-consistent) round-trip as well. -/
theorem legacy_set_decode_encode (c : Consts) (hc : c.ok = true) (s : SetImg) (hv : s.Valid c) (tail : Bytes) :
    decode c (encodeSet c s ++ tail) = some (Img.set s, tail) :=
  decodeG_encodeSet c hc false s hv tail

/-- compact set image of an older writer: lg_arr byte 0, 3 coupons -/
def exSetLegacy : SetImg := {
  h := { lgK := 11, lgArr := 0, flags := 8, b6 := 0, mode := 9 }, count := 3,
  slots := [0x04000021, 0x08000004, 0x0c000109] }
/-- updatable set image with lg_arr byte 0 and 30 coupons: the table size 2^6 is recomputed from the count -/
def exSetLegacyUpd : SetImg := {
  h := { lgK := 11, lgArr := 0, flags := 0, b6 := 0, mode := 9 }, count := 30,
  slots := (List.range 30).map (fun i => 0x04000000 + i) ++ List.replicate 34 0 }

example : exSetLegacy.Valid genConsts ∧ exSetLegacyUpd.Valid genConsts ∧ setLgArr genConsts exSetLegacyUpd.h 30 = 6 := by
  decide
example : genConsts.ok = true ∧ docConsts.ok = true := by decide

end DS.Wire.Hll
