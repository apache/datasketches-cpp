/- C19, KLL sketch: serialize, query (sorted view), the serialize/deserialize round trip. -/
import DSProofs.Lemmas.LifeKllSpecial
namespace DS.Life.Kll
open DS.Life

theorem serialize_contract (P : Params) (n0 : Nat) (s : Sketch) (ids0 : List Nat) :
    TripleS n0 (foot [] n0) (fun h => Usable P h s ∧ h.ids = ids0) (serialize s) (fun _ h' => h'.ids = ids0) := by
  intro h _ ⟨u, hid⟩
  have inv := u.toInv
  obtain ⟨b, hb, hl⟩ := u.items
  obtain ⟨lok, iat, _⟩ := inv.items_ok b hb
  have hsz := Nat.add_sub_cancel' (lok.le_top 0 (Nat.zero_le _))
  unfold serialize
  by_cases hn0 : s.n = 0
  · rw [if_pos hn0]; exact SafeF.pure hid
  rw [if_neg hn0]
  apply step_deref_eq hb
  -- reads leave the heap as it is: with or without those of min and max, the items are read next
  have rest : SafeF (foot [] n0) h ((do
      let l0 ← lv s.levels 0
      let lN ← lv s.levels s.numLevels
      loopUp (fun i => do let _ ← read b i; Pure.pure ()) (lN - l0) l0) h) (fun _ h' => h'.ids = ids0) := by
    apply step_lv (lok.len ▸ Nat.succ_pos _)
    apply step_lv (lok.len ▸ Nat.lt_succ_self _)
    rw [lok.top]
    apply SafeF.last
    apply vstep_readRange iat.cells (Nat.le_of_eq hsz) (hsz.symm ▸ hl)
    exact SafeF.pure hid
  by_cases h1 : s.n ≠ 1
  · rw [if_pos h1]
    obtain ⟨⟨v0, hv0⟩, ⟨v1, hv1⟩⟩ := u.mm1 hn0
    apply vstep_read inv.self_cells Nat.zero_lt_two hv0
    apply vstep_read inv.self_cells Nat.one_lt_two hv1
    exact rest
  · rw [if_neg h1]; exact rest

theorem query_contract (P : Params) (n0 : Nat) (s : Sketch) (ids0 : List Nat) :
    TripleS n0 (foot (owned s) n0) (fun h => Usable P h s ∧ h.ids = ids0 ∧ h.next = n0) (query s)
      (fun s' h' => Usable P h' s' ∧ Owns h' ids0 (owned s) (owned s') n0) := by
  intro h hn ⟨u, hid, hnx⟩
  have inv := u.toInv
  obtain ⟨b, hb, hl⟩ := u.items
  obtain ⟨lok, iat, hblt, hbself, hbview⟩ := inv.items_ok b hb
  have hsub : ∀ x, x ∈ owned s → x ∈ ids0 := fun x hx => hid ▸ (inv.owned_ids x hx).1
  have same : SafeF (foot (owned s) n0) h ((Pure.pure s : M Sketch) h)
      (fun s' h' => Usable P h' s' ∧ Owns h' ids0 (owned s) (owned s') n0) :=
    SafeF.pure ⟨u, Owns.same hid hsub (fun _ => Iff.rfl)⟩
  unfold query
  by_cases hn0 : s.n = 0
  · rw [if_pos hn0]; exact same
  rw [if_neg hn0]
  cases hv : s.view with
  | some v => exact same
  | none =>
  have h01 := Nat.add_sub_cancel' (lok.mono 0 lok.nl)
  have hsz := Nat.add_sub_cancel' (lok.le_top 0 (Nat.zero_le _))
  apply step_deref_eq hb
  apply step_lv (lok.len ▸ Nat.succ_pos _)
  apply step_lv (lok.len ▸ Nat.succ_lt_succ lok.nl)
  apply vstep_sortIf iat.cells (h01.symm ▸ lok.le_top 1 lok.nl)
    (fun j h1' h2' => hl j h1' (Nat.lt_of_lt_of_le h2' (h01.symm ▸ lok.le_top 1 lok.nl)))
    (foot_own (mem_owned.2 (Or.inr (Or.inl hb))))
  intro h1 sb1 hl1
  have hl' : LiveOn h1 b (s.levels.getD 0 0) s.itemsSize := fun i h1' h2' =>
    if hi : i < s.levels.getD 0 0 + (s.levels.getD 1 0 - s.levels.getD 0 0) then hl1 i h1' hi
    else (sb1.st _ _ fun x => hi x.2.2) ▸ hl i h1' h2'
  have hnx1 : h1.next = n0 := sb1.next.trans hnx
  apply step_lv (lok.len ▸ Nat.lt_succ_self _)
  rw [lok.top]
  apply vstep_readRange (sb1.cells _ _ iat.cells) (Nat.le_of_eq hsz) (hsz.symm ▸ hl')
  apply vstep_alloc _ _ (foot_new (Nat.le_of_eq hnx1.symm))
  intro h2 hc2 hr2 so2 hid2 hnx2
  apply SafeF.pure
  have old : ∀ {x}, x < h.next → SameOn h1 h2 x := fun hx => so2 _ (sb1.next ▸ Nat.ne_of_lt hx)
  have ss : SameOn h h2 s.self := (sb1.sameOn fun j y => hbself y.1.symm).trans (old inv.self_lt)
  have lt2 : ∀ {x}, x < h.next → x < h2.next := fun hx => hnx2 ▸ sb1.next ▸ Nat.lt_succ_of_lt hx
  refine ⟨Usable.build (s := { s with lvl0Sorted := true, view := some h1.next }) (b := b) inv.m_eq
      (ss.cells _ inv.self_cells) (lt2 inv.self_lt)
      (fun v hv' => Option.some.inj hv' ▸ ⟨hc2, hr2 0 Nat.one_pos, hnx2 ▸ Nat.lt_succ_self _, sb1.next ▸ Nat.ne_of_gt inv.self_lt⟩)
      hb lok
      ⟨(old hblt).cells _ (sb1.cells _ _ iat.cells), fun i hi => ?_, fun i h1' h2' => ((old hblt).st i).symm ▸ hl' i h1' h2'⟩
      (lt2 hblt) hbself (fun e => Nat.lt_irrefl _ (sb1.next ▸ Option.some.inj e ▸ hblt))
      (fun e => ss.st 0 ▸ ss.st 1 ▸ u.mm0 e) (fun e => ss.st 0 ▸ ss.st 1 ▸ u.mm1 e) u.ret u.wt u.pw,
    Owns.of_delta (fun _ => False) (fun x => x = n0) (fun x => ?_) hsub (fun _ d => d.elim)
      (fun x e => Nat.le_of_eq e.symm) (fun x => ?_)⟩
  · rw [(old hblt).st, sb1.st _ _ fun x => Nat.not_le_of_lt hi x.2.1]
    exact iat.raw i hi
  · rw [hid2, sb1.ids, hid, hnx1]; simp [or_comm]
  · rw [hnx1]
    simp only [mem_owned, hv, reduceCtorEq, or_false, Option.some.injEq, not_false_eq_true, and_true, or_assoc, eq_comm]

theorem roundTrip_contract (P : Params) (hP : P.OK) (n0 : Nat) (s : Sketch) (ids0 : List Nat) :
    TripleS n0 (foot [] n0)
      (fun h => Usable P h s ∧ h.ids = ids0 ∧ h.next = n0 ∧ (∀ b, b ∈ owned s → b < n0)) (roundTrip P s)
      (fun d h' => Usable P h' d ∧ Owns h' ids0 [] (owned d) n0) := by
  intro h hn ⟨u, hid, hnx, _⟩
  have inv := u.toInv
  obtain ⟨b, hb, hl⟩ := u.items
  obtain ⟨lok, iat, hblt, hbself, hbview⟩ := inv.items_ok b hb
  have hS0 : foot [] n0 h.next = true := foot_new hn
  have hS1 : foot [] n0 (h.next + 1) = true := foot_new (Nat.le_succ_of_le hn)
  have hw : h.next ≠ h.next + 1 := Nat.ne_of_lt (Nat.lt_succ_self _)
  have hb0 : b ≠ h.next := Nat.ne_of_lt hblt
  have hb1 : b ≠ h.next + 1 := Nat.ne_of_lt (Nat.lt_succ_of_lt hblt)
  have h0 : 0 < s.levels.length := lok.len ▸ Nat.succ_pos _
  unfold roundTrip
  by_cases hn0 : s.n = 0
  · rw [if_pos hn0]
    exact ctor_contract P hP n0 s.k ids0 h hn ⟨hid, hnx⟩
  rw [if_neg hn0]
  apply step_deref_eq hb
  by_cases hs : s.n = 1
  · -- one item: the image holds it alone, and it is min and max
    simp only [if_pos hs, decide_eq_true hs, Bool.not_true, Bool.false_eq_true, if_false]
    have hc2 : 2 ≤ computeTotalCapacity s.k s.m 1 :=
      Nat.le_trans (inv.m_eq ▸ hP.1) (computeTotalCapacity_one_ge s.k s.m)
    generalize hcap : computeTotalCapacity s.k s.m 1 = c at hc2 ⊢
    have hc1 : 1 ≤ c := Nat.le_of_succ_le hc2
    have hc1' : c - 1 < c := Nat.sub_lt hc1 Nat.one_pos
    apply step_setLv _ Nat.zero_lt_two
    apply step_setLv _ Nat.one_lt_two
    rw [show ((List.replicate (1 + 1) 0).set 0 (c - 1)).set 1 c = [c - 1, c] from rfl]
    apply step_lv h0
    apply vstep_alloc _ _ hS0
    intro h1 hc1s hr1 so1 hid1 hnx1
    apply vstep_alloc _ _ (hnx1 ▸ hS1)
    intro h2 hcb2 hrb2 so2 hid2 hnx2
    rw [hnx1] at hcb2 hrb2 so2 hid2 hnx2 ⊢
    apply step_lv Nat.zero_lt_two
    rw [show [c - 1, c].getD 0 0 = c - 1 from rfl, Nat.sub_sub_self hc1]
    have sob : SameOn h h2 b := (so1 b hb0).trans (so2 b hb1)
    have hone : ∀ {j}, c - 1 ≤ j → j < c - 1 + 1 → j = c - 1 := fun h1' h2' => Nat.le_antisymm (Nat.le_of_lt_succ h2') h1'
    apply vstep_copyRange (fun i => s.levels.getD 0 0 + (i - (c - 1))) (sob.cells _ iat.cells) hcb2 hb1
      (Nat.le_of_eq (Nat.sub_add_cancel hc1))
      (fun j h1' h2' => by
        rw [hone h1' h2', Nat.sub_self, sob.st]
        exact ⟨u.ret hn0, hl _ (Nat.le_refl _) (u.ret hn0)⟩)
      (fun j h1' h2' => hrb2 j (hone h1' h2' ▸ hc1')) hS1
    intro h3 sb3 hl3
    obtain ⟨v, hv⟩ := hl3 (c - 1) (Nat.le_refl _) (Nat.lt_succ_self _)
    have hself3 : HasCells h3 h.next 2 := sb3.cells _ _ ((so2 _ hw).cells _ hc1s)
    have hraw3 : ∀ i, i < 2 → stAt h3 h.next i = .raw := fun i hi =>
      ((sb3.st _ _ fun x => hw x.1).trans ((so2 _ hw).st i)).trans (hr1 i hi)
    apply vstep_copyConstruct (sb3.cells _ _ hcb2) hc1' hv hself3 Nat.zero_lt_two (hraw3 0 Nat.zero_lt_two) hS0
    intro h4 sb4 hst4
    apply vstep_copyConstruct (sb4.cells _ _ (sb3.cells _ _ hcb2)) hc1'
      ((sb4.st _ _ fun x => hw x.1.symm).trans hv) (sb4.cells _ _ hself3) Nat.one_lt_two
      ((sb4.st _ _ fun x => Nat.one_ne_zero x.2).trans (hraw3 1 Nat.one_lt_two)) hS0
    intro h5 sb5 hst5
    apply SafeF.pure
    have hnx5 : h5.next = h.next + 2 := by rw [sb5.next, sb4.next, sb3.next, hnx2]
    have sb35 : SameOn h3 h5 (h.next + 1) := (sb4.sameOn (fun j x => hw x.1.symm)).trans (sb5.sameOn (fun j x => hw x.1.symm))
    refine ⟨Usable.build (b := h.next + 1) rfl (sb5.cells _ _ (sb4.cells _ _ hself3))
        (hnx5 ▸ Nat.lt_add_of_pos_right Nat.zero_lt_two) nofun rfl (LevelsOK.init (Nat.sub_le _ _) (by rw [← hcap, inv.m_eq]))
        ⟨sb35.cells _ (sb3.cells _ _ hcb2), fun i hi => ?_, fun i h1' h2' => (sb35.st i).symm ▸ hl3 i h1' (Nat.sub_add_cancel hc1 ▸ h2')⟩
        (hnx5 ▸ Nat.lt_succ_self _) hw.symm nofun (fun e => absurd e hn0)
        (fun _ => ⟨⟨v, (sb5.st _ _ fun x => Nat.zero_ne_one x.2).trans hst4⟩, ⟨v, hst5⟩⟩) (fun _ => hc1') ?_ (Or.inl rfl),
      owns_fresh (by rw [sb5.ids, sb4.ids, sb3.ids, hid2, hid1, hid]) hn rfl rfl rfl⟩
    · rw [sb35.st, sb3.st _ _ fun x => Nat.not_le_of_lt hi x.2.1]
      exact hrb2 i (Nat.lt_trans hi hc1')
    · show sumSampleWeights 1 [c - 1, c] = s.n
      rw [hs, sumSampleWeights_eq]
      exact (Nat.zero_add _).trans ((Nat.one_mul _).trans (Nat.sub_sub_self hc1))
  · -- the image holds the levels, min, max and the retained items at their places
    simp only [if_neg hs, decide_eq_false hs, Bool.not_false, if_true]
    rw [← lok.cap]
    have hl0 : s.levels.getD 0 0 ≤ s.itemsSize := lok.le_top 0 (Nat.zero_le _)
    have hsz := Nat.add_sub_cancel' hl0
    obtain ⟨L1, eL1, hlen1, hg1⟩ := copyLevels_ok s.levels s.numLevels 0 (List.replicate (s.numLevels + 1) 0)
      (by rw [List.length_replicate, Nat.zero_add]; exact Nat.le_succ _) (by rw [lok.len, Nat.zero_add]; exact Nat.le_succ _)
    rw [List.length_replicate] at hlen1
    rw [eL1, pure_bind_apply]
    apply step_setLv _ (hlen1 ▸ Nat.lt_succ_self _)
    apply step_lv h0
    generalize hL : L1.set s.numLevels s.itemsSize = L
    have hlenL : L.length = s.numLevels + 1 := by rw [← hL, List.length_set, hlen1]
    have hgL : ∀ j, j ≤ s.numLevels → L.getD j 0 = s.levels.getD j 0 := fun j hj => by
      rw [← hL]
      by_cases e : j = s.numLevels
      · rw [e, getD_set_eq _ _ _ (hlen1 ▸ Nat.lt_succ_self _), lok.top]
      · rw [getD_set_ne _ _ _ _ e, hg1 j, if_pos ⟨Nat.zero_le _, Nat.zero_add _ ▸ Nat.lt_of_le_of_ne hj e⟩]
    apply vstep_alloc _ _ hS0
    intro h1 hc1 hr1 so1 hid1 hnx1
    obtain ⟨⟨v0, hv0⟩, ⟨v1, hv1⟩⟩ := u.mm1 hn0
    have hslf : s.self ≠ h.next := Nat.ne_of_lt inv.self_lt
    have ss1 := so1 s.self hslf
    apply vstep_copyConstruct (ss1.cells _ inv.self_cells) Nat.zero_lt_two ((ss1.st 0).trans hv0) hc1
      Nat.zero_lt_two (hr1 0 Nat.zero_lt_two) hS0
    intro h2 sb2 hst2
    have ss2 : SameOn h h2 s.self := ss1.trans (sb2.sameOn fun j x => hslf x.1)
    apply vstep_copyConstruct (ss2.cells _ inv.self_cells) Nat.one_lt_two ((ss2.st 1).trans hv1)
      (sb2.cells _ _ hc1) Nat.one_lt_two ((sb2.st _ _ fun x => Nat.one_ne_zero x.2).trans (hr1 1 Nat.one_lt_two)) hS0
    intro h3 sb3 hst3
    have hnx3 : h3.next = h.next + 1 := by rw [sb3.next, sb2.next, hnx1]
    apply vstep_alloc _ _ (hnx3 ▸ hS1)
    intro h4 hcb4 hrb4 so4 hid4 hnx4
    rw [hnx3] at hcb4 hrb4 so4 hid4 hnx4 ⊢
    apply step_lv (hlenL ▸ Nat.succ_pos _)
    rw [hgL 0 (Nat.zero_le _)]
    have sob : SameOn h h4 b :=
      (((so1 b hb0).trans (sb2.sameOn (fun j x => hb0 x.1))).trans (sb3.sameOn (fun j x => hb0 x.1))).trans (so4 b hb1)
    apply vstep_copyRange (fun i => s.levels.getD 0 0 + (i - s.levels.getD 0 0)) (sob.cells _ iat.cells) hcb4
      hb1 (Nat.le_of_eq hsz)
      (fun j h1' h2' => by
        rw [Nat.add_sub_cancel' h1', sob.st]
        exact ⟨hsz ▸ h2', hl j h1' (hsz ▸ h2')⟩)
      (fun j h1' h2' => hrb4 j (hsz ▸ h2')) hS1
    intro h5 sb5 hl5
    apply SafeF.pure
    have snew : SameOn h3 h5 h.next := (so4 _ hw).trans (sb5.sameOn (fun j x => hw x.1))
    have hnx5 : h5.next = h.next + 2 := sb5.next.trans hnx4
    refine ⟨Usable.build (b := h.next + 1) rfl (snew.cells _ (sb3.cells _ _ (sb2.cells _ _ hc1)))
        (hnx5 ▸ Nat.lt_succ_of_lt (Nat.lt_succ_self _)) nofun rfl
        ⟨lok.nl, hlenL, fun i hi => ?_, (hgL _ (Nat.le_refl _)).trans lok.top, inv.m_eq ▸ lok.cap⟩ ?_
        (hnx5 ▸ Nat.lt_succ_self _) hw.symm nofun (fun e => absurd e hn0)
        (fun _ => ⟨⟨v0, (snew.st 0).trans ((sb3.st _ _ fun x => Nat.zero_ne_one x.2).trans hst2)⟩, ⟨v1, (snew.st 1).trans hst3⟩⟩)
        (fun _ => (hgL 0 (Nat.zero_le _)).symm ▸ u.ret hn0) ((sumSampleWeights_congr hgL).trans u.wt) u.pw,
      owns_fresh (by rw [sb5.ids, hid4, sb3.ids, sb2.ids, hid1, hid]) hn rfl rfl rfl⟩
    · show L.getD i 0 ≤ L.getD (i + 1) 0
      rw [hgL i (Nat.le_of_lt hi), hgL (i + 1) hi]
      exact lok.mono i hi
    · show ItemsLive h5 (h.next + 1) (L.getD 0 0) s.itemsSize
      rw [hgL 0 (Nat.zero_le _)]
      refine ⟨sb5.cells _ _ hcb4, fun i hi => ?_, fun i h1' h2' => hl5 i h1' (hsz.symm ▸ h2')⟩
      rw [sb5.st _ _ fun x => Nat.not_le_of_lt hi x.2.1]
      exact hrb4 i (Nat.lt_of_lt_of_le hi hl0)

end DS.Life.Kll
