/- C19 / FI: the contracts of `reverse_purge_hash_map` / `frequent_items_sketch` over the heap calculus, with `IdsLt h` in the
   precondition wherever the program allocates; these are the forms LifeSpecAll uses.  For update, serialize, roundTrip and merge
   that form has the suffix `_wf`, because the unsuffixed name is taken by the same contract with `hfresh` in place of `IdsLt h`
   (`idsLt_of_fresh`), which has no user.  Move construction and move assignment only pass pointers on and run no heap program
   (`moveCtor_spec`, LifeSpecAll). -/
import DSProofs.Lemmas.LifeFiSerde
import DSProofs.Lemmas.LifeFiMerge
namespace DS.Life.Fi
open DS.Life

/-- a run that started owning nothing and may touch nothing else (constructors, `serialize`) keeps the invariant of any object
    that was there -/
theorem InvG.grown {u : Bool} {P : Params} {h h' : Heap} {m : Map} {own' : List Nat} (hi : InvG u P h m)
    (g : Grown h h' [] own' []) : InvG u P h' m :=
  InvG.local (fun b hb => g.out b List.not_mem_nil List.not_mem_nil (hi.owned_ids b hb).2) g.next hi

theorem ctor_contract {P : Params} {n0 : Nat} {ids0 : List Nat} {lgMax lgStart : Nat} :
    TripleS n0 (foot [] n0) (fun h => h.ids = ids0 ∧ IdsLt h) (Sketch.ctor P lgMax lgStart)
      (fun s h' => Usable P h' s.map ∧ Owns h' ids0 [] (owned s.map) n0) := by
  intro h hn ⟨hid, hlt⟩
  exact SafeF.mono (sketchCtor_spec P n0 _ (fun _ => foot_new) lgMax lgStart h h hn ⟨rfl, hlt⟩) (fun s h' ⟨hu, g⟩ => ⟨hu, hid ▸ g.owns hn⟩)

theorem dtor_contract {P : Params} {n0 : Nat} {ids0 : List Nat} {m : Map} :
    TripleS n0 (foot (owned m) n0) (fun h => Inv P h m ∧ h.ids = ids0 ∧ IdsLt h) (dtor m)
      (fun _ h' => Owns h' ids0 (owned m) [] n0) := by
  intro h hn ⟨hi, hid, hlt⟩
  exact SafeF.mono (dtor_spec P n0 _ m (fun b hb => foot_own hb) h h hn ⟨rfl, hi, hlt⟩) (fun _ h' g => hid ▸ g.owns hn)

theorem copyCtor_contract {P : Params} {n0 : Nat} {ids0 : List Nat} {m : Map} :
    TripleS n0 (foot [] n0) (fun h => Usable P h m ∧ h.ids = ids0 ∧ IdsLt h) (copyCtor m)
      (fun m' h' => Usable P h' m' ∧ Usable P h' m ∧ Owns h' ids0 [] (owned m') n0) := by
  intro h hn ⟨hu, hid, hlt⟩
  refine SafeF.mono (copyCtor_spec P n0 _ (fun _ => foot_new) m h h hn ⟨rfl, hu, hlt⟩) ?_
  intro m' h' ⟨hu', g⟩
  exact ⟨hu', hu.grown g,
    hid ▸ g.owns hn⟩

/-- copy assignment (also `a = a`): the copy is made first, so its blocks are bystanders of the destructor and the old blocks
    bystanders of the copy.  For that reason the proof needs neither `t = o ∨ …` nor `∀ b ∈ owned o, b < n0`; they are in the
    precondition because the world-level spec (LifeSpecAll) offers them to all three classes -/
theorem copyAssign_contract {P : Params} {n0 : Nat} {ids0 : List Nat} {t o : Map} :
    TripleS n0 (foot (owned t) n0)
      (fun h => Inv P h t ∧ Usable P h o ∧ (t = o ∨ ∀ b, b ∈ owned t → b ∉ owned o) ∧ h.ids = ids0 ∧
        (∀ b, b ∈ owned o → b < n0) ∧ IdsLt h)
      (copyAssign t o) (fun t' h' => Usable P h' t' ∧ Owns h' ids0 (owned t) (owned t') n0) := by
  intro h hn ⟨hit, huo, _, hid, _, hlt⟩
  unfold copyAssign
  apply SafeF.bind_triple (copyCtor_spec P n0 _ (fun _ => foot_new) o h) hn ⟨rfl, huo, hlt⟩
  intro c h1 ⟨huc, g1⟩ _
  have hit1 : Inv P h1 t := hit.grown g1
  apply SafeF.bind_triple (dtor_spec P 0 _ t (fun b hb => foot_own hb) h1) (Nat.zero_le _) ⟨rfl, hit1, g1.lt⟩
  intro _ h2 g2 _
  -- the blocks of the copy are new, those of the old state are not
  have hdis : ∀ b, b ∈ owned c → b ∉ owned t := fun b hb ht =>
    (g1.fresh b hb).elim (fun e => absurd e List.not_mem_nil)
      (fun e => Nat.lt_irrefl _ (Nat.lt_of_lt_of_le (hit.owned_ids b ht).2 e))
  have g := ((g1.frame (owned t) (fun b hb => ⟨(hit.owned_ids b hb).1, List.not_mem_nil⟩)).congr (fun _ => Iff.rfl)
    (fun b => by rw [List.mem_append, List.mem_append, or_comm])).trans
    (g2.frame (owned c) (fun b hb => ⟨g1.mem_ids hb, hdis b hb⟩)) hlt
  exact SafeF.pure ⟨InvG.local (fun b hb => g2.out b (hdis b hb) List.not_mem_nil (g1.lt b (g1.mem_ids hb))) g2.next huc,
    hid ▸ g.owns hn⟩

/-- `get_estimate` → `map.get(key)` -/
theorem get_contract {P : Params} {n0 : Nat} {ids0 : List Nat} {m : Map} {kv : Nat} :
    TripleS n0 (foot [] n0) (fun h => Usable P h m ∧ h.ids = ids0) (get P m kv)
      (fun _ h' => Usable P h' m ∧ h'.ids = ids0) := by
  intro h hn ⟨hu, hid⟩
  obtain ⟨k, v, s, hk, hv, hs, _, T, _⟩ := Usable.ptrs hu
  unfold get
  rw [hk, hv, hs]
  apply step_deref
  apply step_deref
  apply step_deref
  exact SafeF.mono (getLoop_spec _ k v s (2 ^ m.lgCur) kv h T _ _ (Nat.mod_lt _ (Nat.pow_pos (Nat.zero_lt_two))))
    (fun _ h' e => e ▸ ⟨hu, hid⟩)

theorem idsLt_of_fresh {n0 : Nat} {ids0 : List Nat} {h : Heap} (hfresh : ∀ b, b ∈ ids0 → b < n0) (hn : n0 ≤ h.next)
    (hid : h.ids = ids0) : IdsLt h := fun b hb => Nat.lt_of_lt_of_le (hfresh b (hid ▸ hb)) hn

/-- `IdsLt h` is there because `purge` allocates and frees a temporary (`gstep_dealloc` asks it of the start heap) -/
theorem update_contract_wf {P : Params} (hP : P.OK) {n0 : Nat} {ids0 : List Nat} {s : Sketch} {a w : Nat} :
    TripleS n0 (foot (owned s.map) n0) (fun h => Usable P h s.map ∧ h.ids = ids0 ∧ IdsLt h)
      (Sketch.update P s (.ext a) w)
      (fun s' h' => Usable P h' s'.map ∧ Owns h' ids0 (owned s.map) (owned s'.map) n0) := by
  intro h hn ⟨hu, hid, hlt⟩
  refine SafeF.mono (update_spec P hP n0 _ s (.ext a) w (fun _ => foot_new) (fun b hb => foot_own (by simpa [srcBlk] using hb)) h h hn
    ⟨rfl, hu, trivial, hlt, fun b hb => by cases hb⟩) ?_
  intro s' h' ⟨hu', g, _⟩
  exact ⟨hu', hid ▸ g.owns hn⟩

theorem update_contract {P : Params} (hP : P.OK) {n0 : Nat} {ids0 : List Nat} {s : Sketch} {a w : Nat}
    (hfresh : ∀ b, b ∈ ids0 → b < n0) :
    TripleS n0 (foot (owned s.map) n0) (fun h => Usable P h s.map ∧ h.ids = ids0)
      (Sketch.update P s (.ext a) w)
      (fun s' h' => Usable P h' s'.map ∧ Owns h' ids0 (owned s.map) (owned s'.map) n0) :=
  fun h hn ⟨hu, hid⟩ => update_contract_wf hP h hn ⟨hu, hid, idsLt_of_fresh hfresh hn hid⟩

/-- `IdsLt h` is there because the two temporaries are allocated and freed -/
theorem serialize_contract_wf {P : Params} {n0 : Nat} {ids0 : List Nat} {s : Sketch} :
    TripleS n0 (foot [] n0) (fun h => Usable P h s.map ∧ h.ids = ids0 ∧ IdsLt h) (Sketch.serialize P s)
      (fun _ h' => Usable P h' s.map ∧ (∀ b, b ∈ h'.ids ↔ b ∈ ids0)) := by
  intro h hn ⟨hu, hid, hlt⟩
  refine SafeF.mono (serialize_spec P n0 _ (fun _ => foot_new) s h h hn ⟨rfl, hu, hlt⟩) ?_
  intro _ h' g
  exact ⟨hu.grown g,
    fun b => by rw [g.ids b, hid]; simp⟩

/-- the conjunct `∀ b ∈ owned s.map, b < n0` of the precondition is not used -/
theorem serialize_contract {P : Params} {n0 : Nat} {ids0 : List Nat} {s : Sketch} (hfresh : ∀ b, b ∈ ids0 → b < n0) :
    TripleS n0 (foot [] n0) (fun h => Usable P h s.map ∧ h.ids = ids0 ∧ (∀ b, b ∈ owned s.map → b < n0))
      (Sketch.serialize P s) (fun _ h' => Usable P h' s.map ∧ (∀ b, b ∈ h'.ids ↔ b ∈ ids0)) :=
  fun h hn ⟨hu, hid, _⟩ => serialize_contract_wf h hn ⟨hu, hid, idsLt_of_fresh hfresh hn hid⟩

theorem roundTrip_contract_wf {P : Params} (hP : P.OK) {n0 : Nat} {ids0 : List Nat} {s : Sketch} :
    TripleS n0 (foot [] n0) (fun h => Usable P h s.map ∧ h.ids = ids0 ∧ IdsLt h) (Sketch.roundTrip P s)
      (fun d h' => Usable P h' d.map ∧ Usable P h' s.map ∧ Owns h' ids0 [] (owned d.map) n0) := by
  intro h hn ⟨hu, hid, hlt⟩
  refine SafeF.mono (roundTrip_spec P hP n0 _ (fun _ => foot_new) s h h hn ⟨rfl, hu, hlt⟩) ?_
  intro d h' ⟨hud, g⟩
  exact ⟨hud, hu.grown g,
    hid ▸ g.owns hn⟩

/-- the conjunct `∀ b ∈ owned s.map, b < n0` of the precondition is not used -/
theorem roundTrip_contract {P : Params} (hP : P.OK) {n0 : Nat} {ids0 : List Nat} {s : Sketch}
    (hfresh : ∀ b, b ∈ ids0 → b < n0) :
    TripleS n0 (foot [] n0) (fun h => Usable P h s.map ∧ h.ids = ids0 ∧ (∀ b, b ∈ owned s.map → b < n0))
      (Sketch.roundTrip P s)
      (fun d h' => Usable P h' d.map ∧ Usable P h' s.map ∧ Owns h' ids0 [] (owned d.map) n0) :=
  fun h hn ⟨hu, hid, _⟩ => roundTrip_contract_wf hP h hn ⟨hu, hid, idsLt_of_fresh hfresh hn hid⟩

/-- from the growth bookkeeping of the target to the `Owns` of target + source: the source's blocks are bystanders -/
theorem merge_owns {h h' : Heap} {P : Params} {s s' o : Map} {n0 : Nat} {X : List Nat} (hn : n0 ≤ h.next)
    (g : Grown h h' (owned s) (owned s') X) (hio : Inv P h o) (hdis : ∀ b, b ∈ owned s → b ∉ owned o) :
    Owns h' h.ids (owned s ++ owned o) (owned s' ++ owned o) n0 :=
  (g.frame (owned o) (fun b hb => ⟨(hio.owned_ids b hb).1, fun hm => hdis b hm hb⟩)).owns hn

/-- the merged sketch owns nothing of the source: what it owns it owned before or is newer than the source -/
theorem merge_disj {h h' : Heap} {P : Params} {s s' o : Map} {X : List Nat} (g : Grown h h' (owned s) (owned s') X)
    (hio : Inv P h o) (hdis : ∀ b, b ∈ owned s → b ∉ owned o) : ∀ b, b ∈ owned s' → b ∉ owned o :=
  fun b hb hbo => g.not_mem_of_lt (fun hm => hdis b hm hbo) (hio.owned_ids b hbo).2 hb

/-- the by-move half needs the iterator stride to be odd (`(… ) | 1` in the C++), otherwise the range-for could visit a slot twice
    and move from a moved-from key -/
theorem merge_contract_wf {P : Params} (hP : P.OK) {n0 : Nat} {ids0 : List Nat} {s o : Sketch} {byMove : Bool}
    (hodd : byMove = true → ∀ lg, P.strideOf lg % 2 = 1) :
    TripleS n0 (foot (owned s.map ++ owned o.map) n0)
      (fun h => Usable P h s.map ∧ Usable P h o.map ∧ (∀ b, b ∈ owned s.map → b ∉ owned o.map) ∧ h.ids = ids0 ∧ IdsLt h)
      (Sketch.merge P s o byMove)
      (fun s' h' => Usable P h' s'.map ∧ Inv P h' o.map ∧ (byMove = false → Usable P h' o.map) ∧
        (∀ b, b ∈ owned s'.map → b ∉ owned o.map) ∧
        Owns h' ids0 (owned s.map ++ owned o.map) (owned s'.map ++ owned o.map) n0) := by
  intro h hn ⟨hus, huo, hdis, hid, hlt⟩
  cases byMove with
  | false =>
    refine SafeF.mono (merge_copy_spec P hP n0 _ (fun _ => foot_new) s o (fun b hb => foot_own (by simp [hb])) h h hn
      ⟨rfl, hus, huo, hdis, hlt⟩) ?_
    intro s' h' ⟨hus', huo', g⟩
    exact ⟨hus', huo'.inv, fun _ => huo', merge_disj g huo.inv hdis, hid ▸ merge_owns hn g huo.inv hdis⟩
  | true =>
    refine SafeF.mono (merge_move_spec P hP (hodd rfl) n0 _ (fun _ => foot_new) s o (fun b hb => foot_own hb) h h hn
      ⟨rfl, hus, huo, hdis, hlt⟩) ?_
    intro s' h' ⟨hus', hio', g⟩
    exact ⟨hus', hio', fun e => (by cases e), merge_disj g huo.inv hdis, hid ▸ merge_owns hn g huo.inv hdis⟩

/-- `merge_contract` for `merge(const&)` alone, where no stride hypothesis is needed; `_partial` is not meant in the sense of
    DESIGN.md §2.1 (the proved part of a statement that fails in full) -/
theorem merge_contract_partial {P : Params} (hP : P.OK) {n0 : Nat} {ids0 : List Nat} {s o : Sketch} {byMove : Bool}
    (hbm : byMove = false) (hfresh : ∀ b, b ∈ ids0 → b < n0) :
    TripleS n0 (foot (owned s.map ++ owned o.map) n0)
      (fun h => Usable P h s.map ∧ Usable P h o.map ∧ (∀ b, b ∈ owned s.map → b ∉ owned o.map) ∧ h.ids = ids0)
      (Sketch.merge P s o byMove)
      (fun s' h' => Usable P h' s'.map ∧ Inv P h' o.map ∧ (byMove = false → Usable P h' o.map) ∧
        Owns h' ids0 (owned s.map ++ owned o.map) (owned s'.map ++ owned o.map) n0) :=
  fun h hn ⟨hus, huo, hdis, hid⟩ =>
    SafeF.mono (merge_contract_wf hP (fun e => by rw [hbm] at e; cases e) h hn
      ⟨hus, huo, hdis, hid, idsLt_of_fresh hfresh hn hid⟩) (fun _ _ ⟨a, b, c, _, d⟩ => ⟨a, b, c, d⟩)

theorem merge_contract {P : Params} (hP : P.OK) {n0 : Nat} {ids0 : List Nat} {s o : Sketch} {byMove : Bool}
    (hfresh : ∀ b, b ∈ ids0 → b < n0) (hodd : byMove = true → ∀ lg, P.strideOf lg % 2 = 1) :
    TripleS n0 (foot (owned s.map ++ owned o.map) n0)
      (fun h => Usable P h s.map ∧ Usable P h o.map ∧ (∀ b, b ∈ owned s.map → b ∉ owned o.map) ∧ h.ids = ids0)
      (Sketch.merge P s o byMove)
      (fun s' h' => Usable P h' s'.map ∧ Inv P h' o.map ∧ (byMove = false → Usable P h' o.map) ∧
        Owns h' ids0 (owned s.map ++ owned o.map) (owned s'.map ++ owned o.map) n0) :=
  fun h hn ⟨hus, huo, hdis, hid⟩ =>
    SafeF.mono (merge_contract_wf hP hodd h hn ⟨hus, huo, hdis, hid, idsLt_of_fresh hfresh hn hid⟩)
      (fun _ _ ⟨a, b, c, _, d⟩ => ⟨a, b, c, d⟩)

/-- the default tunables of the library; for the generated constants `Props/C19` decides `Params.OK` -/
theorem params_ok (hashOf strideOf : Nat → Nat) :
    Params.OK { loadNum := 3, loadDen := 4, driftLimit := 1024, maxSample := 1024, lgMinMap := 3, hashOf, strideOf } := by
  exact ⟨Nat.zero_lt_succ _, Nat.le_refl _, Nat.le_refl _⟩

end DS.Life.Fi
