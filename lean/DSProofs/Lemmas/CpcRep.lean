/- Well-formedness `Rep` of the representation; `build_bit_matrix` computes the abstract bits `Sketch.bit`; a sketch read back
   from a matrix (`ReadsMatrix`) re-encodes the matrix's bits (`MBits`). -/
import DSProofs.Lemmas.CpcBits
import DSProofs.Lemmas.CpcSet
namespace DS.Cpc

theorem pow_pos' (n : Nat) : 0 < 2^n := Nat.two_pow_pos n

/-- well-formedness of the representation (independent of the stream) -/
structure Rep (s : Sketch) : Prop where
  sorted : s.table.Pairwise (· < ·)
  tbl_lt : ∀ rc ∈ s.table, rc < 64 * 2^s.lgK
  offLe : s.offset ≤ 56     -- the model leaves the window at 56 (header of DSModel/Cpc/Sketch.lean)
  sparse : s.window = [] → s.offset = 0
  win_len : s.window ≠ [] → s.window.length = 2^s.lgK
  win_byte : ∀ b ∈ s.window, b < 256
  -- no surprising value in the window's eight columns: those bits live in the window bytes
  zone : s.window ≠ [] → ∀ rc ∈ s.table, rc % 64 < s.offset ∨ s.offset + 8 ≤ rc % 64

theorem Rep.sketch_congr {s s' : Sketch} (h : Rep s) (hk : s'.lgK = s.lgK) (ht : s'.table = s.table) (hw : s'.window = s.window)
    (ho : s'.offset = s.offset) : Rep s' :=
  ⟨ht ▸ h.sorted, ht ▸ hk ▸ h.tbl_lt, ho ▸ h.offLe, hw ▸ ho ▸ h.sparse, hw ▸ hk ▸ h.win_len, hw ▸ h.win_byte,
    hw ▸ ht ▸ ho ▸ h.zone⟩

theorem getD_window_lt (s : Sketch) (h : Rep s) (r : Nat) : s.window.getD r 0 < 256 :=
  getD_lt_of_mem (by decide) h.win_byte r

theorem window_testBit_ge (s : Sketch) (h : Rep s) (r c : Nat) (hc : 8 ≤ c) : (s.window.getD r 0).testBit c = false :=
  Nat.testBit_lt_two_pow (Nat.lt_of_lt_of_le (getD_window_lt s h r) (Nat.pow_le_pow_right (by decide) hc : 2^8 ≤ 2^c))

theorem Rep.table_col_ge {s : Sketch} (h : Rep s) (hw : s.window ≠ []) (ho : s.offset = 0) : ∀ rc ∈ s.table, 8 ≤ rc % 64 := by
  intro rc hrc; have := h.zone hw rc hrc; omega

theorem bit_offset_zero (s : Sketch) (hw : s.window ≠ []) (ho : s.offset = 0) (r c : Nat) :
    s.bit r c = if c < 8 then (s.window.getD r 0).testBit c else decide (r * 64 + c ∈ s.table) := by
  have hne : s.window.isEmpty = false := by simpa [List.isEmpty_iff] using hw
  simp [Sketch.bit, hne, ho]

theorem testBit_rowPattern (s : Sketch) (h : Rep s) (r c : Nat) (hc : c < 64) :
    (rowPattern s r).testBit c = s.bit r c := by
  unfold rowPattern
  rw [testBit_foldl_xor _ (nodup_of_sorted h.sorted)]
  simp only [Nat.testBit_or, Nat.testBit_two_pow_sub_one, Nat.testBit_shiftLeft, Sketch.bit, hc, true_and]
  by_cases hw : s.window = []
  · have ho := h.sparse hw
    simp [hw, ho]
  · have hne : s.window.isEmpty = false := by simpa [List.isEmpty_iff] using hw
    simp only [hne, Bool.false_eq_true, if_false]
    by_cases h1 : c < s.offset
    · simp [h1]
    · by_cases h2 : c < s.offset + 8
      · have h3 : c ≥ s.offset := by omega
        have hnot : r * 64 + c ∉ s.table := by
          intro hm
          have := h.zone hw _ hm
          rw [rc_mod r c hc] at this
          omega
        simp [h1, h2, h3, hnot]
      · have h3 : c ≥ s.offset := by omega
        have hb := window_testBit_ge s h r (c - s.offset) (by omega)
        rw [List.getD_eq_getElem?_getD] at hb
        simp [h1, h2, h3, hb]

theorem rowPattern_high (s : Sketch) (h : Rep s) (r c : Nat) (hc : 64 ≤ c) : (rowPattern s r).testBit c = false := by
  unfold rowPattern
  have ho := h.offLe
  have hb := window_testBit_ge s h r (c - s.offset) (by omega)
  rw [List.getD_eq_getElem?_getD] at hb
  rw [testBit_foldl_xor _ (nodup_of_sorted h.sorted)]
  simp [Nat.testBit_two_pow_sub_one, Nat.testBit_shiftLeft, Nat.not_lt.2 hc, hb, show ¬ c < s.offset by omega]

theorem buildBitMatrix_getD (s : Sketch) (r : Nat) (hr : r < 2^s.lgK) : (buildBitMatrix s).getD r 0 = rowPattern s r :=
  getD_map_range _ _ _ _ hr

/-- the matrix `m` of `k` rows holds exactly the codes `ys`.  Matrices are `List Nat` where the model keeps them (`buildBitMatrix`,
`Union.matrix`) and `Array Nat` where the code indexes them (`windowOfMatrix`, `tableOfMatrix`, `ficOfMatrix`); `getD_toArray` crosses. -/
structure MBits (k : Nat) (m : List Nat) (ys : List Nat) : Prop where
  len : m.length = k
  bits : ∀ r c, r < k → c < 64 → ((m.getD r 0).testBit c = true ↔ r * 64 + c ∈ ys)
  high : ∀ r c, r < k → 64 ≤ c → (m.getD r 0).testBit c = false

theorem mbits_of_rep (s : Sketch) (ys : List Nat) (h : Rep s)
    (hb : ∀ r c, r < 2^s.lgK → c < 64 → (s.bit r c = true ↔ r * 64 + c ∈ ys)) : MBits (2^s.lgK) (buildBitMatrix s) ys :=
  ⟨by simp [buildBitMatrix],
   fun r c hr hc => by rw [buildBitMatrix_getD s r hr, testBit_rowPattern s h r c hc]; exact hb r c hr hc,
   fun r c hr hc => by rw [buildBitMatrix_getD s r hr]; exact rowPattern_high s h r c hc⟩

theorem MBits.stream_congr {k : Nat} {m ys ys' : List Nat} (h : MBits k m ys) (he : ∀ a, a ∈ ys ↔ a ∈ ys') :
    MBits k m ys' :=
  ⟨h.len, fun r c hr hc => by rw [h.bits r c hr hc, he], h.high⟩

theorem mbits_zero (k : Nat) : MBits k (List.replicate k 0) [] := by
  refine ⟨by simp, fun r c hr _ => ?_, fun r c hr _ => ?_⟩ <;> simp [List.getD_eq_getElem?_getD, hr]

theorem mbits_ext (k : Nat) (m m' : List Nat) (ys ys' : List Nat) (h : MBits k m ys) (h' : MBits k m' ys')
    (he : ∀ a, a ∈ ys ↔ a ∈ ys') : m = m' := by
  refine ext_getD_testBit (h.len.trans h'.len.symm) fun i c hi => ?_
  rw [h.len] at hi
  by_cases hc : c < 64
  · rw [Bool.eq_iff_iff, h.bits i c hi hc, h'.bits i c hi hc, he]
  · rw [h.high i c hi (Nat.le_of_not_lt hc), h'.high i c hi (Nat.le_of_not_lt hc)]

theorem mem_tableOfMatrix (k off : Nat) (m : Array Nat) (rc : Nat) :
    rc ∈ tableOfMatrix k off m ↔ rc < 64 * k ∧ (surprises off (m.getD (rc / 64) 0)).testBit (rc % 64) = true := by
  simp [tableOfMatrix, List.mem_filter, List.mem_range]

theorem sorted_tableOfMatrix (k off : Nat) (m : Array Nat) : (tableOfMatrix k off m).Pairwise (· < ·) :=
  List.Pairwise.filter _ List.pairwise_lt_range

theorem windowOfMatrix_getD (k off : Nat) (m : Array Nat) (r : Nat) (hr : r < k) :
    (windowOfMatrix k off m).getD r 0 = (m.getD r 0 >>> off) % 256 :=
  getD_map_range _ _ _ _ hr

theorem zone_tableOfMatrix (k off : Nat) (m : Array Nat) (rc : Nat) (h : rc ∈ tableOfMatrix k off m) :
    rc % 64 < off ∨ off + 8 ≤ rc % 64 := by
  rw [mem_tableOfMatrix] at h
  have hc : rc % 64 < 64 := Nat.mod_lt _ (by decide)
  have := h.2
  rw [testBit_surprises off _ _ hc] at this
  by_cases h1 : rc % 64 < off
  · exact Or.inl h1
  · by_cases h2 : rc % 64 < off + 8
    · simp [h1, h2] at this
    · exact Or.inr (by omega)

theorem windowOfMatrix_byte (k off : Nat) (m : Array Nat) : ∀ b ∈ windowOfMatrix k off m, b < 256 := by
  intro b hb
  simp only [windowOfMatrix, List.mem_map, List.mem_range] at hb
  obtain ⟨i, _, rfl⟩ := hb
  exact Nat.mod_lt _ (by decide)

theorem ficOfMatrix_full (k off : Nat) (m : Array Nat) (r c : Nat) (hr : r < k)
    (hc : c < ficOfMatrix k off m) : (m.getD r 0).testBit c = true := by
  unfold ficOfMatrix at hc
  have h1 : c < off := by omega
  have h2 : c < ctz64 ((List.range k).foldl (fun a i => a ||| surprises off (m.getD i 0)) 0) := by omega
  have h3 := ctz64_spec _ _ h2
  rw [testBit_foldl_or_any] at h3
  simp only [Nat.zero_testBit, Bool.false_or, List.any_eq_false, List.mem_range] at h3
  have h4 := h3 r hr
  have hc64 : c < 64 := Nat.lt_of_lt_of_le h2 (ctz64_le _)
  rw [testBit_surprises off _ c hc64] at h4
  simpa [h1] using h4

theorem ficOfMatrix_le (k off : Nat) (m : Array Nat) : ficOfMatrix k off m ≤ off := Nat.min_le_right _ _

/-- `s` is read off the matrix `m` at offset `off`, as `move_window` and `get_result_from_bit_matrix` do -/
structure ReadsMatrix (s : Sketch) (off : Nat) (m : Array Nat) : Prop where
  window : s.window = windowOfMatrix (2^s.lgK) off m
  table : s.table = tableOfMatrix (2^s.lgK) off m
  offset : s.offset = off
  fic : s.fic = ficOfMatrix (2^s.lgK) off m

section
variable {s : Sketch} {off : Nat} {m : Array Nat}

theorem ReadsMatrix.window_ne (h : ReadsMatrix s off m) : s.window ≠ [] :=
  h.window ▸ map_range_ne_nil _ _ (Nat.two_pow_pos _)

theorem ReadsMatrix.rep (h : ReadsMatrix s off m) (ho : off ≤ 56) : Rep s := by
  refine ⟨h.table ▸ sorted_tableOfMatrix _ _ _, ?_, h.offset ▸ ho, fun e => absurd e h.window_ne, ?_,
    h.window ▸ windowOfMatrix_byte _ _ _, ?_⟩
  · intro rc hrc; rw [h.table] at hrc; exact ((mem_tableOfMatrix _ _ _ _).1 hrc).1
  · intro _; rw [h.window]; simp [windowOfMatrix]
  · intro _ rc hrc; rw [h.table] at hrc; rw [h.offset]; exact zone_tableOfMatrix _ _ _ rc hrc

theorem ReadsMatrix.bit (h : ReadsMatrix s off m) (r c : Nat) (hr : r < 2^s.lgK) (hc : c < 64) :
    s.bit r c = (m.getD r 0).testBit c := by
  have hne : s.window.isEmpty = false := List.isEmpty_eq_false_iff.2 h.window_ne
  have hmem : decide (r * 64 + c ∈ s.table) = (surprises off (m.getD r 0)).testBit c := by
    rw [h.table, Bool.eq_iff_iff, decide_eq_true_eq, mem_tableOfMatrix, rc_div r c hc, rc_mod r c hc]
    exact and_iff_right (by omega)
  simp only [Sketch.bit, hne, Bool.false_eq_true, if_false, h.offset, hmem, testBit_surprises off _ c hc]
  by_cases h1 : c < off
  · simp only [h1, if_true, Bool.not_not]
  · simp only [h1, if_false]
    by_cases h2 : c < off + 8
    · simp only [h2, if_true]
      rw [h.window, windowOfMatrix_getD _ off m r hr, Nat.testBit_mod_two_pow _ 8, Nat.testBit_shiftRight,
        Nat.add_sub_cancel' (Nat.le_of_not_lt h1), decide_eq_true (show c - off < 8 by omega), Bool.true_and]
    · simp only [h2, if_false]

theorem ReadsMatrix.ficLe (h : ReadsMatrix s off m) : s.fic ≤ s.offset := by
  rw [h.fic, h.offset]; exact ficOfMatrix_le _ _ _

theorem ReadsMatrix.ficFull (h : ReadsMatrix s off m) (ho : off ≤ 56) (r c : Nat) (hr : r < 2^s.lgK) (hc : c < s.fic) :
    s.bit r c = true := by
  have hc64 : c < 64 := Nat.lt_of_lt_of_le hc (Nat.le_trans h.ficLe (h.offset ▸ Nat.le_trans ho (by decide)))
  rw [h.bit r c hr hc64]
  exact ficOfMatrix_full _ _ _ r c hr (h.fic ▸ hc)

end

end DS.Cpc
