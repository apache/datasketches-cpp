/-
C04 — HLL union equals the sketch of the concatenated streams at reduced precision.

ONLY property theorems and their non-vacuity examples live here (helper lemmas: Lemmas/HllUnion.lean, HllGadget.lean, HllUnionInv.lean).
Model: DSModel/Hll/Union.lean (L1 model of hll_union as coded, tied to HllUnion-internal.hpp by `./check C04`).
A history is a list of `UOp`s (update with an lvalue / rvalue sketch described by its own configuration and coupon
stream, raw coupon, estimate call, reset) applied to a fresh union of `lgMaxK`.

The pinned code, that is `hll_union` at the commit of apache/datasketches-cpp that this development verifies (both source-shape
flags of `Params` false: `unionImpl`, `unionReset`, `uRun`), violates the full-strength statements (two defects found by
`./check C04`, see known_findings.json / proposed_fixes/C04-*; Props/C04_Repaired.lean has the repaired shape):
  D1  a down-sampled gadget still has cur_min = 0, num_at_cur_min = k, reports isEmpty and is replaced by the next input;
  D14 reset() keeps the gadget's reduced lg_k.
So the file carries `…_full : Prop` (the statement), `…_full_false` (kernel-checked refutation of it for the pinned
shape, with the concrete witness) and `…_partial` (what is proved).
-/
import DSProofs.Lemmas.HllUnionInv
import DSProofs.Props.C03
namespace DS.Hll

/-- the `Params` defaults: the pinned tunables, both source-shape flags false -/
def uP : Params := {}

/-! ## Full-strength statements -/

/-- result content = that of ONE sketch of the result's lg_k that saw every item of every input (nothing lost, nothing extra):
coupons exact in LIST/SET mode, every register the per-slot maximum in HLL mode. -/
def union_content_full : Prop :=
  ∀ (lgMaxK : Nat) (ops : List UOp) (tt : TType),
    let r : St Unit := unionResult uP (uRun uP (newUnion uP lgMaxK) ops) tt
    (r.mode = .hll → ∀ slot, slot < 2^r.lgK → IsMaxAt uP r.lgK (fun c => c ∈ offered ops) slot (r.regs.getD slot 0)) ∧
    (r.mode ≠ .hll → ∀ c, c ∈ r.items ↔ (c ∈ offered ops ∧ c ≠ 0))

/-- result lg_k = min(lg_max_k, lg_k of every (non-empty) HLL-mode input since the last reset) -/
def union_lgk_full : Prop :=
  ∀ (lgMaxK : Nat) (ops : List UOp) (tt : TType),
    (unionResult uP (uRun uP (newUnion uP lgMaxK : Un Unit) ops) tt).lgK = expectedLgK uP lgMaxK ops

/-- the result does not depend on the order of presentation (stated for histories of updates and raw items only: no estimate call,
no reset) -/
def union_perm_invariant_full : Prop :=
  ∀ (lgMaxK : Nat) (ops ops' : List UOp) (tt : TType), ops.Perm ops' →
    (∀ o ∈ ops, match o with | .merge _ _ => True | .coupon _ => True | _ => False) →
    let r : St Unit := unionResult uP (uRun uP (newUnion uP lgMaxK) ops) tt
    let r' : St Unit := unionResult uP (uRun uP (newUnion uP lgMaxK) ops') tt
    r.lgK = r'.lgK ∧ r.mode = r'.mode ∧ r.regs = r'.regs

/-- interleaved estimate calls do not change later results -/
def union_estimate_pure_full : Prop :=
  ∀ (lgMaxK : Nat) (ops₁ ops₂ : List UOp) (tt : TType),
    let r : St Unit := unionResult uP (uRun uP (newUnion uP lgMaxK) (ops₁ ++ ops₂)) tt
    let r' : St Unit := unionResult uP (uRun uP (newUnion uP lgMaxK) (ops₁ ++ [.touch] ++ ops₂)) tt
    r.lgK = r'.lgK ∧ r.mode = r'.mode ∧ r.regs = r'.regs

/-- reset ≙ a fresh union of lg_max_k; stated for the one field in which the pinned code differs: after a reset the gadget's lg_k is
lg_max_k again -/
def union_reset_full : Prop :=
  ∀ (lgMaxK : Nat) (ops : List UOp),
    (uRun uP (newUnion uP lgMaxK : Un Unit) (ops ++ [.reset])).gadget.lgK = lgMaxK

/-! ## Refutations for the pinned shape (witnesses: corpus/regress/C04/*.txt) -/

/-- A: HLL mode (start-full), lg_k 5, one item in slot 3 with value 2 -/
def wA : SkDesc := { lgK := 5, tt := .h8, sf := true, cs := [cPair uP 3 2] }
/-- B: HLL mode (start-full), lg_k 4, one item in slot 1 with value 1 -/
def wB : SkDesc := { lgK := 4, tt := .h8, sf := true, cs := [cPair uP 1 1] }
/-- C: HLL mode (start-full), lg_k 6 -/
def wC : SkDesc := { lgK := 6, tt := .h8, sf := true, cs := [cPair uP 2 3] }

/-- D1: union(4) ← A ← B loses A (slot 3 should hold 2, holds 0). -/
theorem union_content_full_false : ¬ union_content_full := by
  intro h
  have h1 := (h 4 [.merge wA false, .merge wB false] .h8).1 (by decide +kernel) 3 (by decide +kernel)
  have h2 := h1.1 (cPair uP 3 2) (by decide +kernel) (by decide +kernel)
  revert h2
  decide +kernel

/-- D1: A, B and B, A give different registers. -/
theorem union_perm_invariant_full_false : ¬ union_perm_invariant_full := by
  intro h
  have h1 := h 4 [.merge wA false, .merge wB false] [.merge wB false, .merge wA false] .h8
    (List.Perm.swap _ _ _) (by intro o ho; simp at ho; rcases ho with rfl | rfl <;> trivial)
  revert h1
  decide +kernel

/-- D1: an estimate call between the two updates changes the result. -/
theorem union_estimate_pure_full_false : ¬ union_estimate_pure_full := by
  intro h
  have h1 := h 4 [.merge wA false] [.merge wB false] .h8
  revert h1
  decide +kernel

/-- D1: union(6) ← C (lg_k 6) ← B (lg_k 4: gadget down-sampled to 4) ← C again: the gadget is replaced and is back at lg_k 6. -/
theorem union_lgk_full_false : ¬ union_lgk_full := by
  intro h
  have h1 := h 6 [.merge wC false, .merge wB false, .merge wC false] .h8
  revert h1
  decide +kernel

/-- D14: union(6) ← B (lg_k 4), reset(): the union restarts at lg_k 4. -/
theorem union_reset_full_false : ¬ union_reset_full := by
  intro h
  have h1 := h 6 [.merge wB false]
  revert h1
  decide +kernel

/-! ## What is proved (for every tunable set, numeric instance, lg_k, history …) -/

variable {ν : Type} [HNum ν]

/-- Mechanism of `mergeHll` (same-k path and down-sampling path alike): if the gadget's registers are the per-slot maxima of
the coupon set `M` at lg_k and the source's registers the per-slot maxima of `N` at a precision ≥ lg_k, then after the merge
they are the per-slot maxima of `M ∪ N` at lg_k — nothing lost, nothing invented (`slot & mask`, `max`). -/
theorem union_merge_content (p : Params) (dst src : St ν) (M N : Nat → Prop)
    (hle : dst.lgK ≤ src.lgK) (hd : dst.regs.size = 2^dst.lgK) (hs : src.regs.size = 2^src.lgK)
    (hM : ∀ j, j < 2^dst.lgK → IsMaxAt p dst.lgK M j (dst.regs.getD j 0))
    (hN : ∀ i, i < 2^src.lgK → IsMaxAt p src.lgK N i (src.regs.getD i 0)) :
    (mergeHll dst src).lgK = dst.lgK ∧ (mergeHll dst src).regs.size = 2^dst.lgK ∧
    ∀ j, j < 2^dst.lgK → IsMaxAt p dst.lgK (fun c => M c ∨ N c) j ((mergeHll dst src).regs.getD j 0) :=
  have r := RegsOf.merge ⟨hd, hM⟩ ⟨hs, hN⟩ hle
  ⟨rfl, r.size, r.max⟩

/-- `copy_or_downsample` to a smaller lg_k keeps exactly the source's content, folded. -/
theorem union_downsample_content (p : Params) (src : St ν) (tgt : Nat) (N : Nat → Prop)
    (hlt : tgt < src.lgK) (hs : src.regs.size = 2^src.lgK)
    (hN : ∀ i, i < 2^src.lgK → IsMaxAt p src.lgK N i (src.regs.getD i 0)) :
    (copyOrDownsample p src tgt).lgK = tgt ∧ (copyOrDownsample p src tgt).mode = .hll ∧
    ∀ j, j < 2^tgt → IsMaxAt p tgt N j ((copyOrDownsample p src tgt).regs.getD j 0) := by
  unfold copyOrDownsample
  rw [if_neg (Nat.not_le.2 hlt)]
  exact ⟨rfl, rfl, (RegsOf.downsample ⟨hs, hN⟩ (Nat.le_of_lt hlt)).max⟩

/-- `get_result` is pure and type-independent: it does not touch the union, every target type yields the same lg_k, mode and
registers, and so does a result taken after an estimate call (which only rebuilds the derived counters). -/
theorem union_get_result_pure (p : Params) (u : Un ν) (tt₁ tt₂ : TType)
    (hsz : u.gadget.mode = .hll → u.gadget.regs.size = 2^u.gadget.lgK) (hk : u.gadget.lgK ≤ p.keyBits) :
    (unionResult p u tt₁).lgK = (unionResult p u tt₂).lgK ∧ (unionResult p u tt₁).mode = (unionResult p u tt₂).mode ∧
    (unionResult p u tt₁).regs = (unionResult p u tt₂).regs ∧
    (unionResult p (unionTouch u) tt₁).regs = (unionResult p u tt₁).regs ∧
    (unionResult p (unionTouch u) tt₁).lgK = (unionResult p u tt₁).lgK := by
  obtain ⟨r, rregs⟩ := checkRebuild_fields u.gadget
  obtain ⟨am, ak, -, aregs, -⟩ := copyAs_preserves p u.gadget tt₁ hsz hk
  obtain ⟨bm, bk, -, bregs, -⟩ := copyAs_preserves p u.gadget tt₂ hsz hk
  obtain ⟨-, ck, -, cregs, -⟩ :=
    copyAs_preserves p (checkRebuild u.gadget) tt₁ (by rw [r.mode, rregs, r.lgK]; exact hsz) (by rw [r.lgK]; exact hk)
  exact ⟨ak.trans bk.symm, am.trans bm.symm, aregs.trans bregs.symm, (cregs.trans rregs).trans aregs.symm,
    (ck.trans r.lgK).trans ak.symm⟩

/-- `reset()` gives back a fresh union of lg_max_k — PARTIAL: only if the gadget's lg_k has not been reduced
(missing for the full statement: the code re-creates the gadget at its current lg_k, D14). -/
theorem union_reset_partial (p : Params) (u : Un ν) (hk : u.gadget.lgK = u.lgMaxK) (htt : u.gadget.tt = .h8)
    (hsf : u.gadget.startFull = false) : unionReset p u = newUnion p u.lgMaxK := by
  unfold unionReset newUnion reset newSketch
  simp [hk, htt, hsf]

/-! ## Whole histories without precision reduction -/

/-- the gadget invariant after any history without precision reduction -/
theorem union_gadget_inv (p : Params) (hp : p.listFitsSet) (lgMaxK : Nat) (hkb : lgMaxK ≤ p.keyBits) (ops : List UOp)
    (hok : NoReduction ν p lgMaxK ops) :
    GInv p lgMaxK (uRun p (newUnion p lgMaxK : Un ν) ops).gadget (offered ops) :=
  (GInv.of_uRun p hp lgMaxK hkb ops (newUnion p lgMaxK) [] rfl ((GI.new p lgMaxK).toGInv rfl) hok).1

/-- `union_lgk` — PARTIAL (histories without precision reduction; missing: D1 / D14): the result's lg_k is lg_max_k,
whatever the interleaving of updates, raw items, estimate calls and resets, for every result type. -/
theorem union_lgk_partial (p : Params) (hp : p.listFitsSet) (lgMaxK : Nat) (hkb : lgMaxK ≤ p.keyBits) (ops : List UOp)
    (hok : NoReduction ν p lgMaxK ops) (tt : TType) :
    (unionResult p (uRun p (newUnion p lgMaxK : Un ν) ops) tt).lgK = lgMaxK :=
  ((union_gadget_inv (ν := ν) p hp lgMaxK hkb ops hok).toGI.result hkb tt).1

/-- `union_content` — PARTIAL (same histories): the result holds exactly what ONE sketch of lg_max_k fed every item of every
input (the inputs' own coupon streams and the raw items since the last reset) would hold: in HLL mode every register is the
per-slot maximum of all those coupons, in LIST / SET mode the coupon set is exactly the distinct nonzero coupons — nothing
lost, nothing extra, for every result type. -/
theorem union_content_partial (p : Params) (hp : p.listFitsSet) (lgMaxK : Nat) (hkb : lgMaxK ≤ p.keyBits) (ops : List UOp)
    (hok : NoReduction ν p lgMaxK ops) (tt : TType) :
    let r : St ν := unionResult p (uRun p (newUnion p lgMaxK) ops) tt
    (r.mode = .hll → r.regs.size = 2^lgMaxK ∧
      ∀ slot, slot < 2^lgMaxK → IsMaxAt p lgMaxK (fun c => c ∈ offered ops) slot (r.regs.getD slot 0)) ∧
    (r.mode ≠ .hll → r.items.Nodup ∧ ∀ c, c ∈ r.items ↔ (c ∈ offered ops ∧ c ≠ 0)) :=
  ((union_gadget_inv (ν := ν) p hp lgMaxK hkb ops hok).toGI.result hkb tt).2

/-- Two histories without precision reduction that offered the same nonzero coupons give the same result: same lg_k, same
registers when both results are in HLL mode, same coupon set when both are in LIST / SET mode. -/
theorem union_result_determined (p : Params) (hp : p.listFitsSet) (lgMaxK : Nat) (hkb : lgMaxK ≤ p.keyBits) (ops ops' : List UOp)
    (hok : NoReduction ν p lgMaxK ops) (hok' : NoReduction ν p lgMaxK ops') (tt tt' : TType)
    (hsame : ∀ c, c ≠ 0 → (c ∈ offered ops ↔ c ∈ offered ops')) :
    let r : St ν := unionResult p (uRun p (newUnion p lgMaxK) ops) tt
    let r' : St ν := unionResult p (uRun p (newUnion p lgMaxK) ops') tt'
    r.lgK = r'.lgK ∧ (r.mode = .hll → r'.mode = .hll → r.regs = r'.regs) ∧
    (r.mode ≠ .hll → r'.mode ≠ .hll → ∀ c, c ∈ r.items ↔ c ∈ r'.items) :=
  (union_gadget_inv (ν := ν) p hp lgMaxK hkb ops hok).toGI.result_determined
    (union_gadget_inv (ν := ν) p hp lgMaxK hkb ops' hok').toGI hkb tt tt' hsame

/-- `union_perm_invariant` — PARTIAL (histories without precision reduction and without reset): presenting the same
updates in another order gives the same result. -/
theorem union_perm_invariant_partial (p : Params) (hp : p.listFitsSet) (lgMaxK : Nat) (hkb : lgMaxK ≤ p.keyBits)
    (ops ops' : List UOp) (hperm : ops.Perm ops') (hnr : ∀ o, o ∈ ops → o ≠ .reset)
    (hok : NoReduction ν p lgMaxK ops) (tt : TType) :
    let r : St ν := unionResult p (uRun p (newUnion p lgMaxK) ops) tt
    let r' : St ν := unionResult p (uRun p (newUnion p lgMaxK) ops') tt
    r.lgK = r'.lgK ∧ (r.mode = .hll → r'.mode = .hll → r.regs = r'.regs) ∧
    (r.mode ≠ .hll → r'.mode ≠ .hll → ∀ c, c ∈ r.items ↔ c ∈ r'.items) :=
  union_result_determined (ν := ν) p hp lgMaxK hkb ops ops' hok (fun o ho => hok o (hperm.mem_iff.2 ho)) tt tt
    fun c _ => (offered_perm hperm hnr).mem_iff

/-- `union_estimate_pure` — PARTIAL (histories without precision reduction): an interleaved
get_estimate / get_composite_estimate / bound call does not change any later result. -/
theorem union_estimate_pure_partial (p : Params) (hp : p.listFitsSet) (lgMaxK : Nat) (hkb : lgMaxK ≤ p.keyBits)
    (ops₁ ops₂ : List UOp) (hok : NoReduction ν p lgMaxK (ops₁ ++ ops₂)) (tt : TType) :
    let r : St ν := unionResult p (uRun p (newUnion p lgMaxK) (ops₁ ++ ops₂)) tt
    let r' : St ν := unionResult p (uRun p (newUnion p lgMaxK) (ops₁ ++ [.touch] ++ ops₂)) tt
    r.lgK = r'.lgK ∧ (r.mode = .hll → r'.mode = .hll → r.regs = r'.regs) ∧
    (r.mode ≠ .hll → r'.mode ≠ .hll → ∀ c, c ∈ r.items ↔ c ∈ r'.items) :=
  union_result_determined (ν := ν) p hp lgMaxK hkb _ _ hok (all_touch trivial hok) tt tt
    fun c _ => by rw [offered_touch]

/-- an lvalue update becomes the rvalue update of the same sketch and back -/
def flipRv : UOp → UOp
  | .merge d rv => .merge d (!rv)
  | o => o

/-- lvalue / rvalue independence — PARTIAL (histories without precision reduction): turning any lvalue update into an
rvalue update (adoption shortcut) or back does not change the result. -/
theorem union_lvalue_eq_rvalue_partial (p : Params) (hp : p.listFitsSet) (lgMaxK : Nat) (hkb : lgMaxK ≤ p.keyBits)
    (ops : List UOp) (flip : UOp → Bool) (hok : NoReduction ν p lgMaxK ops) (tt : TType) :
    let ops' := ops.map (fun o => if flip o then flipRv o else o)
    let r : St ν := unionResult p (uRun p (newUnion p lgMaxK) ops) tt
    let r' : St ν := unionResult p (uRun p (newUnion p lgMaxK) ops') tt
    r.lgK = r'.lgK ∧ (r.mode = .hll → r'.mode = .hll → r.regs = r'.regs) ∧
    (r.mode ≠ .hll → r'.mode ≠ .hll → ∀ c, c ∈ r.items ↔ c ∈ r'.items) := by
  have hfl : FlipsOnly (fun o => if flip o then flipRv o else o) :=
    FlipsOnly.ite (fun o => match o with
      | .merge d rv => Or.inr ⟨d, rv, rfl, rfl⟩ | .coupon _ => Or.inl rfl | .touch => Or.inl rfl | .reset => Or.inl rfl) flip
  exact union_result_determined (ν := ν) p hp lgMaxK hkb ops _ hok (all_map_flips (fun _ _ h => h) hfl hok) tt tt
    fun c _ => by rw [offered_map_flips hfl]

/-! Non-vacuity: concrete sketches meet the hypotheses (via C03's `hll_regs_max`), and a concrete union behaves as stated. -/
def exDst : St Unit := run uP (newSketch uP 4 .h8 true) [cPair uP 1 1, cPair uP 5 3]
def exSrc : St Unit := run uP (newSketch uP 6 .h4 true) [cPair uP 3 2, cPair uP 21 4, cPair uP 37 6]
example : exDst.lgK ≤ exSrc.lgK ∧ exDst.regs.size = 2^exDst.lgK ∧ exSrc.regs.size = 2^exSrc.lgK := by decide +kernel
example : ∀ j, j < 2^4 → IsMaxAt uP 4 (fun c => c ∈ [cPair uP 1 1, cPair uP 5 3]) j (exDst.regs.getD j 0) :=
  (hll_regs_max uP (by decide) 4 .h8 true [cPair uP 1 1, cPair uP 5 3] (by decide +kernel)).2
example : ∀ i, i < 2^6 → IsMaxAt uP 6 (fun c => c ∈ [cPair uP 3 2, cPair uP 21 4, cPair uP 37 6]) i (exSrc.regs.getD i 0) :=
  (hll_regs_max uP (by decide) 6 .h4 true [cPair uP 3 2, cPair uP 21 4, cPair uP 37 6] (by decide +kernel)).2
/-- slots 21 and 37 of the lg_k 6 source both fold onto slot 5 of the lg_k 4 gadget: max(3, 4, 6) = 6 -/
example : (mergeHll exDst exSrc).regs.getD 5 0 = 6 ∧ (mergeHll exDst exSrc).regs.getD 3 0 = 2 ∧
    (mergeHll exDst exSrc).regs.getD 1 0 = 1 := by decide +kernel
example : (copyOrDownsample uP exSrc 4).lgK = 4 ∧ (copyOrDownsample uP exSrc 4).regs.getD 5 0 = 6 := by decide +kernel
/-- a healthy history (no precision reduction): union(6) ← `wD` (lg_k 6, nine coupons), raw coupon, estimate, result as HLL_4 -/
def wD : SkDesc := { lgK := 6, tt := .h6, sf := false, cs := (List.range 9).map fun i => cPair uP (2 + 3 * i) (3 + i) }
def exU : Un Unit := uRun uP (newUnion uP 6) [.merge wD false, .coupon (cPair uP 9 7), .touch]
example : exU.gadget.lgK = exU.lgMaxK ∧ exU.gadget.tt = .h8 ∧ exU.gadget.startFull = false ∧
    (exU.gadget.mode = .hll → exU.gadget.regs.size = 2^exU.gadget.lgK) ∧ exU.gadget.lgK ≤ uP.keyBits := by decide +kernel
example : (unionResult uP exU .h4).regs.getD 9 0 = 7 ∧ (unionResult uP exU .h4).regs.getD 2 0 = 3 := by decide +kernel

/-- a history without precision reduction: an HLL-mode input of lg_k = lg_max_k = 6, a LIST-mode input of lg_k 9, raw items,
an estimate call and a reset in between -/
def wL : SkDesc := { lgK := 9, tt := .h4, sf := false, cs := [cPair uP 300 2, cPair uP 5 1, cPair uP 300 2] }
def exOps : List UOp :=
  [.merge wL false, .coupon (cPair uP 9 7), .merge wD true, .touch, .coupon (cPair uP 70 3), .reset, .merge wC true, .merge wL false]
example : NoReduction Unit uP 6 exOps := by
  intro op hop
  simp only [exOps, List.mem_cons, List.not_mem_nil, or_false] at hop
  rcases hop with rfl | rfl | rfl | rfl | rfl | rfl | rfl | rfl <;> decide +kernel
example : uP.listFitsSet ∧ 6 ≤ uP.keyBits := by decide
example : (unionResult uP (uRun uP (newUnion uP 6 : Un Unit) exOps) .h6).mode = .hll ∧
    (unionResult uP (uRun uP (newUnion uP 6 : Un Unit) exOps) .h6).regs.getD (300 % 64) 0 = 2 := by decide +kernel

end DS.Hll
