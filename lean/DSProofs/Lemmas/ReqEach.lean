/- Association lists (the stores of a history): what holds of every object, of objects under the same id.  Properties of single
   sketches (`OpsPres`), and of single compactors together with the coin cursor (`CPres`), that every operation keeps: lifted once to
   every object of every history.  Instances here: no compactor flips a coin that derives from no draw (`coin_pres`, C08); the coin
   cursor only moves forward (`mono_pres`). -/
import DSProofs.Lemmas.ReqMerge
namespace DS.Req

variable {ρ : Type}

theorem AL_get_set {α : Type} (st : List (Nat × α)) (id id' : Nat) (a : α) :
    AL.get (AL.set st id a) id' = if id = id' then some a else AL.get st id' := by
  induction st with
  | nil => rfl
  | cons x t ih =>
    simp only [AL.set, AL.get]
    by_cases h1 : x.1 = id
    · subst h1; rw [if_pos rfl, AL.get]; split <;> rfl
    · rw [if_neg h1, AL.get, ih]
      by_cases h2 : x.1 = id'
      · have h3 : ¬ id = id' := fun e => h1 (h2.trans e.symm)
        simp only [if_pos h2, if_neg h3]
      · simp only [if_neg h2]

def AllSk (Q : Sketch ρ → Prop) (st : Store ρ) : Prop := ∀ id s, st.get id = some s → Q s

theorem AllSk_set {Q : Sketch ρ → Prop} {st : Store ρ} (h : AllSk Q st) (id : Nat) (s : Sketch ρ) (hs : Q s) : AllSk Q (st.set id s) := by
  intro id' s' hg
  simp only [Store.get, Store.set, AL_get_set] at hg
  split at hg
  · have : s = s' := by simpa using hg
    subst this; exact hs
  · exact h id' s' hg

def ALRel {α β : Type} (R : α → β → Prop) (s : List (Nat × α)) (t : List (Nat × β)) : Prop :=
  ∀ id, match AL.get s id, AL.get t id with
    | none, none => True
    | some a, some b => R a b
    | _, _ => False

theorem ALRel_nil {α β : Type} {R : α → β → Prop} : ALRel R [] [] := fun _ => trivial

theorem ALRel_get {α β : Type} {R : α → β → Prop} {s : List (Nat × α)} {t : List (Nat × β)} (h : ALRel R s t) (id : Nat) :
    (AL.get s id = none ∧ AL.get t id = none) ∨ (∃ a b, AL.get s id = some a ∧ AL.get t id = some b ∧ R a b) := by
  have := h id
  cases h1 : AL.get s id <;> cases h2 : AL.get t id <;> rw [h1, h2] at this
  · exact Or.inl ⟨rfl, rfl⟩
  · exact this.elim
  · exact this.elim
  · exact Or.inr ⟨_, _, rfl, rfl, this⟩

theorem ALRel_get_some {α β : Type} {R : α → β → Prop} {s : List (Nat × α)} {t : List (Nat × β)} (h : ALRel R s t) {id : Nat} {a : α}
    (hg : AL.get s id = some a) : ∃ b, AL.get t id = some b ∧ R a b := by
  rcases ALRel_get h id with ⟨g, _⟩ | ⟨_, b, g, g2, r⟩ <;> cases g.symm.trans hg
  exact ⟨b, g2, r⟩

theorem ALRel_set {α β : Type} {R : α → β → Prop} {s : List (Nat × α)} {t : List (Nat × β)} (h : ALRel R s t) (id : Nat)
    {a : α} {b : β} (hab : R a b) : ALRel R (AL.set s id a) (AL.set t id b) := by
  intro id'
  rw [AL_get_set, AL_get_set]
  by_cases e : id = id'
  · rw [if_pos e, if_pos e]; exact hab
  · rw [if_neg e, if_neg e]; exact h id'

theorem AL_set_get_self {α : Type} (m : List (Nat × α)) (id : Nat) (b : α) (h : AL.get m id = some b) : AL.set m id b = m := by
  induction m with
  | nil => cases h
  | cons x t ih =>
    simp only [AL.get] at h
    simp only [AL.set]
    by_cases hi : x.1 = id
    · rw [if_pos hi] at h ⊢; rw [← Option.some.inj h]
    · rw [if_neg hi] at h ⊢; rw [ih h]

def isMerge : Op → Bool
  | .merge _ _ => true
  | _ => false

/-- `Q`, a property of a sketch, and `A`, a property of the coin cursor, are kept by every public operation; by `merge` under the side
condition `M` (an instance may need one: `coin_pres` needs the constructor to draw its coin).  `A` is unary here, while `CPres.A`
relates the cursor before and after: `CPres.ops a0` fixes its first argument. -/
structure OpsPres (T : Tun) (F : SecFns ρ) (M : Prop) (Q : Sketch ρ → Prop) (A : Acc → Prop) : Prop where
  new : ∀ k hra acc, A acc → Q (Sketch.new T F k hra acc.peek) ∧ A (acc.drawIf T.initCoinRandom 0)
  update : ∀ s x acc, Q s → A acc → Q (s.update T F x acc).1 ∧ A (s.update T F x acc).2
  merge : M → ∀ s o acc r, Q s → Q o → A acc → s.merge T F o acc = some r → Q r.1 ∧ A r.2
  rank : ∀ s, Q s → Q s.afterRank
  view : ∀ s, Q s → Q s.afterView

theorem stepOp_pres {T : Tun} {F : SecFns ρ} {M : Prop} {Q : Sketch ρ → Prop} {A : Acc → Prop} (hp : OpsPres T F M Q A)
    (st : Store ρ) (acc : Acc) (op : Op) (hop : isMerge op = true → M) (hq : AllSk Q st) (ha : A acc) : AllSk Q (stepOp T F st acc op).1 ∧ A (stepOp T F st acc op).2 := by
  -- the branches of `stepOp` in the order of its definition: 1 `new`; 2 `upd`; 5 `merge` of two present objects that succeeds; 8 `copy`;
  -- 10 `rankq`; 12 `viewq`.  The others (object absent, `i = j`, merge refused) leave store and cursor as they are.
  fun_cases stepOp T F st acc op
  case case1 id k hra => exact ⟨AllSk_set hq id _ (hp.new k hra acc ha).1, (hp.new k hra acc ha).2⟩
  case case2 id x s hg _ => exact ⟨AllSk_set hq id _ (hp.update s x acc (hq id s hg) ha).1, (hp.update s x acc (hq id s hg) ha).2⟩
  case case5 i j _ a b hb hga r hm =>
    have := hp.merge (hop rfl) a b acc r (hq i a hga) (hq j b hb) ha hm
    exact ⟨AllSk_set hq i _ this.1, this.2⟩
  case case8 i j s hg => exact ⟨AllSk_set hq j _ (hq i s hg), ha⟩
  case case10 id s hg => exact ⟨AllSk_set hq id _ (hp.rank s (hq id s hg)), ha⟩
  case case12 id s hg => exact ⟨AllSk_set hq id _ (hp.view s (hq id s hg)), ha⟩
  all_goals exact ⟨hq, ha⟩

theorem runOps_pres {T : Tun} {F : SecFns ρ} {M : Prop} {Q : Sketch ρ → Prop} {A : Acc → Prop} (hp : OpsPres T F M Q A)
    (ops : List Op) (hops : ∀ op ∈ ops, isMerge op = true → M) :
    ∀ (st : Store ρ) (acc : Acc), AllSk Q st → A acc →
      AllSk Q (runOps T F st acc ops).1 ∧ A (runOps T F st acc ops).2 := by
  induction ops with
  | nil => intro st acc hq ha; exact ⟨hq, ha⟩
  | cons op ops ih =>
    intro st acc hq ha
    have s1 := stepOp_pres hp st acc op (hops op (List.mem_cons_self ..)) hq ha
    exact ih (fun o ho => hops o (List.mem_cons_of_mem _ ho)) _ _ s1.1 s1.2

theorem run_pres {T : Tun} {F : SecFns ρ} {M : Prop} {Q : Sketch ρ → Prop} {A : Acc → Prop} (hp : OpsPres T F M Q A)
    (ops : List Op) (hops : ∀ op ∈ ops, isMerge op = true → M) (coins : List Bool) (ha : A (Acc.init coins)) :
    AllSk Q (run T F ops coins).1 ∧ A (run T F ops coins).2 :=
  runOps_pres hp ops hops [] _ (fun _ _ hg => nomatch hg) ha

/-- Closure conditions, at the level of one compactor and of one step of the coin cursor, that lift to every level above
(the loops, the sketch operations, whole histories).
`P k c`, a property of a compactor `c` of a sketch whose parameter `k` satisfies `K`, depends only on the section schedule, `state` and
`rnd` of `c`, and is kept by everything that changes these; by `state_ |= other.state_` if `M` holds.
`A a b`, a reflexive and transitive relation between the coin cursor before and after, holds of a constructor's draw, and of the
bookkeeping of a compaction of a compactor that satisfies `P`. -/
structure CPres (T : Tun) (F : SecFns ρ) (M : Prop) (K : Nat → Prop) (P : Nat → Compactor ρ → Prop) (A : Acc → Acc → Prop) : Prop where
  knew : ∀ k0, K (effectiveK T k0)
  fresh : ∀ {k}, K k → ∀ hra lg d, P k (Compactor.mkC T F hra lg k d)
  congr : ∀ {k c c'}, P k c → c'.ssRaw = c.ssRaw → c'.sectionSize = c.sectionSize → c'.state = c.state → c'.rnd = c.rnd → P k c'
  ensure : ∀ {k c}, K k → P k c → P k (c.ensureEnough T F).1
  step : ∀ {k c}, P k c → P k { c with state := c.state + 1, rnd := if c.state % 2 = 1 then c.rnd else true }
  orState : M → ∀ {k c} (o : Compactor ρ), P k c → P k (c.orState o)
  refl : ∀ a, A a a
  trans : ∀ {a b c}, A a b → A b c → A a c
  draw : ∀ a b lvl, A a (a.drawIf b lvl)
  compact : ∀ {k c} (nxt : Compactor ρ) (d : Bool) (a : Acc), P k c →
    A a (a.afterCompact c.lgWeight (c.compact T F nxt d).fresh (c.compact T F nxt d).oddConst (c.compact T F nxt d).rangeOk)

/-- the sketch-level form of `K` and `P`: what `CPres.ops` shows of every object of a history -/
def SkEach (K : Nat → Prop) (P : Nat → Compactor ρ → Prop) (s : Sketch ρ) : Prop :=
  K s.k ∧ ∀ c ∈ s.compactors, P s.k c

namespace CPres

variable {T : Tun} {F : SecFns ρ} {M : Prop} {K : Nat → Prop} {P : Nat → Compactor ρ → Prop} {A : Acc → Acc → Prop}
  (hP : CPres T F M K P A)
include hP

theorem sort {k : Nat} {c : Compactor ρ} (h : P k c) : P k c.sort := by
  rw [sort_eq]; exact hP.congr h rfl rfl rfl rfl

theorem sortIf0 {k : Nat} {c : Compactor ρ} (l : Nat) (h : P k c) : P k (sortIf0 l c) := by
  rcases sortIf0_cases l c with e | e <;> rw [e]
  · exact hP.sort h
  · exact h

theorem ensureLoop {k : Nat} (hk : K k) (fuel : Nat) {c : Compactor ρ} (h : P k c) : P k (Compactor.ensureLoop T F fuel c) :=
  ensureLoop_ind (fun _ => hP.ensure hk) fuel h

theorem cmerge (hM : M) {k : Nat} (hk : K k) {c : Compactor ρ} (o : Compactor ρ) (h : P k c) : P k (c.merge T F o) := by
  have := hP.ensureLoop hk ((c.orState o).state + 2) (hP.orState hM o h)
  simp only [Compactor.merge]
  generalize Compactor.ensureLoop T F _ _ = c2 at this ⊢
  exact hP.congr this rfl rfl rfl rfl

theorem next {k : Nat} (hk : K k) (hra : Bool) (h : Nat) {rest : List (Compactor ρ)} (d : Bool) (hr : ∀ c ∈ rest, P k c) :
    ∀ c ∈ nextOf T F hra k h rest d :: rest.tail, P k c := by
  cases rest with
  | nil => exact List.forall_mem_cons.2 ⟨hP.fresh hk hra (h + 1) d, fun _ hc => nomatch hc⟩
  | cons x t => exact hr

theorem compactStep {k : Nat} (hk : K k) {hra : Bool} {h : Nat} {c x : Compactor ρ} {rest mid : List (Compactor ρ)} {ctr ctr2 : Ctr}
    {acc acc2 : Acc} (hc : P k c) (hr : ∀ c ∈ rest, P k c) (hs : compactStep T F hra k h c rest ctr acc = (x, mid, ctr2, acc2)) :
    P k x ∧ (∀ c ∈ mid, P k c) ∧ A acc acc2 := by
  cases hs
  have hn := List.forall_mem_cons.1 (hP.next hk hra h acc.peek hr)
  -- `compact` steps the state of the level and may grow its sections; the next level only receives items
  exact ⟨hP.ensure hk (hP.congr (hP.step (hP.sortIf0 h hc)) rfl rfl rfl rfl), List.forall_mem_cons.2 ⟨hP.congr hn.1 rfl rfl rfl rfl, hn.2⟩,
    hP.trans (growDraw_eq .. ▸ hP.draw ..) (hP.compact _ _ _ (hP.sortIf0 h hc))⟩

theorem compressLoop {k : Nat} (hk : K k) (hra : Bool) (fuel h : Nat) (todo : List (Compactor ρ)) (ctr : Ctr) (acc : Acc)
    (ht : ∀ c ∈ todo, P k c) :
    (∀ c ∈ (compressLoop T F hra k fuel h todo ctr acc).1, P k c) ∧ A acc (compressLoop T F hra k fuel h todo ctr acc).2.2 := by
  induction fuel generalizing h todo ctr acc with
  | zero => exact ⟨ht, hP.refl _⟩
  | succ fuel ih =>
    cases todo with
    | nil => exact ⟨ht, hP.refl _⟩
    | cons c rest =>
      obtain ⟨hc, hr⟩ := List.forall_mem_cons.1 ht
      by_cases hfull : c.nomCap T ≤ c.items.length
      · rcases hs : DS.Req.compactStep T F hra k h c rest ctr acc with ⟨x, mid, ctr2, acc2⟩
        obtain ⟨h1, h2, ho⟩ := hP.compactStep hk hc hr hs
        rw [compressLoop_full fuel hfull hs]
        split
        · exact ⟨List.forall_mem_cons.2 ⟨h1, h2⟩, ho⟩
        · have IH := ih (h + 1) mid ctr2 acc2 h2
          exact ⟨List.forall_mem_cons.2 ⟨h1, IH.1⟩, hP.trans ho IH.2⟩
      · rw [compressLoop_notFull _ _ _ _ _ _ _ _ _ hfull]
        have IH := ih (h + 1) rest ctr acc hr
        exact ⟨List.forall_mem_cons.2 ⟨hc, IH.1⟩, IH.2⟩

theorem compress {s : Sketch ρ} (acc : Acc) (h : SkEach K P s) :
    SkEach K P (s.compress T F acc).1 ∧ A acc (s.compress T F acc).2 :=
  have := hP.compressLoop h.1 s.hra (sumItems s.compactors + s.compactors.length + 1) 0 s.compactors
    { retained := s.numRetained, maxNom := s.maxNomSize } acc h.2
  ⟨⟨h.1, this.1⟩, this.2⟩

theorem new (k : Nat) (hra d : Bool) : SkEach K P (Sketch.new T F k hra d) :=
  ⟨hP.knew k, by
    show ∀ c ∈ [] ++ [Compactor.mkC T F hra 0 (effectiveK T k) d], P (effectiveK T k) c
    intro c hc; rw [List.mem_singleton.1 hc]; exact hP.fresh (hP.knew k) hra 0 d⟩

theorem append1 {s : Sketch ρ} (x : Int) (h : SkEach K P s) : SkEach K P (s.append1 x) := by
  refine ⟨h.1, ?_⟩
  show ∀ c ∈ appendLevel0 s.compactors x, P s.k c
  cases hc : s.compactors with
  | nil => exact fun _ hc => nomatch hc
  | cons c0 t =>
    obtain ⟨h0, ht⟩ := List.forall_mem_cons.1 (hc ▸ h.2)
    exact List.forall_mem_cons.2 ⟨hP.congr h0 rfl rfl rfl rfl, ht⟩

theorem update {s : Sketch ρ} (x : Int) (acc : Acc) (h : SkEach K P s) :
    SkEach K P (s.update T F x acc).1 ∧ A acc (s.update T F x acc).2 := by
  simp only [Sketch.update]
  split
  · exact hP.compress acc (hP.append1 x h)
  · exact ⟨hP.append1 x h, hP.refl _⟩

theorem growTo (target fuel : Nat) (s : Sketch ρ) (acc : Acc) (h : SkEach K P s) :
    SkEach K P (growTo T F fuel target s acc).1 ∧ A acc (growTo T F fuel target s acc).2 := by
  induction fuel generalizing s acc with
  | zero => exact ⟨h, hP.refl _⟩
  | succ n ih =>
    simp only [DS.Req.growTo]
    split
    · have IH := ih (s.grow T F acc.peek) (acc.drawIf T.initCoinRandom s.compactors.length) ⟨h.1, by
        show ∀ c ∈ s.compactors ++ [Compactor.mkC T F s.hra s.compactors.length s.k acc.peek], P s.k c
        intro c hm
        rcases List.mem_append.1 hm with hm | hm
        · exact h.2 c hm
        · rw [List.mem_singleton.1 hm]; exact hP.fresh h.1 _ _ _⟩
      exact ⟨IH.1, hP.trans (hP.draw ..) IH.2⟩
    · exact ⟨h, hP.refl _⟩

theorem mergeLevels (hM : M) {k : Nat} (hk : K k) (cs os : List (Compactor ρ)) (h : ∀ c ∈ cs, P k c) :
    ∀ c ∈ mergeLevels T F cs os, P k c := by
  induction cs generalizing os with
  | nil => cases os <;> exact fun _ hc => nomatch hc
  | cons c t ih =>
    cases os with
    | nil => exact h
    | cons o ot =>
      obtain ⟨h0, ht⟩ := List.forall_mem_cons.1 h
      exact List.forall_mem_cons.2 ⟨hP.cmerge hM hk o h0, ih ot ht⟩

theorem mergePre (hM : M) {s : Sketch ρ} (o : Sketch ρ) (acc : Acc) (h : SkEach K P s) :
    SkEach K P (s.mergePre T F o acc).1 ∧ A acc (s.mergePre T F o acc).2 := by
  obtain ⟨⟨hk, hc⟩, ho⟩ := hP.growTo o.compactors.length o.compactors.length s acc h
  exact ⟨⟨hk, hP.mergeLevels hM hk _ o.compactors hc⟩, ho⟩

theorem merge (hM : M) {s : Sketch ρ} (o : Sketch ρ) (acc : Acc) (r : Sketch ρ × Acc) (h : SkEach K P s)
    (hr : s.merge T F o acc = some r) : SkEach K P r.1 ∧ A acc r.2 := by
  have hp := hP.mergePre hM o acc h
  obtain ⟨_, ⟨_, rfl⟩ | ⟨_, ⟨_, rfl⟩ | ⟨_, rfl⟩⟩⟩ := merge_some hr
  · exact ⟨h, hP.refl _⟩
  · have := hP.compress (s.mergePre T F o acc).2 hp.1
    exact ⟨this.1, hP.trans hp.2 this.2⟩
  · exact hp

theorem afterRank {s : Sketch ρ} (h : SkEach K P s) : SkEach K P s.afterRank :=
  ⟨h.1, List.forall_mem_map.2 fun c hc => hP.sort (h.2 c hc)⟩

theorem afterView {s : Sketch ρ} (h : SkEach K P s) : SkEach K P s.afterView := by
  refine ⟨h.1, ?_⟩
  show ∀ c ∈ sortLevel0 s.compactors, P s.k c
  cases hc : s.compactors with
  | nil => exact fun _ hc => nomatch hc
  | cons c0 t =>
    obtain ⟨h0, ht⟩ := List.forall_mem_cons.1 (hc ▸ h.2)
    exact List.forall_mem_cons.2 ⟨hP.sort h0, ht⟩

theorem ops (a0 : Acc) : OpsPres T F M (SkEach K P) (A a0) where
  new k hra acc ha := ⟨hP.new k hra acc.peek, hP.trans ha (hP.draw ..)⟩
  update _ x acc hq ha := ⟨(hP.update x acc hq).1, hP.trans ha (hP.update x acc hq).2⟩
  merge hM _ o acc r hq _ ha hr := ⟨(hP.merge hM o acc r hq hr).1, hP.trans ha (hP.merge hM o acc r hq hr).2⟩
  rank _ hq := hP.afterRank hq
  view _ hq := hP.afterView hq

end CPres

/-- `rnd` (ghost) says that the coin held derives from a draw.  A compaction in an odd state flips the coin it holds instead of
drawing, so that is when the origin of the coin matters. -/
def OddOK (c : Compactor ρ) : Prop := c.state % 2 = 1 → c.rnd = true

theorem drawIf_oddConst (a : Acc) (b : Bool) (lvl : Nat) : (a.drawIf b lvl).oddConst = a.oddConst := by cases b <;> rfl

theorem afterCompact_oddConst (a : Acc) (lvl : Nat) (f o k : Bool) : (a.afterCompact lvl f o k).oddConst = (a.oddConst || o) := by
  cases f <;> rfl

theorem compact_oddConst {T : Tun} {F : SecFns ρ} {c : Compactor ρ} {nxt : Compactor ρ} {d : Bool} (h : OddOK c) :
    (c.compact T F nxt d).oddConst = false := by
  show (decide (c.state % 2 = 1) && !c.rnd) = false
  by_cases hs : c.state % 2 = 1
  · simp [h hs]
  · simp [hs]

/-- `OddOK`, and every coin is drawn once the constructor draws: kept by everything; by
`state_ |= other.state_` (`merge` keeps the own coin) only because then the own coin is drawn already.  Then no compaction sets the ghost flag. -/
theorem coin_pres (T : Tun) (F : SecFns ρ) :
    CPres T F (T.initCoinRandom = true) (fun _ => True) (fun _ c => OddOK c ∧ (T.initCoinRandom = true → c.rnd = true))
      (fun a b => b.oddConst = a.oddConst) where
  knew _ := trivial
  fresh _ hra lg d := by
    rw [mkC_eq]; exact ⟨fun ho => absurd (show 0 % 2 = 1 from ho) (by decide), fun hf => hf⟩
  congr h _ _ e3 e4 := ⟨fun ho => e4 ▸ h.1 (e3 ▸ ho), fun hf => e4.trans (h.2 hf)⟩
  ensure {_ c} _ h := by
    have e := ensureEnough_same T F c
    exact ⟨fun ho => e.rnd.trans (h.1 (e.state ▸ ho)), fun hf => e.rnd.trans (h.2 hf)⟩
  step {_ c} h := by
    refine ⟨fun ho => ?_, fun hf => ?_⟩
    · have : ¬ c.state % 2 = 1 := fun e => by have : (c.state + 1) % 2 = 1 := ho; omega
      exact if_neg this
    · show (if c.state % 2 = 1 then c.rnd else true) = true
      split
      · exact h.2 hf
      · rfl
  orState hM _ _ _ h := ⟨fun _ => h.2 hM, h.2⟩
  refl _ := rfl
  trans h1 h2 := h2.trans h1
  draw := drawIf_oddConst
  compact _ _ _ h := by rw [afterCompact_oddConst, compact_oddConst h.1, Bool.or_false]

theorem run_odd_gen (T : Tun) (F : SecFns ρ) (ops : List Op) (hops : ∀ op ∈ ops, isMerge op = true → T.initCoinRandom = true)
    (coins : List Bool) : (run T F ops coins).2.oddConst = false :=
  (run_pres ((coin_pres T F).ops (Acc.init coins)) ops hops coins rfl).2

theorem run_odd_noMerge (T : Tun) (F : SecFns ρ) (ops : List Op) (hops : ∀ op ∈ ops, isMerge op = false) (coins : List Bool) :
    (run T F ops coins).2.oddConst = false :=
  run_odd_gen T F ops (fun op ho hm => absurd (hops op ho ▸ hm) (by decide)) coins

theorem run_odd_drawn {T : Tun} (F : SecFns ρ) (hf : T.initCoinRandom = true) (ops : List Op) (coins : List Bool) :
    (run T F ops coins).2.oddConst = false :=
  run_odd_gen T F ops (fun _ _ _ => hf) coins

/-- what every operation does to the coin cursor, whatever the coins are: the trace of draw levels only grows (`pre`), the supply is
untouched, a cursor whose trace is as long as its count stays so.  `odd` goes backwards: the ghost flag is never cleared, so if it is
off at the end it was off all along. -/
structure AccMono (a b : Acc) : Prop where
  pre : a.lv <+: b.lv
  coins : b.coins = a.coins
  lvlen : a.lv.length = a.used → b.lv.length = b.used
  odd : b.oddConst = false → a.oddConst = false

theorem AccMono.refl (a : Acc) : AccMono a a := ⟨List.prefix_refl _, rfl, fun h => h, fun h => h⟩
theorem AccMono.trans {a b c : Acc} (h1 : AccMono a b) (h2 : AccMono b c) : AccMono a c :=
  ⟨h1.pre.trans h2.pre, h2.coins.trans h1.coins, fun h => h2.lvlen (h1.lvlen h), fun h => h1.odd (h2.odd h)⟩

theorem AccMono.draw (a : Acc) (lvl : Nat) : AccMono a (a.draw lvl) :=
  ⟨List.prefix_append _ _, rfl, fun h => (List.length_append ..).trans (congrArg (· + 1) h), id⟩

theorem drawIf_mono (a : Acc) (b : Bool) (lvl : Nat) : AccMono a (a.drawIf b lvl) := by
  cases b
  · exact .refl a
  · exact .draw a lvl

/-- `afterCompact` is `drawIf fresh`, then the two flags -/
theorem afterCompact_mono (a : Acc) (lvl : Nat) (f o k : Bool) : AccMono a (a.afterCompact lvl f o k) :=
  (drawIf_mono a f lvl).trans ⟨List.prefix_refl _, rfl, id, fun h => (Bool.or_eq_false_iff.1 h).1⟩

theorem mono_pres (T : Tun) (F : SecFns ρ) : CPres T F True (fun _ => True) (fun _ _ => True) AccMono where
  knew _ := trivial
  fresh _ _ _ _ := trivial
  congr _ _ _ _ _ := trivial
  ensure _ _ := trivial
  step _ := trivial
  orState _ _ _ _ _ := trivial
  refl := AccMono.refl
  trans := AccMono.trans
  draw := drawIf_mono
  compact _ _ a _ := afterCompact_mono a _ _ _ _

theorem compressLoop_mono (T : Tun) (F : SecFns ρ) (hra : Bool) (k fuel h : Nat) (todo : List (Compactor ρ)) (ctr : Ctr) (acc : Acc) :
    AccMono acc (compressLoop T F hra k fuel h todo ctr acc).2.2 :=
  ((mono_pres T F).compressLoop trivial hra fuel h todo ctr acc fun _ _ => trivial).2

end DS.Req
