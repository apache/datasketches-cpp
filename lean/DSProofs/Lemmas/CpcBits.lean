/- Bits of the conditional OR / XOR folds over code lists, of `surprises` and of `ctz64`. -/
import DSProofs.Lemmas.CpcArith
namespace DS.Cpc

theorem testBit_foldl_or_any (f : α → Nat) (l : List α) (a j : Nat) :
    (l.foldl (fun m x => m ||| f x) a).testBit j = (a.testBit j || l.any fun x => (f x).testBit j) := by
  induction l generalizing a with
  | nil => simp
  | cons x t ih => simp [ih, Nat.testBit_or, Bool.or_assoc]

theorem testBit_foldl_or_if (p : α → Prop) [DecidablePred p] (f : α → Nat) (l : List α) (a j : Nat) :
    (l.foldl (fun m x => if p x then m ||| f x else m) a).testBit j
      = (a.testBit j || l.any fun x => decide (p x) && (f x).testBit j) := by
  induction l generalizing a with
  | nil => simp
  | cons x t ih => by_cases hx : p x <;> simp [ih, hx, Nat.testBit_or, Bool.or_assoc]

/-- The conjunct `c < 64` is there because no code touches a bit at or beyond 64. -/
theorem testBit_foldl_xor (l : List Nat) (hn : l.Nodup) (r c : Nat) (b : Nat) :
    (l.foldl (fun m rc => if rc / 64 = r then m ^^^ 2^(rc % 64) else m) b).testBit c
      = (b.testBit c ^^ decide (c < 64 ∧ r * 64 + c ∈ l)) := by
  induction l generalizing b with
  | nil => simp
  | cons x t ih =>
    rw [List.nodup_cons] at hn
    simp only [List.foldl_cons]
    rw [ih hn.2]
    by_cases hx : x / 64 = r
    · simp only [hx, if_true, Nat.testBit_xor, Nat.testBit_two_pow, List.mem_cons]
      by_cases hcx : x % 64 = c
      · have hxe : r * 64 + c = x := by omega
        have hc : c < 64 := by omega
        simp [hcx, hxe, hn.1, hc]
      · have hne : r * 64 + c ≠ x := by omega
        simp [hcx, hne]
    · have hne : c < 64 → r * 64 + c ≠ x := by omega
      by_cases hc : c < 64 <;> simp [hx, hc, hne]

theorem testBit_foldl_or (l : List Nat) (r c : Nat) (hc : c < 64) (b : Nat) :
    (l.foldl (fun m rc => if rc / 64 = r then m ||| 2^(rc % 64) else m) b).testBit c
      = (b.testBit c || decide (r * 64 + c ∈ l)) := by
  rw [testBit_foldl_or_if]
  congr 1
  rw [Bool.eq_iff_iff, List.any_eq_true, decide_eq_true_eq]
  simp only [Nat.testBit_two_pow, Bool.and_eq_true, decide_eq_true_eq]
  constructor
  · rintro ⟨x, hx, h1, h2⟩; rwa [(rc_eq_iff r c x hc).2 ⟨h1, h2⟩]
  · intro h; exact ⟨_, h, rc_div r c hc, rc_mod r c hc⟩

theorem byteOfPairs_lt (l : List Nat) (r : Nat) (hl : ∀ rc ∈ l, rc % 64 < 8) : byteOfPairs l r < 2^8 := by
  have : ∀ b, b < 2^8 → l.foldl (fun b rc => if rc / 64 = r then b ||| 2^(rc % 64) else b) b < 2^8 := by
    induction l with
    | nil => exact fun b hb => hb
    | cons x t ih =>
      intro b hb
      rw [List.foldl_cons]
      apply ih (fun rc h => hl rc (List.mem_cons_of_mem _ h))
      split
      · exact Nat.or_lt_two_pow hb (Nat.pow_lt_pow_right (by decide) (hl x List.mem_cons_self))
      · exact hb
  exact this 0 (by decide)

theorem or_two_pow_eq_self_iff (x i : Nat) : x ||| 2^i = x ↔ x.testBit i = true := by
  constructor
  · intro h
    have := congrArg (fun y => y.testBit i) h
    simp only [Nat.testBit_or, Nat.testBit_two_pow_self, Bool.or_true] at this
    exact this.symm
  · intro h
    apply Nat.eq_of_testBit_eq
    intro j
    rw [Nat.testBit_or, Nat.testBit_two_pow]
    by_cases hij : i = j
    · subst hij; simp [h]
    · simp [hij]

theorem testBit_255 (j : Nat) : (255 : Nat).testBit j = decide (j < 8) := by
  have : (255 : Nat) = 2^8 - 1 := by decide
  rw [this, Nat.testBit_two_pow_sub_one]

theorem testBit_surprises (off m c : Nat) (hc : c < 64) :
    (surprises off m).testBit c =
      if c < off then !m.testBit c else if c < off + 8 then false else m.testBit c := by
  unfold surprises
  simp only [Nat.testBit_xor, Nat.testBit_and, Nat.testBit_shiftLeft, Nat.testBit_two_pow_sub_one, testBit_255]
  by_cases h1 : c < off
  · have : ¬ (c ≥ off) := by omega
    simp [h1, hc, this]
  · by_cases h2 : c < off + 8
    · have h3 : c ≥ off := by omega
      have h4 : c - off < 8 := by omega
      simp [h1, h2, hc, h3, h4]
    · have h3 : c ≥ off := by omega
      have h4 : ¬ (c - off < 8) := by omega
      simp [h1, h2, hc, h3, h4]

theorem testBit_surprises_ge (off m c : Nat) (hc : 64 ≤ c) (ho : off ≤ 56) : (surprises off m).testBit c = false := by
  unfold surprises
  simp only [Nat.testBit_xor, Nat.testBit_and, Nat.testBit_shiftLeft, Nat.testBit_two_pow_sub_one, testBit_255]
  have h1 : ¬ (c < off) := by omega
  have h2 : ¬ (c < 64) := by omega
  have h3 : c ≥ off := by omega
  have h4 : ¬ (c - off < 8) := by omega
  simp [h1, h2, h3, h4]

theorem ctzGo_spec (x : Nat) (f i c : Nat) (h1 : i ≤ c) (h2 : c < ctzGo x f i) : x.testBit c = false := by
  induction f generalizing i with
  | zero => simp [ctzGo] at h2; omega
  | succ f ih =>
    simp only [ctzGo] at h2
    split at h2
    · omega
    · rename_i hb
      by_cases hic : i = c
      · subst hic; simpa using hb
      · exact ih (i + 1) (by omega) h2

theorem ctz64_spec (x c : Nat) (h : c < ctz64 x) : x.testBit c = false :=
  ctzGo_spec x 64 0 c (Nat.zero_le _) h

theorem ctzGo_le (x f i : Nat) : ctzGo x f i ≤ i + f := by
  induction f generalizing i with
  | zero => simp [ctzGo]
  | succ f ih =>
    simp only [ctzGo]; split
    · omega
    · have := ih (i + 1); omega

theorem ctz64_le (x : Nat) : ctz64 x ≤ 64 := by
  have := ctzGo_le x 64 0; unfold ctz64; omega

theorem lt_two_pow_of_bits (x n : Nat) (h : ∀ i, n ≤ i → x.testBit i = false) : x < 2^n :=
  Nat.lt_pow_two_of_testBit x (fun i hi => h i hi)

end DS.Cpc
