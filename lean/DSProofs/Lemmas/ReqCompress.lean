/- Lists of compactors: the sums over them, what `sort`, `append` and the constructors do to one of them, and `compressLoop`, which
   keeps the structural invariants (`CsInv`), the bookkeeping and the total weight: `LoopSpec`. -/
import DSProofs.Lemmas.ReqCompact
namespace DS.Req

variable {ρ : Type}

def CsInv (T : Tun) (hra : Bool) : Nat → List (Compactor ρ) → Prop
  | _, [] => True
  | h, c :: t => CInv T hra h c ∧ CsInv T hra (h + 1) t

/-- no compactor is empty: what the iterator in the shape that starts inside compactor 0 and does not skip empty ones needs
(the sketch invariant of `ReqSketch` gives it as soon as an item was fed) -/
def AllNE (cs : List (Compactor ρ)) : Prop := ∀ c ∈ cs, c.items ≠ []

def totalW (cs : List (Compactor ρ)) : Nat := weightP (fun _ => true) cs

@[simp] theorem sumItems_nil : sumItems ([] : List (Compactor ρ)) = 0 := rfl
@[simp] theorem sumItems_cons (c : Compactor ρ) (t) : sumItems (c :: t) = c.items.length + sumItems t := by
  simp [sumItems, Compactor.numItems]
@[simp] theorem sumCap_nil (T : Tun) : sumCap T ([] : List (Compactor ρ)) = 0 := rfl
@[simp] theorem sumCap_cons (T : Tun) (c : Compactor ρ) (t) : sumCap T (c :: t) = c.nomCap T + sumCap T t := by
  simp [sumCap]
theorem sumCap_append (T : Tun) (a b : List (Compactor ρ)) : sumCap T (a ++ b) = sumCap T a + sumCap T b := by
  simp [sumCap, List.sum_append]
theorem sumItems_append (a b : List (Compactor ρ)) : sumItems (a ++ b) = sumItems a + sumItems b := by
  simp [sumItems, List.sum_append]
@[simp] theorem weightP_nil (p : Int → Bool) : weightP p ([] : List (Compactor ρ)) = 0 := rfl
@[simp] theorem weightP_cons (p : Int → Bool) (c : Compactor ρ) (t) :
    weightP p (c :: t) = cntP p c.items * 2 ^ c.lgWeight + weightP p t := by
  simp [weightP]
theorem weightP_append (p : Int → Bool) (a b : List (Compactor ρ)) : weightP p (a ++ b) = weightP p a + weightP p b := by
  simp [weightP, List.sum_append]
@[simp] theorem totalW_nil : totalW ([] : List (Compactor ρ)) = 0 := rfl
@[simp] theorem totalW_cons (c : Compactor ρ) (t) : totalW (c :: t) = c.items.length * 2 ^ c.lgWeight + totalW t := by
  simp [totalW, cntP_true]

theorem CsInv_get {T : Tun} {hra : Bool} {h : Nat} {cs : List (Compactor ρ)} (hinv : CsInv T hra h cs) {i : Nat} {c : Compactor ρ}
    (hc : cs[i]? = some c) : CInv T hra (h + i) c := by
  induction cs generalizing h i with
  | nil => cases hc
  | cons x t ih =>
    cases i with
    | zero => exact Option.some.inj hc ▸ hinv.1
    | succ i => exact Nat.add_right_comm h i 1 ▸ ih hinv.2 hc

theorem CsInv_append {T : Tun} {hra : Bool} (h : Nat) (a : List (Compactor ρ)) (c : Compactor ρ) :
    CsInv T hra h (a ++ [c]) ↔ CsInv T hra h a ∧ CInv T hra (h + a.length) c := by
  induction a generalizing h with
  | nil => simp [CsInv]
  | cons x t ih => simp only [List.cons_append, CsInv, ih, List.length_cons, and_assoc, Nat.add_assoc, Nat.add_comm 1]

theorem CsInv_lg_range {T : Tun} {hra : Bool} {h : Nat} {cs : List (Compactor ρ)} (hinv : CsInv T hra h cs) :
    ∀ c ∈ cs, h ≤ c.lgWeight ∧ c.lgWeight < h + cs.length := by
  intro c hc
  obtain ⟨i, hi, e⟩ := List.getElem_of_mem hc
  rw [(CsInv_get hinv (List.getElem?_eq_getElem hi ▸ congrArg some e)).lg]; omega

theorem AllNE_cons {c : Compactor ρ} {t} : AllNE (c :: t) ↔ c.items ≠ [] ∧ AllNE t := List.forall_mem_cons
theorem AllNE_nil : AllNE ([] : List (Compactor ρ)) := fun _ hc => nomatch hc

theorem sort_eq (c : Compactor ρ) : c.sort = { c with items := c.sortedItems, sorted := true } := by
  unfold Compactor.sort Compactor.sortedItems
  split
  · rename_i hs; cases c; simp_all  -- already sorted: both fields are overwritten with what they hold
  · rfl

theorem sort_cntP (p : Int → Bool) (c : Compactor ρ) : cntP p c.sort.items = cntP p c.items := by
  rw [sort_eq]; exact sortedItems_cnt p c

theorem sort_length (c : Compactor ρ) : c.sort.items.length = c.items.length := by
  have := sort_cntP (fun _ => true) c; rwa [cntP_true, cntP_true] at this

theorem sort_lgWeight (c : Compactor ρ) : c.sort.lgWeight = c.lgWeight := by rw [sort_eq]
theorem sort_entered (c : Compactor ρ) : c.sort.entered = c.entered := by rw [sort_eq]
theorem sort_nomCap (T : Tun) (c : Compactor ρ) : c.sort.nomCap T = c.nomCap T := by rw [sort_eq]; rfl

theorem sortedItems_sorted {T : Tun} {hra : Bool} {h : Nat} {c : Compactor ρ} (hc : CInv T hra h c) : Sorted c.sortedItems := by
  unfold Compactor.sortedItems; split
  · rename_i hs; exact hc.srt (Or.inr hs)
  · exact sorted_sortInts _

theorem sort_sorted {T : Tun} {hra : Bool} {h : Nat} {c : Compactor ρ} (hc : CInv T hra h c) : Sorted c.sort.items := by
  rw [sort_eq]; exact sortedItems_sorted hc

theorem sort_CInv {T : Tun} {hra : Bool} {h : Nat} {c : Compactor ρ} (hc : CInv T hra h c) : CInv T hra h c.sort := by
  rw [sort_eq]; exact ⟨hc.lg, hc.hraEq, hc.ns, hc.ss, fun _ => sortedItems_sorted hc⟩

theorem sort_ne {c : Compactor ρ} (h : c.items ≠ []) : c.sort.items ≠ [] :=
  fun e => h (List.length_eq_zero_iff.1 ((sort_length c).symm.trans (congrArg List.length e)))

theorem append_cntP (p : Int → Bool) (c : Compactor ρ) (x : Int) : cntP p (c.append x).items = cntP p (x :: c.items) := by
  show cntP p (if c.hra then x :: c.items else c.items ++ [x]) = _
  cases c.hra
  · exact cntP_perm (List.perm_append_singleton x c.items) p
  · rfl

theorem append_length (c : Compactor ρ) (x : Int) : (c.append x).items.length = c.items.length + 1 := by
  have := append_cntP (fun _ => true) c x; rwa [cntP_true, cntP_true] at this

theorem append_CInv {T : Tun} {hra : Bool} {c : Compactor ρ} (x : Int) (hc : CInv T hra 0 c) : CInv T hra 0 (c.append x) := by
  refine ⟨hc.lg, hc.hraEq, hc.ns, hc.ss, fun hs => ?_⟩
  -- `sorted_` survives only the append to an empty buffer
  have h0 : c.items = [] := by
    cases hi : c.items with
    | nil => rfl
    | cons a l => simp [Compactor.append, hi] at hs
  show Sorted (if c.hra then x :: c.items else c.items ++ [x])
  rw [h0]; cases c.hra <;> exact List.pairwise_singleton _ _

theorem mk'_CInv {T : Tun} (hT : TunOK T) (F : SecFns ρ) (hra : Bool) (h k : Nat) (hk : 2 ≤ k) :
    CInv T hra h (Compactor.mk' T F hra h k) :=
  ⟨rfl, rfl, hT.sec1, hk, fun _ => by simp [Compactor.mk', Sorted]⟩

theorem mkC_eq (T : Tun) (F : SecFns ρ) (hra : Bool) (lg k : Nat) (d : Bool) :
    Compactor.mkC T F hra lg k d = { Compactor.mk' T F hra lg k with coin := T.initCoinRandom && d, rnd := T.initCoinRandom } := by
  unfold Compactor.mkC; cases T.initCoinRandom <;> rfl

theorem mkC_items (T : Tun) (F : SecFns ρ) (hra : Bool) (lg k : Nat) (d : Bool) : (Compactor.mkC T F hra lg k d).items = [] := by
  rw [mkC_eq]; rfl

theorem mkC_entered (T : Tun) (F : SecFns ρ) (hra : Bool) (lg k : Nat) (d : Bool) : (Compactor.mkC T F hra lg k d).entered = [] := by
  rw [mkC_eq]; rfl

theorem mkC_nomCap (T : Tun) (F : SecFns ρ) (hra : Bool) (lg k : Nat) (d : Bool) :
    (Compactor.mkC T F hra lg k d).nomCap T = T.multiplier * T.initSections * k := by
  rw [mkC_eq]; rfl

theorem mkC_CInv {T : Tun} (hT : TunOK T) (F : SecFns ρ) (hra : Bool) (h k : Nat) (hk : 2 ≤ k) (d : Bool) :
    CInv T hra h (Compactor.mkC T F hra h k d) := by
  rw [mkC_eq]; exact ⟨rfl, rfl, hT.sec1, hk, fun _ => List.Pairwise.nil⟩

theorem sortIf0_cases (h : Nat) (c : Compactor ρ) : sortIf0 h c = c.sort ∨ sortIf0 h c = c := by
  unfold sortIf0; split
  · exact Or.inl rfl
  · exact Or.inr rfl

theorem sortIf0_CInv {T : Tun} {hra : Bool} {h : Nat} {c : Compactor ρ} (hc : CInv T hra h c) : CInv T hra h (sortIf0 h c) := by
  rcases sortIf0_cases h c with e | e <;> rw [e]
  · exact sort_CInv hc
  · exact hc

theorem sortIf0_sorted {T : Tun} {hra : Bool} {h : Nat} {c : Compactor ρ} (hc : CInv T hra h c) : Sorted (sortIf0 h c).items := by
  unfold sortIf0; split
  · exact sort_sorted hc
  · rename_i h0; exact hc.srt (Or.inl h0)

theorem sortIf0_fields (T : Tun) (h : Nat) (c : Compactor ρ) : (sortIf0 h c).items.length = c.items.length ∧
    (sortIf0 h c).nomCap T = c.nomCap T ∧ (sortIf0 h c).entered = c.entered := by
  rcases sortIf0_cases h c with e | e <;> rw [e]
  · exact ⟨sort_length c, sort_nomCap T c, sort_entered c⟩
  · exact ⟨rfl, rfl, rfl⟩

/-- `nx :: rest.tail`, for `nx = nextOf … rest`, is `rest`, or the new empty top compactor (whose capacity `ctrGrow` adds) -/
structure NextSpec (T : Tun) (hra : Bool) (h : Nat) (rest : List (Compactor ρ)) (nx : Compactor ρ) (ctr ctr1 : Ctr) : Prop where
  inv : CsInv T hra (h + 1) (nx :: rest.tail)
  ne : AllNE rest → AllNE rest.tail
  items : sumItems (nx :: rest.tail) = sumItems rest
  tw : totalW (nx :: rest.tail) = totalW rest
  ret : ctr1.retained = ctr.retained
  cap : ∀ M, ctr.maxNom = M + sumCap T rest → ctr1.maxNom = M + sumCap T (nx :: rest.tail)
  len : rest.length ≤ rest.tail.length + 1

theorem nextOf_spec {T : Tun} (hT : TunOK T) (F : SecFns ρ) {hra : Bool} {k : Nat} (hk : 2 ≤ k) (h : Nat) {rest : List (Compactor ρ)}
    (d : Bool) (hrest : CsInv T hra (h + 1) rest) (ctr : Ctr) :
    NextSpec T hra h rest (nextOf T F hra k h rest d) ctr (ctrGrow T ctr rest.isEmpty (nextOf T F hra k h rest d)) := by
  cases rest with
  | nil =>
    have hi := mkC_items T F hra (h + 1) k d
    exact ⟨⟨mkC_CInv hT F hra (h + 1) k hk d, trivial⟩, fun _ => AllNE_nil, by simp [nextOf, hi], by simp [nextOf, hi], rfl,
      fun M e => by simp [nextOf, ctrGrow, e], Nat.zero_le _⟩
  | cons x t => exact ⟨hrest, fun hne => (AllNE_cons.1 hne).2, rfl, rfl, rfl, fun _ e => e, Nat.le_refl _⟩

theorem drawIf_throws (a : Acc) (b : Bool) (lvl : Nat) : (a.drawIf b lvl).throws = a.throws := by
  cases b <;> simp [Acc.drawIf, Acc.draw]

theorem afterCompact_throws (acc : Acc) (lvl : Nat) (fresh oc ok : Bool) (h : ok = true) :
    (acc.afterCompact lvl fresh oc ok).throws = acc.throws := by
  subst h; cases fresh <;> simp [Acc.afterCompact, Acc.draw]

theorem growDraw_eq (T : Tun) (a : Acc) (top : Bool) (lvl : Nat) : a.growDraw T top lvl = a.drawIf (top && T.initCoinRandom) lvl := by
  cases top <;> rfl

/-- what `compressLoop` guarantees (for any fuel, any coins, lazy or not).  `R0`, `M0`: the items retained in, and the nominal capacity
of, the levels below `h`: the loop has passed them, and the counters, which are those of the whole sketch, still include their share
(`0 0` at level 0).  `ent0`: the first level keeps its ghost record `entered`; at level 0 that is the record of everything fed to the
sketch.  `one`: a result of a single level means that nothing was compacted, so that a one-level sketch still holds exactly what was fed.
`ctr` occurs in no field. -/
structure LoopSpec (T : Tun) (hra : Bool) (h : Nat) (todo : List (Compactor ρ)) (ctr : Ctr) (acc : Acc) (R0 M0 : Nat)
    (out : List (Compactor ρ) × Ctr × Acc) : Prop where
  inv : CsInv T hra h out.1
  ne : AllNE out.1
  ret : out.2.1.retained = R0 + sumItems out.1
  cap : out.2.1.maxNom = M0 + sumCap T out.1
  tw : totalW out.1 = totalW todo
  nonnil : todo ≠ [] → out.1 ≠ []
  throws : out.2.2.throws = acc.throws
  ent0 : out.1.head?.map (·.entered) = todo.head?.map (·.entered)
  len : todo.length ≤ out.1.length
  one : out.1.length = 1 → out.1 = todo

theorem LoopSpec.refl {T : Tun} {hra : Bool} {h : Nat} {todo : List (Compactor ρ)} {ctr : Ctr} {R0 M0 : Nat} (acc : Acc)
    (hinv : CsInv T hra h todo) (hne : AllNE todo) (hr : ctr.retained = R0 + sumItems todo) (hm : ctr.maxNom = M0 + sumCap T todo) :
    LoopSpec T hra h todo ctr acc R0 M0 (todo, ctr, acc) :=
  ⟨hinv, hne, hr, hm, rfl, fun x => x, rfl, rfl, Nat.le_refl _, fun _ => rfl⟩

/-- the loop has dealt with level `h` (leaving `x`, and `mid` above it) and goes on from level `h + 1`, where what `S` says of `mid` is
what the loop asks for -/
theorem LoopSpec.cons {T : Tun} {hra : Bool} {h : Nat} {todo mid : List (Compactor ρ)} {x : Compactor ρ} {ctr ctr2 : Ctr} {acc acc2 : Acc}
    {R0 M0 : Nat} {out : List (Compactor ρ) × Ctr × Acc} (S : LoopSpec T hra h todo ctr acc R0 M0 (x :: mid, ctr2, acc2))
    (I : CsInv T hra (h + 1) mid → AllNE mid → ctr2.retained = R0 + x.items.length + sumItems mid →
      ctr2.maxNom = M0 + x.nomCap T + sumCap T mid → LoopSpec T hra (h + 1) mid ctr2 acc2 (R0 + x.items.length) (M0 + x.nomCap T) out) :
    LoopSpec T hra h todo ctr acc R0 M0 (x :: out.1, out.2) := by
  have I := I S.inv.2 (AllNE_cons.1 S.ne).2 (by rw [S.ret, sumItems_cons, Nat.add_assoc]) (by rw [S.cap, sumCap_cons, Nat.add_assoc])
  refine ⟨⟨S.inv.1, I.inv⟩, AllNE_cons.2 ⟨(AllNE_cons.1 S.ne).1, I.ne⟩, ?_, ?_, ?_, fun _ => List.cons_ne_nil _ _, I.throws.trans S.throws,
    S.ent0, ?_, ?_⟩
  · rw [I.ret, sumItems_cons, Nat.add_assoc]
  · rw [I.cap, sumCap_cons, Nat.add_assoc]
  · rw [totalW_cons, I.tw, ← totalW_cons, S.tw]
  · exact Nat.le_trans S.len (Nat.succ_le_succ I.len)
  · -- a single level: nothing above `x` now, hence (`I.len`) nothing before
    intro h1
    have ho := List.length_eq_zero_iff.1 (Nat.succ.inj h1)
    have hm := List.length_eq_zero_iff.1 (Nat.le_zero.1 (ho ▸ I.len))
    rw [ho, ← hm]; exact S.one (hm ▸ rfl)

/-- one round of the loop at a nominally full level `h`: sort (level 0), grow (top), compact into the next level.
Result: the compactor left at level `h`, the levels from `h + 1` on, the counters and the coin cursor. -/
def compactStep (T : Tun) (F : SecFns ρ) (hra : Bool) (k h : Nat) (c : Compactor ρ) (rest : List (Compactor ρ)) (ctr : Ctr) (acc : Acc) :
    Compactor ρ × List (Compactor ρ) × Ctr × Acc :=
  let r := (sortIf0 h c).compact T F (nextOf T F hra k h rest acc.peek) (acc.growDraw T rest.isEmpty (h + 1)).peek
  (r.cur, r.nxt :: rest.tail, ctrAfter (ctrGrow T ctr rest.isEmpty (nextOf T F hra k h rest acc.peek)) r,
   (acc.growDraw T rest.isEmpty (h + 1)).afterCompact (sortIf0 h c).lgWeight r.fresh r.oddConst r.rangeOk)

theorem compressLoop_full {T : Tun} {F : SecFns ρ} {hra : Bool} {k h : Nat} {c x : Compactor ρ} {rest mid : List (Compactor ρ)}
    {ctr ctr2 : Ctr} {acc acc2 : Acc} (fuel : Nat) (hfull : c.nomCap T ≤ c.items.length)
    (hs : compactStep T F hra k h c rest ctr acc = (x, mid, ctr2, acc2)) :
    compressLoop T F hra k (fuel + 1) h (c :: rest) ctr acc =
      if T.lazy && ctr2.retained < ctr2.maxNom then (x :: mid, ctr2, acc2)
      else (x :: (compressLoop T F hra k fuel (h + 1) mid ctr2 acc2).1, (compressLoop T F hra k fuel (h + 1) mid ctr2 acc2).2) := by
  cases hs
  exact if_pos hfull

theorem compressLoop_notFull (T : Tun) (F : SecFns ρ) (hra : Bool) (k fuel h : Nat) {c : Compactor ρ} (rest : List (Compactor ρ))
    (ctr : Ctr) (acc : Acc) (hnf : ¬ c.nomCap T ≤ c.items.length) :
    compressLoop T F hra k (fuel + 1) h (c :: rest) ctr acc =
      (c :: (compressLoop T F hra k fuel (h + 1) rest ctr acc).1, (compressLoop T F hra k fuel (h + 1) rest ctr acc).2) :=
  if_neg hnf

/-- the `inv` field of `compactStep_spec` below, under `CsInv` alone: the two-run loop of `ReqRelLoop` has neither `AllNE` nor the
counter equations to offer -/
theorem compactStep_inv {T : Tun} (hT : TunOK T) (F : SecFns ρ) {hra : Bool} {k : Nat} (hk : 2 ≤ k) {h : Nat}
    {c x : Compactor ρ} {rest mid : List (Compactor ρ)} {ctr ctr2 : Ctr} {acc acc2 : Acc} (hinv : CsInv T hra h (c :: rest))
    (hfull : c.nomCap T ≤ c.items.length) (hs : compactStep T F hra k h c rest ctr acc = (x, mid, ctr2, acc2)) :
    CsInv T hra h (x :: mid) := by
  cases hs
  obtain ⟨f1, f2, _⟩ := sortIf0_fields T h c
  have N := nextOf_spec hT F hk h acc.peek hinv.2 ctr
  have sp := compact_spec hT F (acc.growDraw T rest.isEmpty (h + 1)).peek (sortIf0_CInv hinv.1) (sortIf0_sorted hinv.1) N.inv.1
    (by rw [f1, f2]; exact hfull)
  exact ⟨sp.cur, sp.nx, N.inv.2⟩

theorem compactStep_spec {T : Tun} (hT : TunOK T) (F : SecFns ρ) {hra : Bool} {k : Nat} (hk : 2 ≤ k) {h : Nat}
    {c x : Compactor ρ} {rest mid : List (Compactor ρ)} {ctr ctr2 : Ctr} {acc acc2 : Acc} {R0 M0 : Nat}
    (hinv : CsInv T hra h (c :: rest)) (hne : AllNE (c :: rest))
    (hr : ctr.retained = R0 + sumItems (c :: rest)) (hm : ctr.maxNom = M0 + sumCap T (c :: rest))
    (hfull : c.nomCap T ≤ c.items.length) (hs : compactStep T F hra k h c rest ctr acc = (x, mid, ctr2, acc2)) :
    LoopSpec T hra h (c :: rest) ctr acc R0 M0 (x :: mid, ctr2, acc2) := by
  cases hs
  obtain ⟨f1, f2, f3⟩ := sortIf0_fields T h c
  have N := nextOf_spec hT F hk h acc.peek hinv.2 ctr
  have sp := compact_spec hT F (acc.growDraw T rest.isEmpty (h + 1)).peek (sortIf0_CInv hinv.1) (sortIf0_sorted hinv.1) N.inv.1
    (by rw [f1, f2]; exact hfull)
  have hthr : (acc.growDraw T rest.isEmpty (h + 1)).throws = acc.throws := growDraw_eq .. ▸ drawIf_throws ..
  -- all that is needed of the four subterms of `compactStep` is in `N`, `sp`, `hthr`: name them, inner terms first (`nx` occurs in
  -- `ctr1` and `r`, `acc1` in `r`), so that each later pattern is still found
  generalize acc.growDraw T rest.isEmpty (h + 1) = acc1 at sp hthr ⊢
  generalize nextOf T F hra k h rest acc.peek = nx at N sp ⊢
  generalize ctrGrow T ctr rest.isEmpty nx = ctr1 at N ⊢
  generalize (sortIf0 h c).compact T F nx acc1.peek = r at sp ⊢
  have hnx := sp.lenNxt; have hnum := sp.num1
  refine ⟨⟨sp.cur, sp.nx, N.inv.2⟩, AllNE_cons.2 ⟨sp.curNe, AllNE_cons.2 ⟨?_, N.ne (AllNE_cons.1 hne).2⟩⟩, ?_, ?_, ?_,
    fun _ => List.cons_ne_nil _ _, ?_, ?_, Nat.succ_le_succ N.len, fun h1 => absurd h1 (by simp)⟩
  · exact List.ne_nil_of_length_pos (hnx ▸ Nat.lt_of_lt_of_le hnum (Nat.le_add_left _ _))
  · -- `num` items leave the sketch
    refine Nat.sub_eq_of_eq_add ?_
    rw [N.ret, hr, sumItems_cons, ← N.items, sumItems_cons, sumItems_cons, sumItems_cons, hnx, ← f1, ← sp.lenCur, Nat.two_mul]
    ac_rfl
  · refine Nat.sub_eq_of_eq_add ?_
    rw [N.cap (M0 + c.nomCap T) (by rw [hm, sumCap_cons, Nat.add_assoc]), sumCap_cons, sumCap_cons, sumCap_cons, sp.capOld, sp.capNew,
      sp.nxCap, f2]
    ac_rfl
  · rw [totalW_cons, totalW_cons, totalW_cons, ← N.tw, totalW_cons, sp.cur.lg, sp.nx.lg, hinv.1.lg, N.inv.1.lg, ← f1,
      ← Nat.add_assoc, sp.tw, Nat.add_assoc]
  · exact (afterCompact_throws acc1 _ _ _ _ sp.ok).trans hthr
  · show some r.cur.entered = some c.entered
    rw [sp.curEntered, f3]

theorem compressLoop_spec {T : Tun} (hT : TunOK T) (F : SecFns ρ) (hra : Bool) (k : Nat) (hk : 2 ≤ k) (fuel h : Nat)
    (todo : List (Compactor ρ)) (ctr : Ctr) (acc : Acc) (R0 M0 : Nat) (hinv : CsInv T hra h todo) (hne : AllNE todo)
    (hr : ctr.retained = R0 + sumItems todo) (hm : ctr.maxNom = M0 + sumCap T todo) :
    LoopSpec T hra h todo ctr acc R0 M0 (compressLoop T F hra k fuel h todo ctr acc) := by
  induction fuel generalizing h todo ctr acc R0 M0 with
  | zero => exact LoopSpec.refl acc hinv hne hr hm
  | succ fuel ih =>
    cases todo with
    | nil => exact LoopSpec.refl acc hinv hne hr hm
    | cons c rest =>
      by_cases hfull : c.nomCap T ≤ c.items.length
      · rcases hs : compactStep T F hra k h c rest ctr acc with ⟨x, mid, ctr2, acc2⟩
        have S := compactStep_spec hT F hk hinv hne hr hm hfull hs
        rw [compressLoop_full fuel hfull hs]
        split
        · exact S
        · exact S.cons (ih _ _ _ _ _ _)
      · rw [compressLoop_notFull _ _ _ _ _ _ _ _ _ hfull]
        exact (LoopSpec.refl acc hinv hne hr hm).cons (ih _ _ _ _ _ _)

end DS.Req
