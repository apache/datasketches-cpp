/- C19: what the class proofs see of a heap: the word and state of a cell (`wordAt`, `stAt`, with defaults outside the block) and the size
   of a block (`HasCells`); the footprint `foot own n0` of a method; `Owns`, the ownership bookkeeping every contract ends in. -/
import DSProofs.Lemmas.LifeHeap
import DSProofs.Lemmas.LifeCount
namespace DS.Life

def wordAt (h : Heap) (b i : Nat) : Nat := match h.cell? b i with | some c => c.word | none => 0
def stAt (h : Heap) (b i : Nat) : Slot := match h.cell? b i with | some c => c.st | none => .raw

theorem wordAt_of {h : Heap} {b i : Nat} {c : Cell} (hc : h.cell? b i = some c) : wordAt h b i = c.word := by
  simp [wordAt, hc]
theorem stAt_of {h : Heap} {b i : Nat} {c : Cell} (hc : h.cell? b i = some c) : stAt h b i = c.st := by
  simp [stAt, hc]

theorem views_of_cell?_eq {h h' : Heap} {b b' j j' : Nat} (e : h'.cell? b' j' = h.cell? b j) :
    wordAt h' b' j' = wordAt h b j ∧ stAt h' b' j' = stAt h b j := by
  unfold wordAt stAt
  rw [e]
  exact ⟨rfl, rfl⟩

theorem cell_of_stAt_ne_raw {h : Heap} {b i : Nat} (hs : stAt h b i ≠ .raw) :
    ∃ c, h.cell? b i = some c ∧ c.st = stAt h b i ∧ c.word = wordAt h b i := by
  cases e : h.cell? b i with
  | none => simp [stAt, e] at hs
  | some c => exact ⟨c, rfl, (stAt_of e).symm, (wordAt_of e).symm⟩

def HasCells (h : Heap) (b n : Nat) : Prop := h.count? b = some n

theorem HasCells.cell {h : Heap} {b n i : Nat} (hc : HasCells h b n) (hi : i < n) : ∃ c, h.cell? b i = some c :=
  Option.isSome_iff_exists.mp ((cell?_lt_count h b i n hc).2 hi)

theorem HasCells.cell_st {h : Heap} {b n i : Nat} (hc : HasCells h b n) (hi : i < n) :
    ∃ c, h.cell? b i = some c ∧ c.word = wordAt h b i ∧ c.st = stAt h b i := by
  obtain ⟨c, e⟩ := hc.cell hi
  exact ⟨c, e, (wordAt_of e).symm, (stAt_of e).symm⟩

theorem HasCells.none {h : Heap} {b n i : Nat} (hc : HasCells h b n) (hi : ¬ i < n) : h.cell? b i = none := by
  exact Option.not_isSome_iff_eq_none.mp fun x => hi ((cell?_lt_count h b i n hc).1 x)

theorem wordAt_setCell (h : Heap) (b i : Nat) (c : Cell) (b' j : Nat) :
    wordAt (h.setCell b i c) b' j = if b' = b ∧ j = i ∧ (h.cell? b i).isSome then c.word else wordAt h b' j := by
  unfold wordAt
  rw [cell?_setCell]
  by_cases hc : b' = b ∧ j = i ∧ (h.cell? b i).isSome
  · rw [if_pos hc, if_pos hc]
  · rw [if_neg hc, if_neg hc]

theorem stAt_setCell (h : Heap) (b i : Nat) (c : Cell) (b' j : Nat) :
    stAt (h.setCell b i c) b' j = if b' = b ∧ j = i ∧ (h.cell? b i).isSome then c.st else stAt h b' j := by
  unfold stAt
  rw [cell?_setCell]
  by_cases hc : b' = b ∧ j = i ∧ (h.cell? b i).isSome
  · rw [if_pos hc, if_pos hc]
  · rw [if_neg hc, if_neg hc]

@[simp] theorem wordAt_addLog (h : Heap) (e : Ev) (b i : Nat) : wordAt (h.addLog e) b i = wordAt h b i := rfl
@[simp] theorem stAt_addLog (h : Heap) (e : Ev) (b i : Nat) : stAt (h.addLog e) b i = stAt h b i := rfl

theorem HasCells_setCell {h : Heap} {b' n : Nat} (b i : Nat) (c : Cell) (hc : HasCells h b' n) :
    HasCells (h.setCell b i c) b' n := by
  simpa [HasCells] using hc

theorem HasCells_addLog {h : Heap} {b n : Nat} (e : Ev) (hc : HasCells h b n) : HasCells (h.addLog e) b n := hc

/-- footprint of a method run on an object owning `own`, started when `next = n0`: its own blocks and every
    block allocated from then on -/
def foot (own : List Nat) (n0 : Nat) : Nat → Bool := fun b => own.contains b || decide (n0 ≤ b)

theorem foot_own {own : List Nat} {n0 b : Nat} (hb : b ∈ own) : foot own n0 b = true := by
  simp [foot, hb]

theorem foot_new {own : List Nat} {n0 b : Nat} (hb : n0 ≤ b) : foot own n0 b = true := by
  simp [foot, hb]

theorem foot_old {own : List Nat} {n0 b : Nat} (hb : b ∉ own) (hlt : b < n0) : foot own n0 b = false := by
  simp [foot, hb, hlt]

theorem stAt_afterAlloc_fresh (h : Heap) (k : Kind) (n i : Nat) : stAt (h.afterAlloc k n) h.next i = .raw := by
  unfold stAt
  rw [cell?_afterAlloc, if_pos rfl]
  by_cases hi : i < n <;> simp [hi]

theorem cell?_congr {h h' : Heap} {b : Nat} (e : h'.find? b = h.find? b) (i : Nat) : h'.cell? b i = h.cell? b i := by
  simp only [cell?_def, e]

theorem count?_congr {h h' : Heap} {b : Nat} (e : h'.find? b = h.find? b) : h'.count? b = h.count? b := by
  simp only [Heap.count?, e]

theorem wordAt_congr {h h' : Heap} {b : Nat} (e : h'.find? b = h.find? b) (i : Nat) : wordAt h' b i = wordAt h b i := by
  simp only [wordAt, cell?_congr e]

theorem stAt_congr {h h' : Heap} {b : Nat} (e : h'.find? b = h.find? b) (i : Nat) : stAt h' b i = stAt h b i := by
  simp only [stAt, cell?_congr e]

theorem HasCells_congr {h h' : Heap} {b n : Nat} (e : h'.find? b = h.find? b) (hc : HasCells h b n) : HasCells h' b n := by
  simpa only [HasCells, count?_congr e] using hc

theorem HasCells_of_find? {h : Heap} {b : Nat} {B : Block} (hf : h.find? b = some B) : HasCells h b B.cells.length := by
  simp [HasCells, Heap.count?, hf]

theorem mem_ids_of_find? {h : Heap} {b : Nat} {B : Block} (e : h.find? b = some B) : b ∈ h.ids :=
  List.mem_map.mpr ⟨B, List.mem_of_find?_eq_some e, id_of_find? e⟩

theorem HasCells.mem_ids {h : Heap} {b n : Nat} (hc : HasCells h b n) : b ∈ h.ids := by
  obtain ⟨B, e, _⟩ := find?_of_count? hc
  exact mem_ids_of_find? e

/-- ownership bookkeeping of a method: the blocks of the heap afterwards are those that were there and did not
    belong to the object(s) worked on, plus the blocks the resulting object(s) own; what is owned afterwards was
    owned before or is new -/
structure Owns (h' : Heap) (ids0 own0 own' : List Nat) (n0 : Nat) : Prop where
  ids : ∀ b, b ∈ h'.ids ↔ ((b ∈ ids0 ∧ b ∉ own0) ∨ b ∈ own')
  fresh : ∀ b, b ∈ own' → b ∈ own0 ∨ n0 ≤ b

/-- ownership bookkeeping from what was freed (`D`) and what was allocated and kept (`A`) -/
theorem Owns.of_delta {h' : Heap} {ids0 own0 own' : List Nat} {n0 : Nat} (D A : Nat → Prop)
    (hids : ∀ x, x ∈ h'.ids ↔ (x ∈ ids0 ∧ ¬ D x) ∨ A x)
    (hsub : ∀ x, x ∈ own0 → x ∈ ids0) (hD : ∀ x, D x → x ∈ own0) (hA : ∀ x, A x → n0 ≤ x)
    (hown : ∀ x, x ∈ own' ↔ (x ∈ own0 ∧ ¬ D x) ∨ A x) : Owns h' ids0 own0 own' n0 := by
  refine ⟨fun x => ?_, fun x hx => ?_⟩
  · rw [hids x, hown x]
    constructor
    · rintro (⟨a, b⟩ | a)
      · by_cases hx : x ∈ own0
        · exact Or.inr (Or.inl ⟨hx, b⟩)
        · exact Or.inl ⟨a, hx⟩
      · exact Or.inr (Or.inr a)
    · rintro (⟨a, b⟩ | ⟨a, b⟩ | a)
      · exact Or.inl ⟨a, fun d => b (hD x d)⟩
      · exact Or.inl ⟨hsub x a, b⟩
      · exact Or.inr a
  · rcases (hown x).1 hx with ⟨a, _⟩ | a
    · exact Or.inl a
    · exact Or.inr (hA x a)

theorem Owns.same {h : Heap} {ids0 own own' : List Nat} {n0 : Nat} (hid : h.ids = ids0) (hsub : ∀ b, b ∈ own → b ∈ ids0)
    (heq : ∀ b, b ∈ own' ↔ b ∈ own) : Owns h ids0 own own' n0 :=
  Owns.of_delta (fun _ => False) (fun _ => False) (by simp [hid]) hsub (fun _ => False.elim) (fun _ => False.elim)
    (by simp [heq])

/-- bystanders: blocks `Y` of another object, all there before and not owned by this one, counted on both sides -/
theorem Owns.append {h' : Heap} {ids0 own0 own' : List Nat} {n0 : Nat} (o : Owns h' ids0 own0 own' n0) (Y : List Nat)
    (hY : ∀ y, y ∈ Y → y ∈ ids0 ∧ y ∉ own0) : Owns h' ids0 (own0 ++ Y) (own' ++ Y) n0 where
  ids := fun b => by
    rw [o.ids b, List.mem_append, List.mem_append, not_or]
    exact ⟨fun x => x.elim (fun x => (Classical.em (b ∈ Y)).elim (fun y => Or.inr (Or.inr y)) (fun y => Or.inl ⟨x.1, x.2, y⟩))
        (fun x => Or.inr (Or.inl x)),
      fun x => x.elim (fun x => Or.inl ⟨x.1, x.2.1⟩) (fun x => x.elim Or.inr (fun y => Or.inl (hY b y)))⟩
  fresh := fun b hb => (List.mem_append.1 hb).elim (fun x => (o.fresh b x).imp_left (List.mem_append_left _))
    (fun y => Or.inl (List.mem_append_right _ y))

/-- the object released the blocks `R` before the method with bookkeeping `o` ran -/
theorem Owns.after_release {h' : Heap} {ids0 ids1 own0 own1 own' : List Nat} {n0 : Nat} (R : Nat → Prop)
    (o : Owns h' ids1 own1 own' n0) (hids : ∀ x, x ∈ ids1 ↔ x ∈ ids0 ∧ ¬ R x)
    (hown : ∀ x, x ∈ own0 ↔ x ∈ own1 ∨ R x) : Owns h' ids0 own0 own' n0 := by
  refine ⟨fun x => ?_, fun x hx => (o.fresh x hx).imp_left fun a => (hown x).2 (Or.inl a)⟩
  rw [o.ids x, hids x, hown x, not_or, and_assoc, and_comm (a := ¬ R x)]

theorem Owns.alloc {h' : Heap} {ids0 : List Nat} {nb n0 : Nat} (hid : h'.ids = nb :: ids0) (hn : n0 ≤ nb) :
    Owns h' ids0 [] [nb] n0 :=
  Owns.of_delta (fun _ => False) (· = nb) (by simp [hid, or_comm]) (by simp) (fun _ => False.elim) (fun _ e => e ▸ hn)
    (by simp)

theorem Owns.free {h' : Heap} {ids0 : List Nat} {b n0 : Nat} (hid : h'.ids = ids0.filter (fun x => x != b)) :
    Owns h' ids0 [b] [] n0 := by
  refine ⟨fun x => ?_, fun x hx => absurd hx List.not_mem_nil⟩
  rw [hid, List.mem_filter, bne_iff_ne, List.mem_singleton]
  exact ⟨Or.inl, fun hx => hx.elim id (fun hx => absurd hx List.not_mem_nil)⟩

theorem Owns.realloc {h' : Heap} {ids0 : List Nat} {b nb n0 : Nat} (hid : h'.ids = (nb :: ids0).filter (fun x => x != b))
    (hn : n0 ≤ nb) (hne : nb ≠ b) : Owns h' ids0 [b] [nb] n0 := by
  refine ⟨fun x => ?_, fun x hx => Or.inr (List.mem_singleton.mp hx ▸ hn)⟩
  rw [hid, List.mem_filter, bne_iff_ne, List.mem_cons, List.mem_singleton, List.mem_singleton]
  exact ⟨fun hx => hx.1.elim Or.inr (fun h1 => Or.inl ⟨h1, hx.2⟩),
    fun hx => hx.elim (fun hx => ⟨Or.inr hx.1, hx.2⟩) (fun hx => ⟨Or.inl hx, hx ▸ hne⟩)⟩

end DS.Life
