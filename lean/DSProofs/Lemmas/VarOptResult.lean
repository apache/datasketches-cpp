/- VarOpt union `get_result`: the three coercers conserve n and total weight and leave no marks; under the flags
   `coercerOuterTau`, `coercerHeapify` every result is `WellFormed`.  Rat instance. -/
import DSProofs.Lemmas.VarOptUnion
namespace DS.VarOpt
open DS

section decreaseK
variable (T : Tunables) {s : Sk Rat} (ds : Draws Rat)

theorem decreaseKBy1_exact (hk : 2 ≤ s.k) (hR : s.R = []) :
    decreaseKBy1 T s ds = if s.H.length > s.k - 1 then some (transitionFromWarmup { s with k := s.k - 1 } ds)
      else some ({ s with k := s.k - 1 }, ds) := by
  have hr0 : s.R.length = 0 := by rw [hR]; rfl
  unfold decreaseKBy1
  rw [if_neg (by omega)]
  by_cases hh : s.H.length = 0
  · simp [hh, hr0]
  · simp [hh, hr0, Nat.pos_of_ne_zero hh]

theorem decreaseKBy1_reservoir (hk : 2 ≤ s.k) (hH : s.H = []) (hR : 2 ≤ s.R.length) {rl : Int} (hrl : s.R.getLast? = some rl) :
    decreaseKBy1 T s ds = some ({ s with R := (s.R.set (nextInt s.R.length ds).1 rl).dropLast, k := s.k - 1 },
      (nextInt s.R.length ds).2) := by
  have hh0 : s.H.length = 0 := by rw [hH]; rfl
  unfold decreaseKBy1
  rw [if_neg (by omega)]
  simp [hh0, hrl, show ¬ s.R.length = 0 by omega, show ¬ s.R.length < 2 by omega]

theorem decreaseKBy1_mixed (hk : 2 ≤ s.k) (hcnt : s.H.length + s.R.length = s.k) {pulled : E} {rl : Int}
    (hpl : s.H.getLast? = some pulled) (hrl : s.R.getLast? = some rl) :
    decreaseKBy1 T s ds =
      update T { s with H := s.H.dropLast, R := rl :: s.R.dropLast,
                        numMarksInH := if pulled.mark then s.numMarksInH - 1 else s.numMarksInH, k := s.k - 1, n := s.n - 1 }
        pulled.item pulled.wt pulled.mark ds := by
  have hh : 0 < s.H.length := List.length_pos_of_ne_nil fun h => by rw [h] at hpl; simp at hpl
  have hr : 0 < s.R.length := List.length_pos_of_ne_nil fun h => by rw [h] at hrl; simp at hrl
  unfold decreaseKBy1
  rw [if_neg (by omega)]
  simp [hpl, hrl, hcnt, hh, hr, Nat.ne_of_gt hh, Nat.ne_of_gt hr]

end decreaseK

theorem Inv0.setK {s : Sk Rat} {ins L : List E} (hinv : Inv0 s ins L) (hR : s.R = []) {k' : Nat} (hk' : 1 ≤ k')
    (hlen : s.H.length ≤ k') : Inv0 { s with k := k' } ins L :=
  { hinv with kpos := hk', warm := fun _ => ⟨(hinv.warm hR).1, hlen, (hinv.warm hR).2.2⟩, est := fun h => absurd hR h }

/-- The estimation-mode invariant moves to a state `s'` that holds some of the `H` entries and some of the `R` items of `s`, with
the same `total_wt_r_`: with no more `R` items tau has not gone down, so the absorbed items stay light; the `H` entries stay heavy
because there are none or tau is the same. -/
theorem Inv0.shrink {s s' : Sk Rat} {ins ins' L : List E} (hinv : Inv0 s ins L) (hR : s.R ≠ [])
    (hk : 1 ≤ s'.k) (hM : s'.M = []) (hst : s'.mStale = false) (hW : s'.totalWtR = s.totalWtR)
    (hperm : ins'.Perm (s'.H ++ L)) (hH : ∀ e ∈ s'.H, e ∈ s.H) (hheap : IsHeap s'.H)
    (hmk : MarksOK s'.gadget s'.numMarksInH s'.H) (hcnt : s'.H.length + s'.R.length = s'.k)
    (hRne : s'.R ≠ []) (hRsub : ∀ x ∈ s'.R, x ∈ s.R) (hRle : s'.R.length ≤ s.R.length)
    (hsame : s'.H = [] ∨ s'.R.length = s.R.length) : Inv0 s' ins' L := by
  have hest := hinv.est hR
  have hpos : ∀ e ∈ s'.H ++ L, 0 < e.wt := fun e he => hinv.pos e <| hinv.perm.symm.subset <|
    (List.mem_append.1 he).elim (fun h => List.mem_append_left _ (hH e h)) (List.mem_append_right _)
  refine { kpos := hk, mnil := hM, fresh := hst, perm := hperm, pos := fun e he => hpos e (hperm.subset he), marks := hmk,
           warm := fun h => absurd h hRne, est := fun _ => ?_ }
  refine { cnt := hcnt, heap := hheap, wtR := hW.trans hest.wtR, rItems := fun x hx => hest.rItems x (hRsub x hx),
           rLen := lt_of_le_of_lt hRle hest.rLen, lLight := fun e he => ?_, hHeavy := fun e he => ?_ }
  · rw [hW]
    exact (mul_le_mul_of_nonneg_left (Nat.cast_le.2 hRle) (hpos e (List.mem_append_right _ he)).le).trans (hest.lLight e he)
  · rcases hsame with h | h
    · rw [h] at he; cases he
    · rw [hW, h]; exact hest.hHeavy e (hH e he)

theorem Inv0.of_perm {s : Sk Rat} {ins ins' L : List E} (h : Inv0 s ins L) (hp : ins'.Perm ins) : Inv0 s ins' L :=
  { h with perm := hp.trans h.perm, pos := fun e he => h.pos e (hp.subset he) }

theorem mkEntry_self {s : Sk Rat} (hg : s.gadget = true) (e : E) : mkEntry s e.item e.wt e.mark = e := by
  cases e; simp [mkEntry, storedMark, hg]

/-- What `get_result` works on: a copy `s` of the gadget that carries the union's counter `cnt`; `ins` is everything the gadget
was fed. -/
structure GCopy (ins : List E) (cnt maxK : Nat) (s : Sk Rat) : Prop where
  inv : ∃ L, Inv0 s ins L
  isGadget : s.gadget = true
  n_eq : s.n = cnt
  kLe : s.k ≤ maxK
  nz : ins ≠ [] → 1 ≤ cnt

theorem GCopy.decreaseK {ins : List E} {cnt maxK : Nat} {T : Tunables} {s s' : Sk Rat} {ds ds' : Draws Rat}
    (hG : GCopy ins cnt maxK s) (h : decreaseKBy1 T s ds = some (s', ds')) : GCopy ins cnt maxK s' := by
  obtain ⟨⟨L, hinv⟩, hg, hn, hkm, hnz⟩ := hG
  have hk : 2 ≤ s.k := by
    by_contra hk
    rw [decreaseKBy1, if_pos (Nat.le_of_lt_succ (Nat.lt_of_not_le hk))] at h
    cases h
  have hk1 : 1 ≤ s.k - 1 := Nat.le_sub_one_of_lt hk
  have hkm1 : s.k - 1 ≤ maxK := (Nat.sub_le _ _).trans hkm
  by_cases hR : s.R = []
  · rw [decreaseKBy1_exact T ds hk hR] at h
    obtain ⟨hL, hhk, -⟩ := hinv.warm hR
    by_cases htr : s.H.length > s.k - 1
    · rw [if_pos htr] at h
      subst hL
      obtain ⟨s₁, ds₁, L', ht, hinv', -, hk', hg', -, hn'⟩ := transition_spec { s with k := s.k - 1 } ins ds
        hk1 hinv.mnil hinv.fresh (Nat.le_antisymm (hhk.trans_eq (Nat.sub_add_cancel (Nat.one_le_of_lt hk)).symm) htr)
        (by simpa using hinv.perm) hinv.pos hinv.marks
      obtain ⟨rfl, rfl⟩ := Prod.mk.inj (ht.symm.trans (Option.some.inj h))
      exact ⟨⟨L', hinv'⟩, hg'.trans hg, hn'.trans hn, hk' ▸ hkm1, hnz⟩
    · rw [if_neg htr] at h
      cases h
      exact ⟨⟨L, hinv.setK hR hk1 (Nat.le_of_not_lt htr)⟩, hg, hn, hkm1, hnz⟩
  · obtain ⟨rl, hrl⟩ := exists_getLast? hR
    have hest := hinv.est hR
    have hcnt := hest.cnt
    by_cases hH : s.H = []
    · rw [hH, List.length_nil, Nat.zero_add] at hcnt
      rw [decreaseKBy1_reservoir T ds hk hH (by omega) hrl] at h
      cases h
      have hlen : ∀ d, ((s.R.set d rl).dropLast).length = s.k - 1 := fun d => by
        rw [List.length_dropLast, List.length_set, hcnt]
      refine ⟨⟨L, hinv.shrink hR (hk := hk1) (hM := hinv.mnil) (hst := hinv.fresh) (hW := rfl)
        (hperm := hinv.perm) (hH := fun _ h => h) (hheap := hest.heap) (hmk := hinv.marks)
        (hcnt := by show s.H.length + _ = _; rw [hH, hlen]; exact Nat.zero_add _)
        (hRne := List.ne_nil_of_length_pos (by rw [hlen]; exact hk1)) (hRsub := fun x hx => ?_)
        (hRle := by rw [hlen, hcnt]; exact Nat.sub_le _ _) (hsame := Or.inl hH)⟩, hg, hn, hkm1, hnz⟩
      rcases List.mem_or_eq_of_mem_set (List.mem_of_mem_dropLast hx) with h | h
      · exact h
      · exact h ▸ List.mem_of_getLast? hrl
    · obtain ⟨pulled, hpl⟩ := exists_getLast? hH
      rw [decreaseKBy1_mixed T ds hk hcnt hpl hrl] at h
      have hsplit := List.dropLast_append_getLast? pulled hpl
      have hmem : pulled ∈ ins := hinv.perm.symm.subset (List.mem_append_left _ (List.mem_of_getLast? hpl))
      have hRlen : (rl :: s.R.dropLast).length = s.R.length := by
        rw [List.length_cons, List.length_dropLast]; exact Nat.sub_add_cancel (List.length_pos_of_ne_nil hR)
      have hcm : countMarks s.H = countMarks s.H.dropLast + (if pulled.mark then 1 else 0) := by
        rw [← countMarks_append_single, hsplit]
      -- the state handed to `update` holds everything but `pulled`
      have hinv₁ : Inv0 { s with H := s.H.dropLast, R := rl :: s.R.dropLast, k := s.k - 1, n := s.n - 1,
                                 numMarksInH := if pulled.mark then s.numMarksInH - 1 else s.numMarksInH }
          (s.H.dropLast ++ L) L :=
        hinv.shrink hR (hk := hk1) (hM := hinv.mnil) (hst := hinv.fresh) (hW := rfl)
          (hperm := List.Perm.refl _) (hH := fun _ => List.mem_of_mem_dropLast) (hheap := heapFrom_dropLast hest.heap)
          (hmk := ⟨by show (if pulled.mark then s.numMarksInH - 1 else s.numMarksInH) = _
                      rw [hinv.marks.1, hcm]; cases pulled.mark <;> rfl,
                   fun hgf => nomatch hg.symm.trans hgf⟩)
          (hcnt := by show s.H.dropLast.length + _ = _
                      rw [hRlen, List.length_dropLast, ← hcnt, Nat.sub_add_comm (List.length_pos_of_ne_nil hH)])
          (hRne := List.cons_ne_nil _ _)
          (hRsub := fun x hx => (List.mem_cons.1 hx).elim (· ▸ List.mem_of_getLast? hrl) List.mem_of_mem_dropLast)
          (hRle := hRlen.le) (hsame := Or.inr hRlen)
      obtain ⟨s₁, ds₁, L', hu, hinv', hk', hg', -, hn', -⟩ := update0_spec T _ _ L hinv₁
        pulled.item pulled.wt pulled.mark ds (hinv.pos _ hmem) (fun _ => hg)
      obtain ⟨rfl, rfl⟩ := Prod.mk.inj (Option.some.inj (hu.symm.trans h))
      rw [mkEntry_self (by exact hg)] at hinv'
      refine ⟨⟨L', hinv'.of_perm (hinv.perm.trans ?_)⟩, hg'.trans hg, ?_, hk' ▸ hkm1, hnz⟩
      · conv_lhs => rw [← hsplit, List.append_assoc]
        exact List.perm_middle
      · rw [hn']; exact (Nat.sub_add_cancel (hn ▸ hnz (List.ne_nil_of_mem hmem))).trans hn

/-- What `vo_union` (Props/C16.lean) concludes about a value `res` of `get_result`: `n` is the union's item count, `tot` the total
weight of everything fed to it, `maxK` its `max_k`. -/
structure ResOK (res : Sk Rat) (n : Nat) (tot : Rat) (maxK : Nat) : Prop where
  n_eq : res.n = n
  weight : skWeight res = tot
  size : res.H.length + res.R.length ≤ res.k
  kLe : res.k ≤ maxK
  notGadget : res.gadget = false
  noMarkCount : res.numMarksInH = 0
  noMarks : ∀ e ∈ res.H, e.mark = false

/-- the H region of a result: the model writes this `map` inline in each of the three coercers -/
def clearMarks (H : List E) : List E := H.map (fun e => { e with mark := false })

theorem sumW_clearMarks (H : List E) : sumW (clearMarks H) = sumW H := by
  induction H with
  | nil => rfl
  | cons e t ih => simp [clearMarks, sumW] at ih ⊢; rw [ih]

theorem clearMarks_length (H : List E) : (clearMarks H).length = H.length := by simp [clearMarks]

theorem clearMarks_noMarks (H : List E) : ∀ e ∈ clearMarks H, e.mark = false := by
  intro e he
  obtain ⟨x, _, rfl⟩ := List.mem_map.mp he
  rfl

/-- a valid estimation-mode state: H is a min-heap and no H item is lighter than tau -/
def WellFormed (s : Sk Rat) : Prop :=
  s.R ≠ [] → IsHeap s.H ∧ ∀ e ∈ s.H, s.totalWtR / (s.R.length : Rat) ≤ e.wt

theorem wtAt_clearMarks (H : List E) (i : Nat) : wtAt (clearMarks H) i = wtAt H i := by
  unfold wtAt clearMarks
  rw [List.getElem?_map]
  cases H[i]? <;> rfl

theorem isHeap_clearMarks {H : List E} (h : IsHeap H) : IsHeap (clearMarks H) :=
  heapFrom_of_agree (clearMarks_length H).le (fun i _ _ => wtAt_clearMarks H i) h

/-- the simple coercer and the last step of the migration: strip the marks of a gadget copy that has none left -/
theorem GCopy.coerce {ins : List E} {cnt maxK : Nat} {s res : Sk Rat} (hG : GCopy ins cnt maxK s)
    (hH : res.H = clearMarks s.H) (hR : res.R = s.R) (hW : res.totalWtR = s.totalWtR) (hk : res.k = s.k) (hn : res.n = s.n)
    (hg : res.gadget = false) (hm : res.numMarksInH = 0) : ResOK res cnt (sumW ins) maxK ∧ WellFormed res := by
  obtain ⟨⟨L, hinv⟩, -, hcnt, hkm, -⟩ := hG
  refine ⟨{ n_eq := hn.trans hcnt, weight := ?_, size := ?_, kLe := hk ▸ hkm, notGadget := hg, noMarkCount := hm,
            noMarks := hH ▸ clearMarks_noMarks _ }, fun hr => ?_⟩
  · rw [← hinv.skWeight_eq, skWeight, skWeight, hH, hR, hW, sumW_clearMarks]
  · rw [hH, hR, hk, clearMarks_length]; exact hinv.size_le
  · rw [hR] at hr
    rw [hH, hR, hW]
    refine ⟨isHeap_clearMarks (hinv.est hr).heap, fun e he => ?_⟩
    obtain ⟨x, hx, rfl⟩ := List.mem_map.mp he
    exact (hinv.est hr).tau_le hr (e := x) hx

theorem GCopy.loop {ins : List E} {cnt maxK : Nat} {T : Tunables} {fuel : Nat} {s s' : Sk Rat} {ds ds' : Draws Rat}
    (hG : GCopy ins cnt maxK s) (h : migrateLoop T fuel s ds = some (s', ds')) : GCopy ins cnt maxK s' := by
  fun_induction migrateLoop T fuel s ds with
  | case1 => cases h
  | case2 => cases h; exact hG
  | case3 _ _ _ _ _ _ hd ih => exact ih (hG.decreaseK hd) h
  | case4 => cases h
  | case5 => cases h; exact hG

theorem foldl_add_eq (l : List E) (acc : Rat) : l.foldl (fun a e => Num.add a e.wt) acc = acc + sumW l := by
  induction l generalizing acc with
  | nil => simp [sumW]
  | cons e t ih => rw [List.foldl_cons, ih, sumW, Num.add_rat, add_assoc]

theorem migrateFrom_spec {ins : List E} {cnt maxK : Nat} {T : Tunables} {g res : Sk Rat} {ds ds' : Draws Rat}
    (hG : GCopy ins cnt maxK g) (h : migrateFrom T g ds = some (res, ds')) : ResOK res cnt (sumW ins) maxK ∧ WellFormed res := by
  revert h
  fun_cases migrateFrom T g ds with
  | case1 => exact fun h => nomatch h
  | case2 => exact fun h => nomatch h
  | case3 => exact fun h => nomatch h
  | case4 g2 ds2 hd _ g3 ds3 hml =>
    intro h
    cases h
    exact ((hG.decreaseK hd).loop hml).coerce rfl rfl rfl rfl rfl rfl rfl

theorem migrateMarked_spec {ins : List E} {cnt maxK : Nat} {T : Tunables} {g res : Sk Rat} {ds ds' : Draws Rat}
    (hG : GCopy ins cnt maxK g) (h : migrateMarked T g ds = some (res, ds')) :
    ResOK res cnt (sumW ins) maxK ∧ WellFormed res := by
  revert h
  fun_cases migrateMarked T g ds with
  | case1 => exact fun h => nomatch h
  | case2 => exact fun h => nomatch h
  | case3 hm _ hc =>
    -- non-full and pseudo-exact; `H` is not empty because it holds a marked item
    simp only [Bool.and_eq_true, beq_iff_eq, decide_eq_true_eq] at hc
    obtain ⟨L, hinv⟩ := hG.inv
    have hH : 0 < g.H.length := List.length_pos_of_ne_nil fun hH => hm (by rw [hinv.marks.1, hH]; rfl)
    exact migrateFrom_spec ⟨⟨L, hinv.setK (List.eq_nil_of_length_eq_zero hc.1) hH (le_refl _)⟩, hG.isGadget, hG.n_eq,
      hc.2.le.trans hG.kLe, hG.nz⟩
  | case4 => exact migrateFrom_spec hG

/-- the `unmarked` of `markMovingCoercer`, written inline there: what stays in H when the marked entries move to R -/
def unmarkedOf (g : Sk Rat) : List E := g.H.filter (fun e => !e.mark)

theorem pseudoExact_eq_some {T : Tunables} {u : Un Rat} {sk r : Sk Rat} (h : pseudoExact T u sk = some (some r)) :
    u.gadget.R = [] ∧ 0 < u.gadget.numMarksInH ∧ u.gadget.numMarksInH = u.outerTauDenom ∧
    existUnmarkedLighter u.gadget (if T.coercerOuterTau then some u.outerTau else u.gadget.tau) = false ∧
    markMovingCoercer T u sk = some r := by
  unfold pseudoExact at h
  simp only [Option.ite_none_left_eq_some, Option.some.injEq, Bool.not_eq_true, Bool.not_eq_false', Bool.and_eq_true,
    beq_iff_eq, decide_eq_true_eq] at h
  obtain ⟨hc, he, h⟩ := h
  exact ⟨List.eq_nil_of_length_eq_zero hc.1.1, hc.1.2, hc.2, he, h⟩

theorem markMovingCoercer_eq_some {T : Tunables} {u : Un Rat} {sk r : Sk Rat} (h : markMovingCoercer T u sk = some r) :
    r.k = u.gadget.H.length + u.gadget.R.length ∧ r.n = u.n ∧ r.gadget = false ∧ r.numMarksInH = 0 ∧
    r.H.Perm (clearMarks (unmarkedOf u.gadget)) ∧
    (T.coercerHeapify = true → r.H = convertToHeap (clearMarks (unmarkedOf u.gadget))) ∧
    r.R = (u.gadget.R ++ (u.gadget.H.filter (·.mark)).map (·.item)).reverse ∧
    r.totalWtR = u.gadget.totalWtR + sumW (u.gadget.H.filter (·.mark)) := by
  unfold markMovingCoercer at h
  simp only [Option.ite_none_left_eq_some, Option.some.injEq] at h
  obtain ⟨-, rfl⟩ := h
  refine ⟨rfl, rfl, rfl, rfl, ?_, fun hT => if_pos hT, rfl, by simp only [foldl_add_eq]; simp⟩
  show (if T.coercerHeapify then _ else _ : List E).Perm _
  split
  · exact convertToHeap_perm _
  · rfl

/-- in the pseudo-exact case everything fed to the gadget is still in its `H`; the marked entries become the reservoir -/
theorem markMoving_resOK {T : Tunables} {u : Un Rat} {insG LG : List E} {tot : Rat} {cnt : Nat}
    (hu : UInv u insG LG tot cnt) (hR : u.gadget.R = []) (hm : 0 < u.gadget.numMarksInH) {sk r : Sk Rat}
    (h : markMovingCoercer T u sk = some r) : ResOK r cnt tot u.maxK := by
  have hg0 := hu.ginv.toInv0
  obtain ⟨hk, hn, hgad, hnm, hH, -, hRr, hW⟩ := markMovingCoercer_eq_some h
  obtain ⟨-, hhk, hW0⟩ := hg0.warm hR
  -- marked and unmarked entries together are H
  have hpart : (u.gadget.H.filter (·.mark) ++ unmarkedOf u.gadget).Perm u.gadget.H := List.filter_append_perm _ _
  have hmk : u.gadget.H.filter (·.mark) ≠ [] := List.ne_nil_of_length_pos (hg0.marks.1 ▸ hm : 0 < countMarks u.gadget.H)
  rw [hR, List.nil_append] at hRr
  refine { n_eq := hn.trans hu.n_eq, weight := ?_, size := ?_, kLe := ?_, notGadget := hgad, noMarkCount := hnm,
           noMarks := fun e he => clearMarks_noMarks _ e (hH.subset he) }
  · rw [skWeight, sumW_perm hH, sumW_clearMarks, if_neg (by rwa [hRr, List.reverse_eq_nil_iff, List.map_eq_nil_iff]), hW, hW0, zero_add, add_comm,
      ← sumW_append, sumW_perm hpart, ← hu.tot_eq, ← hg0.skWeight_eq, skWeight, if_pos hR, add_zero]
  · rw [hH.length_eq, clearMarks_length, hRr, hk, hR, List.length_reverse, List.length_map, ← hpart.length_eq,
      List.length_append, Nat.add_comm]; rfl
  · rw [hk, hR, ← hu.kEq]; exact hhk

theorem getResult_spec (T : Tunables) (u : Un Rat) (insG LG : List E) (tot : Rat) (cnt : Nat)
    (hu : UInv u insG LG tot cnt) (ds : Draws Rat) (res : Sk Rat) (ds' : Draws Rat)
    (h : u.getResult T ds = some (res, ds')) :
    ResOK res cnt tot u.maxK ∧ (pseudoExact T u { u.gadget with n := u.n } = none → WellFormed res) ∧
    ∀ o, pseudoExact T u { u.gadget with n := u.n } = some o → o = some res := by
  have hG : GCopy insG cnt u.maxK { u.gadget with n := u.n } :=
    ⟨⟨LG, hu.ginv.toInv0.setN _⟩, hu.isGadget, hu.n_eq, hu.kEq.le, hu.nz⟩
  revert h
  fun_cases Un.getResult T u ds with
  | case1 hm0 =>
    -- simple coercer
    intro h
    cases h
    have := hG.coerce (res := { u.gadget with n := u.n, gadget := false, H := clearMarks u.gadget.H }) rfl rfl rfl rfl rfl rfl
      (beq_iff_eq.1 hm0)
    exact ⟨hu.tot_eq ▸ this.1, fun _ => this.2, fun o ho => by simp [pseudoExact, beq_iff_eq.1 hm0] at ho⟩
  | case2 hm0 gcopy r hpe =>
    -- pseudo-exact: mark-moving coercer
    intro h
    cases h
    obtain ⟨hR, hm, -, -, hmm⟩ := pseudoExact_eq_some hpe
    exact ⟨markMoving_resOK hu hR hm hmm, fun hn => (nomatch hn.symm.trans hpe),
      fun o ho => Option.some.inj (ho.symm.trans hpe)⟩
  | case3 => exact fun h => nomatch h
  | case4 hm0 gcopy hpe =>
    -- migrate marked items by decreasing k
    intro h
    have := migrateMarked_spec hG h
    exact ⟨hu.tot_eq ▸ this.1, fun _ => this.2, fun o ho => nomatch ho.symm.trans hpe⟩

theorem existUnmarkedLighter_false {g : Sk Rat} {t : Rat} (h : existUnmarkedLighter g (some t) = false) :
    ∀ e ∈ g.H, e.mark = false → t ≤ e.wt := by
  intro e he hm
  unfold existUnmarkedLighter at h
  simp only [List.any_eq_false] at h
  have := h e he
  simp [hm] at this
  exact this

/-- with the repaired coercer (guard against the outer tau, result re-heapified) EVERY result of `get_result` is a
    valid estimation-mode state -/
theorem getResult_wf_repaired (T : Tunables) (hT1 : T.coercerOuterTau = true) (hT2 : T.coercerHeapify = true)
    (u : Un Rat) (insG LG : List E) (tot : Rat) (cnt : Nat) (hu : UInv u insG LG tot cnt) (hb : TauBook u insG)
    (ds : Draws Rat) (res : Sk Rat) (ds' : Draws Rat) (h : u.getResult T ds = some (res, ds')) : WellFormed res := by
  obtain ⟨-, hmig, hmoved⟩ := getResult_spec T u insG LG tot cnt hu ds res ds' h
  cases hpe : pseudoExact T u { u.gadget with n := u.n } with
  | none => exact hmig hpe
  | some o =>
    -- the mark-moving coercer ran: the new tau is the outer tau its guard compared with
    have hg0 := hu.ginv.toInv0
    obtain ⟨hR, hmpos, hc3, hguard, hmm⟩ := pseudoExact_eq_some (hmoved o hpe ▸ hpe)
    rw [if_pos hT1] at hguard
    obtain ⟨-, -, -, -, -, hH, hRr, hW⟩ := markMovingCoercer_eq_some hmm
    obtain ⟨hL, -, hW0⟩ := hg0.warm hR
    -- everything ever fed is still in H
    have hperm : insG.Perm u.gadget.H := by have := hg0.perm; rw [hL] at this; simpa using this
    have hcm : countMarks insG = countMarks u.gadget.H := countMarks_perm hperm
    have hden : u.outerTauDenom = countMarks insG := by rw [← hc3, hg0.marks.1, hcm]
    have hnum : u.outerTauNumer = sumW (u.gadget.H.filter (·.mark)) := by
      rw [hb.2 hden]; exact sumW_perm (hperm.filter _)
    have hdpos : 0 < u.outerTauDenom := by rw [← hc3]; exact hmpos
    have hrlen : res.R.length = u.outerTauDenom := by
      rw [hRr, hR, hden, hcm]; simp [countMarks]
    have htau : res.totalWtR / (res.R.length : Rat) = u.outerTau := by
      rw [hW, hW0, zero_add, hrlen, ← hnum]
      unfold Un.outerTau
      have : (u.outerTauDenom == 0) = false := by simp; omega
      simp [this]
    intro _
    rw [hH hT2, htau]
    refine ⟨convertToHeap_heap _, fun e he => ?_⟩
    obtain ⟨x, hx, rfl⟩ := List.mem_map.mp ((convertToHeap_perm _).subset he)
    obtain ⟨hxH, hxm⟩ := List.mem_filter.mp hx
    exact existUnmarkedLighter_false hguard x hxH (by simpa using hxm)

end DS.VarOpt
