/- L2: the open-addressing table refines the key-sorted association list. -/
import DSModel.Theta.Table
import DSProofs.Lemmas.ThetaInv
import DSProofs.Lemmas.OddStride
-- The proofs here need `Finite.injective_iff_surjective` only; the five imports are what Props/C01_Table.lean and
-- Gen/Theta.lean see of Mathlib, and with it in scope `2 ^ n` in their statements elaborates to another term than in core Lean.
import Mathlib.Data.Nat.ModEq
import Mathlib.Data.Fintype.Card
import Mathlib.Data.Fintype.Fin
import Mathlib.Data.Fintype.EquivFin
import Mathlib.Data.Nat.Prime.Basic
namespace DS.Theta.L2
open DS.Theta

variable {σ : Type}

def pos (size stride idx j : Nat) : Nat := (idx + j * stride) % size

theorem pos_zero (size stride idx : Nat) (h : idx < size) : pos size stride idx 0 = idx := by
  simp [pos, Nat.mod_eq_of_lt h]

theorem pos_succ (size stride idx j : Nat) : pos size stride idx (j + 1) = pos size stride ((idx + stride) % size) j := by
  unfold pos
  rw [Nat.add_mod ((idx + stride) % size), Nat.mod_mod, ← Nat.add_mod]
  congr 1
  rw [Nat.succ_mul]; omega

/-- `o` is what the probe finds where it stops -/
theorem probe_hit (slots : Slots σ) (size stride key : Nat) (o : Option (Nat × σ)) (ho : ∀ e, o = some e → e.1 = key) :
    ∀ (j fuel idx : Nat), j < fuel → idx < size →
    (∀ j', j' < j → ∃ k' v', slots[pos size stride idx j']? = some (some (k', v')) ∧ k' ≠ key) →
    slots[pos size stride idx j]? = some o →
    probe slots size stride key fuel idx = some (pos size stride idx j, o.isSome) := by
  intro j
  induction j with
  | zero =>
    intro fuel idx hf hidx _ hb
    cases fuel with
    | zero => omega
    | succ fuel =>
      rw [pos_zero size stride idx hidx] at hb ⊢
      rw [probe, hb]
      cases o with
      | none => rfl
      | some e => exact if_pos (ho e rfl)
  | succ j ih =>
    intro fuel idx hf hidx hpre hb
    cases fuel with
    | zero => omega
    | succ fuel =>
      obtain ⟨k', v', h0, hne⟩ := hpre 0 (by omega)
      rw [pos_zero size stride idx hidx] at h0
      rw [pos_succ] at hb ⊢
      rw [probe, h0]
      refine (if_neg hne).trans (ih fuel _ (by omega) (Nat.mod_lt _ (by omega)) (fun j' hj' => ?_) hb)
      have := hpre (j' + 1) (by omega)
      rwa [pos_succ] at this

theorem pos_injective (lg stride idx : Nat) (hodd : stride % 2 = 1) (j1 j2 : Nat) (h1 : j1 < 2^lg) (h2 : j2 < 2^lg)
    (he : pos (2^lg) stride idx j1 = pos (2^lg) stride idx j2) : j1 = j2 := by
  rcases Nat.lt_trichotomy j1 j2 with h | h | h
  · exact absurd he (odd_stride_inj hodd idx lg h h2)
  · exact h
  · exact absurd he.symm (odd_stride_inj hodd idx lg h h1)

theorem pos_surjective (lg stride idx : Nat) (hodd : stride % 2 = 1) (e : Nat) (he : e < 2^lg) :
    ∃ j, j < 2^lg ∧ pos (2^lg) stride idx j = e := by
  have hpos : 0 < 2^lg := Nat.two_pow_pos lg
  let f : Fin (2^lg) → Fin (2^lg) := fun j => ⟨pos (2^lg) stride idx j.1, Nat.mod_lt _ hpos⟩
  have hinj : Function.Injective f := by
    intro a b hab
    have := congrArg Fin.val hab
    exact Fin.ext (pos_injective lg stride idx hodd a.1 b.1 a.2 b.2 this)
  have hsurj : Function.Surjective f := Finite.injective_iff_surjective.1 hinj
  obtain ⟨j, hj⟩ := hsurj ⟨e, he⟩
  exact ⟨j.1, j.2, congrArg Fin.val hj⟩

theorem strideOf_odd (bits key lg : Nat) : strideOf bits key lg % 2 = 1 := Nat.mul_add_mod ..

def kpos (bits lg k j : Nat) : Nat := pos (2^lg) (strideOf bits k lg) (k % 2^lg) j

theorem kpos_lt (bits lg k j : Nat) : kpos bits lg k j < 2^lg := Nat.mod_lt _ (Nat.two_pow_pos lg)

/-- slot `idx` is where the probe for key `k` arrives: it lies on the probe path of `k` behind slots that hold other keys
(`PInv.path` is this, written out) -/
def OnPath (bits lg : Nat) (slots : Slots σ) (k idx : Nat) : Prop :=
  ∃ j, j < 2^lg ∧ kpos bits lg k j = idx ∧
    ∀ j', j' < j → ∃ k' v', slots[kpos bits lg k j']? = some (some (k', v')) ∧ k' ≠ k

theorem find_onPath {bits lg : Nat} {slots : Slots σ} {k idx : Nat} (h : OnPath bits lg slots k idx)
    (o : Option (Nat × σ)) (hs : slots[idx]? = some o) (ho : ∀ e, o = some e → e.1 = k) :
    find bits lg slots k = some (idx, o.isSome) := by
  obtain ⟨j, hj, rfl, hpre⟩ := h
  exact probe_hit slots (2^lg) (strideOf bits k lg) k o ho j (2^lg) (k % 2^lg) hj (Nat.mod_lt _ (Nat.two_pow_pos lg)) hpre hs

/-- representation invariant: `2^lg` slots; every stored key sits on its own probe path behind slots that hold other
keys (so `find` reaches it); no key is stored twice -/
structure PInv (bits lg : Nat) (slots : Slots σ) : Prop where
  len : slots.length = 2^lg
  path : ∀ (i k : Nat) (v : σ), slots[i]? = some (some (k, v)) → ∃ j, j < 2^lg ∧ kpos bits lg k j = i ∧
           ∀ j', j' < j → ∃ k' v', slots[kpos bits lg k j']? = some (some (k', v')) ∧ k' ≠ k
  distinct : ∀ (i i' k : Nat) (v v' : σ), slots[i]? = some (some (k, v)) → slots[i']? = some (some (k, v')) → i = i'

theorem pinv_empty (bits lg : Nat) : PInv bits lg (emptySlots lg : Slots σ) :=
  ⟨List.length_replicate, fun _ _ _ h => (nomatch List.eq_of_mem_replicate (List.mem_of_getElem? h)),
    fun _ _ _ _ _ h => (nomatch List.eq_of_mem_replicate (List.mem_of_getElem? h))⟩

theorem find_absent (bits lg : Nat) (slots : Slots σ) (h : PInv bits lg slots) (k : Nat)
    (habs : ∀ (i : Nat) (v : σ), slots[i]? ≠ some (some (k, v))) (hemp : ∃ e, e < 2^lg ∧ slots[e]? = some none) :
    ∃ idx, OnPath bits lg slots k idx ∧ slots[idx]? = some none := by
  obtain ⟨e, he, hes⟩ := hemp
  obtain ⟨j0, hj0, hj0e⟩ := pos_surjective lg (strideOf bits k lg) (k % 2^lg) (strideOf_odd bits k lg) e he
  have hex : ∃ j, j < 2^lg ∧ slots[kpos bits lg k j]? = some none :=
    ⟨j0, hj0, by show slots[kpos bits lg k j0]? = _; unfold kpos; rw [hj0e]; exact hes⟩
  classical
  -- the first empty position of the path: every earlier one holds another key
  obtain ⟨hj, hjs⟩ := Nat.find_spec hex
  refine ⟨_, ⟨Nat.find hex, hj, rfl, fun j' hj' => ?_⟩, hjs⟩
  have hlt : kpos bits lg k j' < slots.length := by rw [h.len]; exact kpos_lt bits lg k j'
  have hget : slots[kpos bits lg k j']? = some slots[kpos bits lg k j'] := List.getElem?_eq_getElem hlt
  cases hx : slots[kpos bits lg k j'] with
  | none =>
    exfalso
    exact Nat.find_min hex hj' ⟨by omega, by rw [hget, hx]⟩
  | some kv =>
    obtain ⟨k', v'⟩ := kv
    refine ⟨k', v', by rw [hget, hx], ?_⟩
    rintro rfl
    exact habs _ v' (by rw [hget, hx])

/-- The table is only ever written in this way: a new key goes to the first empty slot of its path, a present one gets a
new summary. -/
theorem pinv_set (bits lg : Nat) (slots : Slots σ) (h : PInv bits lg slots) (idx k : Nat) (v : σ) (o : Option (Nat × σ))
    (hpath : OnPath bits lg slots k idx) (hs : slots[idx]? = some o) (ho : ∀ e, o = some e → e.1 = k)
    (honly : ∀ (i : Nat) (v2 : σ), slots[i]? = some (some (k, v2)) → i = idx) :
    PInv bits lg (slots.set idx (some (k, v))) := by
  have hself : (slots.set idx (some (k, v)))[idx]? = some (some (k, v)) :=
    List.getElem?_set_self (List.getElem?_eq_some_iff.1 hs).1
  have hother : ∀ i, i ≠ idx → (slots.set idx (some (k, v)))[i]? = slots[i]? := fun i hi => List.getElem?_set_ne (Ne.symm hi)
  -- a non-empty slot of the new table is the written one, or was there before; an old one keeps its key
  have hnew : ∀ (i k2 : Nat) (v2 : σ), (slots.set idx (some (k, v)))[i]? = some (some (k2, v2)) →
      (i = idx ∧ k2 = k) ∨ (i ≠ idx ∧ slots[i]? = some (some (k2, v2))) := by
    intro i k2 v2 hi
    by_cases hii : i = idx
    · rw [hii, hself] at hi
      exact Or.inl ⟨hii, (congrArg Prod.fst (Option.some.inj (Option.some.inj hi))).symm⟩
    · rw [hother i hii] at hi; exact Or.inr ⟨hii, hi⟩
  have hold : ∀ (i k2 : Nat) (v2 : σ), slots[i]? = some (some (k2, v2)) →
      ∃ v3, (slots.set idx (some (k, v)))[i]? = some (some (k2, v3)) := by
    intro i k2 v2 hi
    by_cases hii : i = idx
    · rw [hii] at hi ⊢
      exact ⟨v, by rw [hself, ← ho (k2, v2) (Option.some.inj (hs.symm.trans hi))]⟩
    · exact ⟨v2, by rw [hother i hii]; exact hi⟩
  have hpre : ∀ (k2 i : Nat), OnPath bits lg slots k2 i → OnPath bits lg (slots.set idx (some (k, v))) k2 i := by
    rintro k2 i ⟨j, hj, hji, hp⟩
    refine ⟨j, hj, hji, fun j' hj' => ?_⟩
    obtain ⟨k', v', h1, h2⟩ := hp j' hj'
    obtain ⟨v3, h3⟩ := hold _ k' v' h1
    exact ⟨k', v3, h3, h2⟩
  refine ⟨by rw [List.length_set]; exact h.len, ?_, ?_⟩
  · intro i k2 v2 hi
    rcases hnew i k2 v2 hi with ⟨rfl, rfl⟩ | ⟨_, hi⟩
    · exact hpre _ _ hpath
    · exact hpre k2 i (h.path i k2 v2 hi)
  · intro i i' k2 v2 v2' hi hi'
    rcases hnew i k2 v2 hi with ⟨rfl, rfl⟩ | ⟨_, h1⟩ <;> rcases hnew i' _ v2' hi' with ⟨rfl, hk⟩ | ⟨_, h1'⟩
    · rfl
    · exact (honly i' v2' h1').symm
    · exact honly i v2 (hk ▸ h1)
    · exact h.distinct i i' k2 v2 v2' h1 h1'

theorem entries_cons_none (t : Slots σ) : entries (none :: t) = entries t := rfl
theorem entries_cons_some (e : Nat × σ) (t : Slots σ) : entries (some e :: t) = e :: entries t := rfl

theorem mem_entries (slots : Slots σ) (x : Nat × σ) : x ∈ entries slots ↔ ∃ i : Nat, slots[i]? = some (some x) := by
  unfold entries
  rw [List.mem_filterMap]
  constructor
  · rintro ⟨a, ha, hax⟩
    simp only [id] at hax
    subst hax
    obtain ⟨i, hi⟩ := List.mem_iff_getElem?.1 ha
    exact ⟨i, hi⟩
  · rintro ⟨i, hi⟩
    exact ⟨some x, List.mem_iff_getElem?.2 ⟨i, hi⟩, rfl⟩

theorem mem_entries_set (slots : Slots σ) (idx : Nat) (e x : Nat × σ) (hidx : idx < slots.length) :
    x ∈ entries (slots.set idx (some e)) ↔ (x = e ∨ ∃ i, i ≠ idx ∧ slots[i]? = some (some x)) := by
  rw [mem_entries]
  constructor
  · rintro ⟨i, hi⟩
    by_cases hii : i = idx
    · rw [hii, List.getElem?_set_self hidx] at hi
      exact Or.inl (Option.some.inj (Option.some.inj hi)).symm
    · rw [List.getElem?_set_ne (Ne.symm hii)] at hi
      exact Or.inr ⟨i, hii, hi⟩
  · rintro (rfl | ⟨i, hii, hi⟩)
    · exact ⟨idx, List.getElem?_set_self hidx⟩
    · exact ⟨i, by rw [List.getElem?_set_ne (Ne.symm hii)]; exact hi⟩

theorem keys_entries_nodup (slots : Slots σ)
    (h : ∀ (i i' k : Nat) (v v' : σ), slots[i]? = some (some (k, v)) → slots[i']? = some (some (k, v')) → i = i') :
    (keys (entries slots)).Nodup := by
  rw [keys, entries, List.Nodup, List.pairwise_map, List.pairwise_filterMap, List.pairwise_iff_getElem]
  intro i j hi hj hij a ha b hb hab
  have h1 : slots[i]? = some (some (a.1, a.2)) := (List.getElem?_eq_getElem hi).trans (congrArg some ha)
  have h2 : slots[j]? = some (some (a.1, b.2)) := (List.getElem?_eq_getElem hj).trans (congrArg some (hab ▸ hb))
  exact Nat.ne_of_lt hij (h i j a.1 a.2 b.2 h1 h2)

theorem entries_length_le (slots : Slots σ) : (entries slots).length ≤ slots.length := by
  unfold entries; exact List.length_filterMap_le _ _

theorem exists_empty : ∀ (slots : Slots σ), (entries slots).length < slots.length → ∃ e, e < slots.length ∧ slots[e]? = some none
  | [], h => nomatch h
  | none :: t, _ => ⟨0, Nat.zero_lt_succ _, rfl⟩
  | some e :: t, h => by
    obtain ⟨i, hi, his⟩ := exists_empty t (Nat.lt_of_succ_lt_succ h)
    exact ⟨i + 1, Nat.succ_lt_succ hi, his⟩

theorem entries_empty (lg : Nat) : entries (emptySlots lg : Slots σ) = [] := by
  unfold entries emptySlots
  induction (2^lg) with
  | zero => rfl
  | succ n ih => exact ih

end DS.Theta.L2
