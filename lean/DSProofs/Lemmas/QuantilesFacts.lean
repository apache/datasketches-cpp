/- Per-sketch consequences of the invariant for the classic quantiles sketch: the sorted view, exact mode, the retained count; and
the rejected queries (`checkSplitPoints_*`, `bad_splits_rejected`), which need no invariant. -/
import DSProofs.Lemmas.QuantilesView
import DSProofs.Lemmas.QuantilesRel
namespace DS.Quantiles

open DS.SortedView

variable {α : Type}

section
variable {c : Cmp α} (hlt : SWO c.lt) {s : Sketch α} (h : Inv c (Sorted c.lt) s)
include hlt h

theorem rawView_sortBB_sorted : SortedE c.lt ((s.sortBB c).rawView c) := by
  have h' := sortBB_inv (sortOK_sorted hlt) h
  exact rawView_sorted hlt (h'.bb_sorted (sortBB_flag c s)) h'.lv_shape.sorted

theorem view_rankNum (x : α) (incl : Bool) :
    SortedView.rankNum c.lt (s.view c) x incl = wSketch (belowP c.lt x incl) s := by
  rw [belowP_eq_isBelow, Sketch.view, rankNum_eq hlt.strictWeak _ (rawView_sortBB_sorted hlt h), wP_perm _ (rawView_perm c _),
    wP_expectedIter, wSketch_sortBB]

theorem rank_monotone :
    (∀ x y incl, c.lt y x = false →
      SortedView.rankNum c.lt (s.view c) x incl ≤ SortedView.rankNum c.lt (s.view c) y incl) ∧
    (∀ x, SortedView.rankNum c.lt (s.view c) x false ≤ SortedView.rankNum c.lt (s.view c) x true) ∧
    (∀ x incl, SortedView.rankNum c.lt (s.view c) x incl ≤ (s.view c).total) := by
  have hs := rawView_sortBB_sorted hlt h
  exact ⟨fun _ _ incl hxy => rankNum_mono hlt.strictWeak hs hxy incl, rankNum_excl_le_incl hlt.strictWeak hs,
    rankNum_le_total hlt.strictWeak hs⟩

theorem view_total : (s.view c).total = s.n := by
  unfold Sketch.view SortedView.build
  simp only
  rw [total_eq, ((rawView_perm c (s.sortBB c)).map _).sum_nat,
    (expectedIter_facts (sortBB_inv (sortOK_sorted hlt) h)).2, (sortBB_fields c s).2.1]

theorem view_sorted : Sorted c.lt ((s.view c).ents.map (·.1)) := by
  unfold Sketch.view SortedView.build
  simp only [cumulate_fst]
  exact sorted_iff.mpr (rawView_sortBB_sorted hlt h)

theorem view_length : (s.view c).ents.length = s.numRetained := by
  unfold Sketch.view SortedView.build
  simp only
  rw [cumulate_length, (rawView_perm c _).length_eq, (expectedIter_facts (sortBB_inv (sortOK_sorted hlt) h)).1]
  obtain ⟨f1, f2, _⟩ := sortBB_fields c s
  simp [Sketch.numRetained, f1, f2]

end

theorem retained_formula {c : Cmp α} {S : List α → Prop} {s : Sketch α} (h : Inv c S s) :
    s.numRetained = s.bb.length + s.k * popcount s.bits ∧ s.bb.length + totalLen s.levels = s.numRetained := by
  constructor
  · simp [Sketch.numRetained, computeRetained, h.bb_len, h.bits_eq]
  · simp [Sketch.numRetained, computeRetained, h.bb_len, h.lv_shape.totalLen_eq, h.bits_eq]

theorem exact_view {c : Cmp α} (hlt : SWO c.lt) {s : Sketch α} {items : List α}
    (h : Inv c (Sorted c.lt) s) (hr : RelC c s items) (hex : s.n < 2 * s.k) :
    ∃ sorted : List α, sorted.Perm items ∧ Sorted c.lt sorted ∧
      (s.sortBB c).rawView c = sorted.map (fun x => (x, 1)) := by
  have hb := h.bits_zero_of_lt hex
  have h' := sortBB_inv (sortOK_sorted hlt) h
  obtain ⟨_, _, f3, f4, _, _, f7⟩ := sortBB_fields c s
  have hlv : (s.sortBB c).levels = [] := f4.trans (h.of_bits_zero hb).2
  refine ⟨(s.sortBB c).bb, f7.trans (hr.exact hb), h'.bb_sorted (sortBB_flag c s), ?_⟩
  simp [Sketch.rawView, hlv, addLevels, SortedView.add]

theorem exact_rank {c : Cmp α} (hlt : SWO c.lt) {s : Sketch α} {items : List α}
    (h : Inv c (Sorted c.lt) s) (hr : RelC c s items) (hex : s.n < 2 * s.k) (x : α) (incl : Bool) :
    SortedView.rankNum c.lt (s.view c) x incl = items.countP (belowP c.lt x incl) ∧ (s.view c).total = items.length := by
  have hb := h.bits_zero_of_lt hex
  have hlv := (h.of_bits_zero hb).2
  refine ⟨?_, by rw [view_total hlt h, hr.len]⟩
  rw [view_rankNum hlt h]
  simp [wSketch, hlv, wLevels, (hr.exact hb).countP_eq]

/-- `w`: the integer weight threshold the code computes from the rank (`⌈r·n⌉` inclusive, `⌊r·n⌋` exclusive) -/
theorem exact_quantile {c : Cmp α} (hlt : SWO c.lt) {s : Sketch α} {items : List α}
    (h : Inv c (Sorted c.lt) s) (hr : RelC c s items) (hex : s.n < 2 * s.k) (w : Nat) (incl : Bool) :
    ∃ sorted : List α, sorted.Perm items ∧ Sorted c.lt sorted ∧
      SortedView.quantileAt (s.view c) w incl =
        match sorted[(if incl then w - 1 else w)]? with
        | some x => some x
        | none => sorted.getLast? := by
  obtain ⟨sorted, hp, hs, hraw⟩ := exact_view hlt h hr hex
  refine ⟨sorted, hp, hs, ?_⟩
  unfold Sketch.view SortedView.quantileAt SortedView.build
  simp only [hraw]
  rw [quantGo_unit, Nat.sub_zero, Option.or_none]
  rfl

theorem checkSplitPoints_nan (c : Cmp α) : ∀ (sp : List α) (x : α), x ∈ sp → c.nan x = true → checkSplitPoints c sp = false := by
  intro sp
  induction sp with
  | nil => intro x hx; simp at hx
  | cons a t ih =>
    intro x hx hnan
    cases t with
    | nil =>
      simp at hx; subst hx
      simp [checkSplitPoints, hnan]
    | cons b t' =>
      rcases List.mem_cons.mp hx with rfl | hx
      · simp [checkSplitPoints, hnan]
      · simp [checkSplitPoints, ih x hx hnan]

theorem checkSplitPoints_order (c : Cmp α) : ∀ (pre post : List α) (a b : α), c.lt a b = false →
    checkSplitPoints c (pre ++ a :: b :: post) = false := by
  intro pre
  induction pre with
  | nil => intro post a b hab; simp [checkSplitPoints, hab]
  | cons x t ih =>
    intro post a b hab
    cases t with
    | nil => simp [checkSplitPoints, hab]
    | cons y t' =>
      have := ih post a b hab
      simp only [List.cons_append] at this ⊢
      simp [checkSplitPoints, this]

theorem bad_splits_rejected (c : Cmp α) (s : Sketch α) (sp : List α) (incl : Bool)
    (hbad : checkSplitPoints c sp = false) : (s.getCDFNum c sp incl).2 = .rejected := by
  unfold Sketch.getCDFNum
  by_cases hn : s.n = 0
  · simp [hn]
  · simp [hn, hbad]

end DS.Quantiles
