/- `Sim4`: the concrete HLL_4 array and the L1 state (target HLL_4) agree on registers, curMin and numAtCurMin along every
stream (for Props/C03.lean `hll4_stream_agrees`). -/
import DSProofs.Lemmas.HllArray4
namespace DS.Hll

variable {ν : Type} [HNum ν]

structure Sim4 (p : Params) (h : H4) (s : St ν) : Prop where
  tt : s.tt = .h4
  lgK : s.lgK = h.lgK
  regs : s.regs = h.regs p
  curMin : s.curMin = h.curMin
  num : s.numAtCurMin = h.numAtCurMin

theorem Sim4.step {p : Params} (ht : p.auxToken = 15) {h : H4} {s : St ν} {M : Nat → Prop}
    (hi : Inv4 p h) (hs : HInv p s M) (hr : Sim4 p h s) (c : Nat) :
    Inv4 p (h.update p c) ∧ Sim4 p (h.update p c) (hllUpdate p s c) := by
  obtain ⟨i1, i2, i3, i4⟩ := h4_refines ht hi c
  have hf := hllUpdate_fields p s c
  have hq := fun h4 => hs.cm_le h4 _ (cSlot_lt p s.lgK c)
  have hc := hllUpdate_counts p s c hq
  rw [hr.tt, hr.lgK, hr.regs, hr.curMin, hr.num, ← i4] at hc
  refine ⟨i1, hf.tt.trans hr.tt, (hf.lgK.trans hr.lgK).trans i2.symm, ?_, congrArg Prod.fst hc, congrArg Prod.snd hc⟩
  rw [hllUpdate_regs p s c hq, hr.lgK, hr.regs, i3]

theorem Sim4.foldl {p : Params} (ht : p.auxToken = 15) : ∀ (cs : List Nat) {h : H4} {s : St ν} {M : Nat → Prop},
    Inv4 p h → HInv p s M → Sim4 p h s →
    Inv4 p (cs.foldl (H4.update p) h) ∧ Sim4 p (cs.foldl (H4.update p) h) (cs.foldl (hllUpdate p) s)
  | [], _, _, _, hi, _, hr => ⟨hi, hr⟩
  | c :: cs, _, _, _, hi, hs, hr => by
    have st := Sim4.step ht hi hs hr c
    exact Sim4.foldl ht cs st.1 (hs.hllUpdate c) st.2

theorem Sim4.init (p : Params) (lgK : Nat) (sf : Bool) : Sim4 p (H4.new lgK) (newHll lgK .h4 sf : St ν) :=
  ⟨rfl, rfl, (H4.new_regs p lgK).symm, rfl, rfl⟩

end DS.Hll
