/- C19: contract shapes of the class methods, and one glue lemma per shape, stated about the piece of `step` that runs the method
   (`runM w m >>= fun p => okW …`) so that `step_safe` applies it as it stands. -/
import DSProofs.Lemmas.LifeWorld
namespace DS.Life

/-- unlike `SafeX` it accepts `Err.bad`, with which `step` answers an ill-formed history (unknown or reused id, use of a
    moved-from object, assignment between classes): the theorems say nothing about those -/
def StepOK {α} (r : Except Err α) (Q : α → Prop) : Prop :=
  match r with
  | .ok a => Q a
  | .error (.pre _) => False
  | .error _ => True

theorem StepOK.bind {α β} {r : Except Err α} {f : α → Except Err β} {Q : α → Prop} {R : β → Prop}
    (h : StepOK r Q) (k : ∀ a, Q a → StepOK (f a) R) : StepOK (r >>= f) R := by
  cases r with
  | error e => cases e <;> exact h
  | ok a => exact k a h

theorem StepOK.of_safeX {α} {r : Except Err (α × Heap)} {Q : α → Heap → Prop} (s : SafeX r Q) : StepOK r (fun p => Q p.1 p.2) := by
  cases r with
  | ok p => exact s
  | error e =>
    cases e with
    | pre _ => exact s
    | _ => trivial

/-- a constructor.  In every shape `res` reads the resulting object off what the program returns, `n0` is the heap's `next` at
    the call and `ids0` its block ids, against which `Owns` states what the heap holds afterwards -/
def NewC {α} (sp : ObjSpec) (m : M α) (res : α → Obj) : Prop :=
  ∀ n0 ids0, TripleS n0 (foot [] n0) (fun h => h.ids = ids0 ∧ h.next = n0 ∧ (∀ x, x ∈ ids0 → x < n0)) m
    (fun a h' => sp.Usable h' (res a) ∧ Owns h' ids0 [] (sp.owned (res a)) n0)

/-- a mutator of one usable object -/
def MutC {α} (sp : ObjSpec) (o : Obj) (m : M α) (res : α → Obj) : Prop :=
  ∀ n0 ids0, TripleS n0 (foot (sp.owned o) n0)
    (fun h => sp.Usable h o ∧ h.ids = ids0 ∧ h.next = n0 ∧ (∀ x, x ∈ ids0 → x < n0)) m
    (fun a h' => sp.Usable h' (res a) ∧ Owns h' ids0 (sp.owned o) (sp.owned (res a)) n0)

/-- a reader may use temporary blocks, gone again at the end -/
def ReadC {α} (sp : ObjSpec) (o : Obj) (m : M α) : Prop :=
  ∀ n0 ids0, TripleS n0 (foot [] n0)
    (fun h => sp.Usable h o ∧ h.ids = ids0 ∧ h.next = n0 ∧ (∀ x, x ∈ ids0 → x < n0) ∧ (∀ b, b ∈ sp.owned o → b < n0)) m
    (fun _ h' => ∀ x, x ∈ h'.ids ↔ x ∈ ids0)

/-- copy constructor, deserialize ∘ serialize: a new object from a usable one that is only read -/
def FromC {α} (sp : ObjSpec) (o : Obj) (m : M α) (res : α → Obj) : Prop :=
  ∀ n0 ids0, TripleS n0 (foot [] n0)
    (fun h => sp.Usable h o ∧ h.ids = ids0 ∧ h.next = n0 ∧ (∀ x, x ∈ ids0 → x < n0) ∧ (∀ b, b ∈ sp.owned o → b < n0)) m
    (fun a h' => sp.Usable h' (res a) ∧ Owns h' ids0 [] (sp.owned (res a)) n0)

/-- destructor, of a usable or a moved-from object -/
def DtorC (sp : ObjSpec) (o : Obj) (m : M Unit) : Prop :=
  ∀ n0 ids0, TripleS n0 (foot (sp.owned o) n0) (fun h => sp.Inv h o ∧ h.ids = ids0 ∧ h.next = n0 ∧ (∀ x, x ∈ ids0 → x < n0)) m
    (fun _ h' => Owns h' ids0 (sp.owned o) [] n0)

/-- move constructor: (new object, moved-from source) -/
def MoveC (sp : ObjSpec) (o : Obj) (m : M (Obj × Obj)) : Prop :=
  ∀ n0 ids0, TripleS n0 (foot (sp.owned o) n0) (fun h => sp.Usable h o ∧ h.ids = ids0 ∧ h.next = n0 ∧ (∀ x, x ∈ ids0 → x < n0)) m
    (fun r h' => sp.Usable h' r.1 ∧ sp.Inv h' r.2 ∧ (∀ b, b ∈ sp.owned r.1 → b ∉ sp.owned r.2) ∧
      Owns h' ids0 (sp.owned o) (sp.owned r.1 ++ sp.owned r.2) n0)

/-- copy assignment `t = o` -/
def CAssignC (sp : ObjSpec) (t o : Obj) (m : M Obj) : Prop :=
  ∀ n0 ids0, TripleS n0 (foot (sp.owned t) n0)
    (fun h => sp.Inv h t ∧ sp.Usable h o ∧ (t = o ∨ ∀ b, b ∈ sp.owned t → b ∉ sp.owned o) ∧ h.ids = ids0 ∧ h.next = n0 ∧
      (∀ b, b ∈ sp.owned t → b < n0) ∧ (∀ b, b ∈ sp.owned o → b < n0) ∧ (∀ x, x ∈ ids0 → x < n0)) m
    (fun t' h' => sp.Usable h' t' ∧ Owns h' ids0 (sp.owned t) (sp.owned t') n0)

/-- move assignment between two different objects: (this, other) -/
def MAssignC (sp : ObjSpec) (t o : Obj) (m : M (Obj × Obj)) : Prop :=
  ∀ n0 ids0, TripleS n0 (foot (sp.owned t ++ sp.owned o) n0)
    (fun h => sp.Inv h t ∧ sp.Usable h o ∧ (∀ b, b ∈ sp.owned t → b ∉ sp.owned o) ∧ h.ids = ids0 ∧ h.next = n0 ∧
      (∀ x, x ∈ ids0 → x < n0)) m
    (fun r h' => sp.Usable h' r.1 ∧ sp.Inv h' r.2 ∧ (∀ b, b ∈ sp.owned r.1 → b ∉ sp.owned r.2) ∧
      Owns h' ids0 (sp.owned t ++ sp.owned o) (sp.owned r.1 ++ sp.owned r.2) n0)

/-- merge of `o` into `t` -/
def MergeC {α} (sp : ObjSpec) (t o : Obj) (byMove : Bool) (m : M α) (res : α → Obj) : Prop :=
  ∀ n0 ids0, TripleS n0 (foot (sp.owned t ++ sp.owned o) n0)
    (fun h => sp.Usable h t ∧ sp.Usable h o ∧ (∀ b, b ∈ sp.owned t → b ∉ sp.owned o) ∧ h.ids = ids0 ∧ h.next = n0 ∧
      (∀ b, b ∈ sp.owned t → b < n0) ∧ (∀ b, b ∈ sp.owned o → b < n0) ∧ (∀ x, x ∈ ids0 → x < n0)) m
    (fun a h' => sp.Usable h' (res a) ∧ sp.Inv h' o ∧ (byMove = false → sp.Usable h' o) ∧
      (∀ b, b ∈ sp.owned (res a) → b ∉ sp.owned o) ∧
      Owns h' ids0 (sp.owned t ++ sp.owned o) (sp.owned (res a) ++ sp.owned o) n0)

variable {sp : ObjSpec} {w : World}

theorem StepOK.run {α} {S P} {m : M α} {Q : α → Heap → Prop} (c : TripleS w.heap.next S P m Q) (hP : P w.heap)
    {objs : α × Heap → List Entry} (k : ∀ p, Q p.1 p.2 → Frame S w.heap p.2 → WorldInv sp ⟨p.2, objs p⟩) :
    StepOK (runM w m >>= fun p => okW w p.2 (objs p)) (WorldInv sp) :=
  StepOK.bind (StepOK.of_safeX (c w.heap (Nat.le_refl _) hP)) fun p q => k p q.1 q.2

theorem glue_new {α} (hw : WorldInv sp w) {m : M α} {res : α → Obj} (c : NewC sp m res) (id : Nat)
    (hf : ∀ e, e ∈ w.objs → e.id ≠ id) :
    StepOK (runM w m >>= fun p => okW w p.2 (World.put w.objs { id := id, usable := true, obj := res p.1 })) (WorldInv sp) :=
  StepOK.run (c _ _) ⟨rfl, rfl, hw.wf.2⟩ fun _ ⟨u, ow⟩ fr =>
    hw.put _ _ [] (.fresh hf .nil) fr ⟨sp.usable_inv u, fun _ => u⟩ ow

theorem glue_from {α} (hw : WorldInv sp w) {e : Entry} (he : e ∈ w.objs) (hu : e.usable = true)
    {m : M α} {res : α → Obj} (c : FromC sp e.obj m res) (id : Nat) (hf : ∀ e, e ∈ w.objs → e.id ≠ id) :
    StepOK (runM w m >>= fun p => okW w p.2 (World.put w.objs { id := id, usable := true, obj := res p.1 })) (WorldInv sp) :=
  StepOK.run (c _ _) ⟨(hw.inv e he).2 hu, rfl, rfl, hw.wf.2, hw.owned_lt he⟩ fun _ ⟨u, ow⟩ fr =>
    hw.put _ _ [] (.fresh hf .nil) fr ⟨sp.usable_inv u, fun _ => u⟩ ow

theorem glue_mut {α} (hw : WorldInv sp w) {e : Entry} (he : e ∈ w.objs) (hu : e.usable = true)
    {m : M α} {res : α → Obj} (c : MutC sp e.obj m res) :
    StepOK (runM w m >>= fun p => okW w p.2 (World.put w.objs { e with obj := res p.1 })) (WorldInv sp) :=
  StepOK.run (c _ _) ⟨(hw.inv e he).2 hu, rfl, rfl, hw.wf.2⟩ fun _ ⟨u, ow⟩ fr =>
    hw.put _ _ _ (.one hw e he) fr ⟨sp.usable_inv u, fun _ => u⟩ ow

theorem glue_read {α} (hw : WorldInv sp w) {e : Entry} (he : e ∈ w.objs) (hu : e.usable = true)
    {m : M α} (c : ReadC sp e.obj m) :
    StepOK (runM w m >>= fun p => okW w p.2 w.objs) (WorldInv sp) :=
  StepOK.run (c _ _) ⟨(hw.inv e he).2 hu, rfl, rfl, hw.wf.2, hw.owned_lt he⟩ fun _ hids fr => by
    have := hw.replace sp [] [] _ [] OwnedBy.nil fr (by simp) .nil (by simp) ⟨fun b => by simp [hids b], nofun⟩ (by simp)
    rwa [List.filter_eq_self.2 fun _ _ => decide_eq_true List.not_mem_nil] at this

theorem glue_dtor (hw : WorldInv sp w) {e : Entry} (he : e ∈ w.objs) {m : M Unit} (c : DtorC sp e.obj m) :
    StepOK (runM w m >>= fun p => okW w p.2 (w.remove e.id)) (WorldInv sp) :=
  StepOK.run (c _ _) ⟨(hw.inv e he).1, rfl, rfl, hw.wf.2⟩ fun _ ow fr =>
    remove_eq w e.id ▸ hw.replace sp [e.id] [] _ _ (OwnedBy.one hw e he) fr (by simp) .nil (by simp) ow (by simp)

theorem glue_move (hw : WorldInv sp w) {e : Entry} (he : e ∈ w.objs) (hu : e.usable = true)
    {m : M (Obj × Obj)} (c : MoveC sp e.obj m) (dst : Nat) (hf : ∀ e, e ∈ w.objs → e.id ≠ dst) :
    StepOK (runM w m >>= fun p => okW w p.2
      (World.put (World.put w.objs { e with usable := false, obj := p.1.2 }) { id := dst, usable := true, obj := p.1.1 }))
      (WorldInv sp) :=
  StepOK.run (c _ _) ⟨(hw.inv e he).2 hu, rfl, rfl, hw.wf.2⟩ fun _ ⟨u, i, dj, ow⟩ fr =>
    hw.put2 _ _ (fun x => hf e he x.symm) _ _ (.fresh hf (.one hw e he)) fr ⟨sp.usable_inv u, fun _ => u⟩ ⟨i, nofun⟩ dj ow

theorem glue_cassign (hw : WorldInv sp w) {d s : Entry} (hd : d ∈ w.objs) (hs : s ∈ w.objs) (hu : s.usable = true)
    {m : M Obj} (c : CAssignC sp d.obj s.obj m) :
    StepOK (runM w m >>= fun p => okW w p.2 (World.put w.objs { d with usable := true, obj := p.1 })) (WorldInv sp) := by
  have hrel : d.obj = s.obj ∨ ∀ b, b ∈ sp.owned d.obj → b ∉ sp.owned s.obj :=
    (Classical.em (d.id = s.id)).imp (fun hid => hw.unique hd hs hid ▸ rfl) (hw.disj d s hd hs)
  exact StepOK.run (c _ _) ⟨(hw.inv d hd).1, (hw.inv s hs).2 hu, hrel, rfl, rfl, hw.owned_lt hd, hw.owned_lt hs, hw.wf.2⟩
    fun _ ⟨u, ow⟩ fr => hw.put _ _ _ (.one hw d hd) fr ⟨sp.usable_inv u, fun _ => u⟩ ow

theorem glue_massign (hw : WorldInv sp w) {d s : Entry} (hd : d ∈ w.objs) (hs : s ∈ w.objs) (hu : s.usable = true)
    (hne : d.id ≠ s.id) {m : M (Obj × Obj)} (c : MAssignC sp d.obj s.obj m) :
    StepOK (runM w m >>= fun p => okW w p.2
      (World.put (World.put w.objs { s with usable := false, obj := p.1.2 }) { d with usable := true, obj := p.1.1 }))
      (WorldInv sp) :=
  StepOK.run (c _ _) ⟨(hw.inv d hd).1, (hw.inv s hs).2 hu, hw.disj d s hd hs hne, rfl, rfl, hw.wf.2⟩
    fun p ⟨u, i, dj, ow⟩ fr =>
      hw.put2 { d with usable := true, obj := p.1.1 } { s with usable := false, obj := p.1.2 } hne _ _ (.cons hw d hd (.one hw s hs)) fr
        ⟨sp.usable_inv u, fun _ => u⟩ ⟨i, nofun⟩ dj ow

theorem glue_merge {α} (hw : WorldInv sp w) {d s : Entry} (hd : d ∈ w.objs) (hs : s ∈ w.objs)
    (hud : d.usable = true) (hus : s.usable = true) (hne : d.id ≠ s.id) (byMove : Bool)
    {m : M α} {res : α → Obj} (c : MergeC sp d.obj s.obj byMove m res) :
    StepOK (runM w m >>= fun p => okW w p.2
      (World.put (World.put w.objs { s with usable := !byMove }) { d with obj := res p.1 })) (WorldInv sp) :=
  StepOK.run (c _ _)
    ⟨(hw.inv d hd).2 hud, (hw.inv s hs).2 hus, hw.disj d s hd hs hne, rfl, rfl, hw.owned_lt hd, hw.owned_lt hs, hw.wf.2⟩
    fun p ⟨u, i, ub, dj, ow⟩ fr =>
      hw.put2 { d with obj := res p.1 } { s with usable := !byMove } hne _ _ (.cons hw d hd (.one hw s hs)) fr
        ⟨sp.usable_inv u, fun _ => u⟩ ⟨i, fun x => ub (by simpa using x)⟩ dj ow

end DS.Life
