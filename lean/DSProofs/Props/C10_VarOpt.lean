/-
C10 (VarOpt sketch and union part) — the wire constants extracted from the CURRENT headers equal the documented values.

Documented contract ("Serialized sketch layout" comments in var_opt_sketch_impl.hpp:255-292 and var_opt_union_impl.hpp; Java
VarOptItemsSketch / VarOptItemsUnion): sketch family 13, union family 14, serial version 2 for both; sketch preamble
longs 1 / 3 / 4 in the low 6 bits of byte 0 with the resize factor in the high 2 bits; flags 4 = empty, 128 = gadget;
union preamble longs 1 / 4, flag 4 = empty; k ≤ 2^31 − 2; marks packed 8 per byte, item i in bit (i mod 8).
Also pinned: the reader-side literals agree with the writer-side ones.  Field order (n, h, r, total_wt_r, weights, marks,
H items, R items; union: max_k, n, outer tau numerator, denominator, gadget) is part of `encode`/`decode`, tied to
the code by the two-phase check and the committed baseline corpus (corpus/baseline/varopt).
-/
import DSModel.Wire.VarOptGen
namespace DS.Wire.VarOpt

/-- every wire constant of the current headers has its documented value (sketch, union, reader = writer literals) -/
theorem wire_consts_documented : generated = documented ∧ generatedU = documentedU ∧ readerWriterAgree := by decide

/-- documented byte 0 of a full-mode image written with resize factor X8: 4 | (3 << 6) = 0xC4; marks LSB-first -/
example : firstByte documented 4 3 = 0xC4 := by decide
example : packMarks [true, false, false, true, false, false, false, false, true] = [0x09, 0x01] := by decide +kernel

end DS.Wire.VarOpt
