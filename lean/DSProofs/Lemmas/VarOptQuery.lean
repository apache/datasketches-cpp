/- The queries on a VarOpt state satisfying the invariant (Rat instance): number of samples, iterator sum,
   estimate_subset_sum; `sumR` / `totalW` are the totals the statements are written in. -/
import DSProofs.Lemmas.VarOptStream
namespace DS.VarOpt
open DS

def sumR : List Rat → Rat
  | [] => 0
  | x :: t => x + sumR t

theorem sumR_append (a b : List Rat) : sumR (a ++ b) = sumR a + sumR b := by
  induction a with
  | nil => simp [sumR]
  | cons x t ih => simp [sumR, ih]; ring

def totalW (items : List (Int × Rat)) : Rat := sumR (items.map (·.2))

theorem sumW_eq_sumR (l : List E) : sumW l = sumR (l.map (·.wt)) := by
  induction l with
  | nil => rfl
  | cons e t ih => simp [sumW, sumR, ih]

theorem sumW_entriesOf (g mark : Bool) (items : List (Int × Rat)) : sumW (entriesOf g mark items) = totalW items := by
  unfold entriesOf
  rw [sumW_perm (List.reverse_perm _)]
  induction items with
  | nil => rfl
  | cons p t ih => simp [sumW, totalW, sumR] at ih ⊢; rw [ih]

theorem FromStream.inv {sk : Sk Rat} {items : List (Int × Rat)} (h : FromStream sk items) :
    ∃ ins L, Inv sk ins L ∧ sumW ins = totalW items ∧ sk.n = items.length ∧ sk.gadget = false := by
  obtain ⟨T, k, rf, s0, ds, ds', h0, hpos, hf⟩ := h
  obtain ⟨s, ds2, L, hf', hinv, -, hg⟩ := stream_inv h0 hpos ds
  rw [hf] at hf'
  cases hf'
  exact ⟨_, L, hinv, sumW_entriesOf _ _ _, by rw [hinv.n_eq, length_entriesOf], hg⟩

theorem Inv.size {s : Sk Rat} {ins L : List E} (h : Inv s ins L) : s.H.length + s.R.length = min ins.length s.k := by
  have hl := h.perm.length_eq
  rw [List.length_append] at hl
  by_cases hr : s.R = []
  · obtain ⟨hL, hh, _⟩ := h.warm hr
    simp only [hl, hL, hr, List.length_nil, Nat.add_zero, Nat.min_eq_left hh]
  · have h1 := (h.est hr).cnt
    have h2 := (h.est hr).rLen
    omega

theorem sumAll_eq (l : List E) (acc : Rat) : sumAll l acc = acc + sumW l := by
  induction l generalizing acc with
  | nil => simp [sumAll, sumW]
  | cons e t ih => simp [sumAll, sumW, ih]; ring

theorem sumWhere_true (l : List E) (acc : Rat) : sumWhere (fun _ => true) l acc = acc + sumW l := by
  rw [← sumAll_eq]
  induction l generalizing acc with
  | nil => rfl
  | cons e t ih => exact ih _

theorem sumR_map_const (R : List Int) (c : Rat) : sumR (R.map (fun _ => c)) = (R.length : Rat) * c := by
  induction R with
  | nil => simp [sumR]
  | cons x t ih =>
    simp only [List.map_cons, sumR, List.length_cons]
    rw [ih]; push_cast; ring

theorem Inv.weight {s : Sk Rat} {ins L : List E} (h : Inv s ins L) :
    (s.R = [] → sumW s.H = sumW ins) ∧ (s.R ≠ [] → sumW s.H + s.totalWtR = sumW ins) := by
  have hw := h.toInv0.skWeight_eq
  unfold skWeight at hw
  constructor
  · intro hr; rwa [if_pos hr, add_zero] at hw
  · intro hr; rwa [if_neg hr] at hw

theorem Inv.samples_sum {s : Sk Rat} {ins L : List E} (h : Inv s ins L) :
    sumR (s.samples.map (·.2)) = sumW ins := by
  unfold Sk.samples
  rw [List.map_append, sumR_append, List.map_map, List.map_map, ← h.toInv0.skWeight_eq, skWeight, sumW_eq_sumR]
  congr 1
  -- `r` times tau = `totalWtR / r`
  show sumR (s.R.map fun _ => s.totalWtR / (s.R.length : Rat)) = _
  rw [sumR_map_const]
  split_ifs with hr
  · rw [hr]; simp
  · exact mul_div_cancel₀ _ (Nat.cast_ne_zero.2 (mt List.length_eq_zero_iff.1 hr))

/-- in estimation mode the sampling rate `r / (n - h)` lies in `[0, 1]`: the range check of `estimate_subset_sum` passes -/
theorem Inv.rate_ok {s : Sk Rat} {ins L : List E} (h : Inv s ins L) (hr : s.R ≠ []) :
    ¬ (Num.lt (Num.div (Num.ofNat s.R.length : Rat) (Num.ofNat (s.n - s.H.length))) (Num.zero : Rat) ||
      Num.lt (Num.one : Rat) (Num.div (Num.ofNat s.R.length : Rat) (Num.ofNat (s.n - s.H.length)))) = true := by
  have hrl := (h.est hr).rLen
  have hnh : s.n - s.H.length = L.length := by
    have := h.perm.length_eq
    rw [List.length_append] at this
    rw [h.n_eq, this, Nat.add_sub_cancel_left]
  have hL0 : (0 : Rat) < (L.length : Rat) := by exact_mod_cast Nat.zero_lt_of_lt hrl
  have h1 : (0 : Rat) ≤ (s.R.length : Rat) / (L.length : Rat) := by positivity
  have h2 : (s.R.length : Rat) / (L.length : Rat) ≤ 1 := (div_le_one hL0).2 (by exact_mod_cast hrl.le)
  simp [hnh, not_lt.2 h1, not_lt.2 h2]

theorem Inv.estimate {s : Sk Rat} {ins L : List E} (h : Inv s ins L) (B : FracBounds Rat) (p : Int → Bool) :
    ∃ r, estimateSubsetSum B s p = some r ∧ ((∀ x, p x = true) → r.estimate = sumW ins) := by
  unfold estimateSubsetSum
  by_cases hn : s.n = 0
  · obtain rfl : ins = [] := List.eq_nil_of_length_eq_zero (h.n_eq ▸ hn)
    exact ⟨_, by rw [hn]; rfl, fun _ => rfl⟩
  simp only [hn, beq_iff_eq, if_false]
  by_cases hr : s.R = []
  · refine ⟨_, by rw [hr]; rfl, fun hp => ?_⟩
    obtain rfl : p = fun _ => true := funext hp
    simp only [sumWhere_true, Num.zero_rat, zero_add]
    exact h.weight.1 hr
  · have hr0 : (0 : Rat) < (s.R.length : Rat) := by exact_mod_cast List.length_pos_of_ne_nil hr
    rw [if_neg (mt List.length_eq_zero_iff.1 hr), if_neg (h.rate_ok hr)]
    refine ⟨_, rfl, fun hp => ?_⟩
    obtain rfl : p = fun _ => true := funext hp
    simp only [sumWhere_true, Num.zero_rat, zero_add, Num.add_rat, Num.mul_rat, Num.div_rat, Num.one_rat,
      Num.ofNat_rat, List.filter_true, one_mul]
    rw [div_self hr0.ne', mul_one]
    exact h.weight.2 hr

theorem estimate_bounds (B : FracBounds Rat) (s : Sk Rat) (p : Int → Bool) (hW' : s.R.length ≠ 0 → 0 ≤ s.totalWtR)
    (hB : ∀ (r c : Nat) (rate : Rat), 0 < r → c ≤ r → B.lb r c rate ≤ (c : Rat) / (r : Rat) ∧ (c : Rat) / (r : Rat) ≤ B.ub r c rate)
    (res : SubsetSummary Rat) (h : estimateSubsetSum B s p = some res) :
    res.lowerBound ≤ res.estimate ∧ res.estimate ≤ res.upperBound := by
  unfold estimateSubsetSum at h
  split at h
  · cases h; exact ⟨le_rfl, le_rfl⟩
  split at h
  · cases h; exact ⟨le_rfl, le_rfl⟩
  rename_i hr
  dsimp only at h
  split at h
  · exact nomatch h
  · cases h
    have hr' : s.R.length ≠ 0 := by simpa using hr
    have hb := hB s.R.length (s.R.filter p).length
      (Num.div (Num.ofNat s.R.length : Rat) (Num.ofNat (s.n - s.H.length))) (Nat.pos_of_ne_zero hr') (List.length_filter_le _ _)
    simp only [Num.add_rat, Num.mul_rat, Num.div_rat, Num.one_rat, Num.ofNat_rat, one_mul] at hb ⊢
    exact ⟨(add_le_add_iff_left _).2 (mul_le_mul_of_nonneg_left hb.1 (hW' hr')),
      (add_le_add_iff_left _).2 (mul_le_mul_of_nonneg_left hb.2 (hW' hr'))⟩

end DS.VarOpt
