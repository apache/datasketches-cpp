/- Coupon arithmetic (`cPair`, `slot_fold`), converting copies (`copyAs_preserves`, which Props/C04 also builds on), and exact
emptiness of a built sketch. -/
import DSProofs.Lemmas.HllInv
namespace DS.Hll

variable {ν : Type} [HNum ν]

theorem cValue_cPair (p : Params) (slot v : Nat) : cValue p (cPair p slot v) = v := by
  unfold cValue cPair
  have hp : 0 < 2^p.keyBits := Nat.two_pow_pos _
  rw [Nat.mul_comm, Nat.mul_add_div hp, Nat.div_eq_of_lt (Nat.mod_lt _ hp)]; rfl

theorem cSlot_cPair (p : Params) {lgK slot : Nat} (v : Nat) (hk : lgK ≤ p.keyBits) (hs : slot < 2^lgK) :
    cSlot p lgK (cPair p slot v) = slot := by
  unfold cSlot cPair
  have h1 : slot < 2^p.keyBits := Nat.lt_of_lt_of_le hs (Nat.pow_le_pow_right (by omega) hk)
  rw [Nat.mul_comm, Nat.mul_add_mod, Nat.mod_mod, Nat.mod_eq_of_lt h1, Nat.mod_eq_of_lt hs]

theorem cValue_coupon (p : Params) (h1 h2 : UInt64) : cValue p (coupon p h1 h2) = min (clz64 h2) 62 + 1 := by
  unfold cValue coupon
  have hp : 0 < 2^p.keyBits := Nat.two_pow_pos _
  rw [Nat.mul_comm, Nat.mul_add_div hp, Nat.div_eq_of_lt (Nat.mod_lt _ hp)]

theorem slot_fold (p : Params) {lgSmall lgBig : Nat} (h : lgSmall ≤ lgBig) (c : Nat) :
    cSlot p lgSmall c = cSlot p lgBig c % 2^lgSmall := by
  unfold cSlot
  exact (Nat.mod_mod_of_dvd _ (Nat.pow_dvd_pow 2 h)).symm

theorem replayRegs_eq (p : Params) (src : Array Nat) (t : St ν) :
    replayRegs p src t = ((List.range src.size).map (fun i => cPair p i (src.getD i 0))).foldl (hllUpdate p) t := by
  unfold replayRegs
  rw [List.foldl_map]
  congr 1
  funext t i
  by_cases hv : src.getD i 0 = 0
  · simp only [hv, if_true]
    rw [hllUpdate_value_zero]; rw [cValue_cPair]
  · simp only [hv, if_false]

/-- `convertTo` up to its closing bookkeeping: `r` is a fresh array of type `tt` (`newHll` up to `ooo`, which `HInv` does not
read) into which every register of `s` has been replayed as a coupon -/
theorem convertTo_replayed (p : Params) (s : St ν) (tt : TType) :
    ∃ r : St ν, HInv p r (fun c => ∃ i, i < s.regs.size ∧ cPair p i (s.regs.getD i 0) = c) ∧ r.lgK = s.lgK ∧ r.tt = tt ∧
      (convertTo p s tt).regs = r.regs ∧ (convertTo p s tt).lgK = s.lgK ∧ (convertTo p s tt).tt = tt ∧
      (convertTo p s tt).mode = .hll ∧ (convertTo p s tt).curMin = r.curMin := by
  let t0 : St ν := { (newHll s.lgK tt s.startFull : St ν) with ooo := s.ooo }
  have h0 : HInv p t0 (fun _ => False) := (HInv.newHll (ν := ν) p s.lgK tt s.startFull).of_fields rfl rfl rfl rfl rfl
  let l := (List.range s.regs.size).map (fun i => cPair p i (s.regs.getD i 0))
  obtain ⟨hk, htt, hm, -⟩ := foldl_hllUpdate_fields p l t0
  have e : (convertTo p s tt).regs = (l.foldl (hllUpdate p) t0).regs ∧ (convertTo p s tt).lgK = (l.foldl (hllUpdate p) t0).lgK ∧
      (convertTo p s tt).tt = (l.foldl (hllUpdate p) t0).tt ∧ (convertTo p s tt).mode = (l.foldl (hllUpdate p) t0).mode ∧
      (convertTo p s tt).curMin = (l.foldl (hllUpdate p) t0).curMin := by
    unfold convertTo
    simp only
    rw [replayRegs_eq]
    cases tt <;> exact ⟨rfl, rfl, rfl, rfl, rfl⟩
  obtain ⟨er, ek, et, em, ec⟩ := e
  exact ⟨_, (h0.foldl l).congr (by simp [l]), hk, htt, er, ek.trans hk, et.trans htt, em.trans hm, ec⟩

theorem convertTo_regs (p : Params) (s : St ν) (tt : TType) (hsz : s.regs.size = 2^s.lgK) (hk : s.lgK ≤ p.keyBits) :
    (convertTo p s tt).regs = s.regs ∧ (convertTo p s tt).lgK = s.lgK ∧ (convertTo p s tt).mode = .hll ∧
    (convertTo p s tt).tt = tt := by
  obtain ⟨r, hi, hlgk, -, hregs, ck, ctt, cm, -⟩ := convertTo_replayed p s tt
  refine ⟨?_, ck, cm, ctt⟩
  rw [hregs]
  refine RegsOf.unique (hlgk ▸ hi.regsOf) ⟨hsz, fun i hi2 => ⟨?_, ?_⟩⟩ (fun _ _ => Iff.rfl)
  · rintro c ⟨j, hj, rfl⟩ hs
    rw [cSlot_cPair p _ hk (by rw [← hsz]; exact hj)] at hs
    subst hs
    rw [cValue_cPair]; exact Nat.le_refl _
  · by_cases hz : s.regs.getD i 0 = 0
    · exact Or.inl hz
    · exact Or.inr ⟨cPair p i (s.regs.getD i 0), ⟨i, by rw [hsz]; exact hi2, rfl⟩, cSlot_cPair p _ hk hi2, cValue_cPair p _ _⟩

theorem copyAs_preserves (p : Params) (s : St ν) (tt : TType)
    (hsz : s.mode = .hll → s.regs.size = 2^s.lgK) (hk : s.lgK ≤ p.keyBits) :
    (copyAs p s tt).mode = s.mode ∧ (copyAs p s tt).lgK = s.lgK ∧ (copyAs p s tt).tt = tt ∧
    (copyAs p s tt).regs = s.regs ∧ (s.mode ≠ .hll → (copyAs p s tt).items = s.items) := by
  unfold copyAs
  cases hm : s.mode with
  | hll =>
    simp only
    by_cases hc : tt = s.tt ∧ s.rebuild = false
    · rw [if_pos hc]; exact ⟨hm, rfl, hc.1.symm, rfl, fun h => absurd rfl h⟩
    · rw [if_neg hc]
      obtain ⟨cregs, ck, cm, ctt⟩ := convertTo_regs p s tt (hsz hm) hk
      exact ⟨cm, ck, ctt, cregs, fun h => absurd rfl h⟩
  | list => simp [St.items]
  | set => simp [St.items]

theorem isEmpty_run_iff (p : Params) (hp : p.listFitsSet) (lgK : Nat) (tt : TType) (sf : Bool) (cs : List Nat)
    (hv : ∀ c ∈ cs, c ≠ 0 → 0 < cValue p c) :
    isEmpty (run p (newSketch p lgK tt sf : St ν) cs) = true ↔ ∀ c ∈ cs, c = 0 := by
  -- in HLL mode: empty iff every register is zero iff no nonzero coupon was offered
  have hllcase : ∀ (s : St ν), s.lgK = lgK → s.mode = .hll → HInv p s (fun c => c ∈ cs ∧ c ≠ 0) →
      (isEmpty s = true ↔ ∀ c ∈ cs, c = 0) := by
    intro s hk hm H
    rw [HInv.isEmpty_iff H hm, H.regsOf.all_zero_iff]
    exact ⟨fun hz c hc => Classical.byContradiction fun h0 => Nat.ne_of_gt (hv c hc h0) (hz c ⟨hc, h0⟩),
      fun hall c hc => absurd (hall c hc.1) hc.2⟩
  obtain ⟨hk, hl, hh, _⟩ := run_newSketch (ν := ν) p hp lgK tt sf cs
  generalize run p (newSketch p lgK tt sf : St ν) cs = s at hk hl hh ⊢
  by_cases hm : s.mode = .hll
  · exact hllcase s hk hm (hh hm)
  · exact (hl hm).isEmpty_iff hm

end DS.Hll
