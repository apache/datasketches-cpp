/- REQ's unbiasedness: complementing the coins of level h pairs the runs so that (entered level h+1 in the two runs) + (present at
   level h) = (entered level h).  With S h, A h the sums over all coin vectors of what ever entered level h (`balR p h`) and of what sits
   there at the end (`cntAt p h`): S h = 2·S (h+1) + A h, which telescopes to (Σ weight) = S 0 = 2^F · (true count).  Used for C08. -/
import DSProofs.Lemmas.ReqRelSketch
import DSProofs.Lemmas.KllCT
import DSProofs.Lemmas.ListAux
namespace DS.Req

variable {ρ : Type}

theorem allVecs_eq : ∀ n, allVecs n = DS.allVecs n
  | 0 => rfl
  | n + 1 => by rw [allVecs, DS.allVecs, allVecs_eq n]

def xorV : List Bool → List Bool → List Bool
  | x :: v, b :: m => (x != b) :: xorV v m
  | v, _ => v

theorem sum_xorV (n : Nat) (m : List Bool) (f : List Bool → Nat) (hm : m.length = n) :
    ((allVecs n).map (fun v => f (xorV v m))).sum = ((allVecs n).map f).sum := by
  induction n generalizing m f with
  | zero => cases m with
    | nil => rfl
    | cons _ _ => cases hm
  | succ n ih =>
    cases m with
    | nil => cases hm
    | cons b m' =>
      simp only [allVecs, List.map_append, List.map_map, List.sum_append, Function.comp_def, xorV]
      have i0 := ih m' (fun v => f (false :: v)) (Nat.succ.inj hm)
      have i1 := ih m' (fun v => f (true :: v)) (Nat.succ.inj hm)
      cases b
      · simp only [Bool.bne_false] at *; rw [i0, i1]
      · simp only [Bool.bne_true, Bool.not_false, Bool.not_true] at *; rw [i0, i1, Nat.add_comm]

def maskOf (L : List Nat) (h : Nat) : List Bool := L.map (fun l => l == h)

theorem xorV_getD : ∀ (v m : List Bool), v.length = m.length → ∀ i, (xorV v m).getD i false = (v.getD i false != m.getD i false)
  | [], [], _, _ => rfl
  | _ :: _, _ :: _, _, 0 => rfl
  | _ :: v, _ :: m, hl, i + 1 => xorV_getD v m (Nat.succ.inj hl) i

theorem maskOf_getD (L : List Nat) (h i : Nat) : (maskOf L h).getD i false = (L[i]? == some h) := by
  unfold maskOf
  by_cases hi : i < L.length
  · simp [List.getD, List.getElem?_map, List.getElem?_eq_getElem hi]
  · have : L[i]? = none := List.getElem?_eq_none (by omega)
    simp [List.getD, List.getElem?_map, this]

theorem init_AccRel (L : List Nat) (h : Nat) (v : List Bool) (hl : v.length = L.length) :
    AccRel L (some h) (Acc.init v) (Acc.init (xorV v (maskOf L h))) := by
  refine ⟨rfl, rfl, rfl, rfl, rfl, ?_⟩
  intro h0 e i
  have : h0 = h := by simpa using e.symm
  subst this
  show (xorV v (maskOf L h0)).getD i false = (v.getD i false != (L[i]? == some h0))
  rw [xorV_getD _ _ (by simp [maskOf, hl]) i, maskOf_getD]

theorem run_shape {T : Tun} (hT : TunOK T) (F : SecFns ρ) (ops : List Op) (v v' : List Bool) :
    StoreRelB none (run T F ops v).1 (run T F ops v').1 ∧ AccRel (run T F ops v).2.lv none (run T F ops v).2 (run T F ops v').2 := by
  have := runOps_relB hT F (run T F ops v).2.lv none ops ([] : Store ρ) [] [] (Acc.init v) (Acc.init v') ALRel_nil ALRel_nil
    ⟨rfl, rfl, rfl, rfl, rfl, fun _ e => nomatch e⟩ (List.prefix_refl _) (fun _ e => by simp at e)
  exact this

def balR (p : Int → Bool) (h0 : Nat) : List (Compactor ρ) → Nat
  | [] => 0
  | c :: t => headR p h0 c + balR p h0 t

def cntAt (p : Int → Bool) (h : Nat) : List (Compactor ρ) → Nat
  | [] => 0
  | c :: t => (if c.lgWeight = h then cntP p c.items else 0) + cntAt p h t

theorem balD_split {hh : Option Nat} (p : Int → Bool) (h : Nat) {cs cs' : List (Compactor ρ)} (r : CsRel hh cs cs') :
    balD p h cs cs' = balR p (h + 1) cs + balR p (h + 1) cs' + cntAt p h cs - balR p h cs := by
  induction r with
  | nil => rfl
  | @cons c _ _ _ rc _ ih =>
    simp only [balD_cons, headD, headL_split p h rc.lg, balR, cntAt, ih]
    omega

theorem bal_levels (p : Int → Bool) (h : Nat) {cs cs' : List (Compactor ρ)} (r : CsRel (some h) cs cs') (hb : balD p h cs cs' = 0) :
    balR p (h + 1) cs + balR p (h + 1) cs' + cntAt p h cs = balR p h cs := by
  have s := balD_split p h r
  omega

theorem sum_range_ite (N lg x : Nat) (hl : lg < N) :
    ((List.range N).map (fun h => if lg = h then x * 2 ^ h else 0)).sum = x * 2 ^ lg := by
  induction N with
  | zero => omega
  | succ n ih =>
    rw [List.range_succ, List.map_append, List.sum_append]
    by_cases h1 : lg < n
    · rw [ih h1]; have : ¬ lg = n := by omega
      simp [this]
    · have h2 : lg = n := by omega
      subst h2
      have : ((List.range lg).map (fun h => if lg = h then x * 2 ^ h else 0)).sum = 0 := by
        apply sum_map_zero
        intro a ha
        have : ¬ lg = a := by have := List.mem_range.1 ha; omega
        simp [this]
      simp [this]

theorem weight_by_level (p : Int → Bool) (N : Nat) (cs : List (Compactor ρ)) (hl : ∀ c ∈ cs, c.lgWeight < N) :
    ((List.range N).map (fun h => 2 ^ h * cntAt p h cs)).sum = weightP p cs := by
  induction cs with
  | nil => simp only [cntAt, Nat.mul_zero, weightP_nil]; exact sum_map_zero _ _ (fun _ _ => rfl)
  | cons c t ih =>
    obtain ⟨hc, ht⟩ := List.forall_mem_cons.1 hl
    have h1 := ih ht
    have h2 := sum_range_ite N c.lgWeight (cntP p c.items) hc
    rw [weightP_cons, ← h1, ← h2, ← sum_map_add]
    congr 1
    apply List.map_congr_left
    intro h _
    simp only [cntAt, Nat.mul_add]
    by_cases e : c.lgWeight = h <;> simp [e, Nat.mul_comm]

theorem balR_zero (p : Int → Bool) (N : Nat) (cs : List (Compactor ρ)) (hl : ∀ c ∈ cs, c.lgWeight ≠ N) : balR p N cs = 0 := by
  induction cs with
  | nil => rfl
  | cons c t ih =>
    obtain ⟨hc, ht⟩ := List.forall_mem_cons.1 hl
    rw [balR, headR, if_neg hc, ih ht]

/-- if level `i` passes half of what it does not keep to level `i + 1`, the weighted sum of what the levels keep is what entered level 0,
less what left the top -/
theorem sum_two_pow_tele (S A : Nat → Nat) : ∀ N, (∀ i, i < N → 2 * S (i + 1) + A i = S i) →
    ((List.range N).map (fun i => 2 ^ i * A i)).sum + 2 ^ N * S N = S 0
  | 0, _ => by simp
  | N + 1, h => by
    rw [← sum_two_pow_tele S A N (fun i hi => h i (Nat.lt_succ_of_lt hi)), ← h N (Nat.lt_succ_self N), List.range_succ, List.map_append,
      List.sum_append, Nat.mul_add, Nat.pow_succ, Nat.mul_assoc]
    simp only [List.map_cons, List.map_nil, List.sum_cons, List.sum_nil]
    omega

def csOf (T : Tun) (F : SecFns ρ) (ops : List Op) (id : Nat) (v : List Bool) : List (Compactor ρ) :=
  match (run T F ops v).1.get id with
  | some s => s.compactors
  | none => []

theorem csOf_rel {hh : Option Nat} {T : Tun} {F : SecFns ρ} {ops : List Op} (id : Nat) {v v' : List Bool}
    (r : StoreRelB hh (run T F ops v).1 (run T F ops v').1) :
    CsRel hh (csOf T F ops id v) (csOf T F ops id v') ∧ ∀ p h0, hh = some h0 → balD p h0 (csOf T F ops id v) (csOf T F ops id v') = 0 := by
  unfold csOf
  rcases ALRel_get r id with ⟨g1, g2⟩ | ⟨a, b, g1, g2, hr⟩
  · rw [Store.get, g1, Store.get, g2]; exact ⟨.nil, fun _ _ _ => rfl⟩
  · rw [Store.get, g1, Store.get, g2]; exact ⟨hr.1.cs, hr.2⟩

theorem balR0_eq {T : Tun} {hra : Bool} (p : Int → Bool) (cs : List (Compactor ρ)) (hinv : CsInv T hra 0 cs) :
    balR p 0 cs = cntP p (entered0L cs) := by
  cases cs with
  | nil => rfl
  | cons c t =>
    have h0 : c.lgWeight = 0 := hinv.1.lg
    have : balR p 0 t = 0 := balR_zero p 0 t fun c hc => by have := (CsInv_lg_range hinv.2 c hc).1; omega
    simp [balR, headR, h0, this, entered0L]

/-- the counting core, for runs `v ∈ V` that end with the levels `cs v`, all below `N`: if what entered level 0 is `x` in every run and,
summed over the runs, S h = 2 · S (h+1) + A h (S, A as in the header), then the weights sum to `|V| · x` -/
theorem weight_sum_of_pairing {α : Type} (p : Int → Bool) (V : List α) (cs : α → List (Compactor ρ)) (N x : Nat)
    (hlg : ∀ v, ∀ c ∈ cs v, c.lgWeight < N) (h0 : ∀ v ∈ V, balR p 0 (cs v) = x)
    (hpair : ∀ h, 2 * (V.map fun v => balR p (h + 1) (cs v)).sum + (V.map fun v => cntAt p h (cs v)).sum
      = (V.map fun v => balR p h (cs v)).sum) :
    (V.map fun v => weightP p (cs v)).sum = V.length * x := by
  have htel := sum_two_pow_tele (fun h => (V.map fun v => balR p h (cs v)).sum) (fun h => (V.map fun v => cntAt p h (cs v)).sum) N
    fun h _ => hpair h
  -- nothing ever entered level N
  rw [sum_map_zero V _ fun v _ => balR_zero p N _ fun c hc => Nat.ne_of_lt (hlg v c hc), Nat.mul_zero, Nat.add_zero,
    congrArg List.sum (List.map_congr_left h0), sum_map_const] at htel
  -- the weight, level by level
  rw [← htel, ← congrArg List.sum (List.map_congr_left fun v _ => weight_by_level p N (cs v) (hlg v)), sum_map_sum_comm]
  exact congrArg List.sum (List.map_congr_left fun h _ => sum_map_mul_left _ (2 ^ h) _)

/-- REQ is unbiased over the coin flips for every history in which no odd-state compaction uses a coin deriving from no draw -/
theorem unbiased_main {T : Tun} (hT : TunOK T) (F : SecFns ρ) (ops : List Op) (id : Nat) (items : List Int)
    (hin : inputOf ops id = some items) (hodd : (run T F ops []).2.oddConst = false) (p : Int → Bool) :
    ((allVecs (run T F ops []).2.used).map (fun v => weightP p (csOf T F ops id v))).sum
      = 2 ^ (run T F ops []).2.used * cntP p items := by
  -- shapes: every run has the trace and the flags of the reference run
  have hsh : ∀ v, (run T F ops v).2.lv = (run T F ops []).2.lv ∧ (run T F ops v).2.oddConst = false := fun v =>
    have := (run_shape hT F ops [] v).2
    ⟨this.lv, this.oddConst.trans hodd⟩
  have hLlen : (run T F ops []).2.lv.length = (run T F ops []).2.used := (runOps_mono T F ops ([] : Store ρ) (Acc.init [])).lvlen rfl
  -- the object exists in every run, satisfies the invariant and holds `items`
  have hcs : ∀ v, ∃ s, csOf T F ops id v = s.compactors ∧ SInv T s ∧ entered0 s = items := by
    intro v
    rcases ALRel_get (runOps_refines hT F ops ([] : Store ρ) [] (Acc.init v) ALRel_nil) id with ⟨_, h2⟩ | ⟨s, sp, h1, h2, hs⟩
    · simp [inputOf, h2] at hin
    · refine ⟨s, by simp only [csOf, run, Store.get, h1], hs.1, hs.2.2.trans ?_⟩
      simpa [inputOf, h2] using hin
  -- the number of levels does not depend on the coins: every level is below it
  have hlg : ∀ v, ∀ c ∈ csOf T F ops id v, c.lgWeight < (csOf T F ops id []).length := by
    intro v c hc
    have hl := (csOf_rel id (run_shape hT F ops [] v).1).1.length_eq
    obtain ⟨s, e, hs, _⟩ := hcs v
    rw [e] at hc hl
    have := (CsInv_lg_range hs.cs c hc).2
    rwa [Nat.zero_add, hl] at this
  refine (weight_sum_of_pairing p _ (csOf T F ops id) _ (cntP p items) hlg (fun v _ => ?_) fun h => ?_).trans
    (by rw [allVecs_eq, DS.allVecs_length])
  · obtain ⟨s, e, hs, hi⟩ := hcs v
    rw [e, balR0_eq p _ hs.cs]; exact congrArg (cntP p) hi
  · -- complementing the coins of level `h` pairs the runs, and permutes the coin vectors
    have hv : ∀ v ∈ allVecs (run T F ops []).2.used,
        balR p (h + 1) (csOf T F ops id v) + balR p (h + 1) (csOf T F ops id (xorV v (maskOf (run T F ops []).2.lv h)))
          + cntAt p h (csOf T F ops id v) = balR p h (csOf T F ops id v) := by
      intro v hv
      have hvl : v.length = (run T F ops []).2.lv.length := hLlen ▸ DS.mem_allVecs_length _ v (allVecs_eq _ ▸ hv)
      have rr := runOps_relB hT F (run T F ops []).2.lv (some h) ops ([] : Store ρ) [] [] (Acc.init v)
        (Acc.init (xorV v (maskOf (run T F ops []).2.lv h))) ALRel_nil ALRel_nil (init_AccRel _ h v hvl)
        ((hsh v).1 ▸ List.prefix_refl _) (fun _ _ => (hsh v).2)
      obtain ⟨rc, rb⟩ := csOf_rel id rr.1
      exact bal_levels p h rc (rb p h rfl)
    rw [← congrArg List.sum (List.map_congr_left hv), sum_map_add, sum_map_add,
      sum_xorV _ _ (fun v => balR p (h + 1) (csOf T F ops id v)) (by simp [maskOf, hLlen]), Nat.two_mul]

end DS.Req
