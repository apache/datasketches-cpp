/-
C08 (mechanism part) — the compaction mechanism of the coin-driven quantile sketches is unbiased.

ONLY property theorems and their non-vacuity examples live here (helper lemmas: Lemmas/KllBasic.lean,
Lemmas/KllMech.lean; coin vectors: Lemmas/KllCT.lean).  Model: DSModel/Kll/Mech.lean — a list of levels `L` (index = height, an item in
level `h` has weight 2^h) is driven by a schedule `ops` of micro-operations:
  `add x`            puts an item into level 0,
  `compact i srt up` compacts level `i` with one fresh fair coin: the odd leftover (first item) stays at
                     level `i`, the even-length rest is optionally sorted (`srt`), one half of it
                     (`up`: randomly_halve_up, else randomly_halve_down; the coin picks evens or odds)
                     is merged into level `i+1` (created when `i` is the top level), the other half is
                     discarded.
The schedule (WHICH level is compacted WHEN) is arbitrary here, so the statements cover
`compress_while_updating`, `general_compress` (merge) and any interleaving of them.  `validAll` asks
that every compacted level exists and that level 0 exists when an item is added; the statements carry it, or `i < L.length`,
as a hypothesis, but no proof uses it: an operation on a level that does not exist changes nothing.

`p : α → Bool` is any predicate on items ("x ≤ y" or "x < y" in the applications); `cnt p l` = number of
items of `l` satisfying `p`; `wb p 0 L` = Σ_h 2^h · cnt p (level h) = the weight the sketch attributes to
`p`, i.e. the un-normalised rank estimate.

All statements are for every item type, every comparator `lt : α → α → Bool` (no order assumptions; no level need be
sorted or of even size), every predicate, every level list and every schedule.
-/
import DSProofs.Lemmas.KllMech
namespace DS.Mech
open DS DS.Kll

variable {α : Type}

/-! ### concrete data for the non-vacuity examples -/

/-- the comparator of `kll_sketch<int>` -/
def ltInt : Int → Int → Bool := fun a b => decide (a < b)

/-- "below y": inclusive `x ≤ y`, exclusive `x < y` -/
def below (y : Int) (incl : Bool) : Int → Bool := fun x => if incl then decide (x ≤ y) else decide (x < y)

/-- two levels: five unsorted items of weight 1, two items of weight 2 -/
def exL : List (List Int) := [[3, 7, 1, 2, 4], [2, 8]]

/-- compact level 0 (sorting, halve up), add 5, compact level 1 (it is the top level: a new level is
created; halve down) -/
def exOps : List (MOp Int) := [.compact 0 true true, .add 5, .compact 1 false false]

/-- The two coin outcomes of one compaction carry together exactly twice the weight below (`hi` is not used:
compacting a level that does not exist leaves the list as it is). -/
theorem compaction_balanced (lt : α → α → Bool) (p : α → Bool) (L : List (List α)) (i : Nat)
    (srt up : Bool) (hi : i < L.length) :
    wb p 0 (compactCore lt L i srt up false) + wb p 0 (compactCore lt L i srt up true) = 2 * wb p 0 L :=
  compactCore_balanced lt p 0 L i srt up

/-- instance: weight ≤ 5 is 6 before; 5 with coin false ([[3],[2,2,7,8]]), 7 with coin true ([[3],[1,2,4,8]]) -/
example :
    compactCore ltInt exL 0 true true false = [[3], [2, 2, 7, 8]] ∧
    compactCore ltInt exL 0 true true true = [[3], [1, 2, 4, 8]] ∧
    wb (below 5 true) 0 exL = 6 ∧
    wb (below 5 true) 0 (compactCore ltInt exL 0 true true false) = 5 ∧
    wb (below 5 true) 0 (compactCore ltInt exL 0 true true true) = 7 := by
  decide

example : wb (below 5 true) 0 (compactCore ltInt exL 0 true true false)
    + wb (below 5 true) 0 (compactCore ltInt exL 0 true true true) = 2 * wb (below 5 true) 0 exL :=
  compaction_balanced ltInt (below 5 true) exL 0 true true (by decide)

/-- The level sizes after a compaction do not depend on the coin, and the number of levels is `lenAfter`. -/
theorem compaction_shape (lt : α → α → Bool) (L : List (List α)) (i : Nat) (srt up : Bool)
    (_hi : i < L.length) :
    (compactCore lt L i srt up false).map List.length = (compactCore lt L i srt up true).map List.length ∧
    ∀ c, (compactCore lt L i srt up c).length = lenAfter L.length (MOp.compact i srt up : MOp α) :=
  ⟨by rw [compactCore_map_length, compactCore_map_length], fun c => compactCore_length lt L i srt up c⟩

/-- instance: compacting the top level (1) of `exL` creates level 2; sizes [5, 0, 1] for either coin -/
example :
    compactCore ltInt exL 1 false false false = [[3, 7, 1, 2, 4], [], [2]] ∧
    compactCore ltInt exL 1 false false true = [[3, 7, 1, 2, 4], [], [8]] ∧
    (compactCore ltInt exL 1 false false true).map List.length = [5, 0, 1] ∧
    lenAfter exL.length (MOp.compact 1 false false : MOp Int) = 3 := by
  decide

/-- Σ over all coin outcomes of the weight below = 2^flips · (initial weight below + items added below),
and there are 2^flips outcomes: the mechanism is unbiased for every schedule (validity is not used, `sumAll_fst`). -/
theorem sumAll_unbiased (lt : α → α → Bool) (p : α → Bool) (ops : List (MOp α)) :
    ∀ L : List (List α), validAll L.length ops = true →
      (sumAll lt p L ops).1 = 2 ^ flips ops * (wb p 0 L + addedBelow p ops) ∧
      (sumAll lt p L ops).2 = 2 ^ flips ops :=
  fun L _ => ⟨sumAll_fst lt p ops L, sumAll_snd lt p ops L⟩

/-- instance: 2 flips, initial weight 6, one added item ≤ 5: 28 = 4 · (6 + 1) -/
example :
    validAll exL.length exOps = true ∧ flips exOps = 2 ∧ addedBelow (below 5 true) exOps = 1 ∧
    sumAll ltInt (below 5 true) exL exOps = (28, 4) := by
  decide

/-- `allVecs n` lists exactly the coin vectors of length `n`, each once; there are 2^n of them. -/
theorem allVecs_spec (n : Nat) :
    (∀ cs : List Bool, cs ∈ allVecs n ↔ cs.length = n) ∧
    (allVecs n).Pairwise (fun a b => a ≠ b) ∧ (allVecs n).length = 2 ^ n :=
  ⟨fun cs => ⟨mem_allVecs_length n cs, mem_allVecs_of_length n cs⟩, allVecs_nodup n, allVecs_length n⟩

example : allVecs 2 = [[false, false], [false, true], [true, false], [true, true]] := by decide

/-- `sumAll` is the sum of the weight below over the runs against all coin vectors. -/
theorem sumAll_eq_sum_over_vectors (lt : α → α → Bool) (p : α → Bool) (L : List (List α))
    (ops : List (MOp α)) :
    (sumAll lt p L ops).1 = ((allVecs (flips ops)).map (fun cs => wb p 0 (mrun lt L ops cs))).sum ∧
    (sumAll lt p L ops).2 = (allVecs (flips ops)).length ∧
    (allVecs (flips ops)).length = 2 ^ flips ops :=
  ⟨sumAll_fst_eq_sum lt p ops L, by rw [sumAll_snd, allVecs_length], allVecs_length _⟩

/-- Σ over all coin vectors of the weight below after the run = 2^flips · (initial + added below). -/
theorem mech_unbiased (lt : α → α → Bool) (p : α → Bool) (L : List (List α)) (ops : List (MOp α))
    (hv : validAll L.length ops = true) :
    ((allVecs (flips ops)).map (fun cs => wb p 0 (mrun lt L ops cs))).sum
      = 2 ^ flips ops * (wb p 0 L + addedBelow p ops) := by
  rw [← sumAll_fst_eq_sum lt p ops L]
  exact sumAll_fst lt p ops L

/-- instance: the four runs give 6, 6, 10, 6 (sum 28); e.g. coins [true, false] end in [[5,3],[],[1,4]] -/
example :
    mrun ltInt exL exOps [true, false] = [[5, 3], [], [1, 4]] ∧
    (allVecs (flips exOps)).map (fun cs => wb (below 5 true) 0 (mrun ltInt exL exOps cs)) = [6, 6, 10, 6] := by
  decide

/-- `sumAll_unbiased` for `kll_sketch<int>`-like items and the rank predicate "below y" (incl/excl). -/
theorem sumAll_unbiased_int (y : Int) (incl : Bool) (ops : List (MOp Int)) (L : List (List Int))
    (hv : validAll L.length ops = true) :
    (sumAll ltInt (below y incl) L ops).1
      = 2 ^ flips ops * (wb (below y incl) 0 L + addedBelow (below y incl) ops) ∧
    (sumAll ltInt (below y incl) L ops).2 = 2 ^ flips ops :=
  sumAll_unbiased ltInt (below y incl) ops L hv

/-- `mech_unbiased` for Int items and the rank predicate "below y". -/
theorem mech_unbiased_int (y : Int) (incl : Bool) (ops : List (MOp Int)) (L : List (List Int))
    (hv : validAll L.length ops = true) :
    ((allVecs (flips ops)).map (fun cs => wb (below y incl) 0 (mrun ltInt L ops cs))).sum
      = 2 ^ flips ops * (wb (below y incl) 0 L + addedBelow (below y incl) ops) :=
  mech_unbiased ltInt (below y incl) L ops hv

/-- instance: exclusive rank of 2 (items < 2: only the 1 in level 0, weight 1; nothing added below) -/
example :
    wb (below 2 false) 0 exL = 1 ∧ addedBelow (below 2 false) exOps = 0 ∧
    sumAll ltInt (below 2 false) exL exOps = (4, 4) := by
  decide

example : sumAll ltInt (below 5 true) exL exOps = (2 ^ 2 * (6 + 1), 2 ^ 2) := by
  have h := sumAll_unbiased_int 5 true exOps exL (by decide)
  have e1 : flips exOps = 2 := by decide
  have e2 : wb (below 5 true) 0 exL = 6 := by decide
  have e3 : addedBelow (below 5 true) exOps = 1 := by decide
  rw [e1, e2, e3] at h
  exact Prod.ext h.1 h.2

end DS.Mech
