/- C19: the step rules.  A primitive that acts on one cell is described once (`CellStep`), alloc and dealloc by `Alloced` / `Freed`.
   The prefix of a rule says in which vocabulary its continuation learns about the new heap: `vstep_*` the views (`SameBut`; theta
   and KLL), `stepR_*` the relation `Fi.Upd` (FI: every other block equal by `find?`, which the views do not determine), `astep_*`
   the relations `Alloced` / `Freed` themselves (theta directly, FI through `gstep_*` of LifeOwn, KLL through `vstep_alloc`). -/
import DSProofs.Lemmas.LifeInv
namespace DS.Life

/-- the two heaps have the same blocks and show the same word and state at every cell that `X` does not select.  `cells` goes
    from `h` to `h'` only: facts are carried forwards along a run, and no proof needs the converse -/
structure SameBut (h h' : Heap) (X : Nat → Nat → Prop) : Prop where
  word : ∀ b j, ¬ X b j → wordAt h' b j = wordAt h b j
  st : ∀ b j, ¬ X b j → stAt h' b j = stAt h b j
  cells : ∀ b n, HasCells h b n → HasCells h' b n
  ids : h'.ids = h.ids
  next : h'.next = h.next

theorem SameBut.refl (h : Heap) (X : Nat → Nat → Prop) : SameBut h h X :=
  ⟨fun _ _ _ => rfl, fun _ _ _ => rfl, fun _ _ x => x, rfl, rfl⟩

theorem SameBut.trans {h1 h2 h3 : Heap} {X Y Z : Nat → Nat → Prop} (a : SameBut h1 h2 X) (b : SameBut h2 h3 Y)
    (hx : ∀ p q, X p q → Z p q) (hy : ∀ p q, Y p q → Z p q) : SameBut h1 h3 Z :=
  ⟨fun p q hz => (b.word p q (fun y => hz (hy p q y))).trans (a.word p q (fun x => hz (hx p q x))),
   fun p q hz => (b.st p q (fun y => hz (hy p q y))).trans (a.st p q (fun x => hz (hx p q x))),
   fun p n c => b.cells p n (a.cells p n c), b.ids.trans a.ids, b.next.trans a.next⟩

theorem SameBut.mono {h h' : Heap} {X Z : Nat → Nat → Prop} (a : SameBut h h' X) (hx : ∀ p q, X p q → Z p q) :
    SameBut h h' Z := a.trans (SameBut.refl h' X) hx hx

theorem not_two_cells_of_block {b b1 b2 j i1 i2 : Nat} (h1 : b ≠ b1) (h2 : b ≠ b2) :
    ¬ ((b = b1 ∧ j = i1) ∨ (b = b2 ∧ j = i2)) := fun x => x.elim (fun x => h1 x.1) (fun x => h2 x.1)

theorem not_two_cells_of_index {b b1 b2 j i1 i2 : Nat} (h1 : j ≠ i1) (h2 : j ≠ i2) :
    ¬ ((b = b1 ∧ j = i1) ∨ (b = b2 ∧ j = i2)) := fun x => x.elim (fun x => h1 x.2) (fun x => h2 x.2)

theorem SameBut_setCell (h : Heap) (b i : Nat) (c : Cell) : SameBut h (h.setCell b i c) (fun b' j => b' = b ∧ j = i) := by
  refine ⟨fun b' j hx => ?_, fun b' j hx => ?_, fun b' n hc => HasCells_setCell _ _ _ hc, ids_setCell .., rfl⟩
  · rw [wordAt_setCell, if_neg fun x => hx ⟨x.1, x.2.1⟩]
  · rw [stAt_setCell, if_neg fun x => hx ⟨x.1, x.2.1⟩]

namespace Fi

/-- `h'` is `h` with cell `(b, i)` replaced by `c'` (and possibly a longer log): what `CellStep.step` hands to its continuation.
    The FI proofs use it throughout, hence the namespace; KLL reads it once, in `vstep_optSwap` -/
structure Upd (h h' : Heap) (b i : Nat) (c' : Cell) : Prop where
  next : h'.next = h.next
  ids : h'.ids = h.ids
  out : ∀ b', b' ≠ b → h'.find? b' = h.find? b'
  cell : h'.cell? b i = some c'
  other : ∀ j, j ≠ i → h'.cell? b j = h.cell? b j
  count : h'.count? b = h.count? b

theorem Upd.of_setCell {h : Heap} {b i : Nat} {c : Cell} (hc : h.cell? b i = some c) (c' : Cell) :
    Upd h (h.setCell b i c') b i c' := by
  refine ⟨rfl, ids_setCell _ _ _ _, fun _ hb => find?_setCell_ne h i c' hb, ?_, fun j hj => ?_, count?_setCell _ _ _ _ _⟩
  · rw [cell?_setCell]; simp [hc]
  · rw [cell?_setCell, if_neg (fun x => hj x.2.1)]

theorem Upd.addLog {h h' : Heap} {b i : Nat} {c' : Cell} (u : Upd h h' b i c') (e : Ev) : Upd h (h'.addLog e) b i c' :=
  ⟨u.next, u.ids, u.out, u.cell, u.other, u.count⟩

theorem Upd.cell_ne {h h' : Heap} {b i : Nat} {c' : Cell} (u : Upd h h' b i c') {b' j : Nat} (hne : ¬ (b' = b ∧ j = i)) :
    h'.cell? b' j = h.cell? b' j := by
  by_cases hb : b' = b
  · subst hb; exact u.other j (fun e => hne ⟨rfl, e⟩)
  · exact cell?_congr (u.out b' hb) j

theorem Upd.wordAt_ne {h h' : Heap} {b i : Nat} {c' : Cell} (u : Upd h h' b i c') {b' j : Nat} (hne : ¬ (b' = b ∧ j = i)) :
    wordAt h' b' j = wordAt h b' j := by
  simp only [wordAt, u.cell_ne hne]

theorem Upd.stAt_ne {h h' : Heap} {b i : Nat} {c' : Cell} (u : Upd h h' b i c') {b' j : Nat} (hne : ¬ (b' = b ∧ j = i)) :
    stAt h' b' j = stAt h b' j := by
  simp only [stAt, u.cell_ne hne]

theorem Upd.wordAt_blk {h h' : Heap} {b i : Nat} {c' : Cell} (u : Upd h h' b i c') {b' : Nat} (hb : b' ≠ b) (j : Nat) :
    wordAt h' b' j = wordAt h b' j := u.wordAt_ne (fun hh => hb hh.1)

theorem Upd.wordAt_idx {h h' : Heap} {b i : Nat} {c' : Cell} (u : Upd h h' b i c') {j : Nat} (hj : j ≠ i) (b' : Nat) :
    wordAt h' b' j = wordAt h b' j := u.wordAt_ne (fun hh => hj hh.2)

theorem Upd.stAt_blk {h h' : Heap} {b i : Nat} {c' : Cell} (u : Upd h h' b i c') {b' : Nat} (hb : b' ≠ b) (j : Nat) :
    stAt h' b' j = stAt h b' j := u.stAt_ne (fun hh => hb hh.1)

theorem Upd.stAt_idx {h h' : Heap} {b i : Nat} {c' : Cell} (u : Upd h h' b i c') {j : Nat} (hj : j ≠ i) (b' : Nat) :
    stAt h' b' j = stAt h b' j := u.stAt_ne (fun hh => hj hh.2)

theorem Upd.wordAt_eq {h h' : Heap} {b i : Nat} {c' : Cell} (u : Upd h h' b i c') : wordAt h' b i = c'.word :=
  wordAt_of u.cell

theorem Upd.stAt_eq {h h' : Heap} {b i : Nat} {c' : Cell} (u : Upd h h' b i c') : stAt h' b i = c'.st :=
  stAt_of u.cell

theorem Upd.wordAt_same {h h' : Heap} {b i : Nat} {c c' : Cell} (u : Upd h h' b i c') (hc : h.cell? b i = some c)
    (hw : c'.word = c.word) (b' j : Nat) : wordAt h' b' j = wordAt h b' j := by
  by_cases hne : b' = b ∧ j = i
  · obtain ⟨rfl, rfl⟩ := hne
    rw [u.wordAt_eq, wordAt_of hc, hw]
  · exact u.wordAt_ne hne

theorem Upd.stAt_same {h h' : Heap} {b i : Nat} {c c' : Cell} (u : Upd h h' b i c') (hc : h.cell? b i = some c)
    (hw : c'.st = c.st) (b' j : Nat) : stAt h' b' j = stAt h b' j := by
  by_cases hne : b' = b ∧ j = i
  · obtain ⟨rfl, rfl⟩ := hne
    rw [u.stAt_eq, stAt_of hc, hw]
  · exact u.stAt_ne hne

theorem Upd.hasCells {h h' : Heap} {b i : Nat} {c' : Cell} (u : Upd h h' b i c') {b' n : Nat} (hc : HasCells h b' n) :
    HasCells h' b' n := by
  by_cases hb : b' = b
  · subst hb; simpa only [HasCells, u.count] using hc
  · exact HasCells_congr (u.out b' hb) hc

theorem Upd.sameBut {h h' : Heap} {b i : Nat} {c' : Cell} (u : Upd h h' b i c') : SameBut h h' (fun b' j => b' = b ∧ j = i) :=
  ⟨fun _ _ hx => u.wordAt_ne hx, fun _ _ hx => u.stAt_ne hx, fun _ _ hc => u.hasCells hc, u.ids, u.next⟩

end Fi
open Fi (Upd)

/-- run where cell `(b, i)` is `c`, the primitive `m` returns `a` and leaves `c'` there (and possibly a log entry).  One row per
    primitive below; every step rule of a cell-writing primitive is an instance of `CellStep.step` or `CellStep.vstep` -/
def CellStep {α} (m : M α) (b i : Nat) (c : Cell) (a : α) (c' : Cell) : Prop :=
  ∀ h, h.cell? b i = some c → ∃ h', m h = .ok (a, h') ∧ (h' = h.setCell b i c' ∨ ∃ e, h' = (h.setCell b i c').addLog e)

namespace CellStep
variable {α β : Type} {m : M α} {b i n : Nat} {c c' : Cell} {a : α} {S : Nat → Bool} {h : Heap} {f : α → M β}
  {Q : β → Heap → Prop}

/-- the continuation gets `Upd`: `find?` of the other blocks is kept, which the views do not say -/
theorem step (W : CellStep m b i c a c') (hc : h.cell? b i = some c) (hS : S b = true)
    (s : ∀ h', Upd h h' b i c' → SafeF S h' (f a h') Q) : SafeF S h ((m >>= f) h) Q := by
  obtain ⟨h', e, rfl | ⟨ev, rfl⟩⟩ := W h hc
  · exact SafeF.bind_ok e (Frame_setCell S h b i _ hS) (s _ (Upd.of_setCell hc _))
  · exact SafeF.bind_ok e ((Frame_setCell S h b i _ hS).trans (Frame_addLog S _ _)) (s _ ((Upd.of_setCell hc _).addLog ev))

/-- the same through the views, so that no heap term piles up -/
theorem vstep (hc : HasCells h b n) (hi : i < n) (W : CellStep m b i ⟨stAt h b i, wordAt h b i⟩ a c') (hS : S b = true)
    (s : ∀ h', SameBut h h' (fun b' j => b' = b ∧ j = i) → wordAt h' b i = c'.word → stAt h' b i = c'.st →
      SafeF S h' (f a h') Q) : SafeF S h ((m >>= f) h) Q := by
  obtain ⟨⟨st, w⟩, e, ew, est⟩ := hc.cell_st hi
  cases ew; cases est
  exact W.step e hS fun h' u => s h' u.sameBut u.wordAt_eq u.stAt_eq

end CellStep

theorem CellStep.writeWord {b i : Nat} {c : Cell} (w : Nat) : CellStep (writeWord b i w) b i c () { c with word := w } :=
  fun _ hc => ⟨_, writeWord_ok w hc, Or.inl rfl⟩

theorem CellStep.construct {b i : Nat} {c : Cell} (v : Nat) (hr : c.st = .raw) :
    CellStep (construct b i v) b i c () { c with st := .live v } :=
  fun _ hc => ⟨_, construct_ok v hc hr, Or.inr ⟨_, rfl⟩⟩

theorem CellStep.destroy {b i : Nat} {c : Cell} (hr : c.st ≠ .raw) : CellStep (destroy b i) b i c () { c with st := .raw } :=
  fun _ hc => ⟨_, destroy_ok hc hr, Or.inr ⟨_, rfl⟩⟩

theorem CellStep.moveFrom {b i v : Nat} {c : Cell} (hl : c.st = .live v) :
    CellStep (moveFrom b i) b i c v { c with st := .moved } :=
  fun _ hc => ⟨_, moveFrom_ok hc hl, Or.inl rfl⟩

theorem CellStep.assign {b i : Nat} {c : Cell} (v : Nat) (hr : c.st ≠ .raw) :
    CellStep (assign b i v) b i c () { c with st := .live v } :=
  fun _ hc => ⟨_, assign_ok v hc hr, Or.inl rfl⟩

theorem CellStep.moveFromAny {b i : Nat} {c : Cell} (hr : c.st ≠ .raw) :
    CellStep (moveFromAny b i) b i c c.st { c with st := .moved } := by
  refine fun h hc => ⟨h.setCell b i { c with st := .moved }, ?_, Or.inl rfl⟩
  obtain ⟨st, w⟩ := c
  cases st <;> first | exact absurd rfl hr | simp [DS.Life.moveFromAny, hc]

theorem CellStep.constructSt {b i : Nat} {c : Cell} (st : Slot) (hr : c.st = .raw) (hst : st ≠ .raw) :
    CellStep (constructSt b i st) b i c () { c with st := st } :=
  fun h hc => ⟨(h.setCell b i { c with st := st }).addLog (.ctor b ((h.kind? b).getD .item)),
    by simp [DS.Life.constructSt, hc, hr, hst], Or.inr ⟨_, rfl⟩⟩

theorem stepR_writeWord {β} {S} {h : Heap} {b i : Nat} {c : Cell} (w : Nat) {f : Unit → M β} {Q : β → Heap → Prop}
    (hc : h.cell? b i = some c) (hS : S b = true)
    (s : ∀ h', Upd h h' b i { c with word := w } → SafeF S h' (f () h') Q) :
    SafeF S h ((writeWord b i w >>= f) h) Q := (CellStep.writeWord w).step hc hS s

theorem stepR_construct {β} {S} {h : Heap} {b i : Nat} {c : Cell} (v : Nat) {f : Unit → M β} {Q : β → Heap → Prop}
    (hc : h.cell? b i = some c) (hr : c.st = .raw) (hS : S b = true)
    (s : ∀ h', Upd h h' b i { c with st := .live v } → SafeF S h' (f () h') Q) :
    SafeF S h ((construct b i v >>= f) h) Q := (CellStep.construct v hr).step hc hS s

theorem stepR_destroy {β} {S} {h : Heap} {b i : Nat} {c : Cell} {f : Unit → M β} {Q : β → Heap → Prop}
    (hc : h.cell? b i = some c) (hr : c.st ≠ .raw) (hS : S b = true)
    (s : ∀ h', Upd h h' b i { c with st := .raw } → SafeF S h' (f () h') Q) :
    SafeF S h ((destroy b i >>= f) h) Q := (CellStep.destroy hr).step hc hS s

theorem stepR_moveFrom {β} {S} {h : Heap} {b i : Nat} {c : Cell} {v : Nat} {f : Nat → M β} {Q : β → Heap → Prop}
    (hc : h.cell? b i = some c) (hl : c.st = .live v) (hS : S b = true)
    (s : ∀ h', Upd h h' b i { c with st := .moved } → SafeF S h' (f v h') Q) :
    SafeF S h ((moveFrom b i >>= f) h) Q := (CellStep.moveFrom hl).step hc hS s

theorem vstep_readWord {β} {S} {h : Heap} {b i n : Nat} {f : Nat → M β} {Q : β → Heap → Prop}
    (hc : HasCells h b n) (hi : i < n) (s : SafeF S h (f (wordAt h b i) h) Q) :
    SafeF S h ((readWord b i >>= f) h) Q := by
  obtain ⟨c, e, ew, _⟩ := hc.cell_st hi
  apply step_readWord e
  rw [ew]; exact s

theorem vstep_read {β} {S} {h : Heap} {b i n v : Nat} {f : Nat → M β} {Q : β → Heap → Prop}
    (hc : HasCells h b n) (hi : i < n) (hl : stAt h b i = .live v) (s : SafeF S h (f v h) Q) :
    SafeF S h ((read b i >>= f) h) Q := by
  obtain ⟨c, e, _, est⟩ := hc.cell_st hi
  exact step_read e (by rw [est, hl]) s

theorem vstep_readLive {β} {S} {h : Heap} {b i v : Nat} {f : Nat → M β} {Q : β → Heap → Prop}
    (hl : stAt h b i = .live v) (s : SafeF S h (f v h) Q) : SafeF S h ((read b i >>= f) h) Q := by
  obtain ⟨c, ec, est, _⟩ := cell_of_stAt_ne_raw (h := h) (b := b) (i := i) (by rw [hl]; simp)
  exact step_read ec (est.trans hl) s

theorem vstep_writeWord {β} {S} {h : Heap} {b i n : Nat} (w : Nat) {f : Unit → M β} {Q : β → Heap → Prop}
    (hc : HasCells h b n) (hi : i < n) (hS : S b = true)
    (s : ∀ h', SameBut h h' (fun b' j => b' = b ∧ j = i) → wordAt h' b i = w → stAt h' b i = stAt h b i →
          SafeF S h' (f () h') Q) :
    SafeF S h ((writeWord b i w >>= f) h) Q := CellStep.vstep hc hi (.writeWord w) hS s

theorem vstep_construct {β} {S} {h : Heap} {b i n : Nat} (v : Nat) {f : Unit → M β} {Q : β → Heap → Prop}
    (hc : HasCells h b n) (hi : i < n) (hr : stAt h b i = .raw) (hS : S b = true)
    (s : ∀ h', SameBut h h' (fun b' j => b' = b ∧ j = i) → wordAt h' b i = wordAt h b i → stAt h' b i = .live v →
          SafeF S h' (f () h') Q) :
    SafeF S h ((construct b i v >>= f) h) Q := CellStep.vstep hc hi (.construct v hr) hS s

theorem vstep_destroy {β} {S} {h : Heap} {b i n : Nat} {f : Unit → M β} {Q : β → Heap → Prop}
    (hc : HasCells h b n) (hi : i < n) (hr : stAt h b i ≠ .raw) (hS : S b = true)
    (s : ∀ h', SameBut h h' (fun b' j => b' = b ∧ j = i) → wordAt h' b i = wordAt h b i → stAt h' b i = .raw →
          SafeF S h' (f () h') Q) :
    SafeF S h ((destroy b i >>= f) h) Q := CellStep.vstep hc hi (.destroy hr) hS s

theorem vstep_moveFrom {β} {S} {h : Heap} {b i n v : Nat} {f : Nat → M β} {Q : β → Heap → Prop}
    (hc : HasCells h b n) (hi : i < n) (hl : stAt h b i = .live v) (hS : S b = true)
    (s : ∀ h', SameBut h h' (fun b' j => b' = b ∧ j = i) → wordAt h' b i = wordAt h b i → stAt h' b i = .moved →
          SafeF S h' (f v h') Q) :
    SafeF S h ((moveFrom b i >>= f) h) Q := CellStep.vstep hc hi (.moveFrom hl) hS s

theorem vstep_assign {β} {S} {h : Heap} {b i n : Nat} (v : Nat) {f : Unit → M β} {Q : β → Heap → Prop}
    (hc : HasCells h b n) (hi : i < n) (hr : stAt h b i ≠ .raw) (hS : S b = true)
    (s : ∀ h', SameBut h h' (fun b' j => b' = b ∧ j = i) → wordAt h' b i = wordAt h b i → stAt h' b i = .live v →
          SafeF S h' (f () h') Q) :
    SafeF S h ((assign b i v >>= f) h) Q := CellStep.vstep hc hi (.assign v hr) hS s

theorem vstep_moveFromAny {β} {S} {h : Heap} {b i n : Nat} {f : Slot → M β} {Q : β → Heap → Prop}
    (hc : HasCells h b n) (hi : i < n) (hr : stAt h b i ≠ .raw) (hS : S b = true)
    (s : ∀ h', SameBut h h' (fun b' j => b' = b ∧ j = i) → stAt h' b i = .moved → SafeF S h' (f (stAt h b i) h') Q) :
    SafeF S h ((moveFromAny b i >>= f) h) Q := CellStep.vstep hc hi (.moveFromAny hr) hS fun h' sb _ => s h' sb

theorem vstep_constructSt {β} {S} {h : Heap} {b i n : Nat} (st : Slot) {f : Unit → M β} {Q : β → Heap → Prop}
    (hc : HasCells h b n) (hi : i < n) (hr : stAt h b i = .raw) (hst : st ≠ .raw) (hS : S b = true)
    (s : ∀ h', SameBut h h' (fun b' j => b' = b ∧ j = i) → stAt h' b i = st → SafeF S h' (f () h') Q) :
    SafeF S h ((constructSt b i st >>= f) h) Q := CellStep.vstep hc hi (.constructSt st hr hst) hS fun h' sb _ => s h' sb

/-- what `alloc` returns and `dealloc` wants -/
structure RawBlock (h : Heap) (t n : Nat) : Prop where
  cells : HasCells h t n
  raw : ∀ i, stAt h t i = .raw

theorem RawBlock.congr {h h' : Heap} {t n : Nat} (r : RawBlock h t n) (e : h'.find? t = h.find? t) : RawBlock h' t n :=
  ⟨HasCells_congr e r.cells, fun i => (stAt_congr e i).trans (r.raw i)⟩

/-- what the continuation of `astep_alloc` learns (`Freed`: of `astep_dealloc`); the other blocks are equal by `find?`, from which
    their views follow by `wordAt_congr`, `stAt_congr`, `HasCells_congr`, `SameOn.of_find?` -/
structure Alloced (h h' : Heap) (n : Nat) : Prop where
  raw : RawBlock h' h.next n
  out : ∀ b, b ≠ h.next → h'.find? b = h.find? b
  ids : h'.ids = h.next :: h.ids
  next : h'.next = h.next + 1

structure Freed (h h' : Heap) (t : Nat) : Prop where
  out : ∀ b, b ≠ t → h'.find? b = h.find? b
  ids : h'.ids = h.ids.filter (fun x => x != t)
  next : h'.next = h.next

theorem Alloced.afterAlloc (h : Heap) (k : Kind) (n : Nat) : Alloced h (h.afterAlloc k n) n :=
  ⟨⟨by simp [HasCells, count?_afterAlloc], stAt_afterAlloc_fresh h k n⟩, fun _ hb => by rw [find?_afterAlloc, if_neg hb], rfl, rfl⟩

theorem Freed.afterFree (h : Heap) (t : Nat) (k : Kind) (n : Nat) : Freed h (h.afterFree t k n) t :=
  ⟨fun _ hb => by rw [find?_afterFree, if_neg hb], ids_afterFree .., rfl⟩

theorem astep_alloc {β} {S} {h : Heap} (k : Kind) (n : Nat) {f : Nat → M β} {Q : β → Heap → Prop} (hS : S h.next = true)
    (s : ∀ h', Alloced h h' n → SafeF S h' (f h.next h') Q) : SafeF S h ((alloc k n >>= f) h) Q :=
  SafeF.bind_ok (alloc_ok k n h) (Frame_afterAlloc S h k n hS) (s _ (.afterAlloc h k n))

theorem astep_dealloc {β} {S} {h : Heap} {b n : Nat} {f : Unit → M β} {Q : β → Heap → Prop}
    (hc : HasCells h b n) (hr : ∀ i, i < n → stAt h b i = .raw) (hS : S b = true)
    (s : ∀ h', Freed h h' b → SafeF S h' (f () h') Q) : SafeF S h ((dealloc b n >>= f) h) Q := by
  obtain ⟨B, hf, hn⟩ := find?_of_count? hc
  refine SafeF.bind_ok (dealloc_ok hf hn fun c hcm => ?_) (Frame_afterFree S h b B.kind n hS) (s _ (.afterFree h b B.kind n))
  obtain ⟨i, hi, rfl⟩ := List.getElem_of_mem hcm
  rw [← hr i (hn ▸ hi), stAt, cell?_of_find? hf, List.getElem?_eq_getElem hi]

/-- a loop over the cells `[start, stop)` of block `b` whose `i`-th iteration changes nothing but cell `(b, i)` and what
    `N` selects (in other blocks), brings that cell into a state `Post i` of its word and lifetime state, and steps an
    invariant `J` of the rest: the continuation starts where every cell of the range satisfies `Post` and the other cells of
    `b` are as in the beginning.  The body is also told that the cell of its round is still as it was at the start -/
theorem vloop_cells {β} {S} {b : Nat} {N : Nat → Nat → Prop} {Post : Nat → Nat → Slot → Prop} {J : Nat → Heap → Prop}
    {body : Nat → M Unit} {start stop : Nat} {h0 : Heap} {f : Unit → M β} {Q : β → Heap → Prop}
    (hle : start ≤ stop) (hN : ∀ j, ¬ N b j) (hJ : J start h0)
    (hbody : ∀ i h, start ≤ i → i < stop →
      SameBut h0 h (fun b' j => (b' = b ∧ start ≤ j ∧ j < i) ∨ N b' j) →
      wordAt h b i = wordAt h0 b i → stAt h b i = stAt h0 b i → J i h →
      SafeF S h (body i h) (fun _ h' => SameBut h h' (fun b' j => (b' = b ∧ j = i) ∨ N b' j) ∧
        Post i (wordAt h' b i) (stAt h' b i) ∧ J (i + 1) h'))
    (s : ∀ h', SameBut h0 h' (fun b' j => (b' = b ∧ start ≤ j ∧ j < stop) ∨ N b' j) →
      (∀ i, start ≤ i → i < stop → Post i (wordAt h' b i) (stAt h' b i)) → J stop h' →
      SafeF S h' (f () h') Q) :
    SafeF S h0 ((loopUp body (stop - start) start >>= f) h0) Q := by
  have t := TripleS.loopUp (n0 := 0) (S := S)
    (fun k h => SameBut h0 h (fun b' j => (b' = b ∧ start ≤ j ∧ j < k) ∨ N b' j) ∧
      (∀ i, start ≤ i → i < k → Post i (wordAt h b i) (stAt h b i)) ∧ J k h) body (stop - start) start ?_
  · rw [Nat.add_sub_cancel' hle] at t
    exact SafeF.bind_triple t (Nat.zero_le _) ⟨SameBut.refl _ _, fun i h1 h2 => absurd h1 (Nat.not_le_of_lt h2), hJ⟩
      fun _ h' ⟨sb, hp, hj⟩ _ => s h' sb hp hj
  · intro i hi1 hi2 h _ ⟨sb, hpost, hj⟩
    rw [Nat.add_sub_cancel' hle] at hi2
    have hx : ¬ ((b = b ∧ start ≤ i ∧ i < i) ∨ N b i) := fun x => x.elim (fun y => Nat.lt_irrefl i y.2.2) (hN i)
    refine (hbody i h hi1 hi2 sb (sb.word b i hx) (sb.st b i hx) hj).mono ?_
    intro _ h' ⟨sb', hp, hj'⟩
    refine ⟨sb.trans sb' (fun _ _ x => x.imp (fun y => ⟨y.1, y.2.1, Nat.lt_succ_of_lt y.2.2⟩) id)
      (fun _ _ x => x.imp (fun ⟨e, ej⟩ => ⟨e, ej ▸ hi1, ej ▸ Nat.lt_succ_self i⟩) id), ?_, hj'⟩
    intro j hj1 hj2
    rcases Nat.lt_succ_iff_lt_or_eq.mp hj2 with hlt | rfl
    · have hne : ¬ ((b = b ∧ j = i) ∨ N b j) := fun x => x.elim (fun y => Nat.ne_of_lt hlt y.2) (hN j)
      rw [sb'.word b j hne, sb'.st b j hne]
      exact hpost j hj1 hlt
    · exact hp

/-- `vloop_cells` where nothing outside the range is touched (no `N`) and nothing else is carried along (no `J`) -/
theorem vloop_cells' {β} {S} {b : Nat} {Post : Nat → Nat → Slot → Prop}
    {body : Nat → M Unit} {start stop : Nat} {h0 : Heap} {f : Unit → M β} {Q : β → Heap → Prop} (hle : start ≤ stop)
    (hbody : ∀ i h, start ≤ i → i < stop → SameBut h0 h (fun b' j => b' = b ∧ start ≤ j ∧ j < i) →
      wordAt h b i = wordAt h0 b i → stAt h b i = stAt h0 b i →
      SafeF S h (body i h) (fun _ h' => SameBut h h' (fun b' j => b' = b ∧ j = i) ∧ Post i (wordAt h' b i) (stAt h' b i)))
    (s : ∀ h', SameBut h0 h' (fun b' j => b' = b ∧ start ≤ j ∧ j < stop) →
      (∀ i, start ≤ i → i < stop → Post i (wordAt h' b i) (stAt h' b i)) → SafeF S h' (f () h') Q) :
    SafeF S h0 ((loopUp body (stop - start) start >>= f) h0) Q := by
  refine vloop_cells (b := b) (N := fun _ _ => False) (Post := Post) (J := fun _ _ => True) hle (fun _ x => x) trivial ?_ ?_
  · intro i h h1 h2 sb hw hs _
    refine (hbody i h h1 h2 (sb.mono fun _ _ x => x.elim id False.elim) hw hs).mono ?_
    exact fun _ h' ⟨sb', hp⟩ => ⟨sb'.mono fun _ _ x => Or.inl x, hp, trivial⟩
  · exact fun h' sb hp _ => s h' (sb.mono fun _ _ x => x.elim id False.elim) hp

/-- `destroy` as the last statement of a loop body -/
theorem destroy_cell {S} {h : Heap} {b i n : Nat} (hc : HasCells h b n) (hi : i < n) (hr : stAt h b i ≠ .raw)
    (hS : S b = true) :
    SafeF S h (destroy b i h) (fun _ h' => SameBut h h' (fun b' j => b' = b ∧ j = i) ∧ stAt h' b i = .raw) :=
  SafeF.last (vstep_destroy hc hi hr hS fun _ sb _ hs => SafeF.pure ⟨sb, hs⟩)

/-- what the KLL proofs keep of a block that a step leaves alone: its states and its size, not its words -/
structure SameOn (h h' : Heap) (b : Nat) : Prop where
  st : ∀ j, stAt h' b j = stAt h b j
  cells : ∀ m, HasCells h b m → HasCells h' b m

theorem SameOn.refl (h : Heap) (b : Nat) : SameOn h h b := ⟨fun _ => rfl, fun _ x => x⟩

theorem SameOn.trans {h1 h2 h3 : Heap} {b : Nat} (a : SameOn h1 h2 b) (c : SameOn h2 h3 b) : SameOn h1 h3 b :=
  ⟨fun j => (c.st j).trans (a.st j), fun m x => c.cells m (a.cells m x)⟩

theorem SameBut.sameOn {h h' : Heap} {X : Nat → Nat → Prop} (sb : SameBut h h' X) {b : Nat} (hx : ∀ j, ¬ X b j) :
    SameOn h h' b := ⟨fun j => sb.st b j (hx j), fun m x => sb.cells b m x⟩

theorem SameOn.of_find? {h h' : Heap} {b : Nat} (e : h'.find? b = h.find? b) : SameOn h h' b :=
  ⟨fun j => stAt_congr e j, fun _ x => HasCells_congr e x⟩

/-- `astep_alloc` / `astep_dealloc` with the other blocks in the vocabulary of KLL (`SameOn`) -/
theorem vstep_alloc {β} {S} {h : Heap} (k : Kind) (n : Nat) {f : Nat → M β} {Q : β → Heap → Prop}
    (hS : S h.next = true)
    (s : ∀ h', HasCells h' h.next n → (∀ i, i < n → stAt h' h.next i = .raw) →
          (∀ b, b ≠ h.next → SameOn h h' b) → h'.ids = h.next :: h.ids → h'.next = h.next + 1 →
          SafeF S h' (f h.next h') Q) :
    SafeF S h ((alloc k n >>= f) h) Q :=
  astep_alloc k n hS fun h' A => s h' A.raw.cells (fun i _ => A.raw.raw i) (fun b hb => .of_find? (A.out b hb)) A.ids A.next

theorem vstep_dealloc {β} {S} {h : Heap} {b n : Nat} {f : Unit → M β} {Q : β → Heap → Prop}
    (hc : HasCells h b n) (hr : ∀ i, i < n → stAt h b i = .raw) (hS : S b = true)
    (s : ∀ h', (∀ b', b' ≠ b → SameOn h h' b') → h'.ids = h.ids.filter (fun x => x != b) → h'.next = h.next →
          SafeF S h' (f () h') Q) :
    SafeF S h ((dealloc b n >>= f) h) Q :=
  astep_dealloc hc hr hS fun h' A => s h' (fun b' hb => .of_find? (A.out b' hb)) A.ids A.next

theorem vstep_copyConstruct {β} {S} {h : Heap} {sb si sn db di dn v : Nat} {f : Unit → M β} {Q : β → Heap → Prop}
    (hcs : HasCells h sb sn) (hsi : si < sn) (hl : stAt h sb si = .live v)
    (hcd : HasCells h db dn) (hdi : di < dn) (hr : stAt h db di = .raw) (hS : S db = true)
    (s : ∀ h', SameBut h h' (fun b' j => b' = db ∧ j = di) → stAt h' db di = .live v → SafeF S h' (f () h') Q) :
    SafeF S h ((copyConstruct sb si db di >>= f) h) Q := by
  unfold copyConstruct
  simp only [M.bind_assoc]
  apply vstep_read hcs hsi hl
  apply vstep_construct v hcd hdi hr hS
  intro h1 sb1 _ hst1
  exact s h1 sb1 hst1

theorem vstep_moveConstruct {β} {S} {h : Heap} {sb si sn db di dn v : Nat} {f : Unit → M β} {Q : β → Heap → Prop}
    (hcs : HasCells h sb sn) (hsi : si < sn) (hl : stAt h sb si = .live v)
    (hcd : HasCells h db dn) (hdi : di < dn) (hr : stAt h db di = .raw) (hSs : S sb = true) (hSd : S db = true)
    (s : ∀ h', SameBut h h' (fun b' j => (b' = sb ∧ j = si) ∨ (b' = db ∧ j = di)) →
          stAt h' db di = .live v → stAt h' sb si = .moved → SafeF S h' (f () h') Q) :
    SafeF S h ((moveConstruct sb si db di >>= f) h) Q := by
  have hne : ¬ (db = sb ∧ di = si) := by
    rintro ⟨rfl, rfl⟩
    rw [hl] at hr; cases hr
  unfold moveConstruct
  simp only [M.bind_assoc]
  apply vstep_moveFrom hcs hsi hl hSs
  intro h1 sb1 _ hst1
  have hr1 : stAt h1 db di = .raw := by rw [sb1.st db di (fun x => hne x)]; exact hr
  apply vstep_construct v (sb1.cells _ _ hcd) hdi hr1 hSd
  intro h2 sb2 _ hst2
  have hne' : ¬ (sb = db ∧ si = di) := fun x => hne ⟨x.1.symm, x.2.symm⟩
  apply s h2 (sb1.trans sb2 (fun _ _ x => Or.inl x) (fun _ _ x => Or.inr x)) hst2
  rw [sb2.st sb si hne', hst1]

theorem vstep_moveAssignSlot {β} {S} {h : Heap} {sb si sn db di dn v : Nat} {f : Unit → M β} {Q : β → Heap → Prop}
    (hcs : HasCells h sb sn) (hsi : si < sn) (hl : stAt h sb si = .live v)
    (hcd : HasCells h db dn) (hdi : di < dn) (hr : stAt h db di ≠ .raw) (hne : ¬ (db = sb ∧ di = si))
    (hSs : S sb = true) (hSd : S db = true)
    (s : ∀ h', SameBut h h' (fun b' j => (b' = sb ∧ j = si) ∨ (b' = db ∧ j = di)) →
          stAt h' db di = .live v → stAt h' sb si = .moved → SafeF S h' (f () h') Q) :
    SafeF S h ((moveAssignSlot sb si db di >>= f) h) Q := by
  unfold moveAssignSlot
  simp only [M.bind_assoc]
  apply vstep_moveFrom hcs hsi hl hSs
  intro h1 sb1 _ hst1
  have hr1 : stAt h1 db di ≠ .raw := by rw [sb1.st db di (fun x => hne x)]; exact hr
  apply vstep_assign v (sb1.cells _ _ hcd) hdi hr1 hSd
  intro h2 sb2 _ hst2
  have hne' : ¬ (sb = db ∧ si = di) := fun x => hne ⟨x.1.symm, x.2.symm⟩
  apply s h2 (sb1.trans sb2 (fun _ _ x => Or.inl x) (fun _ _ x => Or.inr x)) hst2
  rw [sb2.st sb si hne', hst1]

theorem vstep_copyAssignSlot {β} {S} {h : Heap} {sb si sn db di dn v : Nat} {f : Unit → M β} {Q : β → Heap → Prop}
    (hcs : HasCells h sb sn) (hsi : si < sn) (hl : stAt h sb si = .live v)
    (hcd : HasCells h db dn) (hdi : di < dn) (hr : stAt h db di ≠ .raw) (hSd : S db = true)
    (s : ∀ h', SameBut h h' (fun b' j => b' = db ∧ j = di) → stAt h' db di = .live v → SafeF S h' (f () h') Q) :
    SafeF S h ((copyAssignSlot sb si db di >>= f) h) Q := by
  unfold copyAssignSlot
  simp only [M.bind_assoc]
  apply vstep_read hcs hsi hl
  apply vstep_assign v hcd hdi hr hSd
  intro h1 sb1 _ hst1
  exact s h1 sb1 hst1

end DS.Life
