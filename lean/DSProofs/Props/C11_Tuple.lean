/-
C11 (compact tuple sketch images) — truncated images are rejected, counts cannot outrun the input.
ONLY property theorems and their non-vacuity examples.
-/
import DSProofs.Lemmas.WireTuple
namespace DS.Wire.Tuple
open DS.Wire

variable {σ : Type}

theorem decode_PS (c : Consts) (cd : Codec σ) (hl : Laws cd) (exp : Nat) : PS (decode c cd exp) :=
  (decode_within c cd hl exp).ps

/-- every strict prefix of an image (current or legacy version bytes) is rejected. -/
theorem prefix_rejected (c : Consts) (hc : c.ok = true) (cd : Codec σ) (hl : Laws cd) (s : Image σ) (hwf : WF cd s) (exp : Nat)
    (hseed : s.isEmpty = true ∨ s.seedHash = exp) (n : Nat) :
    (n < (encode c cd s).length → decode c cd exp ((encode c cd s).take n) = none) ∧
    (n < (encodeLegacy c cd s).length → decode c cd exp ((encodeLegacy c cd s).take n) = none) :=
  ⟨prefix_rejected' _ (decode_PS c cd hl exp) _ s
      (decode_encodeWith (COk.of_ok hc) cd hl _ _ (Or.inl rfl) (Or.inl rfl) s hwf exp hseed) n,
   prefix_rejected' _ (decode_PS c cd hl exp) _ s
      (decode_encodeWith (COk.of_ok hc) cd hl _ _ (Or.inr rfl) (Or.inr rfl) s hwf exp hseed) n⟩

/-- a successful decode of any bytes returns at most one entry per 8 consumed bytes (stated with factor 8 as for theta). -/
theorem decode_bounded (c : Consts) (cd : Codec σ) (hl : Laws cd) (exp : Nat) (b : Bytes) (s : Image σ) (r : Bytes)
    (h : decode c cd exp b = some (s, r)) : s.entries.length + 8 * r.length ≤ 8 * b.length :=
  (decode_within c cd hl exp).bound h

example : decode documented u64Codec 37836 [2, 3, 9, 1, 0, 0x1a, 0xcc, 0x93, 0xff, 0xff, 0xff, 0xff, 0, 0, 0, 0] = none := by decide

end DS.Wire.Tuple
