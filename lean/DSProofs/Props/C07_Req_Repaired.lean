/-
C07 (REQ part), the statements that hold with the two repairs of the REQ code:
  * the const_iterator skips empty compactors (proposed_fixes/C07-req-empty-iterator.patch),
  * get_quantile rejects a NaN rank (proposed_fixes/C07-req-nan-rank.patch).
The source shapes are read from the headers under /repo by tools/trules/req.py, on every build, into
`DSGen.req_ITER_SKIPS_EMPTY` / `DSGen.req_NAN_RANK_REJECTED`; the executed model (`Sketch.iterateF`, `Sketch.getQuantileF`) follows
these flags.  `C07_Req.lean` keeps the statements about the shapes of the pinned upstream commit, where both flags are false
(`req_weight_conserved_full_false` is about that iterator, `Sketch.iterate`).  Quantification as in C07_Req.lean: every admissible tunable set, every section schedule, every history,
every coin supply, every live object.
-/
import DSProofs.Props.C07_Req
namespace DS.Req

variable {ρ : Type}

/-- the flags as read from the headers under /repo -/
def genFlags : Flags := { iterSkipsEmpty := DSGen.req_ITER_SKIPS_EMPTY, nanRankRejected := DSGen.req_NAN_RANK_REJECTED }

/-- the headers under /repo have the repaired shapes (on a tree without the repairs these two do not compile) -/
theorem req_iter_skips_empty_current : DSGen.req_ITER_SKIPS_EMPTY = true := by decide
theorem req_nan_rank_rejected_current : DSGen.req_NAN_RANK_REJECTED = true := by decide

/-- with the flag off, the flag-following iterator is `Sketch.iterate`, the iterator of the pinned upstream commit -/
theorem req_iterateF_pinned (fl : Flags) (hfl : fl.iterSkipsEmpty = false) (s : Sketch ρ) : s.iterateF fl = s.iterate :=
  iterateF_off fl hfl s

/-- weight_conserved, FULL statement, repaired iterator: for EVERY object of every history — the empty sketch included — iterating
`begin() … end()` reaches `end()` after exactly `num_retained` valid reads, yields the retained items level by level with weight
`2^lg_weight`, and the weights sum to n -/
theorem req_weight_conserved_repaired {T : Tun} (hT : TunOK T) (F : SecFns ρ) (ops : List Op) (coins : List Bool) (id : Nat) (s : Sketch ρ)
    (h : (run T F ops coins).1.get id = some s) (fl : Flags) (hfl : fl.iterSkipsEmpty = true) :
    ∃ l, s.iterateF fl = some l ∧ l.length = s.numRetained ∧ (l.map (·.2)).sum = s.n ∧
      l = s.compactors.flatMap (fun c => c.items.map (fun x => (x, 2 ^ c.lgWeight))) := by
  obtain ⟨_, h2⟩ := req_input_refines hT F ops coins id s h
  refine ⟨allPairs s.compactors, iterateF_spec fl s (fun h => absurd (hfl ▸ h) (by decide)) h2.ret, ?_, ?_, rfl⟩
  · rw [length_allPairs, h2.ret]
  · rw [sum_weights_allPairs, h2.tw]

/-- the same at `genFlags`, the flag values of the headers under /repo (the list itself is in `req_weight_conserved_repaired`) -/
theorem req_weight_conserved_current {T : Tun} (hT : TunOK T) (F : SecFns ρ) (ops : List Op) (coins : List Bool) (id : Nat) (s : Sketch ρ)
    (h : (run T F ops coins).1.get id = some s) :
    ∃ l, s.iterateF genFlags = some l ∧ l.length = s.numRetained ∧ (l.map (·.2)).sum = s.n :=
  let ⟨l, a, b, c, _⟩ := req_weight_conserved_repaired hT F ops coins id s h genFlags req_iter_skips_empty_current
  ⟨l, a, b, c⟩

/-- the witness of `req_weight_conserved_full_false`: on the empty sketch the repaired iteration is empty (begin() == end()) -/
example : (Sketch.new pinTun (⟨fun _ => (), id, fun _ => 0⟩ : SecFns Unit) 4 false false).iterateF ⟨true, true⟩ = some [] := by decide +kernel

example : ∃ s : Sketch Unit, (run pinTun ⟨fun _ => (), id, fun _ => 0⟩ ([.new 0 4 false] ++ (List.range 30).map (fun i => Op.upd 0 (Int.ofNat i))) [true]).1.get 0 = some s
    ∧ (s.iterateF ⟨true, true⟩).map List.length = some 28 := ⟨_, rfl, by decide +kernel⟩

/-- invalid_rejected (REQ's `get_quantile`), repaired range check: a query is answered only for a non-empty sketch and a rank with
`rank >= 0 && rank <= 1` — both IEEE comparisons are false for NaN, so a NaN rank is rejected (the model executes the check with
Lean `Float`; that `NaN >= 0` is false is IEEE semantics, exercised on the real code and on the model by every run, not a kernel
fact) — and every such query IS answered; an empty sketch rejects every query -/
theorem req_invalid_rank_rejected_repaired (fl : Flags) (hfl : fl.nanRankRejected = true) (s : Sketch ρ) (rank : Float) (inclusive : Bool) :
    (∀ q, s.getQuantileF fl rank inclusive = some q → s.n ≠ 0 ∧ rank ≥ 0.0 ∧ rank ≤ 1.0) ∧
    (s.n ≠ 0 → rank ≥ 0.0 → rank ≤ 1.0 → ∃ q, s.getQuantileF fl rank inclusive = some q) ∧
    (s.n = 0 → s.getQuantileF fl rank inclusive = none) := by
  refine ⟨?_, ?_, ?_⟩
  · intro q hq
    simp only [Sketch.getQuantileF, rankAccepted, hfl, if_true] at hq
    split at hq
    · exact absurd hq (by simp)
    · rename_i hn
      split at hq
      · exact absurd hq (by simp)
      · rename_i hr
        simp only [Bool.not_eq_true', Bool.not_eq_false, Bool.and_eq_true, decide_eq_true_eq] at hr
        exact ⟨hn, hr.1, hr.2⟩
  · intro hn h1 h2
    refine ⟨SortedView.getQuantile s.sortedView rank inclusive, ?_⟩
    simp only [Sketch.getQuantileF, rankAccepted, hfl, if_true, hn, if_false]
    have : (decide (rank ≥ 0.0) && decide (rank ≤ 1.0)) = true := by simp [h1, h2]
    simp [this]
  · intro hn; simp [Sketch.getQuantileF, hn]

/-- the first conjunct at `genFlags`, the flag values of the headers under /repo -/
theorem req_invalid_rank_rejected_current (s : Sketch ρ) (rank : Float) (inclusive : Bool) (q : Option Int)
    (h : s.getQuantileF genFlags rank inclusive = some q) : s.n ≠ 0 ∧ rank ≥ 0.0 ∧ rank ≤ 1.0 :=
  (req_invalid_rank_rejected_repaired genFlags req_nan_rank_rejected_current s rank inclusive).1 q h

end DS.Req
