/-
C11 (array-of-doubles compact sketch images) — truncated images are rejected, counts cannot outrun the input.
ONLY property theorems and their non-vacuity examples.
-/
import DSProofs.Lemmas.WireAod
namespace DS.Wire.Aod
open DS.Wire

theorem decode_PS (c : Consts) (exp : Nat) : PS (decode c exp) := (decode_within c exp).ps

theorem prefix_rejected (c : Consts) (hc : c.ok = true) (s : Image) (hwf : WF s) (exp : Nat)
    (hseed : s.entries = [] ∨ s.seedHash = exp) (n : Nat) (hn : n < (encode c s).length) :
    decode c exp ((encode c s).take n) = none :=
  prefix_rejected' _ (decode_PS c exp) _ s (decode_encode' (COk.of_ok hc) s hwf exp hseed) n hn

theorem decode_bounded (c : Consts) (exp : Nat) (b : Bytes) (s : Image) (r : Bytes) (h : decode c exp b = some (s, r)) :
    s.entries.length + 8 * r.length ≤ 8 * b.length :=
  (decode_within c exp).bound h

example : decode documented 37836 [1, 1, 9, 3, 0x18, 2, 0xcc, 0x93, 0, 0, 0, 0, 0, 0, 0, 0, 0xff, 0xff, 0xff, 0xff, 0, 0, 0, 0] = none := by decide

end DS.Wire.Aod
