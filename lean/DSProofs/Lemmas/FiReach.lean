/- Invariants of the L1 frequent-items model (`Brk`, `Pos`), the reachability relation `Reach` the C12 theorems quantify over
   (over `merge` / `roundtrip`, the pinned source shape; `ReachF` in FiRepaired is the same over `mergeF` / `roundtripF`, `ReachP` in
   FiEps drops the true weights and constrains the purge amounts), and what `get_frequent_items` returns. -/
import DSProofs.Lemmas.FiMap
namespace DS.Fi
set_option linter.unusedSectionVars false

variable {ι : Type} [DecidableEq ι]

theorem update_zero (T : Tun) (s : St ι) (x : ι) (a : Nat) : update T s x 0 a = s := rfl

theorem purges_iff (T : Tun) (s : St ι) (x : ι) (w : Nat) :
    purges T s x w = true ↔
      w ≠ 0 ∧ x ∉ keys s.map ∧ capacity T s.lgCur < s.map.length + 1 ∧ s.lgMax ≤ s.lgCur := by
  simp only [purges, Bool.and_eq_true, bne_iff_ne, Bool.not_eq_true', decide_eq_true_eq, decide_eq_false_iff_not,
    hasKey_false_iff, Nat.not_lt, and_assoc]
  exact and_congr_right fun _ => and_congr_right fun hx => by rw [length_adjust, if_neg hx]

theorem update_pos (T : Tun) (s : St ι) (x : ι) {w : Nat} (hw : w ≠ 0) (a : Nat) :
    update T s x w a =
      if purges T s x w then
        { s with map := purgeMap (adjust s.map x w) a, offset := s.offset + a, total := s.total + w }
      else
        { s with map := adjust s.map x w, total := s.total + w,
                 lgCur := if x ∈ keys s.map ∨ s.map.length < capacity T s.lgCur then s.lgCur else s.lgCur + 1 } := by
  have hp := purges_iff T s x w
  by_cases hk : x ∈ keys s.map
  · simp [update, hw, (hasKey_iff _ _).mpr hk, show ¬ purges T s x w = true from fun h => (hp.mp h).2.1 hk, hk]
  · have hk' := (hasKey_false_iff _ _).mpr hk
    have hlen : (adjust s.map x w).length = s.map.length + 1 := by rw [length_adjust, if_neg hk]
    by_cases hc : capacity T s.lgCur < s.map.length + 1
    · by_cases hl : s.lgCur < s.lgMax
      · have : ¬ purges T s x w = true := fun h => Nat.not_lt.mpr (hp.mp h).2.2.2 hl
        simp [update, hw, hk', hlen, hc, hl, this, hk, Nat.not_lt.mpr (Nat.le_of_lt_succ hc)]
      · have : purges T s x w = true := hp.mpr ⟨hw, hk, hc, Nat.le_of_not_lt hl⟩
        simp [update, hw, hk', hlen, hc, hl, this]
    · have : ¬ purges T s x w = true := fun h => hc (hp.mp h).2.2.1
      simp [update, hw, hk', hlen, hc, this, Nat.lt_of_succ_le (Nat.le_of_not_lt hc)]

theorem total_update (T : Tun) (s : St ι) (x : ι) (w a : Nat) : (update T s x w a).total = s.total + w := by
  by_cases hw : w = 0
  · subst hw; rfl
  · rw [update_pos T s x hw]; split <;> rfl

theorem lgMax_update (T : Tun) (s : St ι) (x : ι) (w a : Nat) : (update T s x w a).lgMax = s.lgMax := by
  by_cases hw : w = 0
  · subst hw; rfl
  · rw [update_pos T s x hw]; split <;> rfl

@[simp] theorem entPairs_nil : entPairs ([] : List (Ent ι)) = [] := rfl
@[simp] theorem entPairs_cons (e : Ent ι) (t : List (Ent ι)) : entPairs (e :: t) = (e.1, e.2.1) :: entPairs t := rfl

theorem total_replay (T : Tun) (ents : List (Ent ι)) (s : St ι) :
    (replay T s ents).total = s.total + sumVals (entPairs ents) := by
  induction ents generalizing s with
  | nil => rfl
  | cons e t ih => simp only [replay, entPairs_cons, sumVals_cons, ih, total_update, Nat.add_assoc]

theorem lgMax_replay (T : Tun) (ents : List (Ent ι)) (s : St ι) : (replay T s ents).lgMax = s.lgMax := by
  induction ents generalizing s with
  | nil => rfl
  | cons e t ih => simp only [replay, ih, lgMax_update]

/-- keys distinct, and every item's true weight `f x` lies between its counter and counter + offset -/
def Brk (s : St ι) (f : ι → Nat) : Prop :=
  (keys s.map).Nodup ∧ ∀ y, cnt s.map y ≤ f y ∧ f y ≤ cnt s.map y + s.offset

theorem brk_init (T : Tun) (lgMax lgStart : Nat) : Brk (init T lgMax lgStart : St ι) (fun _ => 0) :=
  ⟨.nil, fun _ => ⟨Nat.le_refl _, Nat.le_refl _⟩⟩

theorem Brk.congr {s : St ι} {f g : ι → Nat} (h : Brk s f) (hfg : ∀ y, f y = g y) : Brk s g :=
  ⟨h.1, fun y => hfg y ▸ h.2 y⟩

theorem brk_update (T : Tun) (s : St ι) (f : ι → Nat) (h : Brk s f) (x : ι) (w a : Nat) :
    Brk (update T s x w a) (fun y => f y + (if x = y then w else 0)) := by
  obtain ⟨hn, hb⟩ := h
  by_cases hw : w = 0
  · subst hw; rw [update_zero]; exact ⟨hn, by simpa using hb⟩
  have hadj := cnt_adjust s.map hn x w
  have hnadj := nodup_adjust s.map hn x w
  rw [update_pos T s x hw]
  split
  · refine ⟨nodup_purgeMap _ hnadj a, fun y => ?_⟩
    have := hb y
    simp only [cnt_purgeMap _ hnadj, hadj]
    exact ⟨Nat.le_trans (Nat.sub_le _ _) (Nat.add_le_add_right this.1 _), by omega⟩
  · refine ⟨hnadj, fun y => ?_⟩
    simp only [hadj, Nat.add_right_comm _ _ s.offset]
    exact ⟨Nat.add_le_add_right (hb y).1 _, Nat.add_le_add_right (hb y).2 _⟩

theorem brk_replay (T : Tun) (ents : List (Ent ι)) (s : St ι) (f : ι → Nat) (h : Brk s f) :
    Brk (replay T s ents) (fun y => f y + cnt (entPairs ents) y) := by
  induction ents generalizing s f with
  | nil => exact h
  | cons e t ih =>
    exact (ih _ _ (brk_update T s f h e.1 e.2.1 e.2.2)).congr fun y => by simp only [entPairs_cons, cnt_cons]; omega

theorem brk_merge_replay (T : Tun) {s o : St ι} {f g : ι → Nat} (hs : Brk s f) (ho : Brk o g) {ents : List (Ent ι)}
    (hp : (entPairs ents).Perm o.map) (t : Nat) :
    Brk { replay T s ents with offset := (replay T s ents).offset + o.offset, total := t } (fun y => f y + g y) := by
  have h1 := brk_replay T ents s f hs
  refine ⟨h1.1, fun y => ?_⟩
  have h2 := h1.2 y
  have h3 := ho.2 y
  dsimp only at h2 ⊢
  rw [cnt_perm hp y] at h2
  omega

theorem getters_order (s : St ι) (x : ι) :
    lowerBound s x ≤ estimate s x ∧ estimate s x ≤ upperBound s x ∧
    upperBound s x - lowerBound s x = s.offset ∧ (lowerBound s x = 0 → estimate s x = 0) := by
  unfold lowerBound upperBound estimate
  refine ⟨?_, ?_, Nat.add_sub_cancel_left .., fun h0 => if_neg (by omega)⟩ <;> split <;> omega

/-- a sketch without active items that nevertheless carries weight or error (every counter was purged) -/
def FullyPurged (s : St ι) : Prop := s.map = [] ∧ (s.total ≠ 0 ∨ s.offset ≠ 0)

theorem zero_of_not_fullyPurged {s : St ι} (hnd : ¬ FullyPurged s) (he : s.map = []) : s.total = 0 ∧ s.offset = 0 :=
  ⟨Decidable.by_contra fun h => hnd ⟨he, .inl h⟩, Decidable.by_contra fun h => hnd ⟨he, .inr h⟩⟩

theorem brk_merge (T : Tun) (s o : St ι) (f g : ι → Nat) (hs : Brk s f) (ho : Brk o g)
    (ents : List (Ent ι)) (hp : (entPairs ents).Perm o.map) (hnd : ¬ FullyPurged o) :
    Brk (merge T s o ents) (fun y => f y + g y) := by
  simp only [merge, List.isEmpty_iff]
  split
  · next he =>
    -- an operand without counters and without offset has seen no weight at all
    have h2 := ho.2
    rw [he, (zero_of_not_fullyPurged hnd he).2] at h2
    exact hs.congr fun y => by have := h2 y; simp at this; omega
  · exact brk_merge_replay T hs ho hp _

theorem total_merge (T : Tun) (s o : St ι) (ents : List (Ent ι)) (hnd : ¬ FullyPurged o) :
    (merge T s o ents).total = s.total + o.total := by
  simp only [merge, List.isEmpty_iff]
  split
  · next he => rw [(zero_of_not_fullyPurged hnd he).1]; rfl
  · rfl

theorem roundtrip_eq (T : Tun) (s : St ι) (hnd : ¬ FullyPurged s) :
    (roundtrip T s).map = s.map ∧ (roundtrip T s).offset = s.offset ∧ (roundtrip T s).total = s.total := by
  simp only [roundtrip, List.isEmpty_iff]
  split
  · next he => have := zero_of_not_fullyPurged hnd he; simp [he, this]
  · exact ⟨rfl, rfl, rfl⟩

/-! `Reach T strict s f N`: `s` is the state of a sketch whose history (updates, merges of other reachable sketches with any replay
order and any purge amounts, serialisation round trips) has true per-item weights `f` and total weight `N`.  With `strict = true`
the two operations that the pinned source shape (`is_empty() = (num_active == 0)`) gets wrong on a fully purged sketch (merge of
such an operand, round trip of such a sketch) are excluded.  `reach_replay` and `reach_pos` hold for either flag; every
other theorem, and every `…_full` statement refuted in Props/C12.lean, takes `strict = true`; `strict = false` is instantiated
nowhere. -/
inductive Reach (T : Tun) (strict : Bool) : St ι → (ι → Nat) → Nat → Prop
  | new (lgMax lgStart : Nat) (h : lgStart ≤ lgMax) : Reach T strict (init T lgMax lgStart) (fun _ => 0) 0
  | upd {s f N} (x : ι) (w a : Nat) (h : Reach T strict s f N) :
      Reach T strict (update T s x w a) (fun y => f y + (if x = y then w else 0)) (N + w)
  | merge {s f N o g M} (ents : List (Ent ι)) (hs : Reach T strict s f N) (ho : Reach T strict o g M)
      (hp : (entPairs ents).Perm o.map) (hnd : strict = true → ¬ FullyPurged o) :
      Reach T strict (merge T s o ents) (fun y => f y + g y) (N + M)
  | roundtrip {s f N} (h : Reach T strict s f N) (hnd : strict = true → ¬ FullyPurged s) :
      Reach T strict (roundtrip T s) f N
  | congr {s f g N} (h : Reach T strict s f N) (hfg : ∀ y, f y = g y) : Reach T strict s g N

theorem reach_inv (T : Tun) {s : St ι} {f : ι → Nat} {N : Nat} (h : Reach T true s f N) : Brk s f ∧ s.total = N := by
  induction h with
  | new lgMax lgStart _ => exact ⟨brk_init T lgMax lgStart, rfl⟩
  | upd x w a _ ih => exact ⟨brk_update T _ _ ih.1 x w a, by rw [total_update, ih.2]⟩
  | merge ents _ _ hp hnd ih1 ih2 =>
    exact ⟨brk_merge T _ _ _ _ ih1.1 ih2.1 ents hp (hnd rfl), by rw [total_merge T _ _ ents (hnd rfl), ih1.2, ih2.2]⟩
  | roundtrip _ hnd ih =>
    obtain ⟨hm, ho, ht⟩ := roundtrip_eq T _ (hnd rfl)
    exact ⟨by unfold Brk; rw [hm, ho]; exact ih.1, by rw [ht, ih.2]⟩
  | congr _ hfg ih => exact ⟨ih.1.congr hfg, ih.2⟩

theorem reach_replay (T : Tun) (b : Bool) (ents : List (Ent ι)) {s : St ι} {f : ι → Nat} {N : Nat}
    (h : Reach T b s f N) :
    Reach T b (replay T s ents) (fun y => f y + cnt (entPairs ents) y) (N + sumVals (entPairs ents)) := by
  induction ents generalizing s f N with
  | nil => exact h
  | cons e t ih =>
    rw [entPairs_cons, sumVals_cons, ← Nat.add_assoc]
    exact (ih (Reach.upd e.1 e.2.1 e.2.2 h)).congr fun y => by simp only [cnt_cons]; omega

/-- no counter in the map is 0 (a purge removes what it brings to 0): why a tracked item has lower bound > 0 (`fi_frequent_rows`) -/
def Pos (m : Map ι) : Prop := ∀ p ∈ m, 0 < p.2

theorem pos_bump (m : Map ι) (h : Pos m) (x : ι) (w : Nat) : Pos (bump m x w) := by
  induction m with
  | nil => exact h
  | cons q t ih =>
    have ⟨hq, ht⟩ := List.forall_mem_cons.mp h
    refine List.forall_mem_cons.mpr ⟨?_, ih ht⟩
    split <;> simp only <;> omega

theorem pos_adjust (m : Map ι) (h : Pos m) (x : ι) (w : Nat) (hw : w ≠ 0) : Pos (adjust m x w) := by
  unfold adjust
  split
  · exact pos_bump m h x w
  · exact List.forall_mem_append.mpr ⟨h, List.forall_mem_singleton.mpr (Nat.pos_of_ne_zero hw)⟩

theorem pos_purgeMap (m : Map ι) (a : Nat) : Pos (purgeMap m a) := by
  intro p hp
  rw [purgeMap_eq] at hp
  obtain ⟨q, hq, rfl⟩ := List.mem_map.1 hp
  exact Nat.sub_pos_of_lt (of_decide_eq_true (List.mem_filter.1 hq).2)

theorem pos_update (T : Tun) (s : St ι) (h : Pos s.map) (x : ι) (w a : Nat) : Pos (update T s x w a).map := by
  by_cases hw : w = 0
  · subst hw; exact h
  · rw [update_pos T s x hw]
    split
    · exact pos_purgeMap _ a
    · exact pos_adjust s.map h x w hw

theorem pos_replay (T : Tun) (ents : List (Ent ι)) (s : St ι) (h : Pos s.map) : Pos (replay T s ents).map := by
  induction ents generalizing s with
  | nil => exact h
  | cons e t ih => exact ih _ (pos_update T s h e.1 e.2.1 e.2.2)

theorem reach_pos (T : Tun) {b : Bool} {s : St ι} {f : ι → Nat} {N : Nat} (h : Reach T b s f N) : Pos s.map := by
  induction h with
  | new lgMax lgStart _ => exact fun _ hp => nomatch hp
  | upd x w a _ ih => exact pos_update T _ ih x w a
  | merge ents _ _ _ _ ih1 _ =>
    unfold merge
    split
    · exact ih1
    · exact pos_replay T ents _ ih1
  | roundtrip _ _ ih =>
    unfold roundtrip
    split
    · exact fun _ hp => nomatch hp
    · exact ih
  | congr _ _ ih => exact ih

theorem mem_insertRow (r x : Row ι) (l : List (Row ι)) : x ∈ insertRow r l ↔ x = r ∨ x ∈ l := by
  induction l with
  | nil => simp [insertRow]
  | cons h t ih =>
    simp only [insertRow]
    split
    · simp
    · simp only [List.mem_cons, ih, or_left_comm]

theorem mem_sortRows (x : Row ι) (l : List (Row ι)) : x ∈ sortRows l ↔ x ∈ l := by
  induction l with
  | nil => rfl
  | cons h t ih => rw [sortRows, List.foldr_cons, mem_insertRow, ← sortRows, ih, List.mem_cons]

theorem sorted_insertRow (r : Row ι) (l : List (Row ι)) (h : l.Pairwise (fun a b => b.est ≤ a.est)) :
    (insertRow r l).Pairwise (fun a b => b.est ≤ a.est) := by
  induction l with
  | nil => simp [insertRow]
  | cons y t ih =>
    have ⟨hy, ht⟩ := List.pairwise_cons.mp h
    simp only [insertRow]
    split
    · next hlt =>
      exact List.pairwise_cons.mpr
        ⟨List.forall_mem_cons.mpr ⟨Nat.le_of_lt hlt, fun z hz => Nat.le_trans (hy z hz) (Nat.le_of_lt hlt)⟩, h⟩
    · refine List.pairwise_cons.mpr ⟨fun z hz => ?_, ih ht⟩
      rcases (mem_insertRow r z t).mp hz with rfl | hz
      · omega
      · exact hy z hz

theorem sorted_sortRows (l : List (Row ι)) : (sortRows l).Pairwise (fun a b => b.est ≤ a.est) := by
  induction l with
  | nil => exact .nil
  | cons h t ih => exact sorted_insertRow h _ ih

theorem mem_frequentItems (s : St ι) (et : ErrType) (thr : Nat) (r : Row ι) :
    r ∈ frequentItems s et thr ↔ ∃ p ∈ s.map, selects s et thr p = true ∧ r = rowOf s p := by
  simp only [frequentItems, mem_sortRows, List.mem_map, List.mem_filter, and_assoc, eq_comm]

end DS.Fi
