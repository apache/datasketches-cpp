/- L2: what writing the table does to its abstraction (the key-sorted entries), and the refinement of every
   operation of the update sketch on states. -/
import DSProofs.Lemmas.ThetaTable
namespace DS.Theta.L2
open DS.Theta
variable {σ : Type}

def absE (slots : Slots σ) : List (Nat × σ) := sortKV (entries slots)

theorem absE_spec (bits lg : Nat) (slots : Slots σ) (h : PInv bits lg slots) :
    (keys (absE slots)).Pairwise (· < ·) ∧ (∀ x, x ∈ absE slots ↔ x ∈ entries slots) :=
  ⟨sorted_sortKV _ (keys_entries_nodup slots h.distinct), fun x => mem_sortKV x _⟩

theorem write_abs (bits lg : Nat) (slots : Slots σ) (h : PInv bits lg slots) (idx k : Nat) (o : Option (Nat × σ))
    (hpath : OnPath bits lg slots k idx) (hs : slots[idx]? = some o) (ho : ∀ e, o = some e → e.1 = k)
    (honly : ∀ (i : Nat) (v2 : σ), slots[i]? = some (some (k, v2)) → i = idx) (f : Option σ → σ) :
    PInv bits lg (slots.set idx (some (k, f (lookup k (absE slots))))) ∧
    absE (slots.set idx (some (k, f (lookup k (absE slots))))) = upsert k f (absE slots) := by
  have hP' := pinv_set bits lg slots h idx k (f (lookup k (absE slots))) o hpath hs ho honly
  have s1 := absE_spec bits lg _ hP'
  have s0 := absE_spec bits lg slots h
  refine ⟨hP', sorted_ext_kv _ _ s1.1 (upsert_spec _ _ _ s0.1).1 fun x => ?_⟩
  rw [s1.2, mem_entries_set slots idx _ x (List.getElem?_eq_some_iff.1 hs).1, mem_upsert k f _ s0.1, s0.2, mem_entries]
  -- the other slots are those holding another key
  obtain ⟨x1, x2⟩ := x
  refine or_congr_right ⟨fun ⟨i, hii, hi⟩ => ⟨⟨i, hi⟩, fun hk => hii ?_⟩, fun ⟨⟨i, hi⟩, hne⟩ => ⟨i, fun hii => hne ?_, hi⟩⟩
  · cases hk; exact honly i x2 hi
  · rw [hii] at hi; exact ho (x1, x2) (Option.some.inj (hs.symm.trans hi))

/-- A present key is found in its slot, an absent one at the first empty slot of its probe path (there is one: the table
is not full). -/
theorem find_write (bits lg : Nat) (slots : Slots σ) (h : PInv bits lg slots) (k : Nat)
    (hroom : (entries slots).length < 2^lg) (f : Option σ → σ) :
    ∃ idx, find bits lg slots k = some (idx, (lookup k (absE slots)).isSome) ∧
      slots[idx]? = some ((lookup k (absE slots)).map fun v => (k, v)) ∧
      PInv bits lg (slots.set idx (some (k, f (lookup k (absE slots))))) ∧
      absE (slots.set idx (some (k, f (lookup k (absE slots))))) = upsert k f (absE slots) := by
  have s0 := absE_spec bits lg slots h
  cases hl : lookup k (absE slots) with
  | none =>
    -- no slot holds `k`, and a table that is not full has an empty slot
    have habs : ∀ (i : Nat) (v : σ), slots[i]? ≠ some (some (k, v)) := fun i v hi =>
      (lookup_none_iff k _).1 hl (mem_keys_of_mem _ (k, v) ((s0.2 _).2 ((mem_entries slots (k, v)).2 ⟨i, hi⟩)))
    have hemp := exists_empty slots (by rw [h.len]; exact hroom)
    rw [h.len] at hemp
    obtain ⟨idx, hp, hjs⟩ := find_absent bits lg slots h k habs hemp
    have := write_abs bits lg slots h idx k none hp hjs (fun _ he => nomatch he) (fun i v2 hi => absurd hi (habs i v2)) f
    rw [hl] at this
    exact ⟨idx, find_onPath hp none hjs (fun _ he => nomatch he), hjs, this⟩
  | some v =>
    obtain ⟨idx, hidx⟩ := (mem_entries slots (k, v)).1 ((s0.2 _).1 (mem_of_lookup k v _ hl))
    have hp := h.path idx k v hidx
    have ho : ∀ e, some (k, v) = some e → e.1 = k := fun e he => Option.some.inj he ▸ rfl
    have := write_abs bits lg slots h idx k _ hp hidx ho (fun i v2 hi => h.distinct i idx k v2 v hi hidx) f
    rw [hl] at this
    exact ⟨idx, find_onPath hp _ hidx ho, hidx, this⟩

theorem length_absE (slots : Slots σ) : (absE slots).length = (entries slots).length := length_sortKV _

theorem placeAll_abs (bits lg : Nat) (l : List (Nat × σ)) : ∀ (slots : Slots σ), PInv bits lg slots →
    (keys l).Nodup → (∀ x, x ∈ l → x.1 ∉ keys (absE slots)) → (absE slots).length + l.length < 2^lg + 1 →
    ∃ s', placeAll bits lg slots l = some s' ∧ PInv bits lg s' ∧ (∀ x, x ∈ absE s' ↔ (x ∈ absE slots ∨ x ∈ l)) := by
  induction l with
  | nil => exact fun slots h _ _ _ => ⟨slots, rfl, h, fun x => (or_iff_left List.not_mem_nil).symm⟩
  | cons e r ih =>
    intro slots h hnd hnew hroom
    rw [keys_cons, List.nodup_cons] at hnd
    rw [List.length_cons] at hroom
    have hn := hnew e List.mem_cons_self
    have hl := (lookup_none_iff e.1 _).2 hn
    obtain ⟨idx, hfind, _, hP', habs'⟩ := find_write bits lg slots h e.1 (by rw [← length_absE]; omega) (fun _ => e.2)
    rw [hl] at hfind
    have s0 := absE_spec bits lg slots h
    have hmem : ∀ x, x ∈ absE (slots.set idx (some e)) ↔ (x = e ∨ x ∈ absE slots) := fun x => by
      rw [habs', mem_upsert _ _ _ s0.1]
      exact or_congr_right ⟨fun hx => hx.1, fun hx => ⟨hx, fun hk => hn (hk ▸ mem_keys_of_mem _ x hx)⟩⟩
    obtain ⟨s', hs', hP2, hmem2⟩ := ih _ hP' hnd.2
      (fun x hx hc => by
        obtain ⟨v, hv⟩ := exists_of_mem_keys _ _ hc
        rcases (hmem (x.1, v)).1 hv with h1 | h1
        · exact hnd.1 (congrArg Prod.fst h1 ▸ mem_keys_of_mem r x hx)
        · exact hnew x (List.mem_cons_of_mem _ hx) (mem_keys_of_mem _ (x.1, v) h1))
      (by rw [habs', length_upsert _ _ _ s0.1, if_neg hn]; omega)
    refine ⟨s', ?_, hP2, fun x => ?_⟩
    · rw [placeAll, place, hfind]; exact hs'
    · rw [hmem2, hmem, List.mem_cons, or_comm (a := x = e), or_assoc]

theorem absE_empty (lg : Nat) : absE (emptySlots lg : Slots σ) = [] := by
  unfold absE; rw [entries_empty]; rfl

theorem placeAll_empty_abs (bits lg : Nat) (l : List (Nat × σ)) (hnd : (keys l).Nodup) (hlen : l.length < 2^lg) :
    ∃ s', placeAll bits lg (emptySlots lg) l = some s' ∧ PInv bits lg s' ∧ absE s' = sortKV l := by
  obtain ⟨s', hs', hP, hmem⟩ := placeAll_abs bits lg l (emptySlots lg) (pinv_empty bits lg) hnd
    (by intro x _; rw [absE_empty]; exact List.not_mem_nil) (by rw [absE_empty]; simp; omega)
  refine ⟨s', hs', hP, sorted_ext_kv _ _ (absE_spec bits lg s' hP).1 (sorted_sortKV l hnd) fun x => ?_⟩
  rw [hmem, absE_empty, mem_sortKV]; simp

theorem abs_ents (t : TSt σ) : (abs t).ents = absE t.slots := rfl

theorem resizeT_refines (bits : Nat) (c : Cfg) (t : TSt σ) (h : PInv bits t.lg t.slots)
    (hroom : (entries t.slots).length < 2^(min (t.lg + c.lgRf) (c.lgNom + 1))) :
    ∃ t', resizeT bits c t = some t' ∧ abs t' = { abs t with lgCur := min (t.lg + c.lgRf) (c.lgNom + 1) } ∧
      PInv bits t'.lg t'.slots := by
  obtain ⟨s', hs', hP, habs⟩ := placeAll_empty_abs bits (min (t.lg + c.lgRf) (c.lgNom + 1)) (entries t.slots)
    (keys_entries_nodup t.slots h.distinct) hroom
  unfold resizeT
  dsimp only
  rw [hs']
  exact ⟨_, rfl, by unfold abs; rw [← absE, habs], hP⟩

theorem rebuildT_refines (bits : Nat) (c : Cfg) (t : TSt σ) (h : PInv bits t.lg t.slots) (hk : c.lgNom < t.lg) :
    ∃ t', rebuildT bits c t = some t' ∧ abs t' = rebuild c (abs t) ∧ PInv bits t'.lg t'.slots := by
  have s0 := absE_spec bits t.lg t.slots h
  unfold absE at s0
  unfold rebuildT rebuild abs
  dsimp only
  cases hth : (keys (sortKV (entries t.slots)))[2^c.lgNom]? with
  | none => exact ⟨t, rfl, rfl, h⟩
  | some th =>
    have hsorted : (keys ((sortKV (entries t.slots)).take (2^c.lgNom))).Pairwise (· < ·) := by
      rw [keys_take]; exact s0.1.take
    obtain ⟨s', hs', hP, habs⟩ := placeAll_empty_abs bits t.lg _ (nodup_of_sorted hsorted)
      (Nat.lt_of_le_of_lt (List.length_take_le _ _) (Nat.pow_lt_pow_right (by omega) hk))
    dsimp only
    rw [hs']
    exact ⟨_, rfl, by rw [← absE, habs, sortKV_of_sorted _ hsorted], hP⟩

theorem afterInsertT_refines (bits : Nat) (c : Cfg) (t : TSt σ) (h : PInv bits t.lg t.slots)
    (hroom : (entries t.slots).length < 2^t.lg) :
    ∃ t', afterInsertT bits c t = some t' ∧ abs t' = afterInsert c (abs t) ∧ PInv bits t'.lg t'.slots := by
  unfold afterInsertT afterInsert
  rw [abs_ents, length_absE]
  show ∃ t', _ ∧ abs t' = (if (entries t.slots).length > capacity c t.lg then
    (if t.lg ≤ c.lgNom then _ else _) else _) ∧ _
  by_cases h1 : (entries t.slots).length > capacity c t.lg
  · rw [if_pos h1, if_pos h1]
    by_cases h2 : t.lg ≤ c.lgNom
    · rw [if_pos h2, if_pos h2]
      exact resizeT_refines bits c t h (Nat.lt_of_lt_of_le hroom (Nat.pow_le_pow_right (by omega) (by omega)))
    · rw [if_neg h2, if_neg h2]
      exact rebuildT_refines bits c t h (by omega)
  · rw [if_neg h1, if_neg h1]
    exact ⟨t, rfl, rfl, h⟩

theorem trimT_refines (bits : Nat) (c : Cfg) (t : TSt σ) (h : PInv bits t.lg t.slots)
    (hk : (entries t.slots).length > 2^c.lgNom → c.lgNom < t.lg) :
    ∃ t', trimT bits c t = some t' ∧ abs t' = trim c (abs t) ∧ PInv bits t'.lg t'.slots := by
  unfold trimT trim
  rw [abs_ents, length_absE]
  by_cases h1 : (entries t.slots).length > 2^c.lgNom
  · simp only [h1, if_true]
    exact rebuildT_refines bits c t h (hk h1)
  · simp only [h1, if_false]
    exact ⟨t, rfl, rfl, h⟩

theorem offerT_refines (bits : Nat) (c : Cfg) (t : TSt σ) (hash : Nat) (f : Option σ → σ) (h : PInv bits t.lg t.slots)
    (hroom : (entries t.slots).length + 1 < 2^t.lg) :
    ∃ t', offerT bits c t hash f = some t' ∧ abs t' = offer c (abs t) hash f ∧ PInv bits t'.lg t'.slots := by
  unfold offerT offer
  have hth : (abs t).theta = t.theta := rfl
  simp only [hth]
  by_cases hsc : hash = 0 ∨ t.theta ≤ hash
  · simp only [hsc, if_true]
    exact ⟨{ t with isEmpty := false }, rfl, rfl, h⟩
  · simp only [hsc, if_false]
    obtain ⟨idx, hfind, hslot, hP', habs'⟩ := find_write bits t.lg t.slots h hash (by omega) f
    have hup : abs (⟨t.theta, t.lg, t.slots.set idx (some (hash, f (lookup hash (absE t.slots)))), false⟩ : TSt σ) =
        ⟨t.theta, upsert hash f (absE t.slots), false, t.lg⟩ := by
      unfold abs; rw [← habs']; rfl
    cases hl : lookup hash (absE t.slots) with
    | some v =>
      rw [hl] at hfind hslot hP' hup
      have : lookup hash (abs t).ents = some v := hl
      simp only [hfind, hslot, this, Option.isSome_some, Option.map_some]
      exact ⟨_, rfl, hup, hP'⟩
    | none =>
      rw [hl] at hfind hP' hup
      have : lookup hash (abs t).ents = none := hl
      simp only [hfind, this, Option.isSome_none]
      obtain ⟨t', ht', habs2, hP2⟩ := afterInsertT_refines bits c
        (⟨t.theta, t.lg, t.slots.set idx (some (hash, f none)), false⟩ : TSt σ) hP' (by
        show (entries (t.slots.set idx (some (hash, f none)))).length < 2^t.lg
        rw [← length_absE, ← hl, habs', length_upsert _ _ _ (absE_spec bits t.lg t.slots h).1,
          if_neg ((lookup_none_iff hash _).1 hl), length_absE]; omega)
      exact ⟨t', ht', habs2.trans (congrArg _ hup), hP2⟩

end DS.Theta.L2
