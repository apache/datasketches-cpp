/- serialize -> deserialize on a state satisfying the invariant (non-gadget): an explicit formula. -/
import DSProofs.Lemmas.VarOptQuery
namespace DS.VarOpt
open DS

/-- `deserialize(serialize(sk))`: the unrepaired reader (`T.deserializeM0 = false`) leaves `m_` at 1 (`mStale`) exactly
    when the sketch is in estimation mode -/
theorem serde_formula (T : Tunables) (sk : Sk Rat) (ins L : List E) (hinv : Inv sk ins L) (hgad : sk.gadget = false)
    (hk : sk.k ≤ T.maxK) (hne : sk.isEmpty = false) :
    ∃ a, serdeRoundTrip T sk = some { sk with M := [], totalWtR := if sk.R.length > 0 then sk.totalWtR else 0,
                                              numMarksInH := 0, mStale := decide (sk.R.length > 0) && !T.deserializeM0, alloc := a } := by
  have hHmap : sk.H.map (fun e => ({ e with mark := sk.gadget && e.mark } : E)) = sk.H :=
    (List.map_congr_left fun e he => by have := hinv.marks.2 hgad e he; cases e; simp_all).trans (List.map_id _)
  have hHpos : ∀ e ∈ sk.H, 0 < e.wt := fun e he => hinv.pos e (hinv.perm.symm.subset (List.mem_append_left _ he))
  have hkpos := hinv.kpos
  have hc0 : (sk.k == 0 || decide (sk.k > T.maxK)) = false := by simp; omega
  have hwts : (sk.H.any (fun e => !(Num.lt (Num.zero : Rat) e.wt))) = false := by
    simp only [List.any_eq_false]
    intro e he
    simp [hHpos e he]
  have hlen := hinv.perm.length_eq
  rw [List.length_append] at hlen
  have hshape : (if sk.n ≤ sk.k then (sk.R.length == 0 && sk.n == sk.H.length)
      else (decide (sk.R.length > 0) && sk.H.length + sk.R.length == sk.k)) = true := by
    by_cases hR : sk.R = []
    · obtain ⟨hL, hhk, _⟩ := hinv.warm hR
      have hnh : sk.n = sk.H.length := by rw [hinv.n_eq, hlen, hL]; simp
      rw [if_pos (by omega)]; simp [hR, hnh]
    · have he := hinv.est hR
      have hrpos : 0 < sk.R.length := List.length_pos_of_ne_nil hR
      have hnk : ¬ sk.n ≤ sk.k := by
        rw [hinv.n_eq, hlen]
        have := he.cnt; have := he.rLen; omega
      rw [if_neg hnk]; simp [hrpos, he.cnt]
  have hwr : (decide (sk.R.length > 0) && !(Num.lt (Num.zero : Rat) sk.totalWtR)) = false := by
    by_cases hR : sk.R = []
    · simp [hR]
    · simp [hinv.toInv0.wtR_pos hR]
  unfold serdeRoundTrip
  rw [if_neg (by rw [hc0]; simp), if_neg (by rw [hne]; simp)]
  simp only []
  rw [if_neg (by rw [hshape]; simp), if_neg (by rw [hwr]; simp), if_neg (by rw [hwts]; simp)]
  rw [hHmap]
  refine ⟨if sk.n ≤ sk.k then
      leaveGap sk.k (getAdjustedSize sk.k (2 ^ startingSubMultiple (Nat.log2 (ceilPow2 sk.k)) sk.rf (Nat.log2 (ceilPow2 sk.H.length))))
    else sk.k + 1, ?_⟩
  simp [hgad]

theorem serde_inv (T : Tunables) (sk : Sk Rat) (ins L : List E) (hinv : Inv sk ins L) (hgad : sk.gadget = false)
    (hk : sk.k ≤ T.maxK) (hne : sk.isEmpty = false) (hok : sk.R = [] ∨ T.deserializeM0 = true) :
    ∃ sk2, serdeRoundTrip T sk = some sk2 ∧ Inv sk2 ins L ∧ sk2.gadget = false := by
  obtain ⟨a, hform⟩ := serde_formula T sk ins L hinv hgad hk hne
  -- `total_wt_r_` is 0 in warm-up, so the reader's `r > 0 ? total_wt_r : 0` restores it in both modes
  have hW : (if sk.R.length > 0 then sk.totalWtR else 0) = sk.totalWtR := by
    by_cases hR : sk.R = []
    · rw [hR, (hinv.warm hR).2.2]; rfl
    · rw [if_pos (List.length_pos_of_ne_nil hR)]
  rw [hW] at hform
  refine ⟨_, hform, ?_, hgad⟩
  have hmk : (0 : Nat) = countMarks sk.H := by
    unfold countMarks
    rw [List.filter_eq_nil_iff.mpr (fun e he => by simp [hinv.marks.2 hgad e he])]; rfl
  exact { kpos := hinv.kpos, mnil := rfl, fresh := by rcases hok with h | h <;> simp [h], n_eq := hinv.n_eq,
          perm := hinv.perm, pos := hinv.pos, marks := ⟨hmk, hinv.marks.2⟩, warm := hinv.warm,
          est := fun hR => have he := hinv.est hR
            ⟨he.cnt, he.heap, he.wtR, he.rItems, he.rLen, he.lLight, he.hHeavy⟩ }

end DS.VarOpt
