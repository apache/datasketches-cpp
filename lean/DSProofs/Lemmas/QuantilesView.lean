/- The sorted view of a classic quantiles sketch through the shared sorted-view lemmas: a permutation of the iterator's pairs,
ascending; the weight below a query point is `wSketch`. -/
import DSProofs.Lemmas.QuantilesIter
import DSProofs.Lemmas.SortedView
namespace DS.Quantiles

open DS.SortedView

variable {α : Type}

/-! This family's `SWO`, `Sorted`, `belowP` against `StrictWeak`, `SortedView.Sorted`, `isBelow` of the shared sorted-view lemmas
(the last pair agree by `rfl`). -/

theorem SWO.strictWeak {lt : α → α → Bool} (h : SWO lt) : StrictWeak lt where
  asymm a b hab := by
    cases hba : lt b a with
    | false => rfl
    | true => have := h.trans a b a hab hba; rw [h.irrefl] at this; exact absurd this (by simp)
  negTrans := h.ntrans

theorem sorted_iff {lt : α → α → Bool} {l : List α} : Sorted lt l ↔ SortedView.Sorted lt l := by
  simp only [Sorted, SortedView.Sorted, leOf, Bool.not_eq_true']

def belowP (lt : α → α → Bool) (x : α) (incl : Bool) : α → Bool := fun e => if incl then !lt x e else lt e x

theorem belowP_eq_isBelow (lt : α → α → Bool) (x : α) (incl : Bool) : belowP lt x incl = isBelow lt x incl := rfl

theorem addLevels_perm (lt : α → α → Bool) : ∀ (lv : List (List α)) (v : List (α × Nat)) (w : Nat),
    (addLevels lt v lv w).Perm (v ++ pairsLevels w lv) := by
  intro lv
  induction lv with
  | nil => intro v w; simp [addLevels, pairsLevels]
  | cons l r ih =>
    intro v w
    simp only [addLevels, pairsLevels]
    refine (ih _ (2 * w)).trans ?_
    rw [← List.append_assoc]
    refine List.Perm.append_right _ ?_
    by_cases hl : l.isEmpty = true
    · have : l = [] := List.isEmpty_iff.mp hl
      subst this; simp
    · simp only [hl, Bool.false_eq_true, if_false]
      exact add_perm lt v l w

theorem addLevels_sorted {lt : α → α → Bool} (hlt : SWO lt) : ∀ (lv : List (List α)) (v : List (α × Nat)) (w : Nat),
    SortedE lt v → (∀ l ∈ lv, Sorted lt l) → SortedE lt (addLevels lt v lv w) := by
  intro lv
  induction lv with
  | nil => intro v w hv _; exact hv
  | cons l r ih =>
    intro v w hv hl
    simp only [addLevels]
    refine ih _ (2 * w) ?_ (fun x hx => hl x (List.mem_cons_of_mem _ hx))
    by_cases he : l.isEmpty = true
    · simp only [he, if_true]; exact hv
    · simp only [he, Bool.false_eq_true, if_false]
      exact add_sorted hlt.strictWeak w hv (sorted_iff.mp (hl l List.mem_cons_self))

theorem rawView_perm (c : Cmp α) (s : Sketch α) : (s.rawView c).Perm (expectedIter s) := by
  unfold Sketch.rawView expectedIter
  refine (addLevels_perm c.lt s.levels _ 2).trans (List.Perm.append_right _ ?_)
  simpa using add_perm c.lt [] s.bb 1

theorem rawView_sorted {c : Cmp α} (hlt : SWO c.lt) {s : Sketch α} (hb : Sorted c.lt s.bb)
    (hl : ∀ l ∈ s.levels, Sorted c.lt l) : SortedE c.lt (s.rawView c) := by
  unfold Sketch.rawView
  exact addLevels_sorted hlt s.levels _ 2 (add_sorted hlt.strictWeak 1 List.Pairwise.nil (sorted_iff.mp hb)) hl

theorem wP_pairsLevels (p : α → Bool) (W : Nat) (lv : List (List α)) : wP p (pairsLevels W lv) = wLevels p W lv := by
  induction lv generalizing W with
  | nil => rfl
  | cons l r ih => rw [pairsLevels, wP_append, wP_map_const, ih, wLevels, List.countP_eq_length_filter]

theorem wP_expectedIter (p : α → Bool) (s : Sketch α) : wP p (expectedIter s) = wSketch p s := by
  rw [expectedIter, wP_append, wP_map_const, wP_pairsLevels, wSketch, Nat.one_mul, List.countP_eq_length_filter]

theorem total_eq (raw : List (α × Nat)) : SortedView.total raw = (raw.map (·.2)).sum := by
  rw [total_eq_sumW]
  induction raw with
  | nil => rfl
  | cons e t ih => simp only [sumW, ih, List.map_cons, List.sum_cons]

end DS.Quantiles
