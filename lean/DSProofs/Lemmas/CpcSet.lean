/- The sorted lists of the CPC model as sets: `insertS`, `erase`, `distinct`, `sortPairs`, `mergeS`. -/
import DSModel.Cpc.Compress
import DSProofs.Lemmas.ListAux
namespace DS.Cpc

theorem mem_insertS (x y : Nat) (l : List Nat) : y ∈ insertS x l ↔ y = x ∨ y ∈ l := by
  induction l with
  | nil => simp [insertS]
  | cons a t ih =>
    rw [insertS]
    by_cases h1 : x < a
    · rw [if_pos h1, List.mem_cons]
    · rw [if_neg h1]
      by_cases h2 : x = a
      · rw [if_pos h2, h2]; exact (or_iff_right_of_imp fun e => e ▸ List.mem_cons_self).symm
      · rw [if_neg h2, List.mem_cons, ih, List.mem_cons]; exact or_left_comm

theorem sorted_insertS (x : Nat) (l : List Nat) (hs : l.Pairwise (· < ·)) : (insertS x l).Pairwise (· < ·) := by
  induction l with
  | nil => simp [insertS]
  | cons a t ih =>
    rw [List.pairwise_cons] at hs
    simp only [insertS]
    split
    · rename_i hlt
      refine List.pairwise_cons.2 ⟨?_, List.pairwise_cons.2 hs⟩
      intro y hy
      rcases List.mem_cons.1 hy with rfl | hy
      · exact hlt
      · exact Nat.lt_trans hlt (hs.1 y hy)
    · split
      · exact List.pairwise_cons.2 hs
      · rename_i h1 h2
        refine List.pairwise_cons.2 ⟨?_, ih hs.2⟩
        intro y hy
        rcases (mem_insertS x y t).1 hy with rfl | hy
        · exact Nat.lt_of_le_of_ne (Nat.le_of_not_lt h1) (Ne.symm h2)
        · exact hs.1 y hy

theorem mem_erase_sorted (x y : Nat) (l : List Nat) (hs : l.Pairwise (· < ·)) : y ∈ l.erase x ↔ y ≠ x ∧ y ∈ l :=
  (nodup_of_sorted hs).mem_erase_iff

theorem mem_distinct (x : Nat) (l : List Nat) : x ∈ distinct l ↔ x ∈ l := by
  induction l with
  | nil => simp [distinct]
  | cons a t ih =>
    simp only [distinct]
    split
    · rename_i h
      rw [ih, List.mem_cons]
      constructor
      · exact Or.inr
      · rintro (rfl | h2)
        · exact h
        · exact h2
    · simp [ih]

theorem nodup_distinct (l : List Nat) : (distinct l).Nodup := by
  induction l with
  | nil => simp [distinct]
  | cons a t ih =>
    simp only [distinct]
    split
    · exact ih
    · rename_i h
      exact List.nodup_cons.2 ⟨fun hm => h ((mem_distinct a t).1 hm), ih⟩

theorem length_eq_distinct {l xs : List Nat} (hs : l.Pairwise (· < ·)) (h : ∀ a, a ∈ l ↔ a ∈ xs) :
    l.length = (distinct xs).length :=
  length_eq_of_nodup_mem (nodup_of_sorted hs) (nodup_distinct xs) (fun a => by rw [mem_distinct]; exact h a)

theorem distinct_length_congr (l₁ l₂ : List Nat) (h : ∀ a, a ∈ l₁ ↔ a ∈ l₂) : (distinct l₁).length = (distinct l₂).length :=
  length_eq_of_nodup_mem (nodup_distinct _) (nodup_distinct _) (fun a => by rw [mem_distinct, mem_distinct, h])

theorem distinct_append_singleton_not_mem (l : List Nat) (x : Nat) (h : x ∉ l) :
    (distinct (l ++ [x])).length = (distinct l).length + 1 := by
  induction l with
  | nil => simp [distinct]
  | cons b u ih =>
    have hxb : x ≠ b := fun e => h (by simp [e])
    have hxu : x ∉ u := fun e => h (by simp [e])
    have hbx : ¬ b = x := fun e => hxb e.symm
    simp only [List.cons_append, distinct, List.mem_append, List.mem_singleton]
    by_cases hbu : b ∈ u
    · simp [hbu, ih hxu]
    · simp [hbu, hbx, ih hxu]

theorem leNat_of_lt {a b : Nat} (h : a < b) : leNat a b = true := decide_eq_true (Nat.le_of_lt h)

theorem le_of_leNat {a b : Nat} (h : leNat a b = true) : a ≤ b := of_decide_eq_true h

theorem sortPairs_perm (l : List Nat) : (sortPairs l).Perm l := List.mergeSort_perm l leNat

theorem sortPairs_le (l : List Nat) : (sortPairs l).Pairwise (fun a b => leNat a b = true) :=
  List.pairwise_mergeSort (le := leNat)
    (by intro a b c h1 h2; have := le_of_leNat h1; have := le_of_leNat h2; exact decide_eq_true (by omega))
    (by intro a b; unfold leNat; rcases Nat.le_total a b with h | h <;> simp [h]) l

theorem sortPairs_of_sorted (l : List Nat) (hs : l.Pairwise (· < ·)) : sortPairs l = l :=
  List.mergeSort_of_pairwise (hs.imp leNat_of_lt)

theorem sortPairs_eq_of_perm (l t : List Nat) (hp : l.Perm t) (ht : t.Pairwise (· < ·)) : sortPairs l = t := by
  have ht' : t.Pairwise (fun a b => leNat a b = true) := ht.imp leNat_of_lt
  exact List.Perm.eq_of_pairwise (le := fun a b => leNat a b = true)
    (by intro a b _ _ hab hba; have := le_of_leNat hab; have := le_of_leNat hba; omega) (sortPairs_le l) ht' ((sortPairs_perm l).trans hp)

theorem sortPairs_sorted_of_nodup (l : List Nat) (hn : l.Nodup) : (sortPairs l).Pairwise (· < ·) := by
  have h1 := sortPairs_le l
  have h2 : (sortPairs l).Nodup := (sortPairs_perm l).nodup_iff.2 hn
  rw [List.nodup_iff_pairwise_ne] at h2
  exact List.Pairwise.imp₂ (fun a b hab hne => by have := le_of_leNat hab; omega) h1 h2

theorem mem_sortPairs (l : List Nat) (a : Nat) : a ∈ sortPairs l ↔ a ∈ l := (sortPairs_perm l).mem_iff

@[simp] theorem length_sortPairs (l : List Nat) : (sortPairs l).length = l.length := (sortPairs_perm l).length_eq

theorem mem_mergeS (xs ys : List Nat) (a : Nat) : a ∈ mergeS xs ys ↔ a ∈ xs ∨ a ∈ ys := by
  fun_induction mergeS xs ys with
  | case1 ys => simp
  | case2 xs h => simp
  | case3 x xs y ys hlt ih => rw [List.mem_cons, ih, List.mem_cons (b := x), or_assoc]
  | case4 x xs y ys hge ih => rw [List.mem_cons, ih, List.mem_cons (b := y)]; exact or_left_comm

theorem sorted_mergeS (xs ys : List Nat) (hx : xs.Pairwise (· < ·)) (hy : ys.Pairwise (· < ·))
    (hd : ∀ a, a ∈ xs → a ∈ ys → False) : (mergeS xs ys).Pairwise (· < ·) := by
  fun_induction mergeS xs ys with
  | case1 ys => exact hy
  | case2 xs h => exact hx
  | case3 x xs y ys hlt ih =>
    rw [List.pairwise_cons] at hx
    refine List.pairwise_cons.2 ⟨?_, ih hx.2 hy (fun a ha hb => hd a (List.mem_cons_of_mem _ ha) hb)⟩
    intro a ha
    rcases (mem_mergeS _ _ a).1 ha with h | h
    · exact hx.1 a h
    · rw [List.pairwise_cons] at hy
      rcases List.mem_cons.1 h with rfl | h
      · exact hlt
      · exact Nat.lt_trans hlt (hy.1 a h)
  | case4 x xs y ys hge ih =>
    rw [List.pairwise_cons] at hy
    have hyx : y < x := Nat.lt_of_le_of_ne (Nat.le_of_not_lt hge) fun e => hd x List.mem_cons_self (e ▸ List.mem_cons_self)
    refine List.pairwise_cons.2 ⟨?_, ih hx hy.2 (fun a ha hb => hd a ha (List.mem_cons_of_mem _ hb))⟩
    intro a ha
    rcases (mem_mergeS _ _ a).1 ha with h | h
    · rw [List.pairwise_cons] at hx
      rcases List.mem_cons.1 h with rfl | h
      · exact hyx
      · exact Nat.lt_trans hyx (hx.1 a h)
    · exact hy.1 a h

theorem mem_pairsOfWindow (w : List Nat) (rc : Nat) :
    rc ∈ pairsOfWindow w ↔ rc < 64 * w.length ∧ rc % 64 < 8 ∧ (w.getD (rc / 64) 0).testBit (rc % 64) = true := by
  unfold pairsOfWindow
  simp only [List.mem_filter, List.mem_range, Bool.and_eq_true, decide_eq_true_eq, getD_toArray]

theorem sorted_pairsOfWindow (w : List Nat) : (pairsOfWindow w).Pairwise (· < ·) :=
  List.Pairwise.filter _ List.pairwise_lt_range

end DS.Cpc
