/- The validated readers (`P.strict = true`): no existing block is outside the modelled domain, zero counts are refused. -/
import DSProofs.Lemmas.BloomParse
import DSProofs.Lemmas.BloomLocal
namespace DS.Bloom

theorem parseImage_strict_ne_outside (P : Params) (hs : P.strict = true) (hstd : P.preStd = 4) (b : Block) :
    parseImage P b ≠ .outside := by
  intro h
  obtain ⟨ha, hflag, hout⟩ := parseImage_outside h
  -- no EMPTY flag: four preamble longs, so the block has its 32 header bytes; and `num_longs` is not zero
  have hpre := ha.preFlag hs
  have hlen := ha.lenPre
  have hnl := (ha.counts hs).2
  rw [hflag, if_neg Bool.false_ne_true, hstd] at hpre
  rw [capOf_strict hs] at hout
  omega

theorem parseImage_strict_full (P : Params) (hs : P.strict = true) (b : Block)
    (cap nh seed nbs nl : Nat) (h : parseImage P b = .full cap nh seed nbs nl) : nh ≠ 0 ∧ nl ≠ 0 ∧ cap = nl * 64 ∧ 32 ≤ b.len := by
  obtain ⟨ha, -, hlen, rfl, -, rfl, -, rfl, -⟩ := parseImage_full_iff.mp h
  exact ⟨(ha.counts hs).1, (ha.counts hs).2, capOf_strict hs _, hlen⟩

theorem parseImage_strict_empty (P : Params) (hs : P.strict = true) (b : Block)
    (nb nh seed : Nat) (h : parseImage P b = .emptyImg nb nh seed) : nh ≠ 0 ∧ nb ≠ 0 := by
  obtain ⟨ha, -, rfl, rfl, -⟩ := parseImage_empty_iff.mp h
  have hnl := (ha.counts hs).2
  exact ⟨(ha.counts hs).1, by rw [capOf_strict hs]; omega⟩

theorem opWrap_strict (P : Params) (hs : P.strict = true) (hstd : P.preStd = 4) (w : World) (k : WrapKind) (m v : Nat) (b : Block)
    (hm : w.blocks m = some b) :
    (opWrap P w k m v).2 ≠ .oob ∧
    (∀ f, (opWrap P w k m v).2 = .ok → (opWrap P w k m v).1.filters v = some f →
        1 ≤ f.numHashes ∧ 0 < f.capBits ∧ (isMem f = true → 32 + f.capBits / 8 ≤ b.len)) := by
  have hres := opWrap_result P w k m v
  generalize opWrap P w k m v = r at hres ⊢
  have hnb8 : ∀ nl, nbytesOf P nl = nl * 8 := fun nl => by simp [nbytesOf, hs]
  cases hres with
  | thrw => exact ⟨by simp, fun f h => by cases h⟩
  | noBlock hm' => rw [hm] at hm'; cases hm'
  | outside b' _ hp => exact absurd hp (parseImage_strict_ne_outside P hs hstd b')
  | short b' cap nh seed nbs nl _ hp hst hl =>
    obtain ⟨-, -, hcap, hlen⟩ := parseImage_strict_full P hs b' cap nh seed nbs nl hp
    have := hst hs
    -- `cap / 8` is the `nl * 8` bytes the strict check found inside the block
    rw [hnb8, ← show nl * 64 / 8 = nl * 8 from Nat.mul_div_assoc nl (by decide), ← hcap] at this
    exact absurd (Nat.add_le_of_le_sub' hlen this) (Nat.not_le.mpr hl)
  | empty b' nb nh seed _ hp _ =>
    obtain ⟨hnh, hnb⟩ := parseImage_strict_empty P hs b' nb nh seed hp
    refine ⟨by simp, fun f _ hf => ?_⟩
    rw [setFilter_filters_same] at hf
    rw [← Option.some.inj hf]
    exact ⟨Nat.pos_of_ne_zero hnh, (roundUp64_pos nb hnb).1, fun h => by simp [isMem, mkOwned] at h⟩
  | deser b' cap nh seed nbs nl _ hp _ =>
    obtain ⟨hnh, -, -, -⟩ := parseImage_strict_full P hs b' cap nh seed nbs nl hp
    refine ⟨by simp, fun f _ hf => ?_⟩
    rw [setFilter_filters_same] at hf
    rw [← Option.some.inj hf]
    exact ⟨Nat.pos_of_ne_zero hnh, (cap_of_full hp).1, fun h => by simp [isMem, deserFilter] at h⟩
  | wrap b' cap nh seed nbs nl ro hm' hp _ hl =>
    obtain ⟨hnh, -, -, -⟩ := parseImage_strict_full P hs b' cap nh seed nbs nl hp
    rw [hm] at hm'
    rw [← Option.some.inj hm'] at hl
    refine ⟨by simp, fun f _ hf => ?_⟩
    rw [setFilter_filters_same] at hf
    rw [← Option.some.inj hf]
    exact ⟨Nat.pos_of_ne_zero hnh, (cap_of_full hp).1, fun _ => hl⟩

end DS.Bloom
