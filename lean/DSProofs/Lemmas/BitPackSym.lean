/-
What the pack and the unpack side of the symbolic evaluators of DSModel/Wire/BitPack.lean share: the bits of a shifted word
(`shBit`) and the regrouping layout (`regroupLayout`), of which both specification layouts are instances.
-/
import DSModel.Wire.BitPack
namespace DS.Wire.BitPack

def shBit (sh : Sh) (f : Nat → SBit) (p : Nat) : SBit :=
  match sh with
  | .none => f p
  | .shl k => if p < k then .zero else f (p - k)
  | .shr k => f (p + k)

theorem packSBit_eq (n vi : Nat) (sh : Sh) : packSBit n vi sh = shBit sh (vbit n vi) := by
  cases sh <;> rfl

theorem unpackSBit_eq (j : Nat) (st : UStmt) : unpackSBit j st = shBit st.sh (xbit j st.pre st.mask) := by
  funext p; unfold unpackSBit shBit; cases st.sh <;> rfl

theorem orBits_eq_zipWith (a b : List SBit) : orBits a b = List.zipWith SBit.or a b := by
  induction a generalizing b with
  | nil => rfl
  | cons x s ih =>
    cases b with
    | nil => rfl
    | cons y t => rw [orBits, List.zipWith_cons_cons, ih]

/-- `la` fields of `a` bits regrouped into `lb` fields of `b` bits, each held in a word of `wb` bits; `b (lb-1-j) + p` is
the position of the bit in the stream, counted from its end -/
def regroupLayout (a la b lb wb : Nat) : List (List SBit) :=
  (List.range lb).map fun j => (List.range wb).map fun p =>
    if p < b then SBit.src (la - 1 - (b * (lb - 1 - j) + p) / a) ((b * (lb - 1 - j) + p) % a) else SBit.zero

theorem word_lt {w i j b : Nat} (hb : b < w) (h : i < j) : w * i + b < w * j :=
  Nat.lt_of_lt_of_le (Nat.add_lt_add_left hb _) (Nat.mul_succ w i ▸ Nat.mul_le_mul_left w h)

theorem regroup_pos_lt {a la b lb j p : Nat} (hab : a * la = b * lb) (hj : j < lb) (hp : p < b) :
    b * (lb - 1 - j) + p < a * la :=
  hab ▸ word_lt hp (by omega)

theorem specUnpackLayout_eq_regroup (n : Nat) : specUnpackLayout n = regroupLayout 8 n n 8 64 := rfl

theorem specPackLayout_eq_regroup (n : Nat) : specPackLayout n = regroupLayout n 8 8 n 8 := by
  refine List.map_congr_left fun j _ => List.map_congr_left fun p hp => ?_
  rw [if_pos (List.mem_range.1 hp)]

end DS.Wire.BitPack
