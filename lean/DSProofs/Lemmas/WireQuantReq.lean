/- REQ image (for Props/C09_Req .. C11_Req). -/
import DSModel.Wire.Req
import DSProofs.Lemmas.WireQuant
namespace DS.Wire.Req
open Reader

/-- `docCfg` of Props/C09_Req satisfies them -/
def CfgOK (c : Cfg) : Prop :=
  c.bitEmpty = 2 ∧ c.bitHra = 3 ∧ c.bitRaw = 4 ∧ c.bitLz = 5 ∧
  c.family < 256 ∧ c.ver < 256 ∧ c.preEst < 256 ∧ c.preExact < 256 ∧ c.preambleSize = 8

instance (c : Cfg) : Decidable (CfgOK c) := by unfold CfgOK; infer_instance

theorem flags_rt (c : Cfg) (hc : CfgOK c) (e h r l : Bool) :
    bit (mkFlags c e h r l) c.bitEmpty = e ∧ bit (mkFlags c e h r l) c.bitHra = h ∧
    bit (mkFlags c e h r l) c.bitRaw = r ∧ bit (mkFlags c e h r l) c.bitLz = l ∧ mkFlags c e h r l < 256 := by
  obtain ⟨h0, h1, h2, h3, _⟩ := hc
  simp only [mkFlags, bit, h0, h1, h2, h3]
  cases e <;> cases h <;> cases r <;> cases l <;> decide

theorem length_header (c : Cfg) (s : Image) : (header c s).length = 8 := by simp [header]

theorem decCompactor_enc (sd : Serde) (hs : sd.Lawful) (x : Compactor) (hw : compactorWF sd x = true) (r : Bytes) :
    decCompactor sd (encCompactor sd x ++ r) = some (x, r) := by
  simp only [compactorWF, Bool.and_eq_true, decide_eq_true_eq] at hw
  obtain ⟨⟨⟨⟨⟨h1, h2⟩, h3⟩, h4⟩, h5⟩, h6⟩ := hw
  simp only [decCompactor, encCompactor, List.append_assoc]
  rw [bind_u64 _ h1, bind_u32 _ h2, bind_u8 _ h3, bind_u8 _ h4, bind_u16 0 (by decide), bind_guard (0 == 0) rfl, bind_u32 _ h5,
    bind_ok (repeatN_items sd hs x.items r h6)]
  rfl

theorem decCompactor_within (sd : Serde) (hs : sd.Lawful) : Within 1 0 (decCompactor sd) fun x => x.items.length :=
  Within_pass (PS_leNat 8) fun _ => Within_pass (PS_leNat 4) fun _ => Within_pass (PS_leNat 1) fun _ => Within_pass (PS_leNat 1) fun _ =>
  Within_pass (PS_leNat 2) fun _ => Post_guard fun _ => Within_pass (PS_leNat 4) fun _ =>
  Within_bind (Within_items_consuming hs.ps hs.progress _) fun items => Within_pure (Nat.le_add_left items.length 0)

theorem repeatN_compactors (sd : Serde) (hs : sd.Lawful) (cs : List Compactor) (r : Bytes)
    (h : ∀ x ∈ cs, compactorWF sd x = true) :
    repeatN (decCompactor sd) cs.length (encList (encCompactor sd) cs ++ r) = some (cs, r) :=
  repeatN_encList (decCompactor_enc sd hs) cs r h

theorem decEst_enc (sd : Serde) (hs : sd.Lawful) (numLevels : Nat) (est : Option (Nat × Item × Item)) (r : Bytes)
    (hsome : est.isSome = decide (1 < numLevels)) (hw : estWF sd est = true) :
    decEst sd numLevels (encEst sd est ++ r) = some (est, r) := by
  cases est with
  | none =>
    have : ¬ 1 < numLevels := by simpa using hsome
    simp [decEst, encEst, this, Reader.pure]
  | some p =>
    obtain ⟨n, mn, mx⟩ := p
    have h1 : 1 < numLevels := by simpa using hsome.symm
    simp only [estWF, Bool.and_eq_true, decide_eq_true_eq] at hw
    obtain ⟨⟨hn, hmn⟩, hmx⟩ := hw
    simp only [decEst, encEst, h1, if_true, List.append_assoc]
    rw [bind_u64 _ hn, bind_ok (hs.rt mn _ hmn), bind_ok (hs.rt mx _ hmx)]
    rfl

theorem PS_decEst (sd : Serde) (hs : sd.Lawful) (numLevels : Nat) : PS (decEst sd numLevels) :=
  PS_ite _ _ _ (PS_bind _ _ (PS_leNat 8) fun _ => PS_bind _ _ hs.ps fun _ => PS_bind _ _ hs.ps fun _ => PS_pure _) (PS_pure _)

theorem decodeBody_within (sd : Serde) (hs : sd.Lawful) (c : Cfg) (k : Nat) (hra raw lz : Bool) (nl nr : Nat) :
    Within 1 0 (decodeBody sd c k hra raw lz nl nr) Image.count :=
  Post_guard fun _ => Within_pass (PS_decEst sd hs nl) fun _ =>
  Post_ite _
    (Within_bind (Within_items_consuming hs.ps hs.progress _) fun items => Within_pure (Nat.le_add_left items.length 0))
    (Within_bind (Within_repeatN (decCompactor_within sd hs) _) fun _ => Post_guard fun _ =>
      Within_pure (Nat.le_refl _))

theorem decode_within (sd : Serde) (hs : sd.Lawful) (c : Cfg) : Within 1 0 (decode sd c) Image.count :=
  Within_pass (PS_leNat 1) fun _ => Within_pass (PS_leNat 1) fun _ => Within_pass (PS_leNat 1) fun _ => Within_pass (PS_leNat 1) fun _ =>
  Within_pass (PS_leNat 2) fun _ => Within_pass (PS_leNat 1) fun _ => Within_pass (PS_leNat 1) fun _ => Post_guard fun _ =>
  Post_ite _ (Within_pure (Nat.le_refl 0)) (decodeBody_within sd hs c _ _ _ _ _ _)

theorem length_encCompactors (sd : Serde) (cs : List Compactor) :
    (encList (encCompactor sd) cs).length = (cs.map (fun x => 20 + sizeItems sd x.items)).sum := by
  induction cs with
  | nil => rfl
  | cons x t ih =>
    simp +arith only [encList, List.length_append, ih, List.map_cons, List.sum_cons, encCompactor, length_w64, length_w32,
      length_w8, length_w16, sizeItems]

end DS.Wire.Req
