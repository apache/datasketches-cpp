/- C19, theta table: the side conditions on the tunables, and the specs of the mutators: `resize`, `rebuild`, `update`, `trim`,
   `reset` of the form `MutSpec`, and `insert_spec`, a `TripleS` whose precondition names the slot the probe has found. -/
import DSProofs.Lemmas.LifeThetaConsolidate
namespace DS.Life.Theta
open DS.Life

/-- side conditions on the tunables: the rebuild threshold is at least one half (so that `rebuild` is only called with
    more than `2^lg_nom` entries), and `MIN_LG_K ≥ 1` (so that a constructed table owns a block) -/
def Params.OK (P : Params) : Prop := 0 < P.rbdDen ∧ P.rbdDen ≤ 2 * P.rbdNum ∧ 1 ≤ P.minLgK

theorem capacity_ge_nominal {P : Params} (hP : P.OK) {lgCur lgNom : Nat} (hl : lgNom < lgCur) :
    2 ^ lgNom ≤ capacity P lgCur lgNom := by
  unfold capacity
  rw [if_neg (Nat.not_le_of_lt hl), Nat.le_div_iff_mul_le hP.1]
  have h2 : 2 * 2 ^ lgNom ≤ 2 ^ lgCur := by
    rw [Nat.mul_comm, ← Nat.pow_succ]
    exact Nat.pow_le_pow_right (Nat.succ_pos 1) hl
  calc 2 ^ lgNom * P.rbdDen ≤ 2 ^ lgNom * (2 * P.rbdNum) := Nat.mul_le_mul_left _ hP.2.1
    _ = P.rbdNum * (2 * 2 ^ lgNom) := by rw [Nat.mul_left_comm, Nat.mul_comm (2 ^ lgNom), Nat.mul_left_comm]
    _ ≤ P.rbdNum * 2 ^ lgCur := Nat.mul_le_mul_left _ h2

theorem startingSubMultiple_pos {lgTgt lgMin rf : Nat} (h : 1 ≤ lgMin) : 0 < startingSubMultiple lgTgt lgMin rf := by
  unfold startingSubMultiple
  split
  · exact h
  · split
    · exact Nat.lt_of_lt_of_le h (Nat.le_of_lt (Nat.lt_of_not_le ‹_›))
    · exact Nat.lt_of_lt_of_le h (Nat.le_add_left _ _)

/-- what every mutator of a table owning block `b` promises: the (possibly new) block `nb` satisfies the invariant
    and the block ids changed accordingly -/
def MutPost (P : Params) (n0 b : Nat) (ids : List Nat) (t' : Table) (h' : Heap) : Prop :=
  ∃ nb, t'.entries = some nb ∧ TableAt P h' nb t'.lgCur t'.num ∧
    ((nb = b ∧ h'.ids = ids) ∨ (n0 ≤ nb ∧ nb ≠ b ∧ h'.ids = (nb :: ids).filter (fun x => x != b)))

/-- the form of the mutators' specs: `m` is run by a table that owns a block `b`, with a footprint that holds `b` and every block
    allocated from `n0` on -/
def MutSpec (P : Params) (n0 : Nat) (t : Table) (ids : List Nat) (m : M Table) : Prop :=
  ∀ S b, t.entries = some b → S b = true → (∀ x, n0 ≤ x → S x = true) →
    TripleS n0 S (fun h => TableAt P h b t.lgCur t.num ∧ h.ids = ids) m (fun t' h' => MutPost P n0 b ids t' h')

theorem resize_spec (P : Params) (n0 : Nat) (t : Table) (ids : List Nat) : MutSpec P n0 t ids (resize P t) := by
  intro S b hb hSb hSn h hn ⟨ht, hid⟩
  unfold resize
  rw [hb]
  apply step_deref
  have hbne : b ≠ h.next := Nat.ne_of_lt ht.slots.lt
  refine vstep_newTable P (hSn _ hn) fun h2 htn hv2 hcells2 hid2 hnx2 => ?_
  have ht2 : TableAt P h2 b t.lgCur t.num := ht.of_views (hcells2 b _ hbne ht.slots.cells) (hnx2 ▸ Nat.lt_succ_of_lt ht.slots.lt)
    (fun j => (hv2 b j hbne).1) fun j _ => Or.inl (hv2 b j hbne).2
  -- the old slots are emptied one by one, their entries re-inserted into the new block
  refine vloop_cells (b := b) (N := fun b' _ => b' = h.next) (Post := fun _ w s => w = 0 ∧ s = .raw)
    (J := fun k h' => MoveInv P (wordAt h2 b) h' h.next (min (t.lgCur + t.rf) (t.lgNom + 1)) k) (Nat.zero_le _)
    (fun _ e => hbne e) (.init htn) (fun i h3 _ hi sb hw hs mi => ?_) fun h3 sb hp mi => ?_
  · have hc3 := sb.cells _ _ ht2.slots.cells
    refine vstep_ifKey hc3 hi ((ht2.slots.ok i hi).of_views hw hs) (fun v hk hv => ?_)
      fun hk hr => SafeF.pure ⟨.refl _ _, ⟨hk, hr⟩, mi.skip (hw ▸ hk)⟩
    apply vstep_migrate P mi ht2.path.distinct hc3 hi (Ne.symm hbne) hw (hw ▸ hk) hv hSb (hSn _ hn)
    intro h4 sb4 mi4 _ hs4
    apply SafeF.last
    apply vstep_writeWord 0 (sb4.cells _ _ hc3) hi hSb
    intro h5 sb5 hw5 hs5
    exact SafeF.pure ⟨sb4.trans sb5 (fun _ _ => id) fun _ _ => Or.inl, ⟨hw5, hs5.trans hs4⟩, mi4.other sb5 fun j x => hbne x.1.symm⟩
  · refine astep_dealloc (sb.cells _ _ ht2.slots.cells) (fun i hi => (hp i (Nat.zero_le i) hi).2) hSb fun h4 F => ?_
    have tbl : TableAt P h3 h.next _ t.num := ⟨mi.tbl.slots, mi.tbl.path, ht2.count.trans mi.tbl.count⟩
    exact SafeF.pure ⟨h.next, rfl, tbl.local (F.out _ (Ne.symm hbne)) (Nat.le_of_eq F.next.symm),
      Or.inr ⟨hn, Ne.symm hbne, by rw [F.ids, sb.ids, hid2, hid]⟩⟩

/-- `hnum`: the callers (`insert`, `trim`) only rebuild above the nominal size -/
theorem rebuild_spec (P : Params) (n0 : Nat) (t : Table) (ids : List Nat) (hnum : 2 ^ t.lgNom < t.num) :
    MutSpec P n0 t ids (rebuild P t) := by
  intro S b hb hSb hSn h hn ⟨ht, hid⟩
  unfold rebuild
  rw [hb]
  apply step_deref
  apply SafeF.bind_triple (consolidate_spec n0 S b (2 ^ t.lgCur) t.num ids hSb) hn
    ⟨ht.slots, ht.path.distinct, ht.count.symm, hid⟩
  intro _ h1 ⟨pk1, hid1⟩ hle1
  apply vstep_nthElement pk1 hSb
  intro h2 pk sbn
  apply vstep_readWord pk.cells (Nat.lt_of_lt_of_le hnum pk.le)
  have hn2 : n0 ≤ h2.next := sbn.next ▸ Nat.le_trans hn hle1
  have hbne : b ≠ h2.next := Nat.ne_of_lt (sbn.next ▸ Nat.lt_of_lt_of_le ht.slots.lt hle1)
  refine vstep_newTable P (hSn _ hn2) fun h4 htn hv4 hcells4 hid4 _ => ?_
  have hc4 := hcells4 b _ hbne pk.cells
  -- the entries below the new theta are re-inserted into the new block
  refine vloop_cells (b := b) (N := fun b' _ => b' = h2.next) (Post := fun _ _ s => s = .raw)
    (J := fun k h' => MoveInv P (wordAt h2 b) h' h2.next t.lgCur k) (Nat.zero_le _) (fun _ e => hbne e) (.init htn)
    (fun i h5 _ hi sb hw5 hs5 mi => ?_) fun h5 sb5 hp5 mi5 => ?_
  · have hin : i < t.num := Nat.lt_trans hi hnum
    have his : i < 2 ^ t.lgCur := Nat.lt_of_lt_of_le hin pk.le
    obtain ⟨hk, v, hv⟩ := pk.front i hin
    have hc5 := sb.cells _ _ hc4
    apply vstep_readWord hc5 his
    -- `vstep_migrate` is stated with a continuation after the `destroy` (in `resize` the body goes on with `writeWord`); here the
    -- body ends in it, so `pure` is appended and re-nested
    refine SafeF.last (m := _ >>= _) ?_
    simp only [M.bind_assoc]
    apply vstep_migrate P mi pk.dist hc5 his (Ne.symm hbne) (hw5.trans (hv4 b i hbne).1) hk
      ((hs5.trans (hv4 b i hbne).2).trans hv) hSb (hSn _ hn2)
    exact fun h6 sb6 mi6 _ hs6 => SafeF.pure ⟨sb6, hs6, mi6⟩
  · have hc5 := sb5.cells _ _ hc4
    have hv5 : ∀ j, 2 ^ t.lgNom ≤ j → stAt h5 b j = stAt h2 b j := fun j hj =>
      (sb5.st b j fun x => x.elim (fun y => Nat.not_lt_of_le hj y.2.2) hbne).trans (hv4 b j hbne).2
    -- the entries above the new theta are destroyed
    refine vloop_cells' (b := b) (Post := fun _ _ s => s = .raw) (Nat.le_of_lt hnum) (fun i h6 hi1 hin sb _ hs6 => ?_)
      fun h6 sb6 hp6 => ?_
    · obtain ⟨v, hv⟩ := (pk.front i hin).2
      exact destroy_cell (sb.cells _ _ hc5) (Nat.lt_of_lt_of_le hin pk.le) (by rw [hs6, hv5 i hi1, hv]; exact nofun) hSb
    · have hall : ∀ i, i < 2 ^ t.lgCur → stAt h6 b i = .raw := by
        intro i hi
        by_cases h1' : i < 2 ^ t.lgNom
        · rw [sb6.st b i fun x => Nat.not_le_of_lt h1' x.2.1]
          exact hp5 i (Nat.zero_le i) h1'
        · by_cases h2' : i < t.num
          · exact hp6 i (Nat.le_of_not_lt h1') h2'
          · rw [sb6.st b i fun x => h2' x.2.2, hv5 i (Nat.le_of_not_lt h1')]
            exact (pk.back i (Nat.le_of_not_lt h2') hi).2
      refine astep_dealloc (sb6.cells _ _ hc5) hall hSb fun h7 F => ?_
      have hcnt : cnt (fun i => wordAt h2 b i != 0) (2 ^ t.lgNom) = 2 ^ t.lgNom :=
        cnt_full fun p hp => by simp [(pk.front p (Nat.lt_trans hp hnum)).1]
      have tbl : TableAt P h6 h2.next t.lgCur (2 ^ t.lgNom) := (hcnt ▸ mi5.tbl).other sb6 fun j x => hbne x.1.symm
      exact SafeF.pure ⟨h2.next, rfl, tbl.local (F.out _ (Ne.symm hbne)) (Nat.le_of_eq F.next.symm),
        Or.inr ⟨hn2, Ne.symm hbne, by rw [F.ids, sb6.ids, sb5.ids, hid4, sbn.ids, hid1]⟩⟩

/-- `insert(it, entry)` into the empty slot returned by `find` -/
theorem insert_spec (P : Params) (hP : P.OK) (n0 : Nat) (S : Nat → Bool) (t : Table) (b : Nat) (hb : t.entries = some b)
    (hSb : S b = true) (hSn : ∀ x, n0 ≤ x → S x = true) (ids : List Nat) (idx key v : Nat) (hk : key ≠ 0)
    (hi : idx < 2 ^ t.lgCur) :
    TripleS n0 S (fun h => TableAt P h b t.lgCur t.num ∧ h.ids = ids ∧ wordAt h b idx = 0 ∧ PathTo P h b t.lgCur key idx)
      (insert P t idx key v) (fun t' h' => MutPost P n0 b ids t' h') := by
  intro h hn ⟨ht, hid, h0, hpath⟩
  unfold insert
  rw [hb]
  apply step_deref
  apply vstep_constructEntry key v ht.slots.cells hi ((ht.slots.ok idx hi).raw_of_eq h0) hSb
  intro h1 sb1 hw1 hs1
  have pre : TableAt P h1 b t.lgCur (t.num + 1) ∧ h1.ids = ids :=
    ⟨ht.insert sb1 (fun j x => x.2) hi h0 hk hpath hw1 hs1, sb1.ids.trans hid⟩
  have hn1 : n0 ≤ h1.next := sb1.next ▸ hn
  let t' : Table := { t with entries := some b, num := t.num + 1 }
  simp only
  by_cases hcap : t.num + 1 > capacity P t.lgCur t.lgNom
  · rw [if_pos hcap]
    by_cases hlg : t.lgCur ≤ t.lgNom
    · rw [if_pos hlg]
      exact resize_spec P n0 t' ids S b rfl hSb hSn h1 hn1 pre
    · rw [if_neg hlg]
      exact rebuild_spec P n0 t' ids (Nat.lt_of_le_of_lt (capacity_ge_nominal hP (Nat.lt_of_not_le hlg)) hcap) S b rfl hSb hSn h1 hn1 pre
  · rw [if_neg hcap]
    exact SafeF.pure ⟨b, rfl, pre.1, Or.inl ⟨rfl, pre.2⟩⟩

theorem update_spec (P : Params) (hP : P.OK) (n0 : Nat) (t : Table) (ids : List Nat) (hash v : Nat) (comb : Nat → Nat → Nat) :
    MutSpec P n0 t ids (update P t hash v comb) := by
  intro S b hb hSb hSn h hn ⟨ht, hid⟩
  unfold update
  simp only
  by_cases hscreen : hash ≥ t.theta ∨ hash = 0
  · rw [if_pos hscreen]
    exact SafeF.pure ⟨b, hb, ht, Or.inl ⟨rfl, hid⟩⟩
  · rw [if_neg hscreen, hb]
    have hk : hash ≠ 0 := fun e => hscreen (Or.inr e)
    apply step_deref
    apply vstep_find ht.slots.cells
    rintro ⟨i, found⟩ ⟨hlt, ⟨rfl, hw⟩ | ⟨rfl, h0, hpath⟩⟩
    · rw [if_pos rfl]
      -- policy update of the existing summary: a read and an assignment in place
      obtain ⟨v0, hv0⟩ := (ht.slots.ok i hlt).live_of_ne (hw ▸ hk)
      apply vstep_read ht.slots.cells hlt hv0
      apply vstep_assign _ ht.slots.cells hlt (hv0 ▸ nofun) hSb
      intro h2 sb2 hw2 hs2
      refine SafeF.pure ⟨b, rfl, ?_, Or.inl ⟨rfl, sb2.ids.trans hid⟩⟩
      refine ht.of_views (sb2.cells _ _ ht.slots.cells) (sb2.next ▸ ht.slots.lt) (fun j => ?_) fun j _ => ?_
      · by_cases hj : j = i
        · exact hj ▸ hw2
        · exact sb2.word b j fun x => hj x.2
      · by_cases hj : j = i
        · exact Or.inr ⟨⟨v0, hj ▸ hv0⟩, _, hj ▸ hs2⟩
        · exact Or.inl (sb2.st b j fun x => hj x.2)
    · rw [if_neg Bool.false_ne_true]
      exact insert_spec P hP n0 S { t with entries := some b, isEmpty := false } b rfl hSb hSn ids i hash v hk hlt h hn ⟨ht, hid, h0, hpath⟩

theorem trim_spec (P : Params) (n0 : Nat) (t : Table) (ids : List Nat) : MutSpec P n0 t ids (trim P t) := by
  intro S b hb hSb hSn h hn ⟨ht, hid⟩
  unfold trim
  by_cases hnum : t.num > 2 ^ t.lgNom
  · rw [if_pos hnum]
    exact rebuild_spec P n0 t ids hnum S b hb hSb hSn h hn ⟨ht, hid⟩
  · rw [if_neg hnum]
    exact SafeF.pure ⟨b, hb, ht, Or.inl ⟨rfl, hid⟩⟩

theorem reset_spec (P : Params) (n0 : Nat) (t : Table) (ids : List Nat) : MutSpec P n0 t ids (reset P t) := by
  intro S b hb hSb hSn h hn ⟨ht, hid⟩
  unfold reset
  rw [hb]
  apply step_deref
  refine vloop_cells' (b := b) (Post := fun _ w s => s = .raw ∧ w = 0) (Nat.zero_le _) (fun i h1 _ hi sb hw hs => ?_)
    fun h1 sb hp => ?_
  · have hc1 := sb.cells _ _ ht.slots.cells
    refine vstep_ifKey hc1 hi ((ht.slots.ok i hi).of_views hw hs) (fun v _ hv => ?_) fun hk hr => SafeF.pure ⟨.refl _ _, hr, hk⟩
    apply vstep_destroy hc1 hi (hv ▸ nofun) hSb
    intro h2 sb2 _ hs2
    apply SafeF.last
    apply vstep_writeWord 0 (sb2.cells _ _ hc1) hi hSb
    exact fun h3 sb3 hw3 hs3 => SafeF.pure ⟨sb2.trans sb3 (fun _ _ => id) fun _ _ => id, hs3.trans hs2, hw3⟩
  · have hc1 := sb.cells _ _ ht.slots.cells
    have hd1 : ∀ i, i < 2 ^ t.lgCur → stAt h1 b i = .raw ∧ wordAt h1 b i = 0 := fun i hi => hp i (Nat.zero_le i) hi
    have hlt1 : b < h1.next := sb.next ▸ ht.slots.lt
    simp only
    by_cases hst : startingSubMultiple (t.lgNom + 1) P.minLgK t.rf ≠ t.lgCur
    · rw [if_pos hst]
      refine astep_dealloc hc1 (fun i hi => (hd1 i hi).1) hSb fun h2 F => ?_
      have hn2 : n0 ≤ h2.next := F.next ▸ sb.next ▸ hn
      have hne : h2.next ≠ b := Nat.ne_of_gt (F.next ▸ hlt1)
      refine vstep_newTable P (hSn _ hn2) fun h4 htn _ _ hid4 _ => SafeF.pure ⟨h2.next, rfl, htn, Or.inr ⟨hn2, hne, ?_⟩⟩
      rw [hid4, F.ids, sb.ids, hid, List.filter_cons, if_pos (bne_iff_ne.mpr hne)]
    · rw [if_neg hst]
      exact SafeF.pure ⟨b, rfl, .empty P hc1 hlt1 hd1, Or.inl ⟨rfl, sb.ids.trans hid⟩⟩

end DS.Life.Theta
