/- Repaired model: reset, union, intersect and invert preserve `Good`. -/
import DSProofs.Lemmas.BloomGoodWrite
namespace DS.Bloom

variable {ι : Type} (P : Params) (hf : ι → Nat → Option (Nat × Nat))

variable [DecidableEq ι]

theorem good_reset (hP : P.Wire) (w : World) (p : PGhost ι) (hg : Good P hf w p) (v : Nat) :
    Good P hf (opReset P w v).1 (pstep hf p w (opReset P w v).1 (opReset P w v).2 (.reset v)) := by
  cases hv : w.filters v with
  | none => unfold pstep; simp only [opReset, hv]; exact hg
  | some f =>
    obtain ⟨i, hi⟩ := hg.tracked v f hv
    have hok := hg.view v f i hv hi
    by_cases hro : f.readOnly = true
    · unfold pstep; simp [opReset, hv, hi, hro]; exact hg
    · have hro' : f.readOnly = false := by simpa using hro
      unfold pstep; simp only [opReset, hv, hi, hro', Bool.false_eq_true, if_false, if_true]
      cases hkeep : (p.write w v f i).2 with
      | false =>
        obtain ⟨hgood, hS0, hM0⟩ := good_write_lost P hf w p hg v f i hv hi hkeep (setField (w.val f) (f.off P) f.capBits 0) 0 false (some 0)
        rw [destructive_nil_eq _ w _ hS0 hM0]; exact hgood
      | true =>
        apply good_write_kept P hf hP.layout hg hv hi hkeep (Kept.destr hv)
        case hxlow => intro hm j hj; rw [off_mem P hP.layout hm]; exact testBit_setField_out _ _ _ _ _ (Or.inl hj)
        case hM => exact ⟨Covers.nil, Hashed.nil⟩
        case hS => exact ⟨Covers.nil, Hashed.nil⟩
        case hex => intro _; exact (popCount_cleared _ _ _).symm
        case hcnt =>
          intro hm
          refine ⟨fun h => (by cases h), fun _ => ?_⟩
          rw [commitVal_count P hP.layout f hm hro', off_mem P hP.layout hm, popCount_cleared]

theorem good_setop (hP : P.Wire) (w : World) (p : PGhost ι) (hg : Good P hf w p) (op : SetOp) (v u : Nat) :
    Good P hf (opSet P Fix.fixed w op v u).1 (pstep hf p w (opSet P Fix.fixed w op v u).1 (opSet P Fix.fixed w op v u).2 (.setop op v u)) := by
  cases hv : w.filters v with
  | none => unfold pstep; simp only [opSet, hv]; exact hg
  | some f =>
  cases hu : w.filters u with
  | none => unfold pstep; simp only [opSet, hv, hu]; exact hg
  | some g' =>
  obtain ⟨i, hi⟩ := hg.tracked v f hv
  have hok := hg.viewOK hv hi
  have hw := hg.fwf v f hv
  rw [opSet_eq P Fix.fixed w op v u f g' hv hu]
  have hidle : Good P hf w (pstep hf p w w .thrw (.setop op v u)) := by unfold pstep; simp only [hv, hu, hi]; exact hg
  by_cases hro : (Fix.fixed.roSetopsRefused && f.readOnly) = true
  · rw [if_pos hro]; exact hidle
  rw [if_neg hro]
  have hro' : f.readOnly = false := by simpa [Fix.fixed] using hro
  by_cases hcc : op = .invert ∨ compatible f g' = true
  case neg => rw [if_neg hcc]; exact hidle
  rw [if_pos hcc]
  unfold pstep
  simp only [hv, hu, hi]
  generalize hxdef : setopVal P w op f g' = x
  have hbit : ∀ j, j < f.capBits → x.testBit (f.off P + j) =
      combineBit op ((w.val f).testBit (f.off P + j)) ((w.val g').testBit (g'.off P + j)) :=
    fun j hj => hxdef ▸ setop_bit P w f g' op j hj (hcc.imp id compatible_cap)
  cases hkeep : (p.write w v f i).2 with
  | false =>
    obtain ⟨hgood, hS0, hM0⟩ := good_write_lost P hf w p hg v f i hv hi hkeep x (popCount x (f.off P) f.capBits) false
      (some (popCount x (f.off P) f.capBits))
    cases op with
    | union => simp only [Bool.false_eq_true, if_false]; exact hgood
    | inter =>
      simp only [Bool.false_eq_true, if_false, hS0, List.filter_nil]
      rw [destructive_nil_eq _ w _ hS0 hM0]; exact hgood
    | invert => simp only []; rw [destructive_nil_eq _ w _ hS0 hM0]; exact hgood
  | true =>
    obtain ⟨hp, hin, hS1, ⟨i1, hi1, hM1⟩, hvi1⟩ := write_kept p w v f i hi hkeep
    obtain ⟨hcovA, hhsA⟩ := covers_recorded P hf hP.layout w p hg v f hv (agrees_of_insync P hf w p hg v f i hv hi hp hin)
    generalize hsudef : (if agrees w g' then (p.si (keyOf u g')).S else []) = su
    -- the source's contribution
    have hB : op ≠ .invert → Covers hf (w.val g') (g'.off P) f.cfg su ∧ Hashed hf f.seed su := by
      intro hop
      rw [← hsudef]
      split
      · next hag =>
        have hcomp := compatible_cfg (hcc.resolve_left hop)
        have := covers_recorded P hf hP.layout w p hg u g' hu hag
        rwa [hcomp, show g'.seed = f.seed from congrArg Cfg.seed hcomp] at this
      · exact ⟨Covers.nil, Hashed.nil⟩
    have hlow : isMem f = true → ∀ j, j < 256 → x.testBit j = (w.val f).testBit j := by
      intro hm j hj; rw [← hxdef]; exact setopVal_out P w op f g' j (Or.inl (by rw [off_mem P hP.layout hm]; exact hj))
    -- the count fits its 64-bit field
    have hcnt : isMem f = true → (false = true → getField (commitVal P f x (some (popCount x (f.off P) f.capBits))) 192 64 = P.dirty) ∧
        (false = false → getField (commitVal P f x (some (popCount x (f.off P) f.capBits))) 192 64 = popCount x 256 f.capBits) := by
      intro hm
      refine ⟨fun h => (by cases h), fun _ => ?_⟩
      rw [commitVal_count P hP.layout f hm hro', off_mem P hP.layout hm]
      exact hw.popCount_mod _ _
    -- views of the written block other than `v` exist only when it is a caller block
    have hmem_of : ∀ u' fu, u' ≠ v → keyOf u' fu = keyOf v f → f.off P = 256 := by
      intro u' fu e hk
      cases hr : f.ref with
      | owned b => rw [show keyOf v f = .own v by simp [keyOf, hr]] at hk; exact absurd (keyOf_eq_own_iff hk) e
      | mem m => exact off_mem P hP.layout (by simp [isMem, hr])
    cases op with
    | union =>
      have hB := hB (by intro h; cases h)
      simp only [if_true, setS_vi, hi1, setS_si_same]
      rw [hS1]
      -- another view of the written state sees its bits only grow
      have hgrow : ∀ u' fu, u' ≠ v → keyOf u' fu = keyOf v f →
          ∀ j, (w.val f).testBit (256 + j) = true → x.testBit (256 + j) = true := by
        intro u' fu e hk j hb
        have hoff := hmem_of u' fu e hk
        by_cases hj : j < f.capBits
        · have := hbit j hj
          rw [hoff] at this
          rw [this, hb]; rfl
        · rw [← hxdef, setopVal_out P w .union f g' (256 + j) (Or.inr (by rw [hoff]; omega))]; exact hb
      have hU := And.intro (Covers.union_bits hcovA hB.1 hw.capPos hbit) (Hashed.append hf hhsA hB.2)
      exact good_write_kept P hf hP.layout hg hv hi hkeep (Kept.add hi1 hgrow) hlow hU hU (fun _ => rfl) hcnt
    | inter =>
      simp only [if_true, hi1]
      rw [hS1, hM1]
      have hB := (hB (by intro h; cases h)).1
      exact good_write_kept P hf hP.layout hg hv hi hkeep ((Kept.destr hv).setV hi1) hlow
        ⟨Covers.inter_bits hok.cov hB hw.capPos hbit, Hashed.filter hf _ hok.hs⟩
        ⟨Covers.inter_bits hcovA hB hw.capPos hbit, Hashed.filter hf _ hhsA⟩ (fun _ => rfl) hcnt
    | invert =>
      simp only []
      exact good_write_kept P hf hP.layout hg hv hi hkeep (Kept.destr hv) hlow ⟨Covers.nil, Hashed.nil⟩ ⟨Covers.nil, Hashed.nil⟩
        (fun _ => rfl) hcnt

end DS.Bloom
