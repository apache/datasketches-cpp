/- The documented table-order freedom for compact set coupons: the string the API content shows does not depend on their order
(the HLL_4 aux entries are dealt with in Props/C09_Hll, from `find?_perm_of_unique` of ListAux). -/
import DSModel.Wire.Hll
import DSProofs.Lemmas.ListAux

namespace DS.Wire.Hll
open DS

theorem couponsStr_perm {l l' : List Nat} (h : l.Perm l') : couponsStr l = couponsStr l' := by
  unfold couponsStr
  rw [sortNat_perm h]
  have : l.isEmpty = l'.isEmpty := by
    cases l with
    | nil => rw [List.Perm.nil_eq h]
    | cons a t =>
      cases l' with
      | nil => exact absurd (List.Perm.eq_nil h) (by simp)
      | cons b u => rfl
  rw [this]

end DS.Wire.Hll
