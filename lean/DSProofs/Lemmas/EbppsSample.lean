/- Sample-level lemmas for C18 (Rat instance): admissible draws (`UnitOK`); `mergeSample` and `downsample` rewritten to rational
arithmetic; both preserve the structure invariant `SInv` (|data| = floor c, partial item iff frac c > 0, every stored item
satisfies a given predicate). -/
import DSProofs.Lemmas.EbppsNum
import DSProofs.Lemmas.ListAux
namespace DS.Ebpps

/-- admissible unit draws: `[0,1)` when the code compares with `>=` (`ge = true`), `(0,1)` for the `>` of the pinned commit of /repo
(`ge = false`). -/
def UnitOK (ge : Bool) (d : Draws Rat) : Prop := ∀ u ∈ d.us, (if ge then 0 ≤ u else 0 < u) ∧ u < 1

theorem unit_spec {ge : Bool} {d : Draws Rat} (h : UnitOK ge d) :
    (if ge then 0 ≤ d.unit.1 else 0 < d.unit.1) ∧ d.unit.1 < 1 ∧ UnitOK ge d.unit.2 := by
  unfold Draws.unit
  cases hus : d.us with
  | nil => simp only [rat_one, rat_ofNat]; exact ⟨by split <;> norm_num, by norm_num, h⟩
  | cons u t =>
    rw [UnitOK, hus, List.forall_mem_cons] at h
    exact ⟨h.1.1, h.1.2, h.2⟩

theorem unit_nonneg {ge : Bool} {d : Draws Rat} (h : UnitOK ge d) : 0 ≤ d.unit.1 := by
  have := (unit_spec h).1
  cases ge
  · exact le_of_lt this
  · exact this

theorem below_us (d : Draws Rat) (n : Nat) : (d.below n).2.us = d.us := by
  unfold Draws.below; cases d.is <;> rfl

theorem below_lt (d : Draws Rat) {n : Nat} (hn : 0 < n) : (d.below n).1 < n := by
  unfold Draws.below; cases d.is with
  | nil => exact hn
  | cons i t => exact Nat.mod_lt _ hn

theorem unitOK_of_us {ge : Bool} {d d' : Draws Rat} (h : d'.us = d.us) (hd : UnitOK ge d) : UnitOK ge d' := by
  unfold UnitOK; rw [h]; exact hd

theorem below_ok {ge : Bool} {d : Draws Rat} (h : UnitOK ge d) (n : Nat) : UnitOK ge (d.below n).2 :=
  unitOK_of_us (below_us d n) h

theorem drawAbove_of_lt {ge : Bool} {u x : Rat} (h : x < u) : drawAbove ge u x = true := by
  cases ge <;> simp [drawAbove, h, le_of_lt h]

theorem not_drawAbove_of_lt {ge : Bool} {u x : Rat} (h : u < x) : ¬ drawAbove ge u x = true := by
  cases ge <;> simp [drawAbove, h, le_of_lt h]

theorem le_of_drawAbove {ge : Bool} {u x : Rat} (h : drawAbove ge u x = true) : x ≤ u := by
  cases ge <;> simp only [drawAbove, Bool.false_eq_true, if_false, if_true, rat_lt, rat_le, decide_eq_true_eq] at h
  · exact le_of_lt h
  · exact h

theorem pos_of_not_drawAbove {ge : Bool} {u x : Rat} (hu : if ge then 0 ≤ u else 0 < u)
    (h : ¬ drawAbove ge u x = true) : 0 < x := by
  cases ge <;>
    simp only [drawAbove, Bool.false_eq_true, if_false, if_true, rat_lt, rat_le, decide_eq_true_eq, not_lt, not_le] at h hu
  · exact hu.trans_le h
  · exact hu.trans_lt h

/-- above the threshold `f / t` the draw is still below one, so `f` is not all of `t`; not above it the draw is positive (or zero
and compared with `>=`), so `f` is -/
theorem drawAbove_div {ge : Bool} {d : Draws Rat} (hd : UnitOK ge d) (f : Rat) {t : Rat} (ht : 0 < t) :
    (drawAbove ge d.unit.1 (f / t) = true → f < t) ∧ (¬ drawAbove ge d.unit.1 (f / t) = true → 0 < f) :=
  ⟨fun h => (div_lt_one ht).1 ((le_of_drawAbove h).trans_lt (unit_spec hd).2.1),
   fun h => (div_pos_iff_of_pos_right ht).1 (pos_of_not_drawAbove (unit_spec hd).1 h)⟩

-- `P`: what every stored item satisfies (`SInv P`); the C18 theorems take "is an item of the stream"
variable {P : Nat → Prop}

theorem length_pickSwap (l : List Nat) (j : Nat) : (pickSwap l j).2.length = l.length - 1 := by
  unfold pickSwap; simp

theorem pickSwap_spec (l : List Nat) (j : Nat) (hj : j < l.length) (hP : ∀ x ∈ l, P x) :
    P (pickSwap l j).1 ∧ ∀ x ∈ (pickSwap l j).2, P x := by
  refine ⟨hP _ (getD_mem _ _ _ hj), fun x hx => hP x (mem_of_mem_set_tail ?_ hx)⟩
  cases l with
  | nil => simp at hj
  | cons a t => simp

theorem subsampleGo_spec : ∀ (m : Nat) (l : List Nat) (d : Draws Rat), m ≤ l.length → (∀ x ∈ l, P x) →
    (subsampleGo m l d).1.length = m ∧ (∀ x ∈ (subsampleGo m l d).1, P x) ∧ (subsampleGo m l d).2.us = d.us
  | 0, _, _, _, _ => ⟨rfl, nofun, rfl⟩
  | m + 1, l, d, hl, hP => by
    obtain ⟨h1, h2⟩ := pickSwap_spec l _ (below_lt d (show 0 < l.length by omega)) hP
    obtain ⟨i1, i2, i3⟩ := subsampleGo_spec m (pickSwap l (d.below l.length).1).2 (d.below l.length).2
      (by rw [length_pickSwap]; omega) h2
    exact ⟨congrArg (· + 1) i1, List.forall_mem_cons.2 ⟨h1, i2⟩, i3.trans (below_us d _)⟩

theorem subsample_spec (num : Nat) (l : List Nat) (d : Draws Rat) (h : num ≤ l.length) (hP : ∀ x ∈ l, P x) :
    (subsample num l d).1.length = num ∧ (∀ x ∈ (subsample num l d).1, P x) ∧ (subsample num l d).2.us = d.us := by
  unfold subsample
  split
  · rename_i he
    exact ⟨(by simpa using he : num = l.length).symm, hP, rfl⟩
  · exact subsampleGo_spec num l d h hP

theorem subsample_ne (m : Nat) (l : List Nat) (d : Draws Rat) (h : m ≠ l.length) : subsample m l d = subsampleGo m l d := by
  unfold subsample
  have : (m == l.length) = false := by simpa using h
  simp [this]

theorem subsample_eq_len (l : List Nat) (d : Draws Rat) : subsample l.length l d = (l, d) := by
  unfold subsample; simp

/-- Outcome of `downsampleCases`: `n` full items and, in every branch, a partial item (`finish` drops it again when the new `c` is
integral); `us`: the unit draws still to come. -/
def Leaves (P : Nat → Prop) (n : Nat) (us : List Rat) (r : List Nat × Option Nat × Draws Rat) : Prop :=
  r.1.length = n ∧ (∀ x ∈ r.1, P x) ∧ r.2.1.isSome ∧ (∀ x ∈ r.2.1, P x) ∧ r.2.2.us = us

/-- `part = none` is `move_one_to_partial()` -/
theorem swapWith_spec (data : List Nat) (part : Option Nat) (d : Draws Rat) (hne : 0 < data.length)
    (hP : ∀ x ∈ data, P x) (hp : ∀ x ∈ part, P x) :
    Leaves P (if part.isSome then data.length else data.length - 1) d.us (swapWithPartial data part d) := by
  have hj : ∀ x ∈ some (data.getD (d.below data.length).1 0), P x :=
    fun x hx => Option.mem_some_iff.1 hx ▸ hP _ (getD_mem _ _ _ (below_lt d hne))
  cases part with
  | none =>
    refine ⟨List.length_dropLast.trans (congrArg (· - 1) List.length_set), fun x hx => ?_, rfl, hj, below_us d _⟩
    rcases List.mem_or_eq_of_mem_set (List.mem_of_mem_dropLast hx) with h | h
    · exact hP x h
    · exact h ▸ hP _ (getD_mem _ _ _ (by omega))
  | some p =>
    refine ⟨List.length_set, fun x hx => ?_, rfl, hj, below_us d _⟩
    rcases List.mem_or_eq_of_mem_set hx with h | h
    · exact hP x h
    · exact h ▸ hp p rfl

/-- `|data| = ⌊c⌋`, the partial item is present iff `frac c > 0`, every stored item satisfies `P`. -/
structure SInv (P : Nat → Prop) (s : Sample Rat) : Prop where
  cnn : 0 ≤ s.c
  len : (s.data.length : Int) = s.c.floor
  part : s.part.isSome ↔ ((s.c.floor : Int) : Rat) < s.c
  dataP : ∀ x ∈ s.data, P x
  partP : ∀ x ∈ s.part, P x

theorem SInv.mono {Q : Nat → Prop} {s : Sample Rat} (hPQ : ∀ x, P x → Q x) (h : SInv P s) : SInv Q s :=
  ⟨h.cnn, h.len, h.part, fun x hx => hPQ x (h.dataP x hx), fun x hx => hPQ x (h.partP x hx)⟩

theorem SInv.itemsP {s : Sample Rat} (h : SInv P s) : ∀ x ∈ s.items, P x :=
  List.forall_mem_append.2 ⟨h.dataP, fun x hx => h.partP x (by simpa using hx)⟩

theorem getSample_spec {s : Sample Rat} (hs : SInv P s) (d : Draws Rat) :
    (((getSample s d).1.length : Int) = s.c.floor ∨
      (((s.c.floor : Int) : Rat) < s.c ∧ ((getSample s d).1.length : Int) = s.c.floor + 1)) ∧
    ∀ x ∈ (getSample s d).1, P x := by
  have e : getSample s d = (if Num.lt d.unit.1 (frac s.c) then (s.data ++ s.part.toList, d.unit.2) else (s.data, d.unit.2)) := rfl
  rw [e]
  split
  · refine ⟨?_, hs.itemsP⟩
    cases hpart : s.part with
    | none => left; simpa using hs.len
    | some p => exact Or.inr ⟨hs.part.1 (by rw [hpart]; rfl), by simp [hs.len]⟩
  · exact ⟨Or.inl hs.len, hs.dataP⟩

theorem sinv_empty : SInv P (Sample.empty : Sample Rat) :=
  ⟨le_rfl, (rat_floor_natCast 0).symm, iff_of_false nofun (lt_irrefl 0), nofun, nofun⟩

theorem SInv.part_isSome {s : Sample Rat} (h : SInv P s) (hf : 0 < s.c - ↑s.c.floor) : s.part.isSome :=
  h.part.2 (sub_pos.1 hf)

/-- `_rat`: the `Bool` tests of the numeric class as propositions about rationals.  The draw is taken as projections and the tests
are normalised to the four positions of the sum of the two fractional parts:
both are zero iff their sum is, and once that is excluded the sum `c` is integral only if they add up to one. -/
theorem mergeSample_rat (ge : Bool) (s o : Sample Rat) (d : Draws Rat) :
    mergeSample ge s o d =
      if s.c - ↑s.c.floor + (o.c - ↑o.c.floor) = 0 then (⟨s.c + o.c, s.data ++ o.data, none⟩, d)
      else if s.c - ↑s.c.floor + (o.c - ↑o.c.floor) = 1 then
        (⟨s.c + o.c, if d.unit.1 ≤ s.c - ↑s.c.floor then pushOpt (s.data ++ o.data) s.part
                     else pushOpt (s.data ++ o.data) o.part, none⟩, d.unit.2)
      else if s.c - ↑s.c.floor + (o.c - ↑o.c.floor) < 1 then
        (⟨s.c + o.c, s.data ++ o.data,
          if drawAbove ge d.unit.1 ((s.c - ↑s.c.floor) / (s.c - ↑s.c.floor + (o.c - ↑o.c.floor))) then o.part
          else s.part⟩, d.unit.2)
      else if d.unit.1 ≤ (1 - (s.c - ↑s.c.floor)) / (1 - (s.c - ↑s.c.floor) + (1 - (o.c - ↑o.c.floor))) then
        (⟨s.c + o.c, pushOpt (s.data ++ o.data) o.part, s.part⟩, d.unit.2)
      else (⟨s.c + o.c, pushOpt (s.data ++ o.data) s.part, o.part⟩, d.unit.2) := by
  unfold mergeSample
  generalize d.unit = p
  obtain ⟨u, d'⟩ := p
  simp only [rat_eq, rat_lt, rat_le, rat_zero, rat_one, rat_floor, Bool.and_eq_true, Bool.or_eq_true, decide_eq_true_eq]
  rw [if_congr frac_add_eq_zero rfl rfl]
  by_cases h0 : s.c - ↑s.c.floor + (o.c - ↑o.c.floor) = 0
  · rw [if_pos h0, if_pos h0]
  · rw [if_neg h0, if_neg h0]
    exact if_congr ⟨fun h => h.elim id fun h => (frac_add_of_int h).resolve_left h0, Or.inl⟩ rfl rfl

variable {s o : Sample Rat}

theorem mergeSample_int (h : s.c - ↑s.c.floor + (o.c - ↑o.c.floor) = 0) (ge : Bool) (d : Draws Rat) :
    mergeSample ge s o d = (⟨s.c + o.c, s.data ++ o.data, none⟩, d) := by
  rw [mergeSample_rat, if_pos h]

theorem mergeSample_whole (ge : Bool) (m : Nat) (l : List Nat) (item : Nat) (d : Draws Rat) :
    mergeSample ge ⟨(m : Rat), l, none⟩ ⟨1, [item], none⟩ d = (⟨((m + 1 : Nat) : Rat), l ++ [item], none⟩, d) := by
  have h1 : ((1 : Rat)).floor = 1 := by simpa using rat_floor_natCast 1
  rw [mergeSample_int (by simp [rat_floor_natCast, h1])]
  simp

theorem mergeSample_lt (h0 : 0 < s.c - ↑s.c.floor + (o.c - ↑o.c.floor)) (h1 : s.c - ↑s.c.floor + (o.c - ↑o.c.floor) < 1)
    (ge : Bool) (d : Draws Rat) :
    mergeSample ge s o d = (⟨s.c + o.c, s.data ++ o.data,
      if drawAbove ge d.unit.1 ((s.c - ↑s.c.floor) / (s.c - ↑s.c.floor + (o.c - ↑o.c.floor))) then o.part else s.part⟩,
      d.unit.2) := by
  rw [mergeSample_rat, if_neg (ne_of_gt h0), if_neg (ne_of_lt h1), if_pos h1]

theorem mergeSample_one (h : s.c - ↑s.c.floor + (o.c - ↑o.c.floor) = 1) (ge : Bool) (d : Draws Rat) :
    mergeSample ge s o d = (⟨s.c + o.c, if d.unit.1 ≤ s.c - ↑s.c.floor then pushOpt (s.data ++ o.data) s.part
      else pushOpt (s.data ++ o.data) o.part, none⟩, d.unit.2) := by
  rw [mergeSample_rat, if_neg (h ▸ one_ne_zero), if_pos h]

theorem mergeSample_gt (h : 1 < s.c - ↑s.c.floor + (o.c - ↑o.c.floor)) (ge : Bool) (d : Draws Rat) :
    mergeSample ge s o d =
      if d.unit.1 ≤ (1 - (s.c - ↑s.c.floor)) / (1 - (s.c - ↑s.c.floor) + (1 - (o.c - ↑o.c.floor))) then
        (⟨s.c + o.c, pushOpt (s.data ++ o.data) o.part, s.part⟩, d.unit.2)
      else (⟨s.c + o.c, pushOpt (s.data ++ o.data) s.part, o.part⟩, d.unit.2) := by
  rw [mergeSample_rat, if_neg (ne_of_gt (zero_lt_one.trans h)), if_neg (ne_of_gt h), if_neg (not_lt.2 (le_of_lt h))]

theorem pushOpt_len_some (l : List Nat) {p : Option Nat} (h : p.isSome) : (pushOpt l p).length = l.length + 1 := by
  cases p with
  | none => simp at h
  | some x => simp [pushOpt]

theorem pushOpt_P {l : List Nat} {p : Option Nat} (hl : ∀ x ∈ l, P x) (hp : ∀ x ∈ p, P x) : ∀ x ∈ pushOpt l p, P x :=
  List.forall_mem_append.2 ⟨hl, fun x hx => hp x (by simpa using hx)⟩

theorem mergeSample_spec {ge : Bool} {d : Draws Rat} (hs : SInv P s) (ho : SInv P o) (hd : UnitOK ge d) :
    SInv P (mergeSample ge s o d).1 ∧ (mergeSample ge s o d).1.c = s.c + o.c ∧ UnitOK ge (mergeSample ge s o d).2 := by
  have f1 := frac_lt_one s.c
  have g1 := frac_lt_one o.c
  have hu := (unit_spec hd).2.2
  have hc : 0 ≤ s.c + o.c := add_nonneg hs.cnn ho.cnn
  have hdata : ∀ x ∈ s.data ++ o.data, P x := List.forall_mem_append.2 ⟨hs.dataP, ho.dataP⟩
  have hlen : ((s.data ++ o.data).length : Int) = s.c.floor + o.c.floor := by
    rw [List.length_append, Nat.cast_add, hs.len, ho.len]
  have hlen1 : ∀ {p : Option Nat}, p.isSome → ((pushOpt (s.data ++ o.data) p).length : Int) = s.c.floor + o.c.floor + 1 :=
    fun hp => by rw [pushOpt_len_some _ hp, Nat.cast_add, hlen, Nat.cast_one]
  rcases zero_one_cases (add_nonneg (frac_nonneg s.c) (frac_nonneg o.c)) with h | ⟨h0, h1⟩ | h | h
  · rw [mergeSample_int h]
    have hlt := h.trans_lt zero_lt_one
    exact ⟨⟨hc, floor_add_of_lt hlt ▸ hlen, iff_of_false nofun (sub_eq_zero.1 ((frac_add_of_lt hlt).trans h)).not_gt, hdata, nofun⟩,
      rfl, hd⟩
  · rw [mergeSample_lt h0 h1]
    -- `o`'s partial item is chosen only when `o`'s fraction is positive, `s`'s only when `s`'s is
    have hab := drawAbove_div hd (s.c - ↑s.c.floor) h0
    refine ⟨⟨hc, floor_add_of_lt h1 ▸ hlen, iff_of_true ?_ (sub_pos.1 (h0.trans_eq (frac_add_of_lt h1).symm)), hdata, ?_⟩, rfl, hu⟩
    · split
      · exact ho.part_isSome (by linarith [hab.1 ‹_›])
      · exact hs.part_isSome (hab.2 ‹_›)
    · simp only
      split
      · exact ho.partP
      · exact hs.partP
  · rw [mergeSample_one h]
    have hsp := hs.part_isSome (by linarith)
    have hop := ho.part_isSome (by linarith)
    refine ⟨⟨hc, ?_, iff_of_false nofun (sub_eq_zero.1 ((frac_add_of_ge h.ge).trans (sub_eq_zero.2 h))).not_gt, ?_, nofun⟩, rfl, hu⟩
    · rw [floor_add_of_ge h.ge]
      split
      · exact hlen1 hsp
      · exact hlen1 hop
    · simp only
      split
      · exact pushOpt_P hdata hs.partP
      · exact pushOpt_P hdata ho.partP
  · rw [mergeSample_gt h]
    have hfl := floor_add_of_ge h.le
    have hlt : ((s.c + o.c).floor : Rat) < s.c + o.c := sub_pos.1 ((sub_pos.2 h).trans_eq (frac_add_of_ge h.le).symm)
    have hsp := hs.part_isSome (by linarith)
    have hop := ho.part_isSome (by linarith)
    split
    · exact ⟨⟨hc, hfl ▸ hlen1 hop, iff_of_true hsp hlt, pushOpt_P hdata ho.partP, hs.partP⟩, rfl, hu⟩
    · exact ⟨⟨hc, hfl ▸ hlen1 hsp, iff_of_true hop hlt, pushOpt_P hdata hs.partP, ho.partP⟩, rfl, hu⟩

/-- In exact arithmetic the proposed rounding guard never fires on its own: an integral `c` with fractions adding up to
less than 1/2 means both fractions are zero, which is the first case of `mergeSample` anyway. -/
theorem mergeSampleV_eq_rat (vf ge : Bool) (s o : Sample Rat) (d : Draws Rat) :
    mergeSampleV vf ge s o d = mergeSample ge s o d := by
  unfold mergeSampleV
  simp only [rat_eq, rat_lt, rat_one, rat_ofNat, rat_floor, Bool.and_eq_true, decide_eq_true_eq]
  split
  · rename_i h
    obtain ⟨⟨-, hint⟩, hlt⟩ := h
    rcases frac_add_of_int hint with h0 | h1
    · rw [mergeSample_int h0]
    · norm_num [h1] at hlt
  · rfl

/-- `partial_item_.reset()` when the new `c` is integral -/
def intReset (c' : Rat) (q : Option Nat) : Option Nat := if c' = ↑c'.floor then none else q

/-- the tail of `downsample`: the new `c` with the items that the case analysis leaves -/
def finish (c' : Rat) (r : List Nat × Option Nat × Draws Rat) : Sample Rat := ⟨c', r.1, intReset c' r.2.1⟩

theorem downsample_lt_one (ge : Bool) (s : Sample Rat) {theta : Rat} (ht1 : theta < 1) (d : Draws Rat) :
    downsample ge s theta d =
      (let r := downsampleCases ge s theta (theta * s.c) ↑(theta * s.c).floor ↑s.c.floor (s.c - ↑s.c.floor) d
       (finish (theta * s.c) r, r.2.2)) := by
  unfold downsample
  simp only [rat_le, rat_one, decide_eq_true_eq, not_le.2 ht1, if_false, rat_eq, rat_floor]
  rfl

theorem downsample_one_le (ge : Bool) (s : Sample Rat) {theta : Rat} (ht1 : 1 ≤ theta) (d : Draws Rat) :
    downsample ge s theta d = (s, d) := by
  unfold downsample
  simp only [rat_le, rat_one, decide_eq_true_eq, ht1, if_true]

/-- the number of full items that survive `downsample(theta)` -/
theorem exists_kept {s : Sample Rat} {theta : Rat} (hs : SInv P s) (hc : 0 < s.c) (ht0 : 0 < theta) (ht1 : theta < 1) :
    ∃ m : Nat, (theta * s.c).floor = m ∧ m ≤ s.data.length := by
  obtain ⟨m, hm⟩ := Int.eq_ofNat_of_zero_le (rat_floor_nonneg (le_of_lt (mul_pos ht0 hc)))
  have := Rat.floor_monotone (le_of_lt (mul_lt_of_lt_one_left hc ht1))
  rw [hm, ← hs.len] at this
  exact ⟨m, hm, by exact_mod_cast this⟩

/-- `downsampleCases` as `downsample` calls it; `_nat`: its tests as propositions about the number `m` of surviving full items,
`|data|` and rationals.  `u`, `d'`: the unit draw and what is left of the draws, so that explicit draws can be put in. -/
theorem downsampleCases_nat {s : Sample Rat} {theta : Rat} {m : Nat} (hs : SInv P s) (hm : (theta * s.c).floor = m)
    (ge : Bool) {d d' : Draws Rat} {u : Rat} (hu : d.unit = (u, d')) :
    downsampleCases ge s theta (theta * s.c) ↑(theta * s.c).floor ↑s.c.floor (s.c - ↑s.c.floor) d =
      if m = 0 then
        ([], (if drawAbove ge u ((s.c - ↑s.c.floor) / s.c) then swapWithPartial s.data s.part d' else (s.data, s.part, d')).2)
      else if m = s.data.length then
        (if (1 - theta * (s.c - ↑s.c.floor)) / (1 - (theta * s.c - ↑(theta * s.c).floor)) < u then swapWithPartial s.data s.part d'
         else (s.data, s.part, d'))
      else if u < theta * (s.c - ↑s.c.floor) then swapWithPartial (subsample m s.data d').1 s.part (subsample m s.data d').2
      else moveOneToPartial (subsample (m + 1) s.data d').1 (subsample (m + 1) s.data d').2 := by
  unfold downsampleCases
  rw [hu]
  simp only [rat_eq, rat_lt, rat_zero, rat_one, rat_toNat, Rat.floor_intCast, decide_eq_true_eq, Int.cast_eq_zero, Int.cast_inj,
    hm, ← hs.len, Int.toNat_natCast, Int.natCast_eq_zero, Int.natCast_inj]

theorem downsampleCases_spec {ge : Bool} {s : Sample Rat} {theta : Rat} {d : Draws Rat} {m : Nat}
    (hs : SInv P s) (hc : 0 < s.c) (ht0 : 0 < theta) (ht1 : theta < 1) (hm : (theta * s.c).floor = m) (hmn : m ≤ s.data.length)
    (hd : UnitOK ge d) :
    Leaves P m d.unit.2.us
      (downsampleCases ge s theta (theta * s.c) ↑(theta * s.c).floor ↑s.c.floor (s.c - ↑s.c.floor) d) := by
  have hN : (s.data.length : Rat) = ↑s.c.floor := by exact_mod_cast hs.len
  -- nothing moves: the partial item has to be there, so the fraction has to be positive
  have stay : 0 < s.c - ↑s.c.floor → Leaves P s.data.length d.unit.2.us (s.data, s.part, d.unit.2) :=
    fun hfr => ⟨rfl, hs.dataP, hs.part_isSome hfr, hs.partP, rfl⟩
  have swap := fun hne => swapWith_spec s.data s.part d.unit.2 hne hs.dataP hs.partP
  rw [downsampleCases_nat hs hm ge (u := d.unit.1) (d' := d.unit.2) rfl]
  by_cases c1 : m = 0
  · -- no full item survives; a swap is only requested when there is a full item to swap
    rw [if_pos c1, c1]
    have hab := drawAbove_div hd (s.c - ↑s.c.floor) hc
    have drop : ∀ {n r}, Leaves P n d.unit.2.us r → Leaves P 0 d.unit.2.us ([], r.2) := fun h => ⟨rfl, nofun, h.2.2⟩
    split
    · have hpos : (0 : Rat) < s.data.length := by rw [hN]; linarith [hab.1 ‹_›]
      exact drop (swap (by exact_mod_cast hpos))
    · exact drop (stay (hab.2 ‹_›))
  · rw [if_neg c1]
    by_cases c2 : m = s.data.length
    · -- no item deleted: the fraction must have been positive
      rw [if_pos c2]
      have hfr : 0 < s.c - ↑s.c.floor := by
        rw [← hs.len, ← c2, ← hm]; linarith [Rat.floor_le (theta * s.c), mul_lt_of_lt_one_left hc ht1]
      split
      · have := swap (by omega)
        rwa [hs.part_isSome hfr, if_pos rfl, ← c2] at this
      · exact c2 ▸ stay hfr
    · rw [if_neg c2]
      split
      · -- subsample to `m` items, then swap one of them with the partial item (which exists)
        have hfr : 0 < s.c - ↑s.c.floor := (mul_pos_iff_of_pos_left ht0).1 (lt_of_le_of_lt (unit_nonneg hd) ‹_›)
        obtain ⟨q1, q2, q3⟩ := subsample_spec (P := P) m s.data d.unit.2 hmn hs.dataP
        have := swapWith_spec _ s.part (subsample m s.data d.unit.2).2 (by rw [q1]; omega) q2 hs.partP
        rwa [hs.part_isSome hfr, if_pos rfl, q1, q3] at this
      · -- subsample to `m + 1` items, then move one of them to the partial slot
        obtain ⟨q1, q2, q3⟩ := subsample_spec (P := P) (m + 1) s.data d.unit.2 (by omega) hs.dataP
        have := swapWith_spec _ none (subsample (m + 1) s.data d.unit.2).2 (by rw [q1]; omega) q2 nofun
        rwa [q1, q3] at this

theorem downsample_spec {ge : Bool} {s : Sample Rat} {theta : Rat} {d : Draws Rat}
    (hs : SInv P s) (hc : 0 < s.c) (ht0 : 0 < theta) (hd : UnitOK ge d) :
    SInv P (downsample ge s theta d).1 ∧ (downsample ge s theta d).1.c = min theta 1 * s.c ∧
    UnitOK ge (downsample ge s theta d).2 := by
  rcases le_or_gt 1 theta with h1 | ht1
  · rw [downsample_one_le ge s h1, min_eq_right h1, one_mul]; exact ⟨hs, rfl, hd⟩
  · obtain ⟨m, hm, hmn⟩ := exists_kept hs hc ht0 ht1
    obtain ⟨r1, r2, r3, r4, r5⟩ := downsampleCases_spec hs hc ht0 ht1 hm hmn hd
    rw [downsample_lt_one ge s ht1, min_eq_left (le_of_lt ht1)]
    refine ⟨⟨le_of_lt (mul_pos ht0 hc), (congrArg Nat.cast r1).trans hm.symm, ?_, r2, ?_⟩, rfl, unitOK_of_us r5 (unit_spec hd).2.2⟩
    · unfold finish intReset; split
      · rename_i he; simp [← he]
      · simpa [r3] using lt_of_le_of_ne (Rat.floor_le _) (Ne.symm ‹_›)
    · unfold finish intReset; split
      · nofun
      · exact r4

end DS.Ebpps
