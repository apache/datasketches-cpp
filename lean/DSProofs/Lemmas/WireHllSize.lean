/- Lengths of HLL images, the advertised size formulas, and `auxNotGrown`, the hypothesis under which the published maximum
   holds (C09 `size_le_max_partial`). -/
import DSProofs.Lemmas.WireHllRT
import DSProofs.Lemmas.ListAux

namespace DS.Wire.Hll
open DS.Wire DS.Wire.Reader

/-- header bytes preceding the table / register area -/
def dataStart : Img → Nat
  | .list _ => 8
  | .set _ => 12
  | .hll _ => 40

theorem length_encode (c : Consts) (s : Img) : (encode c s).length = dataStart s + footprint s := by
  cases s with
  | list s => simp only [encode, encodeList, List.length_append, length_encodeHdr, length_wU32s, dataStart, footprint]
  | set s =>
    simp only [encode, encodeSet, List.length_append, length_encodeHdr, length_w32, length_wU32s, dataStart, footprint,
      ← Nat.add_assoc]
  | hll s =>
    simp only [encode, encodeHll, List.length_append, length_encodeHdr, length_w64, length_w32, length_wU32s, dataStart,
      footprint, ← Nat.add_assoc]

theorem size_eq_of_WF (c : Consts) (s : Img) (hw : s.WF c) : (encode c s).length = serializedSize c s := by
  rw [length_encode]
  cases s with
  | list s => exact congrArg (8 + 4 * ·) hw.2.2.2.1
  | set s => exact congrArg (12 + 4 * ·) hw.1.2.2.2.2.2.1
  | hll s =>
    obtain ⟨_, _, _, _, _, _, _, _, _, hrl, hal, _⟩ := hw
    show 40 + (s.regs.length + 4 * s.aux.length) = 40 + arrBytes s.h.tgt s.h.lgK + 4 * auxLen c s.h s.auxCount
    rw [hrl, hal, Nat.add_assoc]

theorem arrBytes_ge (tgt lgK : Nat) (hk : 1 ≤ lgK) : 2 ^ (lgK - 1) ≤ arrBytes tgt lgK := by
  obtain ⟨m, rfl⟩ : ∃ m, lgK = m + 1 := ⟨lgK - 1, (Nat.sub_add_cancel hk).symm⟩
  rw [Nat.add_sub_cancel, arrBytes]
  by_cases h0 : tgt = 0
  · rw [if_pos h0]; exact Nat.le_refl _
  rw [if_neg h0]
  by_cases h1 : tgt = 1
  · rw [if_pos h1, Nat.pow_succ, Nat.mul_left_comm]
    exact Nat.le_succ_of_le ((Nat.le_div_iff_mul_le (by decide)).2 (Nat.mul_le_mul_left _ (by decide)))
  · rw [if_neg h1]; exact Nat.pow_le_pow_right (by decide) (Nat.le_succ m)

/-- the aux table of an updatable HLL_4 image has its initial size LG_AUX_ARR_INTS[lg_k] (it has not grown) -/
def auxNotGrown (c : Consts) : Img → Prop
  | .hll s => lgAuxOf c s.h s.auxCount ≤ lgAuxDefault c s.h.lgK
  | _ => True
instance (c : Consts) (s : Img) : Decidable (auxNotGrown c s) := by cases s <;> (unfold auxNotGrown; infer_instance)

end DS.Wire.Hll
