/- Repaired model: initialize_by_size, serialize and deserialize / wrap / writable_wrap preserve `Good`. -/
import DSProofs.Lemmas.BloomGoodWrite
namespace DS.Bloom

variable {ι : Type} (P : Params) (hf : ι → Nat → Option (Nat × Nat))

theorem block_for_reader (w : World) (p : PGhost ι) (hg : Good P hf w p) (m : Nat) (b : Block) (hb : w.blocks m = some b)
    (cap nh seed nbs nl : Nat) (hparse : parseImage P b = .full cap nh seed nbs nl) (ht : (p.si (.mem m)).tainted = false) :
    (1 ≤ nh ∧ cap < 2 ^ 32) ∧ (nbs = P.dirty ∨ nbs = popCount b.val 256 cap) ∧ Covers hf b.val 256 ⟨cap, nh, seed⟩ (p.si (.mem m)).S ∧
      Hashed hf seed (p.si (.mem m)).S := by
  rcases hg.blk m b hb ht with ⟨_, _, _, he, _⟩ | ⟨cap', nh', seed', nbs', nl', hfull, hk, hcnt, hcov, hhs⟩
  · rw [hparse] at he; cases he
  · rw [hparse] at hfull
    injection hfull with h1 h2 h3 h4 h5
    subst h1 h2 h3 h4 h5
    exact ⟨hk, hcnt, hcov, hhs⟩

theorem viewOK_wrap (hP : P.Wire) (w : World) (p : PGhost ι) (hg : Good P hf w p) (m : Nat) (b : Block) (hm : w.blocks m = some b)
    (cap nh seed nbs nl : Nat) (hp : parseImage P b = .full cap nh seed nbs nl) (ro : Bool) :
    ViewOK P hf b.val (p.si (.mem m)) (wrapFilter P m b.val cap nh seed nbs ro)
      ⟨(p.si (.mem m)).S, !(p.si (.mem m)).tainted, (p.si (.mem m)).ver⟩ := by
  obtain ⟨-, -, -, -, hcap0, -, -, -, hnbs⟩ := parseImage_full_iff.mp hp
  have hmem : isMem (wrapFilter P m b.val cap nh seed nbs ro) = true := rfl
  have hoff : (wrapFilter P m b.val cap nh seed nbs ro).off P = 256 := off_mem P hP.layout hmem
  cases ht : (p.si (.mem m)).tainted with
  | true => exact viewOK_mem_nil P hf hmem (hg.taintS m ht) (fun h => nomatch h) (Nat.le_refl _) (Or.inl ht)
  | false =>
    obtain ⟨hk1, hcnt, hcov, hhs⟩ := block_for_reader P hf w p hg m b hm cap nh seed nbs nl hp ht
    -- a view that is not dirty keeps the count it read
    have hdn : ∀ h : (nbs == P.dirty) = false, (if (ro && nbs == P.dirty) = true then popCount b.val (8 * P.bitsOff) cap else nbs) = nbs :=
      fun h => by rw [h, Bool.and_false]; rfl
    refine viewOK_live_mem P hf hmem rfl rfl hk1 ht hhs (hoff ▸ hcov)
      (not_empty_of_count P hf (X := b.val) (off := 256) hk1 (Nat.pos_of_ne_zero hcap0) hcnt hcov hhs rfl hdn) (fun hd => ?_) (fun _ hd => ?_)
    · rw [hoff]
      exact (hdn hd).trans (hcnt.resolve_left (by simpa [wrapFilter] using hd))
    · rw [← hnbs]; simpa [wrapFilter] using hd

variable [DecidableEq ι]

theorem good_init (hP : P.Wire) (w : World) (p : PGhost ι) (hg : Good P hf w p) (v m nb nh seed : Nat)
    (hsmall : nb ≤ 2 ^ 32 - 64) (hnh : nh < 2 ^ 16) (hseed : seed < 2 ^ 64) :
    Good P hf (opInit P w v m nb nh seed).1 (pstep hf p w (opInit P w v m nb nh seed).1 (opInit P w v m nb nh seed).2 (.init v m nb nh seed)) := by
  unfold opInit
  by_cases hb : badSize P nb nh = true
  · rw [if_pos hb]; exact hg
  rw [if_neg hb]
  have hb' : badSize P nb nh = false := Bool.eq_false_iff.mpr hb
  by_cases hl : w.blockLen m < serializedSize P (roundUp64 nb)
  · simp only [if_pos hl]; exact hg
  unfold pstep; simp only [if_neg hl, if_true]
  obtain ⟨hk, hnb, -⟩ := not_badSize hb'
  obtain ⟨hcap, h64⟩ := roundUp64_pos nb hnb
  have hcaplt : roundUp64 nb < 2 ^ 32 := Nat.lt_of_le_of_lt (roundUp64_le nb) (by omega)
  have hlen : 32 ≤ w.blockLen m := by
    simp only [serializedSize, hP.preStd] at hl
    exact Nat.le_trans (Nat.mul_le_mul_left 8 (Nat.le_add_right 4 _)) (Nat.le_of_not_lt hl)
  generalize roundUp64 nb = cap at hcap h64 hcaplt ⊢
  -- the header and the zeroed count and bit array are the overwritten prefix
  rw [show 8 * (24 + 8 * (cap / 64 + 1)) = 256 + cap by omega]
  have hparse := parseImage_init P hP (w.blockLen m) (w.blockVal m) _ cap nh seed (Nat.le_add_right 256 cap) hlen
    hcap h64 hcaplt hnh hseed hk
  have hclear : ∀ j, j < cap → (setField (w.blockVal m) 0 (256 + cap) (headerVal P P.preStd 0 nh seed (cap / 64))).testBit (256 + j) = false :=
    fun j hj => init_bits_clear P _ _ cap nh seed j (Nat.add_lt_add_left hj 256)
  generalize setField (w.blockVal m) 0 _ _ = x at hparse hclear ⊢
  have hpc : popCount x 256 cap = 0 := (popCount_eq_zero_iff x 256 cap).mpr hclear
  have hsi : ((((p.setS (Key.mem m) ⟨[], (p.si (Key.mem m)).ver + 1, false⟩).mapViewsOf w (Key.mem m) (fun i => { i with M := [] })).setV v
      ⟨[], true, (p.si (Key.mem m)).ver + 1⟩).si (.mem m)) = ⟨[], (p.si (Key.mem m)).ver + 1, false⟩ := by
    simp only [setV_si, mapViewsOf_si, setS_si_same]
  refine hg.setBlock_setFilter v m ⟨w.blockLen m, x⟩ _ _ rfl ⟨hcap, h64, Nat.lt_trans hcaplt (by decide), hnh, hseed⟩ ?_ ?_
    (setV_vi_same _ _ _) ⟨?_, fun _ _ => ⟨_, _, hparse⟩⟩ ?_ (fun _ => ?_) (fun ht => ?_)
  · intro k hk; simp only [setV_si, mapViewsOf_si, setS_si_ne hk]
  · intro u fu e hfu hk
    rw [setV_vi_ne e, mapViewsOf_vi_ne _ _ _ _ u fu hfu hk, setS_vi]
  · -- the new view: promised, in sync, nothing recorded, all bits clear
    rw [hsi]
    exact viewOK_live_mem P hf rfl rfl rfl ⟨hk, hcaplt⟩ rfl Hashed.nil Covers.nil
      (fun h => absurd rfl h) (fun _ => by rw [off_mem P hP.layout rfl]; exact hpc.symm) (fun _ hd => nomatch hd)
  · -- the views the block had: must-sets cleared, behind the new version
    intro u fu iu e hfu hiu hk
    have hoku := hg.view u fu iu hfu hiu
    have hmem := (keyOf_mem_of_eq hk).2
    have hsv := hoku.sv hmem
    rw [hk] at hsv
    have hlt : iu.sync < (p.si (Key.mem m)).ver + 1 := Nat.lt_succ_of_le hsv
    rw [hsi]
    refine ⟨{ iu with M := [] }, ?_, viewOK_mem_nil P hf hmem rfl hoku.k1 (Nat.le_of_lt hlt) (Or.inr hlt), fun _ hin => ?_⟩
    · rw [setV_vi_ne e, mapViewsOf_vi _ _ _ _ u fu iu hfu (by simpa using hiu), if_pos hk]
    · rw [insync_mem_false hmem (Or.inr hlt)] at hin; cases hin
  · rw [hsi]
    exact Or.inr ⟨_, _, _, _, _, hparse, ⟨hk, hcaplt⟩, Or.inr hpc.symm, Covers.nil, Hashed.nil⟩
  · rw [hsi] at ht; cases ht

theorem good_ser (hP : P.Wire) (w : World) (p : PGhost ι) (hg : Good P hf w p) (v m : Nat) :
    Good P hf (opSer P w v m).1 (pstep hf p w (opSer P w v m).1 (opSer P w v m).2 (.ser v m)) := by
  cases hv : w.filters v with
  | none => unfold pstep; simp only [opSer, hv]; exact hg
  | some f =>
  obtain ⟨i, hi⟩ := hg.tracked v f hv
  cases hbm : w.blocks m with
  | some b0 => unfold pstep; simp only [opSer, hv, hi, hbm]; exact hg
  | none =>
  unfold pstep; simp only [opSer, hv, hi, hbm]
  have hok := hg.viewOK hv hi
  have hw := hg.fwf v f hv
  generalize hokdef : (i.promised && !(p.si (keyOf v f)).tainted && inSync p v f i) = ok
  refine hg.newBlock m _ _ hbm (fun ht => ?_) (fun ht => ?_)
  · simp only at ht ⊢
    have hokt : ok = true := by simpa using ht
    rw [hokt]; simp only [if_true]
    rw [← hokdef] at hokt
    simp only [Bool.and_eq_true, Bool.not_eq_true'] at hokt
    obtain ⟨⟨hp, _⟩, hins⟩ := hokt
    rw [inSync_eq] at hins
    by_cases he : f.isEmpty = true
    · left
      have hpe := parseImage_image_empty P hP w f hw (hok.k1 hp) he
      have hcb : f.capBits ≤ 2 ^ 32 - 64 := by have := (hok.k1 hp).2; have := hw.cap64; omega
      refine ⟨_, _, _, hpe, ?_, hcb⟩
      cases hM : i.M with
      | nil => rfl
      | cons a t =>
        have := hok.ne (by rw [hM]; simp)
        rw [he] at this; cases this
    · have he' : f.isEmpty = false := by simpa using he
      right
      have hbits : ∀ j, j < f.capBits → (image P w f).val.testBit (256 + j) = (w.val f).testBit (f.off P + j) :=
        fun j hj => image_bit P w f he' j hj
      have hpc : popCount (image P w f).val 256 f.capBits = popCount (w.val f) (f.off P) f.capBits :=
        popCount_congr _ _ _ _ _ hbits
      refine ⟨_, _, _, _, _, parseImage_image_full P hP w f hw (hok.k1 hp) he', hok.k1 hp, ?_, ?_, hok.hs⟩
      · by_cases hd : f.dirty = true
        · left; simp only [hd, if_true]; rw [hP.dirty]
        · right
          have hd' : f.dirty = false := by simpa using hd
          simp only [hd', Bool.false_eq_true, if_false]
          have hex := hok.ex hp hins hd'
          rw [hpc, hex]
          exact hw.popCount_mod _ _
      · exact hok.cov.mono hw.capPos (fun j hj hb => by rw [hbits j hj]; exact hb)
  · have : ok = false := by simpa using ht
    simp only [this]; rfl

theorem pstep_wrap_not_ok (p : PGhost ι) (w w' : World) (out : Out) (h : out ≠ .ok) (k : WrapKind) (m v : Nat) :
    pstep hf p w w' out (.wrap k m v) = p := by
  unfold pstep; simp only []
  split
  · exact absurd rfl h
  · rfl

theorem good_wrap (hP : P.Wire) (w : World) (p : PGhost ι) (hg : Good P hf w p) (k : WrapKind) (m v : Nat) :
    Good P hf (opWrap P w k m v).1 (pstep hf p w (opWrap P w k m v).1 (opWrap P w k m v).2 (.wrap k m v)) := by
  have hres := opWrap_result P w k m v
  generalize opWrap P w k m v = r at hres ⊢
  cases hres with
  | thrw | noBlock _ | outside _ _ _ | short _ _ _ _ _ _ _ _ _ _ => rw [pstep_wrap_not_ok hf p w _ _ (by simp)]; exact hg
  | empty b nb nh seed hm hp hb =>
    unfold pstep; simp only [setFilter_filters_same, mkOwned]
    -- nothing is recorded for an empty image, and if it carries promises its capacity is below 2^32
    have hS : (p.si (.mem m)).S = [] ∧ ((p.si (.mem m)).tainted = false → nb ≤ 2 ^ 32 - 64) := by
      by_cases ht : (p.si (.mem m)).tainted = true
      · exact ⟨hg.taintS m ht, fun h => by rw [ht] at h; cases h⟩
      · rcases hg.blk m b hm (by simpa using ht) with ⟨_, _, _, he, hS, hle⟩ | ⟨_, _, _, _, _, hfull, _⟩
        · rw [hp] at he; cases he; exact ⟨hS, fun _ => hle⟩
        · rw [hp] at hfull; cases hfull
    rw [hS.1]
    obtain ⟨-, -, h1, h2, h3⟩ := parseImage_empty_iff.mp hp
    have hle : nb ≤ 2 ^ 38 - 64 :=
      h1 ▸ Nat.le_trans (capOf_le P _) (Nat.mul_le_mul_right 64 (Nat.le_of_lt_succ (getField_lt b.val 128 32)))
    exact good_bind_owned P hf w p hg v (mkOwned nb nh seed) 0 rfl _ _
      (fwf_mkOwned P nb nh seed hb hle (h2 ▸ getField_lt _ _ _) (h3 ▸ getField_lt _ _ _))
      (viewOK_mkOwned P hf nb nh seed hb _ fun hpr => hS.2 (by simpa using hpr))
  | deser b cap nh seed nbs nl hm hp hl =>
    have hcap := (cap_of_full hp).1
    unfold pstep; simp only [setFilter_filters_same, deserFilter]
    apply good_bind_owned P hf w p hg v _ _ rfl _ _ (fwf_of_full P hp _ rfl rfl rfl)
    cases ht : (p.si (.mem m)).tainted with
    | true =>
      -- tainted block: an unpromised owned copy
      rw [hg.taintS m ht]
      exact viewOK_owned_nil P hf rfl rfl rfl fun h => nomatch h
    | false =>
      obtain ⟨hk1, hcnt, hcov, hhs⟩ := block_for_reader P hf w p hg m b hm cap nh seed nbs nl hp ht
      have hcovB : Covers hf (getField b.val 256 (8 * nbytesOf P nl)) 0 ⟨cap, nh, seed⟩ (p.si (.mem m)).S :=
        hcov.mono hcap (fun j hj hb' => by rw [deser_bit hp j hj]; exact hb')
      refine viewOK_live_own P hf rfl rfl hk1 hhs hcovB ⟨hcovB, hhs⟩
        (not_empty_of_count P hf (X := b.val) (off := 256) hk1 hcap hcnt hcov hhs rfl (fun _ => rfl)) (fun hd => ?_)
      have hne : nbs ≠ P.dirty := by simpa using hd
      exact (hcnt.resolve_left hne).trans (popCount_congr _ _ _ _ _ (deser_bit hp)).symm
  | wrap b cap nh seed nbs nl ro hm hp _ _ =>
    unfold pstep; simp only [setFilter_filters_same, wrapFilter]
    exact good_bind_mem P hf w p hg v m b hm (wrapFilter P m b.val cap nh seed nbs ro) rfl _ (fwf_of_full P hp _ rfl rfl rfl)
      (viewOK_wrap P hf hP w p hg m b hm cap nh seed nbs nl hp ro) (fun _ _ => ⟨nbs, nl, hp⟩)

end DS.Bloom
