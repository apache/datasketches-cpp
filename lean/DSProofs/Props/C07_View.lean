/-
C07 (shared part) — the sorted view of the quantile sketches answers coherently.

Model: DSModel/SortedView.lean = `quantiles_sorted_view` (common/include/quantiles_sorted_view_impl.hpp), used by the
KLL, REQ and classic quantiles models.  Items are of an arbitrary type with a Boolean comparator `lt` that is a
strict weak order (`StrictWeak`, the C++ *Compare* requirement).  `raw` is the list of (item, weight) entries
before `convert_to_cummulative`, `build raw` the finished view.  All statements hold for every item type, every
comparator, every list of runs/weights and every query point; ONLY property theorems and non-vacuity examples
live here (helper lemmas: Lemmas/SortedView*.lean).

Ranks are stated on the integer numerators (`rankNum`, the cumulative weight the code divides by the total
weight) and, for CDF/PMF, over `Rat` (`ratOps`); the `Float` instance (`floatOps`, `getRank`, `quantileWeight`)
is what the correspondence check executes and compares bit for bit with the C++ — floating-point rounding is
not part of these theorems.  The linear scans `rankGo`/`quantGo` are the specification of the binary searches
(`std::lower_bound/upper_bound`) on a view that is sorted, which `view_sorted_*` establishes.
-/
import DSProofs.Lemmas.SortedView2
namespace DS.SortedView

variable {α : Type}

/-- comparator used in the examples -/
def ltInt : Int → Int → Bool := fun a b => decide (a < b)

theorem ltInt_sw : StrictWeak ltInt :=
  ⟨by intro a b h; simp only [ltInt, decide_eq_true_eq, decide_eq_false_iff_not] at h ⊢; omega,
   by intro a b c h1 h2; simp only [ltInt, decide_eq_false_iff_not] at h1 h2 ⊢; omega⟩

/-- example view: level runs [2,5,9] (weight 1), [3,5] (weight 2), [4] (weight 4) -/
def exRaw : List (Int × Nat) := add ltInt (add ltInt (add ltInt [] [2, 5, 9] 1) [3, 5] 2) [4] 4

example : exRaw = [(2, 1), (3, 2), (4, 4), (5, 1), (5, 2), (9, 1)] := by decide
example : (build exRaw).ents = [(2, 1), (3, 3), (4, 7), (5, 8), (5, 10), (9, 11)] ∧ (build exRaw).total = 11 := by decide

/-- merging a sorted run into a sorted view keeps it sorted -/
theorem view_sorted_add {lt : α → α → Bool} (sw : StrictWeak lt) {view : List (α × Nat)} {items : List α} (w : Nat)
    (hv : SortedE lt view) (hi : Sorted lt items) : SortedE lt (add lt view items w) :=
  add_sorted sw w hv hi

/-- `convert_to_cummulative` does not touch the items: the finished view is sorted when the raw one is -/
theorem view_sorted_build {lt : α → α → Bool} {raw : List (α × Nat)} (h : SortedE lt raw) :
    SortedE lt (build raw).ents := by
  unfold SortedE build; simp only; rw [cumulate_fst]; exact h

example : SortedE ltInt (build exRaw).ents := view_sorted_build (by unfold SortedE Sorted; decide)

/-- `add` neither loses nor invents entries, and the total weight is the sum of the weights of all runs -/
theorem view_total_add (lt : α → α → Bool) (view : List (α × Nat)) (items : List α) (w : Nat) :
    (add lt view items w).Perm (view ++ items.map (fun x => (x, w))) ∧
    total (add lt view items w) = total view + w * items.length := by
  refine ⟨add_perm lt view items w, ?_⟩
  rw [total_eq_sumW, total_eq_sumW, sumW_eq_wP, sumW_eq_wP, wP_add, List.filter_eq_self.mpr fun _ _ => rfl]

/-- the total weight of the finished view is the sum of the weights; the last cumulative weight equals it;
cumulative weights never decrease, and strictly increase when every weight is positive -/
theorem view_total (raw : List (α × Nat)) :
    (build raw).total = sumW raw ∧
    (raw ≠ [] → (build raw).ents.getLast?.map Prod.snd = some (build raw).total) ∧
    (build raw).ents.Pairwise (fun a b => a.2 ≤ b.2) ∧
    ((∀ e ∈ raw, 0 < e.2) → (build raw).ents.Pairwise (fun a b => a.2 < b.2)) := by
  refine ⟨total_eq_sumW raw, ?_, cumulate_pairwise 0 0 raw fun _ _ => Nat.zero_le _, cumulate_pairwise 1 0 raw⟩
  intro h
  have := cumulate_getLast? 0 raw h
  simp only [build, total_eq_sumW]; rw [this]; simp

example : (build exRaw).total = 1 * 3 + 2 * 2 + 4 * 1 := by decide

/-- KEY characterisation: on a sorted view the rank numerator is the total weight of the entries `≤ x`
(inclusive) resp. `< x` (exclusive); hence it depends only on the weighted multiset of retained items -/
theorem rank_eq_weight_below {lt : α → α → Bool} (sw : StrictWeak lt) (raw : List (α × Nat)) (hs : SortedE lt raw)
    (x : α) (incl : Bool) : rankNum lt (build raw) x incl = weightBelow lt x incl raw := by
  rw [weightBelow_eq_wP]; exact rankNum_eq sw raw hs x incl

theorem weight_below_perm (lt : α → α → Bool) (x : α) (incl : Bool) {a b : List (α × Nat)} (h : a.Perm b) :
    weightBelow lt x incl a = weightBelow lt x incl b := by
  rw [weightBelow_eq_wP, weightBelow_eq_wP, wP_perm _ h]

example : rankNum ltInt (build exRaw) 5 true = 10 ∧ rankNum ltInt (build exRaw) 5 false = 7 ∧
    weightBelow ltInt 5 true exRaw = 10 ∧ weightBelow ltInt 5 false exRaw = 7 := by decide

/-- rank is monotone in the query point (both criteria) -/
theorem rank_mono {lt : α → α → Bool} (sw : StrictWeak lt) (raw : List (α × Nat)) (hs : SortedE lt raw)
    {x y : α} (hxy : lt y x = false) (incl : Bool) :
    rankNum lt (build raw) x incl ≤ rankNum lt (build raw) y incl :=
  rankNum_mono sw hs hxy incl

example : rankNum ltInt (build exRaw) 3 true ≤ rankNum ltInt (build exRaw) 4 true :=
  rank_mono ltInt_sw exRaw (by unfold SortedE Sorted; decide) (by decide) true

/-- inclusive rank ≥ exclusive rank -/
theorem rank_incl_ge_excl {lt : α → α → Bool} (sw : StrictWeak lt) (raw : List (α × Nat)) (hs : SortedE lt raw) (x : α) :
    rankNum lt (build raw) x false ≤ rankNum lt (build raw) x true :=
  rankNum_excl_le_incl sw hs x

/-- ranks never exceed the total weight, and reach it at (or above) the largest item -/
theorem rank_le_total {lt : α → α → Bool} (sw : StrictWeak lt) (raw : List (α × Nat)) (hs : SortedE lt raw) (x : α) (incl : Bool) :
    rankNum lt (build raw) x incl ≤ (build raw).total ∧
    ((∀ e ∈ raw, lt x e.1 = false) → rankNum lt (build raw) x true = (build raw).total) := by
  refine ⟨rankNum_le_total sw hs x incl, fun h => ?_⟩
  rw [rankNum_eq sw raw hs, build, total_eq_sumW, sumW_eq_wP]
  exact wP_congr raw fun e he => isBelow_incl.mpr (h e he)

example : rankNum ltInt (build exRaw) 9 true = (build exRaw).total := by decide

/-- a non-empty view always answers a quantile query with one of its items -/
theorem quantile_mem (raw : List (α × Nat)) (h : raw ≠ []) (w : Nat) (incl : Bool) :
    ∃ q, quantileAt (build raw) w incl = some q ∧ q ∈ raw.map Prod.fst := by
  obtain ⟨q, hq, hm⟩ := quantGo_mem w incl (cumulate 0 raw) none
    (by rw [cumulate_fst]; exact fun h0 => h (List.map_eq_nil_iff.mp h0))
  exact ⟨q, hq, by rw [cumulate_fst] at hm; exact hm⟩

/-- quantile is monotone in the weight threshold (hence in the rank, `quantile_weight_mono`) -/
theorem quantile_mono {lt : α → α → Bool} (sw : StrictWeak lt) (raw : List (α × Nat)) (hs : SortedE lt raw)
    {w1 w2 : Nat} (hw : w1 ≤ w2) (incl : Bool) {q1 q2 : α}
    (h1 : quantileAt (build raw) w1 incl = some q1) (h2 : quantileAt (build raw) w2 incl = some q2) :
    lt q2 q1 = false := by
  exact quantGo_mono sw hw incl _ none (view_sorted_build hs) q1 q2 h1 h2

example : quantileAt (build exRaw) 3 true = some 3 ∧ quantileAt (build exRaw) 8 true = some 5 ∧
    quantileAt (build exRaw) 3 false = some 4 ∧ quantileAt (build exRaw) 11 false = some 9 := by decide

/-- quantile and rank are dual.  Inclusive (1 ≤ w ≤ total): the answer q is the smallest item whose inclusive
rank reaches w, i.e. `rank_excl(q) < w ≤ rank_incl(q)`.  Exclusive (w < total): `rank_excl(q) ≤ w < rank_incl(q)`. -/
theorem quantile_rank_dual {lt : α → α → Bool} (sw : StrictWeak lt) (raw : List (α × Nat)) (hs : SortedE lt raw) (w : Nat) (q : α) :
    (1 ≤ w → w ≤ (build raw).total → quantileAt (build raw) w true = some q →
      w ≤ rankNum lt (build raw) q true ∧ rankNum lt (build raw) q false < w) ∧
    (w < (build raw).total → quantileAt (build raw) w false = some q →
      w < rankNum lt (build raw) q true ∧ rankNum lt (build raw) q false ≤ w) := by
  refine ⟨fun h1 h2 hq => ?_, fun h2 hq => ?_⟩
  · have := quantGo_dual sw w true raw 0 none q hs (mt qhit_incl.mp (Nat.not_le.mpr h1))
      (qhit_incl.mpr (by rw [Nat.zero_add, ← total_eq_sumW]; exact h2)) hq
    exact ⟨qhit_incl.mp this.1, Nat.not_le.mp (mt qhit_incl.mpr this.2)⟩
  · have := quantGo_dual sw w false raw 0 none q hs (mt qhit_excl.mp (Nat.not_lt_zero w))
      (qhit_excl.mpr (by rw [Nat.zero_add, ← total_eq_sumW]; exact h2)) hq
    exact ⟨qhit_excl.mp this.1, Nat.not_lt.mp (mt qhit_excl.mpr this.2)⟩

example : 8 ≤ rankNum ltInt (build exRaw) 5 true ∧ rankNum ltInt (build exRaw) 5 false < 8 := by decide

/-- the weight threshold `⌈r·N⌉` / `⌊r·N⌋` is monotone in the normalized rank and stays within the total
(exact arithmetic; the C++/`Float` computation `quantileWeight` is executed and compared, not proved) -/
theorem quantile_weight_mono (total : Nat) {r1 r2 : Rat} (h : r1 ≤ r2) (incl : Bool) :
    quantileWeightQ total r1 incl ≤ quantileWeightQ total r2 incl ∧
    (r2 ≤ 1 → quantileWeightQ total r2 incl ≤ total) :=
  ⟨quantileWeightQ_mono total h incl, fun h1 => quantileWeightQ_le_total total h1 incl⟩

example : quantileWeightQ 11 (1 / 2) true = 6 ∧ quantileWeightQ 11 (1 / 2) false = 5 := by
  unfold quantileWeightQ; constructor <;> norm_num [Int.ceil_eq_iff, Int.floor_eq_iff] <;> rfl

/-- CDF: one entry per split point, equal to its normalized rank, followed by exactly 1 -/
theorem cdf_eq_rank (lt : α → α → Bool) (v : View α) (sps : List α) (incl : Bool) :
    (getCDF ratOps lt v sps incl).length = sps.length + 1 ∧
    (∀ i (h : i < sps.length), (getCDF ratOps lt v sps incl)[i]? = some (getRankG ratOps lt v sps[i] incl)) ∧
    (getCDF ratOps lt v sps incl).getLast? = some 1 ∧
    (∀ x, getRankG ratOps lt v x incl = (rankNum lt v x incl : Rat) / (v.total : Rat)) := by
  refine ⟨by simp [getCDF], ?_, by simp [getCDF, ratOps], fun x => rfl⟩
  intro i h
  simp only [getCDF]
  rw [List.getElem?_append_left (by simpa using h)]
  simp [h]

/-- valid split points are strictly increasing, so the CDF is non-decreasing and bounded by 1 -/
theorem cdf_mono {lt : α → α → Bool} (sw : StrictWeak lt) (raw : List (α × Nat)) (hs : SortedE lt raw)
    (isNaN : α → Bool) (sps : List α) (hv : checkSplitPoints lt isNaN sps = true) (incl : Bool) :
    (getCDF ratOps lt (build raw) sps incl).Pairwise (· ≤ ·) := by
  unfold getCDF
  refine List.pairwise_append.mpr ⟨?_, List.pairwise_singleton _ _, fun a ha b hb => ?_⟩
  · exact List.pairwise_map.mpr ((checkSplitPoints_pairwise sw isNaN sps hv).imp fun hab =>
      ratio_mono (rank_mono sw raw hs (sw.asymm _ _ hab) incl))
  · obtain ⟨x, _, rfl⟩ := List.mem_map.mp ha
    exact List.mem_singleton.mp hb ▸ ratio_le_one (rank_le_total sw raw hs x incl).1

/-- the PMF sums to exactly one (telescoping; no sortedness needed) -/
theorem pmf_sum (lt : α → α → Bool) (v : View α) (sps : List α) (incl : Bool) :
    (getPMF ratOps lt v sps incl).sum = 1 := by
  unfold getPMF getCDF
  cases sps with
  | nil => simp [diffs, ratOps]
  | cons a t => simp only [List.map_cons, List.cons_append, List.sum_cons, diffs_sum]; simp [ratOps]

/-- every PMF bucket is non-negative -/
theorem pmf_nonneg {lt : α → α → Bool} (sw : StrictWeak lt) (raw : List (α × Nat)) (hs : SortedE lt raw)
    (isNaN : α → Bool) (sps : List α) (hv : checkSplitPoints lt isNaN sps = true) (incl : Bool) :
    ∀ d ∈ getPMF ratOps lt (build raw) sps incl, 0 ≤ d := by
  have hm := cdf_mono sw raw hs isNaN sps hv incl
  have h0 : ∀ x ∈ getCDF ratOps lt (build raw) sps incl, 0 ≤ x := fun x hx =>
    (List.mem_append.mp hx).elim (fun h1 => by obtain ⟨y, _, rfl⟩ := List.mem_map.mp h1; exact ratio_nonneg _ _)
      fun h1 => List.mem_singleton.mp h1 ▸ zero_le_one
  unfold getPMF
  cases h : getCDF ratOps lt (build raw) sps incl with
  | nil => exact fun _ hd => nomatch hd
  | cons c t =>
    rw [h] at hm h0
    exact List.forall_mem_cons.mpr ⟨h0 c List.mem_cons_self, diffs_nonneg c t hm⟩

example : getCDF ratOps ltInt (build exRaw) [3, 5] true = [3 / 11, 10 / 11, 1] ∧
    (getPMF ratOps ltInt (build exRaw) [3, 5] true).sum = 1 := by
  refine ⟨?_, pmf_sum _ _ _ _⟩
  have h1 : rankNum ltInt (build exRaw) 3 true = 3 := by decide
  have h2 : rankNum ltInt (build exRaw) 5 true = 10 := by decide
  have h3 : (build exRaw).total = 11 := by decide
  simp [getCDF, getRankG, ratOps, h1, h2, h3]

/-- invalid split points are rejected: a NaN anywhere, or a pair that is not strictly increasing -/
theorem invalid_split_points_rejected {lt : α → α → Bool} (sw : StrictWeak lt) (isNaN : α → Bool) (sps : List α) :
    (∀ a ∈ sps, isNaN a = true → checkSplitPoints lt isNaN sps = false) ∧
    (checkSplitPoints lt isNaN sps = true → sps.Pairwise (fun a b => lt a b = true)) := by
  refine ⟨?_, ?_⟩
  · induction sps with
    | nil => intro a ha; simp at ha
    | cons x t ih =>
      intro a ha hn
      cases t with
      | nil => simp only [List.mem_singleton] at ha; subst ha; simp [checkSplitPoints, hn]
      | cons y t' =>
        rcases List.mem_cons.mp ha with rfl | ha
        · simp [checkSplitPoints, hn]
        · have := ih a ha hn
          simp only [checkSplitPoints, this, Bool.and_false]
  · exact checkSplitPoints_pairwise sw isNaN sps

example : checkSplitPoints ltInt (fun _ => false) [3, 5, 5] = false ∧ checkSplitPoints ltInt (fun _ => false) [3, 5, 9] = true := by
  decide

end DS.SortedView
