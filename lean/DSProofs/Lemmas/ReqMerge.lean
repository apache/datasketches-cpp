/- `req_sketch::merge` keeps the sketch invariant. -/
import DSProofs.Lemmas.ReqSketch
namespace DS.Req

variable {ρ : Type}

structure CMergeSpec (T : Tun) (hra : Bool) (h : Nat) (c o m : Compactor ρ) : Prop where
  inv : CInv T hra h m
  len : m.items.length = c.items.length + o.items.length
  ent : m.entered = o.entered ++ c.entered
  cnt : ∀ p, cntP p m.items = cntP p c.items + cntP p o.items

theorem mergeItems_sorted (hra : Bool) (mine theirs : List Int) (hm : Sorted mine) (ht : Sorted theirs) :
    Sorted (mergeItems hra mine theirs) := by
  rw [mergeItems_eq]; split
  · exact ht
  · exact sorted_mergeDir _ ht hm

theorem cmerge_spec {T : Tun} (hT : TunOK T) (F : SecFns ρ) {hra : Bool} {h : Nat} {c o : Compactor ρ}
    (hc : CInv T hra h c) (ho : CInv T hra h o) : CMergeSpec T hra h c o (c.merge T F o) := by
  refine ⟨?_, ?_, (cmerge_fields T F c o).1, fun p => cmerge_cnt T F p c o⟩
  · -- `merge` overwrites the buffer of the compactor that `ensure_enough_sections` leaves
    have hc2 := ensureLoop_CInv hT F ((c.orState o).state + 2) (⟨hc.lg, hc.hraEq, hc.ns, hc.ss, hc.srt⟩ : CInv T hra h (c.orState o))
    unfold Compactor.merge
    exact ⟨hc2.lg, hc2.hraEq, hc2.ns, hc2.ss, fun _ => mergeItems_sorted _ _ _ (sortedItems_sorted hc2) (sortedItems_sorted ho)⟩
  · have := cmerge_cnt T F (fun _ => true) c o
    rwa [cntP_true, cntP_true, cntP_true] at this

structure MLSpec (T : Tun) (hra : Bool) (h : Nat) (cs os out : List (Compactor ρ)) : Prop where
  inv : CsInv T hra h out
  len : out.length = cs.length
  ne : AllNE os → AllNE (cs.drop os.length) → AllNE out
  ent : os ≠ [] → entered0L out = entered0L os ++ entered0L cs
  wp : ∀ p, weightP p out = weightP p cs + weightP p os
  ex : ExactL cs → ExactL os → ExactL out

theorem mergeLevels_spec {T : Tun} (hT : TunOK T) (F : SecFns ρ) {hra : Bool} (h : Nat) (cs os : List (Compactor ρ))
    (hcs : CsInv T hra h cs) (hos : CsInv T hra h os) (hl : os.length ≤ cs.length) : MLSpec T hra h cs os (mergeLevels T F cs os) := by
  induction cs generalizing h os with
  | nil =>
    cases os with
    | nil => exact ⟨trivial, rfl, fun _ _ => AllNE_nil, fun x => absurd rfl x, fun _ => rfl, fun h _ => h⟩
    | cons _ _ => cases hl
  | cons c t ih =>
    cases os with
    | nil => exact ⟨hcs, rfl, fun _ x => x, fun x => absurd rfl x, fun _ => (Nat.add_zero _).symm, fun h _ => h⟩
    | cons o os' =>
      have sp := cmerge_spec hT F hcs.1 hos.1
      have IH := ih (h + 1) os' hcs.2 hos.2 (Nat.le_of_succ_le_succ hl)
      refine ⟨⟨sp.inv, IH.inv⟩, congrArg (· + 1) IH.len, fun hne hd => ?_, fun _ => sp.ent, fun p => ?_, fun hc ho m hm p => ?_⟩
      · exact AllNE_cons.2 ⟨List.ne_nil_of_length_pos (sp.len ▸ Nat.lt_of_lt_of_le (List.length_pos_iff.2 (AllNE_cons.1 hne).1)
          (Nat.le_add_left _ _)), IH.ne (AllNE_cons.1 hne).2 hd⟩
      · rw [mergeLevels, weightP_cons, weightP_cons, weightP_cons, sp.cnt p, IH.wp p, sp.inv.lg, hcs.1.lg, hos.1.lg, Nat.add_mul]; ac_rfl
      · -- a single level results only from single levels, and holds exactly what was fed to both
        obtain ⟨rfl, ht⟩ := List.cons.inj hm
        have ht0 : t = [] := List.length_eq_zero_iff.1 (IH.len.symm.trans (congrArg List.length ht))
        have hot0 : os' = [] := List.length_eq_zero_iff.1 (Nat.le_zero.1 (by rw [ht0] at hl; exact Nat.le_of_succ_le_succ hl))
        rw [sp.cnt, sp.ent, cntP_append, hc c (ht0 ▸ rfl) p, ho o (hot0 ▸ rfl) p, Nat.add_comm]

structure GrowSpec (T : Tun) (target : Nat) (s s' : Sketch ρ) : Prop where
  k : s'.k = s.k
  hra : s'.hra = s.hra
  inv : CsInv T s.hra 0 s'.compactors
  ge : target ≤ s'.compactors.length
  shape : ∃ extra, s'.compactors = s.compactors ++ extra ∧ (∀ c ∈ extra, c.items = []) ∧
            (extra ≠ [] → s'.compactors.length = target)

theorem GrowSpec.of_ge {T : Tun} {target : Nat} {s : Sketch ρ} (hinv : CsInv T s.hra 0 s.compactors)
    (hge : target ≤ s.compactors.length) : GrowSpec T target s s :=
  { k := rfl, hra := rfl, inv := hinv, ge := hge,
    shape := ⟨[], by simp, by simp, fun x => absurd rfl x⟩ }

theorem growTo_spec {T : Tun} (hT : TunOK T) (F : SecFns ρ) (target fuel : Nat) (s : Sketch ρ) (acc : Acc)
    (hf : target ≤ s.compactors.length + fuel) (hinv : CsInv T s.hra 0 s.compactors) (hk : 2 ≤ s.k) :
    GrowSpec T target s (growTo T F fuel target s acc).1 ∧ (growTo T F fuel target s acc).2.throws = acc.throws := by
  induction fuel generalizing s acc with
  | zero => exact ⟨GrowSpec.of_ge hinv hf, rfl⟩
  | succ fuel ih =>
    simp only [growTo]
    by_cases hlt : s.compactors.length < target
    · rw [if_pos hlt]
      have hg : CsInv T s.hra 0 (s.compactors ++ [Compactor.mkC T F s.hra s.compactors.length s.k acc.peek]) :=
        (CsInv_append ..).2 ⟨hinv, (Nat.zero_add _).symm ▸ mkC_CInv hT F s.hra s.compactors.length s.k hk acc.peek⟩
      obtain ⟨IH, ithr⟩ := ih (s.grow T F acc.peek) (acc.drawIf T.initCoinRandom s.compactors.length)
        (by rw [Sketch.grow, List.length_append]; exact Nat.add_right_comm .. ▸ hf) hg hk
      obtain ⟨extra, he1, he2, he3⟩ := IH.shape
      refine ⟨{ IH with shape := ⟨_ :: extra, he1.trans (List.append_assoc ..), List.forall_mem_cons.2 ⟨mkC_items .., he2⟩, fun _ => ?_⟩ },
        ithr.trans (drawIf_throws ..)⟩
      -- the last level added brings the number of levels to `target`
      by_cases hex : extra = []
      · have := IH.ge
        rw [he1, hex, List.append_nil] at this ⊢
        exact Nat.le_antisymm (List.length_append ▸ hlt) this
      · exact he3 hex
    · rw [if_neg hlt]
      exact ⟨GrowSpec.of_ge hinv (Nat.not_lt.1 hlt), rfl⟩

theorem merge_some {T : Tun} {F : SecFns ρ} {s o : Sketch ρ} {acc : Acc} {r : Sketch ρ × Acc} (hr : s.merge T F o acc = some r) :
    s.hra = o.hra ∧ ((o.n = 0 ∧ r = (s, acc)) ∨ (o.n ≠ 0 ∧
      ((s.mergePre T F o acc).1.maxNomSize ≤ (s.mergePre T F o acc).1.numRetained ∧
          r = (s.mergePre T F o acc).1.compress T F (s.mergePre T F o acc).2 ∨
        (s.mergePre T F o acc).1.numRetained < (s.mergePre T F o acc).1.maxNomSize ∧ r = s.mergePre T F o acc))) := by
  simp only [Sketch.merge] at hr
  split at hr
  · exact absurd hr (by simp)
  rename_i hhra
  refine ⟨by simpa using hhra, ?_⟩
  split at hr
  · rename_i hn; exact Or.inl ⟨hn, (Option.some.inj hr).symm⟩
  rename_i hn
  split at hr
  · rename_i hc; exact Or.inr ⟨hn, Or.inl ⟨hc, (Option.some.inj hr).symm⟩⟩
  · rename_i hc; exact Or.inr ⟨hn, Or.inr ⟨Nat.not_le.1 hc, (Option.some.inj hr).symm⟩⟩

theorem merge_eq_none {T : Tun} {F : SecFns ρ} {s o : Sketch ρ} {acc : Acc} : s.merge T F o acc = none ↔ (s.hra != o.hra) = true := by
  simp only [Sketch.merge]
  split
  · rename_i h; exact ⟨fun _ => h, fun _ => rfl⟩
  · rename_i h
    refine ⟨fun hm => ?_, fun h' => absurd h' h⟩
    split at hm
    · exact nomatch hm
    · split at hm <;> exact nomatch hm

theorem weightP_eq_zero_of_items_nil (p : Int → Bool) (cs : List (Compactor ρ)) (h : ∀ c ∈ cs, c.items = []) : weightP p cs = 0 := by
  induction cs with
  | nil => rfl
  | cons c t ih =>
    obtain ⟨hc, ht⟩ := List.forall_mem_cons.1 h
    rw [weightP_cons, hc, ih ht, cntP_nil, Nat.zero_mul]

theorem sumItems_eq_zero_of_items_nil (cs : List (Compactor ρ)) (h : ∀ c ∈ cs, c.items = []) : sumItems cs = 0 := by
  induction cs with
  | nil => rfl
  | cons c t ih =>
    obtain ⟨hc, ht⟩ := List.forall_mem_cons.1 h
    rw [sumItems_cons, hc, ih ht]; rfl

theorem mergePre_spec {T : Tun} (hT : TunOK T) (F : SecFns ρ) (s o : Sketch ρ) (acc : Acc) (hs : SInv T s) (ho : SInv T o)
    (hhra' : s.hra = o.hra) (hn0 : ¬ o.n = 0) :
    SkSpec T (entered0 o) s acc (s.mergePre T F o acc) ∧ (s.mergePre T F o acc).1.n = s.n + o.n := by
  simp only [Sketch.mergePre]
  obtain ⟨g, gthr⟩ := growTo_spec hT F o.compactors.length o.compactors.length s acc (by omega) hs.cs hs.k2
  generalize (growTo T F o.compactors.length o.compactors.length s acc).1 = s1 at g ⊢
  obtain ⟨extra, he1, he2, he3⟩ := g.shape
  obtain ⟨sc, st, hsc⟩ := List.exists_cons_of_ne_nil hs.nonnil
  have hocs : CsInv T s.hra 0 o.compactors := by rw [hhra']; exact ho.cs
  have ml := mergeLevels_spec hT F 0 s1.compactors o.compactors g.inv hocs g.ge
  have hex : ExactL (mergeLevels T F s1.compactors o.compactors) := by
    refine ml.ex (fun c hc => ?_) ho.ex
    have : extra = [] := by
      have := congrArg List.length (he1.symm.trans hc)
      rw [hsc] at this; exact (by simpa using this : st = [] ∧ extra = []).2
    exact hs.ex c (by rw [← hc, he1, this, List.append_nil])
  generalize mergeLevels T F s1.compactors o.compactors = cs at ml hex ⊢
  have hs1tw : totalW s1.compactors = s.n := by
    rw [he1, totalW, weightP_append, weightP_eq_zero_of_items_nil _ extra he2, hs.tw]; rfl
  have hdrop : AllNE (s1.compactors.drop o.compactors.length) := by
    by_cases hex : extra = []
    · rw [he1, hex, List.append_nil]
      by_cases hsn : s.n = 0
      · rw [List.drop_eq_nil_of_le ((hs.one hsn).symm ▸ List.length_pos_iff.2 ho.nonnil)]; exact AllNE_nil
      · intro c hc; exact hs.ne hsn c (List.mem_of_mem_drop hc)
    · rw [List.drop_eq_nil_of_le (Nat.le_of_eq (he3 hex))]; exact AllNE_nil
  have hent : entered0L cs = entered0 o ++ entered0 s := by
    rw [ml.ent ho.nonnil, he1, entered0, entered0, hsc]; rfl
  have hcsnn : cs ≠ [] := List.ne_nil_of_length_pos (ml.len ▸ Nat.lt_of_lt_of_le (List.length_pos_iff.2 ho.nonnil) g.ge)
  refine ⟨⟨⟨(g.k ▸ hs.k2 : 2 ≤ s1.k), (g.hra ▸ ml.inv : CsInv T s1.hra 0 cs), hcsnn, rfl, rfl, ?_, fun _ => ml.ne (ho.ne hn0) hdrop,
    fun h0 => absurd (Nat.eq_zero_of_add_eq_zero_left h0) hn0, ?_, (hent ▸ IsMin_append hs.mn ho.mn : IsMin _ (entered0L cs)),
    (hent ▸ IsMax_append hs.mx ho.mx : IsMax _ (entered0L cs)), hex⟩, gthr, hent, g.hra⟩, trivial⟩
  · show s.n + o.n = totalW cs; rw [totalW, ml.wp, ← totalW, hs1tw, ho.tw]; rfl
  · show s.n + o.n = (entered0L cs).length
    rw [hent, List.length_append, ← hs.ent, ← ho.ent, Nat.add_comm]

theorem merge_spec {T : Tun} (hT : TunOK T) (F : SecFns ρ) (s o : Sketch ρ) (acc : Acc) (hs : SInv T s) (ho : SInv T o)
    (r : Sketch ρ × Acc) (hr : s.merge T F o acc = some r) :
    SkSpec T (entered0 o) s acc r ∧ s.hra = o.hra := by
  obtain ⟨hhra, ⟨hn0, rfl⟩ | ⟨hn0, hr⟩⟩ := merge_some hr
  · have : entered0 o = [] := List.length_eq_zero_iff.1 (hn0 ▸ ho.ent).symm
    exact ⟨⟨hs, rfl, by simp [this], rfl⟩, hhra⟩
  obtain ⟨hp, hn2⟩ := mergePre_spec hT F s o acc hs ho hhra hn0
  rcases hr with ⟨_, rfl⟩ | ⟨_, rfl⟩
  · exact ⟨hp.trans (compress_spec hT F _ _ hp.inv (by rw [hn2]; omega)), hhra⟩
  · exact ⟨hp, hhra⟩

end DS.Req
