/- Helper lemmas for the CPC wire image of Props/C09_Cpc .. C11_Cpc.
(`Lemmas/CpcWire.lean`, namespace `DS.Cpc`, belongs to the other CPC image model, `DSModel/Cpc/Wire.lean` of C05, which has
its own little-endian fields.) -/
import DSProofs.Lemmas.Wire
import DSModel.Wire.Cpc
namespace DS.Wire.Cpc
open DS.Wire DS.Wire.Reader

theorem guard_true (b : Bytes) : guard true b = some ((), b) := rfl

theorem length_encWords (ws : List Nat) : (encWords ws).length = 4 * ws.length :=
  (length_elementwise rfl (fun _ _ => List.flatMap_cons) ws fun x _ => length_w32 x).trans (Nat.mul_comm ..)

theorem repeatN_u32_encWords (ws : List Nat) (h : ∀ w ∈ ws, w < 2 ^ 32) (r : Bytes) :
    repeatN u32 ws.length (encWords ws ++ r) = some (ws, r) :=
  repeatN_enc u32_w32 rfl (fun _ _ => List.flatMap_cons) ws r h

theorem flags_rt (c : Consts) (hc : c.ok) (h t w : Bool) :
    flagsByte c h t w < 2 ^ 8 ∧ testFlag (flagsByte c h t w) c.flagHip = h ∧
    testFlag (flagsByte c h t w) c.flagTable = t ∧ testFlag (flagsByte c h t w) c.flagWindow = w := by
  have hb : ∀ b : Bool, b ∈ [false, true] := fun b => by cases b <;> simp
  have := List.all_eq_true.1 (List.all_eq_true.1 (List.all_eq_true.1 hc.2.2.1 h (hb h)) t (hb t)) w (hb w)
  simpa only [Bool.and_eq_true, decide_eq_true_eq, beq_iff_eq, and_assoc] using this

theorem preInts_lt (c : Consts) (hc : c.ok) (n : Nat) (h t w : Bool) : preInts c n h t w < 2 ^ 8 := by
  have le : ∀ (b : Bool) (x : Nat), (if b then x else 0) ≤ x := fun b x => by cases b <;> simp
  have hsum := hc.2.2.2
  rw [preInts]
  by_cases h0 : n = 0
  · rw [if_pos h0]; omega
  · -- every optional field adds at most its own constant
    rw [if_neg h0]
    have := le h c.preHip
    have := le t (c.preTable + if w then c.preBoth else 0)
    have := le w c.preBoth
    have := le w c.preWindow
    omega

theorem decOpt32_enc (p : Bool) (x : Nat) (hx : x < 2 ^ 32) (r : Bytes) :
    decOpt32 p ((if p then w32 x else []) ++ r) = some (if p then x else 0, r) := by
  cases p
  · rfl
  · exact u32_w32 x hx r

theorem decHip_enc (p : Bool) (s : Image) (hk : s.kxp < 2 ^ 64) (hh : s.hip < 2 ^ 64) (r : Bytes) :
    decHip p ((if p then encHip s else []) ++ r) = some (if p then (s.kxp, s.hip) else (0, 0), r) := by
  cases p
  · rfl
  · simp only [decHip, encHip, if_true, List.append_assoc, Reader.bind, u64_w64 _ hk, u64_w64 _ hh, Reader.pure]

theorem ite_eq_of_default {p : Bool} {x : Nat} (h : p = false → x = 0) : (if p = true then x else 0) = x := by
  cases p
  · exact (h rfl).symm
  · rfl

/-- the variable part reads back: field by field, then the stored defaults of the absent fields -/
theorem decBody_enc (s : Image) (hs : WF s) (tail : Bytes) :
    decBody s.hasHip s.hasTable s.hasWindow (encBody s ++ tail)
      = some ((s.coupons, s.numEntries, s.kxp, s.hip, s.windowWords, s.tableWords), tail) := by
  obtain ⟨_, _, _, hc, hne, hk, hh, hwl, htl, hww, htw, ht0, hw0, hne0, hc0, _, hh0⟩ := hs
  unfold decBody encBody
  cases hany : s.hasTable || s.hasWindow
  · have hTW := Bool.or_eq_false_iff.1 hany
    have := hh0 (by rw [hany, Bool.and_false])
    simp only [Bool.false_eq_true, if_false, List.nil_append, Reader.pure, hc0 hany, hne0 (by rw [hTW.1, Bool.false_and]),
      this.1, this.2, ht0 hTW.1, hw0 hTW.2]
  · have hsplit : (if (s.hasTable && s.hasWindow) = true then w32 s.numEntries ++ (if s.hasHip = true then encHip s else []) else [])
        = (if (s.hasTable && s.hasWindow) = true then w32 s.numEntries else []) ++
          (if (s.hasHip && (s.hasTable && s.hasWindow)) = true then encHip s else []) := by
      cases s.hasTable && s.hasWindow <;> simp
    have hw := ite_eq_of_default (fun h => by rw [hw0 h]; rfl : s.hasWindow = false → s.windowWords.length = 0)
    have ht := ite_eq_of_default (fun h => by rw [ht0 h]; rfl : s.hasTable = false → s.tableWords.length = 0)
    simp only [if_true, hsplit, List.append_assoc, Reader.bind, u32_w32 _ hc, decOpt32_enc _ _ hne, decOpt32_enc _ _ htl,
      decOpt32_enc _ _ hwl, decHip_enc _ s hk hh, hw, ht, repeatN_u32_encWords _ hww, repeatN_u32_encWords _ htw, Reader.pure]
    rw [ite_eq_of_default hne0]
    cases hH : s.hasHip
    · obtain ⟨k0, h0⟩ := hh0 (by rw [hH, Bool.false_and])
      simp [k0, h0]
    · cases s.hasTable && s.hasWindow <;> simp

theorem PS_decOpt32 (p : Bool) : PS (decOpt32 p) := PS_ite _ _ _ (PS_leNat 4) (PS_pure _)

theorem PS_decHip (p : Bool) : PS (decHip p) :=
  PS_ite _ _ _ (PS_bind _ _ (PS_leNat 8) fun _ => PS_bind _ _ (PS_leNat 8) fun _ => PS_pure _) (PS_pure _)

theorem words_within (n : Nat) : Within 1 0 (repeatN u32 n) fun l => 4 * l.length :=
  (Within_repeatN (Within_leNat 4) n).mono fun l => by
    rw [List.map_const', List.sum_replicate_nat]; exact Nat.le_of_eq (Nat.mul_comm ..)

theorem decBody_within (p t w : Bool) :
    Within 1 0 (decBody p t w) fun (_, _, _, _, wwords, twords) => 4 * (wwords.length + twords.length) := by
  unfold decBody
  split
  · exact Within_pass (PS_leNat 4) fun _ => Within_pass (PS_decOpt32 _) fun _ => Within_pass (PS_decHip _) fun _ =>
      Within_pass (PS_decOpt32 _) fun _ => Within_pass (PS_decOpt32 _) fun _ => Within_pass (PS_decHip _) fun _ =>
      Within_bind (words_within _) fun _ => Within_bind (words_within _) fun _ =>
      Within_pure (by rw [Nat.zero_add, ← Nat.mul_add]; exact Nat.le_refl _)
  · exact Within_pure (Nat.le_refl 0)

theorem decode_within (c : Consts) : Within 1 0 (decode c) fun s => 4 * count s :=
  Within_pass (PS_leNat 1) fun _ => Within_pass (PS_leNat 1) fun _ => Post_guard fun _ =>
  Within_pass (PS_leNat 1) fun _ => Post_guard fun _ => Within_pass (PS_leNat 1) fun _ =>
  Within_pass (PS_leNat 1) fun _ => Within_pass (PS_leNat 1) fun _ => Post_guard fun _ =>
  Within_pass (PS_leNat 2) fun _ => Within_bind (decBody_within _ _ _) fun _ => Post_guard fun _ =>
  Within_pure (by rw [Nat.zero_add]; exact Nat.le_refl _)

end DS.Wire.Cpc
