/-
`packFields` / `unpackFields` split into whole blocks of 8 fields (exactly `eb` bytes each: what the unrolled routines
handle) and a tail: `packBlocksWith_eq`, `unpackBlocksWith_eq`, for any block routine that is the specification on 8 fields.
-/
import DSProofs.Lemmas.BitPack
namespace DS.Wire.BitPack

theorem bytesForBits_add (eb x : Nat) : bytesForBits (eb * 8 + x) = eb + bytesForBits x := by
  rw [bytesForBits, Nat.add_assoc, Nat.add_comm, Nat.add_mul_div_right _ _ (by decide), Nat.add_comm]; rfl

theorem bytesForBits_mul_eight (eb : Nat) : bytesForBits (eb * 8) = eb :=
  bytesForBits_add eb 0

theorem splitFields_lt_len (eb n x : Nat) (l : List Nat) (h : splitFields eb n x = l) : l.length = n := by
  rw [← h, length_splitFields]

/-- the padding of a stream is that of what follows a whole block of 8 fields -/
theorem pad_block (eb m : Nat) : 8 * (eb + bytesForBits (eb * m)) - eb * (8 + m) = 8 * bytesForBits (eb * m) - eb * m := by
  rw [Nat.mul_add, Nat.mul_add, Nat.mul_comm 8 eb, Nat.add_sub_add_left]

theorem packFields_eight (eb : Nat) (l : List Nat) (h8 : l.length = 8) : packFields eb l = wBe eb (joinFields eb l) := by
  rw [packFields, h8, bytesForBits_mul_eight, Nat.mul_comm eb 8, Nat.sub_self, Nat.pow_zero, Nat.mul_one]

theorem unpackFields_eight (eb : Nat) (b : Bytes) (hb : b.length = eb) : unpackFields eb 8 b = splitFields eb 8 (beNat b) := by
  rw [unpackFields, hb, Nat.mul_comm eb 8, Nat.sub_self, Nat.pow_zero, Nat.div_one]

theorem packFields_block (eb : Nat) (l1 l2 : List Nat) (h8 : l1.length = 8) (h2 : ∀ d ∈ l2, d < 2 ^ eb) :
    packFields eb (l1 ++ l2) = packFields eb l1 ++ packFields eb l2 := by
  rw [packFields_eight eb l1 h8, packFields, packFields, List.length_append, h8, Nat.mul_add, bytesForBits_add, ← Nat.mul_add, pad_block,
    joinFields_append, wBe_eq_map, wBe_eq_map, wBe_eq_map, ← List.map_append]
  congr 1
  -- with Ji = joinFields eb li, m = l2.length, L2 = bytesForBits (eb·m), pad = 8·L2 - eb·m:
  -- (J1·2^(eb·m) + J2)·2^pad = J1·2^(8·L2) + J2·2^pad
  rw [Nat.add_mul, Nat.mul_assoc, two_pow_pad, ← two_pow_8_mul]
  exact splitFields_append 8 _ _ _ _ (two_pow_8_mul _ ▸ joinFields_pad_lt eb l2 h2)

theorem packBlocksWith_eq (pack8 : List Nat → Bytes) (eb : Nat)
    (h8 : ∀ l, l.length = 8 → (∀ v ∈ l, v < 2 ^ eb) → pack8 l = packFields eb l) :
    ∀ ds, (∀ d ∈ ds, d < 2 ^ eb) → packBlocksWith pack8 eb ds = packFields eb ds := by
  intro ds
  induction ds using packBlocksWith.induct with
  | case1 a b c d e f g h rest ih =>
    intro hd
    have hrest : ∀ v ∈ rest, v < 2 ^ eb := fun v hv => hd v (List.mem_append_right [a, b, c, d, e, f, g, h] hv)
    rw [packBlocksWith, h8 _ rfl fun v hv => hd v (List.mem_append_left rest hv), ih hrest]
    exact (packFields_block eb [a, b, c, d, e, f, g, h] rest rfl hrest).symm
  | case2 tail hne =>
    intro _
    rw [packBlocksWith]
    exact hne

theorem unpackFields_block (eb m : Nat) (b1 b2 : Bytes) (h1 : b1.length = eb) (h2 : b2.length = bytesForBits (eb * m)) :
    unpackFields eb (8 + m) (b1 ++ b2) = unpackFields eb 8 b1 ++ unpackFields eb m b2 := by
  have hlt : beNat b2 / 2 ^ (8 * bytesForBits (eb * m) - eb * m) < 2 ^ (eb * m) := by
    rw [Nat.div_lt_iff_lt_mul (Nat.two_pow_pos _), two_pow_pad, ← h2]
    exact beNat_lt b2
  rw [unpackFields_eight eb b1 h1, unpackFields, unpackFields, List.length_append, h1, h2, pad_block, beNat_append, h2, ← two_pow_pad,
    ← Nat.mul_assoc, Nat.add_comm _ (beNat b2), Nat.add_mul_div_right _ _ (Nat.two_pow_pos _), Nat.add_comm _ (beNat b1 * _)]
  exact splitFields_append eb 8 m _ _ hlt

theorem unpackBlocksWith_lt (unpack8 : Bytes → List Nat) (eb n : Nat) (bs : Bytes) (h : n < 8) :
    unpackBlocksWith unpack8 eb n bs = unpackFields eb n bs := by
  rw [unpackBlocksWith]; intro m hm; omega

theorem unpackBlocksWith_eq (unpack8 : Bytes → List Nat) (eb : Nat) (h8 : ∀ b, b.length = eb → unpack8 b = unpackFields eb 8 b) :
    ∀ n bs, bs.length = bytesForBits (eb * n) → unpackBlocksWith unpack8 eb n bs = unpackFields eb n bs := by
  intro n bs
  fun_induction unpackBlocksWith unpack8 eb n bs with
  | case1 n bs ih =>
    intro (hlen : bs.length = bytesForBits (eb * (n + 8)))
    rw [Nat.mul_add, Nat.add_comm, bytesForBits_add] at hlen
    have ht : (bs.take eb).length = eb := by rw [List.length_take]; omega
    have hd : (bs.drop eb).length = bytesForBits (eb * n) := by rw [List.length_drop]; omega
    rw [h8 _ ht, ih hd, ← unpackFields_block eb n _ _ ht hd, List.take_append_drop, Nat.add_comm]
  | case2 n bs hne => exact fun _ => rfl

end DS.Wire.BitPack
