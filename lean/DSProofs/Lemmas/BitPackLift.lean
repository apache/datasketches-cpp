/-
From the kernel-evaluated obligation `bitpack_layouts_ok` (Gen/BitPack.lean, which this module therefore imports) to the
CONCRETE evaluation of every routine translated on this run, on all inputs, and to the block routines `irPack8` / `irUnpack8`
of DSModel/Wire/ThetaV4IR.lean (dispatcher, translated routine, C evaluation): on 8 fields they are the specification.
-/
import DSProofs.Gen.BitPack
import DSProofs.Lemmas.BitPackSoundUnpack
import DSProofs.Lemmas.BitPackBlocks
import DSModel.Wire.ThetaV4IR
namespace DS.Wire.BitPack
open DSGen.BitPackIR

/-- a width 1..63 whose status is not 0 is listed, with that status, in its half of `deviations` (the `filterMap` below is that
half, word for word, for `status` = `packStatus packR` or `unpackStatus unpackR`) -/
theorem mem_statusList (b : Bool) (status : Nat → Nat) (n : Nat) (h1 : 1 ≤ n) (h63 : n ≤ 63) (hs : status n ≠ 0) :
    (b, n, status n) ∈ (List.range 63).filterMap fun i =>
      let s := status (i + 1)
      if s = 0 then none else some (b, i + 1, s) := by
  rw [List.mem_filterMap]
  refine ⟨n - 1, List.mem_range.2 (by omega), ?_⟩
  simp only [Nat.sub_add_cancel h1, hs, ↓reduceIte]

theorem status_of_layouts_ok (n : Nat) (h1 : 1 ≤ n) (h63 : n ≤ 63) :
    (packStatus packRoutines n = 0 ∨ (n = 19 ∧ packStatus packRoutines n = 1)) ∧ unpackStatus unpackRoutines n = 0 := by
  have only19 : ∀ x ∈ deviations packRoutines unpackRoutines, x = (true, 19, 1) := fun x hx => by
    rcases bitpack_layouts_ok.1 with hd | hd <;> rw [currentDeviations] at hd <;> rw [hd] at hx
    · cases hx
    · exact List.mem_singleton.1 hx
  constructor
  · by_cases hs : packStatus packRoutines n = 0
    · exact .inl hs
    · have := only19 _ (List.mem_append_left _ (mem_statusList true (packStatus packRoutines) n h1 h63 hs))
      exact .inr ⟨congrArg (·.2.1) this, congrArg (·.2.2) this⟩
  · refine Decidable.by_contra fun hs => ?_
    have := only19 _ (List.mem_append_right _ (mem_statusList false (unpackStatus unpackRoutines) n h1 h63 hs))
    exact Bool.false_ne_true (congrArg (·.1) this)

theorem packStatus_zero (packR : List (Nat × List PStmt)) (n : Nat) (h : packStatus packR n = 0) :
    ∃ st, lookupNat n packR = some st ∧ symPack n st = some (specPackLayout n) := by
  unfold packStatus at h
  split at h
  · rename_i st hl
    refine ⟨st, hl, ?_⟩
    split at h
    · exact eq_of_beq ‹_›
    · split at h <;> cases h
  · cases h

theorem packStatus_one (packR : List (Nat × List PStmt)) (n : Nat) (h : packStatus packR n = 1) :
    ∃ st, lookupNat n packR = some st ∧ symPackInit .zero n st = some (specPackLayout n) := by
  unfold packStatus at h
  split at h
  · rename_i st hl
    refine ⟨st, hl, ?_⟩
    split at h
    · cases h
    · split at h
      · exact eq_of_beq ‹_›
      · cases h
  · cases h

theorem unpackStatus_zero (unpackR : List (Nat × List UStmt)) (n : Nat) (h : unpackStatus unpackR n = 0) :
    ∃ st, lookupNat n unpackR = some st ∧ symUnpack n st = some (specUnpackLayout n) := by
  unfold unpackStatus at h
  split at h
  · rename_i st hl
    refine ⟨st, hl, ?_⟩
    split at h
    · exact eq_of_beq ‹_›
    · cases h
  · cases h

/-- every translated `pack_bits_n` (n = 1..63), run with C semantics on a zero-filled n-byte block, writes the documented
bytes for all 8 values below 2^n -/
theorem pack_eval_zero_filled (n : Nat) (h1 : 1 ≤ n) (h63 : n ≤ 63) (vals : List Nat) (hlen : vals.length = 8) (hv : ∀ v ∈ vals, v < 2 ^ n)
    (mem0 : List Nat) (hm : mem0.length = n) (hz : ∀ x ∈ mem0, x = 0) :
    ∃ pk, lookupNat n packRoutines = some pk ∧ evalPack pk vals mem0 = some (splitFields 8 n (joinFields n vals)) := by
  have hb : ∀ x ∈ mem0, x < 256 := fun x hx => by rw [hz x hx]; decide
  rcases (status_of_layouts_ok n h1 h63).1 with h0 | ⟨_, hs1⟩
  · obtain ⟨pk, hl, hsym⟩ := packStatus_zero packRoutines n h0
    exact ⟨pk, hl, pack_sound n pk .bad hsym vals hlen hv mem0 hm hb (Or.inl rfl)⟩
  · obtain ⟨pk, hl, hsym⟩ := packStatus_one packRoutines n hs1
    exact ⟨pk, hl, pack_sound n pk .zero hsym vals hlen hv mem0 hm hb (Or.inr ⟨rfl, hz⟩)⟩

/-- ... and on ANY previous content of the block, for every width whose routine has no recorded deviation -/
theorem pack_eval_any_block (n : Nat) (h0 : packStatus packRoutines n = 0) (vals : List Nat) (hlen : vals.length = 8) (hv : ∀ v ∈ vals, v < 2 ^ n)
    (mem0 : List Nat) (hm : mem0.length = n) (hb : ∀ x ∈ mem0, x < 256) :
    ∃ pk, lookupNat n packRoutines = some pk ∧ evalPack pk vals mem0 = some (splitFields 8 n (joinFields n vals)) := by
  obtain ⟨pk, hl, hsym⟩ := packStatus_zero packRoutines n h0
  exact ⟨pk, hl, pack_sound n pk .bad hsym vals hlen hv mem0 hm hb (Or.inl rfl)⟩

/-- every translated `unpack_bits_n` (n = 1..63) computes the 8 fields of any n-byte block -/
theorem unpack_eval (n : Nat) (h1 : 1 ≤ n) (h63 : n ≤ 63) (mem : List Nat) (hm : mem.length = n) (hb : ∀ x ∈ mem, x < 256)
    (vals0 : List Nat) (h0 : vals0.length = 8) (hv0 : ∀ v ∈ vals0, v < 2 ^ 64) :
    ∃ up, lookupNat n unpackRoutines = some up ∧ evalUnpack up mem vals0 = some (splitFields n 8 (joinFields 8 mem)) := by
  obtain ⟨up, hl, hsym⟩ := unpackStatus_zero unpackRoutines n (status_of_layouts_ok n h1 h63).2
  exact ⟨up, hl, unpack_sound n (by omega) up hsym mem hm hb vals0 h0 hv0⟩

/-- the dispatchers: `pack_bits_block8(values, ptr, n)` / `unpack_bits_block8` call routine n -/
theorem dispatch_eval (n : Nat) (h1 : 1 ≤ n) (h63 : n ≤ 63) : lookupNat n packDispatch = some n ∧ lookupNat n unpackDispatch = some n := by
  have hd := bitpack_layouts_ok.2
  rw [dispatchOk, Bool.and_eq_true, Bool.and_eq_true, List.all_eq_true] at hd
  have := hd.1.1 (n - 1) (List.mem_range.2 (by omega))
  rwa [Nat.sub_add_cancel h1, Bool.and_eq_true, beq_iff_eq, beq_iff_eq] at this

theorem irPack8_eq (n : Nat) (h1 : 1 ≤ n) (h63 : n ≤ 63) (l : List Nat) (h8 : l.length = 8) (hv : ∀ v ∈ l, v < 2 ^ n) :
    irPack8 n l = packFields n l := by
  obtain ⟨pk, hl, he⟩ := pack_eval_zero_filled n h1 h63 l h8 hv (List.replicate n 0) List.length_replicate
    fun x hx => (List.mem_replicate.1 hx).2
  rw [irPack8, (dispatch_eval n h1 h63).1]
  simp only [hl, he]
  rw [packFields_eight n l h8, wBe_eq_map]

theorem irUnpack8_eq (n : Nat) (h1 : 1 ≤ n) (h63 : n ≤ 63) (b : Bytes) (hb : b.length = n) : irUnpack8 n b = unpackFields n 8 b := by
  obtain ⟨up, hl, he⟩ := unpack_eval n h1 h63 (b.map (·.toNat)) (by rw [List.length_map, hb])
    (fun x hx => by obtain ⟨y, _, rfl⟩ := List.mem_map.1 hx; exact y.toNat_lt)
    (List.replicate 8 0) List.length_replicate fun x hx => (List.mem_replicate.1 hx).2 ▸ Nat.two_pow_pos _
  rw [irUnpack8, (dispatch_eval n h1 h63).2]
  simp only [hl, he]
  rw [unpackFields_eight n b hb, beNat_eq_joinFields]

end DS.Wire.BitPack
