/- C06, obligations over the GENERATED tables, the bit patterns: for every floating-point element `(bits, num, den)` emitted by the
   translator, `bits` IS the IEEE-754 binary64 round-to-nearest-even image of the exact source value num/den.
   `rn64` is computed by the kernel (`decide +kernel`, no axioms), so the Float side of every table (and of every
   literal written in the hand model, `bodyLits`) is tied to its exact rational side without trusting Python. -/
import DSModel.Bounds.Num
import DSGen.Bounds
import DSGen.BoundsHll
import DSGen.BoundsHllComposite
import DSGen.BoundsCpc
namespace DS.Bounds.Gen

/-- round-to-nearest-even of num/den to binary64 (normal range; 2^64 = "not representable as a normal double") -/
def rn64 (num : Int) (den : Nat) : Nat :=
  if num = 0 then 0 else
  if den = 0 then 2 ^ 64 else
  let a := num.natAbs
  let s := if num < 0 then 2 ^ 63 else 0
  let la := Nat.log2 a
  let ld := Nat.log2 den
  let ge : Bool := if la ≥ ld then decide (a ≥ den <<< (la - ld)) else decide (a <<< (ld - la) ≥ den)
  -- E = e + 1100 where 2^e ≤ a/den < 2^(e+1)
  let E := la + 1100 - ld - (if ge then 0 else 1)
  -- scale so that the quotient has 53 bits: m = round (a / den / 2^(e-52))
  let p := if E ≥ 1152 then a else a <<< (1152 - E)
  let q := if E ≥ 1152 then den <<< (E - 1152) else den
  let m := p / q
  let r := p % q
  let up : Bool := decide (2 * r > q) || (decide (2 * r = q) && m % 2 == 1)
  let m1 := if up then m + 1 else m
  let m2 := if m1 = 2 ^ 53 then 2 ^ 52 else m1
  let E2 := if m1 = 2 ^ 53 then E + 1 else E
  -- biased exponent = e + 1023 = E2 - 77
  if E2 ≤ 77 ∨ E2 ≥ 77 + 2047 then 2 ^ 64
  else s + (E2 - 77) * 2 ^ 52 + (m2 - 2 ^ 52)

def bitsOk (t : Lit) : Bool := rn64 t.2.1 t.2.2 == t.1

example : rn64 1 1 = 0x3ff0000000000000 := by decide +kernel
example : rn64 1 10 = 0x3fb999999999999a := by decide +kernel
example : rn64 (-1) 3 = 0xbfd5555555555555 := by decide +kernel
example : rn64 1 (2 ^ 255) = (1023 - 255) * 2 ^ 52 := by decide +kernel

theorem bodyLits_bits : DS.Bounds.bodyLits.all bitsOk = true := by decide +kernel

open DSGen.Bounds
theorem deltaOfNumStdDevs_bits : deltaOfNumStdDevs.all bitsOk = true := by decide +kernel
theorem lbEquivTable_bits : lbEquivTable.all bitsOk = true := by decide +kernel
theorem ubEquivTable_bits : ubEquivTable.all bitsOk = true := by decide +kernel
theorem cubicXArr_bits : cubicXArr.all bitsOk = true := by decide +kernel
theorem cubicYArr_bits : cubicYArr.all bitsOk = true := by decide +kernel
theorem harmonicTable_bits : harmonicTable.all bitsOk = true := by decide +kernel
theorem relErr_bits : (relErrHipLb ++ relErrHipUb ++ relErrNonHipLb ++ relErrNonHipUb).all bitsOk = true := by decide +kernel
theorem hllConsts_bits : [eulerMascheroni, hllHipRseFactor, hllNonHipRseFactor, couponRseFactor, couponRse].all bitsOk = true := by
  decide +kernel
theorem compositeXArr_bits : compositeXArr.all (fun row => row.all bitsOk) = true := by decide +kernel
theorem iconCoefficients_bits : iconCoefficients.all bitsOk = true := by decide +kernel
theorem cpcConsts_bits : [iconErrorConstant, hipErrorConstant].all bitsOk = true := by decide +kernel
theorem invPow2_bits : invPow2.all bitsOk = true := by decide +kernel
theorem kxpByteTable_bits : kxpByteTable.all bitsOk = true := by decide +kernel

end DS.Bounds.Gen
