/- The union gadget on the repaired source shape (copy_or_downsample rebuilds the counters, reset() returns to lg_max_k): every
history, including precision reduction.  `GInvR` is the invariant `GI` of Lemmas/HllGadget.lean together with: an HLL-mode gadget
holds a nonzero coupon, written out as the structure that Props/C04_Repaired states. -/
import DSProofs.Lemmas.HllUnionInv
namespace DS.Hll

variable {ν : Type} [HNum ν]

/-- the union gadget on the repaired source shape, along every history: the fields of `GI` (Lemmas/HllGadget.lean) and one more
fact, an HLL-mode gadget holds a nonzero coupon, so that it cannot report empty before or after a down-sampling.  A structure of
its own because Props/C04_Repaired states it; the proofs convert at once (`GInvR.toGI`, `GI.toGInvR`).  As in `GInv`, `cs'` can
always be taken to be `cs`. -/
structure GInvR (p : Params) (lgMaxK : Nat) (g : St ν) (cs : List Nat) (L : Nat) : Prop where
  lgk : g.lgK = L
  le : L ≤ lgMaxK
  tt8 : g.tt = .h8
  pos : ∀ c, c ∈ cs → c ≠ 0 → 0 < cValue p c
  nonhll : g.mode ≠ .hll → L = lgMaxK ∧ ∃ cs', RInv p lgMaxK g cs' ∧ ∀ c, c ≠ 0 → (c ∈ cs' ↔ c ∈ cs)
  hll : g.mode = .hll → GH p g (fun c => c ∈ cs ∧ c ≠ 0) ∧ ∃ c, c ∈ cs ∧ c ≠ 0

theorem GInvR.toGI {p : Params} {K L : Nat} {g : St ν} {cs : List Nat} (h : GInvR p K g cs L) : GI p K g cs L :=
  ⟨h.lgk, h.le, h.tt8, h.pos, fun hm => ⟨(h.nonhll hm).1, (h.nonhll hm).2.elim fun _ x => x.1.congr_nz x.2⟩,
    fun hm => (h.hll hm).1⟩

theorem GInvR.wit {p : Params} {K L : Nat} {g : St ν} {cs : List Nat} (h : GInvR p K g cs L) (hm : g.mode = .hll) :
    ∃ c, c ∈ cs ∧ c ≠ 0 := (h.hll hm).2

theorem GI.toGInvR {p : Params} {K L : Nat} {g : St ν} {cs : List Nat} (h : GI p K g cs L)
    (hw : g.mode = .hll → ∃ c, c ∈ cs ∧ c ≠ 0) : GInvR p K g cs L :=
  ⟨h.lgk, h.le, h.tt8, h.pos, fun hm => ⟨(h.nonhll hm).1, cs, (h.nonhll hm).2, fun _ _ => Iff.rfl⟩,
    fun hm => ⟨h.hll hm, hw hm⟩⟩

theorem GInvR.new (p : Params) (lgMaxK : Nat) : GInvR p lgMaxK (newSketch p lgMaxK .h8 false : St ν) [] lgMaxK :=
  (GI.new p lgMaxK).toGInvR fun hm => by simp [newSketch, newList] at hm

theorem GInvR.coupon {p : Params} (hp : p.listFitsSet) {lgMaxK L : Nat} {g : St ν} {cs : List Nat} (h : GInvR p lgMaxK g cs L)
    (c : Nat) (hc : c ≠ 0 → 0 < cValue p c) : GInvR p lgMaxK (couponUpdate p g c) (cs ++ [c]) L := by
  refine (h.toGI.coupon hp c hc).toGInvR fun hm => ?_
  -- the gadget held a nonzero coupon before, or has just got one
  by_cases hc0 : c = 0
  · have e : couponUpdate p g c = g := by unfold couponUpdate; rw [if_pos hc0]
    exact (h.wit (e ▸ hm)).imp fun x hx => ⟨List.mem_append_left _ hx.1, hx.2⟩
  · exact ⟨c, by simp, hc0⟩

/-- genuine inputs: lg_k within the coupon key width, every nonzero coupon has a positive value (as `HllUtil::coupon` gives) -/
def WFops (p : Params) (ops : List UOp) : Prop :=
  ∀ op, op ∈ ops → match op with
    | .merge d _ => d.lgK ≤ p.keyBits ∧ ∀ c, c ∈ d.cs → c ≠ 0 → 0 < cValue p c
    | .coupon c => c ≠ 0 → 0 < cValue p c
    | _ => True

/-- min(lg_max_k, lg_k of every non-empty HLL-mode input since the last reset): the model's `lgkStep` (fixed at `St Unit`) for the
numeric instance ν; one step is `lgkUpd` (`expectedLgKG_unit` in Props/C04_Repaired ties the two) -/
def lgkStepG (ν : Type) [HNum ν] (p : Params) (lgMaxK : Nat) (acc : Nat) : UOp → Nat
  | .merge d _ => lgkUpd acc (d.build p : St ν)
  | .reset => lgMaxK
  | _ => acc

def expectedLgKG (ν : Type) [HNum ν] (p : Params) (lgMaxK : Nat) (ops : List UOp) : Nat :=
  ops.foldl (lgkStepG ν p lgMaxK) lgMaxK

theorem uStepF_lgMaxK (p : Params) (u : Un ν) (op : UOp) : (uStepF p u op).lgMaxK = u.lgMaxK := by
  cases op with
  | merge d rv =>
    cases rv with
    | false => exact unionUpdateF_lgMaxK p u _
    | true => exact unionUpdateRvF_lgMaxK p u _
  | reset =>
    show (unionResetF p u).lgMaxK = _
    unfold unionResetF
    simp only [apply_ite Un.lgMaxK, unionReset, ite_self]
  | _ => rfl

theorem uRunF_lgMaxK (p : Params) : ∀ (ops : List UOp) (u : Un ν), (uRunF p u ops).lgMaxK = u.lgMaxK
  | [], _ => rfl
  | op :: ops, u => (uRunF_lgMaxK p ops (uStepF p u op)).trans (uStepF_lgMaxK p u op)

theorem GInvR.of_uRunF (p : Params) (hp : p.listFitsSet) (hf1 : p.unionDownsampleRebuilds = true)
    (hf2 : p.unionResetToMaxK = true) (lgMaxK : Nat) :
    ∀ (ops : List UOp) (u : Un ν) (cs : List Nat) (L : Nat), u.lgMaxK = lgMaxK → GInvR p lgMaxK u.gadget cs L → WFops p ops →
      GInvR p lgMaxK (uRunF p u ops).gadget (ops.foldl offeredStep cs) (ops.foldl (lgkStepG ν p lgMaxK) L)
  | [], _, _, _, _, hg, _ => hg
  | op :: ops, u, cs, L, hu, hg, hok => by
    have hop := hok op List.mem_cons_self
    have step : GInvR p lgMaxK (uStepF p u op).gadget (offeredStep cs op) (lgkStepG ν p lgMaxK L op) := by
      cases op with
      | coupon c => exact hg.coupon hp c hop
      | touch => exact hg.toGI.touch.toGInvR fun hm => hg.wit ((checkRebuild_fields u.gadget).1.mode.symm.trans hm)
      | reset =>
        show GInvR p lgMaxK (unionResetF p u).gadget [] lgMaxK
        unfold unionResetF
        rw [if_pos hf2, hu]
        exact GInvR.new p lgMaxK
      | merge d rv =>
        obtain ⟨hdk, hdv⟩ := hop
        have hs := d.skOf (ν := ν) p hp hdk hdv
        cases rv with
        | false =>
          have r := hg.toGI.unionUpdateF hp hu hs (Or.inl ⟨hf1, hg.wit⟩)
          exact r.1.toGInvR (r.2 hg.wit)
        | true =>
          have r := hg.toGI.unionUpdateRvF hp hu hs (Or.inl ⟨hf1, hg.wit⟩)
            fun he hm => (hg.wit hm).elim fun c hc => absurd (hg.toGI.empty_content he c hc.1) hc.2
          exact r.1.toGInvR (r.2 hg.wit)
    have ih := GInvR.of_uRunF p hp hf1 hf2 lgMaxK ops (uStepF p u op) (offeredStep cs op) (lgkStepG ν p lgMaxK L op)
      ((uStepF_lgMaxK p u op).trans hu) step (fun o ho => hok o (List.mem_cons_of_mem _ ho))
    simpa [uRunF] using ih

theorem lgkUpd_comm (L : Nat) (a b : St ν) : lgkUpd (lgkUpd L a) b = lgkUpd (lgkUpd L b) a := by
  unfold lgkUpd
  by_cases ha : a.mode = .hll ∧ isEmpty a = false
  · by_cases hb : b.mode = .hll ∧ isEmpty b = false
    · simp only [if_pos ha, if_pos hb]; exact Nat.min_right_comm ..
    · simp only [if_pos ha, if_neg hb]
  · by_cases hb : b.mode = .hll ∧ isEmpty b = false
    · simp only [if_neg ha, if_pos hb]
    · simp only [if_neg ha, if_neg hb]

theorem expectedLgKG_perm (p : Params) (K : Nat) {ops ops' : List UOp} (hperm : ops.Perm ops') (hnr : ∀ o, o ∈ ops → o ≠ .reset) :
    expectedLgKG ν p K ops = expectedLgKG ν p K ops' := by
  refine hperm.foldl_eq' (fun x hx y hy z => ?_) K
  cases x with
  | reset => exact absurd rfl (hnr _ hx)
  | merge d rv =>
    cases y with
    | reset => exact absurd rfl (hnr _ hy)
    | merge d' rv' => exact lgkUpd_comm ..
    | _ => rfl
  | _ => rfl

theorem expectedLgKG_touch (p : Params) (K : Nat) (ops₁ ops₂ : List UOp) :
    expectedLgKG ν p K (ops₁ ++ [.touch] ++ ops₂) = expectedLgKG ν p K (ops₁ ++ ops₂) := by
  simp [expectedLgKG, List.foldl_append, lgkStepG]

theorem expectedLgKG_map_flips (p : Params) (K : Nat) {fl : UOp → UOp} (hfl : FlipsOnly fl) (ops : List UOp) :
    expectedLgKG ν p K (ops.map fl) = expectedLgKG ν p K ops :=
  foldl_map_flips (lgkStepG ν p K) (fun _ _ _ => rfl) hfl ops K

end DS.Hll
