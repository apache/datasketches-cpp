/-
C11 (frequent-items part) — truncated images are rejected; `num_items` cannot make the specification reader
materialise more than the input holds.

ONLY property theorems + non-vacuity examples.  Model: DSModel/Wire/Fi.lean; for every constant set, every lawful
item serde, every well-formed image, EVERY prefix length.  No padding disjunct: a frequent-items image has no
information-free tail.  The real readers are held to this verdict by the exhaustive-prefix runs of `./check c11_count`.
-/
import DSProofs.Props.C09_Fi
namespace DS.Wire.Fi
open DS.Wire

variable {ι : Type}

theorem decodeBody_PS (sd : Serde ι) (hsd : sd.Lawful) (e : Bool) : PS (decodeBody sd e) :=
  (decodeBody_within sd hsd e).ps

/-- the documented reader is prefix-safe -/
theorem decode_PS (c : FiConsts) (sd : Serde ι) (hsd : sd.Lawful) : PS (decode c sd) := (decode_within c sd hsd).ps

/-- **every strict prefix of every valid image is rejected** -/
theorem prefix_rejected (c : FiConsts) (hc : c.ok) (sd : Serde ι) (hsd : sd.Lawful) (s : Image ι) (hs : WF c sd s)
    (n : Nat) (hn : n < (encode c sd s).length) : decode c sd ((encode c sd s).take n) = none :=
  prefix_rejected' (decode c sd) (decode_PS c sd hsd) (encode c sd s) s (decode_encode c hc sd hsd s hs) n hn

theorem decodeBody_bounded (sd : Serde ι) (hsd : sd.Lawful) (e : Bool) (b r : Bytes) (body : Option (Body ι))
    (h : decodeBody sd e b = some (body, r)) :
    (match body with | none => 0 | some x => x.weights.length + x.items.length) ≤ b.length := by
  -- the `match` of the statement also abstracts `h`
  cases body <;> exact (decodeBody_within sd hsd e).le h

/-- **bounded**: whatever bytes are accepted, the number of weights plus items of the result is at most the input length -/
theorem decode_bounded (c : FiConsts) (sd : Serde ι) (hsd : sd.Lawful) (b r : Bytes) (s : Image ι)
    (h : decode c sd b = some (s, r)) : count s ≤ b.length :=
  (decode_within c sd hsd).le h

/-- non-vacuity: a 58-byte string-item image; the executable reader rejects its 57-byte prefix and the 33-byte one -/
example : (encode generated serdeStr { lgMax := 3, lgCur := 3, body := some { totalWeight := 5, offset := 0, weights := [4, 1], items := [[0x61, 0x62], []] } }).length = 58 := by
  decide +kernel
example : (decode generated serdeStr ((encode generated serdeStr { lgMax := 3, lgCur := 3, body := some { totalWeight := 5, offset := 0, weights := [4, 1], items := [[0x61, 0x62], []] } }).take 57)).isNone = true := by
  decide +kernel
example : (decode generated serdeStr ((encode generated serdeStr { lgMax := 3, lgCur := 3, body := some { totalWeight := 5, offset := 0, weights := [4, 1], items := [[0x61, 0x62], []] } }).take 33)).isNone = true := by
  decide +kernel

end DS.Wire.Fi
