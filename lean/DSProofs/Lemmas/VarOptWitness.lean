/- The concrete tunables, sketches and union used by the non-vacuity examples and by the `…_full_false` witnesses of C16
   (`exItems`, `exDraws` stand in Props/C16.lean). -/
import DSProofs.Lemmas.VarOptStep
import DSProofs.Lemmas.VarOptResult
import DSProofs.Lemmas.VarOptSerde
namespace DS.VarOpt
open DS

/-- sample tunables for the non-vacuity examples (the theorems hold for every value) -/
def exT : Tunables :=
  { maxK := 2147483646, minLgArrItems := 3, defaultRf := 3, kappaNum := 2, kappaDen := 1, tolNum := 1, tolDen := 10000000000,
    erfA := [] }   -- all source-shape flags false (the field defaults)

/-- the same tunables with every repaired source shape switched on -/
def exTR : Tunables :=
  { exT with deserializeM0 := true, validModeSlack := true, slackNum := 1, slackDen := 1000000000000,
             coercerOuterTau := true, coercerHeapify := true, coercerRelTol := true }

def wDs : Draws Rat := ⟨[1/2, 1/2, 1/2, 1/2, 1/2, 1/2], [1, 1, 1, 1, 1, 1]⟩
def wNew (k : Nat) : Sk Rat := ((Sk.new exT k 0 false : Option (Sk Rat)).getD
  ⟨1, 0, [], [], [], 0, false, 0, false, 0, 0⟩)
def wItemsA : List (Int × Rat) := [(1, 10), (2, 10), (3, 10)]
def wItemsB : List (Int × Rat) := [(4, 1)]
/-- k = 2 sketch after three items of weight 10: h = 0, r = 2, tau = 15 -/
def wA : Sk Rat := ((feed exT false wItemsA (wNew 2) wDs).getD (wNew 2, wDs)).1
/-- k = 10 sketch holding one item of weight 1 (exact mode) -/
def wB : Sk Rat := ((feed exT false wItemsB (wNew 10) wDs).getD (wNew 10, wDs)).1

theorem wA_fromStream : FromStream wA wItemsA :=
  ⟨exT, 2, 0, wNew 2, wDs, ((feed exT false wItemsA (wNew 2) wDs).getD (wNew 2, wDs)).2, rfl, by decide, rfl⟩
theorem wB_fromStream : FromStream wB wItemsB :=
  ⟨exT, 10, 0, wNew 10, wDs, ((feed exT false wItemsB (wNew 10) wDs).getD (wNew 10, wDs)).2, rfl, by decide, rfl⟩

theorem wAB_fromStream : ∀ p ∈ [(wA, wItemsA), (wB, wItemsB)], FromStream p.1 p.2 := fun p hp => by
  rcases List.mem_pair.1 hp with rfl | rfl
  exacts [wA_fromStream, wB_fromStream]

def wU0 : Un Rat := ((Un.new exT 10 : Option (Un Rat)).getD ⟨0, 0, 0, 0, wNew 1⟩)
def wU : Un Rat := ((unionAll exT wU0 [wA, wB] wDs).getD (wU0, wDs)).1
def wRes : Sk Rat := ((wU.getResult exT wDs).getD (wNew 1, wDs)).1

def wA2 : Sk Rat := ((serdeRoundTrip exT wA).getD wA)

end DS.VarOpt
