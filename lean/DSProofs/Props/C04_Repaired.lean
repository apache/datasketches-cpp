/-
C04 on the REPAIRED source shape — the full statements, for ALL histories including precision reduction.

Repaired shape: `copy_or_downsample` calls `check_rebuild_kxq_cur_min()` on the down-sampled array and `reset()` re-creates
the gadget at lg_max_k (defects D1 / D14 of the pinned shape, Props/C04.lean: `…_full_false`).  The translator reads
the two source shapes from the CURRENT headers into `Params.unionDownsampleRebuilds` / `Params.unionResetToMaxK`
(DSGen/Hll.lean); `unionImplF` / `unionResetF` / `uRunF` (DSModel/Hll/Union.lean) follow them and are what the driver
executes against the real headers.  `repaired_current` ties the generated flags to the repaired shape: if either fix is
reverted this obligation breaks (and the oracle reports the failing input).

ONLY property theorems + non-vacuity examples (helper lemmas: Lemmas/HllGadget.lean, HllUnionRep.lean).  Every theorem is for every tunable
set `p` with the two flags on (and the decidable side condition `listFitsSet`), every numeric instance ν, every lg_max_k within
the coupon key width and EVERY history of genuine inputs (`WFops`: input lg_k within the key width, a nonzero coupon has a
positive value — true of every `HllUtil::coupon`): lvalue / rvalue sketch updates of any lg_k, type and mode (with precision
reduction in either direction), raw items, estimate calls and resets in any interleaving.
-/
import DSProofs.Lemmas.HllUnionRep
import DSProofs.Props.C04
namespace DS.Hll

variable {ν : Type} [HNum ν]

/-- the CURRENT headers have the repaired shape (and the side conditions of the theorems hold for the generated constants) -/
theorem repaired_current :
    hllParams.unionDownsampleRebuilds = true ∧ hllParams.unionResetToMaxK = true ∧ hllParams.listFitsSet ∧
    hllParams.keyBits = 26 := by decide

/-- the gadget invariant after ANY history -/
theorem union_inv_repaired (p : Params) (hp : p.listFitsSet) (hf1 : p.unionDownsampleRebuilds = true)
    (hf2 : p.unionResetToMaxK = true) (lgMaxK : Nat) (ops : List UOp) (hok : WFops p ops) :
    GInvR p lgMaxK (uRunF p (newUnion p lgMaxK : Un ν) ops).gadget (offered ops) (expectedLgKG ν p lgMaxK ops) :=
  GInvR.of_uRunF p hp hf1 hf2 lgMaxK ops (newUnion p lgMaxK) [] lgMaxK rfl (GInvR.new p lgMaxK) hok

/-- `union_lgk` (full): the result's lg_k is min(lg_max_k, lg_k of every non-empty HLL-mode input since the last reset). -/
theorem union_lgk (p : Params) (hp : p.listFitsSet) (hf1 : p.unionDownsampleRebuilds = true) (hf2 : p.unionResetToMaxK = true)
    (lgMaxK : Nat) (hkb : lgMaxK ≤ p.keyBits) (ops : List UOp) (hok : WFops p ops) (tt : TType) :
    (unionResult p (uRunF p (newUnion p lgMaxK : Un ν) ops) tt).lgK = expectedLgKG ν p lgMaxK ops :=
  ((union_inv_repaired (ν := ν) p hp hf1 hf2 lgMaxK ops hok).toGI.result hkb tt).1

/-- `union_content` (full): the result holds exactly what ONE sketch of the result's lg_k fed every item of every input (the
inputs' own coupon streams and the raw items since the last reset) would hold — every register the per-slot maximum in HLL mode,
exactly the distinct nonzero coupons in LIST / SET mode; nothing lost, nothing extra, for every result type. -/
theorem union_content (p : Params) (hp : p.listFitsSet) (hf1 : p.unionDownsampleRebuilds = true) (hf2 : p.unionResetToMaxK = true)
    (lgMaxK : Nat) (hkb : lgMaxK ≤ p.keyBits) (ops : List UOp) (hok : WFops p ops) (tt : TType) :
    let r : St ν := unionResult p (uRunF p (newUnion p lgMaxK) ops) tt
    (r.mode = .hll → r.regs.size = 2^r.lgK ∧
      ∀ slot, slot < 2^r.lgK → IsMaxAt p r.lgK (fun c => c ∈ offered ops) slot (r.regs.getD slot 0)) ∧
    (r.mode ≠ .hll → r.items.Nodup ∧ ∀ c, c ∈ r.items ↔ (c ∈ offered ops ∧ c ≠ 0)) := by
  have h := (union_inv_repaired (ν := ν) p hp hf1 hf2 lgMaxK ops hok).toGI.result hkb tt
  intro r
  rw [show r.lgK = _ from h.1]
  exact h.2

/-- Two histories that offered the same nonzero coupons and have the same expected lg_k give the same result: same lg_k, same
registers when both results are in HLL mode, same coupon set when both are in LIST / SET mode. -/
theorem union_result_determined_repaired (p : Params) (hp : p.listFitsSet) (hf1 : p.unionDownsampleRebuilds = true)
    (hf2 : p.unionResetToMaxK = true) (lgMaxK : Nat) (hkb : lgMaxK ≤ p.keyBits) (ops ops' : List UOp)
    (hok : WFops p ops) (hok' : WFops p ops') (tt tt' : TType)
    (hsame : ∀ c, c ≠ 0 → (c ∈ offered ops ↔ c ∈ offered ops'))
    (hlgk : expectedLgKG ν p lgMaxK ops = expectedLgKG ν p lgMaxK ops') :
    let r : St ν := unionResult p (uRunF p (newUnion p lgMaxK) ops) tt
    let r' : St ν := unionResult p (uRunF p (newUnion p lgMaxK) ops') tt'
    r.lgK = r'.lgK ∧ (r.mode = .hll → r'.mode = .hll → r.regs = r'.regs) ∧
    (r.mode ≠ .hll → r'.mode ≠ .hll → ∀ c, c ∈ r.items ↔ c ∈ r'.items) := by
  have h' := union_inv_repaired (ν := ν) p hp hf1 hf2 lgMaxK ops' hok'
  rw [← hlgk] at h'
  exact (union_inv_repaired (ν := ν) p hp hf1 hf2 lgMaxK ops hok).toGI.result_determined h'.toGI hkb tt tt' hsame

/-- `union_perm_invariant` on the repaired shape, for histories without reset (updates, raw items and estimate calls: more than
`union_perm_invariant_full` of Props/C04.lean admits; equal modes, which that statement also asks for, are not asserted): presenting
the same operations in another order gives the same lg_k, the same registers / the same coupon set. -/
theorem union_perm_invariant (p : Params) (hp : p.listFitsSet) (hf1 : p.unionDownsampleRebuilds = true)
    (hf2 : p.unionResetToMaxK = true) (lgMaxK : Nat) (hkb : lgMaxK ≤ p.keyBits) (ops ops' : List UOp) (hperm : ops.Perm ops')
    (hnr : ∀ o, o ∈ ops → o ≠ .reset) (hok : WFops p ops) (tt : TType) :
    let r : St ν := unionResult p (uRunF p (newUnion p lgMaxK) ops) tt
    let r' : St ν := unionResult p (uRunF p (newUnion p lgMaxK) ops') tt
    r.lgK = r'.lgK ∧ (r.mode = .hll → r'.mode = .hll → r.regs = r'.regs) ∧
    (r.mode ≠ .hll → r'.mode ≠ .hll → ∀ c, c ∈ r.items ↔ c ∈ r'.items) :=
  union_result_determined_repaired (ν := ν) p hp hf1 hf2 lgMaxK hkb ops ops' hok (fun o ho => hok o (hperm.mem_iff.2 ho)) tt tt
    (fun c _ => (offered_perm hperm hnr).mem_iff) (expectedLgKG_perm p lgMaxK hperm hnr)

/-- `union_estimate_pure` (full): an interleaved get_estimate / get_composite_estimate / bound call does not change any later
result (together with Props/C04 `union_get_result_pure`: get_result itself is pure and type-independent). -/
theorem union_estimate_pure (p : Params) (hp : p.listFitsSet) (hf1 : p.unionDownsampleRebuilds = true)
    (hf2 : p.unionResetToMaxK = true) (lgMaxK : Nat) (hkb : lgMaxK ≤ p.keyBits) (ops₁ ops₂ : List UOp)
    (hok : WFops p (ops₁ ++ ops₂)) (tt : TType) :
    let r : St ν := unionResult p (uRunF p (newUnion p lgMaxK) (ops₁ ++ ops₂)) tt
    let r' : St ν := unionResult p (uRunF p (newUnion p lgMaxK) (ops₁ ++ [.touch] ++ ops₂)) tt
    r.lgK = r'.lgK ∧ (r.mode = .hll → r'.mode = .hll → r.regs = r'.regs) ∧
    (r.mode ≠ .hll → r'.mode ≠ .hll → ∀ c, c ∈ r.items ↔ c ∈ r'.items) :=
  union_result_determined_repaired (ν := ν) p hp hf1 hf2 lgMaxK hkb _ _ hok (all_touch trivial hok) tt tt
    (fun c _ => by rw [offered_touch]) (expectedLgKG_touch p lgMaxK ops₁ ops₂).symm

/-- lvalue / rvalue independence (full): turning lvalue updates into rvalue updates (adoption shortcut) or back does not change
the result. -/
theorem union_lvalue_eq_rvalue (p : Params) (hp : p.listFitsSet) (hf1 : p.unionDownsampleRebuilds = true)
    (hf2 : p.unionResetToMaxK = true) (lgMaxK : Nat) (hkb : lgMaxK ≤ p.keyBits) (ops : List UOp) (flip : UOp → Bool)
    (hok : WFops p ops) (tt : TType) :
    let ops' := ops.map (fun o => if flip o then flipRv o else o)
    let r : St ν := unionResult p (uRunF p (newUnion p lgMaxK) ops) tt
    let r' : St ν := unionResult p (uRunF p (newUnion p lgMaxK) ops') tt
    r.lgK = r'.lgK ∧ (r.mode = .hll → r'.mode = .hll → r.regs = r'.regs) ∧
    (r.mode ≠ .hll → r'.mode ≠ .hll → ∀ c, c ∈ r.items ↔ c ∈ r'.items) := by
  have hfl : FlipsOnly (fun o => if flip o then flipRv o else o) :=
    FlipsOnly.ite (fun o => match o with
      | .merge d rv => Or.inr ⟨d, rv, rfl, rfl⟩ | .coupon _ => Or.inl rfl | .touch => Or.inl rfl | .reset => Or.inl rfl) flip
  exact union_result_determined_repaired (ν := ν) p hp hf1 hf2 lgMaxK hkb ops _ hok (all_map_flips (fun _ _ h => h) hfl hok) tt tt
    (fun c _ => by rw [offered_map_flips hfl]) (expectedLgKG_map_flips p lgMaxK hfl ops).symm

/-- `union_reset` (full): after ANY history (no side condition at all), `reset()` leaves exactly a fresh union of lg_max_k. -/
theorem union_reset (p : Params) (hf2 : p.unionResetToMaxK = true) (lgMaxK : Nat) (ops : List UOp) :
    uRunF p (newUnion p lgMaxK : Un ν) (ops ++ [.reset]) = newUnion p lgMaxK := by
  have hk := uRunF_lgMaxK p ops (newUnion p lgMaxK : Un ν)
  simp only [uRunF, List.foldl_append, List.foldl_cons, List.foldl_nil] at hk ⊢
  show unionResetF p _ = _
  unfold unionResetF
  rw [if_pos hf2, hk]
  rfl

/-- with ν = Unit the generic expected lg_k is the `expectedLgK` of the statements in Props/C04.lean -/
theorem expectedLgKG_unit (p : Params) (hp : p.listFitsSet) (lgMaxK : Nat) (ops : List UOp) :
    expectedLgKG Unit p lgMaxK ops = expectedLgK p lgMaxK ops := by
  unfold expectedLgKG expectedLgK
  have hs : ∀ (acc : Nat) (o : UOp), lgkStepG Unit p lgMaxK acc o = lgkStep p lgMaxK acc o := by
    intro acc o
    cases o with
    | merge d rv => simp only [lgkStepG, lgkStep, lgkUpd, build_lgK p hp d, Bool.not_eq_true]
    | coupon c => rfl
    | touch => rfl
    | reset => rfl
  have hfun : lgkStepG Unit p lgMaxK = lgkStep p lgMaxK := funext (fun acc => funext (hs acc))
  rw [hfun]

/-! ## `union_lgk_full`, `union_content_full`, `union_reset_full` of Props/C04.lean on the repaired shape (ν = Unit, default tunables)

These are the `_full` statements with `rP` for `uP` and `uRunF` for `uRun`; the first two carry two hypotheses that the `_full`
statements do not have: genuine inputs (`WFops`) and `lgMaxK ≤ 26`, the coupon key width.
`union_perm_invariant_full` / `union_estimate_pure_full` ask for equal modes as well, which `union_perm_invariant` /
`union_estimate_pure` above do not assert; they are not proved in that form. -/

/-- the `Params` defaults with the two repaired source shapes -/
def rP : Params := { unionDownsampleRebuilds := true, unionResetToMaxK := true }

theorem union_lgk_full_repaired (lgMaxK : Nat) (hkb : lgMaxK ≤ 26) (ops : List UOp) (hok : WFops rP ops) (tt : TType) :
    (unionResult rP (uRunF rP (newUnion rP lgMaxK : Un Unit) ops) tt).lgK = expectedLgK rP lgMaxK ops := by
  rw [← expectedLgKG_unit rP (by decide) lgMaxK ops]
  exact union_lgk (ν := Unit) rP (by decide) rfl rfl lgMaxK hkb ops hok tt

theorem union_content_full_repaired (lgMaxK : Nat) (hkb : lgMaxK ≤ 26) (ops : List UOp) (hok : WFops rP ops) (tt : TType) :
    let r : St Unit := unionResult rP (uRunF rP (newUnion rP lgMaxK) ops) tt
    (r.mode = .hll → ∀ slot, slot < 2^r.lgK → IsMaxAt rP r.lgK (fun c => c ∈ offered ops) slot (r.regs.getD slot 0)) ∧
    (r.mode ≠ .hll → ∀ c, c ∈ r.items ↔ (c ∈ offered ops ∧ c ≠ 0)) := by
  intro r
  have h := union_content (ν := Unit) rP (by decide) rfl rfl lgMaxK hkb ops hok tt
  exact ⟨fun hm => (h.1 hm).2, fun hm => (h.2 hm).2⟩

theorem union_reset_full_repaired (lgMaxK : Nat) (ops : List UOp) :
    (uRunF rP (newUnion rP lgMaxK : Un Unit) (ops ++ [.reset])).gadget.lgK = lgMaxK := by
  rw [union_reset rP rfl lgMaxK ops]; rfl

/-! Non-vacuity: the witnesses that refute the pinned shape (wA lg_k 5, wB lg_k 4, wC lg_k 6, all HLL mode) are genuine
histories, and on the repaired shape they give the right answer. -/
example : WFops rP [.merge wA false, .merge wB false] ∧ WFops rP [.merge wC false, .merge wB false, .merge wC true, .reset, .coupon (cPair rP 9 7)] := by
  constructor <;> (intro op hop; simp only [List.mem_cons, List.not_mem_nil, or_false] at hop;
                   rcases hop with rfl | rfl | rfl | rfl | rfl <;> decide +kernel)
/-- D1 witness: union(4) ← A (lg_k 5, down-sampled) ← B: slot 3 keeps A's value 2, slot 1 gets B's value 1 -/
example : (unionResult rP (uRunF rP (newUnion rP 4 : Un Unit) [.merge wA false, .merge wB false]) .h8).regs.getD 3 0 = 2 ∧
    (unionResult rP (uRunF rP (newUnion rP 4 : Un Unit) [.merge wA false, .merge wB false]) .h8).regs.getD 1 0 = 1 ∧
    isEmpty (uRunF rP (newUnion rP 4 : Un Unit) [.merge wA false]).gadget = false := by decide +kernel
/-- union(6) ← C (6) ← B (4: gadget down-sampled) ← C: lg_k stays 4; after reset() it is 6 again -/
example : (uRunF rP (newUnion rP 6 : Un Unit) [.merge wC false, .merge wB false, .merge wC false]).gadget.lgK = 4 ∧
    (uRunF rP (newUnion rP 6 : Un Unit) [.merge wC false, .merge wB false, .merge wC false, .reset]).gadget.lgK = 6 := by decide +kernel

end DS.Hll
