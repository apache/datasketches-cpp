/- C19 helper lemmas for the KLL sketch: ranges of a block by what their cells hold (`On`), the optional<T> members, `sortRange`,
   checked `levels_` access, and the loops over a range of cells (destroy, read, copy, move-construct).  In the KLL files a rule
   `step_x` runs a statement `x` that does not look at the heap, a rule `vstep_x` one that reads or changes cells and tells its
   continuation so through the views `stAt` / `wordAt` (`SameBut`); the specification of a model function `f` is `f_spec`. -/
import DSModel.Life.Kll
import DSProofs.Lemmas.LifeSort
import DSProofs.Lemmas.ListAux
namespace DS.Life.Kll
open DS.Life

/-- what a range of cells holds: raw storage, objects (live or moved-from), live objects -/
inductive Cls where
  | raw | obj | live

def Cls.Holds : Cls → Slot → Prop
  | .raw, s => s = .raw
  | .obj, s => s ≠ .raw
  | .live, s => ∃ v, s = .live v

def On (c : Cls) (h : Heap) (b lo hi : Nat) : Prop := ∀ j, lo ≤ j → j < hi → c.Holds (stAt h b j)

/-- `On .live` by definition; the in-place helpers and the invariants are stated with this name -/
def LiveOn (h : Heap) (b lo hi : Nat) : Prop := ∀ j, lo ≤ j → j < hi → ∃ v, stAt h b j = .live v

theorem LiveOn.toObj {h : Heap} {b lo hi : Nat} (l : LiveOn h b lo hi) : On .obj h b lo hi := by
  intro j h1 h2
  obtain ⟨v, hv⟩ := l j h1 h2
  rw [hv]; exact nofun

theorem On.mono {c : Cls} {h : Heap} {b lo hi lo' hi' : Nat} (l : On c h b lo hi) (h1 : lo ≤ lo') (h2 : hi' ≤ hi) :
    On c h b lo' hi' := fun j a d => l j (Nat.le_trans h1 a) (Nat.lt_of_lt_of_le d h2)

theorem On.append {c : Cls} {h : Heap} {b lo mid hi : Nat} (l1 : On c h b lo mid) (l2 : On c h b mid hi) :
    On c h b lo hi := fun j a d => if e : j < mid then l1 j a e else l2 j (Nat.le_of_not_lt e) d

theorem On.nil {c : Cls} {h : Heap} {b lo hi : Nat} (hle : hi ≤ lo) : On c h b lo hi :=
  fun _ a d => absurd (Nat.lt_of_lt_of_le d hle) (Nat.not_lt.2 a)

theorem On.single {c : Cls} {h : Heap} {b i : Nat} (hv : c.Holds (stAt h b i)) : On c h b i (i + 1) :=
  fun j a d => by rw [Nat.le_antisymm (Nat.le_of_lt_succ d) a]; exact hv

theorem On.frame_of {c : Cls} {h h' : Heap} {X : Nat → Nat → Prop} {b lo hi : Nat} (l : On c h b lo hi)
    (sb : SameBut h h' X) (hx : ∀ j, lo ≤ j → j < hi → ¬ X b j) : On c h' b lo hi :=
  fun j a d => by rw [sb.st b j (hx j a d)]; exact l j a d

theorem On.frame {c : Cls} {h h' : Heap} {b a e lo hi : Nat} (l : On c h b lo hi)
    (sb : SameBut h h' (fun b' j => b' = b ∧ a ≤ j ∧ j < e)) (hd : hi ≤ a ∨ e ≤ lo) : On c h' b lo hi :=
  l.frame_of sb fun _ h1 h2 x => hd.elim (fun y => Nat.not_le_of_lt h2 (Nat.le_trans y x.2.1))
    (fun y => Nat.not_le_of_lt x.2.2 (Nat.le_trans y h1))

/-! dot notation does not see through `LiveOn`, so it has the lemmas it is used with under its own name -/

theorem LiveOn.mono {h : Heap} {b lo hi lo' hi' : Nat} (l : LiveOn h b lo hi) (h1 : lo ≤ lo') (h2 : hi' ≤ hi) :
    LiveOn h b lo' hi' := On.mono (c := .live) l h1 h2

theorem LiveOn.append {h : Heap} {b lo mid hi : Nat} (l1 : LiveOn h b lo mid) (l2 : LiveOn h b mid hi) :
    LiveOn h b lo hi := On.append (c := .live) l1 l2

theorem LiveOn.single {h : Heap} {b i : Nat} (hv : ∃ v, stAt h b i = .live v) : LiveOn h b i (i + 1) :=
  On.single (c := .live) hv

theorem LiveOn.frame_of {h h' : Heap} {X : Nat → Nat → Prop} {b lo hi : Nat} (l : LiveOn h b lo hi)
    (sb : SameBut h h' X) (hx : ∀ j, lo ≤ j → j < hi → ¬ X b j) : LiveOn h' b lo hi := On.frame_of (c := .live) l sb hx

theorem LiveOn.frame {h h' : Heap} {b a c lo hi : Nat} (l : LiveOn h b lo hi)
    (sb : SameBut h h' (fun b' j => b' = b ∧ a ≤ j ∧ j < c)) (hd : hi ≤ a ∨ c ≤ lo) : LiveOn h' b lo hi :=
  On.frame (c := .live) l sb hd

theorem LiveOn.sameOn {h h' : Heap} {b lo hi : Nat} (so : SameOn h h' b) (l : LiveOn h b lo hi) : LiveOn h' b lo hi :=
  fun j a c => (so.st j).symm ▸ l j a c

def isEng (s : Slot) : Bool := match s with | .raw => false | _ => true

theorem isEng_false {s : Slot} : isEng s = false ↔ s = .raw := by cases s <;> simp [isEng]
theorem isEng_true {s : Slot} : isEng s = true ↔ s ≠ .raw := by cases s <;> simp [isEng]

theorem vstep_engaged {β} {S} {h : Heap} {b i n : Nat} {f : Bool → M β} {Q : β → Heap → Prop}
    (hc : HasCells h b n) (hi : i < n) (s : SafeF S h (f (isEng (stAt h b i)) h) Q) :
    SafeF S h ((engaged b i >>= f) h) Q := by
  obtain ⟨c, e, _, est⟩ := hc.cell_st hi
  have hrun : engaged b i h = .ok (isEng (stAt h b i), h) := by
    unfold engaged
    simp only [e]
    rw [← est]
    rfl
  exact SafeF.bind_ok hrun (Frame.refl _ _) s


theorem vstep_optCopyCtor {β} {S} {h : Heap} {sb si sn db di dn : Nat} {f : Unit → M β} {Q : β → Heap → Prop}
    (hcs : HasCells h sb sn) (hsi : si < sn) (hsrc : stAt h sb si = .raw ∨ ∃ v, stAt h sb si = .live v)
    (hcd : HasCells h db dn) (hdi : di < dn) (hr : stAt h db di = .raw) (hS : S db = true)
    (s : ∀ h', SameBut h h' (fun b' j => b' = db ∧ j = di) → stAt h' db di = stAt h sb si → SafeF S h' (f () h') Q) :
    SafeF S h ((optCopyCtor sb si db di >>= f) h) Q := by
  unfold optCopyCtor
  simp only [M.bind_assoc]
  apply vstep_engaged hcs hsi
  rcases hsrc with hraw | ⟨v, hv⟩
  · rw [isEng_false.2 hraw, if_neg Bool.false_ne_true]
    exact s h (.refl _ _) (hr.trans hraw.symm)
  · rw [isEng_true.2 (hv ▸ nofun), if_pos rfl]
    exact vstep_copyConstruct hcs hsi hv hcd hdi hr hS fun h1 sb1 hst => s h1 sb1 (hst.trans hv.symm)

theorem vstep_optMoveCtor {β} {S} {h : Heap} {sb si sn db di dn : Nat} {f : Unit → M β} {Q : β → Heap → Prop}
    (hcs : HasCells h sb sn) (hsi : si < sn) (hsrc : stAt h sb si = .raw ∨ ∃ v, stAt h sb si = .live v)
    (hcd : HasCells h db dn) (hdi : di < dn) (hr : stAt h db di = .raw) (hSs : S sb = true) (hSd : S db = true)
    (s : ∀ h', SameBut h h' (fun b' j => (b' = sb ∧ j = si) ∨ (b' = db ∧ j = di)) →
          stAt h' db di = stAt h sb si → (stAt h' sb si = .raw ↔ stAt h sb si = .raw) → SafeF S h' (f () h') Q) :
    SafeF S h ((optMoveCtor sb si db di >>= f) h) Q := by
  unfold optMoveCtor
  simp only [M.bind_assoc]
  apply vstep_engaged hcs hsi
  rcases hsrc with hraw | ⟨v, hv⟩
  · rw [isEng_false.2 hraw, if_neg Bool.false_ne_true]
    exact s h (.refl _ _) (hr.trans hraw.symm) Iff.rfl
  · rw [isEng_true.2 (hv ▸ nofun), if_pos rfl]
    exact vstep_moveConstruct hcs hsi hv hcd hdi hr hSs hSd fun h1 sb1 hst hsm =>
      s h1 sb1 (hst.trans hv.symm) (by rw [hsm, hv]; exact ⟨nofun, nofun⟩)

theorem vstep_optReset {β} {S} {h : Heap} {b i n : Nat} {f : Unit → M β} {Q : β → Heap → Prop}
    (hc : HasCells h b n) (hi : i < n) (hS : S b = true)
    (s : ∀ h', SameBut h h' (fun b' j => b' = b ∧ j = i) → stAt h' b i = .raw → SafeF S h' (f () h') Q) :
    SafeF S h ((optReset b i >>= f) h) Q := by
  unfold optReset
  simp only [M.bind_assoc]
  apply vstep_engaged hc hi
  by_cases hraw : stAt h b i = .raw
  · rw [isEng_false.2 hraw, if_neg Bool.false_ne_true]
    exact s h (.refl _ _) hraw
  · rw [isEng_true.2 hraw, if_pos rfl]
    exact vstep_destroy hc hi hraw hS fun h1 sb1 _ hst => s h1 sb1 hst

/-- one arm of `optSwap`: an engaged optional is moved into a disengaged one of another block -/
theorem vstep_optMoveOver {β} {S} {h : Heap} {ab ai na bb bi nb : Nat} {f : Unit → M β} {Q : β → Heap → Prop}
    (hca : HasCells h ab na) (hai : ai < na) (hcb : HasCells h bb nb) (hbi : bi < nb) (hne : ab ≠ bb)
    (hea : stAt h ab ai ≠ .raw) (heb : stAt h bb bi = .raw) (hSa : S ab = true) (hSb : S bb = true)
    (s : ∀ h', SameBut h h' (fun b' j => (b' = ab ∧ j = ai) ∨ (b' = bb ∧ j = bi)) →
          stAt h' ab ai = stAt h bb bi → stAt h' bb bi = stAt h ab ai → SafeF S h' (f () h') Q) :
    SafeF S h ((moveFromAny ab ai >>= fun st => constructSt bb bi st >>= fun _ => destroy ab ai >>= f) h) Q := by
  apply vstep_moveFromAny hca hai hea hSa
  intro h1 sb1 hm1
  apply vstep_constructSt _ (sb1.cells _ _ hcb) hbi ((sb1.st bb bi fun x => hne x.1.symm).trans heb) hea hSb
  intro h2 sb2 hst2
  apply vstep_destroy (sb2.cells _ _ (sb1.cells _ _ hca)) hai (by rw [sb2.st ab ai fun x => hne x.1, hm1]; exact nofun) hSa
  intro h3 sb3 _ hst3
  exact s h3 ((sb1.trans sb2 (fun _ _ => Or.inl) fun _ _ => Or.inr).trans sb3 (fun _ _ => id) fun _ _ => Or.inl)
    (hst3.trans heb.symm) ((sb3.st bb bi fun x => hne x.1.symm).trans hst2)

/-- the raw state exchange inside `optSwap` (both engaged), as a named program -/
def swapSt (ab ai bb bi : Nat) : M Unit := fun h =>
  match h.cell? ab ai, h.cell? bb bi with
  | some ca, some cb => .ok ((), (h.setCell ab ai { ca with st := cb.st }).setCell bb bi { cb with st := ca.st })
  | _, _ => .error (.pre "optional: object storage is gone")

theorem optSwap_eq (ab ai bb bi : Nat) : optSwap ab ai bb bi = (do
    let ea ← engaged ab ai
    let eb ← engaged bb bi
    if ea ∧ eb then swapSt ab ai bb bi
    else if ea then do
      let st ← moveFromAny ab ai
      constructSt bb bi st
      destroy ab ai
    else if eb then do
      let st ← moveFromAny bb bi
      constructSt ab ai st
      destroy bb bi
    else pure ()) := rfl

theorem vstep_optSwap {β} {S} {h : Heap} {ab ai na bb bi nb : Nat} {f : Unit → M β} {Q : β → Heap → Prop}
    (hca : HasCells h ab na) (hai : ai < na) (hcb : HasCells h bb nb) (hbi : bi < nb) (hne : ab ≠ bb)
    (hSa : S ab = true) (hSb : S bb = true)
    (s : ∀ h', SameBut h h' (fun b' j => (b' = ab ∧ j = ai) ∨ (b' = bb ∧ j = bi)) →
          stAt h' ab ai = stAt h bb bi → stAt h' bb bi = stAt h ab ai → SafeF S h' (f () h') Q) :
    SafeF S h ((optSwap ab ai bb bi >>= f) h) Q := by
  rw [optSwap_eq]
  simp only [M.bind_assoc]
  apply vstep_engaged hca hai
  apply vstep_engaged hcb hbi
  have hne' : ¬ (bb = ab) := fun e => hne e.symm
  by_cases hea : stAt h ab ai = .raw <;> by_cases heb : stAt h bb bi = .raw
  · rw [isEng_false.2 hea, isEng_false.2 heb, if_neg (by simp), if_neg (by simp), if_neg (by simp)]
    exact s h (.refl _ _) (hea.trans heb.symm) (heb.trans hea.symm)
  · rw [isEng_false.2 hea, isEng_true.2 heb, if_neg (by simp), if_neg (by simp), if_pos rfl]
    simp only [M.bind_assoc]
    exact vstep_optMoveOver hcb hbi hca hai hne' heb hea hSb hSa fun h' sb e1 e2 => s h' (sb.mono fun _ _ => Or.symm) e2 e1
  · rw [isEng_true.2 hea, isEng_false.2 heb, if_neg (by simp), if_pos rfl]
    simp only [M.bind_assoc]
    exact vstep_optMoveOver hca hai hcb hbi hne hea heb hSa hSb s
  · rw [isEng_true.2 hea, isEng_true.2 heb, if_pos ⟨rfl, rfl⟩]
    obtain ⟨ca, eca, _, esta⟩ := hca.cell_st hai
    obtain ⟨cb, ecb, _, estb⟩ := hcb.cell_st hbi
    have hrun : swapSt ab ai bb bi h =
        .ok ((), (h.setCell ab ai { ca with st := cb.st }).setCell bb bi { cb with st := ca.st }) := by
      simp only [swapSt, eca, ecb]
    -- the swap of two engaged optionals has no cell step of its own: the two `setCell`s are read off through `Fi.Upd` (LifeView),
    -- the FI vocabulary for "one cell replaced", and turned into `SameBut` at once
    have U1 := Fi.Upd.of_setCell eca { ca with st := cb.st }
    have U2 := Fi.Upd.of_setCell ((U1.cell_ne fun x => hne' x.1).trans ecb) { cb with st := ca.st }
    exact SafeF.bind_ok hrun ((Frame_setCell S h ab ai _ hSa).trans (Frame_setCell S _ bb bi _ hSb))
      (s _ (U1.sameBut.trans U2.sameBut (fun _ _ => Or.inl) fun _ _ => Or.inr)
        ((U2.stAt_ne fun x => hne x.1).trans (U1.stAt_eq.trans estb)) (U2.stAt_eq.trans esta))


theorem vstep_sortRange {β} {S : Nat → Bool} {h : Heap} {b n lo cnt : Nat} {f : Unit → M β} {Q : β → Heap → Prop}
    (hc : HasCells h b n) (hle : lo + cnt ≤ n) (hl : LiveOn h b lo (lo + cnt)) (hS : S b = true)
    (s : ∀ h', SameBut h h' (fun b' j => b' = b ∧ lo ≤ j ∧ j < lo + cnt) →
          LiveOn h' b lo (lo + cnt) → SafeF S h' (f () h') Q) :
    SafeF S h ((sortRange b lo cnt >>= f) h) Q := by
  obtain ⟨B, hf, hlen⟩ := find?_of_count? hc
  have hle0 : lo + cnt ≤ B.cells.length := hlen ▸ hle
  have hall : ((B.cells.drop lo).take cnt).all (fun c => match c.st with | .live _ => true | _ => false) = true := by
    rw [List.all_eq_true]
    intro c hcm
    obtain ⟨j, hj, rfl⟩ := List.mem_take_iff_getElem.1 hcm
    have hjc : j < cnt := Nat.lt_of_lt_of_le hj (Nat.min_le_left ..)
    obtain ⟨v, hv⟩ := hl (lo + j) (Nat.le_add_right _ _) (Nat.add_lt_add_left hjc lo)
    have hjl : lo + j < B.cells.length := Nat.lt_of_lt_of_le (Nat.add_lt_add_left hjc lo) hle0
    rw [List.getElem_drop, ← stAt_of ((cell?_of_find? hf _).trans (List.getElem?_eq_getElem hjl)), hv]
  obtain ⟨seg', hperm, hrun⟩ : ∃ seg', seg'.Perm ((B.cells.drop lo).take cnt) ∧
      sortRange b lo cnt h = .ok ((), h.setCells b (B.cells.take lo ++ seg' ++ B.cells.drop (lo + cnt))) := by
    unfold sortRange
    simp only [hf]
    rw [if_pos ⟨hle0, hall⟩]
    exact ⟨_, List.mergeSort_perm _ _, rfl⟩
  obtain ⟨sb, src⟩ := setCells_permSeg hf hle0 hperm rfl
  refine SafeF.bind_ok hrun (Frame_setCells S h b _ hS) (s _ sb fun j h1 h2 => ?_)
  obtain ⟨k, hk1, hk2, e⟩ := src j h1 h2
  rw [(views_of_cell?_eq e).2]
  exact hl k hk1 hk2

theorem vstep_sortIf {β} {S : Nat → Bool} {h : Heap} {b n lo cnt : Nat} {c : Prop} [Decidable c] {f : Unit → M β}
    {Q : β → Heap → Prop}
    (hc : HasCells h b n) (hle : lo + cnt ≤ n) (hl : LiveOn h b lo (lo + cnt)) (hS : S b = true)
    (s : ∀ h', SameBut h h' (fun b' j => b' = b ∧ lo ≤ j ∧ j < lo + cnt) →
          LiveOn h' b lo (lo + cnt) → SafeF S h' (f () h') Q) :
    SafeF S h ((if c then sortRange b lo cnt >>= f else f ()) h) Q := by
  by_cases hc' : c
  · rw [if_pos hc']; exact vstep_sortRange hc hle hl hS s
  · rw [if_neg hc']; exact s h (SameBut.refl _ _) hl

theorem lv_ok {ls : List Nat} {i : Nat} (hi : i < ls.length) : lv ls i = (Pure.pure (ls.getD i 0) : M Nat) := by
  unfold lv
  rw [List.getD_eq_getElem?_getD, List.getElem?_eq_getElem hi]
  rfl

theorem setLv_ok {ls : List Nat} {i : Nat} (x : Nat) (hi : i < ls.length) :
    setLv ls i x = (Pure.pure (ls.set i x) : M (List Nat)) := by
  unfold setLv
  rw [if_pos hi]

theorem pure_bind_apply {α β} (a : α) (f : α → M β) (h : Heap) : ((Pure.pure a : M α) >>= f) h = f a h := rfl

theorem step_deref_eq {β} {S} {h : Heap} {p : Option Nat} {b : Nat} {f : Nat → M β} {Q : β → Heap → Prop}
    (hp : p = some b) (s : SafeF S h (f b h) Q) : SafeF S h ((deref p >>= f) h) Q := by
  subst hp; exact step_deref b s

theorem step_lv {β} {S} {h : Heap} {ls : List Nat} {i : Nat} {f : Nat → M β} {Q : β → Heap → Prop}
    (hi : i < ls.length) (s : SafeF S h (f (ls.getD i 0) h) Q) : SafeF S h ((lv ls i >>= f) h) Q := by
  rw [lv_ok hi, pure_bind_apply]; exact s

theorem step_setLv {β} {S} {h : Heap} {ls : List Nat} {i : Nat} (x : Nat) {f : List Nat → M β} {Q : β → Heap → Prop}
    (hi : i < ls.length) (s : SafeF S h (f (ls.set i x) h) Q) : SafeF S h ((setLv ls i x >>= f) h) Q := by
  rw [setLv_ok x hi, pure_bind_apply]; exact s

theorem growLevels_length_eq (ls : List Nat) (n : Nat) (h : ls.length ≤ n) : (growLevels ls n).length = n := by
  unfold growLevels
  by_cases hl : ls.length < n
  · rw [if_pos hl, List.length_append, List.length_replicate, Nat.add_sub_cancel' h]
  · rw [if_neg hl]
    exact Nat.le_antisymm h (Nat.le_of_not_lt hl)

theorem growLevels_length (ls : List Nat) (n : Nat) : ls.length ≤ (growLevels ls n).length ∧ n ≤ (growLevels ls n).length := by
  by_cases hl : ls.length ≤ n
  · rw [growLevels_length_eq ls n hl]
    exact ⟨hl, Nat.le_refl n⟩
  · rw [growLevels, if_neg fun x => hl (Nat.le_of_lt x)]
    exact ⟨Nat.le_refl _, Nat.le_of_not_le hl⟩

theorem growLevels_getD (ls : List Nat) (n i : Nat) (hi : i < ls.length) : (growLevels ls n).getD i 0 = ls.getD i 0 := by
  unfold growLevels
  by_cases hl : ls.length < n
  · rw [if_pos hl, List.getD_eq_getElem?_getD, List.getD_eq_getElem?_getD, List.getElem?_append_left hi]
  · rw [if_neg hl]

/-- a loop that sets `levels[i]` to `v i` for `i ∈ [start, start + cnt)`; its body may read the entries not yet set, which
    are those of `ls` -/
theorem setLevels_ok (v : Nat → Nat) (body : Nat → List Nat → M (List Nat)) (ls : List Nat) (e : Nat) (he : e ≤ ls.length)
    (hbody : ∀ i l, i < e → l.length = ls.length → (∀ j, i ≤ j → l.getD j 0 = ls.getD j 0) →
      body i l = (Pure.pure (l.set i (v i)) : M (List Nat))) :
    ∀ (cnt start : Nat) (l : List Nat), start + cnt ≤ e → l.length = ls.length → (∀ j, start ≤ j → l.getD j 0 = ls.getD j 0) →
    ∃ r, foldUp body cnt start l = (Pure.pure r : M (List Nat)) ∧ r.length = ls.length ∧
      ∀ j, r.getD j 0 = if start ≤ j ∧ j < start + cnt then v j else l.getD j 0
  | 0, start, l, _, hl, _ => ⟨l, rfl, hl, fun j => (if_neg fun x => Nat.not_lt_of_le x.1 x.2).symm⟩
  | c + 1, start, l, hle, hl, hg => by
    have hs : start < l.length := hl ▸ Nat.lt_of_lt_of_le (Nat.lt_of_lt_of_le (Nat.lt_add_of_pos_right (Nat.succ_pos c)) hle) he
    obtain ⟨r, er, hr, hgr⟩ := setLevels_ok v body ls e he hbody c (start + 1) (l.set start (v start))
      (Nat.add_right_comm start 1 c ▸ hle) ((List.length_set ..).trans hl)
      (fun j hj => (getD_set_ne _ _ _ _ (Nat.ne_of_gt hj)).trans (hg j (Nat.le_of_succ_le hj)))
    refine ⟨r, ?_, hr, fun j => ?_⟩
    · rw [foldUp_succ, hbody start l (Nat.lt_of_lt_of_le (Nat.lt_add_of_pos_right (Nat.succ_pos c)) hle) hl hg]
      exact er
    · rw [hgr j, getD_set]
      by_cases hj : j = start
      · subst hj
        rw [if_neg (fun x => Nat.lt_irrefl _ x.1), if_pos ⟨rfl, hs⟩, if_pos ⟨Nat.le_refl _, Nat.lt_add_of_pos_right (Nat.succ_pos c)⟩]
      · by_cases hr : start + 1 ≤ j ∧ j < start + 1 + c
        · rw [if_pos hr, if_pos ⟨Nat.le_of_succ_le hr.1, Nat.add_right_comm start 1 c ▸ hr.2⟩]
        · rw [if_neg hr, if_neg (fun x => hj x.1), if_neg fun x => hr
            ⟨Nat.lt_of_le_of_ne x.1 (Ne.symm hj), Nat.add_right_comm start 1 c ▸ x.2⟩]

theorem shiftLevels_ok (d cnt start : Nat) (ls : List Nat) (h : start + cnt ≤ ls.length) :
    ∃ ls', foldUp (fun i (ls : List Nat) => do let x ← lv ls i; setLv ls i (x + d)) cnt start ls = (Pure.pure ls' : M (List Nat)) ∧
      ls'.length = ls.length ∧
      ∀ j, ls'.getD j 0 = if start ≤ j ∧ j < start + cnt then ls.getD j 0 + d else ls.getD j 0 :=
  setLevels_ok (fun j => ls.getD j 0 + d) _ ls _ (Nat.le_refl _) (fun i l hi hl hg => by
    rw [lv_ok (hl ▸ hi), ← hg i (Nat.le_refl _)]; exact setLv_ok _ (hl ▸ hi)) cnt start ls h rfl (fun _ _ => rfl)

theorem offsetLevels_ok (OL : List Nat) (off cnt start : Nat) (ls : List Nat) (h : start + cnt ≤ ls.length)
    (hsrc : start + cnt ≤ OL.length) :
    ∃ ls', foldUp (fun lvl (ls : List Nat) => do let x ← lv OL lvl; setLv ls lvl (x + off)) cnt start ls =
        (Pure.pure ls' : M (List Nat)) ∧
      ls'.length = ls.length ∧
      ∀ j, ls'.getD j 0 = if start ≤ j ∧ j < start + cnt then OL.getD j 0 + off else ls.getD j 0 :=
  setLevels_ok (fun j => OL.getD j 0 + off) _ ls _ h (fun i l hi hl _ => by
    rw [lv_ok (Nat.lt_of_lt_of_le hi hsrc)]; exact setLv_ok _ (hl ▸ Nat.lt_of_lt_of_le hi h)) cnt start ls (Nat.le_refl _) rfl
    (fun _ _ => rfl)

theorem copyLevels_ok (src : List Nat) : ∀ (cnt start : Nat) (ls : List Nat), start + cnt ≤ ls.length →
    start + cnt ≤ src.length →
    ∃ ls', foldUp (fun i (ls : List Nat) => do let x ← lv src i; setLv ls i x) cnt start ls = (Pure.pure ls' : M (List Nat)) ∧
      ls'.length = ls.length ∧
      ∀ j, ls'.getD j 0 = if start ≤ j ∧ j < start + cnt then src.getD j 0 else ls.getD j 0 :=
  offsetLevels_ok src 0

theorem vstep_destroyRange {β} {S} {h : Heap} {b n start cnt : Nat} {f : Unit → M β} {Q : β → Heap → Prop}
    (hc : HasCells h b n) (hle : start + cnt ≤ n) (hnr : On .obj h b start (start + cnt))
    (hS : S b = true)
    (s : ∀ h', SameBut h h' (fun b' j => b' = b ∧ start ≤ j ∧ j < start + cnt) →
          On .raw h' b start (start + cnt) → SafeF S h' (f () h') Q) :
    SafeF S h ((loopUp (fun i => destroy b i) cnt start >>= f) h) Q :=
  -- `vloop_cells'` runs `stop - start` rounds: with `stop = start + cnt` the cast makes that `cnt`
  (Nat.add_sub_cancel_left (n := start) (m := cnt)) ▸ vloop_cells' (b := b) (Post := fun _ _ s => s = .raw) (Nat.le_add_right start cnt)
    (fun i _ h1 h2 sb _ hs => destroy_cell (sb.cells _ _ hc) (Nat.lt_of_lt_of_le h2 hle) (hs ▸ hnr i h1 h2) hS) s

theorem vstep_readRange {β} {S} {h : Heap} {b n start cnt : Nat} {f : Unit → M β} {Q : β → Heap → Prop}
    (hc : HasCells h b n) (hle : start + cnt ≤ n) (hl : LiveOn h b start (start + cnt))
    (s : SafeF S h (f () h) Q) :
    SafeF S h ((loopUp (fun i => do let _ ← read b i; Pure.pure ()) cnt start >>= f) h) Q := by
  have loop := TripleS.loopUp (n0 := 0) (S := S) (fun _ h' => h' = h)
    (fun i => do let _ ← read b i; Pure.pure ()) cnt start ?_
  · apply SafeF.bind_triple loop (Nat.zero_le _) rfl
    intro _ h1 e _
    subst e; exact s
  · intro i hi1 hi2 h' _ e
    subst e
    obtain ⟨v, hv⟩ := hl i hi1 hi2
    apply vstep_read hc (by omega) hv
    apply SafeF.pure
    rfl

theorem vstep_copyRange {β} {S} {h : Heap} {sb sn db dn start cnt : Nat} (g : Nat → Nat) {f : Unit → M β}
    {Q : β → Heap → Prop}
    (hcs : HasCells h sb sn) (hcd : HasCells h db dn) (hne : sb ≠ db) (hle : start + cnt ≤ dn)
    (hsrc : ∀ j, start ≤ j → j < start + cnt → g j < sn ∧ ∃ v, stAt h sb (g j) = .live v)
    (hraw : On .raw h db start (start + cnt)) (hS : S db = true)
    (s : ∀ h', SameBut h h' (fun b' j => b' = db ∧ start ≤ j ∧ j < start + cnt) →
          LiveOn h' db start (start + cnt) → SafeF S h' (f () h') Q) :
    SafeF S h ((loopUp (fun i => copyConstruct sb (g i) db i) cnt start >>= f) h) Q := by
  -- the cast as in `vstep_destroyRange`
  refine (Nat.add_sub_cancel_left (n := start) (m := cnt)) ▸ vloop_cells' (b := db) (Post := fun _ _ s => ∃ v, s = .live v) (Nat.le_add_right start cnt)
    (fun i h1 hi1 hi2 sb1 _ hs => ?_) s
  obtain ⟨hg, v, hv⟩ := hsrc i hi1 hi2
  apply SafeF.last
  apply vstep_copyConstruct (sb1.cells _ _ hcs) hg ((sb1.st sb (g i) fun x => hne x.1).trans hv) (sb1.cells _ _ hcd)
    (Nat.lt_of_lt_of_le hi2 hle) (hs.trans (hraw i hi1 hi2)) hS
  exact fun h2 sb2 hs2 => SafeF.pure ⟨sb2, v, hs2⟩

theorem vstep_moveConstructRange {β} {S} {h : Heap} {sb sn db dn first last dstFirst : Nat} {f : Unit → M β}
    {Q : β → Heap → Prop}
    (hcs : HasCells h sb sn) (hcd : HasCells h db dn) (hne : sb ≠ db) (hfl : first ≤ last) (hls : last ≤ sn)
    (hld : dstFirst + (last - first) ≤ dn)
    (hsrc : LiveOn h sb first last)
    (hraw : On .raw h db dstFirst (dstFirst + (last - first)))
    (hSs : S sb = true) (hSd : S db = true)
    (s : ∀ h', SameBut h h' (fun b' j => (b' = sb ∧ first ≤ j ∧ j < last) ∨
                                        (b' = db ∧ dstFirst ≤ j ∧ j < dstFirst + (last - first))) →
          On .raw h' sb first last →
          LiveOn h' db dstFirst (dstFirst + (last - first)) →
          SafeF S h' (f () h') Q) :
    SafeF S h ((moveConstructRange sb first last db dstFirst >>= f) h) Q := by
  unfold moveConstructRange
  -- the destination cells of the rounds still to come are raw, those of the rounds done are live
  refine vloop_cells (b := sb) (N := fun b' j => b' = db ∧ dstFirst ≤ j ∧ j < dstFirst + (last - first))
    (Post := fun _ _ s => s = .raw)
    (J := fun k h' => LiveOn h' db dstFirst (dstFirst + (k - first)) ∧
      On .raw h' db (dstFirst + (k - first)) (dstFirst + (last - first)))
    hfl (fun _ x => hne x.1) (by rw [Nat.sub_self]; exact ⟨On.nil (c := .live) (Nat.le_refl _), hraw⟩) ?_
    fun h' sb' hp hl => s h' sb' hp hl.1
  · intro i h1 hi1 hi2 sb1 _ hs ⟨hl, hr⟩
    obtain ⟨v, hv⟩ := hsrc i hi1 hi2
    have hd : dstFirst + (i - first) < dstFirst + (last - first) := Nat.add_lt_add_left (Nat.sub_lt_sub_right hi1 hi2) _
    apply vstep_moveConstruct (sb1.cells _ _ hcs) (Nat.lt_of_lt_of_le hi2 hls) (hs.trans hv) (sb1.cells _ _ hcd)
      (Nat.lt_of_lt_of_le hd hld) (hr _ (Nat.le_refl _) hd) hSs hSd
    intro h2 sb2 hd2 hs2
    have hne2 : ∀ j, ¬ ((db = sb ∧ j = i) ∨ (db = db ∧ j = dstFirst + (i - first))) ↔ j ≠ dstFirst + (i - first) :=
      fun j => ⟨fun x y => x (Or.inr ⟨rfl, y⟩), fun x y => y.elim (fun y => hne y.1.symm) (fun y => x y.2)⟩
    refine (destroy_cell (sb2.cells _ _ (sb1.cells _ _ hcs)) (Nat.lt_of_lt_of_le hi2 hls) (by rw [hs2]; exact nofun) hSs).mono ?_
    intro _ h3 ⟨sb3, hs3⟩
    have hd3 : ∀ j, stAt h3 db j = stAt h2 db j := fun j => sb3.st db j fun x => hne x.1.symm
    have sb23 : SameBut h1 h3 (fun b' j => (b' = sb ∧ j = i) ∨ (b' = db ∧ dstFirst ≤ j ∧ j < dstFirst + (last - first))) :=
      sb2.trans sb3 (fun _ _ x => x.imp id fun ⟨y1, y2⟩ => ⟨y1, y2 ▸ Nat.le_add_right _ _, y2 ▸ hd⟩) (fun _ _ x => Or.inl x)
    refine ⟨sb23, hs3, ?_, ?_⟩
    · rw [Nat.succ_sub hi1, Nat.add_succ]
      refine LiveOn.append (fun j a c => ?_) (LiveOn.single ⟨v, (hd3 _).trans hd2⟩)
      rw [hd3, sb2.st db j ((hne2 j).2 (Nat.ne_of_lt c))]
      exact hl j a c
    · intro j a c
      rw [Nat.succ_sub hi1, Nat.add_succ] at a
      rw [hd3, sb2.st db j ((hne2 j).2 (Nat.ne_of_gt a))]
      exact hr j (Nat.le_of_succ_le a) c

theorem vstep_resetSortedView {β} {S} {h : Heap} {s : Sketch} {f : Sketch → M β} {Q : β → Heap → Prop}
    (hv : ∀ v, s.view = some v → HasCells h v 1 ∧ stAt h v 0 = .raw ∧ S v = true)
    (k : ∀ h', (∀ b, s.view ≠ some b → SameOn h h' b) → h'.ids = h.ids.filter (fun x => s.view != some x) →
          h'.next = h.next → SafeF S h' (f { s with view := none } h') Q) :
    SafeF S h ((resetSortedView s >>= f) h) Q := by
  obtain ⟨self, kk, m, minK, nl, srt, n, ls, items, sz, view⟩ := s
  unfold resetSortedView
  cases view with
  | none => exact k h (fun b _ => SameOn.refl _ _) (List.filter_eq_self.2 fun a _ => rfl).symm rfl
  | some v =>
    simp only [M.bind_assoc]
    obtain ⟨hc, hr, hS⟩ := hv v rfl
    apply vstep_dealloc hc (fun i hi => Nat.lt_one_iff.1 hi ▸ hr) hS
    intro h' so hid hnx
    refine k h' (fun b hb => so b fun e => hb (e ▸ rfl)) (hid.trans (List.filter_congr fun x _ => ?_)) hnx
    by_cases hx : x = v
    · rw [hx, bne_self_eq_false, bne_self_eq_false]
    · rw [bne_iff_ne.2 hx, bne_iff_ne.2 fun e => hx (Option.some.inj e).symm]

end DS.Life.Kll
