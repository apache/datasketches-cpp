/- C06, obligations over the GENERATED tables beyond Gen/BoundsTables.lean: further per-table SEMANTIC facts that no theorem consumes but that
   structural damage of a table breaks (swapped / shifted rows, a dropped or duplicated entry, a sign, a wrong power of two,
   a wrong harmonic number, …).  Re-proved by `decide +kernel` whenever the headers change. -/
import DSProofs.Gen.BoundsTables
namespace DS.Bounds.Gen
open DSGen.Bounds

/-! helper definitions of the obligations below (no theorem of C06 uses them) -/

/-- adjacent elements related -/
def adj {α} (r : α → α → Bool) : List α → Bool
  | a :: b :: t => r a b && adj r (b :: t)
  | _ => true

/-- the constant factor of HllArray::getHllRawEstimate for lgK -/
def correctionFactor (lgK : Nat) : Int × Int :=      -- as a fraction
  if lgK = 4 then (673, 1000) else if lgK = 5 then (697, 1000) else if lgK = 6 then (709, 1000)
  else (7213 * 1000 * 2 ^ lgK, 10000 * (1000 * 2 ^ lgK + 1079))   -- 0.7213 / (1 + 1.079 / k)

/-- the harmonic number H_n = Σ_{j=1..n} 1/j as a fraction -/
def harmonicFrac : Nat → Int × Int
  | 0 => (0, 1)
  | n + 1 => let h := harmonicFrac n; (h.1 * (n + 1) + h.2, h.2 * (n + 1))

def signs (r : List Lit) : List Bool := r.map qpos
def iconRow (i : Nat) : List Lit := (iconCoefficients.drop ((iconPolyDegree + 1) * i)).take (iconPolyDegree + 1)
def iconRows : Nat := iconMaxLgK - iconMinLgK + 1

/-! fractions as pairs (numerator, denominator) with positive denominators -/
def fmul (a b : Int × Int) : Int × Int := (a.1 * b.1, a.2 * b.2)
def fadd (a b : Int × Int) : Int × Int := (a.1 * b.2 + b.1 * a.2, a.2 * b.2)
def flt (a b : Int × Int) : Bool := decide (a.1 * b.2 < b.1 * a.2)     -- denominators positive
def fle (a b : Int × Int) : Bool := decide (a.1 * b.2 ≤ b.1 * a.2)
def fr (t : Lit) : Int × Int := (num t, den t)
/-- exact rational evaluation of the ICON polynomial branch in units of k: est/k at c/k = r (no clamp) -/
def iconPolyOverK (row : List Lit) (r : Int × Int) : Int × Int :=
  let x := fmul r (1, 2)
  let tot := match row.reverse with
    | [] => (0, 1)
    | c :: cs => cs.foldl (fun acc c => fadd (fmul acc x) (fr c)) (fr c)
  fmul (fmul r tot) (fadd (1, 1) (fmul (fmul (fmul r r) r) (1000000, 66774757)))

/-- integer Horner evaluation on a common denominator: with `cs` = N_deg … N_0 (highest first),
    `hornerScaled a b cs N_deg b` = Σ N_i a^i b^(deg−i) = L·b^deg·P(a/b) where N_i = L·c_i -/
def hornerScaled (a b : Int) : List Int → Int → Int → Int
  | [], acc, _ => acc
  | c :: cs, acc, bp => hornerScaled a b cs (acc * a + c * bp) (bp * b)
def rowLcm (row : List Lit) : Nat := row.foldl (fun l t => Nat.lcm l t.2.2) 1
/-- L·16^deg·P(j/16) for the coefficient row `row` -/
def iconScaledPoly (row : List Lit) (j : Nat) : Int :=
  let L := rowLcm row
  match (row.map fun t => t.2.1 * ((L / t.2.2 : Nat) : Int)).reverse with
  | [] => 0
  | c :: cs => hornerScaled j 16 cs c 16

def ipow (a : Int × Int) (n : Nat) : Int × Int := (a.1 ^ n, a.2 ^ n)

theorem all_denPos :
    ((deltaOfNumStdDevs ++ lbEquivTable ++ ubEquivTable ++ cubicXArr ++ cubicYArr ++ harmonicTable ++ relErrHipLb ++ relErrHipUb
      ++ relErrNonHipLb ++ relErrNonHipUb ++ iconCoefficients ++ invPow2 ++ kxpByteTable
      ++ [eulerMascheroni, hllHipRseFactor, hllNonHipRseFactor, couponRseFactor, couponRse, iconErrorConstant, hipErrorConstant]
      ++ DS.Bounds.bodyLits).all denPos
     && compositeXArr.all (fun r => r.all denPos)) = true := by
  simp only [List.all_append]
  decide +kernel

/-! ### binomial_bounds.hpp -/

/-- delta_of_num_std_devs: 1/2 ≥ δ0 > δ1 > δ2 > δ3 > 0 (tail probabilities of 0,1,2,3 standard deviations) -/
theorem delta_decreasing :
    (decide (deltaOfNumStdDevs.length = 4) && adj (fun a b => qlt b a) deltaOfNumStdDevs
      && qpos (at' deltaOfNumStdDevs 3) && qle (at' deltaOfNumStdDevs 0) DS.Bounds.c0_5) = true := by decide +kernel

/-- lb_equiv_table / ub_equiv_table: each column is monotone in the sample count n (lb: 1-sigma column increasing towards 1, 2- and 3-sigma columns
    decreasing; ub: all three increasing): a swapped / duplicated / shifted row breaks this -/
theorem lbEquiv_columns :
    (adj qlt (column lbEquivTable 0 1 121) && adj (fun a b => qlt b a) (column lbEquivTable 1 1 121)
      && adj (fun a b => qlt b a) (column lbEquivTable 2 1 121)) = true := by
  have hl : 121 ≤ (rows3 lbEquivTable).length := by decide +kernel
  simp only [column_eq_rows3, hl, Nat.reduceLT]
  decide +kernel

theorem ubEquiv_columns :
    (adj qlt (column ubEquivTable 0 1 121) && adj qlt (column ubEquivTable 1 1 121) && adj qlt (column ubEquivTable 2 1 121)) = true := by
  have hl : 121 ≤ (rows3 ubEquivTable).length := by decide +kernel
  simp only [column_eq_rows3, hl, Nat.reduceLT]
  decide +kernel

/-! ### HLL -/

/-- coupon-mode interpolation tables: x strictly increasing from 0, y strictly increasing, y ≥ x (estimate ≥ coupon count) -/
theorem cubic_tables :
    (decide (cubicXArr.length = cubicNumEntries) && decide (cubicYArr.length = cubicNumEntries) && decide (4 ≤ cubicNumEntries)
      && adj qlt cubicXArr && adj qlt cubicYArr && (List.zipWith qle cubicXArr cubicYArr).all id
      && decide (num (at' cubicXArr 0) = 0) && decide (num (at' cubicYArr 0) = 0)) = true := by decide +kernel

/-- composite-estimator x tables: one row per lgK, each strictly increasing and positive -/
theorem composite_rows :
    (decide (compositeXArr.length = hllMaxLgK - hllMinLgK + 1) && decide (compositeYStrides.length = compositeXArr.length)
      && compositeXArr.all (fun r => decide (r.length = compositeNumXArrValues) && adj qlt r && qpos (at' r 0))
      && compositeYStrides.all (fun s => decide (0 < s)) && adj (fun a b => decide (a ≤ b)) compositeYStrides) = true := by decide +kernel

/-- the last x of each row is the raw estimate at which the interpolated value is yStride·(len−1): they agree within 0.1 % -/
theorem composite_endpoints :
    (List.zipWith (fun (r : List Lit) (s : Nat) =>
        let last := at' r (r.length - 1)
        let y : Int := (s * (r.length - 1) : Nat)
        decide ((y * den last - num last).natAbs * 1000 < (num last).natAbs)) compositeXArr compositeYStrides).all id = true := by
  decide +kernel

/-- the first x of row lgK is the raw HLL estimate of the empty sketch, correctionFactor(k)·k, within 10⁻⁶ -/
theorem composite_first_is_empty_raw_estimate :
    ((List.range compositeXArr.length).all fun i =>
        let r := compositeXArr.getD i []
        let x0 := at' r 0
        let cf := correctionFactor (i + hllMinLgK)
        let k : Int := 2 ^ (i + hllMinLgK)
        -- | x0 − cf·k | · 10⁶ < cf·k
        decide ((num x0 * cf.2 - cf.1 * k * den x0).natAbs * 1000000 < (cf.1 * k * den x0).natAbs)) = true := by decide +kernel

/-- harmonic-number table: entry i is H_i = Σ_{j=1..i} 1/j within a relative 2⁻⁵⁰ -/
theorem harmonic_exact :
    (decide (harmonicTable.length = numExactHarmonic) &&
      (List.range harmonicTable.length).all fun i =>
        let t := at' harmonicTable i
        let h := harmonicFrac i
        decide ((num t * h.2 - h.1 * den t).natAbs * 2 ^ 50 ≤ (h.1 * den t).natAbs)) = true := by decide +kernel

/-- the magnitudes of the relative-error tables shrink with lgK, column by column -/
theorem relErr_shrinks_with_lgK :
    ((List.range 3).all fun c =>
      adj (fun a b => qlt b a) (column relErrHipLb c 0 9) && adj (fun a b => qlt b a) (column relErrNonHipLb c 0 9)
      && adj qlt (column relErrHipUb c 0 9) && adj qlt (column relErrNonHipUb c 0 9)) = true := by decide +kernel

/-- HIP is never less accurate than the composite estimator: |HIP rel err| < |non-HIP rel err| entry by entry -/
theorem relErr_hip_tighter :
    ((List.zipWith qlt relErrHipLb relErrNonHipLb).all id && (List.zipWith qlt relErrNonHipUb relErrHipUb).all id) = true := by
  decide +kernel

/-- INVERSE_POWERS_OF_2[i] rounds to the double 2^-i -/
theorem invPow2_is_pow2 :
    (decide (invPow2.length = 256) && (List.range 256).all fun i => decide ((at' invPow2 i).1 = (1023 - i) * 2 ^ 52)) = true := by
  have hl : invPow2.length = 256 := by decide +kernel
  exact Bool.and_eq_true _ _ ▸ ⟨decide_eq_true hl,
    all_range_at' (fun i x => decide (x.1 = (1023 - i) * 2 ^ 52)) hl (by decide +kernel)⟩

/-! ### CPC -/

/-- KXP_BYTE_TABLE[b] = Σ_{j<8, bit j of b clear} 2^-(j+1), exactly -/
theorem kxpByte_exact :
    (decide (kxpByteTable.length = 256) &&
      (List.range 256).all fun b =>
        let t := at' kxpByteTable b
        let s : Nat := ((List.range 8).filter (fun j => (b >>> j) % 2 == 0)).foldl (fun acc j => acc + 2 ^ (7 - j)) 0
        decide (num t * 256 = (s : Int) * den t)) = true := by
  have hl : kxpByteTable.length = 256 := by decide +kernel
  exact Bool.and_eq_true _ _ ▸ ⟨decide_eq_true hl, all_range_at' (fun b t =>
    let s : Nat := ((List.range 8).filter (fun j => (b >>> j) % 2 == 0)).foldl (fun acc j => acc + 2 ^ (7 - j)) 0
    decide (num t * 256 = (s : Int) * den t)) hl (by decide +kernel)⟩

/-- ICON polynomial table: one row of degree+1 coefficients per lgK; every row has the sign pattern of the first one,
    c₀ ∈ (0.98, 1), c₁ ∈ (0.33, 0.334) -/
theorem icon_shape :
    (decide (iconCoefficients.length = (iconPolyDegree + 1) * iconRows) && decide (iconMinLgK = 4) && decide (14 < iconMaxLgK) &&
      (List.range iconRows).all fun i =>
        let r := iconRow i
        decide (signs r = signs (iconRow 0)) && qlt (0, 98, 100) (at' r 0) && qlt (at' r 0) DS.Bounds.c1
        && qlt (0, 33, 100) (at' r 1) && qlt (at' r 1) (0, 334, 1000)) = true := by decide +kernel

/-- on the grid c = j·k/8 up to the exponential threshold the polynomial estimate
    c·P(c/2k)·(1 + (c/k)³/66.774757) is ≥ c (the clamp is inactive) and strictly increasing in c.
    With r = j/8: est/k = (j/8)·T_j/(L·16^deg)·(66774757·512 + 10⁶·j³)/(66774757·512), T_j = iconScaledPoly row j. -/
theorem icon_polynomial_monotone_on_grid :
    ((List.range iconRows).all fun i =>
      let row := iconRow i
      let top := if i + iconMinLgK < 14 then 45 else 44          -- 45/8 ≤ 5.7, 44/8 ≤ 5.6
      let term : Nat → Int := fun j => (66774757 * 512 + 1000000 * j ^ 3 : Nat)
      let w := (List.range top).map fun j => ((j + 1 : Nat) : Int) * iconScaledPoly row (j + 1) * term (j + 1)
      let one : Int := (rowLcm row * 16 ^ iconPolyDegree * (66774757 * 512) : Nat)
      adj (fun a b => decide (a < b)) w
      && ((List.range top).all fun j => decide (one ≤ iconScaledPoly row (j + 1) * term (j + 1)))) = true := by decide +kernel

/-- at the threshold c = 5.7k (5.6k for lgK ≥ 14) the polynomial branch meets the exponential branch
    0.7940236163830469·k·2^(c/k) from below within 0.1 %:  (P/γ)^10 ≤ 2^57 (2^56) ≤ (P/(0.999γ))^10 -/
theorem icon_continuous_at_threshold :
    ((List.range iconRows).all fun i =>
      let small := decide (i + iconMinLgK < 14)
      let thr : Int × Int := if small then (57, 10) else (56, 10)
      let p := iconPolyOverK (iconRow i) thr
      let g := fr DS.Bounds.cIconExp
      let two : Int × Int := ((2 : Int) ^ (if small then 57 else 56), 1)
      let a := fmul p (g.2, g.1)                       -- P/γ
      let b := fmul a (1000, 999)                      -- P/(0.999γ)
      fle (ipow a 10) two && fle two (ipow b 10)) = true := by decide +kernel

end DS.Bounds.Gen
