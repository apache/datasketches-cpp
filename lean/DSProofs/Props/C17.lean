/-
C17 — t-digest conserves weight, keeps exact extremes, is monotone.

The property theorems, the definitions their statements need (`ScaleHyp`, `td_quantile_mono_full`, `tunCurrent`,
`tunAsCoded`, the witnesses) and their non-vacuity examples (helper lemmas: Lemmas/TDigest*.lean).
Model: DSModel/TDigest/Model.lean — one definition over the ops-only numeric classes of DSModel/TDigest/Num.lean,
executed with Float / Float32 and compared bit for bit with tdigest_impl.hpp by `./check C17`, and instantiated
here with `Rat` (exact arithmetic of an ordered field).  Floating-point rounding is NOT modelled.

Quantifiers.  `h : Hist α` ranges over ALL finite histories: a fresh digest (any k), updates with any values,
compress points anywhere (explicit `compress()`, or the side effect of a query; for get_rank and get_quantile the
state they leave is `td_query_state`), and merges of two arbitrary histories (hence every merge tree).
`tun : Tun` ranges over ALL values of the header constants (buffer multiplier, capacity fudge, …; the values in
force are regenerated into DSGen/TDigest.lean on every run), including BOTH shapes of `centroid::add`
(`Tun.caddSafe`: plain `mean_ += delta`, or the overflow-safe shape that blends with the weight ratio when `delta`
is not finite).  Over `Rat` every value is finite, so the two shapes coincide (`cadd_mean`): the fallback exists
only in the executed Float / Float32 instances, where it is tied to the code bit for bit, not proved.
`sc : Scale Rat` is an ARBITRARY scale function subject only to `ScaleOK sc` (`max 1 normalizer = 0`: the
cluster-size limit vanishes at q = 1), discharged for the code's k2 shape `q·(1−q)/normalizer` with any normalizer
(`scaleHyp_k2_shape`) and for the model's `k2` itself (`scaleOK_k2`).  That hypothesis is what protects
the LAST centroid (the code's `std::distance(buffer.end(), it) != 1` is vacuously true) and, through the first /
last centroid being input singletons, what makes min/max exact across `merge(other)` (which never reads
`other.min_/max_`).  Only `limit 1 = 0` is needed; DESIGN's stronger triple hypothesis implies it (`ScaleHyp.ok`).

Full strength: td_weight and td_query_state (every numeric instance, NaN included), td_minmax_exact,
td_centroids_sorted, td_means_within, td_extremes_singleton(_compress), td_rank_range_mono, td_cdf_pmf,
td_cdf_validates.
Quantile: range, q(0) = min, q(1) = max proved for both argument orders of the interpolation call
(`td_quantile_mono_partial`).  Two trees are spoken of below.  The PINNED COMMIT of /repo, the tree in which the finding was
made, calls `weighted_average(mean[i], w1, mean[i+1], w2)` (`tunAsCoded`, `Tun.quantW1W2 = true`): for that order
monotonicity in the rank is FALSE (`td_quantile_mono_full_false`; known_findings.json entry `quantile-not-monotone`,
proposed_fixes/C17-quantile-interpolation-weights-swapped.patch).  The HEADERS AS THEY ARE NOW (the finding is fixed in /repo) call
`weighted_average(mean[i], w2, mean[i+1], w1)`, the order of the reference implementation ("reference order",
`Tun.quantW1W2 = false`): for it monotonicity is PROVED at full strength (`td_quantile_mono_fixed`).  The translator reads
the order from the header on every run (`DSGen.tdigest_QUANTILE_WEIGHTS_AS_W1_W2`, which `tunCurrent` takes);
`td_quantile_mono_current` is the full statement for the headers as they are now: with the order of the pinned commit it
does not check.
-/
import DSProofs.Lemmas.TDigestQuant
import DSProofs.Lemmas.TDigestCdf
import DSGen.TDigest
namespace DS.TDigest
open Num Conv

/-- DESIGN's hypothesis on the scale limit: 0 at both ends, non-negative inside (for a positive normalizer). -/
def ScaleHyp (sc : Scale Rat) : Prop :=
  (∀ nrm, sc.max 0 nrm = 0) ∧ (∀ nrm, sc.max 1 nrm = 0) ∧ (∀ q nrm, 0 ≤ q → q ≤ 1 → 0 < nrm → 0 ≤ sc.max q nrm)

/-- the theorems assume `ScaleOK`, the middle conjunct, alone -/
theorem ScaleHyp.ok {sc : Scale Rat} (h : ScaleHyp sc) : ScaleOK sc := h.2.1

/-- the code's K_2 shape `q * (1 - q) / normalizer` satisfies the hypothesis, whatever the normalizer function is
(the real one is `compression / (4·log(n/compression) + 24)`; `log` never enters). -/
theorem scaleHyp_k2_shape (nz : Rat → Rat → Rat) : ScaleHyp { normalizer := nz, max := fun q nrm => q * (1 - q) / nrm } := by
  refine ⟨fun nrm => by simp, fun nrm => by simp, fun q nrm h0 h1 hn => ?_⟩
  exact div_nonneg (mul_nonneg h0 (by linarith)) hn.le

/-- `k2` (the model's transcription of `scale_function`) instantiated at `Rat` -/
theorem scaleOK_k2 (zMul zAdd : Nat) : ScaleOK (k2 zMul zAdd : Scale Rat) := by
  intro nrm; simp [k2]

/-- total weight = number of accepted (non-NaN) values, across merges — for EVERY instance of the numeric classes
(no arithmetic law is used), in particular for the executed Float / Float32 instances with real NaN and infinities,
every scale function and all tunables; and `centroids_weight_` is the sum of the centroid weights. -/
theorem td_weight {α δ : Type} [Num α] [Num δ] [Conv α δ] (sc : Scale δ) (tun : Tun) (h : Hist α) :
    (h.eval sc tun).totalWeight = h.accepted.length ∧ (h.eval sc tun).cw = sumWeights (h.eval sc tun).cs :=
  ⟨(eval_weight sc tun h).2, (eval_weight sc tun h).1⟩

/-- the digest is empty exactly when nothing was accepted; otherwise min_ / max_ are accepted values and bound
all accepted values (merged operands included). -/
theorem td_minmax_exact (sc : Scale Rat) (hsc : ScaleOK sc) (tun : Tun) (h : Hist Rat) :
    ((h.eval sc tun).isEmpty = true ↔ h.accepted = []) ∧
    (h.accepted ≠ [] →
      ((h.eval sc tun).min ∈ h.accepted ∧ ∀ v ∈ h.accepted, (h.eval sc tun).min ≤ v) ∧
      ((h.eval sc tun).max ∈ h.accepted ∧ ∀ v ∈ h.accepted, v ≤ (h.eval sc tun).max)) :=
  ⟨eval_isEmpty_iff sc hsc tun h, fun hA => eval_extremes sc hsc tun h (eval_nonempty sc tun h hA)⟩

/-- the centroid list is sorted by mean -/
theorem td_centroids_sorted (sc : Scale Rat) (hsc : ScaleOK sc) (tun : Tun) (h : Hist Rat) :
    (h.eval sc tun).cs.Pairwise (fun a b => a.mean ≤ b.mean) :=
  (inv_eval sc hsc tun h).sorted

/-- every centroid mean (and every buffered value) lies in [min, max]; every centroid weight is ≥ 1 -/
theorem td_means_within (sc : Scale Rat) (hsc : ScaleOK sc) (tun : Tun) (h : Hist Rat) :
    (∀ c ∈ (h.eval sc tun).cs, (h.eval sc tun).min ≤ c.mean ∧ c.mean ≤ (h.eval sc tun).max ∧ 1 ≤ c.weight) ∧
    (∀ v ∈ (h.eval sc tun).buf, (h.eval sc tun).min ≤ v ∧ v ≤ (h.eval sc tun).max) :=
  have i := inv_eval sc hsc tun h
  ⟨fun c hc => ⟨i.csLo c hc, i.csHi c hc, i.pos c hc⟩, fun v hv => ⟨i.bufLo v hv, i.bufHi v hv⟩⟩

/-- In every reachable state the first and the last centroid have weight 1; once the buffer is
empty (after every compress()/merge, hence inside every query) the first centroid is exactly (min, 1) and the last
exactly (max, 1), and a digest holding ≥ 2 values has ≥ 2 centroids.  Consequences (see Lemmas/TDigestRankState,
TDigestQuant): the weight > 1 tail branches of get_rank / get_quantile and the code after get_quantile's loop are
unreachable from updates and merges (they are reachable only from foreign images, which C17 does not quantify over). -/
theorem td_extremes_singleton (sc : Scale Rat) (hsc : ScaleOK sc) (tun : Tun) (h : Hist Rat) :
    (∀ c, (h.eval sc tun).cs.head? = some c → c.weight = 1) ∧
    (∀ c, (h.eval sc tun).cs.getLast? = some c → c.weight = 1) ∧
    ((h.eval sc tun).buf = [] → (h.eval sc tun).isEmpty = false →
      (h.eval sc tun).cs.head? = some ⟨(h.eval sc tun).min, 1⟩ ∧
      (h.eval sc tun).cs.getLast? = some ⟨(h.eval sc tun).max, 1⟩ ∧
      (2 ≤ (h.eval sc tun).totalWeight → 2 ≤ (h.eval sc tun).cs.length)) := by
  have i := inv_eval sc hsc tun h
  refine ⟨i.headW, i.lastW, fun hb hne => ?_⟩
  have hc := i.compressed hb hne
  obtain ⟨f, hf, hfm, hfw⟩ := hc.head
  obtain ⟨l, hl, hlm, hlw⟩ := hc.last
  refine ⟨?_, ?_, fun h2 => ?_⟩
  -- `f = ⟨f.mean, f.weight⟩` with `hfm : f.mean = min`, `hfw : f.weight = 1`; likewise `l`
  · rw [hf]; cases f; simp_all
  · rw [hl]; cases l; simp_all
  · have h1 := i.length_one_iff
    have := List.length_pos_iff.2 hc.ne
    rw [hb] at h1
    simp only [List.length_nil, Nat.add_zero] at h1
    omega

/-- the form of the invariant a query sees: after `compress()` of any non-empty history (merges included, being
histories) the centroid list starts with (min, 1) and ends with (max, 1). -/
theorem td_extremes_singleton_compress (sc : Scale Rat) (hsc : ScaleOK sc) (tun : Tun) (h : Hist Rat)
    (hne : h.accepted ≠ []) :
    ((Hist.compress h).eval sc tun).cs.head? = some ⟨((Hist.compress h).eval sc tun).min, 1⟩ ∧
    ((Hist.compress h).eval sc tun).cs.getLast? = some ⟨((Hist.compress h).eval sc tun).max, 1⟩ := by
  have hb : ((Hist.compress h).eval sc tun).buf = [] := (compress_inv sc hsc tun _ (inv_eval sc hsc tun h)).2.1
  have := (td_extremes_singleton sc hsc tun (Hist.compress h)).2.2 hb (eval_nonempty sc tun (Hist.compress h) hne)
  exact ⟨this.1, this.2.1⟩

/-- the only effect of a query on the digest is "nothing" or "compress()": the state after get_rank / get_quantile
is again the state of a history (for every numeric instance). -/
theorem td_query_state {α δ : Type} [Num α] [Num δ] [Conv α δ] (sc : Scale δ) (tun : Tun) (h : Hist α) (x : α) (r : δ) :
    ((getRank sc tun (h.eval sc tun) x).2 = h.eval sc tun ∨
     (getRank sc tun (h.eval sc tun) x).2 = (Hist.compress h).eval sc tun) ∧
    ((getQuantile sc tun (h.eval sc tun) r).2 = h.eval sc tun ∨
     (getQuantile sc tun (h.eval sc tun) r).2 = (Hist.compress h).eval sc tun) :=
  ⟨getRank_state sc tun _ x, getQuantile_state sc tun _ r⟩

/-- get_rank on a non-empty digest never throws, is 0 below min, 1 above max, lies in [0,1] and is non-decreasing
in the value (on an empty digest it throws: `none`). -/
theorem td_rank_range_mono (sc : Scale Rat) (hsc : ScaleOK sc) (tun : Tun) (h : Hist Rat) (hne : h.accepted ≠ []) :
    (∀ x, ∃ r, (getRank sc tun (h.eval sc tun) x).1 = some r ∧ 0 ≤ r ∧ r ≤ 1 ∧
        (x < (h.eval sc tun).min → r = 0) ∧ ((h.eval sc tun).max < x → r = 1)) ∧
    (∀ x y rx ry, x ≤ y → (getRank sc tun (h.eval sc tun) x).1 = some rx →
        (getRank sc tun (h.eval sc tun) y).1 = some ry → rx ≤ ry) := by
  have i := inv_eval sc hsc tun h
  have he := eval_nonempty sc tun h hne
  exact ⟨fun x => getRank_range sc hsc tun _ i he x,
         fun x y rx ry hxy hx hy => getRank_mono sc hsc tun _ i he x y hxy rx ry hx hy⟩

/-- the full statement about get_quantile: total on [0,1], inside [min,max], min at 0, max at 1, and
non-decreasing in the rank. -/
def td_quantile_mono_full (tun : Tun) : Prop :=
  ∀ (sc : Scale Rat), ScaleOK sc → ∀ (h : Hist Rat), h.accepted ≠ [] →
    (∀ r, 0 ≤ r → r ≤ 1 → ∃ q, (getQuantile sc tun (h.eval sc tun) r).1 = some q ∧
        (h.eval sc tun).min ≤ q ∧ q ≤ (h.eval sc tun).max ∧
        (r = 0 → q = (h.eval sc tun).min) ∧ (r = 1 → q = (h.eval sc tun).max)) ∧
    (∀ r1 r2 q1 q2, 0 ≤ r1 → r1 ≤ r2 → r2 ≤ 1 → (getQuantile sc tun (h.eval sc tun) r1).1 = some q1 →
        (getQuantile sc tun (h.eval sc tun) r2).1 = some q2 → q1 ≤ q2)

/-- PROVED PART (every `tun`, i.e. both argument orders of the `weighted_average` call): get_quantile never
throws for a rank in [0,1] on a non-empty digest, its value lies in [min, max], q(0) = min, q(1) = max.
MISSING w.r.t. `td_quantile_mono_full`: monotonicity in the rank — false for the argument order of the pinned commit of
/repo (`tunAsCoded`, `td_quantile_mono_full_false`), true for the reference order, which the headers have now
(`td_quantile_mono_fixed`). -/
theorem td_quantile_mono_partial (sc : Scale Rat) (hsc : ScaleOK sc) (tun : Tun) (h : Hist Rat) (hne : h.accepted ≠ []) :
    ∀ r, 0 ≤ r → r ≤ 1 → ∃ q, (getQuantile sc tun (h.eval sc tun) r).1 = some q ∧
        (h.eval sc tun).min ≤ q ∧ q ≤ (h.eval sc tun).max ∧
        (r = 0 → q = (h.eval sc tun).min) ∧ (r = 1 → q = (h.eval sc tun).max) := by
  have i := inv_eval sc hsc tun h
  have he := eval_nonempty sc tun h hne
  exact fun r h0 h1 => getQuantile_within sc hsc tun _ i he r h0 h1

/-- FULL STATEMENT for the reference argument order `weighted_average(mean[i], w2, mean[i+1], w1)` (every other
tunable arbitrary): this is the pinned commit of /repo with proposed_fixes/C17-quantile-interpolation-weights-swapped.patch
applied, and what the headers are now. -/
theorem td_quantile_mono_fixed (tun : Tun) (hq : tun.quantW1W2 = false) : td_quantile_mono_full tun := by
  intro sc hsc h hne
  have i := inv_eval sc hsc tun h
  have he := eval_nonempty sc tun h hne
  exact ⟨td_quantile_mono_partial sc hsc tun h hne,
    fun r1 r2 q1 q2 h0 h12 h1 e1 e2 => getQuantile_mono sc hsc tun hq _ i he r1 r2 h0 h12 h1 q1 q2 e1 e2⟩

/-- the headers as they are now: the constants AND the argument order of the interpolation call as regenerated into DSGen -/
def tunCurrent : Tun :=
  { bufMul := DSGen.tdigest_BUFFER_MULTIPLIER, fudgeThr := DSGen.tdigest_FUDGE_THRESHOLD,
    fudgeSmall := DSGen.tdigest_FUDGE_SMALL_K, fudgeLarge := DSGen.tdigest_FUDGE_LARGE_K,
    capMul := DSGen.tdigest_CAPACITY_K_MULT, comprMul := DSGen.tdigest_COMPRESSION_K_MULT,
    minK := DSGen.tdigest_MIN_K, caddSafe := DSGen.tdigest_CENTROID_ADD_OVERFLOW_SAFE,
    quantW1W2 := DSGen.tdigest_QUANTILE_WEIGHTS_AS_W1_W2 }

/-- FULL STATEMENT (range, q(0) = min, q(1) = max, monotone in the rank) for the headers as they are now -/
theorem td_quantile_mono_current : td_quantile_mono_full tunCurrent :=
  td_quantile_mono_fixed tunCurrent (by decide)

/-- the constants of the headers as they are now, but the interpolation call in the order the pinned commit of /repo has
it ("as coded" when the finding was made): `weighted_average(mean[i], w1, mean[i+1], w2)` -/
def tunAsCoded : Tun :=
  { bufMul := DSGen.tdigest_BUFFER_MULTIPLIER, fudgeThr := DSGen.tdigest_FUDGE_THRESHOLD,
    fudgeSmall := DSGen.tdigest_FUDGE_SMALL_K, fudgeLarge := DSGen.tdigest_FUDGE_LARGE_K,
    capMul := DSGen.tdigest_CAPACITY_K_MULT, comprMul := DSGen.tdigest_COMPRESSION_K_MULT,
    minK := DSGen.tdigest_MIN_K, caddSafe := DSGen.tdigest_CENTROID_ADD_OVERFLOW_SAFE, quantW1W2 := true }

/-- witness scale: limit 4·q·(1−q) (k2 shape, constant normalizer 1/4) -/
def witnessScale : Scale Rat := { normalizer := fun _ _ => 1 / 4, max := fun q nrm => q * (1 - q) / nrm }
/-- witness history: k = 10, values 1..6, one compress; under `witnessScale` the centroids are (1,1) (3,3) (5,1) (6,1) -/
def witnessHist : Hist Rat :=
  .compress (.update (.update (.update (.update (.update (.update (.new 10) 1) 2) 3) 4) 5) 6)

/-- with the argument order of the pinned commit of /repo (`tunAsCoded`) get_quantile is NOT non-decreasing:
q(5/12) = 5 > 11/3 = q(7/12). -/
theorem td_quantile_mono_full_false : ¬ td_quantile_mono_full tunAsCoded := by
  intro hfull
  have hsc : ScaleOK witnessScale := (scaleHyp_k2_shape _).ok
  have hq := (hfull witnessScale hsc witnessHist (by decide)).2 (5 / 12) (7 / 12) 5 (11 / 3)
    (by norm_num) (by norm_num) (by norm_num) (by decide +kernel) (by decide +kernel)
  norm_num at hq

/-- get_CDF (when it does not throw) returns the ranks of the split points ON THE DIGEST IT WAS CALLED ON (the
compress side effect of the first get_rank does not change any later rank) followed by 1; get_PMF returns the
successive differences of that CDF and sums to exactly 1. -/
theorem td_cdf_pmf (sc : Scale Rat) (hsc : ScaleOK sc) (tun : Tun) (h : Hist Rat) (pts : List Rat) :
    (∀ c s', getCDF sc tun (h.eval sc tun) pts = (some c, s') →
      c = pts.filterMap (fun x => (getRank sc tun (h.eval sc tun) x).1) ++ [1] ∧ c.length = pts.length + 1) ∧
    (∀ p s', getPMF sc tun (h.eval sc tun) pts = (some p, s') →
      p.sum = 1 ∧ ∃ c, (getCDF sc tun (h.eval sc tun) pts).1 = some c ∧ p = pmfOfCdf c) :=
  ⟨fun c s' hc => getCDF_spec sc hsc tun _ (inv_eval sc hsc tun h) pts c s' hc,
   fun p s' hp => getPMF_sum sc hsc tun _ (inv_eval sc hsc tun h) pts p s' hp⟩

/-- get_CDF / get_PMF validate the split points: NaN-free (vacuous over Rat) and strictly increasing, else throw. -/
theorem td_cdf_validates (sc : Scale Rat) (tun : Tun) (s : St Rat) (pts : List Rat)
    (hbad : ¬ pts.Pairwise (· < ·)) : (getCDF sc tun s pts).1 = none ∧ (getPMF sc tun s pts).1 = none := by
  simp [getPMF, getCDF, checkSplit_of_not_pairwise hbad]

/-- the witness history satisfies the hypotheses, and its digest is what the comment says -/
example : witnessHist.accepted = [1, 2, 3, 4, 5, 6] ∧
    (witnessHist.eval witnessScale tunAsCoded).cs.map (fun c => (c.mean, c.weight)) = [(1, 1), (3, 3), (5, 1), (6, 1)] ∧
    (witnessHist.eval witnessScale tunAsCoded).totalWeight = 6 := by decide +kernel

/-- a merge tree with ties and operands of different k: centroids (1,1) (2,1) (11/3,3) (9,1); ranks and quantiles on it -/
def exHist : Hist Rat :=
  .merge (.compress (.update (.update (.update (.new 10) 2) 2) 7)) (.update (.update (.compress (.update (.new 20) 9)) 1) 2)

example : exHist.accepted = [2, 2, 7, 9, 1, 2] ∧
    ((exHist.eval witnessScale tunAsCoded).min, (exHist.eval witnessScale tunAsCoded).max) = (1, 9) ∧
    (exHist.eval witnessScale tunAsCoded).buf = [] ∧
    (getRank witnessScale tunAsCoded (exHist.eval witnessScale tunAsCoded) 2).1 = some (1 / 4) ∧
    (getRank witnessScale tunAsCoded (exHist.eval witnessScale tunAsCoded) 0).1 = some 0 ∧
    (getQuantile witnessScale tunAsCoded (exHist.eval witnessScale tunAsCoded) 1).1 = some 9 := by decide +kernel

example : ScaleOK witnessScale := (scaleHyp_k2_shape _).ok

/-- the same witness with the reference argument order is monotone at the two ranks: q(5/12) = 3 ≤ 13/3 = q(7/12) -/
example : (getQuantile witnessScale { tunAsCoded with quantW1W2 := false } (witnessHist.eval witnessScale tunAsCoded) (5 / 12)).1 = some 3 ∧
    (getQuantile witnessScale { tunAsCoded with quantW1W2 := false } (witnessHist.eval witnessScale tunAsCoded) (7 / 12)).1 = some (13 / 3) := by
  decide +kernel

/-- CDF/PMF on the example: three split points, four buckets summing to 1 -/
example : (getCDF witnessScale tunAsCoded (exHist.eval witnessScale tunAsCoded) [1, 2, 8]).1 = some [1 / 12, 1 / 4, 41 / 48, 1] ∧
    (getPMF witnessScale tunAsCoded (exHist.eval witnessScale tunAsCoded) [1, 2, 8]).1 = some [1 / 12, 1 / 6, 29 / 48, 7 / 48] ∧
    (getCDF witnessScale tunAsCoded (exHist.eval witnessScale tunAsCoded) [2, 1]).1 = none := by decide +kernel

end DS.TDigest
