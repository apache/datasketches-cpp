/- L2 HLL_4 array: nibble packing, aux map, internalHll4Update and shiftToBiggerCurMin refine the register abstraction
(helper lemmas for Props/C03.lean `hll4_refines`). -/
import DSModel.Hll.Array4
import DSProofs.Lemmas.HllRegs
import DSProofs.Lemmas.ListAux
import Batteries.Data.List.Perm
namespace DS.Hll

theorem putNib_eq (b : Array Nat) (s v : Nat) : putNib b s v = b.setIfInBounds (s / 2)
    (if s % 2 = 0 then b.getD (s / 2) 0 / 16 * 16 + v % 16 else b.getD (s / 2) 0 % 16 + v % 16 * 16) :=
  (apply_ite (b.setIfInBounds (s / 2)) ..).symm

theorem putNib_size (b : Array Nat) (s v : Nat) : (putNib b s v).size = b.size := by
  rw [putNib_eq, Array.size_setIfInBounds]

theorem getNib_putNib_same (b : Array Nat) (s v : Nat) (hs : s / 2 < b.size) : getNib (putNib b s v) s = v % 16 := by
  unfold getNib
  rw [putNib_eq, getD_setIfInBounds_self hs]
  rcases Nat.mod_two_eq_zero_or_one s with hp | hp
  · rw [if_pos hp, if_neg (show ¬ s % 2 = 1 by rw [hp]; decide), Nat.mul_add_mod_self_right, Nat.mod_mod]
  · rw [if_neg (show ¬ s % 2 = 0 by rw [hp]; decide), if_pos hp, Nat.add_mul_div_right _ _ (by decide),
      Nat.div_eq_of_lt (Nat.mod_lt _ (by decide)), Nat.zero_add]

theorem mod_two_ne {s s' : Nat} (hb : s / 2 = s' / 2) (hne : s' ≠ s) : s % 2 ≠ s' % 2 := fun e =>
  hne (by rw [← Nat.div_add_mod s' 2, ← Nat.div_add_mod s 2, hb, e])

theorem getNib_putNib_ne (b : Array Nat) (s s' v : Nat) (hne : s' ≠ s) : getNib (putNib b s v) s' = getNib b s' := by
  unfold getNib
  rw [putNib_eq]
  by_cases hb : s / 2 = s' / 2 ∧ s / 2 < b.size
  · -- same byte, the other nibble
    rw [← hb.1, getD_setIfInBounds_self hb.2]
    rcases Nat.mod_two_eq_zero_or_one s with hp | hp
    · have hp' := (Nat.mod_two_eq_zero_or_one s').resolve_left fun h0 => mod_two_ne hb.1 hne (hp.trans h0.symm)
      rw [if_pos hp, if_pos hp', if_pos hp', Nat.mul_comm, Nat.mul_add_div (by decide), Nat.div_eq_of_lt (Nat.mod_lt _ (by decide)),
        Nat.add_zero]
    · have hp' : ¬ s' % 2 = 1 := fun h1 => mod_two_ne hb.1 hne (hp.trans h1.symm)
      rw [if_neg (show ¬ s % 2 = 0 by rw [hp]; decide), if_neg hp', if_neg hp', Nat.add_mul_mod_self_right, Nat.mod_mod]
  · by_cases hsz : s / 2 < b.size
    · rw [getD_setIfInBounds_ne fun h => hb ⟨h, hsz⟩]
    · rw [Array.setIfInBounds_eq_of_size_le (Nat.le_of_not_lt hsz)]

theorem getD_lt_256 {b : Array Nat} (hb : ∀ i, i < b.size → b.getD i 0 < 256) (i : Nat) : b.getD i 0 < 256 := by
  by_cases h : i < b.size
  · exact hb i h
  · rw [Array.getD_eq_getD_getElem?, Array.getElem?_eq_none (Nat.le_of_not_lt h)]; decide

theorem getNib_lt (b : Array Nat) (s : Nat) (hb : ∀ i, i < b.size → b.getD i 0 < 256) : getNib b s < 16 := by
  unfold getNib
  split
  · exact Nat.div_lt_of_lt_mul (getD_lt_256 hb _)
  · exact Nat.mod_lt _ (by decide)

theorem nib_byte_lt {q r : Nat} (hq : q < 16) (hr : r < 16) : q * 16 + r < 256 := by omega

theorem putNib_bytes_lt (b : Array Nat) (s v : Nat) (hb : ∀ i, i < b.size → b.getD i 0 < 256) :
    ∀ i, i < (putNib b s v).size → (putNib b s v).getD i 0 < 256 := by
  intro i hi
  rw [putNib_eq] at hi ⊢
  rw [Array.size_setIfInBounds] at hi
  by_cases he : s / 2 = i
  · rw [he, getD_setIfInBounds_self hi]
    have h16 : ∀ x, x % 16 < 16 := fun x => Nat.mod_lt x (by decide)
    by_cases hp : s % 2 = 0
    · rw [if_pos hp]; exact nib_byte_lt (Nat.div_lt_of_lt_mul (hb i hi)) (h16 v)
    · rw [if_neg hp, Nat.add_comm]; exact nib_byte_lt (h16 v) (h16 _)
  · rw [getD_setIfInBounds_ne he]; exact hb i hi

def H4.ents (h : H4) : List (Nat × Nat) := match h.aux with | some a => a.ents | none => []

def entsOf (na : Option Aux) : List (Nat × Nat) := match na with | some a => a.ents | none => []

theorem H4.ents_eq_entsOf (h : H4) : h.ents = entsOf h.aux := rfl

theorem ents_uniq : ∀ {l : List (Nat × Nat)}, (l.map (·.1)).Nodup → ∀ {s v w : Nat}, (s, v) ∈ l → (s, w) ∈ l → v = w
  | [], _, _, _, _, hv, _ => by cases hv
  | e :: t, hn, s, v, w, hv, hw => by
    rw [List.map_cons, List.nodup_cons] at hn
    rcases List.mem_cons.1 hv with hv | hv <;> rcases List.mem_cons.1 hw with hw | hw
    · exact (Prod.mk.inj (hv.trans hw.symm)).2
    · exact absurd (List.mem_map.2 ⟨(s, w), hw, by rw [← hv]⟩) hn.1
    · exact absurd (List.mem_map.2 ⟨(s, v), hv, by rw [← hw]⟩) hn.1
    · exact ents_uniq hn.2 hv hw

theorem Aux.find_some_iff {a : Aux} (hn : (a.ents.map (·.1)).Nodup) {slot v : Nat} :
    a.find slot = some v ↔ (slot, v) ∈ a.ents := by
  unfold Aux.find
  rw [Option.map_eq_some_iff]
  have key : ∀ e, a.ents.find? (·.1 = slot) = some e → (slot, e.2) ∈ a.ents := fun e he => by
    have h1 : e.1 = slot := by simpa using List.find?_some he
    rw [← h1]; exact List.mem_of_find?_eq_some he
  constructor
  · rintro ⟨e, he, rfl⟩; exact key e he
  · intro hm
    cases hf : a.ents.find? (·.1 = slot) with
    | none => exact absurd (decide_eq_true rfl) (List.find?_eq_none.1 hf _ hm)
    | some e => exact ⟨e, rfl, ents_uniq hn (key e hf) hm⟩

theorem Aux.find_none_iff {a : Aux} {slot : Nat} : a.find slot = none ↔ ∀ v, (slot, v) ∉ a.ents := by
  unfold Aux.find
  rw [Option.map_eq_none_iff, List.find?_eq_none]
  exact ⟨fun h v hv => h _ hv (decide_eq_true rfl), fun h e he hd => h e.2 (by rw [← of_decide_eq_true hd]; exact he)⟩

theorem H4.aux_of_mem {h : H4} {e : Nat × Nat} (he : e ∈ h.ents) : ∃ a, h.aux = some a ∧ h.ents = a.ents := by
  unfold H4.ents at he ⊢
  cases ha : h.aux with
  | none => rw [ha] at he; cases he
  | some a => exact ⟨a, rfl, rfl⟩

theorem H4.find_of_mem {h : H4} (hn : (h.ents.map (·.1)).Nodup) {slot v : Nat} (hm : (slot, v) ∈ h.ents) :
    h.aux.bind (·.find slot) = some v := by
  obtain ⟨a, ha, he⟩ := H4.aux_of_mem hm
  rw [he] at hn hm
  rw [ha]; exact (Aux.find_some_iff hn).2 hm

theorem entsOf_getD (p : Params) (lgK : Nat) (na : Option Aux) : (na.getD (newAux p lgK)).ents = entsOf na := by
  cases na <;> rfl

theorem Aux.grown_ents (p : Params) (x : Aux) : (Aux.grown p x).ents = x.ents := by
  unfold Aux.grown; split <;> rfl

theorem Aux.add_spec (p : Params) {a : Aux} {slot : Nat} (v : Nat) (hn : ∀ w, (slot, w) ∉ a.ents) :
    ∃ a', a.add p slot v = some a' ∧ a'.ents = a.ents ++ [(slot, v)] := by
  unfold Aux.add
  rw [Aux.find_none_iff.2 hn]
  exact ⟨_, rfl, Aux.grown_ents p _⟩

theorem H4.replace_spec {h : H4} (hn : (h.ents.map (·.1)).Nodup) {slot v : Nat} (hm : (slot, v) ∈ h.ents) (nv : Nat) :
    ∃ a', h.aux.bind (·.replace slot nv) = some a' ∧
      a'.ents = h.ents.map (fun e => if e.1 = slot then (slot, nv) else e) := by
  obtain ⟨a, ha, he⟩ := H4.aux_of_mem hm
  rw [he] at hn hm ⊢
  exact ⟨{ a with ents := a.ents.map _ }, by simp [ha, Aux.replace, (Aux.find_some_iff hn).2 hm], rfl⟩

theorem map_replace_keys (l : List (Nat × Nat)) (slot nv : Nat) :
    (l.map (fun e => if e.1 = slot then (slot, nv) else e)).map (·.1) = l.map (·.1) := by
  rw [List.map_map]
  apply List.map_congr_left
  intro e _
  simp only [Function.comp]
  split <;> simp [*]

theorem mem_map_replace {l : List (Nat × Nat)} {slot nv s w : Nat} (hne : s ≠ slot) :
    (s, w) ∈ l.map (fun e => if e.1 = slot then (slot, nv) else e) ↔ (s, w) ∈ l := by
  rw [List.mem_map]
  constructor
  · rintro ⟨e, he, heq⟩
    by_cases hes : e.1 = slot
    · rw [if_pos hes] at heq; exact absurd (Prod.mk.inj heq).1.symm hne
    · rw [if_neg hes] at heq; rw [← heq]; exact he
  · intro he; exact ⟨(s, w), he, if_neg hne⟩

/-- HLL_4 representation invariant: a nibble below AUX_TOKEN holds `register - curMin`; a nibble equal to AUX_TOKEN marks exactly
the slots of the aux map, whose values are at least `curMin + 15`; `numAtCurMin` is the number of registers equal to `curMin`.
AUX_TOKEN is written as the literal 15 here, in `H4.SlotHolds` and in the lemmas about `Rep4`, although `Params.auxToken` is a tunable: the lemmas
that relate them to the model assume `p.auxToken = 15`. -/
structure Inv4 (p : Params) (h : H4) : Prop where
  lgK_pos : 1 ≤ h.lgK
  size : h.bytes.size = 2^(h.lgK - 1)
  blt : ∀ i, i < h.bytes.size → h.bytes.getD i 0 < 256
  notbad : h.bad = false
  nodup : (h.ents.map (·.1)).Nodup
  tok_iff : ∀ slot, slot < 2^h.lgK → (getNib h.bytes slot = 15 ↔ ∃ v, (slot, v) ∈ h.ents)
  slot_lt : ∀ e, e ∈ h.ents → e.1 < 2^h.lgK
  val_ge : ∀ e, e ∈ h.ents → h.curMin + 15 ≤ e.2
  cnt : h.numAtCurMin = (h.regs p).count h.curMin

theorem H4.regs_size (p : Params) (h : H4) : (h.regs p).size = 2^h.lgK := by simp [H4.regs]

theorem H4.regs_getD (p : Params) (h : H4) {slot : Nat} (hs : slot < 2^h.lgK) : (h.regs p).getD slot 0 = h.reg p slot := by
  simp [H4.regs, Array.getD_eq_getD_getElem?, hs]

/-- slot `s` holds the register value `r`: as the plain nibble `r - curMin`, or as AUX_TOKEN with the aux entry `(s, r)` -/
def H4.SlotHolds (h : H4) (s r : Nat) : Prop :=
  (getNib h.bytes s < 15 ∧ (∀ w, (s, w) ∉ h.ents) ∧ r = getNib h.bytes s + h.curMin) ∨
  (getNib h.bytes s = 15 ∧ (s, r) ∈ h.ents ∧ h.curMin + 15 ≤ r)

theorem H4.SlotHolds.reg {p : Params} (ht : p.auxToken = 15) {h : H4} (hn : (h.ents.map (·.1)).Nodup) {s r : Nat}
    (hh : h.SlotHolds s r) : h.reg p s = r := by
  unfold H4.reg
  simp only [ht]
  rcases hh with ⟨h1, _, h3⟩ | ⟨h1, h2, _⟩
  · rw [if_neg (by omega), h3]
  · rw [if_pos h1, H4.find_of_mem hn h2]; rfl

/-- `h` represents the register array `a`: the invariant `Inv4` without the numAtCurMin count, read slot by slot -/
structure Rep4 (h : H4) (a : Array Nat) : Prop where
  asize : a.size = 2^h.lgK
  lgK_pos : 1 ≤ h.lgK
  size : h.bytes.size = 2^(h.lgK - 1)
  blt : ∀ i, i < h.bytes.size → h.bytes.getD i 0 < 256
  notbad : h.bad = false
  nodup : (h.ents.map (·.1)).Nodup
  slot_lt : ∀ e, e ∈ h.ents → e.1 < 2^h.lgK
  holds : ∀ s, s < 2^h.lgK → h.SlotHolds s (a.getD s 0)

theorem Rep4.regs_eq {p : Params} (ht : p.auxToken = 15) {h : H4} {a : Array Nat} (hi : Rep4 h a) : h.regs p = a := by
  apply Array.ext
  · rw [H4.regs_size, hi.asize]
  · intro i h1 h2
    have hs : i < 2^h.lgK := by rw [← hi.asize]; exact h2
    rw [← getD_eq_getElem (d := 0) h1, ← getD_eq_getElem (d := 0) h2, H4.regs_getD p h hs, (hi.holds i hs).reg ht hi.nodup]

theorem Inv4.toRep {p : Params} (ht : p.auxToken = 15) {h : H4} (hi : Inv4 p h) : Rep4 h (h.regs p) := by
  refine ⟨H4.regs_size p h, hi.lgK_pos, hi.size, hi.blt, hi.notbad, hi.nodup, hi.slot_lt, fun s hs => ?_⟩
  rw [H4.regs_getD p h hs]
  by_cases hn : getNib h.bytes s = 15
  · obtain ⟨v, hv⟩ := (hi.tok_iff s hs).1 hn
    have hh : h.SlotHolds s v := Or.inr ⟨hn, hv, hi.val_ge _ hv⟩
    rw [hh.reg ht hi.nodup]; exact hh
  · have := getNib_lt h.bytes s hi.blt
    have hh : h.SlotHolds s (getNib h.bytes s + h.curMin) := Or.inl ⟨by omega, fun w hw => hn ((hi.tok_iff s hs).2 ⟨w, hw⟩), rfl⟩
    rw [hh.reg ht hi.nodup]; exact hh

theorem Rep4.of_mem {h : H4} {a : Array Nat} (hi : Rep4 h a) {e : Nat × Nat} (he : e ∈ h.ents) :
    getNib h.bytes e.1 = 15 ∧ h.curMin + 15 ≤ e.2 := by
  rcases hi.holds e.1 (hi.slot_lt e he) with ⟨_, h2, _⟩ | ⟨h1, h2, h3⟩
  · exact absurd he (h2 e.2)
  · rw [ents_uniq hi.nodup he h2]; exact ⟨h1, h3⟩

theorem Rep4.mem_of_tok {h : H4} {a : Array Nat} (hi : Rep4 h a) {s : Nat} (hs : s < 2^h.lgK) (h15 : getNib h.bytes s = 15) :
    (s, a.getD s 0) ∈ h.ents :=
  (hi.holds s hs).elim (fun h1 => absurd h1.1 (by rw [h15]; decide)) fun h2 => h2.2.1

theorem Rep4.toInv {p : Params} (ht : p.auxToken = 15) {h : H4} {a : Array Nat} (hi : Rep4 h a)
    (hc : h.numAtCurMin = a.count h.curMin) : Inv4 p h :=
  ⟨hi.lgK_pos, hi.size, hi.blt, hi.notbad, hi.nodup,
    fun _ hs => ⟨fun h15 => ⟨_, hi.mem_of_tok hs h15⟩, fun ⟨_, hv⟩ => (hi.of_mem hv).1⟩, hi.slot_lt,
    fun _ he => (hi.of_mem he).2, by rw [hi.regs_eq ht]; exact hc⟩

theorem Inv4.byte_idx {p : Params} {h : H4} (hi : Inv4 p h) {slot : Nat} (hs : slot < 2^h.lgK) : slot / 2 < h.bytes.size := by
  rw [hi.size]; exact Nat.div_lt_of_lt_mul (by rw [Nat.mul_comm, Nat.two_pow_pred_mul_two hi.lgK_pos]; exact hs)

theorem Rep4.byte_idx {h : H4} {a : Array Nat} (hi : Rep4 h a) {slot : Nat} (hs : slot < 2^h.lgK) : slot / 2 < h.bytes.size := by
  rw [hi.size]; exact Nat.div_lt_of_lt_mul (by rw [Nat.mul_comm, Nat.two_pow_pred_mul_two hi.lgK_pos]; exact hs)

theorem Rep4.curMin_le {h : H4} {a : Array Nat} (hi : Rep4 h a) {s : Nat} (hs : s < 2^h.lgK) : h.curMin ≤ a.getD s 0 :=
  (hi.holds s hs).elim (fun h1 => h1.2.2 ▸ Nat.le_add_left _ _) fun h2 => Nat.le_trans (Nat.le_add_right _ 15) h2.2.2

theorem Rep4.set {h : H4} {a : Array Nat} (hi : Rep4 h a) {slot nv : Nat} (hs : slot < 2^h.lgK) {B : Array Nat} {A : Option Aux}
    (hsz : B.size = h.bytes.size) (hblt : ∀ i, i < B.size → B.getD i 0 < 256) (hnd : ((entsOf A).map (·.1)).Nodup)
    (hnib : ∀ s, s ≠ slot → getNib B s = getNib h.bytes s)
    (hmem : ∀ s w, s ≠ slot → ((s, w) ∈ entsOf A ↔ (s, w) ∈ h.ents))
    (hslot : H4.SlotHolds { h with bytes := B, aux := A } slot nv) :
    Rep4 { h with bytes := B, aux := A } (a.setIfInBounds slot nv) := by
  refine ⟨(Array.size_setIfInBounds ..).trans hi.asize, hi.lgK_pos, hsz.trans hi.size, hblt, hi.notbad, hnd, ?_, ?_⟩
  · intro e he
    by_cases hes : e.1 = slot
    · rw [hes]; exact hs
    · exact hi.slot_lt e ((hmem e.1 e.2 hes).1 he)
  · intro s hs'
    by_cases hss : s = slot
    · rw [hss, getD_setIfInBounds_self (by rw [hi.asize]; exact hs)]; exact hslot
    · rw [getD_setIfInBounds_ne (Ne.symm hss)]
      show (getNib B s < 15 ∧ (∀ w, (s, w) ∉ entsOf A) ∧ a.getD s 0 = getNib B s + h.curMin) ∨
        (getNib B s = 15 ∧ (s, a.getD s 0) ∈ entsOf A ∧ h.curMin + 15 ≤ a.getD s 0)
      rw [hnib s hss]
      exact (hi.holds s hs').imp (fun ⟨h1, h2, h3⟩ => ⟨h1, fun w hw => h2 w ((hmem s w hss).1 hw), h3⟩)
        fun ⟨h1, h2, h3⟩ => ⟨h1, (hmem s _ hss).2 h2, h3⟩

theorem H4.store_spec {p : Params} (ht : p.auxToken = 15) {h : H4} {a : Array Nat} (hi : Rep4 h a) {slot nv : Nat}
    (hs : slot < 2^h.lgK) (hgt : a.getD slot 0 < nv) :
    let h1 := H4.store p h slot nv (getNib h.bytes slot)
    Rep4 h1 (a.setIfInBounds slot nv) ∧ h1.lgK = h.lgK ∧ h1.curMin = h.curMin ∧
    h1.numAtCurMin = h.numAtCurMin := by
  have hbi := hi.byte_idx hs
  have hput : ∀ x s, s ≠ slot → getNib (putNib h.bytes slot x) s = getNib h.bytes s :=
    fun x s hne => getNib_putNib_ne _ _ _ _ hne
  have hle : h.curMin ≤ nv := Nat.le_of_lt (Nat.lt_of_le_of_lt (hi.curMin_le hs) hgt)
  unfold H4.store
  simp only [ht]
  rcases hi.holds slot hs with ⟨hlt, hnot, hr⟩ | ⟨h15, hm, hge⟩
  · rw [if_neg (Nat.ne_of_lt hlt)]
    by_cases hexc : nv - h.curMin ≥ 15
    · -- case 3: new exception
      obtain ⟨a', ha', he'⟩ := Aux.add_spec p (a := h.aux.getD (newAux p h.lgK)) nv (by rw [entsOf_getD]; exact hnot)
      rw [entsOf_getD] at he'
      rw [if_pos hexc, ha']
      refine ⟨hi.set hs (putNib_size _ _ _) (putNib_bytes_lt _ _ _ hi.blt) ?_ (hput 15) ?_ ?_, rfl, rfl, rfl⟩
      · show (a'.ents.map (·.1)).Nodup
        rw [he', List.map_append, List.nodup_append]
        refine ⟨hi.nodup, by simp, ?_⟩
        intro x hx y hy hxy
        rw [List.map_cons, List.map_nil, List.mem_singleton] at hy
        obtain ⟨e, he, hes⟩ := List.mem_map.1 hx
        have hsl : e.1 = slot := hes.trans (hxy.trans hy)
        exact hnot e.2 (by rw [← hsl]; exact he)
      · intro s w hne
        show (s, w) ∈ a'.ents ↔ _
        rw [he', List.mem_append, List.mem_singleton, Prod.mk.injEq]
        exact ⟨fun h => h.elim id (fun h => absurd h.1 hne), Or.inl⟩
      · exact Or.inr ⟨getNib_putNib_same _ _ _ hbi, by show (slot, nv) ∈ a'.ents; rw [he']; simp,
          Nat.add_le_of_le_sub' hle hexc⟩
    · -- case 4: plain nibble stays a plain nibble
      rw [if_neg hexc]
      refine ⟨hi.set hs (putNib_size _ _ _) (putNib_bytes_lt _ _ _ hi.blt) hi.nodup (hput _) (fun _ _ _ => Iff.rfl) ?_,
        rfl, rfl, rfl⟩
      have hn : getNib (putNib h.bytes slot (nv - h.curMin)) slot = nv - h.curMin := by
        rw [getNib_putNib_same _ _ _ hbi, Nat.mod_eq_of_lt (Nat.lt_trans (Nat.lt_of_not_le hexc) (by decide))]
      exact Or.inl ⟨Nat.lt_of_le_of_lt (Nat.le_of_eq hn) (Nat.lt_of_not_le hexc), hnot,
        (Nat.sub_add_cancel hle).symm.trans (congrArg (· + h.curMin) hn.symm)⟩
  · -- case 1: the slot already is an exception
    obtain ⟨a', ha', he'⟩ := H4.replace_spec hi.nodup hm nv
    rw [if_pos h15, if_pos (Nat.le_sub_of_add_le' (Nat.le_trans hge (Nat.le_of_lt hgt))), ha']
    refine ⟨hi.set hs rfl hi.blt ?_ (fun _ _ => rfl) ?_ ?_, rfl, rfl, rfl⟩
    · show (a'.ents.map (·.1)).Nodup
      rw [he', map_replace_keys]; exact hi.nodup
    · intro s w hne
      show (s, w) ∈ a'.ents ↔ _
      rw [he']; exact mem_map_replace hne
    · exact Or.inr ⟨h15, by show (slot, nv) ∈ a'.ents; rw [he']; exact List.mem_map.2 ⟨_, hm, if_pos rfl⟩,
        Nat.le_trans hge (Nat.le_of_lt hgt)⟩

theorem shiftNibs_spec (p : Params) (ht : p.auxToken = 15) (hasAux : Bool) (b0 : Array Nat) (k : Nat)
    (hk : ∀ s, s < k → s / 2 < b0.size) (hb : ∀ i, i < b0.size → b0.getD i 0 < 256)
    (hnz : ∀ s, s < k → getNib b0 s ≠ 0) (haux : hasAux = true ∨ ∀ s, s < k → getNib b0 s ≠ 15) :
    ∀ n, n ≤ k →
      let r := (List.range n).foldl (shiftNibStep p hasAux) (b0, 0, 0, false)
      r.1.size = b0.size ∧ (∀ i, i < r.1.size → r.1.getD i 0 < 256) ∧
      (∀ s, s < k → getNib r.1 s = if s < n ∧ getNib b0 s < 15 then getNib b0 s - 1 else getNib b0 s) ∧
      r.2.1 = ((List.range n).filter (fun s => getNib b0 s = 1)).length ∧
      r.2.2.1 = ((List.range n).filter (fun s => getNib b0 s = 15)).length ∧
      r.2.2.2 = false
  | 0, _ => by
    intro r
    refine ⟨rfl, hb, fun s _ => ?_, rfl, rfl, rfl⟩
    simp [r]
  | n + 1, hn => by
    have ih := shiftNibs_spec p ht hasAux b0 k hk hb hnz haux n (Nat.le_of_succ_le hn)
    intro r
    have hr : r = shiftNibStep p hasAux ((List.range n).foldl (shiftNibStep p hasAux) (b0, 0, 0, false)) n := by
      simp [r, List.range_succ, List.foldl_append]
    generalize (List.range n).foldl (shiftNibStep p hasAux) (b0, 0, 0, false) = st at ih hr
    obtain ⟨bytes, nNew, nTok, bad⟩ := st
    simp only at ih
    obtain ⟨hsz, hblt, hnib, hnew, htok, hbad⟩ := ih
    have hnk : n < k := hn
    have hold : getNib bytes n = getNib b0 n := by
      rw [hnib n hnk, if_neg (fun h => Nat.lt_irrefl n h.1)]
    have hlt16 := getNib_lt b0 n hb
    have hnz' := hnz n hnk
    -- slots other than `n`: below `n + 1` means below `n`
    have hlt_succ : ∀ s, s ≠ n → ((s < n + 1 ∧ getNib b0 s < 15) ↔ (s < n ∧ getNib b0 s < 15)) := fun s hsn =>
      and_congr_left' ⟨fun h => Nat.lt_of_le_of_ne (Nat.le_of_lt_succ h) hsn, Nat.lt_succ_of_lt⟩
    rw [hr]
    unfold shiftNibStep
    simp only [hold, ht]
    rw [if_neg hnz', filter_range_succ, filter_range_succ]
    by_cases hlt : getNib b0 n < 15
    · rw [if_pos hlt]
      simp only
      refine ⟨(putNib_size _ _ _).trans hsz, putNib_bytes_lt _ _ _ hblt, ?_, ?_, ?_, hbad⟩
      · intro s hs
        by_cases hsn : s = n
        · subst hsn
          rw [getNib_putNib_same _ _ _ (by rw [hsz]; exact hk s hs), if_pos ⟨Nat.lt_succ_self s, hlt⟩]
          exact Nat.mod_eq_of_lt (Nat.lt_of_le_of_lt (Nat.sub_le _ _) hlt16)
        · rw [getNib_putNib_ne _ _ _ _ hsn, hnib s hs]
          simp only [hlt_succ s hsn]
      · have h10 : getNib b0 n - 1 = 0 ↔ getNib b0 n = 1 :=
          ⟨fun h => Nat.le_antisymm (Nat.sub_eq_zero_iff_le.1 h) (Nat.pos_of_ne_zero hnz'), fun h => by rw [h]⟩
        rw [hnew]
        simp only [h10, decide_eq_true_eq]
        split <;> rfl
      · rw [htok, decide_eq_false (Nat.ne_of_lt hlt)]; rfl
    · rw [if_neg hlt]
      have h15 : getNib b0 n = 15 := Nat.le_antisymm (Nat.le_of_lt_succ hlt16) (Nat.le_of_not_lt hlt)
      have hA : hasAux = true := haux.elim id (fun h => absurd h15 (h n hnk))
      simp only
      refine ⟨hsz, hblt, ?_, ?_, ?_, by rw [hbad, hA]; rfl⟩
      · intro s hs
        rw [hnib s hs]
        by_cases hsn : s = n
        · rw [hsn, if_neg (fun h => Nat.lt_irrefl n h.1), if_neg (fun h => hlt h.2)]
        · simp only [hlt_succ s hsn]
      · rw [hnew, h15]; rfl
      · rw [htok, h15]; rfl

theorem shiftAux_spec (p : Params) (ht : p.auxToken = 15) (lgK ncm : Nat) :
    ∀ (l : List (Nat × Nat)) (b : Array Nat) (na : Option Aux) (t : Nat),
      (l.map (·.1)).Nodup →
      (∀ i, i < b.size → b.getD i 0 < 256) →
      (∀ e, e ∈ l → e.1 / 2 < b.size ∧ getNib b e.1 = 15 ∧ ncm + 14 ≤ e.2) →
      (∀ e, e ∈ l → ∀ w, (e.1, w) ∉ entsOf na) →
      let r := l.foldl (shiftAuxStep p lgK ncm) (b, na, t, false)
      r.1.size = b.size ∧ (∀ i, i < r.1.size → r.1.getD i 0 < 256) ∧
      (∀ s, getNib r.1 s = if (s, ncm + 14) ∈ l then 14 else getNib b s) ∧
      entsOf r.2.1 = entsOf na ++ l.filter (fun e => ncm + 15 ≤ e.2) ∧
      r.2.2.1 = t - (l.filter (fun e => e.2 = ncm + 14)).length ∧
      r.2.2.2 = false
  | [], b, na, t, _, hb, _, _ => by
    intro r
    exact ⟨rfl, hb, fun s => by simp [r], by simp [r], by simp [r], rfl⟩
  | (slot, v) :: l, b, na, t, hnd, hb, hl, hdis => by
    intro r
    rw [List.map_cons, List.nodup_cons] at hnd
    obtain ⟨hsz, hnib, hv⟩ := hl (slot, v) List.mem_cons_self
    simp only at hsz hnib hv
    have hr : r = l.foldl (shiftAuxStep p lgK ncm) (shiftAuxStep p lgK ncm (b, na, t, false) (slot, v)) := by
      simp [r]
    have hne : ∀ e, e ∈ l → e.1 ≠ slot := fun e he heq => hnd.1 (List.mem_map.2 ⟨e, he, heq⟩)
    have hl' : ∀ e, e ∈ l → e.1 / 2 < b.size ∧ getNib b e.1 = 15 ∧ ncm + 14 ≤ e.2 :=
      fun e he => hl e (List.mem_cons_of_mem _ he)
    -- apart from the head's own slot when it moves back, membership of `(s, ncm + 14)` is decided by the tail
    have hcons : ∀ s, s ≠ slot ∨ v ≠ ncm + 14 → ((s, ncm + 14) ∈ (slot, v) :: l ↔ (s, ncm + 14) ∈ l) := by
      intro s hd
      rw [List.mem_cons, Prod.mk.injEq]
      exact ⟨fun h => h.elim (fun h => hd.elim (absurd h.1) (absurd h.2.symm)) id, Or.inr⟩
    by_cases hv14 : v = ncm + 14
    · -- the former exception is exactly 14 above the new curMin: it moves back into the nibble array
      subst hv14
      have hstep : shiftAuxStep p lgK ncm (b, na, t, false) (slot, ncm + 14) = (putNib b slot 14, na, t - 1, false) := by
        unfold shiftAuxStep
        simp only [ht, hnib]
        rw [if_neg (Nat.not_lt.2 (Nat.le_add_right ncm 14)), Nat.add_sub_cancel_left, if_pos (by decide)]
        rfl
      have ih := shiftAux_spec p ht lgK ncm l (putNib b slot 14) na (t - 1) hnd.2 (putNib_bytes_lt _ _ _ hb)
        (fun e he => ⟨by rw [putNib_size]; exact (hl' e he).1,
          by rw [getNib_putNib_ne _ _ _ _ (hne e he)]; exact (hl' e he).2.1, (hl' e he).2.2⟩)
        (fun e he => hdis e (List.mem_cons_of_mem _ he))
      rw [hr, hstep]
      simp only at ih
      obtain ⟨i1, i2, i3, i4, i5, i6⟩ := ih
      refine ⟨by rw [i1, putNib_size], i2, ?_, ?_, ?_, i6⟩
      · intro s
        rw [i3 s]
        by_cases hss : s = slot
        · rw [hss, if_neg (fun hw => hne _ hw rfl), getNib_putNib_same _ _ _ hsz, if_pos List.mem_cons_self]
        · rw [getNib_putNib_ne _ _ _ _ hss]
          simp only [hcons s (Or.inl hss)]
      · rw [i4, List.filter_cons_of_neg (by simp)]
      · rw [i5, List.filter_cons_of_pos (by simp), List.length_cons, Nat.sub_sub, Nat.add_comm]
    · -- the exception stays an exception: it goes into the new aux map
      have hge : ncm + 15 ≤ v := Nat.lt_of_le_of_ne hv (Ne.symm hv14)
      obtain ⟨a', ha', he'⟩ := Aux.add_spec p (a := na.getD (newAux p lgK)) v
        (by rw [entsOf_getD]; exact hdis (slot, v) List.mem_cons_self)
      rw [entsOf_getD] at he'
      have hstep : shiftAuxStep p lgK ncm (b, na, t, false) (slot, v) = (b, some a', t, false) := by
        unfold shiftAuxStep
        simp only [ht, hnib]
        rw [if_neg (Nat.not_lt.2 (Nat.le_trans (Nat.le_add_right ncm 15) hge)), if_neg (Nat.not_lt.2 (Nat.le_sub_of_add_le' hge))]
        simp [ha']
      have ih := shiftAux_spec p ht lgK ncm l b (some a') t hnd.2 hb hl'
        (by
          intro e he w hw
          rw [show entsOf (some a') = a'.ents from rfl, he'] at hw
          rcases List.mem_append.1 hw with hw | hw
          · exact hdis e (List.mem_cons_of_mem _ he) w hw
          · rw [List.mem_singleton, Prod.mk.injEq] at hw; exact hne e he hw.1)
      rw [hr, hstep]
      simp only at ih
      obtain ⟨i1, i2, i3, i4, i5, i6⟩ := ih
      refine ⟨i1, i2, ?_, ?_, ?_, i6⟩
      · intro s
        rw [i3 s]
        simp only [hcons s (Or.inr hv14)]
      · rw [i4, show entsOf (some a') = a'.ents from rfl, he', List.filter_cons]
        simp [hge]
      · rw [i5, List.filter_cons]
        simp [hv14]

theorem Rep4.tok_count {h : H4} {a : Array Nat} (hi : Rep4 h a) :
    ((List.range (2^h.lgK)).filter (fun s => getNib h.bytes s = 15)).length = h.ents.length := by
  have h1 : ((List.range (2^h.lgK)).filter (fun s => getNib h.bytes s = 15)).Perm (h.ents.map (·.1)) := by
    rw [List.perm_ext_iff_of_nodup (List.Nodup.sublist List.filter_sublist List.nodup_range) hi.nodup]
    intro s
    simp only [List.mem_filter, List.mem_range, decide_eq_true_eq, List.mem_map]
    exact ⟨fun ⟨hs, hn⟩ => ⟨_, hi.mem_of_tok hs hn, rfl⟩, fun ⟨e, he, hes⟩ => hes ▸ ⟨hi.slot_lt e he, (hi.of_mem he).1⟩⟩
  rw [h1.length_eq, List.length_map]

private theorem plain_dec {n cm r : Nat} (h1 : n < 15) (h3 : r = n + cm) (hne : r ≠ cm) : n - 1 < 15 ∧ r = n - 1 + (cm + 1) := by
  have hn : n ≠ 0 := fun h0 => hne (by rw [h3, h0, Nat.zero_add])
  rw [h3, Nat.add_comm cm 1, ← Nat.add_assoc, Nat.sub_add_cancel (Nat.pos_of_ne_zero hn)]
  exact ⟨Nat.lt_of_le_of_lt (Nat.sub_le n 1) h1, rfl⟩

/-- the state `shiftToBiggerCurMin` aims at represents the same registers: plain nibbles are decremented, an exception equal
to `curMin + 15` moves back into the nibble array, the other exceptions stay in the aux map -/
theorem Rep4.shifted {h : H4} {a : Array Nat} (hi : Rep4 h a) (hnone : ∀ s, s < 2^h.lgK → a.getD s 0 ≠ h.curMin)
    {B : Array Nat} {A : Option Aux} (n : Nat) (hsz : B.size = h.bytes.size) (hblt : ∀ i, i < B.size → B.getD i 0 < 256)
    (hnib : ∀ s, s < 2^h.lgK → getNib B s = if (s, h.curMin + 1 + 14) ∈ h.ents then 14 else
      if getNib h.bytes s < 15 then getNib h.bytes s - 1 else getNib h.bytes s)
    (hents : entsOf A = h.ents.filter (fun e => h.curMin + 1 + 15 ≤ e.2)) :
    Rep4 { h with bytes := B, aux := A, curMin := h.curMin + 1, numAtCurMin := n, bad := false } a := by
  refine ⟨hi.asize, hi.lgK_pos, hsz.trans hi.size, hblt, rfl, ?_, ?_, ?_⟩
  · show ((entsOf A).map (·.1)).Nodup
    rw [hents]; exact hi.nodup.sublist (List.filter_sublist.map _)
  · intro e he
    have he' : e ∈ entsOf A := he
    rw [hents] at he'
    exact hi.slot_lt e (List.mem_filter.1 he').1
  · intro s hs
    have hmem : ∀ w, (s, w) ∈ entsOf A ↔ (s, w) ∈ h.ents ∧ h.curMin + 1 + 15 ≤ w := by
      intro w; rw [hents, List.mem_filter, decide_eq_true_eq]
    have hs' : s < 2^h.lgK := hs
    show (getNib B s < 15 ∧ (∀ w, (s, w) ∉ entsOf A) ∧ a.getD s 0 = getNib B s + (h.curMin + 1)) ∨
      (getNib B s = 15 ∧ (s, a.getD s 0) ∈ entsOf A ∧ h.curMin + 1 + 15 ≤ a.getD s 0)
    rw [hnib s hs']
    rcases hi.holds s hs' with ⟨h1, h2, h3⟩ | ⟨h1, h2, h3⟩
    · -- a plain nibble is decremented
      rw [if_neg (h2 _), if_pos h1]
      have hd := plain_dec h1 h3 (hnone s hs')
      exact Or.inl ⟨hd.1, fun w hw => h2 w ((hmem w).1 hw).1, hd.2⟩
    · by_cases hr : a.getD s 0 = h.curMin + 1 + 14
      · -- an exception that now fits a nibble
        rw [if_pos (hr ▸ h2)]
        refine Or.inl ⟨by decide, fun w hw => ?_, hr.trans (Nat.add_comm _ _)⟩
        have hw' := (hmem w).1 hw
        rw [ents_uniq hi.nodup hw'.1 h2, hr] at hw'
        exact Nat.not_succ_le_self _ hw'.2
      · -- an exception that stays one
        rw [if_neg (fun hm => hr (ents_uniq hi.nodup h2 hm)), if_neg (by rw [h1]; decide), h1]
        have hge : h.curMin + 1 + 15 ≤ a.getD s 0 := Nat.lt_of_le_of_ne h3 (Ne.symm hr)
        exact Or.inr ⟨rfl, (hmem _).2 ⟨h2, hge⟩, hge⟩

theorem H4.shift_spec {p : Params} (ht : p.auxToken = 15) {h : H4} {a : Array Nat} (hi : Rep4 h a) (h0 : a.count h.curMin = 0) :
    Rep4 (h.shift p) a ∧ (h.shift p).lgK = h.lgK ∧ (h.shift p).curMin = h.curMin + 1 ∧
    (h.shift p).numAtCurMin = a.count (h.curMin + 1) := by
  have hnone : ∀ s, s < 2^h.lgK → a.getD s 0 ≠ h.curMin := fun s hs =>
    count_eq_zero_iff_getD.1 h0 s (by rw [hi.asize]; exact hs)
  have hnz : ∀ s, s < 2^h.lgK → getNib h.bytes s ≠ 0 := fun s hs h0 =>
    (hi.holds s hs).elim (fun h1 => hnone s hs (by rw [h1.2.2, h0, Nat.zero_add])) fun h2 => absurd (h2.1.symm.trans h0) (by decide)
  have haux : h.aux.isSome = true ∨ ∀ s, s < 2^h.lgK → getNib h.bytes s ≠ 15 := by
    cases hx : h.aux with
    | some a => exact Or.inl rfl
    | none => exact Or.inr fun s hs h15 => by have := hi.mem_of_tok hs h15; rw [H4.ents, hx] at this; cases this
  -- the old aux entries sit on AUX_TOKEN nibbles and are at least `curMin + 15`
  have hent : ∀ e, e ∈ h.ents → e.1 < 2^h.lgK ∧ getNib h.bytes e.1 = 15 ∧ h.curMin + 1 + 14 ≤ e.2 :=
    fun e he => ⟨hi.slot_lt e he, hi.of_mem he⟩
  have l1 := shiftNibs_spec p ht h.aux.isSome h.bytes (2^h.lgK) (fun s hs => hi.byte_idx hs) hi.blt hnz haux (2^h.lgK) (Nat.le_refl _)
  simp only at l1
  generalize hfold : (List.range (2^h.lgK)).foldl (shiftNibStep p h.aux.isSome) (h.bytes, 0, 0, false) = st1 at l1
  obtain ⟨b1, nNew, nTok, bad1⟩ := st1
  simp only at l1
  obtain ⟨s1, blt1, nib1, hNew, hTok, hbad1⟩ := l1
  subst hbad1
  -- second loop; it runs over no entries when there is no aux map
  have l2 := shiftAux_spec p ht h.lgK (h.curMin + 1) h.ents b1 none nTok hi.nodup blt1
    (fun e he => ⟨by rw [s1]; exact hi.byte_idx (hent e he).1,
      by rw [nib1 e.1 (hent e he).1, if_neg (fun x => absurd x.2 (by rw [(hent e he).2.1]; decide))]; exact (hent e he).2.1, (hent e he).2.2⟩)
    (fun _ _ _ hw => by cases hw)
  simp only at l2
  generalize hfold2 : h.ents.foldl (shiftAuxStep p h.lgK (h.curMin + 1)) (b1, none, nTok, false) = st2 at l2
  obtain ⟨b2, na, nTok2, bad2⟩ := st2
  simp only at l2
  obtain ⟨s2, blt2, nib2, hkept, hTok2, hbad2⟩ := l2
  subst hbad2
  rw [show entsOf none ++ _ = _ from List.nil_append _] at hkept
  -- the final consistency check of the code passes
  have hlen : (entsOf na).length = nTok2 := by
    rw [hkept, hTok2, hTok, Rep4.tok_count hi]
    -- an exception either stays one or has the value that moves back into the nibble array
    have hq : h.ents.filter (fun e => !decide (h.curMin + 1 + 15 ≤ e.2)) = h.ents.filter (fun e => e.2 = h.curMin + 1 + 14) :=
      List.filter_congr fun e he => by
        rw [← decide_not]
        exact decide_eq_decide.2 ⟨fun hn => Nat.le_antisymm (Nat.le_of_lt_succ (Nat.lt_of_not_le hn)) (hent e he).2.2,
          fun h => h ▸ Nat.not_succ_le_self _⟩
    have := (List.filter_append_perm (fun e => decide (h.curMin + 1 + 15 ≤ e.2)) h.ents).length_eq
    rw [List.length_append, hq] at this
    exact (Nat.sub_eq_of_eq_add this.symm).symm
  have e1 : h.shift p = { h with bytes := b2, aux := na, curMin := h.curMin + 1, numAtCurMin := nNew, bad := false } := by
    unfold H4.shift
    simp only [hi.notbad, hfold]
    unfold H4.ents at hfold2
    cases hx : h.aux with
    | none =>
      rw [hx] at hfold2
      cases hfold2
      have h0 : nTok = 0 := hlen.symm
      rw [h0]; rfl
    | some a =>
      rw [hx] at hfold2
      simp only [hfold2]
      cases na with
      | none => rfl
      | some x => simp [show x.ents.length = nTok2 from hlen]
  have hcnt : nNew = a.count (h.curMin + 1) := by
    rw [hNew, count_eq_filter_range, hi.asize]
    congr 1
    apply List.filter_congr
    intro s hs
    rw [List.mem_range] at hs
    refine decide_eq_decide.2 ((hi.holds s hs).elim (fun h1 => ?_) fun h2 => ?_)
    · rw [h1.2.2, Nat.add_comm h.curMin 1, Nat.add_right_cancel_iff]
    · exact ⟨fun h => absurd (h2.1.symm.trans h) (by decide),
        fun h => absurd (Nat.le_of_add_le_add_left (h ▸ h2.2.2)) (by decide)⟩
  rw [e1]
  refine ⟨hi.shifted hnone nNew (s2.trans s1) blt2 (fun s hs => ?_) hkept, rfl, rfl, hcnt⟩
  rw [nib2 s, nib1 s hs]
  simp only [hs, true_and]

theorem H4.shiftWhile_spec {p : Params} (ht : p.auxToken = 15) {a : Array Nat} : ∀ (fuel : Nat) (h : H4), Rep4 h a →
    h.numAtCurMin = a.count h.curMin →
    Rep4 (H4.shiftWhile p fuel h) a ∧ (H4.shiftWhile p fuel h).lgK = h.lgK ∧
    ((H4.shiftWhile p fuel h).curMin, (H4.shiftWhile p fuel h).numAtCurMin) =
      if h.numAtCurMin = 0 then shiftLoop a fuel h.curMin else (h.curMin, h.numAtCurMin)
  | 0, h, hi, _ => ⟨hi, rfl, by
      unfold H4.shiftWhile shiftLoop
      by_cases h0 : h.numAtCurMin = 0
      · rw [if_pos h0, h0]
      · rw [if_neg h0]⟩
  | fuel + 1, h, hi, hc => by
    unfold H4.shiftWhile
    by_cases h0 : h.numAtCurMin = 0
    · rw [if_pos h0, if_pos h0]
      obtain ⟨hS, hk, hcm, hcnt⟩ := H4.shift_spec (p := p) ht hi (hc.symm.trans h0)
      obtain ⟨r1, r2, r3⟩ := H4.shiftWhile_spec ht fuel (h.shift p) hS (hcm ▸ hcnt)
      rw [hcm, hcnt] at r3
      exact ⟨r1, r2.trans hk, r3⟩
    · rw [if_neg h0, if_neg h0]; exact ⟨hi, rfl, rfl⟩

theorem Rep4.update {p : Params} (ht : p.auxToken = 15) {h : H4} {a : Array Nat} (hi : Rep4 h a)
    (hc : h.numAtCurMin = a.count h.curMin) (c : Nat) :
    Rep4 (h.update p c) (maxUpdate p h.lgK a c) ∧ (h.update p c).lgK = h.lgK ∧
    ((h.update p c).curMin, (h.update p c).numAtCurMin) =
      (if a.getD (cSlot p h.lgK c) 0 < cValue p c then
        bumpPair .h4 (a.setIfInBounds (cSlot p h.lgK c) (cValue p c)) h.curMin h.numAtCurMin (a.getD (cSlot p h.lgK c) 0)
       else (h.curMin, h.numAtCurMin)) := by
  have hs := cSlot_lt p h.lgK c
  unfold H4.update maxUpdate
  generalize cSlot p h.lgK c = slot at hs
  generalize cValue p c = nv
  have hcm_le := hi.curMin_le hs
  -- the actual old value is the register, and the nibble's value does not exceed it
  have hold : H4.actualOld p h slot (getNib h.bytes slot) = some (a.getD slot 0) ∧
      getNib h.bytes slot + h.curMin ≤ a.getD slot 0 := by
    unfold H4.actualOld
    rw [ht]
    rcases hi.holds slot hs with ⟨h1, _, h3⟩ | ⟨h1, h2, h3⟩
    · rw [if_pos h1, h3]; exact ⟨rfl, Nat.le_refl _⟩
    · rw [if_neg (by rw [h1]; decide), H4.find_of_mem hi.nodup h2, h1, Nat.add_comm]; exact ⟨rfl, h3⟩
  by_cases hgt : a.getD slot 0 < nv
  · rw [if_pos hgt, if_pos hgt, if_neg (fun hq => Nat.lt_irrefl _ (Nat.lt_of_lt_of_le hgt (Nat.le_trans hq hcm_le)))]
    unfold H4.update4
    rw [if_pos (Nat.lt_of_le_of_lt hold.2 hgt), hold.1]
    simp only
    rw [if_pos hgt]
    obtain ⟨hS1, hk1, hcm1, hn1⟩ := H4.store_spec ht hi hs hgt
    generalize H4.store p h slot nv (getNib h.bytes slot) = h1 at hS1 hk1 hcm1 hn1
    unfold bumpPair
    simp only
    by_cases hoc : a.getD slot 0 = h.curMin
    · rw [if_pos hoc, if_pos hoc]
      -- the count after the raise is what starts the shifting at the right moment
      have hcs := count_raise (hi.asize ▸ hs) hcm_le hgt
      rw [if_pos hoc, ← hc] at hcs
      obtain ⟨w1, w2, w3⟩ := H4.shiftWhile_spec ht 64 { h1 with numAtCurMin := h1.numAtCurMin - 1 }
        ⟨hS1.asize, hS1.lgK_pos, hS1.size, hS1.blt, hS1.notbad, hS1.nodup, hS1.slot_lt, hS1.holds⟩
        (by show h1.numAtCurMin - 1 = (a.setIfInBounds slot nv).count h1.curMin; rw [hn1, hcm1, hcs])
      rw [← hcm1, ← hn1]
      exact ⟨w1, w2.trans hk1, w3⟩
    · rw [if_neg hoc, if_neg hoc]
      exact ⟨hS1, hk1, by rw [hcm1, hn1]⟩
  · rw [if_neg hgt, if_neg hgt]
    have e : (if nv ≤ h.curMin then h else H4.update4 p h slot nv) = h := by
      split
      · rfl
      · unfold H4.update4
        simp only [hold.1, if_neg hgt, ite_self]
    rw [e]; exact ⟨hi, rfl, rfl⟩

theorem H4.new_nib (lgK s : Nat) : getNib (H4.new lgK).bytes s = 0 := by
  unfold getNib H4.new
  have : (Array.replicate (2^(lgK - 1)) 0).getD (s / 2) 0 = 0 := by
    simp only [Array.getD_eq_getD_getElem?]
    by_cases hh : s / 2 < 2^(lgK - 1) <;> simp [hh]
  simp only [this]; split <;> rfl

theorem H4.new_reg (p : Params) (lgK s : Nat) : (H4.new lgK).reg p s = 0 := by
  unfold H4.reg
  simp only [H4.new_nib]
  split <;> simp [H4.new]

theorem H4.new_regs (p : Params) (lgK : Nat) : (H4.new lgK).regs p = Array.replicate (2^lgK) 0 := by
  unfold H4.regs
  rw [List.map_congr_left fun s _ => H4.new_reg p lgK s, List.map_const', List.length_range, List.toArray_replicate]
  rfl

theorem Inv4.new (p : Params) (lgK : Nat) (hk : 1 ≤ lgK) : Inv4 p (H4.new lgK) := by
  refine ⟨hk, by simp [H4.new], ?_, rfl, by simp [H4.ents, H4.new], ?_, by simp [H4.ents, H4.new], by simp [H4.ents, H4.new], ?_⟩
  · intro i hi
    simp only [H4.new, Array.size_replicate] at hi
    simp [H4.new, Array.getD_eq_getD_getElem?, hi]
  · intro s _
    rw [H4.new_nib]
    exact ⟨fun h => absurd h (by decide), fun ⟨v, hv⟩ => by simp [H4.ents, H4.new] at hv⟩
  · rw [H4.new_regs]; simp [H4.new]

theorem h4_refines {p : Params} (ht : p.auxToken = 15) {h : H4} (hi : Inv4 p h) (c : Nat) :
    Inv4 p (h.update p c) ∧ (h.update p c).lgK = h.lgK ∧
    (h.update p c).regs p = maxUpdate p h.lgK (h.regs p) c ∧
    ((h.update p c).curMin, (h.update p c).numAtCurMin) =
      (if (h.regs p).getD (cSlot p h.lgK c) 0 < cValue p c then
        bumpPair .h4 ((h.regs p).setIfInBounds (cSlot p h.lgK c) (cValue p c)) h.curMin h.numAtCurMin
          ((h.regs p).getD (cSlot p h.lgK c) 0)
       else (h.curMin, h.numAtCurMin)) := by
  have hr := hi.toRep ht
  obtain ⟨hR, hk, hpair⟩ := hr.update ht hi.cnt c
  refine ⟨hR.toInv ht ?_, hk, hR.regs_eq ht, hpair⟩
  -- the count stays right because the L1 bookkeeping `bumpPair` keeps it right
  have hs : cSlot p h.lgK c < (h.regs p).size := hr.asize ▸ cSlot_lt p h.lgK c
  have h1 : (h.update p c).curMin = _ := congrArg Prod.fst hpair
  have h2 : (h.update p c).numAtCurMin = _ := congrArg Prod.snd hpair
  rw [h1, h2]
  unfold maxUpdate
  by_cases hlt : (h.regs p).getD (cSlot p h.lgK c) 0 < cValue p c
  · simp only [if_pos hlt]
    exact (bumpPair_h4 rfl hs hlt ⟨fun i hi' => hr.curMin_le (hr.asize ▸ hi'), hi.cnt⟩).count
  · simp only [if_neg hlt]; exact hi.cnt

end DS.Hll
