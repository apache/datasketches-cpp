/- C08: the control flow of the KLL model depends only on shapes (`SS`: k, n, items_size, level sizes), never on coin values, and
on item values only through the filter `isNaN` of `update` (so `updateT_SS` takes the same item on both sides, `internalUpdateT_SS`
any two); stated with `CT.Rel`, for every operation and every history (`runT_SS`). -/
import DSProofs.Lemmas.KllHist
namespace DS.Kll
open DS DS.SortedView DS.Mech

variable {α : Type}

/-- same shape: everything the control flow looks at -/
def SS (s s' : Sketch α) : Prop :=
  s.k = s'.k ∧ s.n = s'.n ∧ s.itemsSize = s'.itemsSize ∧ s.levels.map List.length = s'.levels.map List.length

theorem SS.refl (s : Sketch α) : SS s s := ⟨rfl, rfl, rfl, rfl⟩

theorem SS.trans {a b c : Sketch α} (h1 : SS a b) (h2 : SS b c) : SS a c :=
  ⟨h1.1.trans h2.1, h1.2.1.trans h2.2.1, h1.2.2.1.trans h2.2.2.1, h1.2.2.2.trans h2.2.2.2⟩
theorem SS.symm {a b : Sketch α} (h : SS a b) : SS b a := ⟨h.1.symm, h.2.1.symm, h.2.2.1.symm, h.2.2.2.symm⟩

theorem sizes_length {L L' : List (List α)} (h : L.map List.length = L'.map List.length) : L.length = L'.length := by
  have := congrArg List.length h; simpa using this

theorem sizes_getD {L L' : List (List α)} (h : L.map List.length = L'.map List.length) (i : Nat) :
    (L.getD i []).length = (L'.getD i []).length := by
  have e : ∀ M : List (List α), (M.getD i []).length = (M.map List.length).getD i 0 := by
    intro M
    simp only [List.getD_eq_getElem?_getD, List.getElem?_map]
    cases M[i]? <;> simp
  rw [e, e, h]

theorem sizes_sizeSum {L L' : List (List α)} (h : L.map List.length = L'.map List.length) : sizeSum L = sizeSum L' := by
  rw [sizeSum_eq_sum_map, sizeSum_eq_sum_map, h]

theorem sizes_headD {L L' : List (List α)} (h : L.map List.length = L'.map List.length) :
    (L.headD []).length = (L'.headD []).length := by
  cases L <;> cases L' <;> simp_all

theorem sizes_tail {L L' : List (List α)} (h : L.map List.length = L'.map List.length) :
    L.tail.map List.length = L'.tail.map List.length := by
  cases L <;> cases L' <;> simp_all

theorem sizes_isEmpty {L L' : List (List α)} (h : L.map List.length = L'.map List.length) : L.isEmpty = L'.isEmpty := by
  cases L <;> cases L' <;> simp_all

theorem findLevel_congr (P : Params) (k N : Nat) : ∀ (L L' : List (List α)) (lvl : Nat),
    L.map List.length = L'.map List.length → findLevel P k N L lvl = findLevel P k N L' lvl
  | [], [], _, _ => rfl
  | [], _ :: _, _, h => by simp at h
  | _ :: _, [], _, h => by simp at h
  | l :: t, l' :: t', lvl, h => by
    simp only [List.map_cons, List.cons.injEq] at h
    simp only [findLevel, h.1, findLevel_congr P k N t t' (lvl + 1) h.2]

theorem compactCore_sizes (lt lt' : α → α → Bool) (srt srt' up up' c c' : Bool) (i : Nat) {L L' : List (List α)}
    (h : L.map List.length = L'.map List.length) :
    (compactCore lt L i srt up c).map List.length = (compactCore lt' L' i srt' up' c').map List.length := by
  have he : (extTop L i).map List.length = (extTop L' i).map List.length := by
    unfold extTop; rw [sizes_length h]; split
    · rw [List.map_append, List.map_append, h]
    · exact h
  rw [compactCore_map_length, compactCore_map_length, sizes_getD h i, sizes_getD h (i + 1), he]

theorem compress_SS (P : Params) (c : Cmp α) {s s' : Sketch α} (h : SS s s') (b b' : Bool) :
    SS (compress P c s b) (compress P c s' b') := by
  obtain ⟨hk, hn, hi, hl⟩ := h
  have hlen := sizes_length hl
  have hlvl : findLevel P s'.k s'.levels.length s'.levels 0 = findLevel P s.k s.levels.length s.levels 0 := by
    rw [← hk, ← hlen, findLevel_congr P s.k s.levels.length s.levels s'.levels 0 hl]
  rcases Nat.lt_or_ge (findLevel P s.k s.levels.length s.levels 0) s.levels.length with h1 | h1
  · rw [compress_eq P c s b rfl h1, compress_eq P c s' b' hlvl (hlen ▸ h1)]
    exact ⟨hk, hn, by rw [hlen, hi, hk], compactCore_sizes _ _ _ _ _ _ _ _ _ hl⟩
  · rw [compress_of_ge P c s b h1, compress_of_ge P c s' b' (by rw [hlvl, ← hlen]; exact h1)]
    exact ⟨hk, hn, hi, hl⟩

theorem push_SS {s s' : Sketch α} (h : SS s s') (x x' : α) : SS (push s x) (push s' x') := by
  obtain ⟨hk, hn, hi, hl⟩ := h
  refine ⟨hk, by simp [push, hn], hi, ?_⟩
  simp only [push, List.map_cons, List.length_cons, sizes_headD hl, sizes_tail hl]

theorem full_congr {s s' : Sketch α} (h : SS s s') : s.full = s'.full := by
  simp only [Sketch.full, Sketch.retained, sizes_sizeSum h.2.2.2, h.2.2.1]

theorem internalUpdateT_SS (P : Params) (c : Cmp α) {s s' : Sketch α} (h : SS s s') (x x' : α) :
    CT.Rel SS (internalUpdateT P c s x) (internalUpdateT P c s' x') := by
  unfold internalUpdateT
  rw [← full_congr h]
  split
  · intro b b'; exact push_SS (compress_SS P c h b b') x x'
  · exact push_SS h x x'

theorem updateMinMax_SS (c : Cmp α) (s : Sketch α) (x : α) : SS (updateMinMax c s x) s := by
  unfold updateMinMax; split <;> exact ⟨rfl, rfl, rfl, rfl⟩

theorem updateT_SS (P : Params) (c : Cmp α) {s s' : Sketch α} (h : SS s s') (x : α) :
    CT.Rel SS (updateT P c s x) (updateT P c s' x) := by
  unfold updateT
  split
  · exact h
  · exact internalUpdateT_SS P c (((updateMinMax_SS c s x).trans h).trans (updateMinMax_SS c s' x).symm) x x

theorem replayT_SS (P : Params) (c : Cmp α) : ∀ (xs xs' : List α) {s s' : Sketch α}, xs.length = xs'.length → SS s s' →
    CT.Rel SS (replayT P c s xs) (replayT P c s' xs')
  | [], [], _, _, _, h => h
  | [], _ :: _, _, _, hl, _ => by simp at hl
  | _ :: _, [], _, _, hl, _ => by simp at hl
  | x :: t, x' :: t', _, _, hl, h => by
    simp only [replayT]
    exact CT.Rel_bind (internalUpdateT_SS P c h x x') (fun a b hab => replayT_SS P c t t' (by simpa using hl) hab)

theorem zipLevels_sizes (lt : α → α → Bool) : ∀ {a a' b b' : List (List α)}, a.map List.length = a'.map List.length →
    b.map List.length = b'.map List.length → (zipLevels lt a b).map List.length = (zipLevels lt a' b').map List.length
  | [], [], _, _, _, hb => by simpa [zipLevels] using hb
  | [], _ :: _, _, _, ha, _ => by simp at ha
  | _ :: _, [], _, _, ha, _ => by simp at ha
  | x :: a, x' :: a', [], [], ha, _ => by simpa [zipLevels] using ha
  | _ :: _, _ :: _, [], _ :: _, _, hb => by simp at hb
  | _ :: _, _ :: _, _ :: _, [], _, hb => by simp at hb
  | x :: a, x' :: a', y :: b, y' :: b', ha, hb => by
    simp only [List.map_cons, List.cons.injEq] at ha hb
    simp only [zipLevels, List.map_cons, mergeUp_length, ha.1, hb.1, zipLevels_sizes lt ha.2 hb.2]

/-- `SS` for the results of `gcLoop` -/
def GS (r r' : List (List α) × Nat) : Prop := r.1.map List.length = r'.1.map List.length ∧ r.2 = r'.2

theorem gcLoop_GS (P : Params) (lt : α → α → Bool) (k : Nat) (sorted0 sorted0' : Bool) :
    ∀ (fuel : Nat) (below below' : List (List α)) (cur cur' : List α) (rest rest' : List (List α)) (cnt tgt : Nat),
    below.map List.length = below'.map List.length → cur.length = cur'.length →
    rest.map List.length = rest'.map List.length →
    CT.Rel GS (gcLoop P lt k sorted0 fuel below cur rest cnt tgt) (gcLoop P lt k sorted0' fuel below' cur' rest' cnt tgt)
  | 0, below, below', cur, cur', rest, rest', cnt, tgt, hb, hc, hr => by
    simp only [gcLoop, CT.Rel]
    exact ⟨by simp [hb, hc, hr], rfl⟩
  | fuel + 1, below, below', cur, cur', rest, rest', cnt, tgt, hb, hc, hr => by
    -- the tests of the primed run are turned into those of the unprimed one, so that one `by_cases` serves both
    rw [gcLoop_succ, gcLoop_succ, ← sizes_length hr, ← sizes_length hb, ← hc, ← sizes_isEmpty hr]
    by_cases ht : cnt < tgt ∨ cur.length < capAtDepth P k rest.length
    · rw [if_pos ht, if_pos ht]
      by_cases he : rest.isEmpty = true
      · rw [if_pos he, if_pos he]; exact ⟨by simp [hb, hc], rfl⟩
      · rw [if_neg he, if_neg he]
        exact gcLoop_GS P lt k sorted0 sorted0' fuel _ _ _ _ _ _ cnt tgt (by simp [hb, hc]) (sizes_headD hr) (sizes_tail hr)
    · rw [if_neg ht, if_neg ht]
      intro b b'
      exact gcLoop_GS P lt k sorted0 sorted0' fuel _ _ _ _ _ _ _ _ (by simp [hb, leftoverOf_length, hc])
        (by rw [newAbove_length, newAbove_length, hc, sizes_headD hr]) (sizes_tail hr)

theorem mergeHigherT_SS (P : Params) (c : Cmp α) {s s' o o' : Sketch α} (hs : SS s s') (ho : SS o o') :
    CT.Rel SS (mergeHigherT P c s o) (mergeHigherT P c s' o') := by
  unfold mergeHigherT
  obtain ⟨hk, hn, hi, hl⟩ := hs
  have hz := zipLevels_sizes c.lt (sizes_tail hl) (sizes_tail ho.2.2.2)
  have hwl : (s.levels.headD [] :: zipLevels c.lt s.levels.tail o.levels.tail).map List.length =
      (s'.levels.headD [] :: zipLevels c.lt s'.levels.tail o'.levels.tail).map List.length := by
    simp only [List.map_cons, sizes_headD hl, hz]
  simp only [List.headD_cons, List.tail_cons]
  have hfuel : gcFuel (s.levels.headD [] :: zipLevels c.lt s.levels.tail o.levels.tail) =
      gcFuel (s'.levels.headD [] :: zipLevels c.lt s'.levels.tail o'.levels.tail) := by
    unfold gcFuel; rw [sizes_sizeSum hwl, sizes_length hwl]
  rw [hfuel, sizes_sizeSum hwl, sizes_length hwl, hk]
  refine CT.Rel_bind (gcLoop_GS P c.lt s'.k s.sorted0 s'.sorted0 _ [] [] _ _ _ _ _ _ rfl (sizes_headD hl) hz) ?_
  intro r r' hr
  exact ⟨rfl, hn, hr.2, hr.1⟩

theorem mergeMinMax_SS (c : Cmp α) (s o : Sketch α) : SS (mergeMinMax c s o) s := by
  unfold mergeMinMax; split <;> exact ⟨rfl, rfl, rfl, rfl⟩

theorem mergeT_SS (P : Params) (c : Cmp α) {s s' o o' : Sketch α} (hs : SS s s') (ho : SS o o') :
    CT.Rel SS (mergeT P c s o) (mergeT P c s' o') := by
  unfold mergeT
  rw [← ho.2.1]
  split
  · exact hs
  · refine CT.Rel_bind (replayT_SS P c _ _ (sizes_headD ho.2.2.2)
      (((mergeMinMax_SS c s o).trans hs).trans (mergeMinMax_SS c s' o').symm)) ?_
    intro s2 s2' h2
    have hnl : o.numLevels = o'.numLevels := sizes_length ho.2.2.2
    rw [← hnl]
    refine CT.Rel_bind (R := SS) (Q := SS) ?_ ?_
    · split
      · exact mergeHigherT_SS P c h2 ho
      · exact h2
    · intro s3 s3' h3
      exact ⟨h3.1, by simp only [hs.2.1, ho.2.1], h3.2.2.1, h3.2.2.2⟩

/-- `PW SS`, written out -/
def SSL (st st' : List (Sketch α)) : Prop :=
  st.length = st'.length ∧ ∀ (i : Nat) (s s' : Sketch α), st[i]? = some s → st'[i]? = some s' → SS s s'

theorem SSL.append {st st' : List (Sketch α)} (h : SSL st st') {s s' : Sketch α} (hs : SS s s') :
    SSL (st ++ [s]) (st' ++ [s']) :=
  PW.append (R := SS) h hs

theorem sortLevelZero_SS (c : Cmp α) (s : Sketch α) : SS (sortLevelZero c s) s := by
  unfold sortLevelZero
  split
  · exact SS.refl s
  · refine ⟨rfl, rfl, rfl, ?_⟩
    cases hs : s.levels with
    | nil => simp [sortHead]
    | cons a b => simp [sortHead, sortBy_length]

theorem stepT_SS (P : Params) (c : Cmp α) {st st' : List (Sketch α)} (h : PW SS st st') (op : Op α) :
    CT.Rel (PW SS) (stepT P c st op) (stepT P c st' op) := by
  by_cases hok : op.ok P st.length
  case neg => rw [stepT_of_not_ok hok, stepT_of_not_ok (h.1 ▸ hok)]; exact h
  have hok' : op.ok P st'.length := h.1 ▸ hok
  cases op with
  | new k => rw [stepT_new c st hok, stepT_new c st' hok]; exact h.append (SS.refl _)
  | upd i x =>
    rw [stepT_upd P c hok x, stepT_upd P c hok' x]
    exact CT.Rel_map (updateT_SS P c (h.get hok) x) (fun a b hab => h.set i hab)
  | merge i j =>
    rw [stepT_merge P c hok, stepT_merge P c hok']
    exact CT.Rel_map (mergeT_SS P c (h.get hok.2.1) (h.get hok.2.2)) (fun a b hab => h.set i hab)
  | copy i => rw [stepT_copy P c hok, stepT_copy P c hok']; exact h.append (h.get hok)
  | view i =>
    rw [stepT_view P c hok, stepT_view P c hok']
    exact h.set i (((sortLevelZero_SS c _).trans (h.get hok)).trans (sortLevelZero_SS c _).symm)

theorem runT_SS (P : Params) (c : Cmp α) : ∀ (ops : List (Op α)) {st st' : List (Sketch α)}, PW SS st st' →
    CT.Rel (PW SS) (runT P c ops st) (runT P c ops st')
  | [], _, _, h => h
  | op :: ops, _, _, h => CT.Rel_bind (stepT_SS P c h op) (fun _ _ hab => runT_SS P c ops hab)

end DS.Kll
