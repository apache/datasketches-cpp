/-
C11 (VarOpt sketch and union part) — truncated images are rejected; the counts h, r (and the k they are validated
against) cannot make the specification reader materialise more than the input holds.

ONLY property theorems + non-vacuity examples.  Model: DSModel/Wire/VarOpt.lean; every constant set, every lawful
serde, every well-formed image, EVERY prefix length; no padding disjunct (no information-free tail in these images).
-/
import DSProofs.Props.C09_VarOpt
namespace DS.Wire.VarOpt
open DS.Wire

variable {ι : Type}

theorem decodeBody_PS (c : VoConsts) (sd : Serde ι) (hsd : sd.Lawful) (pre k : Nat) (g : Bool) : PS (decodeBody c sd pre k g) :=
  (decodeBody_within c sd hsd pre k g).ps

/-- the documented sketch reader is prefix-safe -/
theorem decode_PS (c : VoConsts) (sd : Serde ι) (hsd : sd.Lawful) : PS (decode c sd) := (decode_within c sd hsd).ps

theorem uDecodeBody_PS (c : VoConsts) (sd : Serde ι) (hsd : sd.Lawful) (e : Bool) : PS (uDecodeBody c sd e) :=
  (uDecodeBody_within c sd hsd e).ps

/-- the documented union reader is prefix-safe -/
theorem union_decode_PS (cu : VuConsts) (c : VoConsts) (sd : Serde ι) (hsd : sd.Lawful) : PS (uDecode cu c sd) :=
  (uDecode_within cu c sd hsd).ps

/-- **every strict prefix of every valid sketch image is rejected** -/
theorem prefix_rejected (c : VoConsts) (hc : c.ok) (sd : Serde ι) (hsd : sd.Lawful) (s : Image ι) (hs : WF c sd s)
    (n : Nat) (hn : n < (encode c sd s).length) : decode c sd ((encode c sd s).take n) = none :=
  prefix_rejected' (decode c sd) (decode_PS c sd hsd) (encode c sd s) s (decode_encode c hc sd hsd s hs) n hn

/-- **every strict prefix of every valid union image is rejected** -/
theorem union_prefix_rejected (cu : VuConsts) (hcu : cu.ok) (c : VoConsts) (hc : c.ok) (sd : Serde ι) (hsd : sd.Lawful)
    (s : UImage ι) (hs : UWF cu c sd s) (n : Nat) (hn : n < (uEncode cu c sd s).length) :
    uDecode cu c sd ((uEncode cu c sd s).take n) = none :=
  prefix_rejected' (uDecode cu c sd) (union_decode_PS cu c sd hsd) (uEncode cu c sd s) s
    (union_decode_encode cu hcu c hc sd hsd s hs) n hn

theorem decodeBody_bounded (c : VoConsts) (sd : Serde ι) (hsd : sd.Lawful) (pre k : Nat) (g : Bool) (b r : Bytes)
    (body : Option (Body ι)) (h : decodeBody c sd pre k g b = some (body, r)) :
    (match body with | none => 0 | some x => x.weights.length + x.hItems.length + x.rItems.length) ≤ b.length := by
  -- the `match` of the statement also abstracts `h`
  cases body <;> exact (decodeBody_within c sd hsd pre k g).le h

/-- **bounded (sketch)**: the number of weights plus H items plus R items of an accepted image is at most the input length -/
theorem decode_bounded (c : VoConsts) (sd : Serde ι) (hsd : sd.Lawful) (b r : Bytes) (s : Image ι)
    (h : decode c sd b = some (s, r)) : count s ≤ b.length :=
  (decode_within c sd hsd).le h

/-- **bounded (union)** -/
theorem union_decode_bounded (cu : VuConsts) (c : VoConsts) (sd : Serde ι) (hsd : sd.Lawful) (b r : Bytes) (s : UImage ι)
    (h : uDecode cu c sd b = some (s, r)) : uCount s ≤ b.length :=
  (uDecode_within cu c sd hsd).le h

/-- non-vacuity: the executable readers reject the one-byte-short prefixes of the example images of C09 -/
example : (encode generated serdeU64 exGadget).length = 65 := by decide +kernel
example : (decode generated serdeU64 ((encode generated serdeU64 exGadget).take 64)).isNone = true := by decide +kernel
example : (uDecode generatedU generated serdeU64 ((uEncode generatedU generated serdeU64 exUnion).take 96)).isNone = true := by decide +kernel
example : (uDecode generatedU generated serdeU64 (uEncode generatedU generated serdeU64 exUnion)).isSome = true := by decide +kernel

end DS.Wire.VarOpt
