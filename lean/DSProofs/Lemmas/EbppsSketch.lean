/- Sketch-level lemmas for C18 (Rat instance): `absorb` (the common body of internal_update and of one step of
internal_merge) keeps `c = rho·cumWt` with `rho = min(1/M, k/cumWt)`; updates keep the well-formedness `WF`. -/
import DSProofs.Lemmas.EbppsSample
import DSModel.Ebpps.Run
namespace DS.Ebpps

variable {P : Nat → Prop}

theorem rat_newRho (k : Nat) (M W : Rat) : newRho k M W = min (1 / M) ((k : Rat) / W) := by
  unfold newRho; rw [rat_cmin, rat_one, rat_ofNat]

theorem replaceContent_spec {item : Nat} {theta : Rat} (hP : P item) (h0 : 0 < theta) (h1 : theta ≤ 1) :
    SInv P (replaceContent item theta) ∧ (replaceContent item theta).c = theta := by
  unfold replaceContent
  simp only [rat_eq, rat_one, decide_eq_true_eq]
  rcases h1.eq_or_lt with rfl | hlt
  · have hf : (1 : Rat).floor = 1 := by simpa using rat_floor_natCast 1
    rw [if_pos rfl]
    exact ⟨⟨zero_le_one, hf.symm, iff_of_false nofun (by rw [hf]; simp), List.forall_mem_singleton.2 hP, nofun⟩, rfl⟩
  · have hf : theta.floor = 0 := rat_floor_eq_iff.2 ⟨by simpa using h0.le, by simpa using hlt⟩
    rw [if_neg hlt.ne]
    exact ⟨⟨h0.le, hf.symm, iff_of_true rfl (by rw [hf]; simpa using h0), nofun, fun x hx => Option.mem_some_iff.1 hx ▸ hP⟩, rfl⟩

theorem replaceContentV_eq_rat (clamp : Bool) (item : Nat) {theta : Rat} (h1 : theta ≤ 1) :
    replaceContentV clamp item theta = replaceContent item theta := by
  unfold replaceContentV replaceContent
  cases clamp
  · rfl
  · simp only [if_true, rat_le, rat_one, rat_eq, rat_cmin, decide_eq_true_eq, min_eq_left h1]
    by_cases h : theta = 1
    · simp [h]
    · have : ¬ (1 ≤ theta) := fun hle => h (le_antisymm h1 hle)
      simp [h, this]

/-- The part of the sketch state that the sample bookkeeping depends on, with the maximum weight `M` and the bound `K`
that `rho` was computed from as parameters (the `wt_max_`/`k_` fields may differ from them in the middle of a merge). -/
structure Core (P : Nat → Prop) (s : Sketch Rat) (M : Rat) (K : Nat) : Prop where
  sinv : SInv P s.sample
  wpos : 0 < s.cumWt
  mpos : 0 < M
  kpos : 1 ≤ K
  rho : s.rho = min (1 / M) ((K : Rat) / s.cumWt)
  c : s.sample.c = s.rho * s.cumWt

theorem Core.mono {Q : Nat → Prop} {s : Sketch Rat} {M : Rat} {K : Nat} (hPQ : ∀ x, P x → Q x) (h : Core P s M K) :
    Core Q s M K := ⟨h.sinv.mono hPQ, h.wpos, h.mpos, h.kpos, h.rho, h.c⟩

theorem Core.congr {s t : Sketch Rat} {M : Rat} {K : Nat} (h : Core P s M K) (h1 : t.sample = s.sample)
    (h2 : t.cumWt = s.cumWt) (h3 : t.rho = s.rho) : Core P t M K :=
  ⟨by rw [h1]; exact h.sinv, by rw [h2]; exact h.wpos, h.mpos, h.kpos, by rw [h3, h2]; exact h.rho,
   by rw [h1, h3, h2]; exact h.c⟩

theorem Core.rho_pos {s : Sketch Rat} {M : Rat} {K : Nat} (h : Core P s M K) : 0 < s.rho := by
  rw [h.rho]
  have hk : (0 : Rat) < K := by exact_mod_cast h.kpos
  exact lt_min (div_pos one_pos h.mpos) (div_pos hk h.wpos)

theorem Core.closed {s : Sketch Rat} {M : Rat} {K : Nat} (h : Core P s M K) :
    s.sample.c = min (K : Rat) (s.cumWt / M) := by
  rw [h.c, h.rho, min_mul_of_nonneg _ _ h.wpos.le, div_mul_cancel₀ _ h.wpos.ne', one_div_mul_eq_div, min_comm]

/-- What one `absorb` step delivers: `Core` for the new maximum weight and the old `k`, `incr` added to the cumulative weight,
nothing else changed. -/
def Absorbed (P : Nat → Prop) (v : Variant) (s : Sketch Rat) (incr newWtMax : Rat) (r : Sketch Rat × Draws Rat) : Prop :=
  Core P r.1 newWtMax s.k ∧ r.1.cumWt = s.cumWt + incr ∧ r.1.k = s.k ∧ r.1.n = s.n ∧ r.1.wtMax = s.wtMax ∧ UnitOK v.geDraw r.2

/-- the first step of `absorb` and of `shrinkToK`: `downsample` by `nr / rho` -/
theorem Core.rerate {ge : Bool} {s : Sketch Rat} {M : Rat} {K : Nat} {nr : Rat} {d : Draws Rat} (h : Core P s M K)
    (hnr : 0 < nr) (hle : nr ≤ s.rho) (hd : UnitOK ge d) :
    SInv P (downsample ge s.sample (nr / s.rho) d).1 ∧ (downsample ge s.sample (nr / s.rho) d).1.c = nr * s.cumWt ∧
    UnitOK ge (downsample ge s.sample (nr / s.rho) d).2 := by
  have hrp := h.rho_pos
  obtain ⟨d1, d2, d3⟩ := downsample_spec (ge := ge) (theta := nr / s.rho) h.sinv
    (by rw [h.c]; exact mul_pos hrp h.wpos) (div_pos hnr hrp) hd
  have hne := ne_of_gt hrp
  rw [min_eq_left ((div_le_one hrp).2 hle), h.c, show nr / s.rho * (s.rho * s.cumWt) = nr * s.cumWt by field_simp] at d2
  exact ⟨d1, d2, d3⟩

theorem Core.newRho_le {s : Sketch Rat} {M M' W' : Rat} {K k : Nat} (h : Core P s M K) (hk : k ≤ K) (hM : M ≤ M')
    (hW : s.cumWt ≤ W') : min (1 / M') ((k : Rat) / W') ≤ s.rho := by
  rw [h.rho]
  have hkK : (k : Rat) ≤ K := by exact_mod_cast hk
  refine le_min (le_trans (min_le_left _ _) (one_div_le_one_div_of_le h.mpos hM)) (le_trans (min_le_right _ _) ?_)
  calc (k : Rat) / W' ≤ (k : Rat) / s.cumWt := div_le_div_of_nonneg_left (Nat.cast_nonneg _) h.wpos hW
    _ ≤ (K : Rat) / s.cumWt := div_le_div_of_nonneg_right hkK (le_of_lt h.wpos)

/-- a live sketch whose rate is at least the one for the maximum weight `M'` and its own `k` -/
def Above (P : Nat → Prop) (s : Sketch Rat) (M' : Rat) : Prop := ∃ M K, Core P s M K ∧ s.k ≤ K ∧ M ≤ M'

/-- An empty sketch (`cumulative_wt_ == 0`) is not downsampled.  `hth1` is the "no item contributes more than 1 to c" condition
that the caller has to establish. -/
theorem absorb_spec {v : Variant} {s : Sketch Rat} {item : Nat} {incr newWtMax : Rat} {thetaOf : Rat → Rat} {d : Draws Rat}
    (h : s.cumWt = 0 ∧ s.sample.c = 0 ∧ SInv P s.sample ∨ Above P s newWtMax)
    (hk1 : 1 ≤ s.k) (hM : 0 < newWtMax) (hi : 0 < incr) (hP : P item) (hth : ∀ r, thetaOf r = r * incr)
    (hth1 : min (1 / newWtMax) ((s.k : Rat) / (s.cumWt + incr)) * incr ≤ 1) (hd : UnitOK v.geDraw d) :
    Absorbed P v s incr newWtMax (absorb v s item incr thetaOf newWtMax d) := by
  have hw : 0 ≤ s.cumWt := h.elim (fun h => h.1.ge) fun ⟨_, _, h, _⟩ => h.wpos.le
  set nr := min (1 / newWtMax) ((s.k : Rat) / (s.cumWt + incr)) with hnr
  have hnrp : 0 < nr := lt_min (div_pos one_pos hM) (div_pos (by exact_mod_cast hk1) (by linarith))
  -- second half: a sample `smp` with `c = nr·W` takes in the one-item sample of `theta = nr·incr ≤ 1`
  have mergeIn : ∀ {smp : Sample Rat} {d1 : Draws Rat}, SInv P smp → smp.c = nr * s.cumWt → UnitOK v.geDraw d1 →
      Absorbed P v s incr newWtMax
        ({ s with cumWt := s.cumWt + incr, rho := nr,
                  sample := (mergeSampleV v.vanishFix v.geDraw smp (replaceContentV v.clampTheta item (thetaOf nr)) d1).1 },
         (mergeSampleV v.vanishFix v.geDraw smp (replaceContentV v.clampTheta item (thetaOf nr)) d1).2) := by
    intro smp d1 hs hc hd1
    rw [mergeSampleV_eq_rat, replaceContentV_eq_rat _ _ (by rw [hth]; exact hth1), hth]
    obtain ⟨r1, r2⟩ := replaceContent_spec (P := P) (item := item) hP (mul_pos hnrp hi) hth1
    obtain ⟨m1, m2, m3⟩ := mergeSample_spec (ge := v.geDraw) hs r1 hd1
    refine ⟨⟨m1, by simp only; linarith, hM, hk1, rfl, ?_⟩, rfl, rfl, rfl, rfl, m3⟩
    simp only
    rw [m2, hc, r2]; ring
  unfold absorb
  rcases h with ⟨hw0, hc0, hs⟩ | ⟨M, K, hc, hkK, hMle⟩
  · simpa only [show (Num.lt (zero : Rat) s.cumWt) = false by simp [hw0], rat_newRho, Bool.false_eq_true, if_false]
      using mergeIn hs (by rw [hc0, hw0, mul_zero]) hd
  · obtain ⟨d1, d2, d3⟩ := hc.rerate (ge := v.geDraw) hnrp (hc.newRho_le hkK hMle (by linarith)) hd
    simpa only [show (Num.lt (zero : Rat) s.cumWt) = true by simp [hc.wpos], if_true, rat_newRho] using mergeIn d1 d2 d3

/-- States produced by the constructor, `update`, `reset`, serialize→deserialize (and by `merge` when it stores the new
maximum weight and handles empty operands): either untouched, or `rho = min(1/wtMax, k/cumWt)`, `c = rho·cumWt` with a
well-structured sample. -/
inductive WF (P : Nat → Prop) (s : Sketch Rat) : Prop
  | fresh (hk : 1 ≤ s.k) (hw : s.cumWt = 0) (hn : s.n = 0) (hm : s.wtMax = 0) (hc : s.sample.c = 0) (hs : SInv P s.sample)
  | live (hk : 1 ≤ s.k) (hcore : Core P s s.wtMax s.k) (hmw : s.wtMax ≤ s.cumWt) (hn : 1 ≤ s.n)

theorem wf_fresh {k : Nat} (hk : 1 ≤ k) : WF P (Sketch.fresh k : Sketch Rat) :=
  WF.fresh hk (by simp [Sketch.fresh]) rfl (by simp [Sketch.fresh]) (by simp [Sketch.fresh, Sample.empty]) sinv_empty

theorem WF.mono {Q : Nat → Prop} {s : Sketch Rat} (hPQ : ∀ x, P x → Q x) (h : WF P s) : WF Q s := by
  cases h with
  | fresh a b c d e f => exact WF.fresh a b c d e (f.mono hPQ)
  | live a b c d => exact WF.live a (b.mono hPQ) c d

theorem WF.fresh_or_live {s : Sketch Rat} (h : WF P s) :
    (s.cumWt = 0 ∧ s.n = 0 ∧ s.wtMax = 0 ∧ s.sample.c = 0) ∨ (Core P s s.wtMax s.k ∧ s.wtMax ≤ s.cumWt ∧ 1 ≤ s.n) := by
  cases h with
  | fresh _ hw hn hm hc _ => exact Or.inl ⟨hw, hn, hm, hc⟩
  | live _ hc hmw hn => exact Or.inr ⟨hc, hmw, hn⟩

theorem WF.kpos {s : Sketch Rat} (h : WF P s) : 1 ≤ s.k := by cases h <;> assumption

theorem WF.sinv {s : Sketch Rat} (h : WF P s) : SInv P s.sample := by
  cases h with
  | fresh _ _ _ _ _ hs => exact hs
  | live _ hc _ _ => exact hc.sinv

theorem WF.cum_nonneg {s : Sketch Rat} (h : WF P s) : 0 ≤ s.cumWt := by
  cases h with
  | fresh _ hw _ _ _ _ => rw [hw]
  | live _ hc _ _ => exact le_of_lt hc.wpos

theorem WF.max_nonneg {s : Sketch Rat} (h : WF P s) : 0 ≤ s.wtMax := by
  cases h with
  | fresh _ _ _ hm _ _ => rw [hm]
  | live _ hc _ _ => exact le_of_lt hc.mpos

theorem WF.max_le_cum {s : Sketch Rat} (h : WF P s) : s.wtMax ≤ s.cumWt := by
  cases h with
  | fresh _ hw _ hm _ _ => rw [hm, hw]
  | live _ _ hmw _ => exact hmw

theorem min_inv_mul_le_one {M w q : Rat} (hw : 0 < w) (hM : 0 < M) (hle : w ≤ M) : min (1 / M) q * w ≤ 1 :=
  calc min (1 / M) q * w ≤ 1 / M * w := mul_le_mul_of_nonneg_right (min_le_left _ _) (le_of_lt hw)
    _ = w / M := by ring
    _ ≤ 1 := (div_le_one hM).2 hle

theorem rho_mul_le_one {m w q : Rat} (hw : 0 < w) : min (1 / max m w) q * w ≤ 1 :=
  min_inv_mul_le_one hw (lt_max_of_lt_right hw) (le_max_right _ _)

theorem update_pos (v : Variant) (s : Sketch Rat) (item : Nat) {w : Rat} (hw : 0 < w) (d : Draws Rat) :
    update v s item w d =
      some ({ (absorb v s item w (fun r => r * w) (max s.wtMax w) d).1 with wtMax := max s.wtMax w, n := s.n + 1 },
            (absorb v s item w (fun r => r * w) (max s.wtMax w) d).2) := by
  unfold update
  simp only [show (Num.lt w (zero : Rat) || !Num.finite w) = false by simp [hw.le],
    show Num.eq w (zero : Rat) = false by simp [hw.ne'], rat_cmax]
  rfl

/-- `Core` is stated beside `WF` although it follows from it (`WF.live`, the state now having `n ≥ 1`): the merge lemmas take `Core`. -/
theorem update_wf {v : Variant} {s : Sketch Rat} {item : Nat} {w : Rat} {d : Draws Rat}
    (h : WF P s) (hw : 0 < w) (hP : P item) (hd : UnitOK v.geDraw d) :
    ∃ s' d', update v s item w d = some (s', d') ∧ WF P s' ∧ Core P s' s'.wtMax s'.k ∧ s'.n = s.n + 1 ∧
      s'.cumWt = s.cumWt + w ∧ s'.wtMax = max s.wtMax w ∧ s'.k = s.k ∧ UnitOK v.geDraw d' := by
  obtain ⟨c1, c2, c3, c4, c5, c6⟩ : Absorbed P v s w (max s.wtMax w) (absorb v s item w (fun r => r * w) (max s.wtMax w) d) := by
    refine absorb_spec ?_ h.kpos (lt_max_of_lt_right hw) hw hP (fun r => rfl) (rho_mul_le_one hw) hd
    cases h with
    | fresh _ hw0 _ _ hc hs => exact Or.inl ⟨hw0, hc, hs⟩
    | live _ hcore _ _ => exact Or.inr ⟨_, _, hcore, le_refl _, le_max_left _ _⟩
  have hcore := c1.congr (t := { (absorb v s item w (fun r => r * w) (max s.wtMax w) d).1 with wtMax := max s.wtMax w, n := s.n + 1 })
    rfl rfl rfl
  rw [← c3] at hcore
  refine ⟨_, _, update_pos v s item hw d, WF.live (c3 ▸ h.kpos) hcore ?_ (Nat.le_add_left 1 s.n), hcore, rfl, c2, rfl, c3, c6⟩
  show max s.wtMax w ≤ _
  rw [c2]
  exact max_le (by linarith [h.max_le_cum]) (by linarith [h.cum_nonneg])

end DS.Ebpps
