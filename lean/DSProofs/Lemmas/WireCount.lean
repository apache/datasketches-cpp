/-
Wire models of group `count` (count-min, frequent items, VarOpt, VarOpt union, EBPPS): lists of 64-bit words, the item-serde
laws, and the `Within` terms of count-min, frequent items and EBPPS.  `Serde` here is that of DSModel/Wire/SerdeC.lean; the
quantile group (WireQuant) has a `Serde` and a `Serde.Lawful` of its own under the same names, so no module imports both groups.
-/
import DSProofs.Lemmas.Wire
import DSModel.Wire.CountMin
import DSModel.Wire.Fi
import DSModel.Wire.Ebpps
namespace DS.Wire
open Reader

variable {α β ι : Type}

structure Serde.Lawful (sd : Serde ι) : Prop where
  rt : ∀ x r, sd.ok x → sd.dec (sd.enc x ++ r) = some (x, r)
  ps : PS sd.dec
  consuming : Consuming sd.dec

theorem serdeU64_lawful : serdeU64.Lawful where
  rt := fun x r hx => u64_w64 x hx r
  ps := PS_leNat 8
  consuming := leNat_succ_consuming 7

theorem strDec_enc (s r : Bytes) (hs : s.length < 2 ^ 32) : strDec (strEnc s ++ r) = some (s, r) := by
  simp only [strDec, strEnc, List.append_assoc]
  rw [bind_u32 _ hs]
  exact bytesN_append s r

theorem serdeStr_lawful : serdeStr.Lawful where
  -- unfolding `serdeStr` first: unifying the two sides through the projections is slow
  rt := fun x r hx => by simp only [serdeStr] at hx ⊢; exact strDec_enc x r hx
  ps := PS_bind _ _ (PS_leNat 4) PS_bytesN
  consuming := (leNat_succ_consuming 3).bind PS_bytesN

theorem decItems_enc (sd : Serde ι) (hsd : sd.Lawful) (l : List ι) {n : Nat} (hn : l.length = n) (hl : ∀ x ∈ l, sd.ok x)
    (r : Bytes) : decItems sd n (encItems sd l ++ r) = some (l, r) :=
  hn ▸ repeatN_enc (fun x hx r => hsd.rt x r hx) rfl (fun _ _ => rfl) l r hl

theorem decItems_within (sd : Serde ι) (hsd : sd.Lawful) (n : Nat) : Within 1 0 (decItems sd n) List.length :=
  Within_items_consuming hsd.ps hsd.consuming n

theorem length_encItems (sd : Serde ι) (l : List ι) : (encItems sd l).length = itemsBytes sd l := by
  induction l with
  | nil => rfl
  | cons x t ih => simp [encItems, itemsBytes, ih]

theorem itemsBytes_u64 (l : List Nat) : itemsBytes serdeU64 l = 8 * l.length := by
  induction l with
  | nil => rfl
  | cons x t ih => simp only [itemsBytes, serdeU64, length_w64, List.length_cons] at *; omega

theorem encU64s_eq (l : List Nat) : encU64s l = encItems serdeU64 l := by
  induction l with
  | nil => rfl
  | cons x t ih => rw [encU64s, encItems, ih]; rfl

theorem length_encU64s (l : List Nat) : (encU64s l).length = 8 * l.length := by
  rw [encU64s_eq, length_encItems, itemsBytes_u64]

theorem decU64s_enc (l : List Nat) {n : Nat} (hn : l.length = n) (hl : ∀ x ∈ l, x < 2 ^ 64) (r : Bytes) :
    decU64s n (encU64s l ++ r) = some (l, r) :=
  encU64s_eq l ▸ decItems_enc serdeU64 serdeU64_lawful l hn hl r

theorem decU64s_within (n : Nat) : Within 1 0 (decU64s n) List.length := decItems_within serdeU64 serdeU64_lawful n

theorem CountMin.decodeBody_within (n : Nat) (e : Bool) :
    Within 1 0 (CountMin.decodeBody n e) fun body => match body with | none => 0 | some (_, cells) => cells.length := by
  unfold CountMin.decodeBody
  split
  · exact Within_pure (Nat.le_refl 0)
  · exact Within_pass (PS_leNat 8) fun _ => Within_bind (decU64s_within n) fun cells => Within_pure (Nat.le_add_left _ 0)

theorem CountMin.decode_within (c : CmConsts) : Within 1 0 (CountMin.decode c) CountMin.count :=
  Within_pass (PS_leNat 1) fun _ => Post_guard fun _ =>
  Within_pass (PS_leNat 1) fun _ => Post_guard fun _ =>
  Within_pass (PS_leNat 1) fun _ => Post_guard fun _ =>
  Within_pass (PS_leNat 1) fun _ => Within_pass (PS_skip 4) fun _ => Within_pass (PS_leNat 4) fun _ =>
  Within_pass (PS_leNat 1) fun _ => Within_pass (PS_leNat 2) fun _ => Within_pass (PS_skip 1) fun _ =>
  Post_guard fun _ => Post_map _ (CountMin.decodeBody_within _ _)

theorem Fi.decodeBody_within (sd : Serde ι) (hsd : sd.Lawful) (e : Bool) :
    Within 1 0 (Fi.decodeBody sd e) fun body => match body with | none => 0 | some x => x.weights.length + x.items.length := by
  unfold Fi.decodeBody
  split
  · exact Within_pure (Nat.le_refl 0)
  · exact Within_pass (PS_leNat 4) fun n => Within_pass (PS_skip 4) fun _ => Within_pass (PS_leNat 8) fun _ =>
      Within_pass (PS_leNat 8) fun _ => Within_bind (decU64s_within n) fun ws =>
      Within_bind (decItems_within sd hsd n) fun its => Within_pure (by rw [Nat.zero_add]; exact Nat.le_refl _)

theorem Fi.decode_within (c : FiConsts) (sd : Serde ι) (hsd : sd.Lawful) : Within 1 0 (Fi.decode c sd) Fi.count :=
  Within_pass (PS_leNat 1) fun _ => Within_pass (PS_leNat 1) fun _ => Within_pass (PS_leNat 1) fun _ =>
  Within_pass (PS_leNat 1) fun _ => Within_pass (PS_leNat 1) fun _ => Within_pass (PS_leNat 1) fun _ =>
  Within_pass (PS_skip 2) fun _ =>
  Post_guard fun _ => Post_guard fun _ => Post_guard fun _ =>
  Post_guard fun _ => Post_map _ (Fi.decodeBody_within sd hsd _)

theorem Ebpps.decodeBody_within (c : EbConsts) (sd : Serde ι) (hsd : sd.Lawful) (flags : Nat) :
    Within 1 0 (Ebpps.decodeBody c sd flags) fun body => match body with | none => 0 | some x => x.items.length := by
  unfold Ebpps.decodeBody
  refine Within_pass (PS_leNat 8) fun _ => Within_pass (PS_leNat 8) fun _ => Within_pass (PS_leNat 8) fun _ =>
    Within_pass (PS_leNat 8) fun _ => Within_pass (PS_leNat 8) fun cc => ?_
  split
  · exact Post_fail
  · exact Post_guard fun _ => Within_bind (decItems_within sd hsd _) fun its =>
      Within_pass (PS_ite _ _ _ (PS_bind _ _ hsd.ps fun _ => PS_pure _) (PS_pure _)) fun _ =>
      Post_guard fun _ => Within_pure (Nat.le_add_left _ 0)

theorem Ebpps.decode_within (c : EbConsts) (sd : Serde ι) (hsd : sd.Lawful) : Within 1 0 (Ebpps.decode c sd) Ebpps.count := by
  unfold Ebpps.decode
  refine Within_pass (PS_leNat 1) fun _ => Within_pass (PS_leNat 1) fun _ => Within_pass (PS_leNat 1) fun _ =>
    Within_pass (PS_leNat 1) fun _ => Within_pass (PS_leNat 4) fun _ => Post_guard fun _ =>
    Post_guard fun _ => Post_guard fun _ => Post_map _ ?_
  split
  · exact Within_pure (Nat.le_refl 0)
  · exact Ebpps.decodeBody_within c sd hsd _

end DS.Wire
