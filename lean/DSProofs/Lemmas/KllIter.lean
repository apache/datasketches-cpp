/- The const_iterator of the KLL model.  With the constructor of the pinned source (`iter`, `iterF` with the flag off) it is right
when level 0 is non-empty and gives weight 1 throughout otherwise; with the constructor that skips empty levels (`iterF` with the
flag on, `iterF_repaired`) it is right always. -/
import DSProofs.Lemmas.KllMech
namespace DS.Kll
open DS DS.Mech

variable {α : Type}

/-- what a correct iteration yields: level by level, weight doubling -/
def weightedW : Nat → List (List α) → List (α × Nat)
  | _, [] => []
  | w, l :: t => l.map (fun x => (x, w)) ++ weightedW (2 * w) t

theorem weightedW_sum : ∀ (w : Nat) (L : List (List α)), ((weightedW w L).map Prod.snd).sum = w * weightSum 0 L
  | _, [] => rfl
  | w, l :: t => by
    rw [weightedW, List.map_append, List.sum_append, weightedW_sum (2 * w) t, List.map_map,
      show (Prod.snd ∘ fun x : α => (x, w)) = fun _ => w from rfl, sum_map_const l w, weightSum, weightSum_succ 0 t, Nat.pow_zero, Nat.one_mul, Nat.mul_add, Nat.mul_comm,
      Nat.mul_comm 2 w, Nat.mul_assoc]

theorem weightedW_length : ∀ (w : Nat) (L : List (List α)), (weightedW w L).length = sizeSum L
  | _, [] => rfl
  | w, l :: t => by simp only [weightedW, List.length_append, List.length_map, weightedW_length (2 * w) t, sizeSum]

/-- once `index` has passed `levels[level + 1]` the level is never advanced again (the defect D2) -/
theorem iterGo_stuck : ∀ (rem : List α) (index e : Nat) (hs : List Nat) (w : Nat), e ≤ index →
    iterGo rem index e hs w = rem.map (fun x => (x, w))
  | [], _, _, _, _, _ => rfl
  | x :: rem, index, e, hs, w, h => by
    have hne : (index + 1 == e) = false := by simp; omega
    simp only [iterGo, hne, Bool.false_eq_true, if_false, List.map_cons, iterGo_stuck rem (index + 1) e hs w (by omega)]

theorem succ_bne_add_succ {n : Nat} (i : Nat) (h : 0 < n) : (i + 1 == i + (n + 1)) = false :=
  beq_false_of_ne fun e => Nat.ne_of_gt h (Nat.succ.inj (Nat.add_left_cancel e)).symm

theorem iterGo_run (rem : List α) (hs : List Nat) (w : Nat) : ∀ (cur : List α) (index : Nat), cur ≠ [] →
    iterGo (cur ++ rem) index (index + cur.length) hs w =
      cur.map (fun x => (x, w)) ++ iterGo rem (index + cur.length) (iterAdvance hs w (index + cur.length)).2.2
        (iterAdvance hs w (index + cur.length)).1 (iterAdvance hs w (index + cur.length)).2.1
  | [], _, h => absurd rfl h
  | [x], index, _ => by
    simp only [List.singleton_append, List.length_singleton, iterGo, BEq.rfl, if_true, List.map_cons, List.map_nil]
  | x :: y :: cur, index, _ => by
    have ih := iterGo_run rem hs w (y :: cur) (index + 1) (List.cons_ne_nil _ _)
    rw [Nat.add_right_comm index 1] at ih
    rw [List.cons_append, iterGo, List.length_cons, succ_bne_add_succ (n := (y :: cur).length) index (Nat.succ_pos cur.length),
      if_neg Bool.false_ne_true]
    exact congrArg ((x, w) :: ·) ih

/-- advancing past a finished level is the repaired constructor's skip of the empty levels above it -/
theorem iterAdvance_eq : ∀ (hs : List Nat) (w e : Nat),
    iterAdvance hs w e = ((iterSkip hs (2 * w)).1.tail, (iterSkip hs (2 * w)).2, e + (iterSkip hs (2 * w)).1.headD 0)
  | [], _, _ => rfl
  | sz :: hs, w, e => by
    rw [iterAdvance, iterSkip]
    by_cases h : (sz == 0) = true
    · rw [if_pos h, if_pos h]; exact iterAdvance_eq hs (2 * w) e
    · rw [if_neg h, if_neg h]; rfl

theorem iterGo_skip : ∀ (L : List (List α)) (idx w : Nat),
    iterGo L.flatten idx (idx + (iterSkip (L.map List.length) w).1.headD 0) (iterSkip (L.map List.length) w).1.tail
      (iterSkip (L.map List.length) w).2 = weightedW w L
  | [], idx, w => rfl
  | l :: t, idx, w => by
    rw [List.map_cons, iterSkip, List.flatten_cons, weightedW]
    by_cases hl : l = []
    · subst hl
      exact iterGo_skip t idx (2 * w)
    · rw [if_neg (mt beq_iff_eq.1 (mt List.length_eq_zero_iff.1 hl))]
      show iterGo (l ++ t.flatten) idx (idx + l.length) (t.map List.length) w = _
      rw [iterGo_run _ _ _ l idx hl, iterAdvance_eq]
      exact congrArg _ (iterGo_skip t (idx + l.length) (2 * w))

/-- with a non-empty level 0 the start of the pinned iterator is the repaired one -/
theorem iter_of_level0_ne (s : Sketch α) (h : s.levels.headD [] ≠ []) : s.iter = weightedW 1 s.levels := by
  rw [← iterGo_skip s.levels 0 1]
  cases hs : s.levels with
  | nil => rw [hs] at h; exact absurd rfl h
  | cons l0 t =>
    rw [hs] at h
    have h : l0 ≠ [] := h
    rw [Sketch.iter, hs, List.map_cons, iterSkip, if_neg (mt beq_iff_eq.1 (mt List.length_eq_zero_iff.1 h)), Nat.zero_add]
    rfl

theorem iter_of_level0_empty (s : Sketch α) (h : s.levels.headD [] = []) : s.iter = s.levels.flatten.map (fun x => (x, 1)) := by
  simp only [Sketch.iter, h, List.length_nil]
  exact iterGo_stuck _ 0 0 _ 1 (Nat.le_refl _)

theorem iter_length (s : Sketch α) : s.iter.length = s.retained := by
  by_cases h : s.levels.headD [] = []
  · rw [iter_of_level0_empty s h, List.length_map, flatten_length_eq_sizeSum]; rfl
  · rw [iter_of_level0_ne s h, weightedW_length]; rfl

theorem iterF_pinned (fl : Flags) (h : fl.iterSkipsEmpty = false) (s : Sketch α) : s.iterF fl = s.iter := by
  simp [Sketch.iterF, h]

theorem iterF_repaired (fl : Flags) (h : fl.iterSkipsEmpty = true) (s : Sketch α) : s.iterF fl = weightedW 1 s.levels := by
  have := iterGo_skip s.levels 0 1
  simp only [Nat.zero_add] at this
  simp only [Sketch.iterF, h, if_true]
  exact this

end DS.Kll
