/- C19, KLL sketch: `merge_higher_levels` (`mergeHigherLevels_spec`: it delivers what `MHLSpec` of LifeKllMerge asks for), and with it
   `merge_contract` from `merge_gen`. -/
import DSProofs.Lemmas.LifeKllMerge
import DSProofs.Lemmas.LifeKllPopulate
import DSProofs.Lemmas.LifeKllCompress
namespace DS.Life.Kll
open DS.Life

theorem mergeHigherLevels_spec (P : Params) (hP : P.OK) (n0 : Nat) (ids0 : List Nat) (s o : Sketch) (b : Nat) (h : Heap)
    (ctx : MCtx P n0 ids0 s o b h) (byMove : Bool) (hA : Heap) (hAnx : hA.next = n0) (honl : o.numLevels ≥ 2) :
    MHLSpec P n0 s o b byMove hA := by
  intro sa ca ba h1 finalN ss io uo hlo hWsa hfin hpw h64
  obtain ⟨hself_lt, hblt, hbself, hbi, hviewf, hof⟩ := ctx.static
  obtain ⟨⟨hba, lok, il⟩, sm, re, selfc, mm, view, hSba⟩ := ss
  obtain ⟨ob, hob, _⟩ := ctx.uo.items
  have hobo : ob ∈ owned o := mem_owned.2 (Or.inr (Or.inl hob))
  obtain ⟨loko, iato, hoblt, _, _⟩ := io.items_ok ob hob
  have hlo' := hlo ob hob
  have hn1 : n0 ≤ h1.next := hAnx ▸ re.next
  have hbA : b < hA.next := by rw [hAnx]; exact hblt
  have hbalt : ba < h1.next := re.lt_next hbA
  -- the blocks of the initial heap lie below `n0`, the work buffer `h1.next` and a new items block `h1.next + 1` above
  have old : ∀ {x}, x < n0 → x ≠ h1.next := fun hx => Nat.ne_of_lt (Nat.lt_of_lt_of_le hx hn1)
  have old1 : ∀ {x}, x < n0 → x ≠ h1.next + 1 := fun hx => Nat.ne_of_lt (Nat.lt_succ_of_lt (Nat.lt_of_lt_of_le hx hn1))
  have neba : ∀ {x}, x < n0 → x ≠ b → x ≠ ba := fun hx hxb => re.ne_new (hAnx ▸ hx) hxb
  have hoba : ∀ x, x ∈ owned o → x ≠ ba := fun x hx => neba (hof x hx).1 (hof x hx).2.2.1
  have hselfba : s.self ≠ ba := neba hself_lt hbself.symm
  have hviewba : ∀ w, s.view = some w → w ≠ ba := fun w hw => neba (hviewf w hw).1 (hviewf w hw).2.1
  have hbaw : ba ≠ h1.next := Nat.ne_of_lt hbalt
  have hobw : ob ≠ h1.next := Nat.ne_of_lt hoblt
  have hw1 : h1.next ≠ h1.next + 1 := Nat.ne_of_lt (Nat.lt_succ_self _)
  have hm2 : 2 ≤ sa.m := by rw [sm.m, ctx.us.toInv.m_eq]; exact hP.1
  have hSn : ∀ x, n0 ≤ x → foot (owned s ++ owned o) n0 x = true := fun x hx => foot_new hx
  have hlens := lok.len
  have hleno := loko.len
  have hon1 : 1 ≤ o.numLevels := Nat.le_of_succ_le honl
  -- the bound on the number of levels
  have hWo : W o = o.n := ctx.uo.wt
  have hp0 : pop o.levels 0 ≤ o.n := by rw [← hWo]; exact pop0_le_W o hon1
  have hprov : max sa.numLevels o.numLevels ≤ ubOnNumLevels finalN := by
    refine Nat.max_le.2 ⟨?_, ?_⟩
    · rcases hpw with e | e
      · rw [e]; exact ub_pos _
      · exact le_ub_of_pow_le h64 (Nat.le_trans e (by rw [hWsa, hfin]; exact Nat.add_le_add_left hp0 _))
    · exact le_ub_of_pow_le h64 (Nat.le_trans (ctx.uo.pw.resolve_left (Nat.ne_of_gt honl)) (by rw [hfin]; exact Nat.le_add_left _ _))
  unfold mergeHigherLevels numRetained
  simp only [M.bind_assoc]
  apply step_lv (by rw [hlens]; exact Nat.succ_pos _)
  apply step_lv (by rw [hlens]; exact Nat.lt_succ_self _)
  rw [pure_bind_apply]
  show SafeF _ _ ((if o.numLevels = 1 then _ else _ : M (Sketch × List Bool)) h1) _
  rw [if_neg (Nat.ne_of_gt honl)]
  apply step_lv (by rw [hleno]; exact Nat.succ_lt_succ hon1)
  apply step_lv (by rw [hleno]; exact Nat.lt_succ_self _)
  rw [pure_bind_apply, lok.top, loko.top]
  generalize htmp : sa.itemsSize - sa.levels.getD 0 0 + (o.itemsSize - o.levels.getD 1 0) = tmp
  apply vstep_alloc _ _ (hSn _ hn1)
  intro h2 hcw2 hrw2 so2 hid2 hnx2
  have hSw : foot (owned s ++ owned o) n0 h1.next = true := hSn _ hn1
  have pctx : PCtx h2 sa o ba ob h1.next tmp (ubOnNumLevels finalN) :=
    ⟨hba, hob, lok, loko, honl, (so2 ob hobw).cells _ iato.cells,
      fun j h1' h2' => by rw [(so2 ob hobw).st]; exact hlo' j h1' h2', htmp.symm,
      fun e => hoba ob hobo e.symm, hbaw, hobw, hprov⟩
  apply SafeF.bind (populateWorkArrays_spec (S := foot (owned s ++ owned o) n0) pctx hSba hSw
    (il.transfer (so2 ba hbaw)) hcw2 hrw2)
  intro WL h3 ⟨hlenWL, hWL, sb3, hraw3, hlive3⟩ _
  have hWL0 : WL.getD 0 0 = 0 := hWL 0 (Nat.zero_le _)
  have hWLtop : WL.getD (max sa.numLevels o.numLevels) 0 = tmp := by rw [hWL _ (Nat.le_refl _), wlf_top pctx]
  have hcw3 : HasCells h3 h1.next tmp := sb3.cells _ _ hcw2
  have hmono3 : ∀ l, l < max sa.numLevels o.numLevels → WL.getD l 0 ≤ WL.getD (l + 1) 0 := fun l hl => by
    rw [hWL l (Nat.le_of_lt hl), hWL (l + 1) hl]; exact wlf_mono (Nat.le_succ l)
  have hwt : wsum (pop WL) (max sa.numLevels o.numLevels) = finalN := by
    have hw := wlf_weight pctx hWL
    rw [hWsa, hWo, Nat.add_right_comm] at hw
    rw [hfin]; exact Nat.add_right_cancel hw
  have hsp := Nat.le_max_left sa.numLevels o.numLevels
  have hop := Nat.le_max_right sa.numLevels o.numLevels
  generalize max sa.numLevels o.numLevels = prov at *
  apply SafeF.bind (generalCompress_spec (S := foot (owned s ++ owned o) n0) (k := sa.k) (m := sa.m)
    (tmp := tmp) (ub := ubOnNumLevels finalN) (finalN := finalN) (prov := prov)
    (srt := sa.lvl0Sorted) (coins := ca) hm2 h64 rfl hSw hlenWL (Nat.le_trans hon1 hop) hprov hWL0 hmono3 hWLtop
    hwt hcw3 hlive3)
  intro r h4 ⟨c4, hprovle, sb4⟩ _
  obtain ⟨res, OL, coins'⟩ := r
  simp only at c4 hprovle ⊢
  have hfu := c4.hN
  rw [if_neg (Nat.not_lt.2 hfu)]
  apply step_deref_eq hba
  -- blocks other than `ba` and the work buffer, up to `h4`
  have oth4 : ∀ x, x ≠ ba → x ≠ h1.next → SameOn h1 h4 x := fun x h1' h2' =>
    ((so2 x h2').trans (sb3.sameOn (fun j e => by rcases e with e | e; exact h1' e; exact h2' e))).trans
      (sb4.sameOn (fun j e => h2' e))
  have hnx4 : h4.next = h1.next + 1 := by rw [sb4.next, sb3.next, hnx2]
  have hid4 : h4.ids = h1.next :: h1.ids := by rw [sb4.ids, sb3.ids, hid2]
  have s34 : SameOn h3 h4 ba := sb4.sameOn (fun _ e => hbaw e)
  have hca4 : HasCells h4 ba sa.itemsSize := s34.cells _ (sb3.cells _ _ ((so2 ba hbaw).cells _ il.cells))
  have hra4 : ∀ j, j < sa.itemsSize → stAt h4 ba j = .raw := fun j hj => by rw [s34.st]; exact hraw3 j hj
  have hwf1 : ∀ x, x ∈ h1.ids → x < h1.next := re.wf hbA
  have hbaid : ba ∈ h1.ids := HasCells.mem_ids il.cells
  have hfl : sa.numLevels ≤ res.finalNumLevels := Nat.le_trans hsp hprovle
  have hf2 : 2 ≤ res.finalNumLevels := Nat.le_trans honl (Nat.le_trans hop hprovle)
  have hpwres : res.finalNumLevels = 1 ∨ 2 ^ (res.finalNumLevels - 1) ≤ finalN :=
    Or.inr ((pow_le_of_le_ub hfu).resolve_left (fun e => Nat.not_succ_le_self 1 (Nat.le_trans hf2 e)))
  -- a new items block of the final capacity or the old one: either way the function goes on with the same end
  rw [← M.bind_assoc (alloc Kind.item res.finalCapacity) (fun nb => pure (nb, res.finalCapacity)),
    ← M.bind_assoc (dealloc ba sa.itemsSize)]
  apply SafeF.bind_ite (Q1 := fun x h5 => x.2 = res.finalCapacity ∧ foot (owned s ++ owned o) n0 x.1 = true ∧ h1.next ≠ x.1 ∧
    HasCells h5 x.1 res.finalCapacity ∧ (∀ j, j < res.finalCapacity → stAt h5 x.1 j = .raw) ∧
    Compressed sa.k sa.m h1.next tmp (ubOnNumLevels finalN) res OL h5 ∧
    (∀ y, y ≠ ba → y ≠ h1.next → y ≠ x.1 → SameOn h1 h5 y) ∧ h1.next ≤ h5.next ∧
    (∀ h', h'.ids = h5.ids.filter (fun y => y != h1.next) → h'.next = h5.next → ReallocIds h1 h' ba x.1) ∧
    (∀ y, y ∈ owned o → y ≠ x.1) ∧ s.self ≠ x.1 ∧ (∀ w, s.view = some w → w ≠ x.1))
  · by_cases hcap : res.finalCapacity ≠ sa.itemsSize
    · rw [if_pos hcap]
      apply vstep_dealloc hca4 hra4 hSba
      intro h5 so5 hid5 hnx5
      rw [hnx4] at hnx5
      apply vstep_alloc _ _ (hSn _ (by rw [hnx5]; exact Nat.le_succ_of_le hn1))
      intro h6 hc6 hr6 so6 hid6 hnx6
      rw [hnx5] at hc6 hr6 so6 hid6 hnx6 ⊢
      have w56 : SameOn h4 h6 h1.next := (so5 _ hbaw.symm).trans (so6 _ hw1)
      have hlt6 : h1.next + 1 < h6.next := by rw [hnx6]; exact Nat.lt_succ_self _
      refine SafeF.pure ⟨rfl, hSn _ (Nat.le_succ_of_le hn1), hw1, hc6, hr6, c4.transfer w56,
        fun x a1 a2 a3 => ((oth4 x a1 a2).trans (so5 x a1)).trans (so6 x a3),
        Nat.le_of_lt (Nat.lt_trans (Nat.lt_succ_self _) hlt6), fun h' hid' hnx' => ?_,
        fun x hx => old1 (hof x hx).1, old1 hself_lt, fun w hw => old1 (hviewf w hw).1⟩
      refine ReallocIds.replace (fun x => ?_) hwf1 (Nat.le_succ _) (by rw [hnx']; exact hlt6)
      rw [hid', hid6, hid5, hid4]
      simp only [List.mem_filter, List.mem_cons, bne_iff_ne, ne_eq]
      constructor
      · rintro ⟨e | ⟨e | e, e2⟩, e3⟩
        · exact Or.inl e
        · exact absurd e e3
        · exact Or.inr ⟨e, e2⟩
      · rintro (e | ⟨e, e2⟩)
        · exact ⟨Or.inl e, by rw [e]; exact hw1.symm⟩
        · exact ⟨Or.inr ⟨Or.inr e, e2⟩, Nat.ne_of_lt (hwf1 x e)⟩
    · rw [if_neg hcap]
      have ecap : sa.itemsSize = res.finalCapacity := (Decidable.not_not.1 hcap).symm
      rw [ecap] at hca4 hra4
      have hle4 : h1.next ≤ h4.next := by rw [hnx4]; exact Nat.le_succ _
      refine SafeF.pure ⟨ecap, hSba, hbaw.symm, hca4, hra4, c4, fun x a1 a2 _ => oth4 x a1 a2, hle4, fun h' hid' hnx' => ?_,
        hoba, hselfba, hviewba⟩
      refine ReallocIds.of_mem (fun x => ?_) (by rw [hnx']; exact hle4) hwf1 hbaid
      rw [hid', hid4]
      simp only [List.mem_filter, List.mem_cons, bne_iff_ne, ne_eq]
      constructor
      · rintro ⟨e | e, e3⟩
        · exact absurd e e3
        · exact e
      · intro e; exact ⟨Or.inr e, Nat.ne_of_lt (hwf1 x e)⟩
  -- the end: items back into `items_`, new `levels_`, the work buffer goes
  intro ⟨it, sz⟩ h5 ⟨hsz, hSit, hne, hci, hri, ⟨hOL, hfu5, hO0, hOm, hOt, hcg, hce, hnt, hcw, hlw, hrw⟩, oth5, hnx5, hre, hoit, hsit, hvit⟩ _
  dsimp only at hsz ⊢
  subst hsz
  apply step_lv (by rw [hOL]; exact Nat.succ_pos _)
  rw [hO0, Nat.zero_add]
  have hfs : res.finalCapacity - res.finalNumItems + (res.finalNumItems - 0) = res.finalCapacity := by
    rw [Nat.sub_zero]; exact Nat.sub_add_cancel hcg
  apply vstep_moveConstructRange hcw hci hne (Nat.zero_le _) hnt (Nat.le_of_eq hfs) (fun j a1 a2 => hlw j a1 a2)
    (fun j a1 a2 => hri j (by rw [← hfs]; exact a2)) hSw hSit
  intro h6 sb6 hr6 hl6
  have hG := growLevels_length_eq sa.levels (res.finalNumLevels + 1) (by rw [hlens]; exact Nat.succ_le_succ hfl)
  obtain ⟨L, eL, hlenL, hgL⟩ := offsetLevels_ok OL (res.finalCapacity - res.finalNumItems - 0)
    (growLevels sa.levels (res.finalNumLevels + 1)).length 0 (growLevels sa.levels (res.finalNumLevels + 1))
    (Nat.le_of_eq (Nat.zero_add _)) (by rw [Nat.zero_add, hG, hOL]; exact Nat.succ_le_succ (Nat.le_succ_of_le hfu5))
  rw [eL, pure_bind_apply]
  apply vstep_dealloc (sb6.cells _ _ hcw) ?_ hSw
  · intro h' so7 hid7 hnx7
    apply SafeF.pure
    have hLj : ∀ j, j ≤ res.finalNumLevels → L.getD j 0 = OL.getD j 0 + (res.finalCapacity - res.finalNumItems) := by
      intro j hj
      rw [hgL j, if_pos ⟨Nat.zero_le _, by rw [Nat.zero_add, hG]; exact Nat.lt_succ_of_le hj⟩, Nat.sub_zero]
    have lokL : LevelsOK sa.k sa.m res.finalNumLevels L res.finalCapacity := by
      refine ⟨Nat.le_of_succ_le hf2, by rw [hlenL, hG], fun i hi => ?_, ?_, hce⟩
      · rw [hLj i (Nat.le_of_lt hi), hLj (i + 1) hi]
        exact Nat.add_le_add_right (hOm i hi) _
      · rw [hLj _ (Nat.le_refl _), hOt]; exact Nat.add_sub_cancel' hcg
    have sit := so7 it (fun e => hne e.symm)
    have ilL : ItemsLive h' it (L.getD 0 0) res.finalCapacity := by
      rw [hLj 0 (Nat.zero_le _), hO0]
      refine ⟨sit.cells _ (sb6.cells _ _ hci), fun j hj => ?_, fun j a1 a2 => ?_⟩
      · have hj' := Nat.zero_add _ ▸ hj
        rw [sit.st, sb6.st _ _ (fun x => x.elim (fun y => hne y.1.symm) fun y => Nat.not_lt.2 y.2.1 hj')]
        exact hri j (Nat.lt_of_lt_of_le hj' (Nat.sub_le _ _))
      · rw [sit.st]
        exact hl6 j (by rwa [Nat.zero_add] at a1) (hfs.symm ▸ a2)
    have oth : ∀ x, x ≠ ba → x ≠ h1.next → x ≠ it → SameOn h1 h' x := fun x a1 a2 a3 =>
      (oth5 x a1 a2 a3).trans ((sb6.sameOn (fun j x' => by rcases x' with x' | x'; exact a2 x'.1; exact a3 x'.1)).trans (so7 x a2))
    have hno : ∀ x, x ∈ owned o → SameOn h1 h' x := fun x hx => oth x (hoba x hx) (old (hof x hx).1) (hoit x hx)
    have hnle : h1.next ≤ h'.next := by rw [hnx7, sb6.next]; exact hnx5
    have sself : SameOn h1 h' s.self := oth _ hselfba (old hself_lt) hsit
    refine ⟨⟨it, ⟨rfl, lokL, ilL⟩, ⟨sm.self, sm.k, sm.m, sm.view⟩,
      re.trans (hre h' (by rw [hid7, sb6.ids]) (by rw [hnx7, sb6.next])),
      sself.cells _ selfc, by rw [sself.st, sself.st]; exact mm, fun w hw => ?_, hSit⟩,
      io.transfer hno hnle, fun e => (uo e).transfer hno hnle, hpwres⟩
    have sw := oth w (hviewba w hw) (old (hviewf w hw).1) (hvit w hw)
    exact ⟨sw.cells _ (view w hw).1, by rw [sw.st]; exact (view w hw).2⟩
  · intro i hi
    by_cases e : i < res.finalNumItems
    · exact hr6 i (Nat.zero_le _) e
    · rw [sb6.st _ _ (fun x => x.elim (fun y => e y.2.2) fun y => hne y.1)]
      exact hrw i (Nat.le_of_not_lt e) hi


/-- `merge(other)`.  The one hypothesis beyond the contract shape `MergeC` (LifeStep): when `merge_higher_levels` runs, the
    total weight fits into the 64 bits of `n_`
    (`ub_on_num_levels` is computed with a 64-step loop, and the work level arrays are sized by it). -/
theorem merge_contract (P : Params) (hP : P.OK) (n0 : Nat) (s o : Sketch) (byMove : Bool) (coins : List Bool)
    (ids0 : List Nat) (h64 : o.numLevels ≥ 2 → s.n + o.n < 2 ^ 64) :
    TripleS n0 (foot (owned s ++ owned o) n0)
      (fun h => Usable P h s ∧ Usable P h o ∧ (∀ b, b ∈ owned s → b ∉ owned o) ∧ h.ids = ids0 ∧ h.next = n0 ∧
         (∀ b, b ∈ owned s → b < n0) ∧ (∀ b, b ∈ owned o → b < n0) ∧ (∀ x, x ∈ ids0 → x < n0))
      (merge s o byMove coins)
      (fun r h' => Usable P h' r.1 ∧ Inv P h' o ∧ (byMove = false → Usable P h' o) ∧ (∀ b, b ∈ owned r.1 → b ∉ owned o) ∧
         Owns h' ids0 (owned s ++ owned o) (owned r.1 ++ owned o) n0) :=
  merge_gen P hP n0 s o byMove coins ids0
    (fun b h hA ctx hAnx hge => mergeHigherLevels_spec P hP n0 ids0 s o b h ctx byMove hA hAnx hge) h64

end DS.Life.Kll
