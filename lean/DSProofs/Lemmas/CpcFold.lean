/- Row folding (`row & (k-1)`) of coupon codes and the counting
   lemma "folding K rows to K' rows keeps at least the fraction K'/K of the coupons". -/
import DSProofs.Lemmas.CpcCount
import Batteries.Data.List.Perm
namespace DS.Cpc

theorem foldRc_lt (lgK rc : Nat) : foldRc lgK rc < 64 * 2^lgK := by
  unfold foldRc
  have := Nat.mod_lt (rc / 64) (Nat.two_pow_pos lgK)
  omega

theorem valid_map_foldRc (L : Nat) (l : List Nat) : ∀ y ∈ l.map (foldRc L), y < 64 * 2^L := by
  intro y hy
  obtain ⟨x, _, rfl⟩ := List.mem_map.1 hy
  exact foldRc_lt _ _

theorem foldRc_div (lgK rc : Nat) : foldRc lgK rc / 64 = (rc / 64) % 2^lgK := rc_div _ _ (Nat.mod_lt _ (by decide))
theorem foldRc_mod (lgK rc : Nat) : foldRc lgK rc % 64 = rc % 64 := rc_mod _ _ (Nat.mod_lt _ (by decide))

theorem foldRc_of_lt (lgK rc : Nat) (h : rc < 64 * 2^lgK) : foldRc lgK rc = rc := by
  unfold foldRc
  have : rc / 64 < 2^lgK := by omega
  rw [Nat.mod_eq_of_lt this]; omega

theorem foldRc_foldRc (a b rc : Nat) (hab : b ≤ a) : foldRc b (foldRc a rc) = foldRc b rc := by
  rw [foldRc, foldRc_div, foldRc_mod, Nat.mod_mod_of_dvd _ (Nat.pow_dvd_pow 2 hab)]; rfl

theorem map_foldRc_foldRc (a b : Nat) (l : List Nat) (hab : b ≤ a) : (l.map (foldRc a)).map (foldRc b) = l.map (foldRc b) := by
  rw [List.map_map]; exact List.map_congr_left fun x _ => foldRc_foldRc a b x hab

theorem map_foldRc_of_lt (lgK : Nat) (l : List Nat) (h : ∀ x ∈ l, x < 64 * 2^lgK) : l.map (foldRc lgK) = l :=
  map_eq_self (fun x hx => foldRc_of_lt lgK x (h x hx))

theorem mem_map_foldRc (lgK : Nat) (l : List Nat) (r c : Nat) (hc : c < 64) :
    r * 64 + c ∈ l.map (foldRc lgK) ↔ ∃ x ∈ l, (x / 64) % 2^lgK = r ∧ x % 64 = c := by
  rw [List.mem_map]
  constructor
  · rintro ⟨x, hx, he⟩
    have h1 := foldRc_div lgK x
    have h2 := foldRc_mod lgK x
    rw [he, rc_div r c hc] at h1
    rw [he, rc_mod r c hc] at h2
    exact ⟨x, hx, h1.symm, h2.symm⟩
  · rintro ⟨x, hx, h1, h2⟩
    exact ⟨x, hx, by unfold foldRc; rw [h1, h2]⟩

theorem distinct_length_mono (l₁ l₂ : List Nat) (h : ∀ a, a ∈ l₁ → a ∈ l₂) : (distinct l₁).length ≤ (distinct l₂).length :=
  (List.subperm_of_subset (nodup_distinct l₁) (fun a ha => (mem_distinct a l₂).2 (h a ((mem_distinct a l₁).1 ha)))).length_le

/-- all codes below 64·2^a that fold (to 2^b rows) onto `y` -/
def fiber (a b y : Nat) : List Nat := (List.range (2^(a - b))).map (fun j => ((y / 64) + j * 2^b) * 64 + y % 64)

theorem mem_fiber (a b x : Nat) (hab : b ≤ a) (hx : x < 64 * 2^a) : x ∈ fiber a b (foldRc b x) := by
  unfold fiber
  rw [List.mem_map]
  refine ⟨(x / 64) / 2^b, ?_, ?_⟩
  · rw [List.mem_range]
    have : 2^a = 2^b * 2^(a - b) := by rw [← Nat.pow_add]; congr 1; omega
    rw [Nat.div_lt_iff_lt_mul (Nat.two_pow_pos b)]
    rw [Nat.mul_comm] at this
    omega
  · rw [foldRc_div, foldRc_mod]
    have := Nat.mod_add_div (x / 64) (2^b)
    rw [Nat.mul_comm] at this
    omega

theorem fiber_length (a b y : Nat) : (fiber a b y).length = 2^(a - b) := by simp [fiber]

/-- `xs` is covered by the fibres over its folded codes, each of `2^(a-b)` codes -/
theorem fold_count (a b : Nat) (hab : b ≤ a) (xs : List Nat) (hv : ∀ x ∈ xs, x < 64 * 2^a) :
    2^b * (distinct xs).length ≤ 2^a * (distinct (xs.map (foldRc b))).length := by
  have h1 : (distinct xs).length ≤ (distinct (xs.map (foldRc b))).length * 2^(a - b) := by
    rw [← length_flatMap_const _ (fiber a b) _ (fiber_length a b)]
    refine (List.subperm_of_subset (nodup_distinct xs) fun x hx => ?_).length_le
    rw [mem_distinct] at hx
    exact List.mem_flatMap.2 ⟨_, (mem_distinct _ _).2 (List.mem_map_of_mem hx), mem_fiber a b x hab (hv x hx)⟩
  have hp : 2^a = 2^b * 2^(a - b) := by rw [← Nat.pow_add]; congr 1; omega
  calc 2^b * (distinct xs).length ≤ 2^b * ((distinct (xs.map (foldRc b))).length * 2^(a - b)) := Nat.mul_le_mul_left _ h1
    _ = 2^a * (distinct (xs.map (foldRc b))).length := by rw [hp, Nat.mul_assoc, Nat.mul_comm (2^(a - b))]

/-- so a union that has gone over to the bit matrix stays there under `reduce_k` -/
theorem fold_beyond_sparse (a b : Nat) (hab : b ≤ a) (xs : List Nat) (hv : ∀ x ∈ xs, x < 64 * 2^a)
    (h : 3 * 2^a ≤ 32 * (distinct xs).length) : 3 * 2^b ≤ 32 * (distinct (xs.map (foldRc b))).length := by
  have hc := fold_count a b hab xs hv
  have hpos := Nat.two_pow_pos a
  apply Nat.le_of_mul_le_mul_left _ hpos
  calc 2^a * (3 * 2^b) = 2^b * (3 * 2^a) := by rw [Nat.mul_left_comm, Nat.mul_comm (2^a) (2^b), Nat.mul_left_comm]
    _ ≤ 2^b * (32 * (distinct xs).length) := Nat.mul_le_mul_left _ h
    _ = 32 * (2^b * (distinct xs).length) := by rw [Nat.mul_left_comm]
    _ ≤ 32 * (2^a * (distinct (xs.map (foldRc b))).length) := Nat.mul_le_mul_left _ hc
    _ = 2^a * (32 * (distinct (xs.map (foldRc b))).length) := by rw [Nat.mul_left_comm]

end DS.Cpc
