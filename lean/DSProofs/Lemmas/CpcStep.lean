/- `promote_sparse_to_windowed` keeps the representation well formed (`Rep`) and re-encodes the same bits; `move_window` reads the
   new state off the old matrix (`readsMatrix_moveWindow`; `Rep` and the bits then come from `ReadsMatrix` in CpcRep); the coupons
   of a sketch whose window stands at offset 0. -/
import DSProofs.Lemmas.CpcInv
namespace DS.Cpc

theorem promote_lgK (s : Sketch) : (promote s).lgK = s.lgK := rfl
theorem promote_numCoupons (s : Sketch) : (promote s).numCoupons = s.numCoupons := rfl
theorem promote_offset (s : Sketch) : (promote s).offset = s.offset := rfl
theorem promote_fic (s : Sketch) : (promote s).fic = s.fic := rfl

theorem promote_window_ne (s : Sketch) : (promote s).window ≠ [] :=
  map_range_ne_nil _ _ (Nat.two_pow_pos _)

theorem rep_promote (s : Sketch) (h : Rep s) (ho : s.offset = 0) : Rep (promote s) := by
  refine ⟨?_, ?_, ?_, ?_, ?_, ?_, ?_⟩
  · exact List.Pairwise.filter _ h.sorted
  · intro rc hrc; exact h.tbl_lt rc (List.mem_filter.1 hrc).1
  · show s.offset ≤ 56; omega
  · intro hw; exact absurd hw (promote_window_ne s)
  · intro _; simp [promote]
  · intro b hb
    simp only [promote, List.mem_map, List.mem_range] at hb
    obtain ⟨i, _, rfl⟩ := hb
    exact byteOfPairs_lt _ i (fun rc hrc => by simpa using (List.mem_filter.1 hrc).2)
  · intro _ rc hrc
    have := (List.mem_filter.1 hrc).2
    right; show s.offset + 8 ≤ rc % 64
    simp at this; omega

theorem promote_bit (s : Sketch) (hw : s.window = []) (ho : s.offset = 0) (r c : Nat) (hr : r < 2^s.lgK) (hc : c < 64) :
    (promote s).bit r c = s.bit r c := by
  have hne := List.isEmpty_eq_false_iff.2 (promote_window_ne s)
  simp only [Sketch.bit, hne, promote_offset, ho, hw, List.isEmpty_nil, if_true, Bool.false_eq_true, if_false,
    Nat.not_lt_zero, Nat.zero_add, Nat.sub_zero]
  by_cases h8 : c < 8
  · simp only [h8, if_true]
    show ((List.map (byteOfPairs _) (List.range (2^s.lgK))).getD r 0).testBit c = _
    rw [getD_map_range _ _ _ _ hr]
    unfold byteOfPairs
    rw [testBit_foldl_or _ r c hc]
    simp [List.mem_filter, rc_mod r c hc, h8]
  · simp only [h8, if_false]
    show decide (r * 64 + c ∈ s.table.filter _) = _
    have : 8 ≤ c := by omega
    simp [List.mem_filter, rc_mod r c hc, this]

/-- with the window at offset 0 (HYBRID, PINNED) the table and the window's bits together are the coupons -/
theorem mem_offset_zero (s : Sketch) (xs : List Nat) (h : Inv s xs) (hv : ∀ x ∈ xs, x < 64 * 2^s.lgK) (hw : s.window ≠ [])
    (ho : s.offset = 0) (a : Nat) : a ∈ s.table ∨ a ∈ pairsOfWindow s.window ↔ a ∈ xs := by
  have hbit := bit_offset_zero s hw ho (a / 64) (a % 64)
  rw [Nat.div_add_mod'] at hbit
  rw [mem_pairsOfWindow, h.rep.win_len hw]
  constructor
  · rintro (hm | ⟨hlt, h8, hb⟩)
    · refine (h.bit_iff_mem a (h.rep.tbl_lt a hm)).1 ?_
      rw [hbit, if_neg (Nat.not_lt.2 (h.rep.table_col_ge hw ho a hm))]; exact decide_eq_true hm
    · exact (h.bit_iff_mem a hlt).1 (by rw [hbit, if_pos h8]; exact hb)
  · intro hx
    have hlt := hv a hx
    have := (h.bit_iff_mem a hlt).2 hx
    rw [hbit] at this
    by_cases h8 : a % 64 < 8
    · rw [if_pos h8] at this; exact Or.inr ⟨hlt, h8, this⟩
    · rw [if_neg h8] at this; exact Or.inl (of_decide_eq_true this)

theorem moveWindow_of_gt (T : HipTables) (s : Sketch) (h : s.offset + 1 > 56) : moveWindow T s = s := by
  simp [moveWindow, h]

theorem moveWindow_lgK (T : HipTables) (s : Sketch) : (moveWindow T s).lgK = s.lgK := ite_eq_of rfl rfl
theorem moveWindow_numCoupons (T : HipTables) (s : Sketch) : (moveWindow T s).numCoupons = s.numCoupons := ite_eq_of rfl rfl

theorem readsMatrix_moveWindow (T : HipTables) (s : Sketch) (hle : s.offset + 1 ≤ 56) :
    ReadsMatrix (moveWindow T s) (s.offset + 1) (buildBitMatrix s).toArray := by
  have : ¬ (s.offset + 1 > 56) := by omega
  constructor <;> simp [moveWindow, this]

end DS.Cpc
