/- C19, theta table: the copy constructor, and the contracts consumed by the world-level proof. -/
import DSProofs.Lemmas.LifeThetaMutators
namespace DS.Life.Theta
open DS.Life

theorem copyCtor_spec (P : Params) {S : Nat → Bool} {o : Table} {ob : Nat} (hb : o.entries = some ob) {h : Heap}
    (hS : S h.next = true) (ht : TableAt P h ob o.lgCur o.num) :
    SafeF S h (copyCtor o h) (fun t' h' => t' = { o with entries := some h.next } ∧
      TableAt P h' h.next o.lgCur o.num ∧ TableAt P h' ob o.lgCur o.num ∧ h'.ids = h.next :: h.ids ∧
      ∀ i, i < 2 ^ o.lgCur → wordAt h' h.next i = wordAt h ob i ∧ stAt h' h.next i = stAt h ob i) := by
  unfold copyCtor
  rw [hb]
  refine astep_alloc _ _ hS fun h1 A => ?_
  have hne : ob ≠ h.next := Nat.ne_of_lt ht.slots.lt
  have ht1 : TableAt P h1 ob o.lgCur o.num := ht.local (A.out ob hne) (A.next ▸ Nat.le_succ _)
  refine vloop_cells' (b := h.next) (Post := fun i w s => w = wordAt h1 ob i ∧ s = stAt h1 ob i) (Nat.zero_le _)
    (fun i h2 _ hi sb _ hsn => ?_) fun h2 sb hp => ?_
  · have hw : wordAt h2 ob i = wordAt h1 ob i := sb.word ob i fun x => hne x.1
    have hs : stAt h2 ob i = stAt h1 ob i := sb.st ob i fun x => hne x.1
    have hco := sb.cells _ _ ht1.slots.cells
    refine vstep_ifKey hco hi ((ht1.slots.ok i hi).of_views hw hs) (fun v _ hv => ?_) fun hk hr => ?_ <;> apply SafeF.last
    · apply vstep_copyConstructEntry hco hi hv (sb.cells _ _ A.raw.cells) hi (hsn.trans (A.raw.raw i)) hS
      exact fun h3 sb3 hw3 hs3 => SafeF.pure ⟨sb3, hw3.trans hw, hs3.trans (hv.symm.trans hs)⟩
    · apply vstep_writeWord 0 (sb.cells _ _ A.raw.cells) hi hS
      exact fun h3 sb3 hw3 hs3 => SafeF.pure ⟨sb3, hw3.trans (hk.symm.trans hw), (hs3.trans (hsn.trans (A.raw.raw i))).trans (hr.symm.trans hs)⟩
  · have hnew : ∀ i, i < 2 ^ o.lgCur → wordAt h2 h.next i = wordAt h ob i ∧ stAt h2 h.next i = stAt h ob i := fun i hi =>
      ⟨(hp i (Nat.zero_le i) hi).1.trans (wordAt_congr (A.out ob hne) i), (hp i (Nat.zero_le i) hi).2.trans (stAt_congr (A.out ob hne) i)⟩
    refine SafeF.pure ⟨rfl, ?_, ht1.other sb fun _ x => hne x.1, sb.ids.trans A.ids, hnew⟩
    exact ht.copyOf (fun j hj => (hnew j hj).1) ⟨sb.cells _ _ A.raw.cells, sb.next ▸ A.next ▸ Nat.lt_succ_self _,
      fun j hj => (ht.slots.ok j hj).of_views (hnew j hj).1 (hnew j hj).2⟩

def owned (t : Table) : List Nat := t.entries.toList

/-- safe to destroy / to assign to: `TableInv`, under the name the three classes have for it in `ClassSpec` -/
def Inv (P : Params) (h : Heap) (t : Table) : Prop := TableInv P h t

/-- safe to use: owns a table block -/
def Usable (P : Params) (h : Heap) (t : Table) : Prop := ∃ b, t.entries = some b ∧ TableAt P h b t.lgCur t.num

theorem mem_owned {t : Table} {b : Nat} : b ∈ owned t ↔ t.entries = some b := Option.mem_toList

theorem owned_of_some {t : Table} {b : Nat} (hb : t.entries = some b) : owned t = [b] := congrArg Option.toList hb

theorem inv_iff {P : Params} {h : Heap} {t : Table} : Inv P h t ↔ ∀ b, t.entries = some b → TableAt P h b t.lgCur t.num := by
  unfold Inv TableInv
  cases t.entries <;> simp

theorem Usable.inv {P : Params} {h : Heap} {t : Table} (u : Usable P h t) : Inv P h t :=
  u.elim fun _ ⟨hb, ht⟩ => inv_iff.2 fun _ hb' => Option.some.inj (hb.symm.trans hb') ▸ ht

theorem Inv.local {P : Params} {h h' : Heap} {t : Table} (e : ∀ b, b ∈ owned t → h'.find? b = h.find? b)
    (hn : h.next ≤ h'.next) (i : Inv P h t) : Inv P h' t :=
  inv_iff.2 fun b hb => (inv_iff.1 i b hb).local (e b (mem_owned.2 hb)) hn

theorem Usable.local {P : Params} {h h' : Heap} {t : Table} (e : ∀ b, b ∈ owned t → h'.find? b = h.find? b)
    (hn : h.next ≤ h'.next) (u : Usable P h t) : Usable P h' t :=
  u.imp fun b x => ⟨x.1, x.2.local (e b (mem_owned.2 x.1)) hn⟩

theorem Inv.owned_ids {P : Params} {h : Heap} {t : Table} (i : Inv P h t) (b : Nat) (hb : b ∈ owned t) : b ∈ h.ids ∧ b < h.next :=
  have ht := inv_iff.1 i b (mem_owned.1 hb)
  ⟨ht.slots.cells.mem_ids, ht.slots.lt⟩

theorem Inv.owned_nodup {P : Params} {h : Heap} {t : Table} (_ : Inv P h t) : (owned t).Nodup := by
  unfold owned
  cases t.entries <;> simp

theorem ctor_contract (P : Params) (n0 lgCur lgNom rf theta0 : Nat) (ids0 : List Nat) (hl : lgCur > 0) :
    TripleS n0 (foot [] n0) (fun h => h.ids = ids0) (ctor lgCur lgNom rf theta0)
      (fun t h' => Usable P h' t ∧ Owns h' ids0 [] (owned t) n0) := by
  intro h hn hid
  unfold ctor
  rw [if_pos hl]
  exact vstep_newTable P (foot_new hn) fun h2 ht _ _ hid2 _ => SafeF.pure ⟨⟨h.next, rfl, ht⟩, Owns.alloc (hid ▸ hid2) hn⟩

theorem mutator_contract (P : Params) (n0 : Nat) (t : Table) (ids0 : List Nat) {m : M Table} (spec : MutSpec P n0 t ids0 m) :
    TripleS n0 (foot (owned t) n0) (fun h => Usable P h t ∧ h.ids = ids0) m
      (fun t' h' => Usable P h' t' ∧ Owns h' ids0 (owned t) (owned t') n0) := by
  intro h hn ⟨⟨b, hb, ht⟩, hid⟩
  refine SafeF.mono (spec _ b hb (foot_own (mem_owned.2 hb)) (fun _ => foot_new) h hn ⟨ht, hid⟩) ?_
  intro t' h' ⟨nb, hnb, ht', hcase⟩
  rw [owned_of_some hb, owned_of_some hnb]
  refine ⟨⟨nb, hnb, ht'⟩, ?_⟩
  rcases hcase with ⟨rfl, hid'⟩ | ⟨hge, hne, hid'⟩
  · exact Owns.same hid' (fun x hx => List.mem_singleton.1 hx ▸ hid ▸ ht.slots.cells.mem_ids) fun _ => Iff.rfl
  · exact Owns.realloc hid' hge hne

theorem update_contract (P : Params) (hP : P.OK) (n0 : Nat) (t : Table) (hash v : Nat) (comb : Nat → Nat → Nat) (ids0 : List Nat) :
    TripleS n0 (foot (owned t) n0) (fun h => Usable P h t ∧ h.ids = ids0) (update P t hash v comb)
      (fun t' h' => Usable P h' t' ∧ Owns h' ids0 (owned t) (owned t') n0) :=
  mutator_contract P n0 t ids0 (update_spec P hP n0 t ids0 hash v comb)

theorem trim_contract (P : Params) (n0 : Nat) (t : Table) (ids0 : List Nat) :
    TripleS n0 (foot (owned t) n0) (fun h => Usable P h t ∧ h.ids = ids0) (trim P t)
      (fun t' h' => Usable P h' t' ∧ Owns h' ids0 (owned t) (owned t') n0) :=
  mutator_contract P n0 t ids0 (trim_spec P n0 t ids0)

theorem reset_contract (P : Params) (n0 : Nat) (t : Table) (ids0 : List Nat) :
    TripleS n0 (foot (owned t) n0) (fun h => Usable P h t ∧ h.ids = ids0) (reset P t)
      (fun t' h' => Usable P h' t' ∧ Owns h' ids0 (owned t) (owned t') n0) :=
  mutator_contract P n0 t ids0 (reset_spec P n0 t ids0)

/-- for any footprint `S` that holds the object's block: the copy assignment runs the destructor with a smaller one -/
theorem dtor_contract (P : Params) (n0 : Nat) {S : Nat → Bool} (t : Table) (ids0 : List Nat) (hS : ∀ b, b ∈ owned t → S b = true) :
    TripleS n0 S (fun h => Inv P h t ∧ h.ids = ids0) (dtor t) (fun _ h' => Owns h' ids0 (owned t) [] n0) := by
  intro h _ ⟨hinv, hid⟩
  unfold dtor
  cases hb : t.entries with
  | none =>
    rw [show owned t = [] from congrArg Option.toList hb]
    exact SafeF.pure (Owns.same hid nofun fun _ => Iff.rfl)
  | some b =>
    have hs := (inv_iff.1 hinv b hb).slots
    have hSb := hS b (mem_owned.2 hb)
    rw [owned_of_some hb]
    refine vloop_cells' (b := b) (Post := fun _ _ s => s = .raw) (Nat.zero_le _) (fun i h1 _ hi sb hw hst => ?_) fun h1 sb hp => ?_
    · exact vstep_ifKey (sb.cells _ _ hs.cells) hi ((hs.ok i hi).of_views hw hst)
        (fun v _ hv => destroy_cell (sb.cells _ _ hs.cells) hi (hv ▸ nofun) hSb) fun _ hr => SafeF.pure ⟨.refl _ _, hr⟩
    · apply SafeF.last
      apply astep_dealloc (sb.cells _ _ hs.cells) (fun i hi => hp i (Nat.zero_le i) hi) hSb
      exact fun h2 F => SafeF.pure (Owns.free (by rw [F.ids, sb.ids, hid]))

theorem copyCtor_contract (P : Params) (n0 : Nat) (o : Table) (ids0 : List Nat) :
    TripleS n0 (foot [] n0) (fun h => Usable P h o ∧ h.ids = ids0) (copyCtor o)
      (fun t' h' => Usable P h' t' ∧ Owns h' ids0 [] (owned t') n0) := by
  intro h hn ⟨⟨ob, hb, ht⟩, hid⟩
  refine (copyCtor_spec P hb (foot_new hn) ht).mono ?_
  rintro _ h' ⟨rfl, htn, _, hid', _⟩
  exact ⟨⟨_, rfl, htn⟩, Owns.alloc (hid ▸ hid') hn⟩

/-- `compact().serialize()`: a temporary vector of copies, gone again at the end -/
theorem serialize_contract (P : Params) (n0 : Nat) (t : Table) (ids0 : List Nat) :
    TripleS n0 (foot [] n0) (fun h => Usable P h t ∧ h.ids = ids0 ∧ (∀ x, x ∈ ids0 → x < n0)) (serializeCompact t)
      (fun _ h' => ∀ x, x ∈ h'.ids ↔ x ∈ ids0) := by
  intro h hn ⟨⟨b, hb, ht⟩, hid, hlt⟩
  unfold serializeCompact
  by_cases hnum : t.num = 0
  · rw [if_pos hnum]
    exact SafeF.pure fun x => hid ▸ Iff.rfl
  rw [if_neg hnum, hb]
  apply step_deref
  have hS : foot [] n0 h.next = true := foot_new hn
  refine astep_alloc _ _ hS fun h1 A => ?_
  have hne : b ≠ h.next := Nat.ne_of_lt ht.slots.lt
  have ht1 : TableAt P h1 b t.lgCur t.num := ht.local (A.out b hne) (A.next ▸ Nat.le_succ _)
  -- from here on only the vector's block `h.next` changes; when the fold has passed the slots below `i` of the table, their `j`
  -- entries are the live front of the vector
  refine SafeF.bind_triple (n0 := 0) (TripleS.foldUp
    (fun i (j : Nat) h' => SameBut h1 h' (fun b' _ => b' = h.next) ∧ j = cnt (nz h1 b) i ∧
      (∀ q, q < j → ∃ v, stAt h' h.next q = .live v) ∧ ∀ q, j ≤ q → q < t.num → stAt h' h.next q = .raw) _ _ _ _ ?_)
    (Nat.zero_le _) ⟨.refl _ _, rfl, nofun, fun q _ _ => A.raw.raw q⟩ ?_
  · intro i j _ hi h' _ ⟨sb, hj, hlive, hraw⟩
    rw [Nat.zero_add] at hi
    have hw : wordAt h' b i = wordAt h1 b i := sb.word b i hne
    have hco := sb.cells _ _ ht1.slots.cells
    refine vstep_ifKey hco hi ((ht1.slots.ok i hi).of_views hw (sb.st b i hne)) (fun v hk hv => ?_) fun hk _ => ?_
    · have hj1 : j + 1 = cnt (nz h1 b) (i + 1) := by simp [cnt, nz, ← hw, hk, hj]
      have hjlt : j < t.num := ht1.count ▸ Nat.lt_of_lt_of_le (hj1 ▸ Nat.lt_succ_self j) (cnt_mono _ hi)
      apply vstep_copyConstructEntry hco hi hv (sb.cells _ _ A.raw.cells) hjlt (hraw j (Nat.le_refl j) hjlt) hS
      intro h'' sb' _ hs
      refine SafeF.pure ⟨sb.trans sb' (fun _ _ x => x) (fun _ _ x => x.1), hj1, fun q hq => ?_, fun q h1' h2' => ?_⟩
      · by_cases hqj : q = j
        · exact ⟨v, hqj ▸ hs⟩
        · rw [sb'.st h.next q fun x => hqj x.2]
          exact hlive q (Nat.lt_of_le_of_ne (Nat.le_of_lt_succ hq) hqj)
      · rw [sb'.st h.next q fun x => Nat.ne_of_gt h1' x.2]
        exact hraw q (Nat.le_of_succ_le h1') h2'
    · exact SafeF.pure ⟨sb, by simp [cnt, nz, ← hw, hk, hj], hlive, hraw⟩
  · intro j h2 ⟨sb2, hj, hlive, _⟩ _
    rw [Nat.zero_add, ← ht1.count] at hj
    subst hj
    have hcv := sb2.cells _ _ A.raw.cells
    -- `serialize` reads every copied entry
    refine vloop_cells' (b := h.next) (Post := fun _ _ s => ∃ v, s = .live v) (Nat.zero_le _) (fun i h3 _ hi _ _ hs => ?_)
      fun h3 sb3 hp3 => ?_
    · obtain ⟨v, hv⟩ := hlive i hi
      exact vstep_readLive (hs.trans hv) (SafeF.pure ⟨.refl _ _, v, hs.trans hv⟩)
    -- the vector dies: its entries are destroyed, its block released
    refine vloop_cells' (b := h.next) (Post := fun _ _ s => s = .raw) (Nat.zero_le _) (fun i h4 h0i hi sb _ hs => ?_)
      fun h4 sb4 hp4 => ?_
    · obtain ⟨v, hv⟩ := hp3 i h0i hi
      exact destroy_cell (sb.cells _ _ (sb3.cells _ _ hcv)) hi (hs.trans hv ▸ nofun) hS
    · apply SafeF.last
      apply astep_dealloc (sb4.cells _ _ (sb3.cells _ _ hcv)) (fun i hi => hp4 i (Nat.zero_le i) hi) hS
      refine fun h5 F => SafeF.pure fun x => ?_
      rw [F.ids, sb4.ids, sb3.ids, sb2.ids, A.ids, hid, List.mem_filter, List.mem_cons, bne_iff_ne]
      exact ⟨fun hx => hx.1.resolve_left hx.2, fun hx => ⟨Or.inr hx, fun e => Nat.not_le_of_lt (hlt x hx) (e ▸ hn)⟩⟩

/-- the move constructor hands the pointer over; the heap is not touched, so this is a fact about values, not a triple -/
theorem moveCtor_transfers (P : Params) (h : Heap) (t : Table) (u : Usable P h t) :
    Usable P h (moveCtor t).1 ∧ Inv P h (moveCtor t).2 ∧ owned (moveCtor t).1 = owned t ∧ owned (moveCtor t).2 = [] :=
  ⟨u, inv_iff.2 nofun, rfl, rfl⟩

theorem copyAssign_contract (P : Params) (n0 : Nat) (t o : Table) (ids0 : List Nat) :
    TripleS n0 (foot (owned t) n0)
      (fun h => Inv P h t ∧ Usable P h o ∧ h.ids = ids0 ∧ (∀ b, b ∈ owned t → b < n0))
      (copyAssign t o) (fun t' h' => Usable P h' t' ∧ Owns h' ids0 (owned t) (owned t') n0) := by
  intro h hn ⟨hinv, ⟨ob, hob, hto⟩, hid, hlt⟩
  unfold copyAssign
  -- the copy is made with the footprint "new blocks", the old object destroyed with the footprint "blocks of `t`": the frame
  -- of each says that it leaves the other object as it is.  For that the block of the copy, `h.next`, must not be one of `t`:
  -- this is what `b < n0` for the blocks of `t` is assumed for (`hnew`); and the destructor runs with `S := (· ∈ owned t)`
  -- and not with `foot (owned t) n0`, which holds every block from `n0` on and so the copy's as well
  refine SafeF.bind ((Fi.SafeF.withFrame (copyCtor_spec P hob (foot_new (own := []) hn) hto)).weaken
    fun x hx => foot_new (by simpa [foot] using hx)) ?_
  rintro _ h1 ⟨⟨rfl, htn, _, hid1, _⟩, fr1⟩ _
  have hnew : h.next ∉ owned t := fun hm => Nat.not_lt_of_le hn (hlt _ hm)
  refine Fi.SafeF.bind_sub (dtor_contract P n0 (S := fun x => decide (x ∈ owned t)) t _ fun _ => decide_eq_true)
    (fun x hx => foot_own (of_decide_eq_true hx)) (Nat.le_trans hn fr1.2.1)
    ⟨hinv.local (fun b hb => find?_of_Out _ h h1 fr1.1 b (foot_old List.not_mem_nil (hlt b hb))) fr1.2.1, hid1⟩ ?_
  intro _ h2 ow fr2
  refine SafeF.pure ⟨⟨h.next, rfl, htn.local (find?_of_Out _ h1 h2 fr2.1 _ (decide_eq_false hnew)) fr2.2.1⟩,
    show Owns h2 ids0 (owned t) [h.next] n0 from ⟨fun x => (ow.ids x).trans ?_, fun x hx => Or.inr (List.mem_singleton.1 hx ▸ hn)⟩⟩
  rw [hid, List.mem_cons, List.mem_singleton]
  exact ⟨fun hx => hx.elim (fun ⟨a, c⟩ => a.elim Or.inr fun a => Or.inl ⟨a, c⟩) nofun,
    fun hx => Or.inl (hx.elim (fun ⟨a, c⟩ => ⟨Or.inr a, c⟩) fun e => ⟨Or.inl e, e ▸ hnew⟩)⟩

theorem moveAssign_spec' (P : Params) (h : Heap) (t o : Table) (it : Inv P h t) (uo : Usable P h o) :
    Usable P h (moveAssign t o).1 ∧ Inv P h (moveAssign t o).2 ∧
      owned (moveAssign t o).1 = owned o ∧ owned (moveAssign t o).2 = owned t :=
  ⟨uo, it, rfl, rfl⟩

end DS.Life.Theta
