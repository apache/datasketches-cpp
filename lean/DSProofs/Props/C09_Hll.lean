/-
C09 (HLL group) — serialization round trip of every HLL image kind: list and set mode, HLL_4 / HLL_6 / HLL_8, each
compact and updatable, incl. the HLL_4 aux area.  Model: DSModel/Wire/Hll.lean (`Img`, `encode`, `decode`,
`serializedSize`, `maxSerializedSize`, `project`).  All statements are for every constants record `c` satisfying the
decidable side condition `c.ok` (distinct preamble-int codes, byte-sized ids) — discharged for the constants generated
from the current headers in the examples — every image state, every tail.
Helper lemmas: DSProofs/Lemmas/WireHll*.lean.
-/
import DSProofs.Lemmas.WireHllSize
import DSProofs.Lemmas.WireHllPerm
import DSModel.Wire.HllGen

namespace DS.Wire.Hll
open DS.Wire

/-- Reading what was written gives back the image state and consumes exactly the image (nothing of `tail`). -/
theorem decode_encode (c : Consts) (hc : c.ok = true) (s : Img) (hw : s.WF c) (tail : Bytes) :
    decode c (encode c s ++ tail) = some (s, tail) := by
  have := decodeG_enc c hc false s hw tail
  rwa [encodeG_false] at this

/-- Re-serialising whatever the specification reader accepted gives the same bytes (no well-formedness needed: the
image state stores every byte of the image). The C++ re-serialisation is byte-identical except in the unordered
tables named by `permRange` (checked on the implementation by the harness). -/
theorem encode_decode (c : Consts) (b : Bytes) (s : Img) (r : Bytes) (hd : decode c b = some (s, r)) :
    encode c s ++ r = b :=
  (decode_inv c b s r hd).symm

/-- The image has exactly the advertised size (`get_compact_serialization_bytes` / `get_updatable_serialization_bytes`). -/
theorem size_eq (c : Consts) (s : Img) (hw : s.WF c) : (encode c s).length = serializedSize c s :=
  size_eq_of_WF c s hw

/-- The published bound `get_max_updatable_serialization_bytes(lg_k, tgt_type)` — full statement. -/
def size_le_max_full (c : Consts) : Prop :=
  ∀ s : Img, s.WF c → s.hdr.compact c = false → serializedSize c s ≤ maxSerializedSize c s.hdr.lgK s.hdr.tgt

/-- … holds for every updatable image whose HLL_4 aux table still has its initial size.  What is missing from
`size_le_max_full`: HLL_4 images whose exception table has grown (hll.hpp documents exactly this exception: "for the
HLL_4 sketch type, this value can be exceeded in extremely rare cases"). -/
theorem size_le_max_partial (c : Consts) (hL : c.lgInitListSize ≤ 3) (s : Img) (hw : s.WF c)
    (hu : s.hdr.compact c = false) (hg : auxNotGrown c s) :
    serializedSize c s ≤ maxSerializedSize c s.hdr.lgK s.hdr.tgt := by
  cases s with
  | list s =>
    simp only [Img.hdr] at hu ⊢
    have h8 : 2 ^ c.lgInitListSize ≤ 2 ^ 3 := Nat.pow_le_pow_right (by decide) hL
    have hmax : 40 ≤ maxSerializedSize c s.h.lgK s.h.tgt := by
      rw [maxSerializedSize, Nat.add_assoc]; exact Nat.le_add_right _ _
    rw [serializedSize, listSize, listLen, if_neg (Bool.eq_false_iff.1 hu)]
    exact Nat.le_trans (Nat.add_le_add_left (Nat.mul_le_mul_left 4 h8) 8) hmax
  | set s =>
    simp only [Img.hdr] at hu ⊢
    obtain ⟨⟨_, _, _, hk, _⟩, _, hlo, hhi, _⟩ := hw
    -- 4·2^lg_arr = 2^(lg_arr+2) ≤ 2^(lg_k-1) ≤ the smallest register array
    have hp : 2 ^ s.h.lgArr * 2 ^ 2 ≤ 2 ^ (s.h.lgK - 1) := by
      rw [← Nat.pow_add]; exact Nat.pow_le_pow_right (by decide) (Nat.le_sub_of_add_le hhi)
    have hge := arrBytes_ge s.h.tgt s.h.lgK (Nat.lt_of_le_of_lt (Nat.zero_le 7) hk)
    rw [serializedSize, setSize, setLen, if_neg (Bool.eq_false_iff.1 hu), setLgArr, if_neg (Nat.not_lt.2 hlo), Nat.mul_comm]
    exact Nat.le_trans (Nat.add_le_add (by decide) (Nat.le_trans hp hge)) (Nat.le_add_right _ _)
  | hll s =>
    simp only [Img.hdr] at hu ⊢
    have hp : 2 ^ lgAuxOf c s.h s.auxCount ≤ 2 ^ lgAuxDefault c s.h.lgK := Nat.pow_le_pow_right (by decide) hg
    rw [serializedSize, hllSize, maxSerializedSize, auxLen]
    apply Nat.add_le_add_left
    by_cases h0 : s.h.tgt = 0
    · rw [if_pos h0, if_pos h0, if_neg (Bool.eq_false_iff.1 hu)]; exact Nat.mul_le_mul_left 4 hp
    · rw [if_neg h0]; exact Nat.zero_le _

/-- The documented table-order freedom, set mode: two set images that differ only in the ORDER of the stored coupon
slots (what deserialize + re-serialize of a compact set image may change, `permRange`) report the same API content. -/
theorem project_set_perm (c : Consts) (s : SetImg) (slots' : List Nat) (hp : slots'.Perm s.slots) :
    project c (.set { s with slots := slots' }) = project c (.set s) := by
  simp only [project, SetImg.nonzero]
  rw [couponsStr_perm (hp.filter _)]

/-- … and HLL_4: permuting the aux table (compact: the pairs; updatable: the slots of the open-addressing table) does
not change the reported registers, provided no register slot has two entries (which `AuxHashMap::mustAdd` enforces). -/
theorem project_hll_aux_perm (c : Consts) (s : HllImg) (aux' : List Nat) (hp : aux'.Perm s.aux)
    (hu : ∀ i, ∀ a ∈ s.aux, ∀ b ∈ s.aux,
      (a != 0 && (a % 2 ^ c.keyBits) % 2 ^ s.h.lgK == i) = true → (b != 0 && (b % 2 ^ c.keyBits) % 2 ^ s.h.lgK == i) = true → a = b) :
    project c (.hll { s with aux := aux' }) = project c (.hll s) := by
  have hf : ∀ i, auxFind c.keyBits s.h.lgK aux' i = auxFind c.keyBits s.h.lgK s.aux i := by
    intro i
    unfold auxFind
    rw [find?_perm_of_unique _ hp.symm (hu i)]
  have hr : ∀ i, regAt c { s with aux := aux' } i = regAt c s i := by
    intro i
    simp only [regAt, reg4, reg6, reg8, hf]
  have hm : (List.range (2 ^ s.h.lgK)).map (regAt c { s with aux := aux' }) = (List.range (2 ^ s.h.lgK)).map (regAt c s) :=
    List.map_congr_left (fun i _ => hr i)
  simp only [project, regsStr]
  rw [hm]

/-! ### non-vacuity: concrete well-formed images of every kind (constants of the current headers) -/

/-- compact list image, 3 coupons, lg_k 10, HLL_6 -/
def exList : Img := .list {
  h := { lgK := 10, lgArr := 3, flags := 8, b6 := 3, mode := 4 },
  coupons := [0x04000123, 0x08000456, 0x1c03ffff] }
/-- empty updatable list image (8 zero slots, empty flag) -/
def exListEmptyUpd : Img := .list {
  h := { lgK := 12, lgArr := 3, flags := 4, b6 := 0, mode := 8 },
  coupons := List.replicate 8 0 }
/-- updatable set image: raw 32-slot table with 4 coupons, lg_k 8, HLL_4 -/
def exSet : Img := .set {
  h := { lgK := 8, lgArr := 5, flags := 0, b6 := 0, mode := 1 }, count := 4,
  slots := [0, 0x04000021, 0, 0, 0x08000004, 0, 0, 0, 0, 0x0c000109, 0, 0, 0, 0, 0, 0,
            0, 0, 0, 0, 0, 0, 0, 0, 0, 0, 0, 0, 0, 0, 0x040000fe, 0] }
/-- compact HLL_4 image, lg_k 4, cur_min 1, two exceptions (slots 3 and 12), out-of-order -/
def exHll4 : Img := .hll {
  h := { lgK := 4, lgArr := 2, flags := 24, b6 := 1, mode := 2 },
  hip := 0x4041800000000000, kxq0 := 0x4010000000000000, kxq1 := 0x3df0000000000000, numAtCurMin := 2, auxCount := 2,
  regs := [0x10, 0xf2, 0x33, 0x01, 0x45, 0x22, 0x1f, 0x21], aux := [0x44000003, 0x5000000c] }
/-- updatable HLL_4 image without exceptions: 16 zero bytes of reserved aux area -/
def exHll4Upd : Img := .hll {
  h := { lgK := 4, lgArr := 0, flags := 0, b6 := 0, mode := 2 },
  hip := 0x4008000000000000, kxq0 := 0x402b000000000000, kxq1 := 0, numAtCurMin := 13, auxCount := 0,
  regs := [0x10, 0x02, 0x00, 0x00, 0x05, 0x00, 0x00, 0x00], aux := List.replicate 4 0 }
/-- updatable HLL_4 image whose aux table has grown to 8 slots (4 exceptions): larger than the published maximum -/
def exHll4Grown : Img := .hll {
  h := { lgK := 4, lgArr := 3, flags := 0, b6 := 0, mode := 2 },
  hip := 0x4010000000000000, kxq0 := 0x4028000000000000, kxq1 := 0, numAtCurMin := 12, auxCount := 4,
  regs := [0x0f, 0xf0, 0x00, 0x00, 0x0f, 0x00, 0xf0, 0x00],
  aux := [0x40000000, 0, 0, 0x44000003, 0x4c000008, 0x4800000d, 0, 0] }
/-- updatable HLL_6 image, lg_k 4 (13 register bytes), start_full_size flag -/
def exHll6 : Img := .hll {
  h := { lgK := 4, lgArr := 0, flags := 32, b6 := 0, mode := 6 },
  hip := 0x3ff0000000000000, kxq0 := 0x402f000000000000, kxq1 := 0, numAtCurMin := 15, auxCount := 0,
  regs := [0x01, 0, 0, 0, 0, 0, 0, 0, 0, 0, 0, 0, 0], aux := [] }
/-- compact HLL_8 image, lg_k 5 -/
def exHll8 : Img := .hll {
  h := { lgK := 5, lgArr := 0, flags := 8, b6 := 0, mode := 10 },
  hip := 0x4000000000000000, kxq0 := 0x403e800000000000, kxq1 := 0, numAtCurMin := 30, auxCount := 0,
  regs := [1, 0, 0, 0, 0, 0, 0, 0, 0, 0, 0, 0, 0, 0, 0, 0, 0, 0, 0, 0, 0, 0, 0, 0, 0, 0, 0, 0, 0, 0, 0, 2], aux := [] }

example : genConsts.ok = true := by decide
example : exList.WF genConsts ∧ exListEmptyUpd.WF genConsts ∧ exSet.WF genConsts ∧ exHll4.WF genConsts ∧
    exHll4Upd.WF genConsts ∧ exHll4Grown.WF genConsts ∧ exHll6.WF genConsts ∧ exHll8.WF genConsts := by decide
example : decode genConsts (encode genConsts exHll4 ++ [0xAA]) = some (exHll4, [0xAA]) :=
  decode_encode genConsts (by decide) exHll4 (by decide) _
example : (encode genConsts exSet).length = 140 ∧ (encode genConsts exHll4Upd).length = 64 := by
  rw [size_eq _ _ (by decide), size_eq _ _ (by decide)]; decide
example : genConsts.lgInitListSize ≤ 3 ∧ exSet.hdr.compact genConsts = false ∧ auxNotGrown genConsts exSet ∧
    exHll4Upd.hdr.compact genConsts = false ∧ auxNotGrown genConsts exHll4Upd := by decide

/-- a compact set image of three coupons; the example under it reverses its table: same API content -/
def exSetImg : SetImg := { h := { lgK := 8, lgArr := 5, flags := 8, b6 := 0, mode := 1 }, count := 3,
                           slots := [0x04000021, 0x08000004, 0x0c000109] }
example : project genConsts (.set { exSetImg with slots := exSetImg.slots.reverse }) = project genConsts (.set exSetImg) :=
  project_set_perm genConsts exSetImg _ (List.reverse_perm _)

/-- The full bound is false for the current layout: an updatable HLL_4 image (lg_k 4) with 4 exceptions has 80 bytes,
the published maximum is 64 (documented exception; the harness replays such a state on the real sketch). -/
theorem size_le_max_full_false : ¬ size_le_max_full genConsts := by
  intro h
  have := h exHll4Grown (by decide) (by decide)
  revert this
  decide

end DS.Wire.Hll
