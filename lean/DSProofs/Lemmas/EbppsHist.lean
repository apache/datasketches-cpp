/- Merge trees (C18): what a history says about n, cumulative weight, k, maximum weight; the repaired merge keeps every
sketch well-formed, so all invariants hold for every history. -/
import DSProofs.Lemmas.EbppsMerge
namespace DS.Ebpps

variable {P : Nat → Prop}

def Hist.cnt : Hist Rat → Nat
  | .fresh _ => 0
  | .upd h _ => h.cnt + 1
  | .merge a b _ => a.cnt + b.cnt
  | .reset _ => 0
  | .serde h => h.cnt

def Hist.wt : Hist Rat → Rat
  | .fresh _ => 0
  | .upd h u => h.wt + u.w
  | .merge a b _ => a.wt + b.wt
  | .reset _ => 0
  | .serde h => h.wt

def Hist.wmax : Hist Rat → Rat
  | .fresh _ => 0
  | .upd h u => max h.wmax u.w
  | .merge a b _ => max a.wmax b.wmax
  | .reset _ => 0
  | .serde h => h.wmax

def Hist.kmin : Hist Rat → Nat
  | .fresh k => k
  | .upd h _ => h.kmin
  | .merge a b _ => min a.kmin b.kmin
  | .reset h => h.kmin
  | .serde h => h.kmin

/-- every item ever offered, resets notwithstanding -/
def Hist.items : Hist Rat → List Nat
  | .fresh _ => []
  | .upd h u => u.item :: h.items
  | .merge a b _ => a.items ++ b.items
  | .reset h => h.items
  | .serde h => h.items

def Hist.OK (v : Variant) : Hist Rat → Prop
  | .fresh k => 1 ≤ k
  | .upd h u => h.OK v ∧ 0 < u.w ∧ UnitOK v.geDraw u.d
  | .merge a b d => a.OK v ∧ b.OK v ∧ UnitOK v.geDraw d
  | .reset h => h.OK v
  | .serde h => h.OK v

theorem serde_live {s : Sketch Rat} (hs : SInv P s.sample) (hn : 1 ≤ s.n) : serde s = some s := by
  obtain ⟨hc, hl, hp, -, -⟩ := hs
  have hn0 : (s.n == 0) = false := by simp; omega
  have hneg : Num.lt s.sample.c (zero : Rat) = false := by simp [hc]
  have hnFull : Num.toNat (Num.floor s.sample.c) = s.sample.data.length := by
    simp only [rat_toNat, rat_floor, Rat.floor_intCast]; omega
  -- the partial item is expected iff `c` is not integral, which is when it is there
  have hhas : (!Num.eq (frac s.sample.c) (zero : Rat)) = s.sample.part.isSome := by
    rw [Bool.eq_iff_iff, hp]
    simp only [rat_frac, rat_eq, rat_zero, Bool.not_eq_true', decide_eq_false_iff_not, sub_eq_zero]
    exact ⟨fun h => lt_of_le_of_ne (Rat.floor_le _) (Ne.symm h), fun h => (ne_of_lt h).symm⟩
  have htake : (s.sample.data ++ s.sample.part.toList).take s.sample.data.length = s.sample.data := List.take_left' rfl
  have hget : (s.sample.data ++ s.sample.part.toList)[s.sample.data.length]? = s.sample.part := by
    cases s.sample.part <;> simp
  have hlen : ¬ (s.sample.data ++ s.sample.part.toList).length < s.sample.data.length + (if s.sample.part.isSome then 1 else 0) := by
    cases s.sample.part <;> simp
  have hif : (if s.sample.part.isSome then s.sample.part else none) = s.sample.part := by
    cases s.sample.part <;> rfl
  unfold serde
  simp only [hn0, hneg, hnFull, hhas, htake, hget, hlen, hif, bne_self_eq_false, Bool.false_eq_true, if_false]

/-- what a well-formed state and its history agree on -/
structure Agrees (P : Nat → Prop) (s : Sketch Rat) (n : Nat) (W M : Rat) (k : Nat) : Prop where
  wf : WF P s
  n : s.n = n
  w : s.cumWt = W
  m : s.wtMax = M
  k : s.k = k

variable {v : Variant} {s : Sketch Rat} {n k : Nat} {W M : Rat}

theorem Agrees.mono {Q : Nat → Prop} (hPQ : ∀ x, P x → Q x) (a : Agrees P s n W M k) : Agrees Q s n W M k :=
  ⟨a.wf.mono hPQ, a.n, a.w, a.m, a.k⟩

theorem Agrees.update {u : Upd Rat} (a : Agrees P s n W M k) (hw : 0 < u.w) (hP : P u.item) (hd : UnitOK v.geDraw u.d) :
    Agrees P (updateOr v s u) (n + 1) (W + u.w) (max M u.w) k := by
  obtain ⟨wf, rfl, rfl, rfl, rfl⟩ := a
  obtain ⟨h1, -, h3, h4, h5, h6⟩ := updateOr_wf (v := v) wf hw hP hd
  exact ⟨h1, h3, h4, h5, h6⟩

theorem shrinkToK_agrees {k0 : Nat} {d : Draws Rat} (hs : WF P s) (hk0 : 1 ≤ k0) (hd : UnitOK v.geDraw d) :
    Agrees P (shrinkToK v s k0 d).1 s.n s.cumWt s.wtMax (min s.k k0) := by
  cases hs with
  | fresh hk hw hn hm hc hs =>
    rw [show shrinkToK v s k0 d = ({ s with k := min s.k k0 }, d) by
      unfold shrinkToK; simp only [show (Num.lt (zero : Rat) s.cumWt) = false by simp [hw]]; rfl]
    exact ⟨WF.fresh (le_min hk hk0) hw hn hm hc hs, rfl, rfl, rfl, rfl⟩
  | live hk hcore hmw hn =>
    have hkm : 1 ≤ min s.k k0 := le_min hk hk0
    obtain ⟨d1, d2, -⟩ := hcore.rerate (ge := v.geDraw) (d := d)
      (lt_min (div_pos one_pos hcore.mpos) (div_pos (by exact_mod_cast hkm) hcore.wpos))
      (hcore.newRho_le (min_le_left s.k k0) le_rfl le_rfl) hd
    unfold shrinkToK
    simp only [show (Num.lt (zero : Rat) s.cumWt) = true by simp [hcore.wpos], if_true, rat_newRho]
    exact ⟨WF.live hkm ⟨d1, hcore.wpos, hcore.mpos, hkm, rfl, d2⟩ hmw hn, rfl, rfl, rfl, rfl⟩

theorem mergeSk_agrees (hv1 : v.mergeSetsWtMax = true) (hv2 : v.mergeEmptyShrinks = true)
    {a b : Sketch Rat} {d : Draws Rat} {na nb ka kb : Nat} {Wa Wb Ma Mb : Rat}
    (ha : Agrees P a na Wa Ma ka) (hb : Agrees P b nb Wb Mb kb) (hd : UnitOK v.geDraw d) :
    Agrees P (mergeSk v a b d).1 (na + nb) (Wa + Wb) (max Ma Mb) (min ka kb) := by
  obtain ⟨ha, rfl, rfl, rfl, rfl⟩ := ha
  obtain ⟨hb, rfl, rfl, rfl, rfl⟩ := hb
  rcases hb.fresh_or_live with ⟨bw, bn, bm, -⟩ | ⟨bc, bmw, bn⟩
  · -- b is empty: only k can change
    rw [show mergeSk v a b d = shrinkToK v a b.k d by
      unfold mergeSk; simp only [show Num.eq b.cumWt (zero : Rat) = true by simp [bw], hv2, if_true],
      bn, bw, bm, Nat.add_zero, add_zero, max_eq_left ha.max_nonneg]
    exact shrinkToK_agrees ha hb.kpos hd
  · have e0 : Num.eq b.cumWt (zero : Rat) = false := by simp [ne_of_gt bc.wpos]
    rcases ha.fresh_or_live with ⟨aw, an, am, -⟩ | ⟨ac, amw, an⟩
    · -- a is empty: the result is b with k lowered
      rw [show mergeSk v a b d = shrinkToK v b a.k d by
        unfold mergeSk
        simp only [e0, show Num.lt a.cumWt b.cumWt = true by simp [aw, bc.wpos], show Num.eq a.cumWt (zero : Rat) = true by simp [aw],
          hv2, Bool.and_self, if_true]
        rfl, an, aw, am, Nat.zero_add, zero_add, max_eq_right hb.max_nonneg, min_comm]
      exact shrinkToK_agrees hb ha.kpos hd
    · obtain ⟨m1, m2, m3, m4, m5, -⟩ := mergeSk_live (v := v) (d := d) ac bc hd
      have m5' := m5 hv1
      refine ⟨WF.live (by rw [m4]; exact le_min ha.kpos hb.kpos) (by rw [m5', m4]; exact m1) ?_ (by rw [m3]; omega), m3, m2, m5', m4⟩
      rw [m5', m2]
      exact max_le (by linarith [bc.wpos]) (by linarith [ac.wpos])

theorem Agrees.serde (a : Agrees P s n W M k) : ∃ s', serde s = some s' ∧ Agrees P s' n W M k := by
  obtain ⟨wf, rfl, rfl, rfl, rfl⟩ := a
  cases wf with
  | fresh hk hw hn hm hc hs =>
    exact ⟨Sketch.fresh s.k, by unfold DS.Ebpps.serde; simp [hn], wf_fresh hk, by simp [Sketch.fresh, hn], by simp [Sketch.fresh, hw],
      by simp [Sketch.fresh, hm], rfl⟩
  | live hk hcore hmw hn => exact ⟨s, serde_live hcore.sinv hn, WF.live hk hcore hmw hn, rfl, rfl, rfl, rfl⟩

theorem hist_agrees (hv1 : v.mergeSetsWtMax = true) (hv2 : v.mergeEmptyShrinks = true) :
    ∀ h : Hist Rat, h.OK v → Agrees (· ∈ h.items) (h.eval v) h.cnt h.wt h.wmax h.kmin
  | .fresh _ => fun hk => ⟨wf_fresh hk, rfl, rat_zero, rat_zero, rfl⟩
  | .upd h u => fun ⟨h1, hw, hd⟩ =>
    ((hist_agrees hv1 hv2 h h1).mono fun _ hx => List.mem_cons_of_mem _ hx).update hw List.mem_cons_self hd
  | .merge x y _ => fun ⟨hx, hy, hd⟩ =>
    mergeSk_agrees hv1 hv2 ((hist_agrees hv1 hv2 x hx).mono fun _ hz => List.mem_append_left _ hz)
      ((hist_agrees hv1 hv2 y hy).mono fun _ hz => List.mem_append_right _ hz) hd
  | .reset h => fun hok =>
    ⟨wf_fresh (hist_agrees hv1 hv2 h hok).wf.kpos, rfl, rat_zero, rat_zero, (hist_agrees hv1 hv2 h hok).k⟩
  | .serde h => fun hok => by
    obtain ⟨s', e, g⟩ := (hist_agrees hv1 hv2 h hok).serde
    simp only [Hist.eval, e]
    exact g

end DS.Ebpps
