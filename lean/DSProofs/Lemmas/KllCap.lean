/- Capacities of the KLL model, and the pigeonhole behind `find_level_to_compact`. -/
import DSProofs.Lemmas.KllBasic
namespace DS.Kll
open DS

variable {α : Type}

/-- side conditions on the constants taken from the headers (decidable; discharged for `genParams` by `gen_params_ok`, KllReach) -/
structure ParamsOk (P : Params) : Prop where
  m_ge : 2 ≤ P.m
  minK_ge : P.m ≤ P.minK
  pow3_zero : P.pow3.getD 0 1 = 1

theorem capAtDepth_ge (P : Params) (k d : Nat) : P.m ≤ capAtDepth P k d := Nat.le_max_left _ _

theorem levelCapacity_ge (P : Params) (k N h : Nat) : P.m ≤ levelCapacity P k N h := capAtDepth_ge P k _

/-- total capacity indexed by depth -/
def totalCapD (P : Params) (k : Nat) : Nat → Nat
  | 0 => 0
  | L + 1 => totalCapD P k L + capAtDepth P k L

theorem sumCaps_add_totalCapD (P : Params) (k N : Nat) : ∀ h, h ≤ N → sumCaps P k N h + totalCapD P k (N - h) = totalCapD P k N
  | 0, _ => by simp [sumCaps]
  | h + 1, hh => by
    have ih := sumCaps_add_totalCapD P k N h (Nat.le_of_succ_le hh)
    rw [show N - h = (N - (h + 1)) + 1 from (Nat.succ_pred_eq_of_pos (Nat.sub_pos_of_lt hh)).symm, totalCapD] at ih
    simp only [sumCaps, levelCapacity]
    rw [Nat.sub_sub, ← ih, Nat.add_assoc, Nat.add_comm (capAtDepth P k (N - (h + 1)))]

theorem computeTotalCapacity_eq (P : Params) (k N : Nat) : computeTotalCapacity P k N = totalCapD P k N := by
  have := sumCaps_add_totalCapD P k N N (Nat.le_refl _)
  simpa [computeTotalCapacity, totalCapD] using this

theorem levelCapacity_eq (P : Params) (k N h : Nat) : levelCapacity P k N h = capAtDepth P k (N - h - 1) := rfl

theorem computeTotalCapacity_succ (P : Params) (k N : Nat) :
    computeTotalCapacity P k (N + 1) = computeTotalCapacity P k N + levelCapacity P k (N + 1) 0 := by
  rw [computeTotalCapacity_eq, computeTotalCapacity_eq, totalCapD, levelCapacity_eq]
  simp

theorem intCapAux_zero (P : Params) (ok : ParamsOk P) (k : Nat) : intCapAux P k 0 = k := by
  simp only [intCapAux, Nat.zero_le, if_true, intCapAuxAux, ok.pow3_zero, Nat.pow_zero, Nat.mul_one, Nat.div_one]
  omega

theorem computeTotalCapacity_one (P : Params) (ok : ParamsOk P) (k : Nat) (hk : P.m ≤ k) :
    computeTotalCapacity P k 1 = k := by
  rw [computeTotalCapacity_eq]
  simp only [totalCapD, capAtDepth, intCapAux_zero P ok]
  omega

theorem totalCapD_mono (P : Params) (k : Nat) : ∀ a b, a ≤ b → totalCapD P k a ≤ totalCapD P k b := by
  intro a b h
  induction h with
  | refl => exact Nat.le_refl _
  | step _ ih => exact Nat.le_trans ih (Nat.le_add_right _ _)

theorem findLevel_ge (P : Params) (k N : Nat) (L : List (List α)) (lvl : Nat) : lvl ≤ findLevel P k N L lvl := by
  fun_induction findLevel P k N L lvl <;> omega

theorem findLevel_le (P : Params) (k N : Nat) (L : List (List α)) (lvl : Nat) : findLevel P k N L lvl ≤ lvl + L.length := by
  fun_induction findLevel P k N L lvl <;> simp only [List.length_cons, List.length_nil] <;> omega

theorem findLevel_spec (P : Params) (k N : Nat) (L : List (List α)) (lvl : Nat)
    (h : findLevel P k N L lvl < lvl + L.length) :
    levelCapacity P k N (findLevel P k N L lvl) ≤ (L.getD (findLevel P k N L lvl - lvl) []).length := by
  fun_induction findLevel P k N L lvl with
  | case1 lvl => exact absurd h (Nat.lt_irrefl _)
  | case2 l t lvl hc => rw [Nat.sub_self]; exact hc
  | case3 l t lvl hc ih =>
    have hge := findLevel_ge P k N t (lvl + 1)
    rw [show findLevel P k N t (lvl + 1) - lvl = (findLevel P k N t (lvl + 1) - (lvl + 1)) + 1 by omega, List.getD_cons_succ]
    exact ih (by rw [List.length_cons] at h; omega)

/-- pigeonhole: if no level is at capacity, the levels from `lvl` on hold less than their capacities add up to -/
theorem findLevel_none (P : Params) (k N : Nat) (L : List (List α)) (lvl : Nat)
    (h : findLevel P k N L lvl = lvl + L.length) (hne : L ≠ []) :
    sumCaps P k N lvl + sizeSum L < sumCaps P k N (lvl + L.length) := by
  fun_induction findLevel P k N L lvl with
  | case1 lvl => exact absurd rfl hne
  | case2 l t lvl hc => rw [List.length_cons] at h; omega
  | case3 l t lvl hc ih =>
    rw [List.length_cons, ← Nat.add_assoc, Nat.add_right_comm] at h ⊢
    cases t with
    | nil => simp only [sizeSum, List.length_nil, Nat.add_zero, sumCaps]; omega
    | cons l2 t2 =>
      have := ih h (List.cons_ne_nil _ _)
      simp only [sizeSum, sumCaps] at this ⊢; omega
end DS.Kll
