/-
Soundness of the symbolic evaluation of unpack routines (`unpack_sound`), with the operand under C integer promotion
(`uoperand_eq`); a pack routine followed by the unpack routine of the same width (`unpack_pack_roundtrip`).
-/
import DSProofs.Lemmas.BitPackSoundPack
namespace DS.Wire.BitPack

theorem xbit_sound (mem : List Nat) (j pre mask t : Nat) (hbyte : mem.getD j 0 < 2 ^ 8) :
    Interp (srcVals mem) (xbit j pre mask t) ((((mem.getD j 0) >>> pre) &&& mask).testBit t) := by
  have hv := vbit_sound mem 8 j (t + pre) hbyte
  rw [Nat.testBit_and, Nat.testBit_shiftRight, Nat.add_comm, xbit]
  rw [vbit] at hv
  cases mask.testBit t
  · rw [if_neg (mt And.right Bool.false_ne_true), Bool.and_false]; rfl
  · rw [Bool.and_true]
    by_cases h : t + pre < 8
    · rw [if_pos ⟨h, rfl⟩]; rwa [if_pos h] at hv
    · rw [if_neg (mt And.left h)]; rwa [if_neg h] at hv

theorem xval_lt (byte pre mask : Nat) (hb : byte < 2 ^ 8) : (byte >>> pre) &&& mask < 2 ^ 8 :=
  Nat.lt_of_le_of_lt (Nat.le_trans Nat.and_le_left (Nat.shiftRight_le _ _)) hb

/-- an operand byte that is symbolically zero from bit `31 - k` on stays below the sign bit of `int` when shifted by `k` -/
theorem shl_lt_of_xbit (mem : List Nat) (j pre mask k : Nat) (hbyte : mem.getD j 0 < 2 ^ 8)
    (hall : ∀ t, t < 8 → xbit j pre mask t = .zero ∨ t + k < 31) : (mem.getD j 0 >>> pre &&& mask) <<< k < 2 ^ 31 := by
  apply Nat.lt_pow_two_of_testBit
  intro i hi
  rw [Nat.testBit_shiftLeft]
  by_cases hik : k ≤ i
  · rw [decide_eq_true hik, Bool.true_and]
    by_cases ht : i - k < 8
    · have := xbit_sound mem j pre mask (i - k) hbyte
      rwa [(hall _ ht).resolve_right (by omega)] at this
    · exact Nat.testBit_lt_two_pow (Nat.lt_of_lt_of_le (xval_lt _ pre mask hbyte) (Nat.pow_le_pow_right (by decide) (by omega)))
  · rw [decide_eq_false hik, Bool.false_and]

theorem uoperand_eq (mem : List Nat) (j : Nat) (st : UStmt) (hbyte : mem.getD j 0 < 2 ^ 8) (hok : ushOk j st = true) :
    uoperand (mem.getD j 0) st = some (shNat st.sh (mem.getD j 0 >>> st.pre &&& st.mask) % 2 ^ 64) := by
  simp only [ushOk, Bool.and_eq_true, decide_eq_true_eq] at hok
  obtain ⟨hpre, hsh⟩ := hok
  have small : ∀ y, y ≤ mem.getD j 0 >>> st.pre &&& st.mask → y % 2 ^ 64 = y := fun y hy =>
    Nat.mod_eq_of_lt (Nat.lt_of_le_of_lt hy (Nat.lt_trans (xval_lt _ st.pre st.mask hbyte) (by decide)))
  unfold uoperand
  simp only [hpre, ↓reduceIte]
  cases hs : st.sh with
  | none => simp only [shNat, small _ (Nat.le_refl _)]
  | shr k =>
    rw [hs] at hsh
    simp only [shNat, if_pos (of_decide_eq_true hsh), small _ (Nat.shiftRight_le _ _)]
  | shl k =>
    rw [hs] at hsh
    simp only [shNat] at hsh ⊢
    by_cases hc : st.cast = true
    · rw [if_pos hc] at hsh ⊢; rw [if_pos (of_decide_eq_true hsh)]
    · rw [if_neg hc] at hsh ⊢
      simp only [Bool.and_eq_true, decide_eq_true_eq, List.all_eq_true, List.mem_range, Bool.or_eq_true, beq_iff_eq] at hsh
      have h31 := shl_lt_of_xbit mem j st.pre st.mask k hbyte hsh.2
      rw [if_pos ⟨hsh.1, h31⟩, Nat.mod_eq_of_lt (Nat.lt_trans h31 (by decide))]

theorem ustep_sound (mem : List Nat) (hmem : ∀ j, mem.getD j 0 < 2 ^ 8) {s s' : SUState} {c : UState} (st : UStmt)
    (hptr : s.ptr = c.ptr) (hrel : MemRel (srcVals mem) 64 s.vals c.vals) (h : sustep mem.length s st = some s') :
    ∃ c', ustep mem c st = some c' ∧ s'.ptr = c'.ptr ∧ MemRel (srcVals mem) 64 s'.vals c'.vals := by
  unfold sustep at h
  split at h
  · rename_i hcond
    obtain ⟨hp, hvi, hok⟩ := hcond
    cases h
    rw [hrel.len] at hvi
    rw [ustep, ← hptr, if_pos ⟨hp, hvi⟩, uoperand_eq mem _ st (hmem _) hok]
    exact ⟨_, rfl, rfl, hrel.update hvi _ (unpackSBit_eq s.ptr st ▸ wordRel_sh 64 st.sh fun p => xbit_sound mem _ _ _ p (hmem _))⟩
  · cases h

theorem urun_sound (mem : List Nat) (hmem : ∀ j, mem.getD j 0 < 2 ^ 8) (stmts : List UStmt) {s s' : SUState} {c : UState}
    (hptr : s.ptr = c.ptr) (hrel : MemRel (srcVals mem) 64 s.vals c.vals) (h : surun mem.length stmts s = some s') :
    ∃ c', urun mem stmts c = some c' ∧ MemRel (srcVals mem) 64 s'.vals c'.vals := by
  induction stmts generalizing s c with
  | nil => cases h; exact ⟨c, rfl, hrel⟩
  | cons st t ih =>
    rw [surun] at h
    cases h1 : sustep mem.length s st with
    | none => rw [h1] at h; cases h
    | some s1 =>
      obtain ⟨c1, hc1, hp1, hr1⟩ := ustep_sound mem hmem st hptr hrel h1
      rw [h1] at h
      rw [urun, hc1]
      exact ih hp1 hr1 h

theorem unpack_sound (n : Nat) (hn : n ≤ 64) (stmts : List UStmt) (h : symUnpack n stmts = some (specUnpackLayout n))
    (mem : List Nat) (hm : mem.length = n) (hb : ∀ x ∈ mem, x < 256)
    (vals0 : List Nat) (h0 : vals0.length = 8) (hv0 : ∀ v ∈ vals0, v < 2 ^ 64) :
    evalUnpack stmts mem vals0 = some (splitFields n 8 (joinFields 8 mem)) := by
  obtain ⟨s', hs, hs'⟩ := Option.map_eq_some_iff.1 h
  obtain ⟨c', hc', hrel⟩ := urun_sound mem (getD_lt_of_mem (Nat.two_pow_pos 8) hb) stmts (c := ⟨0, vals0⟩) rfl
    (memRel_init _ 64 h0 hv0 (.inl rfl)) (hm ▸ hs)
  rw [hs'] at hrel
  rw [evalUnpack, hc']
  exact congrArg some (regroup_of_memRel (Nat.mul_comm 8 n) hn mem hm hb _ hrel)

/-- bytes of a pack routine, then the unpack routine of the same width, give the values back.  Stated for its own sake:
the round trip of the wire format (`Theta.decode_encode_v4`) goes through `unpackFields_packFields`. -/
theorem unpack_pack_roundtrip (n : Nat) (hn : n ≤ 64) (pk : List PStmt) (up : List UStmt) (init : SBit)
    (hp : symPackInit init n pk = some (specPackLayout n)) (hu : symUnpack n up = some (specUnpackLayout n))
    (vals : List Nat) (hlen : vals.length = 8) (hv : ∀ v ∈ vals, v < 2 ^ n)
    (mem0 : List Nat) (hm : mem0.length = n) (hb : ∀ x ∈ mem0, x < 256)
    (hinit : init = .bad ∨ (init = .zero ∧ ∀ x ∈ mem0, x = 0))
    (vals0 : List Nat) (h0 : vals0.length = 8) (hv0 : ∀ v ∈ vals0, v < 2 ^ 64) :
    (evalPack pk vals mem0).bind (fun bytes => evalUnpack up bytes vals0) = some vals := by
  rw [pack_sound n pk init hp vals hlen hv mem0 hm hb hinit, Option.bind_some,
    unpack_sound n hn up hu _ (length_splitFields 8 n _) (splitFields_lt 8 n _) vals0 h0 hv0,
    regroup_roundtrip (Nat.mul_comm n 8) vals hlen hv]

end DS.Wire.BitPack
