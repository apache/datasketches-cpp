/-
C09 (t-digest part) — serialization round trip of the t-digest image: empty, single value, general
(with and without buffered values), for double (`tsz` = `wsz` = 8) and float (4, 4) — the theorems hold
for every value/weight width.

ONLY property theorems and non-vacuity examples (helper lemmas: Lemmas/WireMisc*.lean).
Model: DSModel/Wire/TDigest.lean.  `c : Consts` are the wire constants; statements hold for every `c`
with the decidable side conditions `c.Valid`, in particular for the values generated from the current
headers (`genConsts_valid`).
-/
import DSProofs.Lemmas.WireMiscTDigest
import DSModel.Wire.TDigestGen
namespace DS.Wire.TDigest
open DS.Wire

/-- the constants extracted from the current headers satisfy the side conditions of the theorems below -/
theorem genConsts_valid : genConsts.Valid := by decide

/-- decoding an encoded well-formed image gives back the image (k, reverse-merge flag, empty / single
value / min, max, centroids, buffer) and leaves exactly the bytes that followed it -/
theorem decode_encode (c : Consts) (hc : c.Valid) (tsz wsz : Nat) (s : Img) (hs : WF tsz wsz s) (tail : Bytes) :
    decode c tsz wsz (encode c tsz wsz s ++ tail) = some (s, tail) := by
  rw [decode_header c hc tsz wsz s hs.1, decodeBody_enc tsz wsz _ _ _ hs.2]

/-- the image has exactly the advertised size (`get_serialized_size_bytes(with_buffer)`): 8 (empty),
8 + sizeof(T) (single value), else 16 + 2·sizeof(T) + n_centroids·sizeof(centroid) + n_buffered·sizeof(T) -/
theorem size_eq (c : Consts) (tsz wsz : Nat) (s : Img) :
    (encode c tsz wsz s).length = serializedSize tsz wsz s := by
  have h8 : (encode c tsz wsz s).length = 8 + (encodeBody tsz wsz s.body).length := by
    simp +arith only [encode, List.length_append, length_w8, length_w16, length_wZeros]
  obtain ⟨k, rev, body⟩ := s
  rw [h8]
  cases body with
  | empty => rfl
  | single v => simp only [serializedSize, encodeBody, length_wLe]
  | multi mn mx cents buf =>
    have h1 := length_flatMap_of_mem (encodeCent tsz wsz) (tsz + wsz) cents (fun p _ => length_encodeCent tsz wsz p)
    have h2 := length_flatMap_of_mem (wLe tsz) tsz buf (fun p _ => length_wLe tsz p)
    simp +arith only [serializedSize, encodeBody, List.length_append, length_w32, length_wLe, h1, h2]

/-- re-serialisation of a restored image is byte-identical -/
theorem encode_decode_encode (c : Consts) (hc : c.Valid) (tsz wsz : Nat) (s : Img) (hs : WF tsz wsz s) :
    (decode c tsz wsz (encode c tsz wsz s)).map (fun p => encode c tsz wsz p.1) = some (encode c tsz wsz s) := by
  have := decode_encode c hc tsz wsz s hs []
  simp only [List.append_nil] at this
  simp [this]

/-- double image: k = 100, reverse-merge set, 2 centroids (1.0, w 1) (2.0, w 3) and one buffered value 0.5 -/
def exMulti : Img :=
  { k := 100, reverse := true,
    body := .multi 0x3fe0000000000000 0x4000000000000000 [(0x3ff0000000000000, 1), (0x4000000000000000, 3)] [0x3fe0000000000000] }
def exSingleF : Img := { k := 10, reverse := false, body := .single 0x3f800000 }
def exEmpty : Img := { k := 200, reverse := false, body := .empty }

example : WF 8 8 exMulti ∧ WF 4 4 exSingleF ∧ WF 8 8 exEmpty := by decide
example : decode genConsts 8 8 (encode genConsts 8 8 exMulti ++ [1, 2]) = some (exMulti, [1, 2]) := by decide +kernel
example : (encode genConsts 8 8 exMulti).length = 72 ∧ (encode genConsts 4 4 exSingleF).length = 12 ∧
          (encode genConsts 8 8 exEmpty).length = 8 := by decide +kernel

end DS.Wire.TDigest
