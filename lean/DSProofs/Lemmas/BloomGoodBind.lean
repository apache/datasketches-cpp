/- Repaired model: `Good` under the operations that bind a view or add a block without writing through a view (new, raw block,
get_bits_used, copy). -/
import DSProofs.Lemmas.BloomGoodFrame
namespace DS.Bloom

variable {ι : Type} (P : Params) (hf : ι → Nat → Option (Nat × Nat))

theorem viewOK_owned_nil {X : Nat} {s : SInfo ι} {f : Filter} {i : VInfo ι} (hm : isMem f = false) (hS : s.S = []) (hM : i.M = [])
    (h : i.promised = true → KOK f ∧ (f.dirty = false → f.nbs = popCount X (f.off P) f.capBits)) : ViewOK P hf X s f i := by
  have nomem : ∀ {α : Prop}, isMem f = true → α := fun h' => by rw [hm] at h'; cases h'
  exact {
    up := fun _ => hM
    us := fun _ h' => nomem h'
    k1 := fun hp => (h hp).1
    hs := hM ▸ Hashed.nil
    cov := hM ▸ Covers.nil
    ne := fun h' => absurd hM h'
    ex := fun hp _ hd => (h hp).2 hd
    dh := fun _ _ h' => nomem h'
    sv := fun h' => nomem h'
    tm := fun _ _ => hM
    os := fun _ => ⟨hS ▸ Covers.nil, hS ▸ Hashed.nil, fun _ => hS⟩ }

theorem viewOK_mkOwned (nb nh seed : Nat) (hb : badSize P nb nh = false) (pr : Bool) (hle : pr = true → nb ≤ 2 ^ 32 - 64) :
    ViewOK P hf 0 (⟨[], 0, false⟩ : SInfo ι) (mkOwned nb nh seed) ⟨[], pr, 0⟩ :=
  viewOK_owned_nil P hf rfl rfl rfl fun hp =>
    ⟨⟨(not_badSize hb).1, Nat.lt_of_le_of_lt (roundUp64_le nb) (by have := hle hp; omega)⟩, fun _ => (popCount_zero _ _).symm⟩

theorem good_bind_owned (w : World) (p : PGhost ι) (hg : Good P hf w p) (v : Nat) (f : Filter) (b : Nat) (hr : f.ref = .owned b)
    (s : SInfo ι) (i : VInfo ι) (hfw : FWF f) (hok : ViewOK P hf b s f i) :
    Good P hf (w.setFilter v f) ((p.setS (.own v) s).setV v i) := by
  have hkey : keyOf v f = .own v := by simp [keyOf, hr]
  refine hg.setFilter v f i (setV_vi_same _ _ _) (fun u _ e _ => setV_vi_ne e) (fun k hk => by rw [setV_si, setS_si_ne hk]) hfw ?_ ?_
  · rw [hkey, keyVal_setFilter_own, hr, setV_si, setS_si_same]; exact hok
  · intro m hm; rw [hr] at hm; cases hm

theorem good_bind_mem (w : World) (p : PGhost ι) (hg : Good P hf w p) (v m : Nat) (b : Block) (hm : w.blocks m = some b)
    (f : Filter) (hr : f.ref = .mem m) (i : VInfo ι) (hfw : FWF f)
    (hok : ViewOK P hf b.val (p.si (.mem m)) f i)
    (hfull : Sees P b (p.si (.mem m)) f i) :
    Good P hf (w.setFilter v f) (p.setV v i) := by
  refine hg.setFilter v f i (setV_vi_same _ _ _) (fun u _ e _ => setV_vi_ne e) (fun _ _ => rfl) hfw ?_ ?_
  · rw [keyOf_of_mem hr, keyVal_setFilter_mem, setV_si]
    simp only [keyVal, World.blockVal, hm]; exact hok
  · intro m' hm'
    rw [hr] at hm'; cases hm'
    exact ⟨b, hm, hfull⟩

theorem viewOK_owned_si {X : Nat} {s s' : SInfo ι} {f : Filter} {i : VInfo ι} (hm : isMem f = false) (hS : s'.S = s.S)
    (h : ViewOK P hf X s f i) : ViewOK P hf X s' f i := by
  have hin : ∀ t : SInfo ι, insync t f i = true := by
    intro t; unfold insync; unfold isMem at hm; cases hr : f.ref <;> simp_all
  refine ⟨h.up, ?_, h.k1, h.hs, h.cov, h.ne, ?_, ?_, ?_, ?_, ?_⟩
  · intro _ hm'; rw [hm] at hm'; cases hm'
  · intro hp _ hd; exact h.ex hp (hin s) hd
  · intro _ _ hm'; rw [hm] at hm'; cases hm'
  · intro hm'; rw [hm] at hm'; cases hm'
  · intro hm'; rw [hm] at hm'; cases hm'
  · intro _; rw [hS]; exact h.os hm

/-- `get_bits_used` on the view itself -/
theorem viewOK_bits {X : Nat} {s : SInfo ι} {f : Filter} {i : VInfo ι} (hok : ViewOK P hf X s f i) (hw : FWF f) :
    ViewOK P hf X s { f with nbs := popCount X (f.off P) f.capBits, dirty := false } i := by
  have hin : insync s { f with nbs := popCount X (f.off P) f.capBits, dirty := false } i = insync s f i := rfl
  refine ⟨hok.up, hok.us, hok.k1, hok.hs, hok.cov, ?_, ?_, ?_, hok.sv, hok.tm, hok.os⟩
  · intro hM
    have : 0 < popCount X (f.off P) f.capBits :=
      popCount_pos_of_covers hf X (f.off P) f.cfg i.M hok.cov hok.hs hM (hok.k1 (promised_of_M_ne P hf hok hM)).1 hw.capPos
    simp only [Filter.isEmpty, Bool.not_false, Bool.true_and, beq_eq_false_iff_ne, ne_eq]
    omega
  · intro _ _ _; rfl
  · intro _ _ _ _ hd; cases hd

variable [DecidableEq ι]

theorem good_new (w : World) (p : PGhost ι) (hg : Good P hf w p) (v nb nh seed : Nat) (hsmall : nb % 2 ^ 64 ≤ 2 ^ 32 - 64) :
    Good P hf (step P Fix.fixed hf w (.new v nb nh seed)).1
      (pstep hf p w (step P Fix.fixed hf w (.new v nb nh seed)).1 (step P Fix.fixed hf w (.new v nb nh seed)).2 (.new v nb nh seed)) := by
  unfold pstep; simp only [step, opNew]
  by_cases hb : badSize P (nb % 2 ^ 64) (nh % 2 ^ 16) = true
  · simp [hb]; exact hg
  · have hb' : badSize P (nb % 2 ^ 64) (nh % 2 ^ 16) = false := by simpa using hb
    simp only [hb', Bool.false_eq_true, if_false, if_true]
    exact good_bind_owned P hf w p hg v _ 0 rfl _ _
      (fwf_mkOwned P _ _ _ hb' (Nat.le_trans hsmall (by decide)) (Nat.mod_lt _ (by decide)) (Nat.mod_lt _ (by decide)))
      (viewOK_mkOwned P hf _ _ _ hb' true fun _ => hsmall)

theorem good_blk (w : World) (p : PGhost ι) (hg : Good P hf w p) (m len val : Nat) :
    Good P hf (opBlk w m len val).1 (pstep hf p w (opBlk w m len val).1 (opBlk w m len val).2 (.blk m len val)) := by
  cases hb : w.blocks m with
  | some b => unfold pstep; simp [opBlk, hb]; exact hg
  | none =>
    unfold pstep; simp only [opBlk, hb, if_true]
    exact hg.newBlock m _ _ hb (fun h => by cases h) (fun _ => rfl)

theorem good_bits (w : World) (p : PGhost ι) (hg : Good P hf w p) (v : Nat) :
    Good P hf (opBitsUsed P w v).1 (pstep hf p w (opBitsUsed P w v).1 (opBitsUsed P w v).2 (.bits v)) := by
  cases hv : w.filters v with
  | none => unfold pstep; simp only [opBitsUsed, hv]; exact hg
  | some f =>
    by_cases hd : f.dirty = true
    · unfold pstep; simp only [opBitsUsed, hv, hd, if_true]
      obtain ⟨i, hi⟩ := hg.tracked v f hv
      have hw := hg.fwf v f hv
      refine hg.setFilter v _ i hi (fun _ _ _ _ => rfl) (fun _ _ => rfl) (hw.congr rfl rfl rfl) ?_ ?_
      · have hk : keyOf v { f with nbs := popCount (w.val f) (f.off P) f.capBits, dirty := false } = keyOf v f := rfl
        rw [hk, keyVal_setFilter_sameRef hv _ (by rfl), val_eq_keyVal w v f hv]
        exact viewOK_bits P hf (hg.view v f i hv hi) hw
      · intro m hr
        obtain ⟨b, hb⟩ := hg.memref v f m hv hr
        exact ⟨b, hb, hg.memfull v f i m b hv hi hr hb⟩
    · unfold pstep; simp [opBitsUsed, hv, hd]; exact hg

theorem good_copy (w : World) (p : PGhost ι) (hg : Good P hf w p) (v v' : Nat) :
    Good P hf (opCopy w v v').1 (pstep hf p w (opCopy w v v').1 (opCopy w v v').2 (.copy v v')) := by
  cases hv : w.filters v with
  | none => unfold pstep; simp only [opCopy, hv]; exact hg
  | some f =>
    obtain ⟨i, hi⟩ := hg.tracked v f hv
    unfold pstep; simp only [opCopy, hv, hi]
    have hok := hg.view v f i hv hi
    cases hr : f.ref with
    | owned b =>
      simp only []
      have hm : isMem f = false := by simp [isMem, hr]
      have hX : keyVal w (keyOf v f) = b := by simp [keyOf, hr, keyVal, hv]
      rw [hX] at hok
      exact good_bind_owned P hf w p hg v' f b hr _ i (hg.fwf v f hv) (viewOK_owned_si (s := p.si (Key.own v)) P hf hm rfl (by simpa [keyOf, hr] using hok))
    | mem m =>
      simp only []
      obtain ⟨b, hb⟩ := hg.memref v f m hv hr
      rw [keyOf_of_mem hr] at hok
      simp only [keyVal, World.blockVal, hb] at hok
      exact good_bind_mem P hf w p hg v' m b hb f hr i (hg.fwf v f hv) hok (hg.memfull v f i m b hv hi hr hb)

end DS.Bloom
