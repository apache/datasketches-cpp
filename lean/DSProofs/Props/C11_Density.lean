/-
C11 (density sketch part) — truncated images are rejected; the specification reader is bounded.

ONLY property theorems and non-vacuity examples.  The theorems are about the specification reader
`DS.Wire.Density.decode`; the exhaustive-prefix / corruption runs of `./check c11_misc` hold
`density_sketch::deserialize(bytes)` and `deserialize(istream)` (float and double) to it under sanitizers.
-/
import DSProofs.Props.C09_Density
import DSModel.Wire.DensityGen
namespace DS.Wire.Density
open DS.Wire

/-- the reader (including the level loop, for every fuel) is prefix-safe -/
theorem decode_PS (c : Consts) (tsz : Nat) : PS (decode c tsz) := (decode_sized c tsz).ps

/-- every strict prefix of a valid image is rejected (a density image has no information-free padding) -/
theorem prefix_rejected (c : Consts) (hc : c.Valid) (tsz : Nat) (s : Img) (hs : WF tsz s) (n : Nat)
    (hn : n < (encode c tsz s).length) : decode c tsz ((encode c tsz s).take n) = none :=
  prefix_rejected' (decode c tsz) (decode_PS c tsz) (encode c tsz s) s (decode_encode c hc tsz s hs) n hn

/-- a successful decode of ANY byte string consumed exactly `serializedSize` bytes and produced a
well-formed image (counts consistent, every value in range, at most 64 levels); if a point occupies at
least one byte (dim ≥ 1, value width ≥ 1) the number of decoded points is at most the input length.
(For dim = 0 a point occupies no bytes and a level-size field alone determines the number of — empty —
points: the layout itself gives no linear bound there.) -/
theorem decode_bounded (c : Consts) (tsz : Nat) (b r : Bytes) (s : Img) (h : decode c tsz b = some (s, r)) :
    b.length = serializedSize tsz s + r.length ∧ WF tsz s ∧
    (∀ bd, s.body = some bd → bd.levels.length ≤ 64 ∧ 4 * bd.levels.length + 24 ≤ b.length ∧
      (0 < s.dim → 0 < tsz → totalPoints bd.levels + 24 ≤ b.length)) := by
  obtain ⟨h1, h2⟩ := (decode_sized c tsz).consumed h
  refine ⟨h1, h2, ?_⟩
  intro bd hb
  obtain ⟨_, _, h4⟩ := h2
  simp only [serializedSize, hb] at h1 h4
  have := four_mul_length_le_levelsSize tsz s.dim bd.levels
  refine ⟨h4.2.2.2.2.2.1, by omega, fun hd ht => ?_⟩
  have := totalPoints_le_size tsz s.dim hd ht bd.levels
  omega

def exImgT : Img :=
  { k := 4, dim := 2,
    body := some { numRetained := 3, n := 4, levels := [[[0x3f800000, 0x40000000], [0, 0x80000000]], [[0x7f7fffff, 1]]] } }
example : WF 4 exImgT ∧ (∀ n, n < 56 → decode genConsts 4 ((encode genConsts 4 exImgT).take n) = none) ∧
          (decode genConsts 4 (encode genConsts 4 exImgT)).isSome := by decide +kernel

end DS.Wire.Density
