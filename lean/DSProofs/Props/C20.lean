/-
C20 — Density sketch keeps exact counts; exact before the first compaction.

The property theorems, the definitions their statements need (`curCfg`, the `…_full` statements, witnesses), the side condition
`ds_minK_side_condition` and non-vacuity examples (helper lemmas: Lemmas/Density*.lean).
Model: DSModel/Density/Sketch.lean (tied to density/include/density_sketch_impl.hpp by `./check C20`:
the Float / Float32 instance with the concrete picker is compared with the real class on generated histories).

Quantifiers.  `α` = coordinate type, `Hist α` = every finite tree of `new / upd / merge` (every point stream,
every merge tree, every k, every dimension), `P : Picker ρ α`, `r : ρ` = every way of choosing, at every
compaction, a permutation of the level and a subset to keep (`ρ` arbitrary, so choices may depend on the whole
history).  `compact_level`'s own random-bit / shuffle / discrepancy-sign choice is the instance
`concretePicker K src`.  `minK` = the bound enforced by `check_k` (DSGen.density_MIN_K, regenerated from the
header every run); the theorems need `1 ≤ minK`.  `c : Cfg` = the four statements of the header in which the
three findings and the shape switch below live (regenerated from the header every run: `curCfg`); every theorem not concerned by a switch holds
for all its values.

Findings on the PINNED code (kept as `…_full_false` + witness, replayed on the implementation every run), each with the
theorem `…_fixed` that the full statement holds once the proposed one-line fix is in, and `…_current`, which states the
full statement or its negation for the header as regenerated (`curCfg`):
* `ds_n_exact`          — `merge` tests `other.is_empty()`, which is `num_retained_ == 0`, not `n_ == 0`; a sketch whose
  compaction kept no point (kernel value exactly 0, e.g. Gaussian underflow for points ≥ 39 apart, first bit 0) has
  n > 0 and is skipped: its n is lost.
* `ds_dim_refused`      — `get_estimate` does not check the dimension of the query point (update and merge do).
* `ds_estimate_nonneg`  — `get_estimate` computes the level weight as `1 << height` in 32-bit `int` (the iterator uses
  `1ULL << height_`): a point on level 31 gets weight −2^31 (negative estimates), level ≥ 32 is undefined behaviour.

Shape switch `popsEmptyTop` (repair of the C09 finding "a trailing empty level is written but never read back"): after
`compact_level`, `compact()` drops empty levels from the top.  EVERY theorem here holds for both shapes; with the repaired one the level count can
shrink, and the termination proof is the same for both because the measure Σ_h |level_h|·(B − h) does not see empty levels
(`mu_popTop`) and its side condition `levels ≤ B` is re-derived from the loop guard at every iteration, not from monotonicity.
`ds_top_level_nonempty` (repaired shape; false of the pinned shape, `…_current` selects) is the `WF` hypothesis "last level
non-empty" of the wire round trip (C09).  With the repaired shape a sketch can be back at ONE
level after a compaction that kept nothing, so "before the first compaction" is characterised by
`levels = 1 ∧ num_retained = n` (for the pinned shape one level alone implies it: `ds_exact_before_compaction_pinned`).
-/
import DSProofs.Lemmas.DensityWitness
import DSModel.Density.Kernels
import DSGen.Density
namespace DS.Density

variable {α ρ : Type}

/-- the behaviour switches of the header as it is now -/
def curCfg : Cfg :=
  { mergeSkipOnN := DSGen.density_MERGE_SKIPS_ON_N, queryChecksDim := DSGen.density_QUERY_CHECKS_DIM,
    weight64 := DSGen.density_EST_WEIGHT_64, popsEmptyTop := DSGen.density_COMPACT_POPS_EMPTY_TOP }

/-- The `while (num_retained_ >= k_ * levels_.size()) compact();` loop ends for EVERY choice of kept subsets
(even "keep everything"), from every state in which `num_retained_` is the number of stored points, there is at
least one level and k ≥ 1: within `fuelOf s = num_retained² + 1` iterations the guard is false, and a larger budget
changes nothing.  Measure: Σ_h |level_h|·(B − h) with B = num_retained at loop entry (every height stays < B while
the guard holds; a compaction removes the level's points from height h and re-inserts at most as many at h+1; dropping
empty levels from the top – repaired shape – leaves the measure unchanged).  Both shapes of `compact()`. -/
theorem ds_compact_terminates (c : Cfg) (P : Picker ρ α) (r : ρ) (s : Sketch α)
    (hcnt : s.numRetained = sumLen s.levels) (hne : s.levels ≠ []) (hk : 1 ≤ s.k) :
    loopCond (compactLoop c P r s).1 = false ∧ ∀ f, fuelOf s ≤ f → drain c P f r s = compactLoop c P r s :=
  ⟨compactLoop_exits c P r ⟨hcnt, hne⟩ hk,
   fun f hf => drain_stable c P (fuelOf s) f r s (compactLoop_exits c P r ⟨hcnt, hne⟩ hk) hf⟩

/-- every state the public API can reach satisfies the hypotheses of `ds_compact_terminates` -/
theorem ds_compact_terminates_reachable (c : Cfg) (P : Picker ρ α) (minK : Nat) (hm : 1 ≤ minK) (hist : Hist α)
    (hv : hist.valid minK) (r : ρ) :
    let s := (run c P hist r).1
    s.numRetained = sumLen s.levels ∧ s.levels ≠ [] ∧ 1 ≤ s.k :=
  let h := run_rinv c P minK hm hist hv r
  ⟨h.inv.cnt, h.inv.ne, h.kpos⟩

/-- the side condition on the constant taken from the current header -/
theorem ds_minK_side_condition : 1 ≤ DSGen.density_MIN_K := by decide

/-- non-vacuity: keep-everything picker, k = 2, four points on one level: two compactions, then the guard is false -/
example : (compactLoop {} (fun (_ : Unit) (l : Level Nat) => (([], l.map (fun _ => true)), ()))
    () { k := 2, dim := 1, n := 4, numRetained := 4, levels := [[[1], [2], [3], [4]]] }).1.levels
      = [[], [], [[1], [2], [3], [4]]] := by decide +kernel
/-- the counting hypothesis is necessary: with `num_retained_` too large `compact()` is a no-op while the guard
stays true – the real loop would spin (this is what dropping `--num_retained_` in compact_level causes). -/
def stuck : Sketch Nat := { k := 2, dim := 1, n := 5, numRetained := 5, levels := [[[1]], [[2]]] }
example : compact {} dropAll () stuck = (stuck, ()) ∧ loopCond stuck = true := by decide +kernel
/-- repaired shape: the level count shrinks inside the loop (k = 2, [[p],[a,b,c]], nothing kept: back to one level) and the loop
still exits by its guard -/
example : (compactLoop { popsEmptyTop := true } dropAll ()
    { k := 2, dim := 1, n := 9, numRetained := 4, levels := [[[1]], [[2], [3], [4]]] }) =
      ({ k := 2, dim := 1, n := 9, numRetained := 1, levels := [[[1]]] }, ()) := by decide +kernel

/-- `get_num_retained()` = number of points visible through `begin()..end()` = Σ level sizes, and every iterated
pair is (a point stored at some level h, weight 2^h). -/
theorem ds_retained_eq_iter (c : Cfg) (P : Picker ρ α) (minK : Nat) (hm : 1 ≤ minK) (hist : Hist α) (hv : hist.valid minK) (r : ρ) :
    let s := (run c P hist r).1
    s.numRetained = (iter s).length ∧ s.numRetained = sumLen s.levels ∧
    ∀ x ∈ iter s, ∃ h lvl, s.levels[h]? = some lvl ∧ x.1 ∈ lvl ∧ x.2 = 2 ^ h := by
  have h := run_rinv c P minK hm hist hv r
  refine ⟨by rw [iter, iterFrom_length]; exact h.inv.cnt, h.inv.cnt, ?_⟩
  intro x hx
  obtain ⟨i, lvl, h1, h2, h3⟩ := (iterFrom_mem 0 _ x).1 hx
  exact ⟨i, lvl, h1, h2, by simpa using h3⟩

/-- after every public operation `num_retained_ ≤ k_ · levels_.size()` (and retained ≤ n). -/
theorem ds_retained_bound (c : Cfg) (P : Picker ρ α) (minK : Nat) (hm : 1 ≤ minK) (hist : Hist α) (hv : hist.valid minK) (r : ρ) :
    let s := (run c P hist r).1
    s.numRetained ≤ s.k * s.levels.length ∧ s.numRetained ≤ s.n :=
  let h := run_rinv c P minK hm hist hv r
  ⟨h.bound, h.nge⟩

/-- what the code guarantees exactly: the bound is strict right after an accepted merge (and an accepted update
leaves at most `k·levels`: it pushes one point after the loop made it strict). -/
theorem ds_retained_bound_strict_after_merge (c : Cfg) (P : Picker ρ α) (r : ρ) (s o : Sketch α)
    (hs : s.numRetained = sumLen s.levels) (hne : s.levels ≠ []) (ho : o.numRetained = sumLen o.levels) (hk : 1 ≤ s.k)
    (h0 : mergeSkips c o = false) (hd : o.dim = s.dim) :
    (merge c P r s o).1.numRetained < (merge c P r s o).1.k * (merge c P r s o).1.levels.length := by
  rw [merge_accepted c P r s o h0 hd]
  refine compactLoop_lt c P r ⟨?_, mergeLevels_ne _ _ hne⟩ hk
  simp only [merged, sumLen_mergeLevels]; omega

/-- non-vacuity: k = 2, nine updates, "keep the first point only" picker: compactions on levels 0 and 1 -/
def exHist : Hist Nat := .upd (.upd (.upd (.upd (.upd (.upd (.upd (.upd (.upd (.new 2 1) [1]) [2]) [3]) [4]) [5]) [6]) [7]) [8]) [9]
def exPick : Picker Unit Nat := fun _ _ => (([], [true]), ())
example : exHist.valid 2 ∧ (run {} exPick exHist ()).1.levels = [[[8], [9]], [], [[1]]]
    ∧ (run {} exPick exHist ()).1.numRetained = 3 ∧ (run {} exPick exHist ()).1.n = 9
    ∧ iter (run {} exPick exHist ()).1 = [([8], 1), ([9], 1), ([1], 4)] := by decide +kernel

/-! ## ds_top_level_nonempty (what makes the wire round trip total: C09's `WF` hypothesis "last level non-empty") -/

/-- FULL statement: the top level of a reachable sketch with more than one level is never empty. -/
def ds_top_level_nonempty_full (c : Cfg) : Prop :=
  ∀ (α ρ : Type) (P : Picker ρ α) (r : ρ) (hist : Hist α), hist.valid 2 →
    ∀ top, 1 < (run c P hist r).1.levels.length → (run c P hist r).1.levels.getLast? = some top → top ≠ []

/-- repaired shape (`compact()` drops empty levels from the top): the full statement holds, for every history and every choice. -/
theorem ds_top_level_nonempty_fixed (c : Cfg) (hc : c.popsEmptyTop = true) : ds_top_level_nonempty_full c := by
  intro α ρ P r hist hv top hL hlast
  have ht := (run_rinv c P 2 (by decide) hist hv r).top hc
  exact top_ne_of_topNonempty _ ht top hL hlast

/-- pinned shape: false – {0} merged with {100} (k = 2), the compaction keeps nothing and the freshly pushed level stays empty
(C09 key `density/trailing-empty-level-not-restored`). -/
theorem ds_top_level_nonempty_full_false (c : Cfg) (hc : c.popsEmptyTop = false) : ¬ ds_top_level_nonempty_full c := by
  intro h
  obtain ⟨hv, hl⟩ := emptyTopHist_levels c hc
  have := h Nat Unit dropAll () emptyTopHist hv [] (by rw [hl]; decide) (by rw [hl]; rfl)
  exact this rfl

theorem ds_top_level_nonempty_current :
    if curCfg.popsEmptyTop = true then ds_top_level_nonempty_full curCfg else ¬ ds_top_level_nonempty_full curCfg :=
  current_of_switch (ds_top_level_nonempty_fixed _) (ds_top_level_nonempty_full_false _)

/-- non-vacuity (repaired shape): same history, the empty top is gone; and a history whose top level holds a point -/
example : (run { popsEmptyTop := true } dropAll emptyTopHist ()).1.levels = [[]] ∧
    (run { popsEmptyTop := true } exPick exHist ()).1.levels = [[[8], [9]], [], [[1]]] := by decide +kernel

/-- FULL statement: n is the number of accepted input points over the whole merge tree. -/
def ds_n_exact_full (c : Cfg) : Prop :=
  ∀ (α ρ : Type) (P : Picker ρ α) (r : ρ) (hist : Hist α), hist.valid 2 →
    (run c P hist r).1.n = hist.inputs.length

/-- The pinned code (`merge` returns early on `is_empty()`) violates the full statement: witness `lossHist` with the picker that
keeps nothing (replayed on the implementation every run: with the Gaussian kernel, points 0 and 100 and first bit 0 the
real `compact_level` keeps nothing; key `merge-loses-n-of-emptied-operand`). -/
theorem ds_n_exact_full_false (c : Cfg) (hc : c.mergeSkipOnN = false) : ¬ ds_n_exact_full c := by
  intro h
  obtain ⟨hv, h1, h2⟩ := lossHist_n c hc
  have := h Nat Unit dropAll () lossHist hv
  omega

/-- With the proposed fix (`if (other.n_ == 0) return;`) the full statement holds. -/
theorem ds_n_exact_fixed (c : Cfg) (hc : c.mergeSkipOnN = true) : ds_n_exact_full c :=
  fun _ _ P r hist hv => run_n c P 2 hist hv r (noEmptiedOperand_of_skipOnN c hc P hist r)

/-- the header as it is now: the full statement, or its negation, whichever the current early return implies -/
theorem ds_n_exact_current : if curCfg.mergeSkipOnN = true then ds_n_exact_full curCfg else ¬ ds_n_exact_full curCfg :=
  current_of_switch (ds_n_exact_fixed _) (ds_n_exact_full_false _)

/-- the same loss with the code's OWN choice (concrete picker, exact arithmetic, indicator kernel, first bit 0):
all discrepancies are 0, `delta < 0` is false for every point, nothing is kept. -/
def lossHistRat : Hist Rat := .merge (.upd (.new 2 1) [5]) (.merge (.upd (.new 2 1) [0]) (.upd (.new 2 1) [100]))
example : (run {} (concretePicker indicatorK) lossHistRat { bits := [false] }).1.n = 1 ∧ lossHistRat.inputs.length = 3 := by
  decide +kernel

/-- PROVED PART (any early-return test): n is exact for every history in which no merge skips an operand that has seen points
(pinned code: no operand is an emptied sketch, `num_retained_ = 0` although `n_ > 0`).  What is missing for the full
statement is exactly the skipped case. -/
theorem ds_n_exact_partial (c : Cfg) (P : Picker ρ α) (minK : Nat) (hist : Hist α) (hv : hist.valid minK) (r : ρ)
    (hne : hist.noEmptiedOperand c P r) : (run c P hist r).1.n = hist.inputs.length :=
  run_n c P minK hist hv r hne

/-- step form, unconditional: an accepted update adds 1; a merge adds `other.n` iff the early return does not fire and the
dimensions agree, and otherwise changes nothing (pinned code: an operand with `num_retained_ = 0 < n_` is dropped). -/
theorem ds_n_step (c : Cfg) (P : Picker ρ α) (r : ρ) (s o : Sketch α) (p : Point α) :
    (p.length = s.dim → (update c P r s p).1.n = s.n + 1) ∧
    (mergeSkips c o = false → o.dim = s.dim → (merge c P r s o).1.n = s.n + o.n) ∧
    (mergeSkips c o = true → (merge c P r s o).1.n = s.n) := by
  refine ⟨update_n c P r s p, ?_, ?_⟩
  · intro h0 hd; rw [merge_accepted c P r s o h0 hd]; exact (compactLoop_compacted c P r _).n
  · intro h0; rw [merge_skipped c P r s o h0]

/-- non-vacuity of the partial statement: a three-sketch merge tree with compactions and a refused point -/
def exTree : Hist Nat :=
  .merge (.upd (.upd (.upd (.new 2 1) [1]) [2, 2]) [3]) (.merge (.upd (.new 3 1) [4]) (.upd (.upd (.new 2 1) [5]) [6]))
example : exTree.valid 2 ∧ exTree.noEmptiedOperand {} exPick () ∧ (run {} exPick exTree ()).1.n = 5
    ∧ exTree.inputs = [[1], [3], [4], [5], [6]] ∧ (run {} exPick exTree ()).1.levels = [[[1], [3]], [[4]]] := by decide +kernel

/-- FULL statement: a point of the wrong dimension is refused by `update`, a sketch of another dimension that would be
merged by `merge`, and a query point of the wrong dimension by `get_estimate`. -/
def ds_dim_refused_full (c : Cfg) : Prop :=
  ∀ (α ρ : Type) (P : Picker ρ α) (r : ρ) (s o : Sketch α) (p : Point α),
    (p.length ≠ s.dim → updateThrows s p = true ∧ update c P r s p = (s, r)) ∧
    (mergeSkips c o = false → o.dim ≠ s.dim → mergeThrows c s o = true ∧ merge c P r s o = (s, r)) ∧
    (p.length ≠ s.dim → estimateThrows c s p = true)

/-- PROVED PART (all switches): update and merge refuse (throw, state untouched); an operand on which the early return fires is
accepted silently whatever its dimension and changes nothing. -/
theorem ds_dim_refused_partial (c : Cfg) (P : Picker ρ α) (r : ρ) (s o : Sketch α) (p : Point α) :
    (p.length ≠ s.dim → updateThrows s p = true ∧ update c P r s p = (s, r)) ∧
    (mergeSkips c o = false → o.dim ≠ s.dim → mergeThrows c s o = true ∧ merge c P r s o = (s, r)) ∧
    (mergeSkips c o = true → mergeThrows c s o = false ∧ merge c P r s o = (s, r)) := by
  refine ⟨fun h => ⟨by simp [updateThrows, h], update_refused c P r s p h⟩,
          fun h0 hd => ⟨by simp [mergeThrows, h0, hd], merge_refused c P r s o hd⟩,
          fun h0 => ⟨by simp [mergeThrows, h0], merge_skipped c P r s o h0⟩⟩

/-- The pinned code violates the third conjunct: `get_estimate` throws only for an empty sketch (key
`query-wrong-dim-not-refused`; with a query SHORTER than `dim` the Gaussian kernel reads past the end of the vector). -/
theorem ds_dim_refused_full_false (c : Cfg) (hc : c.queryChecksDim = false) : ¬ ds_dim_refused_full c := by
  intro h
  have := (h Nat Unit dropAll () { k := 2, dim := 2, n := 1, numRetained := 1, levels := [[[1, 2]]] }
            { k := 2, dim := 2, n := 0, numRetained := 0, levels := [[]] } [7]).2.2 (by decide)
  simp [estimateThrows, hc] at this

/-- With the proposed fix (`if (point.size() != dim_) throw` in `get_estimate`) the full statement holds. -/
theorem ds_dim_refused_fixed (c : Cfg) (hc : c.queryChecksDim = true) : ds_dim_refused_full c := by
  intro α ρ P r s o p
  obtain ⟨h1, h2, _⟩ := ds_dim_refused_partial c P r s o p
  exact ⟨h1, h2, fun hp => by simp [estimateThrows, hc, hp]⟩

theorem ds_dim_refused_current :
    if curCfg.queryChecksDim = true then ds_dim_refused_full curCfg else ¬ ds_dim_refused_full curCfg :=
  current_of_switch (ds_dim_refused_fixed _) (ds_dim_refused_full_false _)

example : updateThrows (init 4 3 : Sketch Nat) [1, 2] = true ∧ updateThrows (init 4 3 : Sketch Nat) [1, 2, 3] = false := by decide

/-! ## ds_exact_before_compaction, ds_estimate_nonneg (exact arithmetic: `Rat` instance of the same definitions) -/

/-- Until the first compaction that drops a point anywhere in the merge tree – observable as: this sketch and every merged operand
have a single level and `num_retained = n` – `get_estimate(q)` is the exact kernel mean over all inputs: (Σ_p K(p,q)) / n, with
n = number of inputs.  Both shapes of `compact()`. -/
theorem ds_exact_before_compaction (c : Cfg) (P : Picker ρ Rat) (minK : Nat) (hm : 1 ≤ minK) (hist : Hist Rat)
    (hv : hist.valid minK) (r : ρ) (hop : hist.operandsExact c P r) (h1 : (run c P hist r).1.levels.length = 1)
    (hn : (run c P hist r).1.numRetained = (run c P hist r).1.n)
    (K : Point Rat → Point Rat → Rat) (q : Point Rat) :
    estimate c K (run c P hist r).1 q = kernelSum K q hist.inputs / (hist.inputs.length : Rat)
    ∧ (run c P hist r).1.n = hist.inputs.length := by
  obtain ⟨e1, e2⟩ := run_exact c P minK hm hist hv r hop h1 hn
  refine ⟨?_, e2⟩
  simp only [estimate, e1, e2, estFrom]
  rw [estLevel_rat, estWeight_rat]
  simp [Scalar.zero]

/-- pinned shape of `compact()`: `!is_estimation_mode()` (one level) alone certifies that nothing was lost. -/
theorem ds_exact_before_compaction_pinned (c : Cfg) (hp : c.popsEmptyTop = false) (P : Picker ρ Rat) (minK : Nat) (hm : 1 ≤ minK)
    (hist : Hist Rat) (hv : hist.valid minK) (r : ρ) (hop : hist.operandsExact c P r)
    (h1 : (run c P hist r).1.levels.length = 1) (K : Point Rat → Point Rat → Rat) (q : Point Rat) :
    estimate c K (run c P hist r).1 q = kernelSum K q hist.inputs / (hist.inputs.length : Rat)
    ∧ (run c P hist r).1.n = hist.inputs.length :=
  ds_exact_before_compaction c P minK hm hist hv r hop h1 ((run_rinv c P minK hm hist hv r).one hp h1) K q

/-- repaired shape: one level alone does NOT certify it – two far-apart points, the compaction keeps nothing and the emptied level
vector is cut back to one level, then a third point arrives: one level, n = 3, one point retained. -/
example : (run { popsEmptyTop := true } dropAll (.upd (.upd (.upd (.new 2 1) [0]) [100]) [7] : Hist Nat) ()).1
    = { k := 2, dim := 1, n := 3, numRetained := 1, levels := [[[7]]] } := by decide +kernel

/-- FULL statement: for a non-negative kernel every estimate of every reachable sketch is non-negative. -/
def ds_estimate_nonneg_full (c : Cfg) : Prop :=
  ∀ (ρ : Type) (P : Picker ρ Rat) (r : ρ) (hist : Hist Rat), hist.valid 2 →
    ∀ (K : Point Rat → Point Rat → Rat), (∀ p q, 0 ≤ K p q) → ∀ q, 0 ≤ estimate c K (run c P hist r).1 q

/-- The pinned code violates it: the balanced merge tree over 2^36 one-point sketches (k = 2, every compaction keeps every
second point) has 32 points on level 31; `(1 << 31)` is `INT_MIN`, the estimate for the constant kernel 1 is −1 instead of 1.
(n = 2^36 fits `uint64_t`; on the implementation the same state is reached by 36 `copy`+`merge` steps – corpus replay
`w4-estimate-negative-level31.txt`, key `estimate-negative-level31-weight-overflow`.) -/
theorem ds_estimate_nonneg_full_false (c : Cfg) (hc : c.weight64 = false) : ¬ ds_estimate_nonneg_full c := by
  intro h
  have h1 : 0 ≤ estimate c oneK (run c keepHalf (dblHist 36) ()).1 [0] :=
    h Unit keepHalf () (dblHist 36) (dblHist_valid 36) oneK (fun _ _ => by simp [oneK]) [0]
  rw [run_dblHist36_est c hc] at h1
  exact absurd h1 (by decide)

/-- PROVED PART, and the full statement after the proposed fix: in EVERY state (any levels, any n – in `Rat` x/0 = 0) the estimate
of a non-negative kernel is non-negative if the weight is computed as `1ULL << height`, or (pinned code) if there are at most
31 levels (all weights `1 << h`, h ≤ 30, are positive ints). -/
theorem ds_estimate_nonneg_partial (c : Cfg) (K : Point Rat → Point Rat → Rat) (hK : ∀ p q, 0 ≤ K p q) (s : Sketch Rat)
    (q : Point Rat) (hL : c.weight64 = true ∨ s.levels.length ≤ 31) : 0 ≤ estimate c K s q :=
  estFrom_nonneg c K hK q s.n 0 _ (le_refl _) s.levels fun i hi => estWeight_nonneg c i (hL.imp_right fun h => by omega)

theorem ds_estimate_nonneg_fixed (c : Cfg) (hc : c.weight64 = true) : ds_estimate_nonneg_full c :=
  fun _ _ _ _ _ K hK q => ds_estimate_nonneg_partial c K hK _ q (Or.inl hc)

theorem ds_estimate_nonneg_current :
    if curCfg.weight64 = true then ds_estimate_nonneg_full curCfg else ¬ ds_estimate_nonneg_full curCfg :=
  current_of_switch (ds_estimate_nonneg_fixed _) (ds_estimate_nonneg_full_false _)

example : (dblChain {} 30).levels.length = 26 ∧ (dblChain {} 30).numRetained = 32 ∧ 0 ≤ estimate {} oneK (dblChain {} 30) [0] := by
  decide +kernel

/-- whenever a query is allowed (`get_estimate` does not throw) the sketch retains a point and n > 0, so the division in
`get_estimate` is by a positive number. -/
theorem ds_query_n_pos (c : Cfg) (P : Picker ρ α) (minK : Nat) (hm : 1 ≤ minK) (hist : Hist α) (hv : hist.valid minK) (r : ρ)
    (q : Point α) (hq : estimateThrows c (run c P hist r).1 q = false) : 0 < (run c P hist r).1.n := by
  have h := run_rinv c P minK hm hist hv r
  have : (run c P hist r).1.numRetained ≠ 0 := by
    intro h0; simp [estimateThrows, h0] at hq
  have := h.nge
  omega

/-- non-vacuity: the concrete picker (the code's own choice) over `Rat` with the kernel 1/(1+‖p−q‖²), k = 3:
three points are still exact, estimate at 0 is (1 + 1/2 + 1/5)/3. -/
def exRat : Hist Rat := .upd (.upd (.upd (.new 3 1) [0]) [1]) [2]
example : exRat.operandsExact {} (concretePicker cauchyK) {} ∧ (run {} (concretePicker cauchyK) exRat {}).1.levels.length = 1 := by
  decide +kernel
example : kernelSum cauchyK [0] exRat.inputs / (exRat.inputs.length : Rat) = 17 / 30 := by
  decide +kernel

end DS.Density
