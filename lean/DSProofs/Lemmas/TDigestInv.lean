/-
t-digest (C17), exact arithmetic: the state invariant `Inv`.  Compress and merge are one pass `merge(buffer, weight)` over a
working list that starts with the state's own buffer; it leaves a `Compressed` state whose `min_` / `max_` are the least /
greatest of the values that went in, so at every step the values held `Cover` the accepted ones.
-/
import DSProofs.Lemmas.TDigestCluster
namespace DS.TDigest
open Num Conv

/-- `headW` / `lastW`: the first and the last centroid are singletons.  `minAtt` / `maxAtt`: `min_` / `max_` are
attained, by a buffered value or by the mean of the first / last centroid (with `bufLo … csHi`: they are the exact
extremes of the values held). -/
structure Inv (s : St Rat) : Prop where
  sorted : Sorted s.cs
  cw : s.cw = sumWeights s.cs
  pos : ∀ c ∈ s.cs, 1 ≤ c.weight
  headW : ∀ c, s.cs.head? = some c → c.weight = 1
  lastW : ∀ c, s.cs.getLast? = some c → c.weight = 1
  bufLo : ∀ v ∈ s.buf, s.min ≤ v
  bufHi : ∀ v ∈ s.buf, v ≤ s.max
  csLo : ∀ c ∈ s.cs, s.min ≤ c.mean
  csHi : ∀ c ∈ s.cs, c.mean ≤ s.max
  minAtt : s.isEmpty = false → s.min ∈ s.buf ∨ ∃ c, s.cs.head? = some c ∧ c.mean = s.min
  maxAtt : s.isEmpty = false → s.max ∈ s.buf ∨ ∃ c, s.cs.getLast? = some c ∧ c.mean = s.max

theorem inv_init (k : Nat) : Inv (init k : St Rat) where
  sorted := List.Pairwise.nil
  cw := rfl
  pos := fun _ h => nomatch h
  headW := fun _ h => nomatch h
  lastW := fun _ h => nomatch h
  bufLo := fun _ h => nomatch h
  bufHi := fun _ h => nomatch h
  csLo := fun _ h => nomatch h
  csHi := fun _ h => nomatch h
  minAtt := fun h => Bool.noConfusion h
  maxAtt := fun h => Bool.noConfusion h

theorem single_mean (v : Rat) : (single v).mean = v := rfl
theorem single_weight (v : Rat) : (single v : C).weight = 1 := rfl

theorem weight_singles (l : List Rat) : ∀ c ∈ l.map single, c.weight = 1 := by
  intro c hc
  obtain ⟨v, _, rfl⟩ := List.mem_map.1 hc
  rfl

theorem headW1_singles (l : List Rat) : HeadW1 (l.map single) := .of_all (weight_singles l)
theorem lastW1_singles (l : List Rat) : LastW1 (l.map single) := .of_all (weight_singles l)

/-- the values a state holds; `Cover` and `Least` speak of this list -/
def vals (s : St Rat) : List Rat := s.cs.map (·.mean) ++ s.buf

theorem vals_of_isEmpty {s : St Rat} (h : s.isEmpty = true) : vals s = [] := by
  rw [vals, ((isEmpty_iff s).1 h).1, ((isEmpty_iff s).1 h).2]
  rfl

theorem vals_push (s : St Rat) (v : Rat) : vals (push s v) = vals s ++ [v] :=
  (List.append_assoc ..).symm

theorem least_vals {r : Rat → Rat → Prop} {m : Rat} {s : St Rat} (hb : ∀ v ∈ s.buf, r m v)
    (hc : ∀ c ∈ s.cs, r m c.mean) (hatt : m ∈ s.buf ∨ ∃ c ∈ s.cs, c.mean = m) : Least r m (vals s) := by
  refine ⟨?_, fun v hv => ?_⟩
  · rcases hatt with h | ⟨c, hc', rfl⟩
    · exact List.mem_append_right _ h
    · exact List.mem_append_left _ (List.mem_map_of_mem hc')
  · rcases List.mem_append.1 hv with h | h
    · obtain ⟨c, hc', rfl⟩ := List.mem_map.1 h
      exact hc c hc'
    · exact hb v h

theorem Inv.least {s : St Rat} (hs : Inv s) (hne : s.isEmpty = false) :
    Least (· ≤ ·) s.min (vals s) ∧ Least (fun a b => b ≤ a) s.max (vals s) :=
  ⟨least_vals hs.bufLo hs.csLo ((hs.minAtt hne).imp id fun ⟨c, hc, e⟩ => ⟨c, List.mem_of_head? hc, e⟩),
   least_vals hs.bufHi hs.csHi ((hs.maxAtt hne).imp id fun ⟨c, hc, e⟩ => ⟨c, List.mem_of_getLast? hc, e⟩)⟩

/-- a compressed, non-empty state: the first / last centroid carry min / max -/
structure Compressed (s : St Rat) : Prop where
  inv : Inv s
  buf : s.buf = []
  ne : s.cs ≠ []

theorem Inv.compressed {s : St Rat} (hs : Inv s) (hb : s.buf = []) (hne : s.isEmpty = false) : Compressed s :=
  ⟨hs, hb, ((isEmpty_false_iff s).1 hne).resolve_right (not_not_intro hb)⟩

theorem Compressed.nonempty {s : St Rat} (h : Compressed s) : s.isEmpty = false :=
  (isEmpty_false_iff s).2 (Or.inl h.ne)

theorem Compressed.head {s : St Rat} (h : Compressed s) : ∃ f, s.cs.head? = some f ∧ f.mean = s.min ∧ f.weight = 1 := by
  rcases h.inv.minAtt h.nonempty with h1 | ⟨c, hc, hcm⟩
  · rw [h.buf] at h1; exact nomatch h1
  · exact ⟨c, hc, hcm, h.inv.headW c hc⟩

theorem Compressed.last {s : St Rat} (h : Compressed s) : ∃ l, s.cs.getLast? = some l ∧ l.mean = s.max ∧ l.weight = 1 := by
  rcases h.inv.maxAtt h.nonempty with h1 | ⟨c, hc, hcm⟩
  · rw [h.buf] at h1; exact nomatch h1
  · exact ⟨c, hc, hcm, h.inv.lastW c hc⟩

theorem Compressed.head_cons {s : St Rat} (h : Compressed s) {a : C} {t : List C} (hcs : s.cs = a :: t) :
    a.mean = s.min ∧ a.weight = 1 := by
  obtain ⟨f, hf, hfm, hfw⟩ := h.head
  rw [hcs] at hf
  obtain rfl : a = f := Option.some.inj hf
  exact ⟨hfm, hfw⟩

theorem Compressed.cw_pos {s : St Rat} (h : Compressed s) : 0 < s.cw := by
  rw [h.inv.cw]
  exact Nat.lt_of_lt_of_le (List.length_pos_iff.2 h.ne) (length_le_sumWeights h.inv.pos)

/-- `htmp`: the working list of `merge(buffer, weight)` starts with the state's own buffer, as it does in both callers
(`rest` is empty for compress, the other digest for merge) -/
theorem mergeCore_inv (sc : Scale Rat) (hsc : ScaleOK sc) (tun : Tun) (s : St Rat) (tmp rest : List C) (weight : Nat)
    (hs : Inv s) (htmp : tmp = s.buf.map single ++ rest) (hne : tmp ≠ []) (hw : weight = sumWeights tmp)
    (hpos : ∀ c ∈ rest, 1 ≤ c.weight) (hH : HeadW1 rest) (hL : LastW1 rest) :
    Compressed (mergeCore sc tun s tmp weight) ∧
    Cover (· ≤ ·) (vals (mergeCore sc tun s tmp weight)) (vals s ++ rest.map (·.mean)) ∧
    Cover (fun a b => b ≤ a) (vals (mergeCore sc tun s tmp weight)) (vals s ++ rest.map (·.mean)) := by
  have hLne : tmp ++ s.cs ≠ [] := fun h => hne (List.append_eq_nil_iff.1 h).1
  cases hseq : mergeSeq s tmp with
  | nil => exact absurd (mergeSeq_eq_nil.1 hseq) hLne
  | cons x xs =>
    have hposL : ∀ c ∈ tmp ++ s.cs, 1 ≤ c.weight := htmp ▸ List.forall_mem_append.2
      ⟨List.forall_mem_append.2 ⟨fun c hc => (weight_singles _ c hc).ge, hpos⟩, hs.pos⟩
    have hcwL : s.cw + weight = sumWeights (tmp ++ s.cs) := by
      rw [hs.cw, hw, sumWeights_append, Nat.add_comm]
    obtain ⟨hsorted, hhead, hlast, hall⟩ := mergeOut_spec sc hsc tun s tmp weight hseq hposL hcwL
    obtain ⟨m0, hm0⟩ : ∃ m0, firstMin (tmp ++ s.cs) = some m0 :=
      Option.ne_none_iff_exists'.1 fun h => hLne (firstMin_eq_none.1 h)
    obtain ⟨M0, hM0⟩ : ∃ M0, lastMax (tmp ++ s.cs) = some M0 :=
      Option.ne_none_iff_exists'.1 fun h => hLne (lastMax_eq_none.1 h)
    have hHL : HeadW1 (tmp ++ s.cs) :=
      htmp ▸ ((headW1_singles _).append hH).append (HeadW1.of_sorted hs.sorted hs.headW)
    have hLL : LastW1 (tmp ++ s.cs) :=
      htmp ▸ ((lastW1_singles _).append hL).append (LastW1.of_sorted hs.sorted hs.lastW)
    have hperm : ((tmp ++ s.cs).map (·.mean)).Perm (vals s ++ rest.map (·.mean)) := by
      simp only [htmp, vals, List.map_append, List.map_map, Function.comp_def, single_mean, List.map_id',
        List.append_assoc]
      rw [← List.append_assoc s.buf]
      exact List.perm_append_comm
    have hE := mergeCore_of_seq sc tun s tmp weight hseq
    have hcs : (mergeCore sc tun s tmp weight).cs = mergeOut sc tun s weight x xs := by rw [hE]
    obtain ⟨hW, hbuf, _, hcsne⟩ := mergeCore_weight sc tun s tmp weight hne hs.cw hw
    -- the old extremes are values of the working list, so the new ones are those of its first / last centroid
    have hmin : (mergeCore sc tun s tmp weight).min = m0.mean := by
      rw [hE]
      show (if s.isEmpty = true then _ else stdMin s.min _) = _
      rw [show headMean (mergeOut sc tun s weight x xs) s.min = m0.mean by unfold headMean; rw [hhead, hm0]]
      split
      · rfl
      · rename_i he
        rw [stdMin_eq]
        exact min_eq_right ((firstMin_least hm0).2 _
          (hperm.mem_iff.2 (List.mem_append_left _ (hs.least (Bool.eq_false_iff.2 he)).1.1)))
    have hmax : (mergeCore sc tun s tmp weight).max = M0.mean := by
      rw [hE]
      show (if s.isEmpty = true then _ else stdMax s.max _) = _
      rw [show lastMean (mergeOut sc tun s weight x xs) s.max = M0.mean by unfold lastMean; rw [hlast, hM0]]
      split
      · rfl
      · rename_i he
        rw [stdMax_eq]
        exact max_eq_right ((lastMax_least hM0).2 _
          (hperm.mem_iff.2 (List.mem_append_left _ (hs.least (Bool.eq_false_iff.2 he)).2.1)))
    have hc : Compressed (mergeCore sc tun s tmp weight) := by
      refine ⟨⟨?_, hW, ?_, ?_, ?_, ?_, ?_, ?_, ?_, ?_, ?_⟩, hbuf, hcsne⟩
      · rw [hcs]; exact hsorted
      · rw [hcs]; exact hall (fun c => 1 ≤ c.weight) (fun a b ha _ => ha.trans (Nat.le_add_right _ _)) hposL
      · intro c hc; rw [hcs, hhead] at hc; exact hHL c hc
      · intro c hc; rw [hcs, hlast] at hc; exact hLL c hc
      · intro v hv; rw [hbuf] at hv; exact nomatch hv
      · intro v hv; rw [hbuf] at hv; exact nomatch hv
      · intro c hc
        rw [hcs] at hc; rw [hmin]
        exact hall (fun c => m0.mean ≤ c.mean) (fun _ _ => cadd_lo) (firstMin_le hm0) c hc
      · intro c hc
        rw [hcs] at hc; rw [hmax]
        exact hall (fun c => c.mean ≤ M0.mean) (fun _ _ => cadd_hi) (lastMax_ge hM0) c hc
      · exact fun _ => Or.inr ⟨m0, by rw [hcs, hhead, hm0], hmin.symm⟩
      · exact fun _ => Or.inr ⟨M0, by rw [hcs, hlast, hM0], hmax.symm⟩
    exact ⟨hc, (Cover.of_least (hc.inv.least hc.nonempty).1 (hmin ▸ firstMin_least hm0)).trans (.of_perm hperm),
      (Cover.of_least (hc.inv.least hc.nonempty).2 (hmax ▸ lastMax_least hM0)).trans (.of_perm hperm)⟩

theorem compress_inv (sc : Scale Rat) (hsc : ScaleOK sc) (tun : Tun) (s : St Rat) (hs : Inv s) :
    Inv (compress sc tun s) ∧ (compress sc tun s).buf = [] ∧ (compress sc tun s).isEmpty = s.isEmpty ∧
    Cover (· ≤ ·) (vals (compress sc tun s)) (vals s) ∧ Cover (fun a b => b ≤ a) (vals (compress sc tun s)) (vals s) := by
  rcases compress_cases sc tun s with ⟨hb, he⟩ | ⟨hb, he⟩ <;> rw [he]
  · exact ⟨hs, hb, rfl, .refl _, .refl _⟩
  · -- nothing but the state's own values goes in
    obtain ⟨hc, c1, c2⟩ := mergeCore_inv sc hsc tun s (s.buf.map single) [] s.buf.length hs (List.append_nil _).symm
      (by simpa using hb) (by simp) (fun _ h => nomatch h) (fun _ h => nomatch h) (fun _ h => nomatch h)
    rw [List.map_nil, List.append_nil] at c1 c2
    exact ⟨hc.inv, hc.buf, hc.nonempty.trans ((isEmpty_false_iff s).2 (Or.inr hb)).symm, c1, c2⟩

theorem compress_extremes (sc : Scale Rat) (hsc : ScaleOK sc) (tun : Tun) (s : St Rat) (hs : Inv s)
    (hne : s.isEmpty = false) : (compress sc tun s).min = s.min ∧ (compress sc tun s).max = s.max := by
  obtain ⟨hi, _, he, c1, c2⟩ := compress_inv sc hsc tun s hs
  have l' := hi.least (he.trans hne)
  exact ⟨(l'.1.cover c1).unique (hs.least hne).1, (l'.2.cover c2).unique (hs.least hne).2⟩

theorem compress_compressed (sc : Scale Rat) (hsc : ScaleOK sc) (tun : Tun) (s : St Rat) (hs : Inv s)
    (hne : s.isEmpty = false) : Compressed (compress sc tun s) :=
  have ⟨hi, hb, he, _⟩ := compress_inv sc hsc tun s hs
  hi.compressed hb (he.trans hne)

theorem merge_inv_of_nonempty (sc : Scale Rat) (hsc : ScaleOK sc) (tun : Tun) (s o : St Rat) (hs : Inv s) (ho : Inv o)
    (hoe : o.isEmpty = false) :
    Compressed (merge sc tun s o) ∧ Cover (· ≤ ·) (vals (merge sc tun s o)) (vals s ++ vals o) ∧
    Cover (fun a b => b ≤ a) (vals (merge sc tun s o)) (vals s ++ vals o) := by
  rcases merge_cases sc tun s o with ⟨h, _⟩ | ⟨_, he⟩
  · exact nomatch h.symm.trans hoe
  · rw [he]
    have hp : (vals s ++ (o.buf.map single ++ o.cs).map (·.mean)).Perm (vals s ++ vals o) := by
      simp only [vals, List.map_append, List.map_map, Function.comp_def, single_mean, List.map_id']
      exact List.perm_append_comm.append_left _
    -- what comes in beside the state's own buffer is the other digest, whose extreme centroids are singletons
    obtain ⟨hc, c1, c2⟩ := mergeCore_inv sc hsc tun s (mergeTmp s o) (o.buf.map single ++ o.cs)
      (s.buf.length + o.totalWeight) hs (List.append_assoc ..) (mergeTmp_ne_nil hoe) (sumWeights_mergeTmp s o ho.cw)
      (List.forall_mem_append.2 ⟨fun c hc => (weight_singles _ c hc).ge, ho.pos⟩)
      ((headW1_singles _).append (HeadW1.of_sorted ho.sorted ho.headW))
      ((lastW1_singles _).append (LastW1.of_sorted ho.sorted ho.lastW))
    exact ⟨hc, c1.trans (.of_perm hp), c2.trans (.of_perm hp)⟩

/-- offering `v` to one extreme (`r` is `≤` for `min_`, `≥` for `max_`; `e` the end of the centroid list that can attain
it; `q` the new extreme: `v` itself if the state was empty, else what `std::min` / `std::max` pick): the three clauses of
`Inv` about that extreme survive -/
theorem push_extreme {r : Rat → Rat → Prop} [IsPartialOrder Rat r] {m p q v : Rat} {buf : List Rat} {cs : List C}
    {e : Option C} {emp : Bool} (hemp : emp = true → cs = [] ∧ buf = []) (hb : ∀ u ∈ buf, r m u)
    (hc : ∀ c ∈ cs, r m c.mean) (ha : emp = false → m ∈ buf ∨ ∃ c, e = some c ∧ c.mean = m)
    (hp : p = m ∧ r m v ∨ p = v ∧ r v m) (hq : q = if emp then v else p) :
    (∀ u ∈ buf ++ [v], r q u) ∧ (∀ c ∈ cs, r q c.mean) ∧ (q ∈ buf ++ [v] ∨ ∃ c, e = some c ∧ c.mean = q) := by
  subst hq
  cases emp
  · rcases hp with ⟨rfl, h⟩ | ⟨rfl, h⟩
    · exact ⟨fun u hu => (List.mem_append.1 hu).elim (hb u) fun hu => List.mem_singleton.1 hu ▸ h, hc,
        (ha rfl).imp (List.mem_append_left _) id⟩
    · exact ⟨fun u hu => (List.mem_append.1 hu).elim (fun hu => trans_of r h (hb u hu)) fun hu => List.mem_singleton.1 hu ▸ refl_of r p,
        fun c hc' => trans_of r h (hc c hc'), .inl (List.mem_append_right _ (List.mem_singleton_self p))⟩
  · obtain ⟨rfl, rfl⟩ := hemp rfl
    exact ⟨fun u hu => List.mem_singleton.1 hu ▸ refl_of r v, nofun, .inl (List.mem_singleton_self v)⟩

theorem push_inv (s1 : St Rat) (v : Rat) (h1 : Inv s1) : Inv (push s1 v) :=
  have ⟨a1, a2, a3⟩ := push_extreme (isEmpty_iff s1).1 h1.bufLo h1.csLo h1.minAtt (stdMin_pick s1.min v) rfl
  have ⟨b1, b2, b3⟩ := push_extreme (r := fun a b => b ≤ a) (isEmpty_iff s1).1 h1.bufHi h1.csHi h1.maxAtt
    (stdMax_pick s1.max v) rfl
  ⟨h1.sorted, h1.cw, h1.pos, h1.headW, h1.lastW, a1, b1, a2, b2, fun _ => a3, fun _ => b3⟩

/-! ### min_ / max_ are the exact extremes of the accepted values

Note where the merge case gets its information from: `merge(other)` never reads `other.min_/max_`; the new extremes are
the means of the first / last centroid after the merge, which are input elements because the extreme centroids are
singletons (`Inv.headW/lastW`, i.e. `ScaleOK`). -/

theorem inv_ext_eval (sc : Scale Rat) (hsc : ScaleOK sc) (tun : Tun) (h : Hist Rat) :
    Inv (h.eval sc tun) ∧ Cover (· ≤ ·) (vals (h.eval sc tun)) h.accepted ∧
    Cover (fun a b => b ≤ a) (vals (h.eval sc tun)) h.accepted :=
  eval_induction sc tun (P := fun A s => Inv s ∧ Cover (· ≤ ·) (vals s) A ∧ Cover (fun a b => b ≤ a) (vals s) A)
    (fun k => ⟨inv_init k, .refl _, .refl _⟩)
    (fun v _ ⟨hs, h1, h2⟩ => ⟨push_inv _ v hs, vals_push _ v ▸ h1.append (.refl _), vals_push _ v ▸ h2.append (.refl _)⟩)
    (fun ⟨hs, h1, h2⟩ =>
      have ⟨hi, _, _, c1, c2⟩ := compress_inv sc hsc tun _ hs
      ⟨hi, c1.trans h1, c2.trans h2⟩)
    (fun ⟨hs, h1, h2⟩ ⟨_, o1, o2⟩ hoe => ⟨hs, by simpa [vals_of_isEmpty hoe] using h1.append o1,
      by simpa [vals_of_isEmpty hoe] using h2.append o2⟩)
    (fun ⟨hs, h1, h2⟩ ⟨ho, o1, o2⟩ hoe =>
      have ⟨hc, c1, c2⟩ := merge_inv_of_nonempty sc hsc tun _ _ hs ho hoe
      ⟨hc.inv, c1.trans (h1.append o1), c2.trans (h2.append o2)⟩) h

theorem inv_eval (sc : Scale Rat) (hsc : ScaleOK sc) (tun : Tun) (h : Hist Rat) : Inv (h.eval sc tun) :=
  (inv_ext_eval sc hsc tun h).1

theorem eval_extremes (sc : Scale Rat) (hsc : ScaleOK sc) (tun : Tun) (h : Hist Rat) (hne : (h.eval sc tun).isEmpty = false) :
    Least (· ≤ ·) (h.eval sc tun).min h.accepted ∧ Least (fun a b => b ≤ a) (h.eval sc tun).max h.accepted :=
  have ⟨hi, c1, c2⟩ := inv_ext_eval sc hsc tun h
  ⟨(hi.least hne).1.cover c1, (hi.least hne).2.cover c2⟩

theorem eval_isEmpty_iff (sc : Scale Rat) (hsc : ScaleOK sc) (tun : Tun) (h : Hist Rat) :
    (h.eval sc tun).isEmpty = true ↔ h.accepted = [] := by
  refine ⟨fun he => Classical.byContradiction fun hA => (nomatch he.symm.trans (eval_nonempty sc tun h hA)), fun hA => ?_⟩
  -- a non-empty digest has its minimum among the accepted values
  cases he : (h.eval sc tun).isEmpty
  · have hm := (eval_extremes sc hsc tun h he).1.1
    rw [hA] at hm
    exact nomatch hm
  · rfl

end DS.TDigest
