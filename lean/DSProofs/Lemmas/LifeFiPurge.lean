/- C19 / FI: `hash_delete`, `subtract_and_keep_positive_only`, `purge`. -/
import DSProofs.Lemmas.LifeFiTable
namespace DS.Life.Fi
open DS.Life

theorem deleteLoop_spec (P : Params) (S : Nat → Bool) (k v s n : Nat) (hSk : S k = true) (hSv : S v = true)
    (hSs : S s = true) :
    ∀ f h d probe drift, Tbl true [] h k v s n → d < n → wordAt h s d = 0 → probe < n →
      SafeF S h (deleteLoop P k v s n f d probe drift h)
        (fun _ h' => Tbl true [] h' k v s n ∧ SameOutside [k, v, s] h h' ∧ cnt (act h' s) n = cnt (act h s) n) := by
  intro f
  induction f with
  | zero => intro h d probe drift _ _ _ _; exact SafeF.exc _
  | succ f ih =>
    intro h d probe drift T hd hwd hp
    rw [deleteLoop]
    apply vstep_readWord T.cs hp
    by_cases hw : wordAt h s probe > 0
    · rw [if_pos hw]
      by_cases hdr : wordAt h s probe > drift
      · rw [if_pos hdr, moveConstruct_bind]
        -- slots `d` and `probe` are out of the invariant until the entry has moved from `probe` to `d`
        have hdp : d ≠ probe := fun e => Nat.ne_of_gt hw (e ▸ hwd)
        have E : Tbl true [d, probe] h k v s n := T.exempt (fun _ hj => nomatch hj)
        have hdE : d ∈ [d, probe] := .head _
        have hpE : probe ∈ [d, probe] := .tail _ (.head _)
        -- K(std::move(keys_[probe])) into keys_[delete_index]
        obtain ⟨x, hx⟩ := (T.slot probe hp List.not_mem_nil).live_of_pos hw
        obtain ⟨ckp, eckp, estkp, _⟩ := cell_of_stAt_ne_raw (h := h) (b := k) (i := probe) (by rw [hx]; simp)
        apply stepR_moveFrom eckp (estkp.trans hx) hSk
        intro h1 u1
        have T1 := E.upd u1 (.inl rfl) (.inr hpE)
        obtain ⟨ckd, eckd, _, estkd⟩ := T1.ck.cell_st hd
        apply stepR_construct x eckd
          (estkd.trans ((u1.stAt_idx hdp k).trans ((T.slot d hd List.not_mem_nil).raw_of_zero hwd))) hSk
        intro h2 u2
        have T2 := T1.upd u2 (.inl rfl) (.inr hdE)
        -- values_[delete_index] = values_[probe]
        apply vstep_readWord T2.cv hp
        obtain ⟨cvd, ecvd⟩ := T2.cv.cell hd
        apply stepR_writeWord _ ecvd hSv
        intro h3 u3
        have T3 := T2.upd u3 (.inr (stAt_of ecvd).symm) (.inl rfl)
        have es3 : h3.find? s = h.find? s :=
          (u3.out s T.vs.symm).trans ((u2.out s T.ks.symm).trans (u1.out s T.ks.symm))
        -- states_[delete_index] = states_[probe] - drift
        obtain ⟨csd, ecsd, _, estsd⟩ := T3.cs.cell_st hd
        apply stepR_writeWord (wordAt h s probe - drift) ecsd hSs
        intro h4 u4
        have T4 := T3.upd u4 (.inr estsd) (.inr hdE)
        -- states_[probe] = 0
        obtain ⟨csp, ecsp, _, estsp⟩ := T4.cs.cell_st hp
        apply stepR_writeWord 0 ecsp hSs
        intro h5 u5
        have T5 := T4.upd u5 (.inr estsp) (.inr hpE)
        -- keys_[probe].~K()
        have hmv : stAt h5 k probe = .moved := by
          rw [u5.stAt_blk T.ks, u4.stAt_blk T.ks, u3.stAt_blk T.kv, u2.stAt_idx hdp.symm, u1.stAt_eq]
        obtain ⟨ckp5, eckp5, estkp5, _⟩ := cell_of_stAt_ne_raw (h := h5) (b := k) (i := probe) (by rw [hmv]; simp)
        apply stepR_destroy eckp5 (by rw [estkp5, hmv]; simp) hSk
        intro h6 u6
        -- slot `d` now holds the entry, slot `probe` is empty
        have hwp6 : wordAt h6 s probe = 0 := (u6.wordAt_blk T.ks.symm probe).trans u5.wordAt_eq
        have T7 : Tbl true [] h6 k v s n := by
          refine (T5.upd u6 (.inl rfl) (.inr hpE)).close (fun j hj _ => ?_)
          rcases List.mem_cons.1 hj with e | e
          · refine e ▸ SlotOK.active (x := x) ?_ ?_
            · rw [u6.wordAt_blk T.ks.symm, u5.wordAt_idx hdp, u4.wordAt_eq]; exact Nat.sub_pos_of_lt hdr
            · rw [u6.stAt_idx hdp, u5.stAt_blk T.ks, u4.stAt_blk T.ks, u3.stAt_blk T.kv, u2.stAt_eq]
          · exact List.mem_singleton.1 e ▸ SlotOK.inactive hwp6 u6.stAt_eq
        have hcnt : cnt (act h6 s) n = cnt (act h s) n := by
          have c4 := cnt_upd_on u4 hd ((wordAt_congr es3 d).trans hwd) (Nat.sub_pos_of_lt hdr)
          have c5 := cnt_upd_off u5 hp (((u4.wordAt_idx hdp.symm s).trans (wordAt_congr es3 probe)) ▸ hw) rfl
          rw [act_congr (u6.out s T.ks.symm), ← act_congr es3]
          exact Nat.add_right_cancel (c5.trans c4)
        have sb6 : SameOutside [k, v, s] h h6 :=
          (((((u1.sameOutside (.head _)).trans (u2.sameOutside (.head _))).trans (u3.sameOutside (.tail _ (.head _)))).trans
            (u4.sameOutside (.tail _ (.tail _ (.head _))))).trans (u5.sameOutside (.tail _ (.tail _ (.head _))))).trans
            (u6.sameOutside (.head _))
        by_cases hdl : 1 ≥ P.driftLimit
        · rw [if_pos hdl]; exact SafeF.exc _
        · rw [if_neg hdl]
          refine SafeF.mono (ih h6 probe ((probe + 1) % n) 1 T7 hp hwp6 (Nat.mod_lt _ (Nat.zero_lt_of_lt hp))) ?_
          intro _ h' ⟨T', sb', c'⟩
          exact ⟨T', sb6.trans sb', c'.trans hcnt⟩
      · rw [if_neg hdr]
        by_cases hdl : drift + 1 ≥ P.driftLimit
        · rw [if_pos hdl]; exact SafeF.exc _
        · rw [if_neg hdl]
          exact ih h d ((probe + 1) % n) (drift + 1) T hd hwd (Nat.mod_lt _ (Nat.zero_lt_of_lt hp))
    · rw [if_neg hw]
      exact SafeF.pure ⟨T, SameOutside.refl _ _, rfl⟩

theorem hashDelete_spec (P : Params) (S : Nat → Bool) (k v s n : Nat) (hSk : S k = true) (hSv : S v = true)
    (hSs : S s = true) (h : Heap) (d : Nat) (T : Tbl true [] h k v s n) (hd : d < n) (hw : 0 < wordAt h s d) :
    SafeF S h (hashDelete P k v s n d h)
      (fun _ h' => Tbl true [] h' k v s n ∧ SameOutside [k, v, s] h h' ∧ cnt (act h' s) n + 1 = cnt (act h s) n) := by
  unfold hashDelete
  have E : Tbl true [d] h k v s n := T.exempt (fun _ hj => nomatch hj)
  obtain ⟨cs, ecs, _, ests⟩ := T.cs.cell_st hd
  apply stepR_writeWord 0 ecs hSs
  intro h1 u1
  have T1 := E.upd u1 (.inr ests) (.inr (.head _))
  have hnr : stAt h1 k d ≠ .raw := (u1.stAt_blk T.ks d).symm ▸ (T.slot d hd List.not_mem_nil).nonraw_of_pos hw
  obtain ⟨ck, eck, estk, _⟩ := cell_of_stAt_ne_raw hnr
  apply stepR_destroy eck (estk ▸ hnr) hSk
  intro h2 u2
  have hw2 : wordAt h2 s d = 0 := (u2.wordAt_blk T.ks.symm d).trans u1.wordAt_eq
  have T3 : Tbl true [] h2 k v s n :=
    (T1.upd u2 (.inl rfl) (.inr (.head _))).close (fun j hj _ => List.mem_singleton.1 hj ▸ SlotOK.inactive hw2 u2.stAt_eq)
  have hcnt : cnt (act h2 s) n + 1 = cnt (act h s) n := by
    rw [act_congr (u2.out s T.ks.symm)]
    exact cnt_upd_off u1 hd hw rfl
  have sb2 : SameOutside [k, v, s] h h2 := (u1.sameOutside (.tail _ (.tail _ (.head _)))).trans (u2.sameOutside (.head _))
  refine SafeF.mono (deleteLoop_spec P S k v s n hSk hSv hSs n h2 d ((d + 1) % n) 1 T3 hd hw2
    (Nat.mod_lt _ (Nat.zero_lt_of_lt hd))) ?_
  intro _ h' ⟨T', sb', c'⟩
  exact ⟨T', sb2.trans sb', c'.symm ▸ hcnt⟩

theorem subtractStep_spec (P : Params) (S : Nat → Bool) (k v s n amount : Nat) (hSk : S k = true) (hSv : S v = true)
    (hSs : S s = true) (h : Heap) (probe na : Nat) (T : Tbl true [] h k v s n) (hp : probe < n) :
    SafeF S h (subtractStep P k v s n amount probe na h)
      (fun na' h' => Tbl true [] h' k v s n ∧ SameOutside [k, v, s] h h' ∧
        (na = cnt (act h s) n → na' = cnt (act h' s) n)) := by
  unfold subtractStep
  apply vstep_readWord T.cs hp
  by_cases hw : wordAt h s probe > 0
  · rw [if_pos hw]
    obtain ⟨cv, ecv⟩ := T.cv.cell hp
    apply step_readWord ecv
    by_cases hle : cv.word ≤ amount
    · rw [if_pos hle]
      apply SafeF.bind (hashDelete_spec P S k v s n hSk hSv hSs h probe T hp hw)
      intro _ h' ⟨T', sb', c'⟩ _
      exact SafeF.pure ⟨T', sb', fun e => Nat.sub_eq_of_eq_add (e.trans c'.symm)⟩
    · rw [if_neg hle]
      apply stepR_writeWord _ ecv hSv
      intro h' up
      exact SafeF.pure ⟨T.upd up (.inr (stAt_of ecv).symm) (.inl rfl), up.sameOutside (.tail _ (.head _)), fun e => by rw [act_congr (up.out s T.vs.symm)]; exact e⟩
  · rw [if_neg hw]
    exact SafeF.pure ⟨T, SameOutside.refl _ _, fun e => e⟩

/-- the backwards search for an empty cell cannot underflow when the table is not full -/
theorem firstProbeLoop_spec (S : Nat → Bool) (s n : Nat) (h : Heap) (hc : HasCells h s n)
    (hroom : cnt (act h s) n < n) :
    ∀ f p, p < n → (∀ j, p < j → j < n → act h s j = true) →
      SafeF S h (firstProbeLoop s f p h) (fun r h' => h' = h ∧ r < n) := by
  intro f
  induction f with
  | zero => intro p _ _; exact SafeF.exc _
  | succ f ih =>
    intro p hp hall
    rw [firstProbeLoop]
    apply vstep_readWord hc hp
    by_cases hw : wordAt h s p > 0
    · rw [if_pos hw]
      have hall' : ∀ j, p ≤ j → j < n → act h s j = true := fun j hpj hj =>
        (Nat.eq_or_lt_of_le hpj).elim (fun e => e ▸ act_pos.2 hw) (fun hlt => hall j hlt hj)
      by_cases hp0 : p = 0
      · exact absurd (cnt_full (fun j hj => hall' j (hp0 ▸ Nat.zero_le j) hj)) (Nat.ne_of_lt hroom)
      · rw [if_neg hp0]
        exact ih (p - 1) (Nat.lt_of_le_of_lt (Nat.sub_le p 1) hp) (fun j hj1 hj2 => hall' j (Nat.le_of_pred_lt hj1) hj2)
    · rw [if_neg hw]
      exact SafeF.pure ⟨rfl, hp⟩

theorem foldDown_zero {σ} (body : Nat → σ → M σ) (st : Nat) (a : σ) : foldDown body 0 st a = pure a := rfl

/-- invariant rule for `foldDown`, the downward fold that only `subtract_and_keep_positive_only` uses (hence defined in the FI model) -/
theorem foldDown_safe {σ} {S : Nat → Bool} (I : σ → Heap → Prop) (body : Nat → σ → M σ) (start : Nat) :
    ∀ cnt, (∀ c a h, c < cnt → I a h → SafeF S h (body (start + c) a h) I) →
      ∀ a h, I a h → SafeF S h (foldDown body cnt start a h) I := by
  intro cnt
  induction cnt with
  | zero => intro _ a h hI; exact SafeF.pure hI
  | succ c ih =>
    intro hbody a h hI
    rw [foldDown]
    apply SafeF.bind (hbody c a h (Nat.lt_succ_self c) hI)
    intro a' h' hI' _
    exact ih (fun c' a h hc => hbody c' a h (Nat.lt_succ_of_lt hc)) a' h' hI'

theorem subtractAndKeepPositiveOnly_spec (P : Params) (S : Nat → Bool) (k v s n amount : Nat) (hSk : S k = true) (hSv : S v = true)
    (hSs : S s = true) (h : Heap) (na : Nat) (T : Tbl true [] h k v s n) (hna : na = cnt (act h s) n) (hroom : na < n) :
    SafeF S h (subtractAndKeepPositiveOnly P k v s n amount na h)
      (fun na' h' => Tbl true [] h' k v s n ∧ SameOutside [k, v, s] h h' ∧ na' = cnt (act h' s) n) := by
  unfold subtractAndKeepPositiveOnly
  have hn : n ≠ 0 := Nat.ne_of_gt (Nat.zero_lt_of_lt hroom)
  apply SafeF.bind (firstProbeLoop_spec S s n h T.cs (hna ▸ hroom) n (n - 1) (Nat.sub_one_lt hn)
    (fun j h1 h2 => absurd h2 (Nat.not_lt_of_le (Nat.le_of_pred_lt h1))))
  intro fp h1 ⟨e1, hfp⟩ _
  subst e1
  let I : Nat → Heap → Prop := fun a h' => Tbl true [] h' k v s n ∧ SameOutside [k, v, s] h1 h' ∧ a = cnt (act h' s) n
  have step : ∀ start cnt0, start + cnt0 ≤ n → ∀ a h', I a h' →
      SafeF S h' (foldDown (subtractStep P k v s n amount) cnt0 start a h') I := by
    intro start cnt0 hle
    apply foldDown_safe I
    intro c a h' hc ⟨T', sb', ea⟩
    refine SafeF.mono (subtractStep_spec P S k v s n amount hSk hSv hSs h' (start + c) a T'
      (Nat.lt_of_lt_of_le (Nat.add_lt_add_left hc start) hle)) ?_
    intro a'' h'' ⟨T'', sb'', ea''⟩
    exact ⟨T'', sb'.trans sb'', ea'' ea⟩
  apply SafeF.bind (step 0 fp ((Nat.zero_add fp).symm ▸ Nat.le_of_lt hfp) na h1 ⟨T, SameOutside.refl _ _, hna⟩)
  intro na1 h2 hI2 _
  exact step fp (n - fp) (Nat.le_of_eq (Nat.add_sub_cancel' (Nat.le_of_lt hfp))) na1 h2 hI2

theorem sampleLoop_spec (S : Nat → Bool) (k v s n sm limit : Nat) (hSm : S sm = true) (h0 : Heap)
    (T : Tbl true [] h0 k v s n) (hvm : v ≠ sm) (hsm : s ≠ sm) (hlim : limit ≤ cnt (act h0 s) n) :
    ∀ f i num h, i ≤ n → num = cnt (act h0 s) i → SameOutside [sm] h0 h → HasCells h sm limit →
      (∀ j, stAt h sm j = stAt h0 sm j) →
      SafeF S h (sampleLoop v s sm limit f i num h)
        (fun _ h' => SameOutside [sm] h0 h' ∧ HasCells h' sm limit ∧ ∀ j, stAt h' sm j = stAt h0 sm j) := by
  intro f
  induction f with
  | zero => intro i num h _ _ sb hc hst; exact SafeF.pure ⟨sb, hc, hst⟩
  | succ f ih =>
    intro i num h hi hnum sb hc hst
    rw [sampleLoop]
    by_cases hlt : num < limit
    · rw [if_pos hlt]
      -- the samples are not complete, so an active slot is still ahead
      have hin : i < n := Nat.lt_of_le_of_ne hi (fun e =>
        Nat.lt_irrefl _ (Nat.lt_of_lt_of_le hlt (by rw [hnum, e]; exact hlim)))
      have es : h.find? s = h0.find? s := sb.out s (fun e => hsm (List.mem_singleton.1 e))
      have ev : h.find? v = h0.find? v := sb.out v (fun e => hvm (List.mem_singleton.1 e))
      apply vstep_readWord (HasCells_congr es T.cs) hin
      rw [wordAt_congr es]
      by_cases hw : wordAt h0 s i > 0
      · rw [if_pos hw]
        apply vstep_readWord (HasCells_congr ev T.cv) hin
        obtain ⟨cm, ecm⟩ := hc.cell hlt
        apply stepR_writeWord _ ecm hSm
        intro h' up
        exact ih (i + 1) (num + 1) h' hin (by rw [cnt_succ, act_pos.2 hw, hnum]; rfl) (sb.trans (up.sameOutside (.head _)))
          (up.hasCells hc) (fun j => (up.stAt_same ecm rfl sm j).trans (hst j))
      · rw [if_neg hw]
        exact ih (i + 1) num h hin (by rw [cnt_succ, act_zero.2 (Nat.eq_zero_of_not_pos hw), hnum]; rfl) sb hc hst
    · rw [if_neg hlt]
      exact SafeF.pure ⟨sb, hc, hst⟩

theorem readWords_spec (n0 : Nat) (S : Nat → Bool) (b n : Nat) (h0 : Heap) (hc : HasCells h0 b n) :
    TripleS n0 S (fun h => h = h0) (readWords b n) (fun _ h' => h' = h0) := by
  unfold readWords
  have := TripleS.foldUp (n0 := n0) (S := S) (fun _ (_ : List Nat) h => h = h0)
    (fun i acc => do let w ← readWord b i; pure (acc ++ [w])) n 0 [] ?_
  · exact this
  · intro i a _ hi h _ e
    subst e
    apply vstep_readWord hc (Nat.zero_add n ▸ hi)
    exact SafeF.pure rfl

theorem purge_spec (P : Params) (n0 : Nat) (S : Nat → Bool) (m : Map) (k v s : Nat) (hSk : S k = true) (hSv : S v = true)
    (hSs : S s = true) (hS : ∀ b, n0 ≤ b → S b = true) (h0 : Heap) :
    TripleS n0 S
      (fun h => h = h0 ∧ Tbl true [] h k v s (2 ^ m.lgCur) ∧ m.numActive = cnt (act h s) (2 ^ m.lgCur) ∧
        m.numActive < 2 ^ m.lgCur ∧ IdsLt h)
      (purge P m k v s)
      (fun r h' => Tbl true [] h' k v s (2 ^ m.lgCur) ∧ r.2 = cnt (act h' s) (2 ^ m.lgCur) ∧
        Grown h0 h' [k, v, s] [k, v, s] []) := by
  intro h hn ⟨he, T, hna, hroom, hlt⟩
  subst he
  unfold purge
  have hne : ∀ b, b ∈ [k, v, s] → b ≠ h.next := fun b hb => Nat.ne_of_lt (T.ids b hb).2
  -- the samples: a temporary block `h.next`, owned until it is released
  apply gstep_alloc _ _ (Grown.refl (X := []) hlt (fun b hb => (T.ids b hb).1)) (hS _ hn)
  intro h1 g1 hnew R1 old1 nx1
  obtain ⟨T1, a1⟩ := T.of_agree (fun b hb => old1 b (hne b hb)) (nx1 ▸ Nat.le_succ _)
  apply SafeF.bind (sampleLoop_spec S k v s (2 ^ m.lgCur) h.next (min P.maxSample m.numActive) (hS _ hn) h1 T1
    (hne v (.tail _ (.head _))) (hne s (.tail _ (.tail _ (.head _)))) (by rw [a1, ← hna]; exact Nat.min_le_right _ _)
    (2 ^ m.lgCur + 1) 0 0 h1 (Nat.zero_le _) rfl (SameOutside.refl _ _) R1.cells (fun _ => rfl))
  intro _ h2 ⟨sb2, hc2, hst2⟩ _
  apply SafeF.bind_triple (readWords_spec 0 S h.next (min P.maxSample m.numActive) h2 hc2) (Nat.zero_le _) rfl
  intro ws h2' e2 _
  subst e2
  apply gstep_dealloc (g1.sameOutside sb2 (fun b hb => Or.inl (List.mem_singleton.1 hb ▸ .head _))) hlt hc2
    (fun i _ => (hst2 i).trans (R1.raw i)) (hS _ hn) (.head _) (mem_append_cons_ne (A := []) List.not_mem_nil hnew)
  intro h3 g3 old3 nx3
  obtain ⟨T3, a3⟩ := T1.of_agree (h' := h3) (fun b hb => (old3 b (hne b hb)).trans
    (sb2.out b (fun e => hne b hb (List.mem_singleton.1 e)))) (Nat.le_of_eq (nx3.trans sb2.next).symm)
  apply SafeF.bind (subtractAndKeepPositiveOnly_spec P S k v s (2 ^ m.lgCur) _ hSk hSv hSs h3 m.numActive T3 (by rw [a3, a1]; exact hna) hroom)
  intro na' h4 ⟨T4, sb4, hna4⟩ _
  exact SafeF.pure ⟨T4, hna4, g3.sameOutside sb4 (fun _ hb => Or.inl hb)⟩

end DS.Life.Fi
