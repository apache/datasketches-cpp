/- C19 / FI: `resize`, `resize_or_purge_if_needed`, `adjust_or_insert`, `update`. -/
import DSProofs.Lemmas.LifeFiArrays
import DSProofs.Lemmas.LifeFiInsert
import DSProofs.Lemmas.LifeFiPurge
namespace DS.Life.Fi
open DS.Life

/-- one round of the re-insertion loop of `resize`: the lambda inside `Fi.resize` under a name, so that `resizeBody_spec` can speak
    of it; `resize_spec` hands it to `TripleS.foldUp`, where it matches the model's lambda by unfolding -/
def resizeBody (P : Params) (ok ov os : Nat) (i : Nat) (mm : Map) : M Map := do
  let st ← readWord os i
  if st > 0 then
    let w ← readWord ov i
    let r ← adjustOrInsertNoGrow P mm (.moveOf ok i) w
    if r.1.numActive > getCapacity P r.1.lgCur then throwExc "nested resize/purge during resize" else
    destroy ok i
    pure r.1
  else pure mm

/-- invariant of the re-insertion loop of `resize` at old slot `i`: the new table `mm` (arrays `k`, `v`, `s`) is usable; only it
    and the old keys array `ok` differ from `h4`, the heap when the loop started; the old keys below `i` are destroyed, the others
    untouched -/
def ResizeInv (P : Params) (lgNew lgMax k v s ok nOld : Nat) (h4 : Heap) (i : Nat) (mm : Map) (h : Heap) : Prop :=
  Usable P h mm ∧ (∃ na, mm = ⟨lgNew, lgMax, na, some k, some v, some s⟩) ∧ SameOutside [ok, k, v, s] h4 h ∧
  HasCells h ok nOld ∧ Swept (stAt h4 ok) (stAt h ok) i (fun _ st => st = .raw)

theorem resizeBody_spec (P : Params) (n0 : Nat) (S : Nat → Bool) (lgNew lgMax k v s ok ov os nOld : Nat) (h4 : Heap)
    (T0 : Tbl true [] h4 ok ov os nOld) (hos : os ∉ [ok, k, v, s]) (hov : ov ∉ [ok, k, v, s]) (hok : ok ∉ [k, v, s])
    (hS : ∀ b, b ∈ [ok, k, v, s] → S b = true) (i : Nat) (hi : i < nOld) (mm : Map) :
    TripleS n0 S (ResizeInv P lgNew lgMax k v s ok nOld h4 i mm) (resizeBody P ok ov os i mm)
      (fun mm' h => ResizeInv P lgNew lgMax k v s ok nOld h4 (i + 1) mm' h) := by
  intro h hn ⟨hu, ⟨na, hmm⟩, sb, hc, sw⟩
  subst hmm
  unfold resizeBody
  have eos : h.find? os = h4.find? os := sb.out os hos
  have eov : h.find? ov = h4.find? ov := sb.out ov hov
  have hsub : ∀ b, b ∈ owned (⟨lgNew, lgMax, na, some k, some v, some s⟩ : Map) ++ srcBlk (.moveOf ok i) →
      b ∈ [ok, k, v, s] := fun b hb =>
    (List.mem_append.1 hb).elim (List.mem_cons_of_mem _) fun e => List.mem_singleton.1 e ▸ .head _
  apply vstep_readWord (HasCells_congr eos T0.cs) hi
  rw [wordAt_congr eos]
  have hslot := T0.slot i hi List.not_mem_nil
  by_cases hw : wordAt h4 os i > 0
  · rw [if_pos hw]
    apply vstep_readWord (HasCells_congr eov T0.cv) hi
    obtain ⟨x, hx⟩ := hslot.live_of_pos hw
    have hx' : stAt h ok i = .live x := (sw.rest i (Nat.le_refl _)).trans hx
    apply SafeF.bind_triple (adjustOrInsertNoGrow_spec P n0 S ⟨lgNew, lgMax, na, some k, some v, some s⟩ (.moveOf ok i) _
      (fun b hb => hS b (hsub b hb)) h) hn ⟨rfl, hu, hok, x, hx'⟩
    intro r h1 ⟨hu1, ⟨na', hr⟩, sb1, hmv⟩ _
    by_cases hcap : r.1.numActive > getCapacity P r.1.lgCur
    · rw [if_pos hcap]; exact SafeF.exc _
    · rw [if_neg hcap]
      have hmv' : MovedAt h h1 ok i := hmv
      have hnr : stAt h1 ok i ≠ .raw := by
        rcases hmv'.cell with e | e <;> rw [e] <;> simp [hx']
      obtain ⟨c1, ec1, est1, _⟩ := cell_of_stAt_ne_raw hnr
      apply stepR_destroy ec1 (est1 ▸ hnr) (hS ok (.head _))
      intro h2 up
      -- the new table's blocks are `[k, v, s]`, so the destroyed cell of `ok` is none of theirs
      have hown1 : ∀ b, b ∈ owned r.1 → b ≠ ok := fun b hb e => hok (by rw [hr] at hb; exact e ▸ hb)
      exact SafeF.pure ⟨InvG.local (fun b hb => up.out b (hown1 b hb)) (Nat.le_of_eq up.next.symm) hu1, ⟨na', hr⟩,
        (sb.trans (sb1.mono hsub)).trans (up.sameOutside (.head _)),
        up.hasCells (by simpa only [HasCells, hmv'.count] using hc),
        sw.step (fun j hj => (up.stAt_idx hj ok).trans (hmv'.other j hj)) up.stAt_eq⟩
  · rw [if_neg hw]
    exact SafeF.pure ⟨hu, ⟨na, rfl⟩, sb, hc, sw.skip (hslot.raw_of_zero (Nat.eq_zero_of_not_pos hw))⟩

theorem resize_spec (P : Params) (n0 : Nat) (S : Nat → Bool) (m : Map) (lgNew : Nat) (hS : ∀ b, n0 ≤ b → S b = true)
    (hSo : ∀ b, b ∈ owned m → S b = true) (hlgN : P.lgMinMap ≤ lgNew) (h0 : Heap) :
    TripleS n0 S (fun h => h = h0 ∧ Usable P h m ∧ IdsLt h) (resize P m lgNew)
      (fun m1 h' => Usable P h' m1 ∧ Grown h0 h' (owned m) (owned m1) []) := by
  intro h hn ⟨he, hu, hlt⟩
  subst he
  obtain ⟨ok, ov, os, hk, hv, hs, ho, T, _⟩ := Usable.ptrs hu
  rw [ho] at hSo ⊢
  unfold resize
  rw [hk, hv, hs]
  apply step_deref
  apply step_deref
  apply step_deref
  have hS' : ∀ b, h.next ≤ b → S b = true := fun b hb => hS b (Nat.le_trans hn hb)
  apply gstep_newTable _ (Grown.refl (X := []) hlt (fun b hb => (T.ids b hb).1)) hS'
  intro h4 k v s g4 Tn hcn hold4 hnew hnx4
  have T4 := (T.of_agree (fun b hb => hold4 b (T.ids b hb).2) hnx4).1
  have hdis : ∀ b, b ∈ [k, v, s] → b ∉ [ok, ov, os] := fun b hb hm =>
    Nat.lt_irrefl _ (Nat.lt_of_lt_of_le (T.ids b hm).2 (hnew b hb))
  have hS4 : ∀ b, b ∈ [ok, k, v, s] → S b = true := fun b hb =>
    (List.mem_cons.1 hb).elim (fun e => hSo b (e ▸ .head _)) fun e => hS' b (hnew b e)
  have hout : ∀ b, b ∈ [ok, ov, os] → b ≠ ok → b ∉ [ok, k, v, s] := fun b hb hne hm =>
    (List.mem_cons.1 hm).elim hne fun e => hdis b e hb
  apply SafeF.bind_triple (TripleS.foldUp (ResizeInv P lgNew m.lgMax k v s ok (2 ^ m.lgCur) h4)
    (resizeBody P ok ov os) (2 ^ m.lgCur) 0 ⟨lgNew, m.lgMax, 0, some k, some v, some s⟩
    (fun i a _ hi => resizeBody_spec P 0 S lgNew m.lgMax k v s ok ov os (2 ^ m.lgCur) h4 T4
      (hout os (.tail _ (.tail _ (.head _))) (Ne.symm T.ks)) (hout ov (.tail _ (.head _)) (Ne.symm T.kv))
      (fun e => hdis ok e (.head _)) hS4 i (Nat.zero_add (2 ^ m.lgCur) ▸ hi) a)) (Nat.zero_le _)
    ⟨⟨hlgN, Nat.zero_le _, Tn, hcn.symm⟩, ⟨0, rfl⟩, SameOutside.refl _ _, T4.ck, Swept.init _ _⟩
  intro m1 h5 ⟨hu5, ⟨na, hm1⟩, sb5, hc5, sw5⟩ _
  subst hm1
  apply gstep_dealloc3 (g4.sameOutside sb5 (fun b hb => Or.inl ((List.mem_cons.1 hb).elim
      (fun e => List.mem_append_right _ (e ▸ .head _)) (List.mem_append_left _)))) hlt (fun b hb hm => hdis b hm hb)
    T4 (sb5.out ov (hout ov (.tail _ (.head _)) (Ne.symm T.kv))) (sb5.out os (hout os (.tail _ (.tail _ (.head _))) (Ne.symm T.ks)))
    hc5 (fun j hj => sw5.done j (Nat.zero_add _ ▸ hj)) hSo
  intro h6 g6 hnext6 hout6
  exact SafeF.pure ⟨InvG.local (fun b hb => hout6 b (hdis b hb)) (Nat.le_of_eq hnext6.symm) hu5, g6⟩

theorem resizeOrPurgeIfNeeded_spec (P : Params) (hP : P.OK) (n0 : Nat) (S : Nat → Bool) (m : Map) (hS : ∀ b, n0 ≤ b → S b = true)
    (hSo : ∀ b, b ∈ owned m → S b = true) (h0 : Heap) :
    TripleS n0 S (fun h => h = h0 ∧ Usable P h m ∧ IdsLt h) (resizeOrPurgeIfNeeded P m)
      (fun r h' => Usable P h' r.1 ∧ Grown h0 h' (owned m) (owned r.1) []) := by
  intro h hn ⟨he, hu, hlt⟩
  subst he
  unfold resizeOrPurgeIfNeeded
  by_cases hfull : m.numActive > getCapacity P m.lgCur
  · rw [if_pos hfull]
    by_cases hgrow : m.lgCur < m.lgMax
    · rw [if_pos hgrow]
      apply SafeF.bind_triple (resize_spec P n0 S m (m.lgCur + 1) hS hSo (Nat.le_succ_of_le hu.lg) h) hn ⟨rfl, hu, hlt⟩
      intro m' h' post _
      exact SafeF.pure post
    · rw [if_neg hgrow]
      obtain ⟨k, v, s, hk, hv, hs, ho, T, hc⟩ := Usable.ptrs hu
      have hroom : m.numActive < 2 ^ m.lgCur := Nat.lt_of_lt_of_le (Nat.lt_succ_of_le hu.cap) (cap_room hP hu.lg)
      rw [ho] at hSo ⊢
      rw [hk, hv, hs]
      apply step_deref
      apply step_deref
      apply step_deref
      apply SafeF.bind_triple (purge_spec P n0 S m k v s (hSo k (.head _))
        (hSo v (.tail _ (.head _))) (hSo s (.tail _ (.tail _ (.head _)))) hS h) hn ⟨rfl, T, hc, hroom, hlt⟩
      intro r h' ⟨T', hr, g⟩ _
      by_cases hbad : r.2 > getCapacity P m.lgCur
      · rw [if_pos hbad]; exact SafeF.exc _
      · rw [if_neg hbad]
        exact SafeF.pure ⟨InvG.mk_some rfl rfl rfl hu.lg (Nat.le_succ_of_le (Nat.le_of_not_gt hbad)) T' hr, g⟩
  · rw [if_neg hfull]
    exact SafeF.pure ⟨hu, Grown.refl hlt (fun b hb => (hu.inv.owned_ids b hb).1)⟩

theorem adjustOrInsert_spec (P : Params) (hP : P.OK) (n0 : Nat) (S : Nat → Bool) (m : Map) (src : KeySrc) (w : Nat)
    (hS : ∀ b, n0 ≤ b → S b = true) (hSo : ∀ b, b ∈ owned m ++ srcBlk src → S b = true) (h0 : Heap) :
    TripleS n0 S (fun h => h = h0 ∧ Usable P h m ∧ SrcOK h (owned m) src ∧ IdsLt h ∧ (∀ b, b ∈ srcBlk src → b < h.next))
      (adjustOrInsert P m src w)
      (fun r h' => Usable P h' r.1 ∧ Grown h0 h' (owned m) (owned r.1) (srcBlk src) ∧ SrcPost h0 h' src) := by
  intro h hn ⟨he, hu, hsrc, hlt, hblt⟩
  subst he
  unfold adjustOrInsert
  have hids := hu.inv.owned_ids
  apply SafeF.bind_triple (adjustOrInsertNoGrow_spec P n0 S m src w hSo h) hn ⟨rfl, hu, hsrc⟩
  intro r h1 ⟨hu1, ⟨na, hr⟩, sb1, hpost1⟩ _
  have hown1 : owned r.1 = owned m := by rw [hr]; rfl
  have g1 : Grown h h1 (owned m) (owned r.1) (srcBlk src) := by
    rw [hown1]; exact Grown.of_sameOutside sb1 hlt (fun b hb => (hids b hb).1)
  by_cases hnew : r.2 = true
  · rw [if_pos hnew]
    have hSo1 : ∀ b, b ∈ owned r.1 → S b = true := by
      intro b hb; exact hSo b (List.mem_append_left _ (hown1 ▸ hb))
    refine SafeF.mono (resizeOrPurgeIfNeeded_spec P hP n0 S r.1 hS hSo1 h1 h1 (by rw [sb1.next]; exact hn) ⟨rfl, hu1, g1.lt⟩) ?_
    intro r2 h2 ⟨hu2, g2⟩
    refine ⟨hu2, g1.trans (g2.weakenX (fun _ e => absurd e List.not_mem_nil)) hlt, hpost1.trans (SrcPost.of_find? (fun b hb => ?_))⟩
    refine g2.out b ?_ List.not_mem_nil (by rw [sb1.next]; exact hblt b hb)
    rw [hown1]; exact hsrc.notOwn b hb
  · rw [if_neg hnew]
    exact SafeF.pure ⟨hu1, g1, hpost1⟩

theorem update_spec (P : Params) (hP : P.OK) (n0 : Nat) (S : Nat → Bool) (s : Sketch) (src : KeySrc) (w : Nat)
    (hS : ∀ b, n0 ≤ b → S b = true) (hSo : ∀ b, b ∈ owned s.map ++ srcBlk src → S b = true) (h0 : Heap) :
    TripleS n0 S
      (fun h => h = h0 ∧ Usable P h s.map ∧ SrcOK h (owned s.map) src ∧ IdsLt h ∧ (∀ b, b ∈ srcBlk src → b < h.next))
      (Sketch.update P s src w)
      (fun s' h' => Usable P h' s'.map ∧ Grown h0 h' (owned s.map) (owned s'.map) (srcBlk src) ∧ SrcPost h0 h' src) := by
  intro h hn ⟨he, hu, hsrc, hlt, hblt⟩
  subst he
  unfold Sketch.update
  by_cases hw : w = 0
  · rw [if_pos hw]
    apply SafeF.pure
    exact ⟨hu, Grown.refl hlt (fun b hb => (hu.inv.owned_ids b hb).1),
      SrcPost.of_find? (fun _ _ => rfl)⟩
  · rw [if_neg hw]
    apply SafeF.bind_triple (adjustOrInsert_spec P hP n0 S s.map src w hS hSo h) hn ⟨rfl, hu, hsrc, hlt, hblt⟩
    intro r h' post _
    exact SafeF.pure post

end DS.Life.Fi
