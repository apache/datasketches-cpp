/-
`pack_bits_19` of the pinned source as a literal (the translation of bit_packing.hpp at the pinned commit): its 15th
statement, `*ptr++ |= static_cast<uint8_t>(values[4] >> 7);` (line 564), ORs into a byte that was never assigned, so the
routine has the documented layout only on a zero-filled output block: status 1, the second case of `bitpack_layouts_ok`
(Gen/BitPack.lean, the obligation over the source as translated on this run).  Witness of the known finding C09
`theta_v4/eb19/stream-ne-bytes`; `pinnedPackRoutines` is the table of this run with this routine in place of entry 19.
-/
import DSProofs.Gen.BitPack
namespace DS.Wire.BitPack

def pinned_pack_bits_19 : List PStmt := [⟨true,false,0,.shr 11⟩, ⟨true,false,0,.shr 3⟩, ⟨false,false,0,.shl 5⟩, ⟨true,true,1,.shr 14⟩, ⟨true,false,1,.shr 6⟩, ⟨false,false,1,.shl 2⟩, ⟨true,true,2,.shr 17⟩, ⟨true,false,2,.shr 9⟩, ⟨true,false,2,.shr 1⟩, ⟨false,false,2,.shl 7⟩, ⟨true,true,3,.shr 12⟩, ⟨true,false,3,.shr 4⟩, ⟨false,false,3,.shl 4⟩, ⟨true,true,4,.shr 15⟩, ⟨true,true,4,.shr 7⟩, ⟨false,false,4,.shl 1⟩, ⟨true,true,5,.shr 18⟩, ⟨true,false,5,.shr 10⟩, ⟨true,false,5,.shr 2⟩, ⟨false,false,5,.shl 6⟩, ⟨true,true,6,.shr 13⟩, ⟨true,false,6,.shr 5⟩, ⟨false,false,6,.shl 3⟩, ⟨true,true,7,.shr 16⟩, ⟨true,false,7,.shr 8⟩, ⟨false,false,7,.none⟩]

def pinnedPackRoutines : List (Nat × List PStmt) :=
  DSGen.BitPackIR.packRoutines.map fun p => if p.1 = 19 then (19, pinned_pack_bits_19) else p

/-- with the pinned `pack_bits_19` in the table, width 19 has status 1 (kernel-evaluated), so the deviations of that table are
not empty: the full statement fails for it.  Stated as the status, not as `¬ bitpack_layouts_full`, which speaks of the table
translated on this run. -/
theorem bitpack_layouts_full_false : packStatus pinnedPackRoutines 19 = 1 := by decide +kernel

end DS.Wire.BitPack
