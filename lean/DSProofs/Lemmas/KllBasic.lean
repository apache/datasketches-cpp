/- What follows from a strict weak order (`StrictWeak.irrefl/trans/flip` and `Sorted.sublist`, in `DS.SortedView`, the namespace of
`StrictWeak`); list facts about the helpers of the KLL model (DSModel/Kll/Sketch.lean), generic in the item type and the comparator;
the facts about `List.getD`, `flatten` and `sizeSum` in which the lemmas about level lists speak. -/
import DSModel.Kll.Sketch
import DSProofs.Lemmas.ListAux
namespace DS.SortedView

variable {α : Type}

theorem StrictWeak.irrefl {lt : α → α → Bool} (sw : StrictWeak lt) (a : α) : lt a a = false := by
  cases h : lt a a with
  | false => rfl
  | true => have := sw.asymm a a h; rw [h] at this; exact this

theorem StrictWeak.trans {lt : α → α → Bool} (sw : StrictWeak lt) {a b c : α} (h1 : lt a b = true) (h2 : lt b c = true) :
    lt a c = true := by
  cases h : lt a c with
  | true => rfl
  | false =>
    have := sw.negTrans a c b h (sw.asymm b c h2)
    rw [h1] at this; exact absurd this (by simp)

/-- so that what holds of minima holds of maxima -/
theorem StrictWeak.flip {lt : α → α → Bool} (sw : StrictWeak lt) : StrictWeak (fun a b => lt b a) :=
  ⟨fun a b => sw.asymm b a, fun a b c h1 h2 => sw.negTrans c b a h2 h1⟩

end DS.SortedView

namespace DS.Kll
open DS DS.SortedView

variable {α : Type}

theorem evens_append_odds_perm : ∀ l : List α, (evens l ++ odds l).Perm l
  | [] => List.Perm.refl _
  | [_] => List.Perm.refl _
  | a :: b :: t => by
    simp only [evens, odds, List.cons_append]
    exact List.Perm.cons a (List.perm_middle.trans (List.Perm.cons b (evens_append_odds_perm t)))

theorem evens_length_add_odds_length (l : List α) : (evens l).length + (odds l).length = l.length := by
  rw [← List.length_append, (evens_append_odds_perm l).length_eq]

theorem odds_length : ∀ l : List α, (odds l).length = l.length / 2
  | [] => by simp only [odds, List.length_nil, Nat.zero_div]
  | [_] => by simp only [odds, List.length_cons, List.length_nil]
  | _ :: _ :: t => by
    simp only [odds, List.length_cons, odds_length t]
    exact (Nat.add_div_right t.length Nat.zero_lt_two).symm

theorem evens_length : ∀ l : List α, (evens l).length = (l.length + 1) / 2
  | [] => by simp only [evens, List.length_nil]
  | [_] => by simp only [evens, List.length_cons, List.length_nil]
  | _ :: _ :: t => by
    simp only [evens, List.length_cons, evens_length t]
    exact (Nat.add_div_right (t.length + 1) Nat.zero_lt_two).symm

theorem evens_length_of_even (l : List α) (h : l.length % 2 = 0) : (evens l).length = l.length / 2 := by
  rw [evens_length]; omega

theorem odds_length_of_even (l : List α) (_h : l.length % 2 = 0) : (odds l).length = l.length / 2 :=
  odds_length l

theorem evens_sublist : ∀ l : List α, (evens l).Sublist l
  | [] => List.Sublist.slnil
  | [_] => List.Sublist.refl _
  | a :: b :: t => List.Sublist.cons_cons a (List.Sublist.cons b (evens_sublist t))

theorem odds_sublist : ∀ l : List α, (odds l).Sublist l
  | [] => List.Sublist.slnil
  | [a] => List.Sublist.cons a List.Sublist.slnil
  | a :: b :: t => List.Sublist.cons a (List.Sublist.cons_cons b (odds_sublist t))

theorem mem_of_mem_evens {x : α} {l : List α} (h : x ∈ evens l) : x ∈ l := (evens_sublist l).subset h
theorem mem_of_mem_odds {x : α} {l : List α} (h : x ∈ odds l) : x ∈ l := (odds_sublist l).subset h

theorem mem_evens_or_odds {x : α} {l : List α} : x ∈ l ↔ x ∈ evens l ∨ x ∈ odds l := by
  rw [← (evens_append_odds_perm l).mem_iff, List.mem_append]

theorem halveUp_sublist (l : List α) (c : Bool) : (halveUp l c).Sublist l := by
  cases c
  · exact odds_sublist l
  · exact evens_sublist l

theorem halveDown_sublist (l : List α) (c : Bool) : (halveDown l c).Sublist l := by
  cases c
  · exact evens_sublist l
  · exact odds_sublist l

theorem halveUp_length (l : List α) (c : Bool) (h : l.length % 2 = 0) : (halveUp l c).length = l.length / 2 := by
  cases c
  · exact odds_length l
  · exact evens_length_of_even l h

theorem halveDown_length (l : List α) (c : Bool) (h : l.length % 2 = 0) : (halveDown l c).length = l.length / 2 := by
  cases c
  · exact evens_length_of_even l h
  · exact odds_length l

theorem halveUp_length_add (l : List α) : (halveUp l false).length + (halveUp l true).length = l.length :=
  (Nat.add_comm _ _).trans (evens_length_add_odds_length l)

theorem halveDown_length_add (l : List α) : (halveDown l false).length + (halveDown l true).length = l.length :=
  evens_length_add_odds_length l

theorem _root_.DS.SortedView.Sorted.sublist {lt : α → α → Bool} {l₁ l₂ : List α} (h : l₁.Sublist l₂) (hs : Sorted lt l₂) :
    Sorted lt l₁ := List.Pairwise.sublist h hs

theorem sorted_evens {lt : α → α → Bool} {l : List α} (h : Sorted lt l) : Sorted lt (evens l) :=
  Sorted.sublist (evens_sublist l) h

theorem sorted_odds {lt : α → α → Bool} {l : List α} (h : Sorted lt l) : Sorted lt (odds l) :=
  Sorted.sublist (odds_sublist l) h

theorem sorted_halveUp {lt : α → α → Bool} {l : List α} (c : Bool) (h : Sorted lt l) : Sorted lt (halveUp l c) :=
  Sorted.sublist (halveUp_sublist l c) h

theorem sorted_halveDown {lt : α → α → Bool} {l : List α} (c : Bool) (h : Sorted lt l) :
    Sorted lt (halveDown l c) :=
  Sorted.sublist (halveDown_sublist l c) h

@[simp] theorem mergeUp_nil_left (lt : α → α → Bool) (b : List α) : mergeUp lt [] b = b := by
  unfold mergeUp; cases b <;> simp [mergeUpF]

@[simp] theorem mergeUp_nil_right (lt : α → α → Bool) (a : List α) : mergeUp lt a [] = a := by
  unfold mergeUp
  cases a with
  | nil => simp [mergeUpF]
  | cons x a => cases h : (x :: a).length + ([] : List α).length <;> simp [mergeUpF]

theorem mergeUp_cons_cons (lt : α → α → Bool) (x y : α) (a b : List α) :
    mergeUp lt (x :: a) (y :: b)
      = if lt x y then x :: mergeUp lt a (y :: b) else y :: mergeUp lt (x :: a) b := by
  unfold mergeUp
  have e : (x :: a).length + (y :: b).length = (a.length + (b.length + 1)) + 1 := by simp only [List.length_cons]; omega
  rw [e, mergeUpF]
  simp only [List.length_cons]
  have e2 : a.length + 1 + b.length = a.length + (b.length + 1) := by omega
  rw [e2]

theorem mergeUp_perm (lt : α → α → Bool) : ∀ a b : List α, (mergeUp lt a b).Perm (a ++ b)
  | [], b => by simp only [mergeUp_nil_left, List.nil_append]; exact List.Perm.refl _
  | x :: a, [] => by simp only [mergeUp_nil_right, List.append_nil]; exact List.Perm.refl _
  | x :: a, y :: b => by
    rw [mergeUp_cons_cons]
    split
    · exact List.Perm.cons x (mergeUp_perm lt a (y :: b))
    · exact (List.Perm.cons y (mergeUp_perm lt (x :: a) b)).trans List.perm_middle.symm
termination_by a b => a.length + b.length

theorem mergeUp_length (lt : α → α → Bool) (a b : List α) : (mergeUp lt a b).length = a.length + b.length := by
  rw [(mergeUp_perm lt a b).length_eq, List.length_append]

theorem mergeUp_eq_nil {lt : α → α → Bool} {a b : List α} (h : mergeUp lt a b = []) : a = [] ∧ b = [] := by
  have := congrArg List.length h
  rw [mergeUp_length] at this
  exact ⟨List.eq_nil_of_length_eq_zero (Nat.eq_zero_of_add_eq_zero_right this),
    List.eq_nil_of_length_eq_zero (Nat.eq_zero_of_add_eq_zero_left this)⟩

theorem mem_mergeUp {lt : α → α → Bool} {x : α} {a b : List α} : x ∈ mergeUp lt a b ↔ x ∈ a ∨ x ∈ b := by
  rw [(mergeUp_perm lt a b).mem_iff, List.mem_append]

theorem not_lt_of_sorted_cons {lt : α → α → Bool} (sw : StrictWeak lt) {x y : α} {a : List α} (h : Sorted lt (x :: a))
    (hxy : lt x y = false) (z : α) (hz : z ∈ x :: a) : lt z y = false := by
  rcases List.mem_cons.mp hz with rfl | hz
  · exact hxy
  · exact sw.negTrans z x y ((List.pairwise_cons.mp h).1 z hz) hxy

theorem sorted_mergeUp {lt : α → α → Bool} (sw : StrictWeak lt) :
    ∀ a b : List α, Sorted lt a → Sorted lt b → Sorted lt (mergeUp lt a b)
  | [], b, _, hb => by simp only [mergeUp_nil_left]; exact hb
  | x :: a, [], ha, _ => by simp only [mergeUp_nil_right]; exact ha
  | x :: a, y :: b, ha, hb => by
    rw [mergeUp_cons_cons]
    have ha' := List.pairwise_cons.mp ha
    have hb' := List.pairwise_cons.mp hb
    cases hxy : lt x y
    · exact List.pairwise_cons.mpr ⟨fun z hz => (mem_mergeUp.mp hz).elim (not_lt_of_sorted_cons sw ha hxy z) (hb'.1 z),
        sorted_mergeUp sw (x :: a) b ha hb'.2⟩
    · exact List.pairwise_cons.mpr ⟨fun z hz => (mem_mergeUp.mp hz).elim (ha'.1 z) (not_lt_of_sorted_cons sw hb (sw.asymm x y hxy) z),
        sorted_mergeUp sw a (y :: b) ha'.2 hb⟩
termination_by a b => a.length + b.length

theorem insertBy_perm (lt : α → α → Bool) (x : α) : ∀ l : List α, (insertBy lt x l).Perm (x :: l)
  | [] => List.Perm.refl _
  | y :: t => by
    simp only [insertBy]
    split
    · exact (List.Perm.cons y (insertBy_perm lt x t)).trans (List.Perm.swap x y t)
    · exact List.Perm.refl _

theorem sortBy_perm (lt : α → α → Bool) : ∀ l : List α, (sortBy lt l).Perm l
  | [] => List.Perm.refl _
  | x :: t => by
    simp only [sortBy]
    exact (insertBy_perm lt x _).trans (List.Perm.cons x (sortBy_perm lt t))

theorem sortBy_length (lt : α → α → Bool) (l : List α) : (sortBy lt l).length = l.length :=
  (sortBy_perm lt l).length_eq

theorem mem_sortBy {lt : α → α → Bool} {x : α} {l : List α} : x ∈ sortBy lt l ↔ x ∈ l :=
  (sortBy_perm lt l).mem_iff

theorem sorted_insertBy {lt : α → α → Bool} (sw : StrictWeak lt) (x : α) :
    ∀ l : List α, Sorted lt l → Sorted lt (insertBy lt x l)
  | [], _ => List.pairwise_singleton _ _
  | y :: t, h => by
    simp only [insertBy]
    cases hyx : lt y x
    · exact List.pairwise_cons.mpr ⟨not_lt_of_sorted_cons sw h hyx, h⟩
    · have h' := List.pairwise_cons.mp h
      refine List.pairwise_cons.mpr ⟨fun z hz => ?_, sorted_insertBy sw x t h'.2⟩
      rcases List.mem_cons.mp ((insertBy_perm lt x t).mem_iff.mp hz) with rfl | hz
      · exact sw.asymm y z hyx
      · exact h'.1 z hz

theorem sorted_sortBy {lt : α → α → Bool} (sw : StrictWeak lt) : ∀ l : List α, Sorted lt (sortBy lt l)
  | [] => List.Pairwise.nil
  | x :: t => by simp only [sortBy]; exact sorted_insertBy sw x _ (sorted_sortBy sw t)

theorem sortBy_of_sorted {lt : α → α → Bool} : ∀ {l : List α}, Sorted lt l → sortBy lt l = l
  | [], _ => rfl
  | x :: t, h => by
    have h' := List.pairwise_cons.mp h
    simp only [sortBy, sortBy_of_sorted h'.2]
    cases t with
    | nil => rfl
    | cons y t' =>
      have : lt y x = false := h'.1 y (by simp)
      simp only [insertBy, this, Bool.false_eq_true, if_false]

theorem leftoverOf_length (cur : List α) : (leftoverOf cur).length = cur.length % 2 := by
  unfold leftoverOf
  by_cases h : cur.length % 2 = 1
  · have h1 : 1 ≤ cur.length := by rw [← h]; exact Nat.mod_le _ _
    simp only [h, beq_self_eq_true, if_true, List.length_take]; exact Nat.min_eq_left h1
  · have h0 : cur.length % 2 = 0 := (Nat.mod_two_eq_zero_or_one _).resolve_right h
    rw [h0, if_neg (by decide)]; rfl

theorem leftoverOf_append_adjOf_false (lt : α → α → Bool) (cur : List α) : leftoverOf cur ++ adjOf lt false cur = cur := by
  unfold leftoverOf adjOf
  split
  · exact List.take_append_drop 1 cur
  · rfl

theorem adjOf_true (lt : α → α → Bool) (cur : List α) : adjOf lt true cur = sortBy lt (adjOf lt false cur) := rfl

theorem leftoverOf_append_adjOf_perm (lt : α → α → Bool) (srt : Bool) (cur : List α) :
    (leftoverOf cur ++ adjOf lt srt cur).Perm cur := by
  have h := List.Perm.of_eq (leftoverOf_append_adjOf_false lt cur)
  cases srt
  · exact h
  · exact (List.Perm.append_left _ (sortBy_perm lt _)).trans h

theorem leftoverOf_length_add_adjOf_length (lt : α → α → Bool) (srt : Bool) (cur : List α) :
    (leftoverOf cur).length + (adjOf lt srt cur).length = cur.length := by
  rw [← List.length_append, (leftoverOf_append_adjOf_perm lt srt cur).length_eq]

theorem adjOf_length (lt : α → α → Bool) (srt : Bool) (cur : List α) :
    (adjOf lt srt cur).length = cur.length - cur.length % 2 := by
  rw [← leftoverOf_length, ← leftoverOf_length_add_adjOf_length lt srt cur, Nat.add_sub_cancel_left]

theorem adjOf_length_even (lt : α → α → Bool) (srt : Bool) (cur : List α) :
    (adjOf lt srt cur).length % 2 = 0 := by
  rw [adjOf_length]; exact Nat.sub_mod_eq_zero_of_mod_eq (Nat.mod_mod _ _).symm

theorem mem_leftoverOf_or_adjOf {lt : α → α → Bool} {srt : Bool} {x : α} {cur : List α} :
    x ∈ cur ↔ x ∈ leftoverOf cur ∨ x ∈ adjOf lt srt cur := by
  rw [← (leftoverOf_append_adjOf_perm lt srt cur).mem_iff, List.mem_append]

theorem adjOf_false_sublist (lt : α → α → Bool) (cur : List α) : (adjOf lt false cur).Sublist cur := by
  have := List.sublist_append_right (leftoverOf cur) (adjOf lt false cur)
  rwa [leftoverOf_append_adjOf_false] at this

theorem leftoverOf_sublist (cur : List α) : (leftoverOf cur).Sublist cur := by
  unfold leftoverOf
  split
  · exact List.take_sublist 1 cur
  · exact List.nil_sublist _

theorem sorted_adjOf {lt : α → α → Bool} (srt : Bool) {cur : List α} (h : Sorted lt cur) :
    Sorted lt (adjOf lt srt cur) := by
  have h0 : Sorted lt (adjOf lt false cur) := Sorted.sublist (adjOf_false_sublist lt cur) h
  cases srt
  · exact h0
  · rw [adjOf_true, sortBy_of_sorted h0]; exact h0

theorem sorted_adjOf_true {lt : α → α → Bool} (sw : StrictWeak lt) (cur : List α) :
    Sorted lt (adjOf lt true cur) := by
  unfold adjOf
  simp only [if_true]
  exact sorted_sortBy sw _

theorem sorted_leftoverOf {lt : α → α → Bool} (cur : List α) : Sorted lt (leftoverOf cur) := by
  unfold leftoverOf Sorted
  split
  · cases cur with
    | nil => exact List.Pairwise.nil
    | cons x t => simp only [List.take_succ_cons, List.take_zero]; exact List.pairwise_singleton _ _
  · exact List.Pairwise.nil

theorem getD_append_left {β : Type} (d : β) : ∀ (L M : List β) (i : Nat), i < L.length → (L ++ M).getD i d = L.getD i d := by
  intro L M i h
  rw [List.getD_eq_getElem?_getD, List.getElem?_append_left h, List.getD_eq_getElem?_getD]

theorem getD_append_add {β : Type} (d : β) : ∀ (pre L : List β) (i : Nat), (pre ++ L).getD (pre.length + i) d = L.getD i d := by
  intro pre L i
  rw [List.getD_eq_getElem?_getD, List.getElem?_append_right (Nat.le_add_right _ _), Nat.add_sub_cancel_left,
    List.getD_eq_getElem?_getD]

theorem getD_of_length_le {β : Type} (d : β) : ∀ (L : List β) (i : Nat), L.length ≤ i → L.getD i d = d := by
  intro L i h
  rw [List.getD_eq_getElem?_getD, List.getElem?_eq_none h]; rfl

theorem getD_append_singleton_default {β : Type} (d : β) (L : List β) (i : Nat) : (L ++ [d]).getD i d = L.getD i d := by
  by_cases h : i < L.length
  · exact getD_append_left d L [d] i h
  · rw [getD_of_length_le d L i (Nat.le_of_not_lt h), ← Nat.add_sub_cancel' (Nat.le_of_not_lt h), getD_append_add]
    cases i - L.length <;> rfl

theorem getD_tail {β : Type} (d : β) (L : List β) (i : Nat) : L.tail.getD i d = L.getD (i + 1) d := by
  cases L <;> rfl

theorem getD_zero {β : Type} (d : β) (L : List β) : L.getD 0 d = L.headD d := by
  cases L <;> rfl

theorem getD_cons_top {β : Type} (d l : β) : ∀ {Z : List β}, Z ≠ [] → (l :: Z).getD ((l :: Z).length - 1) d = Z.getD (Z.length - 1) d
  | [], h => absurd rfl h
  | _ :: _, _ => rfl

theorem mem_flatten_iff_getD {L : List (List α)} {y : α} : y ∈ L.flatten ↔ ∃ i, y ∈ L.getD i [] := by
  constructor
  · intro h
    obtain ⟨l, hl, hy⟩ := List.mem_flatten.mp h
    obtain ⟨i, hi, rfl⟩ := List.getElem_of_mem hl
    exact ⟨i, by rw [List.getD_eq_getElem?_getD, List.getElem?_eq_getElem hi]; exact hy⟩
  · rintro ⟨i, hy⟩
    rw [List.getD_eq_getElem?_getD] at hy
    cases h : L[i]? with
    | none => rw [h] at hy; simp at hy
    | some l =>
      rw [h] at hy
      exact List.mem_flatten.mpr ⟨l, List.mem_of_getElem? h, hy⟩

theorem mem_flatten_headD {L : List (List α)} {y : α} (h : y ∈ L.headD []) : y ∈ L.flatten := by
  cases L with
  | nil => exact absurd h List.not_mem_nil
  | cons a b => rw [List.flatten_cons]; exact List.mem_append_left _ h

theorem mem_flatten_tail {L : List (List α)} {y : α} (h : y ∈ L.tail.flatten) : y ∈ L.flatten := by
  cases L with
  | nil => exact h
  | cons a b => rw [List.flatten_cons]; exact List.mem_append_right _ h

theorem snoc_induction {β : Type} {motive : List β → Prop} (nil : motive [])
    (snoc : ∀ (l : List β) (a : β), motive l → motive (l ++ [a])) : ∀ l, motive l := by
  intro l
  rw [← List.reverse_reverse l]
  induction l.reverse with
  | nil => exact nil
  | cons a t ih => rw [List.reverse_cons]; exact snoc _ _ ih

theorem sizeSum_append : ∀ a b : List (List α), sizeSum (a ++ b) = sizeSum a + sizeSum b
  | [], b => by simp only [List.nil_append, sizeSum, Nat.zero_add]
  | l :: t, b => by simp only [List.cons_append, sizeSum, sizeSum_append t b, Nat.add_assoc]

theorem sizeSum_set : ∀ (L : List (List α)) (i : Nat) (x : List α), i < L.length →
    sizeSum (L.set i x) + (L.getD i []).length = sizeSum L + x.length
  | [], _, _, h => absurd h (Nat.not_lt_zero _)
  | l :: t, 0, x, _ => by simp only [List.set_cons_zero, sizeSum, List.getD_cons_zero]; omega
  | l :: t, i + 1, x, h => by
    have := sizeSum_set t i x (Nat.lt_of_succ_lt_succ h)
    simp only [List.set_cons_succ, sizeSum, List.getD_cons_succ]; omega

theorem sizeSum_reverse : ∀ L : List (List α), sizeSum L.reverse = sizeSum L
  | [] => rfl
  | l :: t => by simp only [List.reverse_cons, sizeSum_append, sizeSum_reverse t, sizeSum]; omega

theorem sizeSum_eq_sum_map : ∀ L : List (List α), sizeSum L = (L.map List.length).sum
  | [] => rfl
  | l :: t => by simp only [sizeSum, List.map_cons, List.sum_cons, sizeSum_eq_sum_map t]

theorem flatten_length_eq_sizeSum (L : List (List α)) : L.flatten.length = sizeSum L := by
  rw [List.length_flatten, sizeSum_eq_sum_map]

theorem sizeSum_headD_tail (L : List (List α)) : sizeSum L = (L.headD []).length + sizeSum L.tail := by
  cases L <;> rfl

theorem sizeSum_push (x : α) (L : List (List α)) : sizeSum ((x :: L.headD []) :: L.tail) = sizeSum L + 1 := by
  rw [sizeSum, sizeSum_headD_tail L, List.length_cons]; omega

end DS.Kll
