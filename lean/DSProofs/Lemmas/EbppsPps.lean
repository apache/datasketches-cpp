/- One-step PPS identities (C18): the expected inclusion of every item over the unit draw of `mergeSample`
(region lengths of the draw) equals the sum of the inclusions in the two merged samples. -/
import DSProofs.Lemmas.EbppsSample
namespace DS.Ebpps

/-- Probability that `get_result()` returns (an occurrence of) `x`, given the sample: 1 for every full item, `frac c` for
the partial item (the length of the region `{u : u < frac c}` of the draw in `get_sample`). -/
def incl (s : Sample Rat) (x : Nat) : Rat :=
  (s.data.count x : Rat) + (if s.part = some x then s.c - ((s.c.floor : Int) : Rat) else 0)

def ind (p : Prop) [Decidable p] : Rat := if p then 1 else 0

theorem incl_eq_ind (s : Sample Rat) (x : Nat) :
    incl s x = (s.data.count x : Rat) + (s.c - ↑s.c.floor) * ind (s.part = some x) := by
  unfold incl ind; split <;> simp

theorem count_pushOpt (l : List Nat) (p : Option Nat) (x : Nat) :
    ((pushOpt l p).count x : Rat) = (l.count x : Rat) + ind (p = some x) := by
  cases p with
  | none => simp [pushOpt, ind]
  | some q => simp [pushOpt, ind, List.count_singleton]

/-- The convex combinations behind `merge_pps`; `f`, `g` are the fractional parts of the two inputs, `a`, `b` say whether `x`
is the partial item of the first, of the second, `n` counts the full occurrences of `x`.
Fractions below one, threshold `t = f/(f+g)`: -/
theorem pps_lt {t f g : Rat} (ht : t * (f + g) = f) (n a b : Rat) :
    t * (n + (f + g) * a) + (1 - t) * (n + (f + g) * b) = n + f * a + g * b := by
  calc _ = n + (t * (f + g)) * (a - b) + (f + g) * b := by ring
    _ = _ := by rw [ht]; ring

/-- fractions above one -/
theorem pps_gt {t f g : Rat} (ht : t * (1 - f + (1 - g)) = 1 - f) (n a b : Rat) :
    t * (n + b + (f + g - 1) * a) + (1 - t) * (n + a + (f + g - 1) * b) = n + f * a + g * b := by
  calc _ = n + (t * (1 - f + (1 - g))) * (b - a) + (f + g - 1) * b + a := by ring
    _ = _ := by rw [ht]; ring

/-- The draws below `t` and above `t` are regions of lengths `t` and `1 - t`, so the last line is the expected inclusion over the
unit draw.  For `o = replaceContent item theta`: the new item enters with probability `theta` and no resident item's inclusion
changes in the merge.
(The identity is one between the fractional parts: with `f`, `g` those of the inputs the new one is `f + g` or `f + g - 1`.) -/
theorem merge_pps (ge : Bool) (s o : Sample Rat) :
    ∃ (t : Rat) (A B : Sample Rat), 0 ≤ t ∧ t ≤ 1 ∧
      (∀ d : Draws Rat, d.unit.1 < t → (mergeSample ge s o d).1 = A) ∧
      (∀ d : Draws Rat, t < d.unit.1 → (mergeSample ge s o d).1 = B) ∧
      ∀ x, t * incl A x + (1 - t) * incl B x = incl s x + incl o x := by
  have hcnt : ∀ x, (((s.data ++ o.data).count x : Nat) : Rat) = (s.data.count x : Rat) + (o.data.count x : Rat) :=
    fun x => by simp [List.count_append]
  rcases zero_one_cases (add_nonneg (frac_nonneg s.c) (frac_nonneg o.c)) with h | ⟨h0, h1⟩ | h | h
  · -- both integral: no draw, no partial item
    have e := fun d => congrArg Prod.fst (mergeSample_int h ge d)
    refine ⟨0, _, _, le_refl _, zero_le_one, fun d _ => e d, fun d _ => e d, fun x => ?_⟩
    obtain ⟨hf, hg⟩ := frac_add_eq_zero.2 h
    simp only [incl_eq_ind, hcnt, frac_add_of_lt (h.trans_lt zero_lt_one), hf, hg]
    ring
  · -- the partial item is `s`'s below the threshold `f/(f+g)`, `o`'s above
    have ht := div_mul_cancel₀ (s.c - ↑s.c.floor) (ne_of_gt h0)
    refine ⟨(s.c - ↑s.c.floor) / (s.c - ↑s.c.floor + (o.c - ↑o.c.floor)), ⟨s.c + o.c, s.data ++ o.data, s.part⟩,
      ⟨s.c + o.c, s.data ++ o.data, o.part⟩, div_nonneg (frac_nonneg _) (le_of_lt h0),
      (div_le_one h0).2 (le_add_of_nonneg_right (frac_nonneg _)), fun d hd => ?_, fun d hd => ?_, fun x => ?_⟩
    · rw [mergeSample_lt h0 h1, if_neg (not_drawAbove_of_lt hd)]
    · rw [mergeSample_lt h0 h1, if_pos (drawAbove_of_lt hd)]
    · simp only [incl_eq_ind, hcnt, frac_add_of_lt h1]
      rw [pps_lt ht]; ring
  · -- `s`'s partial item becomes a full item below the threshold `f`, `o`'s above
    refine ⟨s.c - ↑s.c.floor, ⟨s.c + o.c, pushOpt (s.data ++ o.data) s.part, none⟩,
      ⟨s.c + o.c, pushOpt (s.data ++ o.data) o.part, none⟩, frac_nonneg _, le_of_lt (frac_lt_one _), fun d hd => ?_, fun d hd => ?_, fun x => ?_⟩
    · rw [mergeSample_one h, if_pos (le_of_lt hd)]
    · rw [mergeSample_one h, if_neg (not_le.2 hd)]
    · simp only [incl_eq_ind, count_pushOpt, hcnt, frac_add_of_ge (le_of_eq h.symm),
        show o.c - ↑o.c.floor = 1 - (s.c - ↑s.c.floor) by linarith]
      ring
  · -- `o`'s partial item becomes a full item and `s`'s stays partial below the threshold `(1-f)/((1-f)+(1-g))`, the reverse above
    have hg : 0 < 1 - (o.c - ↑o.c.floor) := sub_pos.2 (frac_lt_one _)
    have hf : 0 < 1 - (s.c - ↑s.c.floor) := sub_pos.2 (frac_lt_one _)
    have hden := add_pos hf hg
    have ht := div_mul_cancel₀ (1 - (s.c - ↑s.c.floor)) (ne_of_gt hden)
    refine ⟨(1 - (s.c - ↑s.c.floor)) / (1 - (s.c - ↑s.c.floor) + (1 - (o.c - ↑o.c.floor))),
      ⟨s.c + o.c, pushOpt (s.data ++ o.data) o.part, s.part⟩, ⟨s.c + o.c, pushOpt (s.data ++ o.data) s.part, o.part⟩,
      div_nonneg (le_of_lt hf) (le_of_lt hden), (div_le_one hden).2 (le_add_of_nonneg_right (le_of_lt hg)), fun d hd => ?_, fun d hd => ?_, fun x => ?_⟩
    · rw [mergeSample_gt h, if_pos (le_of_lt hd)]
    · rw [mergeSample_gt h, if_neg (not_le.2 hd)]
    · simp only [incl_eq_ind, count_pushOpt, hcnt, frac_add_of_ge (le_of_lt h)]
      rw [pps_gt ht]; ring

theorem incl_replaceContent (item : Nat) {theta : Rat} (h0 : 0 < theta) (h1 : theta ≤ 1) (x : Nat) :
    incl (replaceContent item theta) x = if x = item then theta else 0 := by
  unfold replaceContent
  simp only [rat_eq, rat_one, decide_eq_true_eq]
  rcases h1.eq_or_lt with rfl | hlt
  · simp [incl, List.count_singleton, eq_comm (a := item)]
  · have hf : theta.floor = 0 := rat_floor_eq_iff.2 ⟨by simpa using h0.le, by simpa using hlt⟩
    simp [incl, hlt.ne, hf, eq_comm (a := item)]

end DS.Ebpps
