/- Counting the set bits of a coupon matrix (`validate()`, `count_bits_set_in_matrix`). -/
import DSProofs.Lemmas.CpcInv
namespace DS.Cpc

theorem popcountN_eq (n x : Nat) : popcountN n x = (List.range n).countP (fun c => x.testBit c) := by
  induction n generalizing x with
  | zero => simp [popcountN]
  | succ n ih =>
    rw [popcountN, ih, List.range_succ_eq_map, List.countP_cons, List.countP_map]
    have : ((fun c => x.testBit c) ∘ Nat.succ) = (fun c => (x / 2).testBit c) := by
      funext c; simp [Nat.testBit_succ]
    rw [this, Nat.testBit_zero]
    have h2 : x % 2 = 0 ∨ x % 2 = 1 := by omega
    rcases h2 with h2 | h2 <;> simp [h2] <;> omega

/-- cells of a k×w matrix enumerated row by row = the codes below w·k -/
theorem countP_cells_w (p : Nat → Bool) (w k : Nat) :
    (List.range (w * k)).countP p = ((List.range k).map (fun r => (List.range w).countP (fun c => p (r * w + c)))).sum := by
  induction k with
  | zero => simp
  | succ k ih =>
    rw [show w * (k + 1) = w * k + w from Nat.mul_succ w k, List.range_add, List.countP_append, ih,
      List.range_succ (n := k), List.map_append, List.sum_append, List.countP_map]
    simp only [List.map_cons, List.map_nil, List.sum_cons, List.sum_nil, Nat.add_zero]
    congr 1
    have : (p ∘ fun x => w * k + x) = (fun c => p (k * w + c)) := by
      funext c; simp [Nat.mul_comm]
    rw [this]

theorem countP_mem_eq_distinct (xs : List Nat) (n : Nat) (h : ∀ x ∈ xs, x < n) :
    (List.range n).countP (fun rc => decide (rc ∈ xs)) = (distinct xs).length := by
  rw [List.countP_eq_length_filter]
  refine length_eq_distinct (List.Pairwise.filter _ List.pairwise_lt_range) fun a => ?_
  rw [List.mem_filter, List.mem_range, decide_eq_true_eq]
  exact ⟨fun ha => ha.2, fun ha => ⟨h a ha, ha⟩⟩

theorem popcount_of_mbits (k : Nat) (m : List Nat) (ys : List Nat) (h : MBits k m ys) (hv : ∀ y ∈ ys, y < 64 * k) :
    (m.map popcount64).sum = (distinct ys).length := by
  have e1 := countP_mem_eq_distinct ys (64 * k) hv
  have e2 := countP_cells_w (fun rc => decide (rc ∈ ys)) 64 k
  rw [← e1, e2]
  have hm : m = (List.range k).map (fun r => m.getD r 0) := by
    apply List.ext_getElem
    · simp [h.len]
    · intro i h1 h2
      simp [List.getD_eq_getElem?_getD, List.getElem?_eq_getElem h1]
  rw [hm, List.map_map]
  apply congrArg List.sum
  apply List.map_congr_left
  intro r hr
  rw [List.mem_range] at hr
  show popcountN 64 (m.getD r 0) = _
  rw [popcountN_eq]
  apply List.countP_congr
  intro c hc
  rw [List.mem_range] at hc
  have := h.bits r c hr hc
  simp only [decide_eq_true_eq]; exact this

/-- what `validate()` compares: the set bits of the rebuilt matrix are `num_coupons` many -/
theorem validate_of_inv (s : Sketch) (xs : List Nat) (h : Inv s xs) (hx : ∀ x ∈ xs, x < 64 * 2^s.lgK) :
    ((buildBitMatrix s).map popcount64).sum = s.numCoupons := by
  rw [h.count]; exact popcount_of_mbits _ _ _ (mbits_buildBitMatrix s xs h) hx

end DS.Cpc
