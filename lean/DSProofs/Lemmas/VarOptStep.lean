/- One down-sampling step: which values of the uniform draw `u` delete which candidate (exact intervals). -/
import DSProofs.Lemmas.VarOptGrow
namespace DS.VarOpt
open DS

/-- left end of the `u`-interval in which M-candidate `j` is deleted: Σ_{i<j} (1 − w_i/τ) -/
def thr (τ : Rat) (M : List E) (j : Nat) : Rat := (j : Rat) - sumW (M.take j) / τ

theorem mul_lt_iff_div_lt {τ X Y : Rat} {n : Nat} (hτ : 0 < τ) (hn : 0 < n) :
    ((n : Rat) * X < τ * (n : Rat) * Y) ↔ X / τ < Y := by
  have hn0 : (0 : Rat) < (n : Rat) := by exact_mod_cast hn
  rw [div_lt_iff₀ hτ, show τ * (n : Rat) * Y = (n : Rat) * (Y * τ) by ring]
  exact mul_lt_mul_iff_of_pos_left hn0

theorem weightedLoop_bounds (W : Rat) (n : Nat) (M : List E) (l r : Rat) (i : Nat) :
    i ≤ weightedLoop W n M l r i ∧ weightedLoop W n M l r i ≤ i + M.length := by
  fun_induction weightedLoop W n M l r i with
  | case1 => exact ⟨le_refl _, le_refl _⟩
  | case2 => exact ⟨le_refl _, Nat.le_add_right _ _⟩
  | case3 _ _ _ _ _ _ _ _ ih => exact ⟨(Nat.le_succ _).trans ih.1, ih.2.trans_eq (Nat.succ_add_eq_add_succ _ _)⟩

theorem sumW_take_succ_cons (e : E) (t : List E) (j : Nat) : sumW ((e :: t).take (j + 1)) = e.wt + sumW (t.take j) := rfl

/-- What the loop of `choose_weighted_delete_slot` returns, entered after `i` candidates of total weight `S` have been passed (the
induction needs this; the caller has `i = 0`, `S = 0`): `u` is at or above the left end of the interval of the returned
candidate, and below its right end unless all of `M` was passed. -/
theorem weightedLoop_post (τ : Rat) (n : Nat) (hτ : 0 < τ) (hn : 0 < n) (u : Rat) :
    ∀ (M : List E) (S : Rat) (i : Nat), (i : Rat) - S / τ ≤ u →
    ∃ j ≤ M.length, weightedLoop (τ * n) n M ((n : Rat) * S) (τ * n * ((i : Rat) - u)) i = i + j ∧
      ((i + j : Nat) : Rat) - (S + sumW (M.take j)) / τ ≤ u ∧
      (j < M.length → u < ((i + j + 1 : Nat) : Rat) - (S + sumW (M.take (j + 1))) / τ) := by
  intro M
  induction M with
  | nil => exact fun S i h0 => ⟨0, le_refl _, rfl, by simpa only [List.take_nil, sumW, add_zero] using h0, fun h => absurd h (Nat.lt_irrefl _)⟩
  | cons e t ih =>
    intro S i h0
    -- the test of this round says whether `u` is below the right end of the interval of `e`
    have hstep : weightedLoop (τ * n) n (e :: t) ((n : Rat) * S) (τ * n * ((i : Rat) - u)) i =
        if u < ((i + 1 : Nat) : Rat) - (S + e.wt) / τ then i
        else weightedLoop (τ * n) n t ((n : Rat) * (S + e.wt)) (τ * n * (((i + 1 : Nat) : Rat) - u)) (i + 1) := by
      have e1 : (n : Rat) * S + (n : Rat) * e.wt = (n : Rat) * (S + e.wt) := by ring
      have e2 : τ * n * ((i : Rat) - u) + τ * n = τ * n * (((i + 1 : Nat) : Rat) - u) := by push_cast; ring
      simp only [weightedLoop, Num.add_rat, Num.mul_rat, Num.ofNat_rat, Num.lt_rat, decide_eq_true_eq, e1, e2,
        mul_lt_iff_div_lt hτ hn, lt_sub_comm]
    rw [hstep]
    by_cases hc : u < ((i + 1 : Nat) : Rat) - (S + e.wt) / τ
    · rw [if_pos hc]
      exact ⟨0, Nat.zero_le _, rfl, by simpa only [List.take_zero, sumW, add_zero] using h0,
        fun _ => by simpa only [sumW_take_succ_cons, List.take_zero, sumW, add_zero] using hc⟩
    · rw [if_neg hc]
      obtain ⟨j, hj, hk, h1, h2⟩ := ih (S + e.wt) (i + 1) (not_lt.1 hc)
      refine ⟨j + 1, Nat.succ_le_succ hj, hk.trans (Nat.add_right_comm _ _ _), ?_, fun h => ?_⟩
      · rwa [sumW_take_succ_cons, ← add_assoc S, ← Nat.add_assoc, Nat.add_right_comm]
      · rw [sumW_take_succ_cons, ← add_assoc S, ← Nat.add_assoc i j 1, Nat.add_right_comm i j 1]
        exact h2 (Nat.lt_of_succ_lt_succ h)

theorem thr_succ_sub (τ : Rat) (M : List E) {i : Nat} (hi : i < M.length) :
    thr τ M (i + 1) - thr τ M i = 1 - M[i].wt / τ := by
  have htake : sumW (M.take (i + 1)) = sumW (M.take i) + M[i].wt := by
    rw [List.take_succ_eq_append_getElem hi, sumW_append]; simp [sumW]
  unfold thr
  rw [htake]; push_cast; ring

/-- every candidate is lighter than `τ`, so the interval ends go up -/
theorem thr_mono {τ : Rat} (hτ : 0 < τ) {M : List E} (hlt : ∀ e ∈ M, e.wt < τ) {j j' : Nat} (hjj : j ≤ j') (hj' : j' ≤ M.length) :
    thr τ M j ≤ thr τ M j' := by
  induction hjj with
  | refl => rfl
  | @step m _ ih =>
    refine (ih (Nat.le_of_succ_le hj')).trans (sub_nonneg.1 ?_)
    rw [thr_succ_sub τ M hj']
    exact sub_nonneg.2 ((div_le_one hτ).2 (hlt _ (List.getElem_mem hj')).le)

/-- `choose_delete_slot` with at least two explicit-weight candidates `M`, `n + 1` candidates of total weight `τ·n` in all (so
`τ` is the new threshold), every M weight below `τ`: with `u` the uniform draw, M-candidate `j` is deleted exactly for
`u ∈ [thr τ M j, thr τ M (j+1))`, and the deletion falls into R exactly for `u ≥ thr τ M |M|`. -/
theorem chooseDeleteSlot_thr {τ : Rat} {n : Nat} (hτ : 0 < τ) (hn : 0 < n) (r : Nat) (ds : Draws Rat) {M : List E}
    (hM : 2 ≤ M.length) (hlt : ∀ e ∈ M, e.wt < τ) (hu : 0 ≤ (nextDouble ds).1) :
    (∀ j, j < M.length → ((chooseDeleteSlot M r (τ * n) (n + 1) ds).1 = j ↔
        thr τ M j ≤ (nextDouble ds).1 ∧ (nextDouble ds).1 < thr τ M (j + 1))) ∧
    (M.length ≤ (chooseDeleteSlot M r (τ * n) (n + 1) ds).1 ↔ thr τ M M.length ≤ (nextDouble ds).1) := by
  obtain ⟨k, hkM, hk, hlo, hhi⟩ := weightedLoop_post τ n hτ hn (nextDouble ds).1 M 0 0 (by simpa using hu)
  simp only [zero_add] at hk hlo hhi
  -- the code on a candidate list with at least two explicit weights
  have hcds : (chooseDeleteSlot M r (τ * n) (n + 1) ds).1 = if k = M.length then M.length + (pickR r (nextDouble ds).2).1 else k := by
    have hright : Num.mul (Num.mul (Num.neg (Num.one : Rat)) (τ * n)) (nextDouble ds).1
        = τ * n * (((0 : Nat) : Rat) - (nextDouble ds).1) := by
      simp only [Num.mul_rat, Num.neg_rat, Num.one_rat]; push_cast; ring
    obtain ⟨a, b, t, rfl⟩ : ∃ a b t, M = a :: b :: t := by
      match M, hM with
      | a :: b :: t, _ => exact ⟨a, b, t, rfl⟩
    rw [← hk, ← hright, show (n : Rat) * 0 = Num.zero by simp]
    simp only [chooseDeleteSlot, beq_iff_eq, Nat.add_sub_cancel]
    split <;> rfl
  rw [hcds]
  -- `u` lies in the interval of `k` (unbounded to the right if `k = |M|`); the interval ends go up, so `k` is the only such index
  have huniq : ∀ j ≤ M.length, thr τ M j ≤ (nextDouble ds).1 → (j < M.length → (nextDouble ds).1 < thr τ M (j + 1)) → k = j := by
    intro j hj h1 h2
    rcases Nat.lt_trichotomy k j with hl | he | hg
    · exact absurd ((hhi (hl.trans_le hj)).trans_le ((thr_mono hτ hlt hl hj).trans h1)) (lt_irrefl _)
    · exact he
    · exact absurd ((h2 (hg.trans_le hkM)).trans_le ((thr_mono hτ hlt hg hkM).trans hlo)) (lt_irrefl _)
  refine ⟨fun j hj => ⟨fun h => ?_, fun ⟨h1, h2⟩ => ?_⟩, fun h => ?_, fun h => ?_⟩
  · obtain rfl : k = j := by split at h <;> omega
    exact ⟨hlo, hhi hj⟩
  · obtain rfl := huniq j hj.le h1 fun _ => h2
    exact if_neg hj.ne
  · obtain rfl : k = M.length := by split at h <;> omega
    exact hlo
  · rw [if_pos (huniq _ (le_refl _) h fun h' => absurd h' (lt_irrefl _))]
    exact Nat.le_add_right _ _

end DS.VarOpt
