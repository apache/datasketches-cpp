/- Obligations on the GENERATED compression tables (DSGen/Cpc.lean, which the translator writes from compression_data.hpp) and
   wire constants, checked by kernel evaluation (`decide +kernel`), no axioms.

   The check of a table is linear in its size.  A codeword of length `len` with bits `c` (first bit lowest) is the
   node `2^len + c` of the binary code tree, a set of nodes is a bit mask, and the table is a prefix code iff its
   nodes are distinct and none of them is a proper ancestor of another.  After one pass that tests each entry
   (`entryOK`, and `addBits` for distinctness), the ancestor mask is built by arithmetic alone and compared with the node mask
   once per table, because the kernel evaluates `Nat` arithmetic natively and Boolean tests step by step. -/
import DSProofs.Lemmas.CpcCompress
import DSGen.Cpc
import DSModel.Cpc.Wire
namespace DS.Cpc

def addBits : List Nat → Nat → Option Nat
  | [], m => some m
  | k :: t, m => if m.testBit k then none else addBits t (m ||| 2^k)

theorem addBits_spec (ks : List Nat) (m m' : Nat) (h : addBits ks m = some m') :
    ks.Nodup ∧ ∀ j, (j ∈ ks → m.testBit j = false) ∧ m'.testBit j = (m.testBit j || decide (j ∈ ks)) := by
  induction ks generalizing m with
  | nil => simp_all [addBits]
  | cons k t ih =>
    rw [addBits] at h
    split at h
    · cases h
    · rename_i hk
      obtain ⟨hn, hj⟩ := ih _ h
      simp only [Nat.testBit_or, Nat.testBit_two_pow, Bool.or_eq_false_iff, decide_eq_false_iff_not] at hj
      refine ⟨List.nodup_cons.2 ⟨fun hkt => ((hj k).1 hkt).2 rfl, hn⟩, fun j => ⟨?_, ?_⟩⟩
      · rintro (_ | ⟨_, hjt⟩)
        · simpa using hk
        · exact ((hj j).1 hjt).1
      · simp [(hj j).2, Bool.or_assoc, eq_comm (a := j)]

def entryOK (e : Nat) : Bool := decide (1 ≤ e / 4096) && decide (e / 4096 ≤ 12) && decide (e % 4096 < 2^(e / 4096))

def node (e : Nat) : Nat := 2^(e / 4096) + e % 4096

/-- the nodes of the proper prefixes of the `len`-bit codeword `c`, as a bit mask -/
def ancestors (c : Nat) : Nat → Nat
  | 0 => 0
  | l + 1 => 2^(2^l + c % 2^l) ||| ancestors c l

theorem testBit_ancestors (c l len : Nat) (h : l < len) : (ancestors c len).testBit (2^l + c % 2^l) = true := by
  induction len with
  | zero => omega
  | succ n ih =>
    rw [ancestors, Nat.testBit_or, Nat.testBit_two_pow]
    by_cases hl : l = n
    · simp [hl]
    · simp [ih (by omega)]

def codeListOK (tab : List Nat) : Bool :=
  tab.all entryOK &&
  match addBits (tab.map node) 0 with
  | none => false
  | some nodes => nodes &&& tab.foldl (fun m e => m ||| ancestors (e % 4096) (e / 4096)) 0 == 0

theorem codeOK_of_list (tab : List Nat) (h : codeListOK tab = true) : CodeOK (fun b => tab.getD b 0) tab.length := by
  simp only [codeListOK, Bool.and_eq_true, List.all_eq_true] at h
  obtain ⟨hent, h2⟩ := h
  split at h2
  · cases h2
  rename_i nodes hnodes
  obtain ⟨hnd, hbits⟩ := addBits_spec _ _ _ hnodes
  have hent' : ∀ b, b < tab.length → 1 ≤ tab.getD b 0 / 4096 ∧ tab.getD b 0 / 4096 ≤ 12 ∧
      tab.getD b 0 % 4096 < 2^(tab.getD b 0 / 4096) := by
    intro b hb; simpa [entryOK, and_assoc] using hent _ (getD_mem tab b 0 hb)
  have ordered : ∀ b b' x, b < tab.length → b' < tab.length → symMatches (fun b => tab.getD b 0) b x = true →
      symMatches (fun b => tab.getD b 0) b' x = true → tab.getD b 0 / 4096 ≤ tab.getD b' 0 / 4096 → b = b' := by
    intro b b' x hb hb' h1 h2' hle
    simp only [symMatches, beq_iff_eq] at h1 h2'
    have hpre : tab.getD b' 0 % 4096 % 2^(tab.getD b 0 / 4096) = tab.getD b 0 % 4096 := by
      rw [← h2', Nat.mod_mod_of_dvd _ (Nat.pow_dvd_pow 2 hle), h1]
    rcases Nat.lt_or_eq_of_le hle with hlt | heq
    · -- the node of `b` is among the nodes and among the ancestors of `b'`
      have hb1 : nodes.testBit (node (tab.getD b 0)) = true := by
        rw [(hbits _).2]; simp only [Nat.zero_testBit, Bool.false_or, decide_eq_true_eq]
        exact List.mem_map_of_mem (getD_mem tab b 0 hb)
      have hb2 := testBit_ancestors (tab.getD b' 0 % 4096) _ _ hlt
      rw [hpre] at hb2
      have := congrArg (·.testBit (node (tab.getD b 0))) (beq_iff_eq.1 h2)
      simp only [Nat.testBit_and, testBit_foldl_or_any, hb1, Nat.zero_testBit, Bool.false_or, Bool.true_and,
        List.any_eq_false] at this
      exact absurd hb2 (by simpa [node] using this _ (getD_mem tab b' 0 hb'))
    · -- equal nodes at different places of the table
      have hn : node (tab.getD b 0) = node (tab.getD b' 0) := by
        unfold node; rw [← hpre, heq, Nat.mod_eq_of_lt (hent' b' hb').2.2]
      apply getD_inj_of_nodup _ hnd b b' 0 (by simpa using hb) (by simpa using hb')
      simpa [List.getD_eq_getElem?_getD, List.getElem?_map, List.getElem?_eq_getElem, hb, hb'] using hn
  refine ⟨fun b hb => (hent' b hb).1, fun b hb => (hent' b hb).2.1, fun b hb => (hent' b hb).2.2, ?_⟩
  intro b b' x hb hb' h1 h2'
  rcases Nat.le_total (tab.getD b 0 / 4096) (tab.getD b' 0 / 4096) with hle | hle
  · exact ordered b b' x hb hb' h1 h2' hle
  · exact (ordered b' b x hb' hb h2' h1 hle).symm

theorem invPerm_of_injective (p : Nat → Nat) (hp : ∀ i j, i < 56 → j < 56 → p i = p j → i = j) (c : Nat) (hc : c < 56) :
    invPerm p (p c) = c := by
  unfold invPerm
  cases hf : (List.range 56).reverse.find? (fun i => p i == p c) with
  | none => simpa using List.find?_eq_none.1 hf c (by simpa using hc)
  | some i =>
    have hi := List.mem_of_find?_eq_some hf
    exact hp i c (by simpa using hi) hc (by simpa using List.find?_some hf)

def genComp : CompTables :=
  { encTab := fun p b => (DSGen.cpc_ENC_TABLES.getD p []).getD b 0,
    unary65 := fun x => DSGen.cpc_UNARY65.getD x 0,
    perm := fun p c => (DSGen.cpc_COL_PERMS.getD p []).getD c 0 }

theorem gen_enc_ok : DSGen.cpc_ENC_TABLES.length = 22 ∧
    DSGen.cpc_ENC_TABLES.all (fun t => t.length == 256 && codeListOK t) = true := by decide +kernel

theorem gen_unary_ok : DSGen.cpc_UNARY65.length = 65 ∧ codeListOK DSGen.cpc_UNARY65 = true := by decide +kernel

theorem gen_perm_ok : DSGen.cpc_COL_PERMS.length = 16 ∧
    DSGen.cpc_COL_PERMS.all (fun l => l.length == 56 && l.all (· < 56) && (addBits l 0).isSome) = true := by decide +kernel

theorem gen_tables_ok : TablesOK genComp := by
  have hperm : ∀ p, p < 16 → (DSGen.cpc_COL_PERMS.getD p []).length = 56 ∧ (DSGen.cpc_COL_PERMS.getD p []).Nodup ∧
      ∀ c ∈ DSGen.cpc_COL_PERMS.getD p [], c < 56 := by
    intro p hp
    have h := List.all_eq_true.1 gen_perm_ok.2 _ (getD_mem _ p [] (by rw [gen_perm_ok.1]; exact hp))
    simp only [Bool.and_eq_true, beq_iff_eq, List.all_eq_true, decide_eq_true_eq, Option.isSome_iff_exists] at h
    obtain ⟨⟨hl, hlt⟩, m, hm⟩ := h
    exact ⟨hl, (addBits_spec _ _ _ hm).1, hlt⟩
  refine ⟨?_, ?_, ?_, ?_⟩
  · intro p hp
    have h := List.all_eq_true.1 gen_enc_ok.2 _ (getD_mem _ p [] (by rw [gen_enc_ok.1]; exact hp))
    simp only [Bool.and_eq_true, beq_iff_eq] at h
    exact h.1 ▸ codeOK_of_list _ h.2
  · exact gen_unary_ok.1 ▸ codeOK_of_list _ gen_unary_ok.2
  · intro p c hp hc
    exact (hperm p hp).2.2 _ (getD_mem _ c 0 (by rw [(hperm p hp).1]; exact hc))
  · intro p c hp hc
    obtain ⟨hl, hn, _⟩ := hperm p hp
    exact invPerm_of_injective _ (fun i j hi hj => getD_inj_of_nodup _ hn i j 0 (hl ▸ hi) (hl ▸ hj)) c hc

/-- the wire constants as generated from cpc_sketch.hpp, with the given shape of `deserialize` on an empty image -/
def wireOf (repaired : Bool) : WireConsts :=
  { serialVersion := DSGen.cpc_SERIAL_VERSION, family := DSGen.cpc_FAMILY, flagCompressed := DSGen.cpc_FLAG_IS_COMPRESSED,
    flagHip := DSGen.cpc_FLAG_HAS_HIP, flagTable := DSGen.cpc_FLAG_HAS_TABLE, flagWindow := DSGen.cpc_FLAG_HAS_WINDOW,
    emptyKxpIsK := repaired }

/-- the shape the translator reads from the current cpc_sketch_impl.hpp (`DSGen.cpc_DESER_EMPTY_KXP_IS_K`) -/
def genWire : WireConsts := wireOf DSGen.cpc_DESER_EMPTY_KXP_IS_K
/-- the source at the pinned commit of /repo, before fix de90ce5: kxp = 0 after deserializing an empty image ("pinned" here is the
commit, not the PINNED flavor) -/
def pinnedWire : WireConsts := wireOf false
/-- the source after fix de90ce5: kxp = 2^lg_k -/
def repairedWire : WireConsts := wireOf true

/-- the three content flags read back from the flags byte that `serialize` writes -/
def FlagsOK (W : WireConsts) : Prop :=
  ∀ (a b c : Bool) (flags : Nat),
    flags = 2^W.flagCompressed + (if a then 2^W.flagHip else 0) + (if b then 2^W.flagTable else 0) + (if c then 2^W.flagWindow else 0) →
    flags.testBit W.flagHip = a ∧ flags.testBit W.flagTable = b ∧ flags.testBit W.flagWindow = c

/-- the flag bits are distinct positions (an obligation on the generated constants) -/
theorem gen_flags_bits (r : Bool) : FlagsOK (wireOf r) := by
  intro a b c flags hf
  subst hf
  simp only [wireOf]
  cases a <;> cases b <;> cases c <;> decide

end DS.Cpc
