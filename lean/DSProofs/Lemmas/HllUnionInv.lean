/- The union gadget on the pinned source shape (`hll_union` as in the verified commit of the library, Lemmas/HllGadget.lean), for
histories without precision reduction: `GInv` is the invariant `GI` at `L = lg_max_k`, written out as the structure that Props/C04
states; without reduction `union_impl` and the two updates are the `…F` functions, whatever the source-shape flags. -/
import DSProofs.Lemmas.HllGadget
namespace DS.Hll

variable {ν : Type} [HNum ν]

/-- the union gadget on the pinned source shape, along histories without precision reduction: the fields of `GI`
(Lemmas/HllGadget.lean) at `L = lg_max_k`, as a structure of its own because Props/C04 states it; the proofs convert at once
(`GInv.toGI`, `GI.toGInv`).  `nonhll` asks only for some stream `cs'` with the same nonzero members: that is no weaker, `cs'` can
always be taken to be `cs` (`RInv.congr_nz`). -/
structure GInv (p : Params) (lgMaxK : Nat) (g : St ν) (cs : List Nat) : Prop where
  lgk : g.lgK = lgMaxK
  tt8 : g.tt = .h8
  pos : ∀ c, c ∈ cs → c ≠ 0 → 0 < cValue p c
  nonhll : g.mode ≠ .hll → ∃ cs', RInv p lgMaxK g cs' ∧ ∀ c, c ≠ 0 → (c ∈ cs' ↔ c ∈ cs)
  hll : g.mode = .hll → GH p g (fun c => c ∈ cs ∧ c ≠ 0)

theorem GInv.toGI {p : Params} {K : Nat} {g : St ν} {cs : List Nat} (h : GInv p K g cs) : GI p K g cs K :=
  ⟨h.lgk, Nat.le_refl _, h.tt8, h.pos,
    fun hm => ⟨rfl, (h.nonhll hm).elim fun _ x => x.1.congr_nz x.2⟩, h.hll⟩

theorem GI.toGInv {p : Params} {K L : Nat} {g : St ν} {cs : List Nat} (h : GI p K g cs L) (hL : L = K) : GInv p K g cs :=
  ⟨h.lgk.trans hL, h.tt8, h.pos, fun hm => ⟨cs, (h.nonhll hm).2, fun _ _ => Iff.rfl⟩, h.hll⟩

/-- `HllSource` (Lemmas/HllGadget.lean) with `RegsOf` written out (`size`, `regs`), for an HLL-mode source whose lg_k is exactly
lg_max_k.  It is the hypothesis of `GInv.unionImpl` and has no other use: the histories (`GInv.of_uRun`) go through `HllSource` -/
structure SrcH (p : Params) (lgMaxK : Nat) (src : St ν) (S : Nat → Prop) : Prop where
  lgk : src.lgK = lgMaxK
  size : src.regs.size = 2^src.lgK
  regs : ∀ i, i < 2^src.lgK → IsMaxAt p src.lgK S i (src.regs.getD i 0)
  copy : GH p (copyAs p src .h8) S
  copy_lgk : (copyAs p src .h8).lgK = src.lgK

theorem unionImpl_eq_F (p : Params) (u : Un ν) (src : St ν) (hk : src.mode = .hll → src.lgK = u.lgMaxK)
    (hg : u.gadget.lgK = u.lgMaxK) : unionImpl p u src = unionImplF p u src := by
  unfold unionImpl unionImplF
  by_cases hm : src.mode ≠ .hll
  · simp only [if_pos hm]
  · have hk' := hk (Decidable.not_not.1 hm)
    have e : copyOrDownsampleF p src u.lgMaxK = copyOrDownsample p src u.lgMaxK := by
      rw [copyOrDownsampleF_of_le p src (Nat.le_of_eq hk')]
      unfold copyOrDownsample; rw [if_pos (Nat.le_of_eq hk')]
    simp only [if_neg hm, e, if_neg (show ¬ src.lgK < u.gadget.lgK by rw [hk', hg]; exact Nat.lt_irrefl _)]

theorem unionUpdate_eq_F (p : Params) (u : Un ν) (src : St ν) (hk : src.mode = .hll → src.lgK = u.lgMaxK)
    (hg : u.gadget.lgK = u.lgMaxK) : unionUpdate p u src = unionUpdateF p u src := by
  unfold unionUpdate unionUpdateF
  rw [unionImpl_eq_F p u src hk hg]

theorem unionUpdateRv_eq_F (p : Params) (u : Un ν) (src : St ν) (hk : src.mode = .hll → src.lgK = u.lgMaxK)
    (hg : u.gadget.lgK = u.lgMaxK) : unionUpdateRv p u src = unionUpdateRvF p u src := by
  unfold unionUpdateRv unionUpdateRvF
  rw [unionImpl_eq_F p u src hk hg]
  by_cases had : isEmpty u.gadget = true ∧ src.tt = .h8 ∧ src.lgK ≤ u.lgMaxK ∧ (src.mode = .hll ∨ src.lgK = u.lgMaxK)
  · rw [if_pos had, if_pos had, unionImpl_eq_F p { u with gadget := src } u.gadget (fun _ => hg)
      (Classical.byCases hk fun hm => had.2.2.2.resolve_left hm)]
  · rw [if_neg had, if_neg had]

theorem lgkAfter_of_eq {K : Nat} {src : St ν} (hk : src.mode = .hll → src.lgK = K) : lgkAfter K src = K := by
  unfold lgkAfter
  by_cases hm : src.mode = .hll
  · rw [if_pos hm, hk hm, Nat.min_self]
  · rw [if_neg hm]

theorem lgkUpd_of_eq {K : Nat} {src : St ν} (hk : src.mode = .hll → src.lgK = K) : lgkUpd K src = K := by
  unfold lgkUpd
  by_cases hm : src.mode = .hll ∧ isEmpty src = false
  · rw [if_pos hm, hk hm.1, Nat.min_self]
  · rw [if_neg hm]

theorem GInv.coupon {p : Params} (hp : p.listFitsSet) {lgMaxK : Nat} {g : St ν} {cs : List Nat} (h : GInv p lgMaxK g cs)
    (c : Nat) (hc : c ≠ 0 → 0 < cValue p c) : GInv p lgMaxK (couponUpdate p g c) (cs ++ [c]) :=
  (h.toGI.coupon hp c hc).toGInv rfl

/-- one call of the pinned `union_impl`, stated for its own sake (nothing below uses it): `GInv.of_uRun` handles the updates through
`GI.unionUpdateF` / `GI.unionUpdateRvF` instead -/
theorem GInv.unionImpl {p : Params} (hp : p.listFitsSet) {lgMaxK : Nat} (hkb : lgMaxK ≤ p.keyBits) {u : Un ν} {cs : List Nat}
    (hu : u.lgMaxK = lgMaxK) (h : GInv p lgMaxK u.gadget cs) (src : St ν) (scs : List Nat)
    (hsl : src.mode ≠ .hll → RInv p src.lgK src scs)
    (hsh : src.mode = .hll → SrcH p lgMaxK src (fun c => c ∈ scs ∧ c ≠ 0))
    (hpos : ∀ c, c ∈ scs → c ≠ 0 → 0 < cValue p c) :
    GInv p lgMaxK (DS.Hll.unionImpl p u src).gadget (cs ++ scs) ∧ (DS.Hll.unionImpl p u src).lgMaxK = lgMaxK := by
  have hk : src.mode = .hll → src.lgK = lgMaxK := fun hm => (hsh hm).lgk
  rw [unionImpl_eq_F p u src (fun hm => (hk hm).trans hu.symm) (h.lgk.trans hu.symm)]
  have r := h.toGI.unionImplF hp hu src scs hsl (fun hm => ⟨⟨(hsh hm).size, (hsh hm).regs⟩, (hsh hm).copy, (hsh hm).copy_lgk⟩) (Or.inr ⟨rfl, hk⟩) hpos
  exact ⟨r.toGInv (lgkAfter_of_eq hk), (unionImplF_lgMaxK p u src).trans hu⟩

/-- the histories for which the full statements ARE proved: lvalue or rvalue updates whose HLL-mode inputs have exactly lg_k = lg_max_k
(LIST / SET inputs of any lg_k), raw items, estimate calls and resets in any interleaving; coupons are genuine (a nonzero
coupon has a positive value, as every `HllUtil::coupon` has). What is missing for the full statements is exactly the two
defects: inputs that force a precision reduction (D1, and D14 after a reset). -/
def NoReduction (ν : Type) [HNum ν] (p : Params) (lgMaxK : Nat) (ops : List UOp) : Prop :=
  ∀ op, op ∈ ops → match op with
    | .merge d _ => d.lgK ≤ p.keyBits ∧ ((d.build p : St ν).mode = .hll → d.lgK = lgMaxK) ∧
        ∀ c, c ∈ d.cs → c ≠ 0 → 0 < cValue p c
    | .coupon c => c ≠ 0 → 0 < cValue p c
    | _ => True

theorem GInv.of_uRun (p : Params) (hp : p.listFitsSet) (lgMaxK : Nat) (hkb : lgMaxK ≤ p.keyBits) :
    ∀ (ops : List UOp) (u : Un ν) (cs : List Nat), u.lgMaxK = lgMaxK → GInv p lgMaxK u.gadget cs → NoReduction ν p lgMaxK ops →
      GInv p lgMaxK (uRun p u ops).gadget (ops.foldl offeredStep cs) ∧ (uRun p u ops).lgMaxK = lgMaxK
  | [], u, cs, hu, hg, _ => ⟨hg, hu⟩
  | op :: ops, u, cs, hu, hg, hok => by
    have hop := hok op List.mem_cons_self
    have step : GInv p lgMaxK (uStep p u op).gadget (offeredStep cs op) ∧ (uStep p u op).lgMaxK = lgMaxK := by
      cases op with
      | coupon c => exact ⟨hg.coupon hp c hop, hu⟩
      | touch => exact ⟨hg.toGI.touch.toGInv rfl, hu⟩
      | reset => exact ⟨hg.toGI.reset.toGInv rfl, hu⟩
      | merge d rv =>
        obtain ⟨hdk, hdl, hdv⟩ := hop
        have hs := d.skOf (ν := ν) p hp hdk hdv
        have hk : (d.build p : St ν).mode = .hll → (d.build p : St ν).lgK = lgMaxK := fun hm => (build_lgK p hp d).trans (hdl hm)
        cases rv with
        | false =>
          show GInv p lgMaxK (unionUpdate p u (d.build p)).gadget _ ∧ (unionUpdate p u (d.build p)).lgMaxK = lgMaxK
          rw [unionUpdate_eq_F p u _ (fun hm => (hk hm).trans hu.symm) (hg.lgk.trans hu.symm)]
          have r := hg.toGI.unionUpdateF hp hu hs (Or.inr ⟨rfl, hk⟩)
          exact ⟨r.1.toGInv (lgkUpd_of_eq hk), (unionUpdateF_lgMaxK p u _).trans hu⟩
        | true =>
          show GInv p lgMaxK (unionUpdateRv p u (d.build p)).gadget _ ∧ (unionUpdateRv p u (d.build p)).lgMaxK = lgMaxK
          rw [unionUpdateRv_eq_F p u _ (fun hm => (hk hm).trans hu.symm) (hg.lgk.trans hu.symm)]
          have r := hg.toGI.unionUpdateRvF hp hu hs (Or.inr ⟨rfl, hk⟩)
            fun _ hm => HllSource.of_GH (hg.hll hm) (by rw [hg.lgk]; exact hkb)
          exact ⟨r.1.toGInv (lgkUpd_of_eq hk), (unionUpdateRvF_lgMaxK p u _).trans hu⟩
    have ih := GInv.of_uRun p hp lgMaxK hkb ops (uStep p u op) (offeredStep cs op) step.2 step.1
      (fun o ho => hok o (List.mem_cons_of_mem _ ho))
    simpa [uRun] using ih

theorem foldl_offeredStep : ∀ (ops : List UOp) (acc : List Nat), (∀ o, o ∈ ops → o ≠ .reset) →
    ops.foldl offeredStep acc = acc ++ ops.flatMap (offeredStep [])
  | [], acc, _ => (List.append_nil acc).symm
  | o :: ops, acc, hnr => by
    have e : offeredStep acc o = acc ++ offeredStep [] o := by
      cases o with
      | reset => exact absurd rfl (hnr _ List.mem_cons_self)
      | touch => exact (List.append_nil acc).symm
      | _ => rfl
    rw [List.foldl_cons, foldl_offeredStep ops _ fun x hx => hnr x (List.mem_cons_of_mem _ hx), e, List.flatMap_cons,
      List.append_assoc]

theorem offered_perm {ops ops' : List UOp} (hperm : ops.Perm ops') (hnr : ∀ o, o ∈ ops → o ≠ .reset) :
    (offered ops).Perm (offered ops') := by
  unfold offered
  rw [foldl_offeredStep ops [] hnr, foldl_offeredStep ops' [] fun o ho => hnr o (hperm.mem_iff.2 ho)]
  exact hperm.flatMap_right _

theorem offered_touch (ops₁ ops₂ : List UOp) : offered (ops₁ ++ [.touch] ++ ops₂) = offered (ops₁ ++ ops₂) := by
  simp [offered, List.foldl_append, offeredStep]

theorem all_touch {P : UOp → Prop} (hP : P .touch) {ops₁ ops₂ : List UOp} (h : ∀ o, o ∈ ops₁ ++ ops₂ → P o) :
    ∀ o, o ∈ ops₁ ++ [.touch] ++ ops₂ → P o := by
  intro o ho
  simp only [List.mem_append, List.mem_singleton] at ho
  rcases ho with (ho | ho) | ho
  · exact h o (List.mem_append_left _ ho)
  · subst ho; exact hP
  · exact h o (List.mem_append_right _ ho)

/-- `fl` changes nothing but lvalue / rvalue flags -/
def FlipsOnly (fl : UOp → UOp) : Prop := ∀ o, fl o = o ∨ ∃ d rv, o = .merge d rv ∧ fl o = .merge d (!rv)

theorem FlipsOnly.ite {fl : UOp → UOp} (h : FlipsOnly fl) (flip : UOp → Bool) : FlipsOnly (fun o => if flip o then fl o else o) := by
  intro o
  by_cases hf : flip o = true
  · simp only [hf, if_true]; exact h o
  · simp only [hf]; exact Or.inl rfl

theorem foldl_map_flips {α : Type} (f : α → UOp → α) (hf : ∀ a d rv, f a (.merge d (!rv)) = f a (.merge d rv))
    {fl : UOp → UOp} (hfl : FlipsOnly fl) (l : List UOp) (acc : α) : (l.map fl).foldl f acc = l.foldl f acc := by
  rw [List.foldl_map]
  congr
  funext a o
  rcases hfl o with e | ⟨d, rv, rfl, e⟩ <;> rw [e]
  exact hf a d rv

theorem offered_map_flips {fl : UOp → UOp} (hfl : FlipsOnly fl) (ops : List UOp) : offered (ops.map fl) = offered ops :=
  foldl_map_flips offeredStep (fun _ _ _ => rfl) hfl ops []

theorem all_map_flips {P : UOp → Prop} (hP : ∀ d rv, P (.merge d rv) → P (.merge d (!rv))) {fl : UOp → UOp} (hfl : FlipsOnly fl)
    {ops : List UOp} (h : ∀ o, o ∈ ops → P o) : ∀ o, o ∈ ops.map fl → P o := by
  intro o ho
  rcases List.mem_map.1 ho with ⟨o0, ho0, rfl⟩
  rcases hfl o0 with e | ⟨d, rv, rfl, e⟩ <;> rw [e]
  · exact h o0 ho0
  · exact hP d rv (h _ ho0)

end DS.Hll
