/-
C09 (classic quantiles) — serialization round trip of the quantiles image.

ONLY property theorems and their non-vacuity examples (helper lemmas: Lemmas/WireQuant*.lean).
Model: DSModel/Wire/Quantiles.lean, tied to quantiles_sketch_impl.hpp by `./check c09_quant`.
All statements: every lawful item serde, every constant set with `CfgOK`, every well-formed image
(any serial version the reader accepts), every tail.
-/
import DSModel.Wire.QuantilesCode
import DSProofs.Lemmas.WireQuantQuantiles
namespace DS.Wire.Quantiles
open Reader

/-- the reader recovers exactly the image state and consumes exactly the image -/
theorem decode_encode (sd : Serde) (hs : sd.Lawful) (c : Cfg) (hc : CfgOK c) (s : Image) (tail : Bytes)
    (hw : WF sd c s = true) : decode sd c (encode sd c s ++ tail) = some (s, tail) := by
  obtain ⟨hfam, _, _⟩ := hc
  simp only [WF, Bool.and_eq_true, decide_eq_true_eq] at hw
  obtain ⟨⟨⟨⟨⟨⟨⟨hpre, hver⟩, hfl⟩, hk⟩, hun⟩, hvk⟩, hhv⟩, hb⟩ := hw
  simp only [decode, encode, header, List.append_assoc]
  rw [bind_u8 _ hpre, bind_u8 _ hver, bind_u8 _ hfam, bind_u8 _ hfl, bind_u16 _ hk, bind_u16 _ hun,
    bind_guard _ (by simp [hvk, hhv])]
  obtain ⟨pre, ver, flags, k, unused, body⟩ := s
  cases body with
  | none =>
    simp only at hb
    simp [hb, Reader.pure]
  | some b =>
    simp only [Bool.and_eq_true, Bool.not_eq_true'] at hb
    obtain ⟨he, hbw⟩ := hb
    simp only [he, Bool.false_eq_true, if_false]
    exact decodeBody_enc sd hs c pre ver flags k unused b tail hbw

/-- the image has exactly `serializedSize` bytes -/
theorem size_eq (sd : Serde) (c : Cfg) (hc : CfgOK c) (s : Image) :
    (encode sd c s).length = serializedSize sd c s := by
  obtain ⟨-, he, hd⟩ := hc
  obtain ⟨pre, ver, flags, k, unused, body⟩ := s
  cases body with
  | none => rw [encode, List.append_nil, length_header, serializedSize, he]
  | some b =>
    simp +arith only [encode, serializedSize, encodeBody, List.length_append, apply_ite List.length, List.length_nil,
      length_header, length_w64, sizeItems, hd]

/-- a compact image (what the current writer emits: serial version 3 with the compact flag) stores no surplus base-buffer slots -/
theorem extraCount_compact (c : Cfg) (ver flags k n : Nat) (h : isCompact c ver flags = true) :
    extraCount c ver flags k n = 0 := by
  simp [extraCount, h]

/-- ... and then `serializedSize` is the advertised `get_serialized_size_bytes`: DATA_START + min + max + the retained items -/
theorem size_current (sd : Serde) (c : Cfg) (s : Image) (b : Body) (hb : s.body = some b) (hv : s.ver ≠ c.ver1)
    (hex : b.extra = []) :
    serializedSize sd c s = c.dataStart + (sd.enc b.min).length + (sd.enc b.max).length + sizeItems sd b.bb +
      (encList (encItems sd) b.levels).length := by
  have hne : (s.ver == c.ver1) = false := by simpa using hv
  simp [serializedSize, hb, hne, hex, sizeItems, encItems, encList]

/-- the documented constant set -/
def docCfg : Cfg :=
  { family := 8, ver1 := 1, ver2 := 2, ver3 := 3, preShort := 1, preFull := 2, bitEmpty := 2, bitCompact := 3, bitSorted := 4,
    emptySize := 8, dataStart := 16, minK := 2, maxK := 32768,
    validHeaders := [38, 164, 42, 72, 47, 46, 79, 78, 77, 76] }

example : CfgOK docCfg := by decide

/-- non-vacuity: k = 2, n = 5 (base buffer 1 item, level 0 valid) as the current writer emits it, 8-byte items -/
def exImage : Image :=
  { pre := 2, ver := 3, flags := 24, k := 2, unused := 0,
    body := some { n := 5, min := [1,0,0,0,0,0,0,0], max := [5,0,0,0,0,0,0,0], v1pad := 0, bb := [[5,0,0,0,0,0,0,0]], extra := [],
                   levels := [[[2,0,0,0,0,0,0,0], [4,0,0,0,0,0,0,0]]] } }

example : WF (Serde.fixed 8) docCfg exImage = true := by decide
example : Current docCfg exImage = true := by decide
example : WF Serde.lpString docCfg { pre := 1, ver := 3, flags := 28, k := 128, unused := 0, body := none } = true := by decide

/-- the constants the CURRENT headers define satisfy the side conditions, so the theorems above apply to the model the
correspondence check runs (`codeCfg` = DSGen values; a changed flag position / size constant breaks this obligation) -/
theorem codeCfg_ok : CfgOK codeCfg := by decide

/-- round trip at the constants of the current headers -/
theorem decode_encode_code (sd : Serde) (hs : sd.Lawful) (s : Image) (tail : Bytes) (hw : WF sd codeCfg s = true) :
    decode sd codeCfg (encode sd codeCfg s ++ tail) = some (s, tail) :=
  decode_encode sd hs codeCfg codeCfg_ok s tail hw

end DS.Wire.Quantiles
