/-
C10 (density sketch part) — the image follows the documented layout.

ONLY property theorems and non-vacuity examples.  `documented` is written by hand from the "Serialized
sketch layout" comment of density_sketch_impl.hpp; `genConsts` is regenerated from the CURRENT headers on
every run.  (The density sketch writes family id 19, the id EBPPS also uses — as coded.)
-/
import DSProofs.Lemmas.WireMiscDensity
import DSModel.Wire.DensityGen
namespace DS.Wire.Density
open DS.Wire

/-- the documented contract: 3 preamble ints when empty else 6, serial version 1, family 19, flag bit 2 = empty -/
def documented : Consts := { preShort := 3, preLong := 6, serVer := 1, familyId := 19, emptyBit := 2 }

/-- every wire constant extracted from the current headers equals its documented value -/
theorem wire_consts_documented : genConsts = documented := by decide

/-- documented offsets: k at byte 4, num dimensions at byte 8 -/
theorem header_offsets (c : Consts) (tsz : Nat) (s : Img) :
    (encode c tsz s).take 4 = w8 (if s.body.isNone then c.preShort else c.preLong) ++ w8 c.serVer ++ w8 c.familyId ++
                              w8 (if s.body.isNone then 2 ^ c.emptyBit else 0) ∧
    ((encode c tsz s).drop 4).take 2 = w16 s.k ∧ ((encode c tsz s).drop 8).take 4 = w32 s.dim := ⟨rfl, rfl, rfl⟩

/-- documented offsets of a non-empty image: num retained at byte 12, n at byte 16, level data from byte 24
("Int 5 is the start of level data"), each level = u32 size followed by its points -/
theorem body_offsets (c : Consts) (tsz : Nat) (s : Img) (b : Body) (hb : s.body = some b) :
    ((encode c tsz s).drop 12).take 4 = w32 b.numRetained ∧ ((encode c tsz s).drop 16).take 8 = w64 b.n ∧
    (encode c tsz s).drop 24 = encodeLevels tsz b.levels := by
  cases s
  cases hb
  exact ⟨rfl, rfl, rfl⟩

example : encode documented 4 { k := 4, dim := 1, body := some { numRetained := 1, n := 9, levels := [[], [[0x3f800000]]] } } =
    [6, 1, 19, 0, 4, 0, 0, 0, 1, 0, 0, 0,  1, 0, 0, 0,  9, 0, 0, 0, 0, 0, 0, 0,  0, 0, 0, 0,  1, 0, 0, 0, 0, 0, 0x80, 0x3f] := by decide +kernel
example : encode documented 8 { k := 300, dim := 7, body := none } = [3, 1, 19, 4, 44, 1, 0, 0, 7, 0, 0, 0] := by decide +kernel

end DS.Wire.Density
