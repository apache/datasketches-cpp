/- Payload homomorphisms of the update table (a tuple sketch against the theta sketch fed the same keys) and per-key folds. -/
import DSProofs.Lemmas.ThetaInv
namespace DS.Theta

variable {σ τ V : Type}

def mapEnts (g : σ → τ) (l : List (Nat × σ)) : List (Nat × τ) := l.map (fun e => (e.1, g e.2))

def mapSt (g : σ → τ) (s : St σ) : St τ :=
  { theta := s.theta, ents := mapEnts g s.ents, isEmpty := s.isEmpty, lgCur := s.lgCur }

@[simp] theorem keys_mapEnts (g : σ → τ) (l : List (Nat × σ)) : keys (mapEnts g l) = keys l := by
  simp [keys, mapEnts, List.map_map]

@[simp] theorem length_mapEnts (g : σ → τ) (l : List (Nat × σ)) : (mapEnts g l).length = l.length := by
  simp [mapEnts]

theorem lookup_mapEnts (g : σ → τ) (h : Nat) (l : List (Nat × σ)) : lookup h (mapEnts g l) = (lookup h l).map g := by
  induction l with
  | nil => rfl
  | cons a t ih =>
    obtain ⟨k, v⟩ := a
    simp only [mapEnts, List.map_cons, lookup]
    split
    · rfl
    · exact ih

theorem upsert_mapEnts (g : σ → τ) (h : Nat) (f : Option σ → σ) (f' : Option τ → τ)
    (hf : ∀ o, g (f o) = f' (o.map g)) (l : List (Nat × σ)) :
    mapEnts g (upsert h f l) = upsert h f' (mapEnts g l) := by
  induction l with
  | nil => simp [upsert, mapEnts, hf none]
  | cons a t ih =>
    obtain ⟨k, v⟩ := a
    simp only [upsert, mapEnts, List.map_cons]
    split
    · simp [hf none]
    · split
      · simp [hf (some v)]
      · simp only [List.map_cons, List.cons.injEq, true_and]; exact ih

theorem mapSt_rebuild (c : Cfg) (g : σ → τ) (s : St σ) : mapSt g (rebuild c s) = rebuild c (mapSt g s) := by
  unfold rebuild
  simp only [mapSt, keys_mapEnts]
  split <;> simp [mapEnts, List.map_take]

theorem mapSt_afterInsert (c : Cfg) (g : σ → τ) (s : St σ) : mapSt g (afterInsert c s) = afterInsert c (mapSt g s) := by
  have hl : (mapSt g s).ents.length = s.ents.length := length_mapEnts g s.ents
  have hc : (mapSt g s).lgCur = s.lgCur := rfl
  unfold afterInsert
  rw [hl, hc]
  by_cases h1 : s.ents.length > capacity c s.lgCur
  · simp only [h1, if_true]
    by_cases h2 : s.lgCur ≤ c.lgNom
    · simp only [h2, if_true]; rfl
    · simp only [h2, if_false]; exact mapSt_rebuild c g s
  · simp only [h1, if_false]

inductive OpRel (g : σ → τ) : Op σ → Op τ → Prop where
  | upd (h : Nat) (f : Option σ → σ) (f' : Option τ → τ) (hf : ∀ o, g (f o) = f' (o.map g)) : OpRel g (.upd h f) (.upd h f')
  | trim : OpRel g .trim .trim
  | reset : OpRel g .reset .reset

theorem mapSt_step (c : Cfg) (g : σ → τ) (s : St σ) (op : Op σ) (op' : Op τ) (h : OpRel g op op') :
    mapSt g (step c s op) = step c (mapSt g s) op' := by
  cases h with
  | upd hash f f' hf =>
    simp only [step, offer]
    have hl := lookup_mapEnts g hash s.ents
    by_cases hsc : hash = 0 ∨ s.theta ≤ hash
    · simp [mapSt, hsc]
    · simp only [mapSt, hsc, if_false, hl]
      cases hlk : lookup hash s.ents with
      | some v =>
        simp only [Option.map_some]
        simp [upsert_mapEnts g hash f f' hf]
      | none =>
        simp only [Option.map_none]
        have := mapSt_afterInsert c g ({ theta := s.theta, ents := upsert hash f s.ents, isEmpty := false, lgCur := s.lgCur } : St σ)
        simp only [mapSt, upsert_mapEnts g hash f f' hf] at this
        exact this
  | trim =>
    simp only [step, trim, mapSt, length_mapEnts]
    split
    · exact mapSt_rebuild c g s
    · rfl
  | reset => simp [step, reset, init, mapSt, mapEnts]

inductive OpsRel (g : σ → τ) : List (Op σ) → List (Op τ) → Prop where
  | nil : OpsRel g [] []
  | cons {op op' ops ops'} (h : OpRel g op op') (t : OpsRel g ops ops') : OpsRel g (op :: ops) (op' :: ops')

theorem mapSt_foldl (c : Cfg) (g : σ → τ) (ops : List (Op σ)) : ∀ (ops' : List (Op τ)) (s : St σ),
    OpsRel g ops ops' → mapSt g (ops.foldl (step c) s) = ops'.foldl (step c) (mapSt g s) := by
  induction ops with
  | nil => intro ops' s h; cases h; rfl
  | cons op rest ih =>
    intro ops' s h
    cases h with
    | cons h1 h2 =>
      simp only [List.foldl_cons]
      rw [ih _ _ h2, mapSt_step c g s op _ h1]

inductive TOp (V : Type) where
  | upd (h : Nat) (v : V)
  | trim
  | reset

/-- the table operation a tuple update performs under the policy (create, update) -/
def TOp.toOp (create : σ) (update : σ → V → σ) : TOp V → Op σ
  | .upd h v => .upd h (fun o => update (o.getD create) v)
  | .trim => .trim
  | .reset => .reset

def valsStep (vf : Nat → List V) : TOp V → (Nat → List V)
  | .upd h v => fun k => if k = h then vf k ++ [v] else vf k
  | .trim => vf
  | .reset => fun _ => []

def valsOf (ops : List (TOp V)) : Nat → List V := ops.foldl valsStep (fun _ => [])

def FoldInv (create : σ) (update : σ → V → σ) (vf : Nat → List V) (s : St σ) : Prop :=
  ∀ k v, lookup k s.ents = some v → v = (vf k).foldl update create

theorem foldInv_step (c : Cfg) (create : σ) (update : σ → V → σ) (seen : List Nat) (vf : Nat → List V) (s : St σ) (op : TOp V)
    (hI : Inv c seen s) (hz : ∀ k, k ∉ seen → vf k = []) (hF : FoldInv create update vf s) :
    Inv c (seenStep seen (op.toOp create update)) (step c s (op.toOp create update)) ∧
    (∀ k, k ∉ seenStep seen (op.toOp create update) → valsStep vf op k = []) ∧
    FoldInv create update (valsStep vf op) (step c s (op.toOp create update)) := by
  refine ⟨inv_step c seen s _ hI, ?_, ?_⟩
  · cases op with
    | upd h v =>
      intro k hk
      simp only [TOp.toOp, seenStep, List.mem_append, List.mem_singleton, not_or] at hk
      simp only [valsStep, hk.2, if_false]
      exact hz k hk.1
    | trim => intro k hk; exact hz k hk
    | reset => intro k _; rfl
  · cases op with
    | upd h v =>
      simp only [TOp.toOp, step, offer_eq]
      intro k x hx
      split at hx
      · rename_i hsc
        have hk := (hI.mem k).1 ((lookup_some_iff k s.ents).1 ⟨x, hx⟩)
        have hne : k ≠ h := by rintro rfl; omega
        simp only [valsStep, hne, if_false]
        exact hF k x hx
      · rename_i hsc
        have hx := lookup_insertSt c { s with isEmpty := false } h _ hI.sorted k x hx
        by_cases hk : k = h
        · subst hk
          rw [if_pos rfl] at hx
          simp only [valsStep, if_true, List.foldl_append, List.foldl_cons, List.foldl_nil]
          cases hlk : lookup k s.ents with
          | some old => rw [← hF k old hlk, ← Option.some.inj hx, hlk]; rfl
          | none =>
            -- a key that is new to the table below theta was never offered before
            have hlt : 0 < k ∧ k < s.theta := by omega
            have hns : k ∉ seen := fun hm => (lookup_none_iff k s.ents).1 hlk ((hI.mem k).2 ⟨hm, hlt⟩)
            rw [hz k hns, ← Option.some.inj hx, hlk]; rfl
        · rw [if_neg hk] at hx
          simp only [valsStep, hk, if_false]
          exact hF k x hx
    | trim =>
      simp only [TOp.toOp, step, valsStep]
      obtain ⟨n, hn⟩ := trim_ents_prefix c s
      intro k x hx
      rw [hn] at hx
      exact hF k x (lookup_take k n _ x hx)
    | reset =>
      simp only [TOp.toOp, step, reset, init]
      intro k x hx
      simp [lookup] at hx

theorem foldInv_foldl (c : Cfg) (create : σ) (update : σ → V → σ) (ops : List (TOp V)) :
    ∀ (seen : List Nat) (vf : Nat → List V) (s : St σ), Inv c seen s → (∀ k, k ∉ seen → vf k = []) → FoldInv create update vf s →
      FoldInv create update (ops.foldl valsStep vf) ((ops.map (TOp.toOp create update)).foldl (step c) s) := by
  induction ops with
  | nil => intro seen vf s _ _ hF; exact hF
  | cons op rest ih =>
    intro seen vf s hI hz hF
    obtain ⟨h1, h2, h3⟩ := foldInv_step c create update seen vf s op hI hz hF
    simp only [List.map_cons, List.foldl_cons]
    exact ih _ _ _ h1 h2 h3

end DS.Theta
