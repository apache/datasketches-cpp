/-
C12 — instance of the parametric theorems for the tunables generated from the CURRENT headers (DSGen/Fi.lean).
Kept apart from Props/C12.lean so that a retuning that violates a side condition breaks exactly this obligation.
-/
import DSProofs.Props.C12
import DSGen.Fi
namespace DS.Fi

variable {ι : Type} [DecidableEq ι]

/-- the tunables as generated from the current headers (the model driver uses the same values and, besides, sets `emptyByTotal`
from `DSGen.fi_EMPTY_BY_TOTAL`; it stays `false` here: `merge` and `roundtrip`, which the theorems below are about, do not read it) -/
def genTun : Tun :=
  { lfNum := DSGen.fi_LOAD_FACTOR_num, lfDen := DSGen.fi_LOAD_FACTOR_den, maxSample := DSGen.fi_MAX_SAMPLE_SIZE,
    epsNum := DSGen.fi_EPSILON_FACTOR_num, epsDen := DSGen.fi_EPSILON_FACTOR_den, lgMin := DSGen.fi_LG_MIN_MAP_SIZE,
    goldNum := DSGen.fi_GOLDEN_RATIO_RECIPROCAL_num, goldDen := DSGen.fi_GOLDEN_RATIO_RECIPROCAL_den,
    driftLimit := DSGen.fi_DRIFT_LIMIT }

/-- With the LOAD_FACTOR and EPSILON_FACTOR of the current headers (side condition EPSILON_FACTOR · LOAD_FACTOR ≥ 2 by
`decide`): maximum error ≤ EPSILON_FACTOR / 2^lg_max · total weight whenever every purge amount is at most the median.
`ReachMed`/`ReachP` are over `merge`/`roundtrip`, which do not read `emptyByTotal` (left `false` in `genTun`); there is no form of this
and the next theorem over `mergeF`/`roundtripF`, the operations of the repaired source shape. -/
theorem fi_epsilon_gen {s : St ι} (h : ReachMed genTun s) :
    s.offset * (genTun.epsDen * 2 ^ s.lgMax) ≤ genTun.epsNum * s.total :=
  fi_epsilon genTun h (by decide) (by decide)

example : ∃ s : St Nat, ReachMed genTun s ∧ s.total = 5 :=
  ⟨_, ReachP.upd 1 5 0 (ReachP.new 3 3 (by decide)) (by intro h; exact absurd h (by decide)), by decide⟩

/-- load invariant for the constants of the current headers (side condition `capacity(LG_MIN_MAP_SIZE) ≥ 1` by `decide`) -/
theorem fi_capacity_gen {b : Bool} {s : St ι} (h : ReachP genTun b (AmtDel genTun) s) :
    numActive s ≤ capacity genTun s.lgCur :=
  (fi_capacity genTun (by decide) h).1

example : ∃ s : St Nat, ReachP genTun false (AmtDel genTun) s ∧ s.total = 5 :=
  ⟨_, ReachP.upd 1 5 0 (ReachP.new 3 3 (by decide)) (by intro h; exact absurd h (by decide)), by decide⟩

end DS.Fi
