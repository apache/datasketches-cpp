/-
C10 (frequent-items part) — the wire constants extracted from the CURRENT headers equal the documented values.

Documented contract (DataSketches family table; Java LongsSketch/ItemsSketch "Serialized sketch layout"): family id 10,
serial version 1, preamble longs 1 (empty) / 4 (non-empty), smallest map 2^3, flag bits 0 and 2 both set for an empty
sketch, epsilon factor 3.5.  Field order in the non-empty image (what a cross-language reader relies on):
num_items u32 @8 · total weight @16 · offset @24 · weights @32 · items — this order is part of `encode`/`decode`
(DSModel/Wire/Fi.lean) and is pinned against the code by the two-phase check (the documented reader must recover the
API's total weight and maximum error from the code's bytes) and by the committed baseline corpus (corpus/baseline/fi).
-/
import DSModel.Wire.FiGen
namespace DS.Wire.Fi

/-- every wire constant of the current headers has its documented value -/
theorem wire_consts_documented : generated = documented := by decide

/-- the documented bytes of a one-entry sketch (item 7 with weight 5, total weight 9, offset 4): total weight BEFORE offset -/
example : encode documented serdeU64 { lgMax := 4, lgCur := 3, body := some { totalWeight := 9, offset := 4, weights := [5], items := [7] } }
    = [4, 1, 10, 4, 3, 0, 0, 0,  1, 0, 0, 0, 0, 0, 0, 0,  9, 0, 0, 0, 0, 0, 0, 0,  4, 0, 0, 0, 0, 0, 0, 0,
       5, 0, 0, 0, 0, 0, 0, 0,  7, 0, 0, 0, 0, 0, 0, 0] := by decide +kernel
/-- the documented empty image: both empty bits set -/
example : encode documented serdeU64 { lgMax := 10, lgCur := 3, body := none } = [1, 1, 10, 10, 3, 5, 0, 0] := by decide +kernel

end DS.Wire.Fi
