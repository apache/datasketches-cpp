/- Witness constructions for the `…_full_false` theorems of C20 (for every value of the behaviour switches they do not concern). -/
import DSProofs.Lemmas.DensityExact
namespace DS.Density

/-- the shape of the `…_current` theorems of C20 -/
theorem current_of_switch {b : Bool} {p : Prop} (hfixed : b = true → p) (hfalse : b = false → ¬ p) :
    if b = true then p else ¬ p := by
  cases b
  · exact hfalse rfl
  · exact hfixed rfl

variable {α ρ : Type} in
theorem drain_congr {c c' : Cfg} (hp : c.popsEmptyTop = c'.popsEmptyTop) (P : Picker ρ α) (f : Nat) (r : ρ) (s : Sketch α) :
    drain c P f r s = drain c' P f r s := by
  obtain ⟨_, _, _, p⟩ := c
  obtain ⟨_, _, _, p'⟩ := c'
  cases (hp : p = p')
  induction f generalizing r s with
  | zero => rfl
  | succ f ih => simp only [drain, ih]; rfl

variable {α ρ : Type} in
theorem run_congr {c c' : Cfg} (hm : c.mergeSkipOnN = c'.mergeSkipOnN) (hp : c.popsEmptyTop = c'.popsEmptyTop)
    (P : Picker ρ α) (h : Hist α) (r : ρ) : run c P h r = run c' P h r := by
  obtain ⟨m, q, w, e⟩ := c
  obtain ⟨m', q', w', e'⟩ := c'
  cases (hm : m = m')
  cases (hp : e = e')
  have hd := @drain_congr α ρ ⟨m, q, w, e⟩ ⟨m, q', w', e⟩ rfl P
  induction h generalizing r with
  | new k d => rfl
  | upd h p ih => simp only [run, ih, update, compactLoop, hd]
  | merge h o ih1 ih2 => simp only [run, ih1, ih2, merge, compactLoop, hd]; rfl

theorem estimate_congr {α : Type} [Scalar α] {c c' : Cfg} (hw : c.weight64 = c'.weight64) (K : Point α → Point α → α)
    (s : Sketch α) (q : Point α) : estimate c K s q = estimate c' K s q := by
  obtain ⟨_, _, w, _⟩ := c
  obtain ⟨_, _, w', _⟩ := c'
  cases (hw : w = w')
  unfold estimate
  generalize (0 : Nat) = h, (Scalar.zero : α) = acc
  induction s.levels generalizing h acc with
  | nil => rfl
  | cons l r ih => exact ih _ _

/-! ### `popsEmptyTop` is not exercised by a picker that keeps a point of every non-empty level -/

section
variable {α ρ : Type} (c : Cfg) {P : Picker ρ α}

def Keeps (P : Picker ρ α) : Prop := ∀ r lvl, lvl ≠ [] → pickKept (P r lvl).1 lvl ≠ []

theorem compact_popsEmptyTop (hP : Keeps P) (r : ρ) {s : Sketch α} (hk : 1 ≤ s.k) (ht : topNonempty s.levels = true) :
    compact { c with popsEmptyTop := true } P r s = compact c P r s := by
  cases hf : firstFull s.k s.levels with
  | none => rw [compact_none _ P r hf, compact_none c P r hf]
  | some lvl =>
    have hne : lvl ≠ [] := fun h0 => by have := firstFull_some_le hf; rw [h0] at this; exact absurd hk (by simpa using this)
    have htop := topNonempty_compactLevels (P r lvl).1 hf (hP r lvl hne) ht
    rw [compact_some _ P r hf, compact_some c P r hf, popTop_of_topNonempty _ _ htop, popTop_of_topNonempty _ _ htop]

theorem drain_popsEmptyTop (hP : Keeps P) (f : Nat) (r : ρ) {s : Sketch α} (hk : 1 ≤ s.k) (ht : topNonempty s.levels = true) :
    drain { c with popsEmptyTop := true } P f r s = drain c P f r s := by
  induction f generalizing r s with
  | zero => rfl
  | succ f ih =>
    have hc := compact_popsEmptyTop c hP r hk ht
    rw [drain, drain, hc]
    split
    · exact ih _ ((compact_compacted c P r s).k ▸ hk) (hc ▸ (compact_compacted _ P r s).top rfl ht)
    · rfl

theorem run_popsEmptyTop (hP : Keeps P) (minK : Nat) (hm : 1 ≤ minK) (h : Hist α) (hv : h.valid minK) (r : ρ) :
    run { c with popsEmptyTop := true } P h r = run c P h r := by
  induction h generalizing r with
  | new k d => rfl
  | upd h p ih =>
    have hs := run_rinv { c with popsEmptyTop := true } P minK hm h hv r
    rw [ih hv] at hs
    simp only [run, ih hv, update, compactLoop, drain_popsEmptyTop c hP _ _ hs.kpos (hs.top rfl)]
  | merge h o ih1 ih2 =>
    have hs := run_rinv { c with popsEmptyTop := true } P minK hm h hv.1 r
    have ho := run_rinv { c with popsEmptyTop := true } P minK hm o hv.2 (run c P h r).2
    rw [ih1 hv.1] at hs
    rw [ih2 hv.2] at ho
    have hd := fun f r => drain_popsEmptyTop c hP f r (s := merged _ _) hs.kpos ((merged_pre hs ho).top rfl)
    simp only [merged] at hd
    simp only [run, ih1 hv.1, ih2 hv.2, merge, compactLoop, hd]
    rfl
end

def dropAll : Picker Unit Nat := fun _ _ => (([], []), ())

/-- A = {0} merged with {100} (k = 2): the merge compacts the two points and the choice keeps none, so A has n = 2 and
num_retained = 0; merging A into C = {5} is skipped by `if (other.is_empty()) return;`. -/
def lossHist : Hist Nat := .merge (.upd (.new 2 1) [5]) (.merge (.upd (.new 2 1) [0]) (.upd (.new 2 1) [100]))

theorem lossHist_n (c : Cfg) (hc : c.mergeSkipOnN = false) :
    lossHist.valid 2 ∧ (run c dropAll lossHist ()).1.n = 1 ∧ lossHist.inputs.length = 3 := by
  obtain ⟨b1, b2, b3, b4⟩ := c
  cases hc
  rw [run_congr (c := ⟨false, b2, b3, b4⟩) (c' := ⟨false, false, false, b4⟩) rfl rfl]
  cases b4 <;> decide +kernel

/-- {0} merged with {100} (k = 2), the compaction keeps nothing: the freshly pushed top level stays empty -/
def emptyTopHist : Hist Nat := .merge (.upd (.new 2 1) [0]) (.upd (.new 2 1) [100])

theorem emptyTopHist_levels (c : Cfg) (hc : c.popsEmptyTop = false) :
    emptyTopHist.valid 2 ∧ (run c dropAll emptyTopHist ()).1.levels = [[], []] := by
  obtain ⟨b1, b2, b3, b4⟩ := c
  cases hc
  rw [run_congr (c := ⟨b1, b2, b3, false⟩) (c' := ⟨b1, false, false, false⟩) rfl rfl]
  cases b1 <;> decide +kernel

/-- keep every second point of the (unshuffled) level: conserves the total weight -/
def altMask : Nat → List Bool
  | 0 => []
  | n + 1 => (n % 2 == 0) :: altMask n
def keepHalf : Picker Unit Rat := fun _ l => (([], altMask l.length), ())

theorem keepHalf_keeps : Keeps keepHalf := by
  intro _ lvl hne
  show keepMask (altMask lvl.length) (fyLoop lvl.length [] lvl) ≠ []
  rw [fyLoop_nil]
  match lvl, hne with
  | [p], _ => exact List.cons_ne_nil _ _
  | p :: q :: t, _ =>
    -- of two neighbouring mask bits one is set
    show keepMask (((t.length + 1) % 2 == 0) :: (t.length % 2 == 0) :: altMask t.length) (p :: q :: t) ≠ []
    rcases Nat.mod_two_eq_zero_or_one t.length with h | h
    · rw [Nat.succ_mod_two_eq_one_iff.mpr h, h]; exact List.cons_ne_nil _ _
    · rw [Nat.succ_mod_two_eq_zero_iff.mpr h]; exact List.cons_ne_nil _ _

def dblHist : Nat → Hist Rat
  | 0 => .upd (.new 2 1) [0]
  | i + 1 => .merge (dblHist i) (dblHist i)

def dblStep (c : Cfg) (s : Sketch Rat) : Sketch Rat := (merge c keepHalf () s s).1
def dblChain (c : Cfg) : Nat → Sketch Rat
  | 0 => (update c keepHalf () (init 2 1) [0]).1
  | i + 1 => dblStep c (dblChain c i)

theorem dblHist_valid (i : Nat) : (dblHist i).valid 2 := by
  induction i with
  | zero => exact Nat.le_refl 2
  | succ i ih => exact ⟨ih, ih⟩

theorem run_dblHist (c : Cfg) (i : Nat) : run c keepHalf (dblHist i) () = (dblChain c i, ()) := by
  induction i with
  | zero => rfl
  | succ i ih => simp only [dblHist, run, ih, dblChain, dblStep]

def oneK : Point Rat → Point Rat → Rat := fun _ _ => 1

/-- 2^36 points: 32 levels, 32 points of weight 2^31; the true mean of the kernel is 1, `get_estimate` computes −1 -/
theorem dblChain36 (b1 : Bool) :
    let c : Cfg := { mergeSkipOnN := b1, weight64 := false, popsEmptyTop := true }
    (dblChain c 36).levels.length = 32 ∧ (dblChain c 36).n = 2 ^ 36 ∧ estimateUB c (dblChain c 36) = false ∧
    estimate c oneK (dblChain c 36) [0] = -1 := by
  cases b1 <;> decide +kernel

theorem run_dblHist36_est (c : Cfg) (hc : c.weight64 = false) :
    estimate c oneK (run c keepHalf (dblHist 36) ()).1 [0] = -1 := by
  obtain ⟨b1, b2, b3, b4⟩ := c
  cases hc
  have h1 : run ⟨b1, b2, false, true⟩ keepHalf (dblHist 36) () = run ⟨b1, b2, false, b4⟩ keepHalf (dblHist 36) () :=
    run_popsEmptyTop ⟨b1, b2, false, b4⟩ keepHalf_keeps 2 (by decide) _ (dblHist_valid 36) ()
  rw [run_congr (c := ⟨b1, b2, false, true⟩) (c' := ⟨b1, false, false, true⟩) rfl rfl, run_dblHist] at h1
  rw [← h1, estimate_congr (c := ⟨b1, b2, false, b4⟩) (c' := ⟨b1, false, false, true⟩) rfl]
  exact (dblChain36 b1).2.2.2

end DS.Density
