/- The sketch invariant `SInv` of the REQ model and what an operation guarantees (`SkSpec`). -/
import DSProofs.Lemmas.ReqCompress
namespace DS.Req

variable {ρ : Type}

def IsExt (r : Int → Int → Prop) (m : Option Int) (l : List Int) : Prop :=
  (l = [] ∧ m = none) ∨ (∃ x, m = some x ∧ x ∈ l ∧ ∀ y ∈ l, r x y)

def IsMin (m : Option Int) (l : List Int) : Prop := IsExt (fun x y => x ≤ y) m l
def IsMax (m : Option Int) (l : List Int) : Prop := IsExt (fun x y => y ≤ x) m l

/-- extremes of two lists combine to the extreme of their concatenation, for any way `f` of keeping the `r`-better of two -/
theorem IsExt.append {r : Int → Int → Prop} (htr : ∀ {a b c}, r a b → r b c → r a c) {f : Option Int → Option Int → Option Int}
    (hnone : ∀ a, f a none = a) (hleft : ∀ y, f none (some y) = some y)
    (hsome : ∀ x y, (f (some x) (some y) = some y ∧ r y x) ∨ (f (some x) (some y) = some x ∧ r x y))
    {a b : Option Int} {la lb : List Int} (ha : IsExt r a la) (hb : IsExt r b lb) : IsExt r (f a b) (lb ++ la) := by
  rcases hb with ⟨rfl, rfl⟩ | ⟨y, rfl, hy, hally⟩
  · rw [hnone]; exact ha
  · right
    rcases ha with ⟨rfl, rfl⟩ | ⟨x, rfl, hx, hallx⟩
    · exact ⟨y, hleft y, by simp [hy], by simpa using hally⟩
    · rcases hsome x y with ⟨e, hr⟩ | ⟨e, hr⟩
      · exact ⟨y, e, by simp [hy], fun z hz => (List.mem_append.1 hz).elim (hally z) fun hz => htr hr (hallx z hz)⟩
      · exact ⟨x, e, by simp [hx], fun z hz => (List.mem_append.1 hz).elim (fun hz => htr hr (hally z hz)) (hallx z)⟩

theorem IsMin_append {a b la lb} (ha : IsMin a la) (hb : IsMin b lb) : IsMin (optMinO a b) (lb ++ la) :=
  IsExt.append (r := fun x y => x ≤ y) (f := optMinO) Int.le_trans (fun _ => rfl) (fun _ => rfl) (fun x y => by
    simp only [optMinO, optMin]; split
    · exact .inl ⟨rfl, Int.le_of_lt ‹_›⟩
    · exact .inr ⟨rfl, Int.not_lt.1 ‹_›⟩) ha hb

theorem IsMax_append {a b la lb} (ha : IsMax a la) (hb : IsMax b lb) : IsMax (optMaxO a b) (lb ++ la) :=
  IsExt.append (r := fun x y => y ≤ x) (f := optMaxO) (fun h1 h2 => Int.le_trans h2 h1) (fun _ => rfl) (fun _ => rfl) (fun x y => by
    simp only [optMaxO, optMax]; split
    · exact .inl ⟨rfl, Int.le_of_lt ‹_›⟩
    · exact .inr ⟨rfl, Int.not_lt.1 ‹_›⟩) ha hb

theorem IsMin_cons {m l} (x : Int) (h : IsMin m l) : IsMin (optMin m x) (x :: l) :=
  IsMin_append (b := some x) h (.inr ⟨x, rfl, List.mem_singleton_self x, fun _ hy => Int.le_of_eq (List.mem_singleton.1 hy).symm⟩)

theorem IsMax_cons {m l} (x : Int) (h : IsMax m l) : IsMax (optMax m x) (x :: l) :=
  IsMax_append (b := some x) h (.inr ⟨x, rfl, List.mem_singleton_self x, fun _ hy => Int.le_of_eq (List.mem_singleton.1 hy)⟩)

/-- ghost: every item ever fed to the sketch (level 0's `entered`) -/
def entered0L (cs : List (Compactor ρ)) : List Int :=
  match cs with
  | c :: _ => c.entered
  | [] => []

def entered0 (s : Sketch ρ) : List Int := entered0L s.compactors

/-- a sketch with a single level has never compacted: level 0 holds exactly what was fed -/
def ExactL (cs : List (Compactor ρ)) : Prop := ∀ c, cs = [c] → ∀ p, cntP p c.items = cntP p c.entered

/-- the invariant of a sketch.  `cs`: the levels satisfy `CInv`; `ret`, `cap`, `tw`: the counters are what they count (`n` is the total
weight); `ne`: once an item was fed no level is empty (see `AllNE`), `one`: before that there is a single level; `ent`, `mn`, `mx`: `n`,
minimum and maximum are those of the ghost record of everything fed; `ex`: see `ExactL` -/
structure SInv (T : Tun) (s : Sketch ρ) : Prop where
  k2 : 2 ≤ s.k
  cs : CsInv T s.hra 0 s.compactors
  nonnil : s.compactors ≠ []
  ret : s.numRetained = sumItems s.compactors
  cap : s.maxNomSize = sumCap T s.compactors
  tw : s.n = totalW s.compactors
  ne : s.n ≠ 0 → AllNE s.compactors
  one : s.n = 0 → s.compactors.length = 1
  ent : s.n = (entered0 s).length
  mn : IsMin s.minItem (entered0 s)
  mx : IsMax s.maxItem (entered0 s)
  ex : ExactL s.compactors

/-- the result `r` of an operation on `s` that takes in the items `fed` (most recent first; `[]` for `compress`, the other sketch's
record for `merge`): the invariant, the ghost record grown by exactly `fed`, and no "compaction range error" -/
structure SkSpec (T : Tun) (fed : List Int) (s : Sketch ρ) (acc : Acc) (r : Sketch ρ × Acc) : Prop where
  inv : SInv T r.1
  throws : r.2.throws = acc.throws
  ent : entered0 r.1 = fed ++ entered0 s
  hra : r.1.hra = s.hra

theorem SkSpec.trans {T : Tun} {f1 f2 : List Int} {s : Sketch ρ} {acc : Acc} {r1 r2 : Sketch ρ × Acc} (h1 : SkSpec T f1 s acc r1)
    (h2 : SkSpec T f2 r1.1 r1.2 r2) : SkSpec T (f2 ++ f1) s acc r2 :=
  ⟨h2.inv, h2.throws.trans h1.throws, by rw [h2.ent, h1.ent, List.append_assoc], h2.hra.trans h1.hra⟩

theorem effectiveK_ge {T : Tun} (hT : TunOK T) (k : Nat) : 2 ≤ effectiveK T k :=
  Nat.le_trans ((Nat.mod_eq_of_lt hT.minK256).symm ▸ hT.minK2) (Nat.le_max_right _ _)

theorem new_eq (T : Tun) (F : SecFns ρ) (k : Nat) (hra d : Bool) :
    Sketch.new T F k hra d =
      { k := effectiveK T k, hra := hra, maxNomSize := sumCap T [Compactor.mkC T F hra 0 (effectiveK T k) d], numRetained := 0, n := 0,
        compactors := [Compactor.mkC T F hra 0 (effectiveK T k) d], minItem := none, maxItem := none } := rfl

theorem new_SInv {T : Tun} (hT : TunOK T) (F : SecFns ρ) (k : Nat) (hra d : Bool) : SInv T (Sketch.new T F k hra d) := by
  have hk := effectiveK_ge hT k
  have hc := mkC_CInv hT F hra 0 _ hk d
  -- on the record that `mkC_eq` gives, every count is `rfl`
  rw [new_eq]; rw [mkC_eq] at hc ⊢
  exact ⟨hk, ⟨hc, trivial⟩, List.cons_ne_nil _ _, rfl, rfl, rfl, fun h => absurd rfl h, fun _ => rfl, rfl, Or.inl ⟨rfl, rfl⟩,
    Or.inl ⟨rfl, rfl⟩, fun _ hc _ => by cases hc; rfl⟩

theorem entered0L_eq (cs : List (Compactor ρ)) : entered0L cs = (cs.head?.map (·.entered)).getD [] := by cases cs <;> rfl

theorem compress_spec {T : Tun} (hT : TunOK T) (F : SecFns ρ) (s : Sketch ρ) (acc : Acc)
    (h : SInv T s) (hn : s.n ≠ 0) : SkSpec T [] s acc (s.compress T F acc) := by
  have sp := compressLoop_spec hT F s.hra s.k h.k2 (sumItems s.compactors + s.compactors.length + 1) 0 s.compactors
    { retained := s.numRetained, maxNom := s.maxNomSize } acc 0 0 h.cs (h.ne hn) ((Nat.zero_add _).symm ▸ h.ret)
    ((Nat.zero_add _).symm ▸ h.cap)
  simp only [Sketch.compress]
  generalize compressLoop T F s.hra s.k (sumItems s.compactors + s.compactors.length + 1) 0 s.compactors
    { retained := s.numRetained, maxNom := s.maxNomSize } acc = out at sp
  have hent : entered0L out.1 = entered0 s := by rw [entered0L_eq, sp.ent0, ← entered0L_eq]; rfl
  obtain ⟨k2, -, nonnil, -, -, tw, -, -, ent, mn, mx, ex⟩ := h
  rw [← hent] at ent mn mx
  exact ⟨⟨k2, sp.inv, sp.nonnil nonnil, sp.ret.trans (Nat.zero_add _), sp.cap.trans (Nat.zero_add _), tw.trans sp.tw.symm, fun _ => sp.ne,
    fun h0 => absurd h0 hn, ent, mn, mx, fun c hc => ex c ((sp.one (congrArg List.length hc)).symm.trans hc)⟩, sp.throws, hent, rfl⟩

theorem append1_SInv {T : Tun} (s : Sketch ρ) (x : Int) (h : SInv T s) :
    SInv T (s.append1 x) ∧ entered0 (s.append1 x) = x :: entered0 s := by
  obtain ⟨k, hra, mns, nr, n, cs, mn, mx⟩ := s
  obtain ⟨k2, hcs, nonnil, ret, cap, tw, ne, one, ent, hmn, hmx, ex⟩ := h
  cases cs with
  | nil => exact absurd rfl nonnil
  | cons c t =>
    dsimp only at ret tw
    have hlen := append_length c x
    have hc := append_CInv x hcs.1
    refine ⟨⟨k2, ⟨hc, hcs.2⟩, List.cons_ne_nil _ _, ?_, cap, ?_, fun _ => AllNE_cons.2 ⟨?_, ?_⟩, nofun,
      congrArg (· + 1) ent, IsMin_cons x hmn, IsMax_cons x hmx, ?_⟩, rfl⟩
    · show nr + 1 = sumItems (c.append x :: t)
      rw [sumItems_cons, hlen, ret, sumItems_cons, Nat.add_right_comm]
    · show n + 1 = totalW (c.append x :: t)
      rw [totalW_cons, hlen, hc.lg, tw, totalW_cons, hcs.1.lg, Nat.succ_mul, Nat.add_right_comm]
    · exact fun e => nomatch hlen.symm.trans (congrArg List.length e)
    · -- an empty sketch has this one level
      by_cases hn : n = 0
      · exact List.length_eq_zero_iff.1 (Nat.succ.inj (one hn)) ▸ AllNE_nil
      · exact (AllNE_cons.1 (ne hn)).2
    · intro c' hc' p
      cases hc'
      rw [append_cntP, cntP_cons]; exact (congrArg _ (ex c rfl p)).trans (cntP_cons p x c.entered).symm

theorem update_spec {T : Tun} (hT : TunOK T) (F : SecFns ρ) (s : Sketch ρ) (x : Int) (acc : Acc) (h : SInv T s) :
    SkSpec T [x] s acc (s.update T F x acc) := by
  obtain ⟨hI1, hent1⟩ := append1_SInv s x h
  have h1 : SkSpec T [x] s acc (s.append1 x, acc) := ⟨hI1, rfl, hent1, rfl⟩
  simp only [Sketch.update]
  split
  · exact h1.trans (compress_spec hT F (s.append1 x) acc hI1 (by simp [Sketch.append1]))
  · exact h1

end DS.Req
