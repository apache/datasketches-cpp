/-
C03 — HLL content is the per-slot max of coupons in every mode and register width.

ONLY property theorems and their non-vacuity examples live here (helper lemmas: Lemmas/Hll*.lean).
Model: DSModel/Hll/Sketch.lean (L1; tied to hll/include/* by the correspondence check `./check C03`) and
DSModel/Hll/Array4.lean, Array6.lean (L2 concrete register arrays).  All statements are for every tunable set `p`
(coupon key width, list/set sizes, resize fraction, promotion thresholds — under the decidable side condition
`p.listFitsSet`, discharged in `gen_params_ok` for the constants of the CURRENT headers; the HLL_4 refinement theorems also
take `p.auxToken = 15`, which `Inv4` is written for and which is discharged only for the defaults, `exP`), every lg_k, every target type, every
numeric instance `ν` (so in particular for the doubles of the code) and every finite stream of coupons
`cs` (any order, any duplicates; coupon 0 = EMPTY is ignored by the code and by the statements).

`IsMaxAt p lgK M slot m`: m is the maximum coupon value among the coupons in `M` falling into `slot`, 0 if none.
Floating-point estimates and bounds are executed and compared, not proved (what is proved of the bound formulas, in exact
arithmetic and under a hypothesis on the estimate, is C06's `hll_bounds_order_partial`).
-/
import DSProofs.Lemmas.HllConvert
import DSProofs.Lemmas.HllArrays
import DSProofs.Lemmas.HllArraysRun
import DSProofs.Lemmas.HllKxq
import DSProofs.Lemmas.HllArray6
import DSModel.Hll.GenParams
namespace DS.Hll

variable {ν : Type} [HNum ν]

/-- the side condition on the tunables holds for the constants regenerated from the current headers -/
theorem gen_params_ok : hllParams.listFitsSet ∧ hllParams.keyBits = 26 := by decide

/-- semantic obligation on the regenerated `INVERSE_POWERS_OF_2` table (entries 0..63, the ones HLL uses): entry i is the IEEE
double 2^-i exactly (biased exponent 1023 - i, zero mantissa) — so the doubles kxq0 / kxq1 are sums of exact powers of two
(`hll_kxq_exact` is about that sum). -/
theorem gen_invPow2_exact : ∀ i, i < 64 → DSGen.hll_invPow2.getD i 0 = UInt64.ofNat ((1023 - i) * 2^52) := by
  decide +kernel

/-- HLL mode: every register is the maximum value of the coupons offered to its slot (0 if none) —
for every target type and whether or not the sketch was started full-size. -/
theorem hll_regs_max (p : Params) (hp : p.listFitsSet) (lgK : Nat) (tt : TType) (sf : Bool) (cs : List Nat)
    (hm : (run p (newSketch p lgK tt sf : St ν) cs).mode = .hll) :
    (run p (newSketch p lgK tt sf : St ν) cs).regs.size = 2^lgK ∧
      ∀ slot, slot < 2^lgK → IsMaxAt p lgK (fun c => c ∈ cs) slot ((run p (newSketch p lgK tt sf : St ν) cs).regs.getD slot 0) := by
  obtain ⟨hk, _, hh, _⟩ := run_newSketch (ν := ν) p hp lgK tt sf cs
  have r := (hk ▸ (hh hm).regsOf).congr_nz fun c h0 => and_iff_left h0
  exact ⟨r.size, r.max⟩

/-- LIST / SET mode: the sketch holds exactly the distinct nonzero coupons offered — none missing, none extra, none twice. -/
theorem hll_coupons_exact (p : Params) (hp : p.listFitsSet) (lgK : Nat) (tt : TType) (cs : List Nat)
    (hm : (run p (newSketch p lgK tt false : St ν) cs).mode ≠ .hll) :
    (run p (newSketch p lgK tt false : St ν) cs).items.Nodup ∧
    ∀ c, c ∈ (run p (newSketch p lgK tt false : St ν) cs).items ↔ (c ∈ cs ∧ c ≠ 0) :=
  ((run_newSketch (ν := ν) p hp lgK tt false cs).2.1 hm).items_exact hm

/-- The logical content is a function of the SET of distinct coupons only: two streams with the same nonzero coupons
(any order, any multiplicities), fed to sketches of possibly different target types, end in the same mode, hold the
same coupon set (same count) while in LIST / SET mode and identical registers once in HLL mode. -/
theorem hll_content_fun_of_set (p : Params) (hp : p.listFitsSet) (lgK : Nat) (tt₁ tt₂ : TType) (cs₁ cs₂ : List Nat)
    (hsame : ∀ c, c ≠ 0 → (c ∈ cs₁ ↔ c ∈ cs₂)) :
    (run p (newSketch p lgK tt₁ false : St ν) cs₁).mode = (run p (newSketch p lgK tt₂ false : St ν) cs₂).mode ∧
    ((run p (newSketch p lgK tt₁ false : St ν) cs₁).mode ≠ .hll →
      (∀ c, c ∈ (run p (newSketch p lgK tt₁ false : St ν) cs₁).items ↔ c ∈ (run p (newSketch p lgK tt₂ false : St ν) cs₂).items) ∧
      (run p (newSketch p lgK tt₁ false : St ν) cs₁).items.length = (run p (newSketch p lgK tt₂ false : St ν) cs₂).items.length) ∧
    ((run p (newSketch p lgK tt₁ false : St ν) cs₁).mode = .hll →
      (run p (newSketch p lgK tt₁ false : St ν) cs₁).regs = (run p (newSketch p lgK tt₂ false : St ν) cs₂).regs) := by
  have h1 := RInv.of_newSketch (ν := ν) hp lgK tt₁ cs₁
  have h2 := RInv.of_newSketch (ν := ν) hp lgK tt₂ cs₂
  generalize run p (newSketch p lgK tt₁ false : St ν) cs₁ = s₁ at h1 ⊢
  generalize run p (newSketch p lgK tt₂ false : St ν) cs₂ = s₂ at h2 ⊢
  have hd := distinct_perm hsame
  have hph : (s₁.mode, s₁.lgArr) = (s₂.mode, s₂.lgArr) := by rw [h1.ph, h2.ph, hd.length_eq]
  have hmode : s₁.mode = s₂.mode := congrArg Prod.fst hph
  refine ⟨hmode, fun hm => ?_, fun hm => ?_⟩
  · have hm2 : s₂.mode ≠ .hll := hmode ▸ hm
    have pp := ((h1.items_perm hm).trans hd).trans (h2.items_perm hm2).symm
    exact ⟨fun c => pp.mem_iff, pp.length_eq⟩
  · exact (h1.hll hm).regs_eq (h2.hll (hmode ▸ hm)) (h1.lgK_eq.trans h2.lgK_eq.symm) hsame

/-- The 4-, 6- and 8-bit target types agree on one and the same stream (mode, coupons, registers). -/
theorem hll_types_agree (p : Params) (hp : p.listFitsSet) (lgK : Nat) (tt₁ tt₂ : TType) (cs : List Nat) :
    (run p (newSketch p lgK tt₁ false : St ν) cs).mode = (run p (newSketch p lgK tt₂ false : St ν) cs).mode ∧
    ((run p (newSketch p lgK tt₁ false : St ν) cs).mode ≠ .hll →
      ∀ c, c ∈ (run p (newSketch p lgK tt₁ false : St ν) cs).items ↔ c ∈ (run p (newSketch p lgK tt₂ false : St ν) cs).items) ∧
    ((run p (newSketch p lgK tt₁ false : St ν) cs).mode = .hll →
      (run p (newSketch p lgK tt₁ false : St ν) cs).regs = (run p (newSketch p lgK tt₂ false : St ν) cs).regs) := by
  have h := hll_content_fun_of_set (ν := ν) p hp lgK tt₁ tt₂ cs cs (fun _ _ => Iff.rfl)
  exact ⟨h.1, fun hm => (h.2.1 hm).1, h.2.2⟩

/-- A sketch started full-size holds the same registers as a sketch that went through LIST / SET mode, whatever
the two target types and the orders of presentation. -/
theorem hll_start_full_agrees (p : Params) (hp : p.listFitsSet) (lgK : Nat) (tt₁ tt₂ : TType) (cs₁ cs₂ : List Nat)
    (hsame : ∀ c, c ≠ 0 → (c ∈ cs₁ ↔ c ∈ cs₂))
    (hm : (run p (newSketch p lgK tt₂ false : St ν) cs₂).mode = .hll) :
    (run p (newSketch p lgK tt₁ true : St ν) cs₁).mode = .hll ∧
    (run p (newSketch p lgK tt₁ true : St ν) cs₁).regs = (run p (newSketch p lgK tt₂ false : St ν) cs₂).regs := by
  obtain ⟨k1, _, a, hfm⟩ := run_newSketch (ν := ν) p hp lgK tt₁ true cs₁
  obtain ⟨k2, _, b, _⟩ := run_newSketch (ν := ν) p hp lgK tt₂ false cs₂
  exact ⟨hfm rfl, (a (hfm rfl)).regs_eq (b hm) (k1.trans k2.symm) hsame⟩

/-- Converting a copy to another target type (`hll_sketch(const hll_sketch&, target_hll_type)`) keeps mode, lg_k and the
content: the coupon array in LIST / SET mode, every register in HLL mode. -/
theorem hll_convert_preserves (p : Params) (s : St ν) (tt : TType)
    (hsz : s.mode = .hll → s.regs.size = 2^s.lgK) (hk : s.lgK ≤ p.keyBits) :
    (copyAs p s tt).mode = s.mode ∧ (copyAs p s tt).lgK = s.lgK ∧ (copyAs p s tt).tt = tt ∧
    (copyAs p s tt).regs = s.regs ∧ (s.mode ≠ .hll → (copyAs p s tt).items = s.items) :=
  copyAs_preserves p s tt hsz hk

/-- Emptiness is reported exactly: `is_empty()` holds iff no (nonzero) coupon was ever offered. -/
theorem hll_empty_iff (p : Params) (hp : p.listFitsSet) (lgK : Nat) (tt : TType) (sf : Bool) (cs : List Nat)
    (hv : ∀ c ∈ cs, c ≠ 0 → 0 < cValue p c) :
    isEmpty (run p (newSketch p lgK tt sf : St ν) cs) = true ↔ ∀ c ∈ cs, c = 0 :=
  isEmpty_run_iff p hp lgK tt sf cs hv

/-! ## L2: the concrete register arrays refine the per-slot-max abstraction -/

/-- HLL_4 (two nibbles per byte holding `register - curMin`, AUX_TOKEN + aux map for exceptions, `internalHll4Update` with its
four cases, `shiftToBiggerCurMin`): under the representation invariant `Inv4` (established by the constructor, kept by every
update — so none of the code's `throw` branches is reachable) one coupon update is exactly the abstract
`slot := max(slot, value)`, and (curMin, numAtCurMin) move exactly as in the L1 model. -/
theorem hll4_refines (p : Params) (ht : p.auxToken = 15) (lgK : Nat) (hk : 1 ≤ lgK) :
    Inv4 p (H4.new lgK) ∧
    ∀ (h : H4) (c : Nat), Inv4 p h →
      Inv4 p (h.update p c) ∧ (h.update p c).bad = false ∧ (h.update p c).lgK = h.lgK ∧
      (h.update p c).regs p = maxUpdate p h.lgK (h.regs p) c ∧
      ((h.update p c).curMin, (h.update p c).numAtCurMin) =
        (if (h.regs p).getD (cSlot p h.lgK c) 0 < cValue p c then
          bumpPair .h4 ((h.regs p).setIfInBounds (cSlot p h.lgK c) (cValue p c)) h.curMin h.numAtCurMin
            ((h.regs p).getD (cSlot p h.lgK c) 0)
         else (h.curMin, h.numAtCurMin)) :=
  ⟨Inv4.new p lgK hk, fun h c hi =>
    let r := h4_refines ht hi c
    ⟨r.1, r.1.notbad, r.2.1, r.2.2.1, r.2.2.2⟩⟩

/-- On every stream the concrete HLL_4 array and the L1 register model (target type HLL_4, started full-size or not) hold
the same registers, curMin and numAtCurMin — hence, with `hll_regs_max`, the nibbles + aux map encode the per-slot maxima. -/
theorem hll4_stream_agrees (p : Params) (ht : p.auxToken = 15) (lgK : Nat) (hk : 1 ≤ lgK) (sf : Bool) (cs : List Nat) :
    let h := cs.foldl (H4.update p) (H4.new lgK)
    let s : St ν := cs.foldl (hllUpdate p) (newHll lgK .h4 sf)
    h.bad = false ∧ h.regs p = s.regs ∧ h.curMin = s.curMin ∧ h.numAtCurMin = s.numAtCurMin := by
  intro h s
  have r := Sim4.foldl (ν := ν) ht cs (Inv4.new p lgK hk) (HInv.newHll (ν := ν) p lgK .h4 sf) (Sim4.init p lgK sf)
  exact ⟨r.1.notbad, r.2.regs.symm, r.2.curMin.symm, r.2.num.symm⟩

/-- HLL_6 (6-bit fields packed little-endian over byte pairs, `getSlot` / `putSlot` through a 16-bit window): under the
representation invariant `Inv6` (array size, bytes < 256; established by the constructor and kept by every update) one coupon
update is exactly the abstract `slot := max(slot, value)` — writing one 6-bit field changes no other field — and `numAtCurMin`
keeps counting the zero registers. The value must fit in 6 bits, as every coupon value (≤ 63) does. -/
theorem hll6_refines (p : Params) (lgK : Nat) (hk : 2 ≤ lgK) :
    Inv6 (H6.new lgK) ∧
    ∀ (h : H6) (c : Nat), Inv6 h → cValue p c < 64 →
      Inv6 (h.update p c) ∧ (h.update p c).lgK = h.lgK ∧ (h.update p c).regs = maxUpdate p h.lgK h.regs c ∧
      (h.numAtCurMin = h.regs.count 0 → (h.update p c).numAtCurMin = (h.update p c).regs.count 0) :=
  ⟨Inv6.new lgK hk, fun _ c hi hv => h6_refines p hi c hv⟩

/-- HLL_8: the byte array is the register array; an update is the abstract `slot := max(slot, value)` and `numAtCurMin`
keeps counting the zero registers. -/
theorem hll8_refines (p : Params) (h : H8) (c : Nat) (hsz : h.bytes.size = 2^h.lgK) :
    (h.update p c).regs = maxUpdate p h.lgK h.regs c ∧ (h.update p c).lgK = h.lgK ∧
    (h.update p c).bytes.size = 2^h.lgK ∧
    (h.numAtCurMin = h.regs.count 0 → (h.update p c).numAtCurMin = (h.update p c).regs.count 0) :=
  h8_refines p h c hsz

/-! ## kxq0 + kxq1 in exact arithmetic -/

/-- In exact arithmetic (instance `exactNum`: numbers scaled by 2^63) the two incrementally maintained accumulators of the
estimator satisfy kxq0 + kxq1 = Σ_slots 2^(-register) after ANY stream of coupons into an HLL array of any target type.
The statement is about `foldl hllUpdate` on `newHll` (a start-full sketch, or the array a LIST/SET promotion replays into);
it is not composed here with the passage from `run` on `newSketch` to such a fold.  Consequence stated below: equal register arrays give equal sums (`hll_kxq_fun_of_regs`); that the
estimates themselves are functions of the registers is not stated.  (The code's doubles realise this sum exactly for
values ≤ 63: all summands are powers of two spanning < 53 bits; that part is executed and compared bit for bit, not
proved.) -/
theorem hll_kxq_exact (p : Params) (lgK : Nat) (tt : TType) (sf : Bool) (cs : List Nat) :
    letI := exactNum
    let s : St Int := cs.foldl (hllUpdate p) (newHll lgK tt sf)
    s.kxq0 + s.kxq1 = sumPow s.regs.toList := by
  letI := exactNum
  exact kxq_exact_foldl p cs _ (KxqOk.newHll lgK tt sf) (by simp [newHll])

/-- two HLL arrays with the same registers (whatever the types and the orders of their streams) have the same kxq0 + kxq1 -/
theorem hll_kxq_fun_of_regs (p : Params) (lgK : Nat) (tt₁ tt₂ : TType) (sf₁ sf₂ : Bool) (cs₁ cs₂ : List Nat) :
    letI := exactNum
    let s₁ : St Int := cs₁.foldl (hllUpdate p) (newHll lgK tt₁ sf₁)
    let s₂ : St Int := cs₂.foldl (hllUpdate p) (newHll lgK tt₂ sf₂)
    s₁.regs = s₂.regs → s₁.kxq0 + s₁.kxq1 = s₂.kxq0 + s₂.kxq1 := by
  letI := exactNum
  intro s₁ s₂ h
  have a := hll_kxq_exact p lgK tt₁ sf₁ cs₁
  have b := hll_kxq_exact p lgK tt₂ sf₂ cs₂
  simp only at a b
  rw [a, b, h]

/-! Non-vacuity: concrete streams (tunables of the code: 26-bit keys, LIST of 8, promotion to HLL below lg_k 8). -/
def exP : Params := {}
/-- lg_k = 4: ten distinct coupons (slots 3,3,1,... with values up to 17) plus duplicates and an EMPTY coupon -/
def exStream : List Nat :=
  [cPair exP 3 2, cPair exP 3 5, cPair exP 1 1, 0, cPair exP 3 2, cPair exP 7 17, cPair exP 9 1, cPair exP 10 3,
   cPair exP 11 1, cPair exP 12 2, cPair exP 13 1, cPair exP 14 4, cPair exP 3 5]
example : exP.listFitsSet := by decide
example : (run exP (newSketch exP 4 .h4 false : St Unit) exStream).mode = .hll ∧
    (run exP (newSketch exP 4 .h4 false : St Unit) exStream).regs.getD 3 0 = 5 ∧
    (run exP (newSketch exP 4 .h4 false : St Unit) exStream).regs.getD 7 0 = 17 := by decide +kernel
example : (run exP (newSketch exP 4 .h8 false : St Unit) (exStream.take 5)).mode = .list ∧
    (run exP (newSketch exP 4 .h8 false : St Unit) (exStream.take 5)).items.length = 3 := by decide +kernel
example : (run exP (newSketch exP 9 .h6 false : St Unit) exStream).mode = .set := by decide +kernel
example : isEmpty (run exP (newSketch exP 4 .h4 true : St Unit) [0, 0]) = true ∧
    isEmpty (run exP (newSketch exP 4 .h4 true : St Unit) exStream) = false := by decide +kernel
example : ∀ c ∈ exStream, c ≠ 0 → 0 < cValue exP c := by decide
/-- L2: the stream creates aux exceptions (value 17, which arrives after the shift to curMin 1) and a curMin shift on the concrete HLL_4 array (checked in the
last example of this file) -/
def exH4 : H4 := ((List.range 16).map (fun i => cPair exP i (1 + i % 3)) ++ [cPair exP 7 17, cPair exP 2 20]).foldl (H4.update exP) (H4.new 4)
example : (letI := exactNum; ((exStream.foldl (hllUpdate exP) (newHll 4 .h6 true : St Int)).kxq0 +
    (exStream.foldl (hllUpdate exP) (newHll 4 .h6 true : St Int)).kxq1)) = 7 * 2^63 + 2^58 + 4 * 2^62 + 2^46 + 2^60 + 2^61 + 2^59 := by
  decide +kernel
/-- L2 HLL_6: fields straddling byte boundaries -/
def exH6 : H6 := [cPair exP 1 63, cPair exP 2 42, cPair exP 3 21, cPair exP 1 7].foldl (H6.update exP) (H6.new 4)
example : get6 exH6.bytes 1 = 63 ∧ get6 exH6.bytes 2 = 42 ∧ get6 exH6.bytes 3 = 21 ∧ get6 exH6.bytes 0 = 0 ∧
    exH6.numAtCurMin = 13 := by decide +kernel
example : exP.auxToken = 15 ∧ exH4.curMin = 1 ∧ exH4.bad = false ∧ exH4.ents.length = 2 ∧ exH4.reg exP 7 = 17 := by decide +kernel

end DS.Hll
