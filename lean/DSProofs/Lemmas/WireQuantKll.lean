/- KLL image: side conditions, the flags and header steps of the round trip (the rest of it is in Props/C09_Kll), the `Within`
   terms, two facts about `totalCapacity`. -/
import DSModel.Wire.Kll
import DSProofs.Lemmas.WireQuant
namespace DS.Wire.Kll
open Reader

/-- `docCfg` of Props/C09_Kll satisfies them -/
def CfgOK (c : Cfg) : Prop :=
  c.bitEmpty = 0 ∧ c.bitLz = 1 ∧ c.bitSingle = 2 ∧
  c.family < 256 ∧ c.preShort < 256 ∧ c.preFull < 256 ∧ c.ver1 < 256 ∧ c.ver2 < 256 ∧ c.m < 256 ∧
  c.emptySize = 8 ∧ c.dataStartSingle = 8 ∧ c.dataStart = 20

instance (c : Cfg) : Decidable (CfgOK c) := by unfold CfgOK; infer_instance

theorem flags_rt (c : Cfg) (hc : CfgOK c) (e lz sg : Bool) :
    bit (mkFlags c e lz sg) c.bitEmpty = e ∧ bit (mkFlags c e lz sg) c.bitLz = lz ∧
    bit (mkFlags c e lz sg) c.bitSingle = sg ∧ mkFlags c e lz sg < 256 := by
  obtain ⟨h0, h1, h2, _⟩ := hc
  simp only [mkFlags, bit, h0, h1, h2]
  cases e <;> cases lz <;> cases sg <;> decide

theorem length_header (c : Cfg) (pre ver flags k : Nat) : (header c pre ver flags k).length = 8 := by
  simp [header]

theorem decode_header (sd : Serde) (c : Cfg) (hc : CfgOK c) (pre ver k : Nat) (e lz sg : Bool)
    (hpre : pre < 256) (hver : ver < 256) (hk : k < 2 ^ 16) (r : Bytes) :
    decode sd c (header c pre ver (mkFlags c e lz sg) k ++ r) = decodeBody sd c pre ver (mkFlags c e lz sg) k r := by
  obtain ⟨fe, fl, fs, ff⟩ := flags_rt c hc e lz sg
  obtain ⟨_, _, _, hfam, _, _, _, _, hm, _⟩ := hc
  simp only [decode, header, List.append_assoc]
  rw [bind_u8 _ hpre, bind_u8 _ hver, bind_u8 _ hfam, bind_u8 _ ff, bind_u16 _ hk, bind_u8 _ hm, bind_u8 0 (by decide),
    bind_guard]
  simp only [fe, fl, fs, beq_self_eq_true, Bool.and_self]

theorem levels_all_iff (levels : List Nat) :
    levels.all (fun x => decide (x < 2 ^ 32)) = true ↔ ∀ x ∈ levels, x < 2 ^ 32 := by
  simp [List.all_eq_true]

theorem decodeFull_within (sd : Serde) (hs : sd.Lawful) (c : Cfg) (k : Nat) (lz : Bool) :
    Within 1 0 (decodeFull sd c k lz) Image.count :=
  Within_pass (PS_leNat 8) fun _ => Within_pass (PS_leNat 2) fun _ => Within_pass (PS_leNat 1) fun _ => Within_pass (PS_leNat 1) fun _ =>
  Post_guard fun _ => Within_pass (PS_repeatN _ (PS_leNat 4) _) fun _ => Post_guard fun _ =>
  Within_pass hs.ps fun _ => Within_pass hs.ps fun _ =>
  Within_bind (Within_items_consuming hs.ps hs.progress _) fun items => Within_pure (Nat.le_add_left items.length 0)

theorem decodeBody_within (sd : Serde) (hs : sd.Lawful) (c : Cfg) (pre ver flags k : Nat) :
    Within 1 0 (decodeBody sd c pre ver flags k) Image.count :=
  Post_ite _ (Post_guard fun _ => Within_pure (Nat.le_refl 0)) <|
  Post_ite _ (Post_guard fun _ =>
      Within_bind (Within.of_consuming hs.ps hs.progress) fun _ => Within_pure (Nat.le_refl 1))
    (Post_guard fun _ => decodeFull_within sd hs c _ _)

theorem decode_within (sd : Serde) (hs : sd.Lawful) (c : Cfg) : Within 1 0 (decode sd c) Image.count :=
  Within_pass (PS_leNat 1) fun _ => Within_pass (PS_leNat 1) fun _ => Within_pass (PS_leNat 1) fun _ => Within_pass (PS_leNat 1) fun _ =>
  Within_pass (PS_leNat 2) fun _ => Within_pass (PS_leNat 1) fun _ => Within_pass (PS_leNat 1) fun _ => Post_guard fun _ =>
  decodeBody_within sd hs c _ _ _ _

theorem totalCapacity_mono (k m : Nat) : ∀ a b, a ≤ b → totalCapacity k m a ≤ totalCapacity k m b := by
  intro a b h
  obtain ⟨d, rfl⟩ := Nat.exists_eq_add_of_le h
  induction d with
  | zero => exact Nat.le_refl _
  | succ d ih => exact Nat.le_trans (ih (Nat.le_add_right _ _)) (Nat.le_add_right _ _)

theorem totalCapacity_one (k m : Nat) : totalCapacity k m 1 = max m k := by
  show 0 + max m ((2 * k * 2 ^ 0 / 3 ^ 0 + 1) / 2) = max m k
  rw [Nat.zero_add, Nat.mul_one, Nat.div_one, Nat.mul_add_div (by decide)]
  rfl

end DS.Wire.Kll
