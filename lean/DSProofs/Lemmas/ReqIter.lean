/- The const_iterator of the REQ model walks exactly the retained pairs: `iterateF` with the skipping flag on any compactor list,
   `iterate` (= `iterateF` with the flag off) when no compactor is empty. -/
import DSProofs.Lemmas.ReqCompress
import DSProofs.Lemmas.ListAux
namespace DS.Req

variable {ρ : Type}

def pairsOf (c : Compactor ρ) : List (Int × Nat) := c.items.map (fun x => (x, 2 ^ c.lgWeight))
def allPairs (cs : List (Compactor ρ)) : List (Int × Nat) := cs.flatMap pairsOf

@[simp] theorem allPairs_nil : allPairs ([] : List (Compactor ρ)) = [] := rfl
@[simp] theorem allPairs_cons (c : Compactor ρ) (t) : allPairs (c :: t) = pairsOf c ++ allPairs t := by simp [allPairs]

theorem length_allPairs (cs : List (Compactor ρ)) : (allPairs cs).length = sumItems cs := by
  induction cs with
  | nil => rfl
  | cons c t ih => simp [ih, pairsOf]

theorem sum_weights_allPairs (cs : List (Compactor ρ)) : ((allPairs cs).map (·.2)).sum = totalW cs := by
  induction cs with
  | nil => rfl
  | cons c t ih =>
    simp only [allPairs_cons, List.map_append, List.sum_append, ih, totalW_cons, pairsOf, List.map_map]
    exact congrArg (· + _) (sum_map_const c.items (2 ^ c.lgWeight))

theorem itWalkF_off (fl : Flags) (hfl : fl.iterSkipsEmpty = false) (cs : List (Compactor ρ)) : ∀ n a, itWalkF fl cs n a = itWalk cs n a := by
  intro n
  induction n with
  | zero => intro a; rfl
  | succ n ih => intro a; simp only [itWalkF, itWalk, itNextF, hfl, Bool.false_eq_true, if_false, ih]

theorem iterateF_off (fl : Flags) (hfl : fl.iterSkipsEmpty = false) (s : Sketch ρ) : s.iterateF fl = s.iterate := by
  simp only [Sketch.iterateF, Sketch.iterate, itBeginF, hfl, Bool.false_eq_true, if_false, itWalkF_off fl hfl]

/-- below the first level the walk does not look: one level less, every level index one less -/
theorem itWalkF_shift (fl : Flags) (x : Compactor ρ) (cs : List (Compactor ρ)) (n l p : Nat) :
    itWalkF fl (x :: cs) n ⟨l + 1, p⟩ = itWalkF fl cs n ⟨l, p⟩ := by
  have heq : ∀ l p, itEq (x :: cs) ⟨l + 1, p⟩ (itEnd (x :: cs)) = itEq cs ⟨l, p⟩ (itEnd cs) := fun l p => by
    simp only [itEq, itEnd, List.length_cons, Nat.add_right_cancel_iff, ne_eq]; rfl
  induction n generalizing l p with
  | zero => exact congrArg (([] : List (Option (Int × Nat))), ·) (heq l p)
  | succ n ih =>
    have hnext : itNextF fl (x :: cs) ⟨l + 1, p⟩ = ⟨(itNextF fl cs ⟨l, p⟩).lvl + 1, (itNextF fl cs ⟨l, p⟩).pos⟩ := by
      have hs : sizeAt (x :: cs) (l + 1) = sizeAt cs l := rfl
      have hd : (x :: cs).drop (l + 1 + 1) = cs.drop (l + 1) := rfl
      simp only [itNextF, itNext, hs, hd]
      split <;> split <;> simp only [Nat.add_right_comm]
    have hder : itDeref (x :: cs) ⟨l + 1, p⟩ = itDeref cs ⟨l, p⟩ := rfl
    simp only [itWalkF, heq, hnext, ih, hder]

theorem leadEmpty_of_AllNE {post : List (Compactor ρ)} (h : AllNE post) : leadEmpty post = 0 := by
  cases post with
  | nil => rfl
  | cons c t =>
    have : c.items.isEmpty = false := by simpa using (AllNE_cons.1 h).1
    simp [leadEmpty, this]

/-- from inside the first level the walk yields the rest of it and then (`hQ`: as the walk from the first non-empty level of `post`
does) everything above; an iterator that does not skip empty compactors needs the ones above to be non-empty -/
theorem itWalkF_inside (fl : Flags) (c : Compactor ρ) (post : List (Compactor ρ)) (hne : fl.iterSkipsEmpty = false → AllNE post)
    (hQ : ∀ n, n = (allPairs post).length → itWalkF fl post n ⟨leadEmpty post, 0⟩ = ((allPairs post).map some, true))
    (n pos : Nat) (hpos : pos < c.items.length) (hn : n = c.items.length - pos + (allPairs post).length) :
    itWalkF fl (c :: post) n ⟨0, pos⟩ = (((pairsOf c).drop pos ++ allPairs post).map some, true) := by
  induction n generalizing pos with
  | zero => omega
  | succ n ih =>
    have hneq : itEq (c :: post) ⟨0, pos⟩ (itEnd (c :: post)) = false := by simp [itEq, itEnd]
    have hder : itDeref (c :: post) ⟨0, pos⟩ = some (c.items[pos], 2 ^ c.lgWeight) := by
      show (match c.items[pos]? with | some x => some (x, 2 ^ c.lgWeight) | none => none) = _
      rw [List.getElem?_eq_getElem hpos]
    have hdrop : (pairsOf c).drop pos = (c.items[pos], 2 ^ c.lgWeight) :: (pairsOf c).drop (pos + 1) := by
      rw [List.drop_eq_getElem_cons (by rw [pairsOf, List.length_map]; exact hpos)]; simp [pairsOf]
    have hsize : sizeAt (c :: post) 0 = c.items.length := rfl
    simp only [itWalkF, hneq, Bool.false_eq_true, if_false, hder, hdrop, List.cons_append, List.map_cons]
    by_cases hlast : pos + 1 = c.items.length
    · -- on to the first non-empty level above (without skipping: the next level, and that is not empty)
      have hnext : itNextF fl (c :: post) ⟨0, pos⟩ = ⟨leadEmpty post + 1, 0⟩ := by
        cases hfl : fl.iterSkipsEmpty
        · simp only [itNextF, itNext, hfl, Bool.false_eq_true, if_false, hsize, hlast, if_true, leadEmpty_of_AllNE (hne hfl)]
        · simp only [itNextF, hfl, if_true, hsize, hlast, Nat.zero_add, Nat.add_comm]; rfl
      rw [hnext, itWalkF_shift, hQ n (by omega), List.drop_eq_nil_of_le (by rw [pairsOf, List.length_map, hlast]; exact Nat.le_refl _)]; rfl
    · have hnext : itNextF fl (c :: post) ⟨0, pos⟩ = ⟨0, pos + 1⟩ := by
        cases hfl : fl.iterSkipsEmpty <;> simp only [itNextF, itNext, hfl, Bool.false_eq_true, if_true, hsize, hlast, if_false]
      rw [hnext, ih (pos + 1) (Nat.lt_of_le_of_ne hpos hlast) (by omega)]

theorem itWalkF_start (fl : Flags) (cs : List (Compactor ρ)) (hne : fl.iterSkipsEmpty = false → AllNE cs) (n : Nat)
    (hn : n = (allPairs cs).length) : itWalkF fl cs n ⟨leadEmpty cs, 0⟩ = ((allPairs cs).map some, true) := by
  induction cs generalizing n with
  | nil => subst hn; rfl
  | cons x t ih =>
    have iht := ih fun hfl => (AllNE_cons.1 (hne hfl)).2
    by_cases he : x.items = []
    · -- an empty level is skipped and contributes nothing
      have hp : allPairs (x :: t) = allPairs t := by rw [allPairs_cons, pairsOf, he]; rfl
      rw [leadEmpty, he, List.isEmpty_nil, if_pos rfl, Nat.add_comm, itWalkF_shift, hp, iht n (hp ▸ hn)]
    · rw [leadEmpty, if_neg (fun h => he (List.isEmpty_iff.1 h))]
      exact itWalkF_inside fl x t (fun hfl => (AllNE_cons.1 (hne hfl)).2) iht n 0 (List.length_pos_iff.2 he)
        (by rw [hn, allPairs_cons, List.length_append, pairsOf, List.length_map]; rfl)

theorem iterateF_spec (fl : Flags) (s : Sketch ρ) (hne : fl.iterSkipsEmpty = false → AllNE s.compactors)
    (hret : s.numRetained = sumItems s.compactors) : s.iterateF fl = some (allPairs s.compactors) := by
  have hb : itBeginF fl s.compactors = { lvl := leadEmpty s.compactors, pos := 0 } := by
    cases hfl : fl.iterSkipsEmpty
    · simp only [itBeginF, hfl, Bool.false_eq_true, if_false, itBegin, leadEmpty_of_AllNE (hne hfl)]
    · simp only [itBeginF, hfl, if_true]
  simp only [Sketch.iterateF, hb, itWalkF_start fl s.compactors hne _ (hret.trans (length_allPairs _).symm)]
  simp [List.filterMap_map]

theorem iterate_of_AllNE (s : Sketch ρ) (hne : AllNE s.compactors) (hret : s.numRetained = sumItems s.compactors) :
    s.iterate = some (allPairs s.compactors) :=
  iterateF_off ⟨false, false⟩ rfl s ▸ iterateF_spec ⟨false, false⟩ s (fun _ => hne) hret

end DS.Req
