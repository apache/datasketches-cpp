/- Summaries inside the union: the summary of a retained key is the policy folded over the summaries of the
   inputs holding the key, in presentation order.  `foldSums` and `sumsIn` with their lemmas also serve the intersection
   (TupleInter). -/
import DSProofs.Lemmas.ThetaUnion
import DSProofs.Lemmas.Tuple
namespace DS.Theta

variable {σ : Type}

/-- fold of the union policy over a non-empty list of summaries (first summary is copied, the rest are merged in) -/
def foldSums (pol : σ → σ → σ) : List σ → Option σ
  | [] => none
  | s :: r => some (r.foldl pol s)

theorem foldSums_snoc (pol : σ → σ → σ) (l : List σ) (x : σ) :
    foldSums pol (l ++ [x]) = some (match foldSums pol l with | none => x | some v => pol v x) := by
  cases l with
  | nil => rfl
  | cons a t => simp [foldSums, List.foldl_append]

def sumsIn (k : Nat) (l : List (Nat × σ)) : List σ := (l.filter (fun e => e.1 == k)).map (·.2)

def sumsOffered (k : Nat) : List (Compact σ) → List σ
  | [] => []
  | sk :: r => (if sk.isEmpty then [] else sumsIn k sk.ents) ++ sumsOffered k r

theorem sumsIn_append (k : Nat) (l r : List (Nat × σ)) : sumsIn k (l ++ r) = sumsIn k l ++ sumsIn k r := by
  simp [sumsIn]

theorem sumsIn_cons (k : Nat) (e : Nat × σ) (t : List (Nat × σ)) :
    sumsIn k (e :: t) = (if k = e.1 then [e.2] else []) ++ sumsIn k t := by
  unfold sumsIn
  by_cases h : k = e.1
  · subst h; simp
  · have : (e.1 == k) = false := by simp; exact fun hh => h hh.symm
    simp [this, h]

theorem sumsIn_singleton (k : Nat) (e : Nat × σ) : sumsIn k [e] = if k = e.1 then [e.2] else [] :=
  (sumsIn_cons k e []).trans (List.append_nil _)

theorem sumsIn_nil_of_not_mem (k : Nat) (l : List (Nat × σ)) (h : k ∉ keys l) : sumsIn k l = [] := by
  induction l with
  | nil => rfl
  | cons e t ih =>
    simp only [keys_cons, List.mem_cons, not_or] at h
    rw [sumsIn_cons, ih h.2]
    simp [h.1]

theorem sumsIn_of_mem_nodup (k : Nat) (v : σ) (l : List (Nat × σ)) (hn : (keys l).Nodup) (h : (k, v) ∈ l) :
    sumsIn k l = [v] := by
  induction l with
  | nil => simp at h
  | cons a t ih =>
    obtain ⟨k0, v0⟩ := a
    simp only [keys_cons, List.nodup_cons] at hn
    simp only [List.mem_cons, Prod.mk.injEq] at h
    rw [sumsIn_cons]
    rcases h with ⟨rfl, rfl⟩ | h
    · simp [sumsIn_nil_of_not_mem k t hn.1]
    · have hk : k ∈ keys t := mem_keys_of_mem t (k, v) h
      have : ¬ k = k0 := by rintro rfl; exact hn.1 hk
      simp [this, ih hn.2 h]

/-- union-table invariant for summaries: below `union_theta_`, every stored summary is the fold of what was offered -/
def SInv (pol : σ → σ → σ) (sums : Nat → List σ) (u : Union σ) : Prop :=
  ∀ k v, k < u.unionTheta → lookup k u.tbl.ents = some v → foldSums pol (sums k) = some v

/-- one entry of the loop appends its summary to what was offered with its key: merged into the stored summary if it
is inserted; if it is passed over, its key can never be retained below the screen -/
theorem sinv_step (c : Cfg) (pol : σ → σ → σ) (S : List Nat) (θ : Nat) (b : Bool) (sums : Nat → List σ) (u : Union σ)
    (e : Nat × σ) (hI : UState c S θ b u) (hz : ∀ k, k ∉ S → sums k = []) (hS : SInv pol sums u) :
    SInv pol (fun k => sums k ++ sumsIn k [e]) (uStep c pol u e) := by
  intro k v hk hv
  show foldSums pol (sums k ++ sumsIn k [e]) = some v
  rw [sumsIn_singleton]
  by_cases hq : e.1 < u.unionTheta ∧ e.1 < u.tbl.theta
  · rw [uStep, if_pos hq, unionEntry_eq] at hk hv
    have hv := lookup_insertSt c u.tbl e.1 _ hI.inv.sorted k v hv
    by_cases hke : k = e.1
    · subst hke
      rw [if_pos rfl] at hv
      rw [if_pos rfl, ← Option.some.inj hv]
      cases hlk : lookup e.1 u.tbl.ents with
      | some old => rw [foldSums_snoc, hS _ old hk hlk]; rfl
      | none =>
        -- a key that is new to the table below both thetas was never offered before
        have hns : e.1 ∉ S := fun hm => (lookup_none_iff e.1 u.tbl.ents).1 hlk (hI.inv.low e.1 hm ((hI.test_iff e.1).1 hq).1 hq.2)
        rw [hz _ hns]; rfl
    · rw [if_neg hke] at hv
      rw [if_neg hke, List.append_nil]
      exact hS k v hk hv
  · -- a table key below the screen is below both thetas, so it is not the key passed over
    rw [uStep, if_neg hq] at hk hv
    have hkT := (hI.inv.sub k ((lookup_some_iff k u.tbl.ents).1 ⟨v, hv⟩)).2
    rw [if_neg (by omega), List.append_nil]
    exact hS k v hk hv

theorem sinv_loop (c : Cfg) (pol : σ → σ → σ) (ord : Bool) (l : List (Nat × σ)) (S : List Nat) (θ : Nat) (b : Bool)
    (sums : Nat → List σ) (u : Union σ) (hI : UState c S θ b u) (hz : ∀ k, k ∉ S → sums k = []) (hS : SInv pol sums u)
    (hs : ord = true → (keys l).Pairwise (· < ·)) :
    SInv pol (fun k => sums k ++ sumsIn k l) (unionLoop c pol ord l u) := by
  rw [unionLoop_eq c pol ord l u hs]
  clear hs
  induction l generalizing S sums u with
  | nil => simpa [sumsIn] using hS
  | cons e t ih =>
    have := ih (S ++ [e.1]) (fun k => sums k ++ sumsIn k [e]) (uStep c pol u e) (ustate_step c pol S θ b u e hI)
      (fun k hk => by
        rw [hz k (fun h => hk (List.mem_append_left _ h)), sumsIn_nil_of_not_mem k [e] (fun h => hk (List.mem_append_right _ h))]; rfl)
      (sinv_step c pol S θ b sums u e hI hz hS)
    simpa only [List.append_assoc, ← sumsIn_append, List.singleton_append, List.foldl_cons] using this

structure SState (c : Cfg) (pol : σ → σ → σ) (S : List Nat) (θs : Nat) (b : Bool) (sums : Nat → List σ) (u : Union σ) : Prop where
  us : UState c S θs b u
  zero : ∀ k, k ∉ S → sums k = []
  sinv : SInv pol sums u

theorem sstate_update (c : Cfg) (pol : σ → σ → σ) (sh : Nat) (S : List Nat) (θs : Nat) (b : Bool) (sums : Nat → List σ)
    (u u' : Union σ) (sk : Compact σ) (h : SState c pol S θs b sums u) (hw : WFop sk)
    (hu : unionUpdate c pol sh u sk = some u') :
    SState c pol (S ++ (if sk.isEmpty then [] else keys sk.ents)) (if sk.isEmpty then θs else min θs sk.theta)
      (b && sk.isEmpty) (fun k => sums k ++ (if sk.isEmpty then [] else sumsIn k sk.ents)) u' := by
  have hus := ustate_update c pol sh S θs b u u' sk h.us hw hu
  rcases (unionUpdate_some c pol sh u u' sk).1 hu with ⟨he, rfl⟩ | ⟨he', _, rfl⟩
  · refine ⟨hus, ?_, ?_⟩
    · intro k hk; simp only [he, if_true, List.append_nil] at hk ⊢; exact h.zero k hk
    · simpa [he] using h.sinv
  · have hS1 : SInv pol sums (uStart u sk) := fun k v hk hv =>
      h.sinv k v (Nat.lt_of_lt_of_le hk (Nat.min_le_left _ _)) hv
    have hl := sinv_loop c pol sk.ordered sk.ents S _ _ sums (uStart u sk) (ustate_uStart c S θs b u sk h.us) h.zero hS1
      hw.ord_sorted
    rw [if_neg (by rw [he']; exact Bool.false_ne_true)] at hus ⊢
    refine ⟨hus, fun k hk => ?_, fun k v hk hv => ?_⟩
    · rw [if_neg (by rw [he']; exact Bool.false_ne_true), h.zero k (fun hm => hk (List.mem_append_left _ hm)),
        sumsIn_nil_of_not_mem k sk.ents (fun hm => hk (List.mem_append_right _ hm))]; rfl
    · rw [if_neg (by rw [he']; exact Bool.false_ne_true)]
      exact hl k v (Nat.lt_of_lt_of_le hk (Nat.min_le_left _ _)) hv

theorem sstate_fold (c : Cfg) (pol : σ → σ → σ) (sh : Nat) (sks : List (Compact σ)) :
    ∀ (S : List Nat) (θs : Nat) (b : Bool) (sums : Nat → List σ) (u u' : Union σ), SState c pol S θs b sums u →
      (∀ sk, sk ∈ sks → WFop sk) → unionFold c pol sh u sks = some u' →
      SState c pol (S ++ offered sks) (thetaStar θs sks) (b && allEmpty sks) (fun k => sums k ++ sumsOffered k sks) u' := by
  induction sks with
  | nil =>
    intro S θs b sums u u' h _ hf
    simp only [unionFold, Option.some.injEq] at hf
    subst hf
    simpa [offered, thetaStar, allEmpty, sumsOffered] using h
  | cons sk rest ih =>
    intro S θs b sums u u' h hw hf
    obtain ⟨u1, hup, hf⟩ := (unionFold_cons c pol sh u u' sk rest).1 hf
    have h1 := sstate_update c pol sh S θs b sums u u1 sk h (hw sk List.mem_cons_self) hup
    have h2 := ih _ _ _ _ u1 u' h1 (fun s hs => hw s (List.mem_cons_of_mem _ hs)) hf
    simpa [offered, thetaStar, allEmpty, sumsOffered, List.append_assoc, Bool.and_assoc] using h2

end DS.Theta
