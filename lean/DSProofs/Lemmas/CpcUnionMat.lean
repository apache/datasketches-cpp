/- The union's bit matrix (`MInv`): what the OR operations add to it, that folded dense sources keep it dense, and that
   `get_result_from_bit_matrix` reads a valid sketch off it. -/
import DSProofs.Lemmas.CpcFold
import DSProofs.Lemmas.CpcUpdate
namespace DS.Cpc

/-- the matrix `m` (2^lgK rows) holds exactly the coupons `ys`, which are beyond SPARSE -/
structure MInv (lgK : Nat) (m : List Nat) (ys : List Nat) : Prop extends MBits (2^lgK) m ys where
  dense : 3 * 2^lgK ≤ 32 * (distinct ys).length

theorem mbits_orTable (lgK : Nat) (m : List Nat) (ys : List Nat) (table : List Nat) (h : MBits (2^lgK) m ys) :
    MBits (2^lgK) (orTableIntoMatrix (2^lgK) m table) (ys ++ table.map (foldRc lgK)) := by
  refine ⟨by simp [orTableIntoMatrix], ?_, ?_⟩
  · intro r c hr hc
    unfold orTableIntoMatrix
    rw [getD_map_range _ _ _ _ hr, testBit_foldl_or_if, getD_toArray, List.mem_append, Bool.or_eq_true,
      h.bits r c hr hc, mem_map_foldRc lgK table r c hc, List.any_eq_true]
    simp only [Nat.testBit_two_pow, Bool.and_eq_true, decide_eq_true_eq]
  · intro r c hr hc
    unfold orTableIntoMatrix
    rw [getD_map_range _ _ _ _ hr, testBit_foldl_or_if, getD_toArray, h.high r c hr hc, Bool.false_or, List.any_eq_false]
    intro x _
    simp [Nat.ne_of_lt (Nat.lt_of_lt_of_le (Nat.mod_lt x (by decide)) hc)]

theorem mbits_orRows (lgK : Nat) (m : List Nat) (ys xs : List Nat) (f : Nat → Nat) (srcK : Nat) (h : MBits (2^lgK) m ys)
    (hv : ∀ x ∈ xs, x < 64 * srcK)
    (hf : ∀ i c, i < srcK → c < 64 → ((f i).testBit c = true ↔ i * 64 + c ∈ xs))
    (hfh : ∀ i c, i < srcK → 64 ≤ c → (f i).testBit c = false) :
    MBits (2^lgK) (orRowsInto (2^lgK) m f srcK) (ys ++ xs.map (foldRc lgK)) := by
  refine ⟨by simp [orRowsInto], ?_, ?_⟩
  · intro r c hr hc
    unfold orRowsInto
    rw [getD_map_range _ _ _ _ hr, testBit_foldl_or_if, getD_toArray, List.mem_append, Bool.or_eq_true,
      h.bits r c hr hc, mem_map_foldRc lgK xs r c hc, List.any_eq_true]
    apply or_congr Iff.rfl
    constructor
    · rintro ⟨i, hi, hp⟩
      rw [List.mem_range] at hi
      simp only [Bool.and_eq_true, decide_eq_true_eq] at hp
      refine ⟨i * 64 + c, (hf i c hi hc).1 hp.2, ?_, ?_⟩
      · rw [rc_div i c hc]; exact hp.1
      · exact rc_mod i c hc
    · rintro ⟨x, hx, h1, h2⟩
      have hxv := Nat.div_lt_of_lt_mul (hv x hx)
      refine ⟨x / 64, List.mem_range.2 hxv, ?_⟩
      simp only [Bool.and_eq_true, decide_eq_true_eq]
      exact ⟨h1, (hf (x / 64) c hxv hc).2 (by rw [← h2, Nat.div_add_mod']; exact hx)⟩
  · intro r c hr hc
    unfold orRowsInto
    rw [getD_map_range _ _ _ _ hr, testBit_foldl_or_if, getD_toArray, h.high r c hr hc, Bool.false_or, List.any_eq_false]
    intro i hi
    rw [List.mem_range] at hi
    simp [hfh i c hi hc]

/-! cases C and D of `internal_update` (case B is `mbits_orTable`) -/

theorem mbits_addDense (L : Nat) (m : List Nat) (ys : List Nat) (s : Sketch) (xs : List Nat)
    (hm : MBits (2^L) m ys) (h : Inv s xs) (hv : ∀ x ∈ xs, x < 64 * 2^s.lgK)
    (hns : 3 * 2^s.lgK ≤ 32 * s.numCoupons) :
    MBits (2^L) (addDense (2^L) m s) (ys ++ xs.map (foldRc L)) := by
  have hw := h.window_ne hns
  unfold addDense
  split
  · rename_i hf
    -- hybrid / pinned: offset 0; the window ORs in its own bits, the table the rest
    have hoff := h.offset_zero_of_lt27 (flavor_hp_lt27 _ _ hf)
    have hlen := h.rep.win_len hw
    have h1 := mbits_orRows L m ys (pairsOfWindow s.window) (fun i => s.window.toArray.getD i 0 <<< s.offset) (2^s.lgK) hm
      (fun x hx => hlen ▸ ((mem_pairsOfWindow _ x).1 hx).1)
      (fun i c hi hc => by
        rw [hoff, Nat.shiftLeft_zero, getD_toArray, mem_pairsOfWindow, rc_div i c hc, rc_mod i c hc, hlen]
        refine ⟨fun hb => ⟨by omega, Nat.lt_of_not_le fun h8 => ?_, hb⟩, fun hb => hb.2.2⟩
        rw [window_testBit_ge s h.rep i c h8] at hb; exact Bool.noConfusion hb)
      (fun i c _ hc => by
        rw [hoff, Nat.shiftLeft_zero, getD_toArray]
        exact window_testBit_ge s h.rep i c (Nat.le_trans (by decide) hc))
    refine (mbits_orTable L _ _ s.table h1).stream_congr fun a => ?_
    rw [List.append_assoc, ← List.map_append, List.mem_append, List.mem_append]
    exact or_congr Iff.rfl (mem_map_congr (foldRc L) _ _
      (fun x => by rw [List.mem_append, or_comm]; exact mem_offset_zero s xs h hv hw hoff x) a)
  · -- sliding: OR the source's bit matrix
    have hs := mbits_buildBitMatrix s xs h
    exact mbits_orRows L m ys xs (fun i => (buildBitMatrix s).toArray.getD i 0) (2^s.lgK) hm hv
      (fun i c hi hc => by rw [getD_toArray]; exact hs.bits i c hi hc)
      (fun i c hi hc => by rw [getD_toArray]; exact hs.high i c hi hc)

/-- adding the folded coupons of a source beyond SPARSE leaves the union's coupons beyond SPARSE (`MInv.dense`) -/
theorem dense_append (L : Nat) (ys : List Nat) (s : Sketch) (xs : List Nat) (h : Inv s xs)
    (hv : ∀ x ∈ xs, x < 64 * 2^s.lgK) (hL : L ≤ s.lgK) (hns : 3 * 2^s.lgK ≤ 32 * s.numCoupons) :
    3 * 2^L ≤ 32 * (distinct (ys ++ xs.map (foldRc L))).length :=
  Nat.le_trans (fold_beyond_sparse s.lgK L hL xs hv (h.count ▸ hns))
    (Nat.mul_le_mul_left 32 (distinct_length_mono _ _ fun _ ha => List.mem_append_right _ ha))

/-- `h56`: the offset it computes is one the sketch model covers: the model leaves the window at 56 (header of DSModel/Cpc/Sketch.lean) -/
theorem inv_resultFromMatrix (lgK : Nat) (m : List Nat) (ys : List Nat) (h : MInv lgK m ys)
    (hv : ∀ y ∈ ys, y < 64 * 2^lgK)
    (h56 : determineCorrectOffset lgK (distinct ys).length ≤ 56) :
    Inv (resultFromMatrix lgK m) ys := by
  have hC : (m.map popcount64).sum = (distinct ys).length := popcount_of_mbits _ m ys h.toMBits hv
  have hd := dco_bounds lgK (m.map popcount64).sum
  exact inv_of_matrix (resultFromMatrix lgK m) _ m ys ⟨rfl, rfl, rfl, rfl⟩ h.toMBits (hC ▸ h56) hC
    (show 3 * 2^lgK ≤ 32 * (m.map popcount64).sum from hC ▸ h.dense) (Or.inl hd.1) hd.2

end DS.Cpc
