/-
C01 (layer 2) — the open-addressing hash table of `theta_update_sketch_base` refines the abstract sketch.

ONLY property theorems and non-vacuity examples (helper lemmas: Lemmas/ThetaTable*.lean).
Model: DSModel/Theta/Table.lean — slots, `find` with odd-stride probing, insert, `resize` (re-insertion in slot
order), `rebuild` (re-insertion of the k smallest).  It is tied to the real table by the advisory part `l2table`
of `./check C01`, which compares the model's SLOT ORDER with the real sketch's iteration order.
With Props/C01.lean, what C01 (and C13: the theorems are payload-generic) trusts is that this model of the concrete data
structure, not only the abstract algorithm, matches the code.
-/
import DSProofs.Lemmas.ThetaTableRun
import DSProofs.Props.C01
namespace DS.Theta.L2
open DS.Theta

variable {σ : Type}

/-- **Probing is complete**: with an odd stride the probe sequence visits every slot of a power-of-two table.
This is `pos_surjective`, on which `C01_table_update_refines` rests through `find_absent`: `find` of an absent key
reaches an empty slot whenever one exists (the code's `logic_error` is unreachable). -/
theorem C01_probe_visits_every_slot (lg stride idx : Nat) (hodd : stride % 2 = 1) (e : Nat) (he : e < 2^lg) :
    ∃ j, j < 2^lg ∧ pos (2^lg) stride idx j = e :=
  pos_surjective lg stride idx hodd e he

/-- the stride the code computes is always odd -/
theorem C01_stride_odd (bits key lg : Nat) : strideOf bits key lg % 2 = 1 := strideOf_odd bits key lg

/-- **One update refines**: on a table satisfying the representation invariant with room for one more entry, the
concrete update succeeds, its abstraction is the abstract update, and the invariant is kept. -/
theorem C01_table_update_refines (bits : Nat) (c : Cfg) (t : TSt σ) (hash : Nat) (f : Option σ → σ)
    (h : PInv bits t.lg t.slots) (hroom : (entries t.slots).length + 1 < 2^t.lg) :
    ∃ t', offerT bits c t hash f = some t' ∧ abs t' = offer c (abs t) hash f ∧ PInv bits t'.lg t'.slots :=
  offerT_refines bits c t hash f h hroom

/-- **Whole histories refine**: for every configuration whose sizing parameters are sane (`CfgOkT`; checked for a concrete configuration by the Boolean `cfgOkB`) and
every history of updates / trims / resets, the concrete table never fails and abstracts to the abstract sketch —
so every theorem of Props/C01.lean holds of the key-sorted content of the concrete table. -/
theorem C01_table_run_refines (bits : Nat) (c : Cfg) (ok : CfgOkT c) (ops : List (Op σ)) :
    ∃ t, runT bits c (initT c) ops = some t ∧ abs t = run c ops := by
  obtain ⟨t, ht, habs, _⟩ := run_refines bits c ok ops (initT c) (runInv_init bits c ok)
  exact ⟨t, ht, by rw [habs, abs_init]; rfl⟩

/-- corollary: the entries stored in the concrete table are exactly the distinct nonzero hashes below theta -/
theorem C01_table_retained_exact (bits : Nat) (c : Cfg) (ok : CfgOkT c) (ops : List (Op σ)) :
    ∃ t, runT bits c (initT c) ops = some t ∧
      ∀ x, (∃ v, (x, v) ∈ entries t.slots) ↔ (x ∈ seenOf ops ∧ 0 < x ∧ x < t.theta) := by
  obtain ⟨t, ht, habs, hT⟩ := run_refines bits c ok ops (initT c) (runInv_init bits c ok)
  refine ⟨t, ht, ?_⟩
  have habs' : abs t = run c ops := by rw [habs, abs_init]; rfl
  have hmem := (C01_retained_exact c ops).2
  rw [← habs'] at hmem
  have s0 := absE_spec bits t.lg t.slots hT.pinv
  intro x
  have hth : (abs t).theta = t.theta := rfl
  rw [← hth, ← hmem x, abs_ents]
  constructor
  · rintro ⟨v, hv⟩; exact mem_keys_of_mem _ (x, v) ((s0.2 _).2 hv)
  · intro hx
    obtain ⟨v, hv⟩ := exists_of_mem_keys _ _ hx
    exact ⟨v, (s0.2 _).1 hv⟩

/-! ### Non-vacuity: the default configuration (lg_k = 12, resize X8, p = 1) and a small one are sane; a concrete run. -/
def cfgDefault : Cfg := { lgNom := 12, lgRf := 3, theta0 := MAX_THETA, lgStart := 7 }
def cfgSmall : Cfg := { lgNom := 5, lgRf := 1, theta0 := MAX_THETA, lgStart := 5 }

theorem cfgSmall_ok : CfgOkT cfgSmall := cfgOkB_sound _ (by decide)

theorem cfgDefault_ok : CfgOkT cfgDefault := cfgOkB_sound _ (by decide)

def cfgTiny : Cfg := { lgNom := 2, lgRf := 1, theta0 := 1000, lgStart := 3, rbdNum := 3, rbdDen := 4 }
example : (runT 7 cfgTiny (initT cfgTiny)
    [.upd 50 (fun _ => ()), .upd 21 (fun _ => ()), .upd 50 (fun _ => ()), .upd 13 (fun _ => ()), .upd 5 (fun _ => ()),
     .upd 29 (fun _ => ()), .upd 37 (fun _ => ()), .upd 45 (fun _ => ())]).map (fun t => (t.theta, keys (abs t).ents))
    = some (37, [5, 13, 21, 29]) := by decide +kernel

end DS.Theta.L2
