/- C06: the exact-arithmetic instance of the numeric class used by the estimator models.
   `K` is any linearly ordered field; `sqrt / log / floor / ceil / pow` are supplied as functions (`MathFns`), the facts the
   theorems need about them are the fields of `MathFns.OK` (all true of the real functions: DSProofs/Lemmas/BoundsReal.lean). -/
import DSModel.Bounds.Num
import Mathlib.Algebra.Order.Field.Basic
import Mathlib.Tactic.Linarith
import Mathlib.Tactic.Positivity
import Mathlib.Tactic.Ring
import Mathlib.Tactic.FieldSimp
namespace DS.Bounds

structure MathFns (K : Type) where
  sqrt : K → K
  log : K → K
  floor : K → K
  ceil : K → K
  pow : K → K → K

variable {K : Type} [Field K] [LinearOrder K] [IsStrictOrderedRing K]

structure MathFns.OK (F : MathFns K) : Prop where
  sqrt_nonneg : ∀ x, 0 ≤ F.sqrt x
  sqrt_sq : ∀ x, 0 ≤ x → F.sqrt x * F.sqrt x = x
  log_one : F.log 1 = 0
  log_lt : ∀ x y, 0 < x → x < y → F.log x < F.log y
  floor_mono : ∀ x y, x ≤ y → F.floor x ≤ F.floor y
  ceil_mono : ∀ x y, x ≤ y → F.ceil x ≤ F.ceil y
  le_ceil : ∀ x, x ≤ F.ceil x

/-- a literal `(bits, num, den)` (DSModel/Bounds/Num.lean) by its exact value -/
def litK (t : Lit) : K := (t.2.1 : K) / (t.2.2 : K)

/-- the one fact about `pow` that is used (ICON exponential branch); `cIconExp` = 0.7940236163830469 (DSModel/Bounds/Num.lean) -/
def MathFns.ExpOK (F : MathFns K) : Prop := ∀ r : K, 5 ≤ r → r ≤ litK cIconExp * F.pow 2 r

@[reducible] def fieldNum (F : MathFns K) : BNum K where
  toAdd := inferInstance
  toSub := inferInstance
  toMul := inferInstance
  toDiv := inferInstance
  toNeg := inferInstance
  toLT := inferInstance
  toLE := inferInstance
  decLt := fun a b => inferInstance
  decLe := fun a b => inferInstance
  eqb := fun a b => decide (a = b)
  ofNat := fun n => (n : K)
  lit := litK
  sqrt := F.sqrt
  log := F.log
  floor := F.floor
  ceil := F.ceil
  pow := F.pow
  fmax := fun a b => max a b

end DS.Bounds
