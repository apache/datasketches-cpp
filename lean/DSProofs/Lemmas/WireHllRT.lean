/-
Round trips of the HLL image kinds for the strict reader (`lenient = false`) and for the reader that tolerates missing zero padding
at the end (`lenient = true`); and, one `Exact` term per decoder, prefix safety with the converse: either reader accepts only encodings.
`encodeListG`, `hllBodyG`, `encodeG` (each with a `lenient` argument) are proof devices: the image, without its padding when
`lenient` and the image ends in padding.
-/
import DSProofs.Lemmas.WireHll

namespace DS.Wire.Hll
open DS.Wire DS.Wire.Reader

def encodeListG (c : Consts) (lenient : Bool) (s : ListImg) : Bytes :=
  encodeHdr c c.listPreInts s.h ++ (if lenient && listPad c s.h then [] else wU32s s.coupons)

theorem encodeListG_false (c : Consts) (s : ListImg) : encodeListG c false s = encodeList c s := rfl

theorem list_pad_zero (c : Consts) (s : ListImg) (hw : s.WF c) (hp : listPad c s.h = true) :
    s.coupons = List.replicate (listLen c s.h) 0 := by
  obtain ⟨_, _, _, hl, _, _, hemp, hdrop⟩ := hw
  have he : s.h.emptyFlag c = true := (Bool.and_eq_true_iff.1 hp).2
  have hb6 : s.h.b6 = 0 := eq_of_beq (hemp.symm.trans he)
  rw [hb6, List.drop_zero, Nat.sub_zero, hl] at hdrop
  exact hdrop

theorem listBody_enc (c : Consts) (len : Bool) (s : ListImg) (hw : s.WF c) (tail : Bytes) :
    decodeListBody c len s.h ((if len && listPad c s.h then [] else wU32s s.coupons) ++ tail) = some (s, tail) := by
  have hz := list_pad_zero c s hw
  obtain ⟨_, hm, ht, hl, hb, _⟩ := hw
  rw [decodeListBody, bind_guard _ (beq_iff_eq.2 hm), bind_guard _ (bne_iff_ne.2 ht)]
  split
  · next hp => rw [← hz (Bool.and_eq_true_iff.1 hp).2]; rfl
  · rw [bind_ok (repeatN_u32_wU32s s.coupons _ tail hl hb)]; rfl

theorem listBody_exact (c : Consts) (len : Bool) (h : Hdr) :
    Exact (encodeHdr c c.listPreInts h) (decodeListBody c len h) (encodeListG c len) :=
  Post_guard fun _ => Post_guard fun _ =>
  Post_ite_of _ (fun hp => Exact_pure (by rw [encodeListG, if_pos hp, List.append_nil]))
    fun hp => Exact_field (u32s_exact _) fun _ => Exact_pure (by rw [encodeListG, if_neg hp])

theorem setBody_enc (c : Consts) (s : SetImg) (hw : s.Valid c) (tail : Bytes) :
    decodeSetBody c s.h ((w32 s.count ++ wU32s s.slots) ++ tail) = some (s, tail) := by
  obtain ⟨_, hm, ht, hk, hc, hl, hb⟩ := hw
  rw [decodeSetBody, bind_guard _ (beq_iff_eq.2 hm), bind_guard _ (bne_iff_ne.2 ht), bind_guard _ (decide_eq_true hk),
    List.append_assoc, bind_u32 _ hc, bind_ok (repeatN_u32_wU32s s.slots _ tail hl hb)]
  rfl

theorem setBody_exact (c : Consts) (h : Hdr) :
    Exact (encodeHdr c c.setPreInts h) (decodeSetBody c h) (encodeSet c) :=
  Post_guard fun _ => Post_guard fun _ => Post_guard fun _ => Exact_field (Exact_leNat 4) fun _ =>
  Exact_field (u32s_exact _) fun _ => Exact_pure (by simp only [encodeSet, List.append_assoc]; rfl)

def hllBodyG (c : Consts) (lenient : Bool) (s : HllImg) : Bytes :=
  w64 s.hip ++ (w64 s.kxq0 ++ (w64 s.kxq1 ++ (w32 s.numAtCurMin ++ (w32 s.auxCount ++
    (s.regs ++ (if lenient && hllPad c s.h s.auxCount then [] else wU32s s.aux))))))

theorem hll_pad_zero (c : Consts) (s : HllImg) (hw : s.WF c) (hp : hllPad c s.h s.auxCount = true) :
    s.aux = List.replicate (auxLen c s.h s.auxCount) 0 := by
  obtain ⟨_, _, _, _, _, _, _, _, _, _, hal, _, hac, _⟩ := hw
  have h0 : s.auxCount = 0 := eq_of_beq (Bool.and_eq_true_iff.1 hp).2
  rw [← hal]
  exact eq_replicate_zero_of_filter_length_zero s.aux (hac.symm.trans h0)

theorem hllBody_enc (c : Consts) (len : Bool) (s : HllImg) (hw : s.WF c) (tail : Bytes) :
    decodeHllBody c len s.h (hllBodyG c len s ++ tail) = some (s, tail) := by
  have hz := hll_pad_zero c s hw
  obtain ⟨_, hm, ht, h1, h2, h3, h4, h5, hor, hrl, hal, hab, _⟩ := hw
  have hg : (s.h.tgt == 0 || s.auxCount == 0) = true := by
    rcases hor with h | h <;> simp [h]
  simp only [hllBodyG, List.append_assoc]
  rw [decodeHllBody, bind_guard _ (beq_iff_eq.2 hm), bind_guard _ (bne_iff_ne.2 ht), bind_u64 _ h1, bind_u64 _ h2,
    bind_u64 _ h3, bind_u32 _ h4, bind_u32 _ h5, bind_guard _ hg, bind_bytesN s.regs _ hrl]
  split
  · next hp => rw [← hz (Bool.and_eq_true_iff.1 hp).2]; rfl
  · rw [bind_ok (repeatN_u32_wU32s s.aux _ tail hal hab)]; rfl

def encodeG (c : Consts) (lenient : Bool) : Img → Bytes
  | .list s => encodeListG c lenient s
  | .set s => encodeSet c s
  | .hll s => encodeHdr c c.hllPreInts s.h ++ hllBodyG c lenient s

theorem encodeG_false (c : Consts) (s : Img) : encodeG c false s = encode c s := by
  cases s <;> rfl

/-- set images round-trip under `Valid` alone (covers images of older writers whose lg_arr byte is absent) -/
theorem decodeG_encodeSet (c : Consts) (hc : c.ok = true) (len : Bool) (s : SetImg) (hv : s.Valid c) (tail : Bytes) :
    decodeG c len (encodeSet c s ++ tail) = some (Img.set s, tail) := by
  obtain ⟨_, _, _, ps, _, nhs, _⟩ := Consts.ok_spec hc
  rw [encodeSet, List.append_assoc, decodeG, hdr_enc c hc c.setPreInts ps s.h hv.1,
    if_neg (fun h => nhs (eq_of_beq h).symm), if_pos (beq_self_eq_true _), bind_ok (setBody_enc c s hv tail)]
  rfl

theorem decodeG_enc (c : Consts) (hc : c.ok = true) (len : Bool) (s : Img) (hw : s.WF c) (tail : Bytes) :
    decodeG c len (encodeG c len s ++ tail) = some (s, tail) := by
  obtain ⟨_, _, pl, _, ph, _, nhl, nsl⟩ := Consts.ok_spec hc
  cases s with
  | list s =>
    rw [encodeG, encodeListG, List.append_assoc, decodeG, hdr_enc c hc c.listPreInts pl s.h hw.1,
      if_neg (fun h => nhl (eq_of_beq h).symm), if_neg (fun h => nsl (eq_of_beq h).symm), if_pos (beq_self_eq_true _),
      bind_ok (listBody_enc c len s hw tail)]
    rfl
  | set s => exact decodeG_encodeSet c hc len s hw.1 tail
  | hll s =>
    rw [encodeG, List.append_assoc, decodeG, hdr_enc c hc c.hllPreInts ph s.h hw.1, if_pos (beq_self_eq_true _),
      bind_ok (hllBody_enc c len s hw tail)]
    rfl

theorem hllBody_exact (c : Consts) (len : Bool) (h : Hdr) :
    Exact (encodeHdr c c.hllPreInts h) (decodeHllBody c len h) fun s => encodeHdr c c.hllPreInts s.h ++ hllBodyG c len s :=
  Post_guard fun _ => Post_guard fun _ => Exact_field (Exact_leNat 8) fun _ => Exact_field (Exact_leNat 8) fun _ =>
  Exact_field (Exact_leNat 8) fun _ => Exact_field (Exact_leNat 4) fun _ => Exact_field (Exact_leNat 4) fun _ =>
  Post_guard fun _ => Exact_field (Exact_bytesN _) fun _ =>
  Post_ite_of _ (fun hp => Exact_pure (by simp only [hllBodyG, if_pos hp, List.append_assoc, List.append_nil]; rfl))
    fun hp => Exact_field (u32s_exact _) fun _ => Exact_pure (by simp only [hllBodyG, if_neg hp, List.append_assoc]; rfl)

theorem decodeG_exact (c : Consts) (len : Bool) : Exact [] (decodeG c len) (encodeG c len) :=
  Exact_field (Exact_leNat 1) fun pre => Exact_bind (hdrRest_exact c pre) fun h =>
  Post_ite_of _ (fun hp => Post_map Img.hll (eq_of_beq hp ▸ hllBody_exact c len h)) fun _ =>
  Post_ite_of _ (fun hp => Post_map Img.set (eq_of_beq hp ▸ setBody_exact c h)) fun _ =>
  Post_ite_of _ (fun hp => Post_map Img.list (eq_of_beq hp ▸ listBody_exact c len h)) fun _ => Post_fail

theorem PS_decodeG (c : Consts) (len : Bool) : PS (decodeG c len) := (decodeG_exact c len).ps

theorem decode_inv (c : Consts) (b : Bytes) (s : Img) (r : Bytes) (hd : decode c b = some (s, r)) : b = encode c s ++ r :=
  encodeG_false c s ▸ (decodeG_exact c false).inv hd

end DS.Wire.Hll
