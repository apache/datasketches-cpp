/-
t-digest (C17), exact arithmetic: the greedy clustering loop of `merge(buffer, weight)`.  The first input element is never
merged (explicit protection in the code); the LAST one is never merged because the scale limit vanishes at q = 1
(`ScaleOK`): the code's own test `std::distance(buffer.end(), it) != 1` is vacuous.
-/
import DSProofs.Lemmas.TDigestSort
namespace DS.TDigest
open Num Conv

/-- the hypothesis on the abstract scale function: its limit vanishes at q = 1. -/
def ScaleOK (sc : Scale Rat) : Prop := ∀ nrm : Rat, sc.max 1 nrm = 0

theorem cadd_mean {safe : Bool} (a b : C) :
    (cadd safe a b).mean = lerp a.mean b.mean ((b.weight : Rat) / ((a.weight + b.weight : Nat) : Rat)) := by
  -- over Rat every value is finite: the fallback of the overflow-safe shape (`safe = true`) is never taken
  simp [cadd, caddMean, lerp, mul_div_assoc]

theorem share_unit (aw bw : Nat) :
    (0 : Rat) ≤ (bw : Rat) / ((aw + bw : Nat) : Rat) ∧ (bw : Rat) / ((aw + bw : Nat) : Rat) ≤ 1 :=
  div_mem_unit (Nat.cast_nonneg bw) (by exact_mod_cast Nat.le_add_left bw aw)

theorem cadd_lo {safe : Bool} {a b : C} {lo : Rat} (ha : lo ≤ a.mean) (hb : lo ≤ b.mean) : lo ≤ (cadd safe a b).mean := by
  rw [cadd_mean]
  exact lerp_ge ha hb (share_unit _ _).1 (share_unit _ _).2

theorem cadd_hi {safe : Bool} {a b : C} {hi : Rat} (ha : a.mean ≤ hi) (hb : b.mean ≤ hi) : (cadd safe a b).mean ≤ hi := by
  rw [cadd_mean]
  exact lerp_le ha hb (share_unit _ _).1 (share_unit _ _).2

variable {safe : Bool} {sc : Scale Rat} {kc cwD : Rat}

theorem cluster_all {P : C → Prop} (hP : ∀ a b, P a → P b → P (cadd safe a b)) (xs : List C) :
    ∀ (first : Bool) (cur : C) (wsf : Rat), P cur → (∀ x ∈ xs, P x) →
      ∀ c ∈ cluster safe sc kc cwD first cur wsf xs, P c := by
  induction xs with
  | nil => intro first cur wsf hc _ c hmem; rw [cluster, List.mem_singleton] at hmem; exact hmem ▸ hc
  | cons x xs ih =>
    intro first cur wsf hc hx c hmem
    obtain ⟨hx0, hxs⟩ := List.forall_mem_cons.1 hx
    rw [cluster] at hmem
    split at hmem
    · exact ih false _ wsf (hP cur x hc hx0) hxs c hmem
    · rcases List.mem_cons.1 hmem with rfl | hmem
      · exact hc
      · exact ih false x _ hx0 hxs c hmem

/-- used with `≤` on the means for the forward merge and with `≥` for the reverse merge -/
theorem cluster_pairwise {R : C → C → Prop} (hl : ∀ a b y, R a y → R b y → R (cadd safe a b) y)
    (hr : ∀ y a b, R y a → R y b → R y (cadd safe a b)) (xs : List C) :
    ∀ (first : Bool) (cur : C) (wsf : Rat), (cur :: xs).Pairwise R →
      (cluster safe sc kc cwD first cur wsf xs).Pairwise R := by
  induction xs with
  | nil => intro first cur wsf _; rw [cluster]; exact List.pairwise_singleton _ _
  | cons x xs ih =>
    intro first cur wsf h
    obtain ⟨h1, h23⟩ := List.pairwise_cons.1 h
    obtain ⟨h2, h3⟩ := List.pairwise_cons.1 h23
    obtain ⟨hcx, hcxs⟩ := List.forall_mem_cons.1 h1
    rw [cluster]
    split
    · exact ih false _ wsf (List.pairwise_cons.2 ⟨fun y hy => hl cur x y (hcxs y hy) (h2 y hy), h3⟩)
    · exact List.pairwise_cons.2 ⟨cluster_all (hr cur) xs false x _ hcx hcxs, ih false x _ h23⟩

theorem cluster_head (xs : List C) (cur : C) (wsf : Rat) :
    (cluster safe sc kc cwD true cur wsf xs).head? = some cur := by
  cases xs with
  | nil => rfl
  | cons x xs => simp [cluster]

/-- with the whole weight accounted for, the scale test rejects the last element (`q2 = 1`, limit 0). -/
theorem addThis_last (hsc : ScaleOK sc) {cwD wsf : Rat} (cur x : C) (hw : 0 ≤ wsf) (hx : 1 ≤ x.weight)
    (hall : wsf + (cur.weight : Rat) + (x.weight : Rat) = cwD) : addThis sc kc cwD wsf cur x = false := by
  have hp : (0 : Rat) < ((cur.weight + x.weight : Nat) : Rat) := by exact_mod_cast Nat.add_pos_right _ hx
  have hall' : wsf + ((cur.weight + x.weight : Nat) : Rat) = cwD := by rw [← hall, Nat.cast_add, add_assoc]
  have hcw : 0 < cwD := hall' ▸ add_pos_of_nonneg_of_pos hw hp
  unfold addThis
  simp only [rat_add, rat_div, rat_ofNat, rat_mul, stdMin_eq, hall', div_self hcw.ne', hsc _, rat_le_false]
  exact lt_of_le_of_lt (mul_nonpos_of_nonneg_of_nonpos hcw.le (min_le_right _ _)) hp

/-- `wsf` weight units lie before `cur`, and `cwD` is the whole weight -/
theorem cluster_getLast (hsc : ScaleOK sc) (xs : List C) : ∀ (first : Bool) (cur : C) (wsf : Rat), 0 ≤ wsf →
    (∀ c ∈ xs, 1 ≤ c.weight) → wsf + (cur.weight : Rat) + (sumWeights xs : Rat) = cwD →
    (cluster safe sc kc cwD first cur wsf xs).getLast? = (cur :: xs).getLast? := by
  induction xs with
  | nil => intro _ _ _ _ _ _; rfl
  | cons x xs ih =>
    intro first cur wsf hw hpos hcw
    obtain ⟨hx0, hxs⟩ := List.forall_mem_cons.1 hpos
    rw [sumWeights_cons, Nat.cast_add, ← add_assoc] at hcw
    rw [cluster, List.getLast?_cons_cons]
    split
    · rename_i hadd
      cases xs with
      | nil =>
        rw [addThis_last hsc cur x hw hx0 (by rw [← hcw, sumWeights_nil, Nat.cast_zero, add_zero]), Bool.and_false] at hadd
        exact nomatch hadd
      | cons y ys =>
        rw [ih false (cadd safe cur x) wsf hw hxs (by rw [cadd_weight, Nat.cast_add, ← add_assoc, hcw]),
          List.getLast?_cons_cons, List.getLast?_cons_cons]
    · rw [List.getLast?_cons_of_ne_nil (cluster_ne_nil safe sc kc cwD xs false x _)]
      exact ih false x _ (add_nonneg hw (Nat.cast_nonneg _)) hxs hcw

theorem mergeOut_spec (sc : Scale Rat) (hsc : ScaleOK sc) (tun : Tun) (s : St Rat) (tmp : List C) (weight : Nat)
    {x : C} {xs : List C} (hseq : mergeSeq s tmp = x :: xs)
    (hpos : ∀ c ∈ tmp ++ s.cs, 1 ≤ c.weight)
    (hcw : s.cw + weight = sumWeights (tmp ++ s.cs)) :
    Sorted (mergeOut sc tun s weight x xs) ∧
    (mergeOut sc tun s weight x xs).head? = firstMin (tmp ++ s.cs) ∧
    (mergeOut sc tun s weight x xs).getLast? = lastMax (tmp ++ s.cs) ∧
    (∀ P : C → Prop, (∀ a b, P a → P b → P (cadd tun.caddSafe a b)) → (∀ c ∈ tmp ++ s.cs, P c) →
      ∀ c ∈ mergeOut sc tun s weight x xs, P c) := by
  have hperm : (x :: xs).Perm (tmp ++ s.cs) := hseq ▸ mergeSeq_perm s tmp
  have hall : ∀ P : C → Prop, (∀ c ∈ tmp ++ s.cs, P c) → P x ∧ ∀ c ∈ xs, P c := fun P h =>
    List.forall_mem_cons.1 fun c hc => h c (hperm.mem_iff.1 hc)
  have h0 : (0 : Rat) ≤ Num.ofNat 0 := Nat.cast_nonneg 0
  have hcw' : (Num.ofNat 0 : Rat) + (x.weight : Rat) + (sumWeights xs : Rat) = Num.ofNat (s.cw + weight) := by
    rw [hcw, ← sumWeights_perm hperm, sumWeights_cons]; simp
  -- the first and the last element of the sequence survive the clustering; the sequence is the sorted list or its reverse
  have hlast := fun kc => cluster_getLast (safe := tun.caddSafe) (kc := kc) hsc xs true x _ h0 (hall _ hpos).2 hcw'
  unfold mergeOut
  unfold mergeSeq at hseq
  cases hrev : s.rev
  · simp only [hrev, Bool.false_eq_true, if_false] at hseq ⊢
    refine ⟨cluster_pairwise (R := fun a b => a.mean ≤ b.mean) (fun _ _ _ => cadd_hi) (fun _ _ _ => cadd_lo) xs true x _
      (hseq ▸ stableSort_sorted _), ?_, ?_, fun P hP h => cluster_all hP xs true x _ (hall P h).1 (hall P h).2⟩
    · rw [cluster_head, ← head?_stableSort, hseq]; rfl
    · rw [hlast, ← getLast?_stableSort, hseq]
  · -- reverse merge: the clusters are formed along the descending list and reversed again
    simp only [hrev, if_true] at hseq ⊢
    have hsorted : stableSort (tmp ++ s.cs) = (x :: xs).reverse := by
      rw [← hseq, List.reverse_reverse]
    refine ⟨List.pairwise_reverse.2 (cluster_pairwise (R := fun a b => b.mean ≤ a.mean) (fun _ _ _ => cadd_lo)
        (fun _ _ _ => cadd_hi) xs true x _ (hseq ▸ (stableSort_sorted (tmp ++ s.cs)).reverse_ge)), ?_, ?_,
      fun P hP h c hc => cluster_all hP xs true x _ (hall P h).1 (hall P h).2 c (List.mem_reverse.1 hc)⟩
    · rw [List.head?_reverse, hlast, ← head?_stableSort, hsorted, List.head?_reverse]
    · rw [List.getLast?_reverse, cluster_head, ← getLast?_stableSort, hsorted, List.getLast?_reverse]; rfl

end DS.TDigest
