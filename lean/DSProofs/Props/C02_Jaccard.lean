/-
C02 (Jaccard) — in exact mode the Jaccard index is the true set ratio.

`theta_jaccard_similarity::jaccard(A, B)` evaluates a union U of A and B (nominal size the next power of two ≥ the two
retained counts, at least 2^5) and the intersection I of A, B and U, and returns |I| / |U| three times when the
intersection's theta fraction is 1.  This file proves the set part: for exact-mode, non-empty, well-formed A and B,
U retains exactly the hashes of A ∪ B, I exactly those of A ∩ B, both duplicate-free and both with theta = MAX —
so the ratio the driver computes (and the harness compares bit-for-bit with the code) is |A ∩ B| / |A ∪ B|.
-/
import DSProofs.Props.C02
namespace DS.Theta

/-- **Jaccard, the set part.**  For exact-mode, non-empty, well-formed `a` and `b` whose entries fit the union's nominal
size, `jaccardParts` succeeds; its union keeps exactly the hashes of `a` or `b`, its intersection exactly those of both, each
once; the union has theta = MAX, and so has the intersection unless it is flagged empty. -/
theorem C02_jaccard_exact_sets (c : Cfg) (sh : Nat) (a b : Compact Unit) (ha : WFop a) (hb : WFop b)
    (hae : a.isEmpty = false) (hbe : b.isEmpty = false) (hat : a.theta = MAX_THETA) (hbt : b.theta = MAX_THETA)
    (has : a.seedHash = sh) (hbs : b.seedHash = sh) (hc0 : c.theta0 = MAX_THETA)
    (hk : a.ents.length + b.ents.length ≤ 2^c.lgNom) :
    ∃ u r, jaccardParts c sh a b = some (u, r) ∧
      u.theta = MAX_THETA ∧ (∀ x, x ∈ keys u.ents ↔ (x ∈ keys a.ents ∨ x ∈ keys b.ents)) ∧ (keys u.ents).Nodup ∧
      (∀ x, x ∈ keys r.ents ↔ (x ∈ keys a.ents ∧ x ∈ keys b.ents)) ∧ (keys r.ents).Nodup ∧
      (r.isEmpty = false → r.theta = MAX_THETA) := by
  have hw : ∀ sk, sk ∈ [a, b] → WFop sk := by simpa using ⟨ha, hb⟩
  -- the union of A and B: accepted, not empty, and exact because both fit
  obtain ⟨u0, hu0⟩ := (unionFold_isSome c (fun _ _ => ()) sh [a, b] (unionInit c)).2 (by simp [has, hbs])
  obtain ⟨hspec, hune⟩ := (C02_union_result_spec c (fun _ _ => ()) sh [a, b] hw u0 hu0 false).1 (by simp [allEmpty, hae])
  have hoff : offered [a, b] = keys a.ents ++ keys b.ents := by simp [offered, hae, hbe]
  have hstar : thetaStar c.theta0 [a, b] = MAX_THETA := by simp [thetaStar, hae, hbe, hat, hbt, hc0]
  rw [hoff, hstar] at hspec
  have hseed : (unionResult c u0 false sh).seedHash = sh := unionResult_seedHash c u0 false sh
  generalize hU : unionResult c u0 false sh = U at hspec hune hseed
  have hth : U.theta = MAX_THETA := hspec.theta_eq_of_fits (by simpa using hk)
  have humem : ∀ x, x ∈ keys U.ents ↔ (x ∈ keys a.ents ∨ x ∈ keys b.ents) := by
    intro x
    rw [hspec.mem, List.mem_append, hth]
    refine ⟨fun h => h.1, fun h => ⟨h, ?_⟩⟩
    rcases h with h | h
    · exact hat ▸ ha.lt_theta x h
    · exact hbt ▸ hb.lt_theta x h
  have huw : WFop U := hspec.wfop U hune (Nat.le_refl _)
  -- the intersection of A, B and that union: accepted, and it keeps what A and B share
  have hcom : ∀ x, common [a, b, U] x ↔ (x ∈ keys a.ents ∧ x ∈ keys b.ents) := by
    intro x
    simp only [common, List.mem_cons, List.not_mem_nil, or_false, forall_eq_or_imp, forall_eq, humem]
    exact ⟨fun h => ⟨h.1, h.2.1⟩, fun h => ⟨h.1, h.2, Or.inl h.1⟩⟩
  have hw3 : ∀ sk, sk ∈ [a, b, U] → WFop sk := by simpa using ⟨ha, hb, huw⟩
  obtain ⟨i, hi⟩ := interFold_isSome (fun _ _ => ()) sh [a, b, U] interInit
    (by simpa using ⟨⟨Or.inr has, ha.nodup⟩, ⟨Or.inr hbs, hb.nodup⟩, ⟨Or.inr hseed, huw.nodup⟩⟩)
  have hI := iinv_fold (fun _ _ => ()) sh [a, b, U] i hw3 hi
  have hne : [a, b, U] ≠ [] := List.cons_ne_nil _ _
  have hmin : minTheta [a, b, U] = MAX_THETA := by simp [minTheta, hat, hbt, hth]
  refine ⟨U, ⟨i.theta, i.ents, i.isEmpty, false || decide (i.ents.length ≤ 1), sh⟩, ?_, hth, humem, nodup_of_sorted hspec.sorted, fun x => ?_,
    nodup_of_sorted hI.sorted, fun he => ((hI.ne hne he).1).trans hmin⟩
  · simp only [jaccardParts, hu0, hU, hi, interResult, hI.valid_iff.2 hne, Bool.not_true, Bool.false_eq_true, if_false]
  · rw [← hcom]
    cases hie : i.isEmpty with
    | true =>
      obtain ⟨hnil, _, _, hno⟩ := hI.em hie
      show x ∈ keys i.ents ↔ _
      rw [hnil]
      exact ⟨fun h => (nomatch h), fun h => absurd h (hno x)⟩
    | false =>
      obtain ⟨hθ, hm⟩ := hI.ne hne hie
      exact (hm x).trans ⟨fun h => h.1, fun h => ⟨h, hθ ▸ common_lt _ hw3 hne x h⟩⟩

/-! Non-vacuity: two exact sketches sharing one of three distinct hashes: U = {10,20,30}, I = {20}. -/
def jA : Compact Unit := { theta := MAX_THETA, ents := [(10, ()), (20, ())], isEmpty := false, ordered := true, seedHash := 7 }
def jB : Compact Unit := { theta := MAX_THETA, ents := [(30, ()), (20, ())], isEmpty := false, ordered := false, seedHash := 7 }
def jC : Cfg := { lgNom := 5, lgRf := 3, theta0 := MAX_THETA, lgStart := 6 }
example : (jaccardParts jC 7 jA jB).map (fun p => (keys p.1.ents, keys p.2.ents)) = some ([10, 20, 30], [20]) := by decide +kernel

end DS.Theta
