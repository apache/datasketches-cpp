/- DSModel/Kll/Mech.lean: the `cnt` / `wb` algebra (`weightSum` is `wb` of the always-true predicate); what one `compactCore`
does, to every level (read off its form as two `set`s on `extTop`, defined here) and to `wb` and the sizes (by its recursion
equations); `sumAll` in closed form and as a sum over coin vectors. -/
import DSModel.Kll.Mech
import DSProofs.Lemmas.KllBasic
import DSProofs.Lemmas.KllCT
namespace DS.Mech
open DS DS.Kll DS.SortedView

variable {α : Type}

theorem cnt_nil (p : α → Bool) : cnt p ([] : List α) = 0 := rfl

theorem cnt_cons (p : α → Bool) (x : α) (l : List α) :
    cnt p (x :: l) = (if p x then 1 else 0) + cnt p l := by
  unfold cnt
  rw [List.filter_cons]
  cases p x <;> simp only [if_true, if_false, Bool.false_eq_true, List.length_cons] <;> omega

theorem cnt_append (p : α → Bool) (a b : List α) : cnt p (a ++ b) = cnt p a + cnt p b := by
  unfold cnt; rw [List.filter_append, List.length_append]

theorem cnt_le_length (p : α → Bool) (l : List α) : cnt p l ≤ l.length := List.length_filter_le p l

theorem cnt_perm (p : α → Bool) {a b : List α} (h : a.Perm b) : cnt p a = cnt p b :=
  (h.filter p).length_eq

theorem cnt_true (l : List α) : cnt (fun _ => true) l = l.length := congrArg List.length (List.filter_eq_self.mpr fun _ _ => rfl)

theorem cnt_mergeUp (lt : α → α → Bool) (p : α → Bool) (a b : List α) :
    cnt p (mergeUp lt a b) = cnt p a + cnt p b :=
  (cnt_perm p (mergeUp_perm lt a b)).trans (cnt_append p a b)

theorem cnt_sortBy (lt : α → α → Bool) (p : α → Bool) (l : List α) : cnt p (sortBy lt l) = cnt p l :=
  cnt_perm p (sortBy_perm lt l)

theorem cnt_evens_add_odds (p : α → Bool) (l : List α) : cnt p (evens l) + cnt p (odds l) = cnt p l := by
  rw [← cnt_append, cnt_perm p (evens_append_odds_perm l)]

theorem cnt_halfUpDown (p : α → Bool) (adj : List α) (up : Bool) :
    cnt p (halfUpDown adj up false) + cnt p (halfUpDown adj up true) = cnt p adj := by
  have := cnt_evens_add_odds p adj
  cases up <;> simp only [halfUpDown, halveUp, halveDown, if_true, if_false, Bool.false_eq_true] <;> omega

theorem cnt_leftover_add_adj (lt : α → α → Bool) (p : α → Bool) (srt : Bool) (cur : List α) :
    cnt p (leftoverOf cur) + cnt p (adjOf lt srt cur) = cnt p cur := by
  rw [← cnt_append, cnt_perm p (leftoverOf_append_adjOf_perm lt srt cur)]

theorem halfUpDown_sublist (adj : List α) (up c : Bool) : (halfUpDown adj up c).Sublist adj := by
  unfold halfUpDown
  cases up
  · exact halveDown_sublist adj c
  · exact halveUp_sublist adj c

theorem halfUpDown_length (adj : List α) (up c : Bool) (h : adj.length % 2 = 0) :
    (halfUpDown adj up c).length = adj.length / 2 := by
  unfold halfUpDown
  cases up
  · exact halveDown_length adj c h
  · exact halveUp_length adj c h

theorem adjOf_nil (lt : α → α → Bool) (srt : Bool) : adjOf lt srt [] = [] := by cases srt <;> rfl

theorem halfUpDown_nil (up c : Bool) : halfUpDown ([] : List α) up c = [] := by cases up <;> cases c <;> rfl

theorem sorted_halfUpDown {lt : α → α → Bool} {adj : List α} (up c : Bool) (h : Sorted lt adj) :
    Sorted lt (halfUpDown adj up c) :=
  Sorted.sublist (halfUpDown_sublist adj up c) h

theorem newAbove_eq (lt : α → α → Bool) (srt c : Bool) (cur above : List α) :
    newAbove lt srt c cur above = mergeUp lt (halfUpDown (adjOf lt srt cur) above.isEmpty c) above := rfl

theorem halfUpDown_adjOf_length (lt : α → α → Bool) (srt up c : Bool) (cur : List α) :
    (halfUpDown (adjOf lt srt cur) up c).length = cur.length / 2 := by
  rw [halfUpDown_length _ _ _ (adjOf_length_even lt srt cur), adjOf_length]; exact Nat.div_eq_sub_mod_div.symm

theorem newAbove_length (lt : α → α → Bool) (srt c : Bool) (cur above : List α) :
    (newAbove lt srt c cur above).length = cur.length / 2 + above.length := by
  rw [newAbove_eq, mergeUp_length, halfUpDown_adjOf_length]

theorem wb_append (p : α → Bool) : ∀ (h : Nat) (a b : List (List α)),
    wb p h (a ++ b) = wb p h a + wb p (h + a.length) b
  | h, [], b => (Nat.zero_add _).symm
  | h, l :: t, b => by
    rw [List.cons_append, wb, wb, wb_append p (h + 1) t b, Nat.add_right_comm h 1]; exact (Nat.add_assoc ..).symm

theorem wb_set (p : α → Bool) : ∀ (h : Nat) (L : List (List α)) (i : Nat) (x : List α), i < L.length →
    wb p h (L.set i x) + 2 ^ (h + i) * cnt p (L.getD i []) = wb p h L + 2 ^ (h + i) * cnt p x
  | _, [], _, _, hi => absurd hi (Nat.not_lt_zero _)
  | h, l :: t, 0, x, _ => by
    simp only [List.set_cons_zero, wb, List.getD_cons_zero, Nat.add_zero]
    rw [Nat.add_comm, Nat.add_assoc (2 ^ h * cnt p l), Nat.add_comm (wb p (h + 1) t)]
  | h, l :: t, i + 1, x, hi => by
    have := wb_set p (h + 1) t i x (Nat.lt_of_succ_lt_succ hi)
    rw [show h + 1 + i = h + (i + 1) from Nat.add_right_comm h 1 i] at this
    simp only [List.set_cons_succ, wb, List.getD_cons_succ]
    rw [Nat.add_assoc, Nat.add_assoc, this]

theorem wb_headD_tail (p : α → Bool) (h : Nat) (L : List (List α)) :
    wb p h L = 2 ^ h * cnt p (L.headD []) + wb p (h + 1) L.tail := by
  cases L <;> rfl

theorem wb_true_eq_weightSum : ∀ (h : Nat) (L : List (List α)), wb (fun _ => true) h L = weightSum h L
  | _, [] => rfl
  | h, l :: t => by
    simp only [wb, weightSum, wb_true_eq_weightSum (h + 1) t, cnt_true]

theorem wb_le_weightSum (p : α → Bool) : ∀ (h : Nat) (L : List (List α)), wb p h L ≤ weightSum h L
  | _, [] => Nat.le_refl _
  | h, l :: t => Nat.add_le_add (Nat.mul_le_mul_left _ (cnt_le_length p l)) (wb_le_weightSum p (h + 1) t)

/-- `headD` / `tail`: `push` creates level 0 when there is no level at all -/
theorem wb_push (p : α → Bool) (h : Nat) (x : α) (L : List (List α)) :
    wb p h ((x :: L.headD []) :: L.tail) = wb p h L + 2 ^ h * (if p x then 1 else 0) := by
  rw [wb, cnt_cons, wb_headD_tail p h L, Nat.mul_add]; omega

theorem weightSum_push (h : Nat) (x : α) (L : List (List α)) :
    weightSum h ((x :: L.headD []) :: L.tail) = weightSum h L + 2 ^ h := by
  have := wb_push (fun _ => true) h x L
  rwa [wb_true_eq_weightSum, wb_true_eq_weightSum, if_pos rfl, Nat.mul_one] at this

theorem weightSum_zero_cons (l : List α) (t : List (List α)) : weightSum 0 (l :: t) = l.length + weightSum 1 t := by
  simp [weightSum]

theorem weightSum_succ : ∀ (h : Nat) (L : List (List α)), weightSum (h + 1) L = 2 * weightSum h L
  | _, [] => rfl
  | h, l :: t => by
    simp only [weightSum, weightSum_succ (h + 1) t, Nat.pow_succ, Nat.mul_add]
    rw [Nat.mul_comm (2 ^ h) 2, Nat.mul_assoc]

theorem weightSum_ge_getD : ∀ (h : Nat) (L : List (List α)) (i : Nat), 2 ^ (h + i) * (L.getD i []).length ≤ weightSum h L
  | _, [], i => by rw [List.getD_nil]; exact Nat.le_refl 0
  | h, l :: t, 0 => Nat.le_add_right _ _
  | h, l :: t, i + 1 => by
    have := weightSum_ge_getD (h + 1) t i
    rw [Nat.add_right_comm] at this
    exact Nat.le_trans this (Nat.le_add_left _ _)

theorem wb_zipLevels (lt : α → α → Bool) (p : α → Bool) : ∀ (h : Nat) (a b : List (List α)),
    wb p h (zipLevels lt a b) = wb p h a + wb p h b
  | h, [], b => by simp only [zipLevels, wb, Nat.zero_add]
  | h, x :: a, [] => by simp only [zipLevels, wb, Nat.add_zero]
  | h, x :: a, y :: b => by
    simp only [zipLevels, wb, cnt_mergeUp, wb_zipLevels lt p (h + 1) a b, Nat.mul_add]; omega

theorem weightSum_zipLevels (lt : α → α → Bool) (h : Nat) (a b : List (List α)) :
    weightSum h (zipLevels lt a b) = weightSum h a + weightSum h b := by
  simp only [← wb_true_eq_weightSum, wb_zipLevels]

/-- the `let L'` of `compactCore`: an empty top level is added when level `i` is the top one -/
def extTop (L : List (List α)) (i : Nat) : List (List α) := if i + 1 == L.length then L ++ [[]] else L

theorem extTop_length (L : List (List α)) (i : Nat) :
    (extTop L i).length = if i + 1 == L.length then L.length + 1 else L.length := by
  unfold extTop
  split
  · simp only [List.length_append, List.length_cons, List.length_nil]
  · rfl

theorem lt_extTop_length (L : List (List α)) (i : Nat) (hi : i < L.length) : i + 1 < (extTop L i).length := by
  unfold extTop
  split
  · rw [List.length_append]; exact Nat.succ_lt_succ hi
  · rename_i h; exact Nat.lt_of_le_of_ne hi (mt beq_iff_eq.mpr h)

theorem getD_extTop (L : List (List α)) (i j : Nat) : (extTop L i).getD j [] = L.getD j [] := by
  unfold extTop
  split
  · exact getD_append_singleton_default [] L j
  · rfl

theorem wb_extTop (p : α → Bool) (h : Nat) (L : List (List α)) (i : Nat) : wb p h (extTop L i) = wb p h L := by
  unfold extTop
  split
  · rw [wb_append]; rfl
  · rfl

theorem sizeSum_extTop (L : List (List α)) (i : Nat) : sizeSum (extTop L i) = sizeSum L := by
  unfold extTop
  split
  · rw [sizeSum_append]; rfl
  · rfl

theorem compactCore_eq (lt : α → α → Bool) (L : List (List α)) (i : Nat) (srt up c : Bool) :
    compactCore lt L i srt up c
      = ((extTop L i).set i (leftoverOf (L.getD i []))).set (i + 1)
          (mergeUp lt (halfUpDown (adjOf lt srt (L.getD i [])) up c) (L.getD (i + 1) [])) := by
  rw [← getD_extTop L i i, ← getD_extTop L i (i + 1)]; rfl

theorem compactAt_extTop (lt : α → α → Bool) (srt c : Bool) (i : Nat) (L : List (List α)) :
    compactAt lt srt c i (extTop L i) = compactCore lt L i srt ((extTop L i).getD (i + 1) []).isEmpty c := rfl

theorem compactAt_eq (lt : α → α → Bool) (srt c : Bool) (i : Nat) (L : List (List α)) (h : i + 1 < L.length) :
    compactAt lt srt c i L = compactCore lt L i srt (L.getD (i + 1) []).isEmpty c := by
  have e : extTop L i = L := if_neg (by rw [beq_iff_eq]; omega)
  have := compactAt_extTop lt srt c i L
  rwa [e] at this

theorem compactCore_length (lt : α → α → Bool) (L : List (List α)) (i : Nat) (srt up c : Bool) :
    (compactCore lt L i srt up c).length = lenAfter L.length (MOp.compact i srt up : MOp α) := by
  rw [compactCore_eq]
  simp only [List.length_set, extTop_length, lenAfter]

theorem getD_compactCore_self (lt : α → α → Bool) (srt up c : Bool) {L : List (List α)} {i : Nat} (hi : i < L.length) :
    (compactCore lt L i srt up c).getD i [] = leftoverOf (L.getD i []) := by
  have := lt_extTop_length L i hi
  rw [compactCore_eq, getD_set_ne _ _ _ _ (by omega), getD_set_eq _ _ _ (by omega)]

theorem getD_compactCore_succ (lt : α → α → Bool) (srt up c : Bool) {L : List (List α)} {i : Nat} (hi : i < L.length) :
    (compactCore lt L i srt up c).getD (i + 1) []
      = mergeUp lt (halfUpDown (adjOf lt srt (L.getD i [])) up c) (L.getD (i + 1) []) := by
  rw [compactCore_eq, getD_set_eq _ _ _ (by rw [List.length_set]; exact lt_extTop_length L i hi)]

theorem getD_compactCore_ne (lt : α → α → Bool) (srt up c : Bool) (L : List (List α)) {i j : Nat} (h1 : j ≠ i)
    (h2 : j ≠ i + 1) : (compactCore lt L i srt up c).getD j [] = L.getD j [] := by
  rw [compactCore_eq, getD_set_ne _ _ _ _ h2, getD_set_ne _ _ _ _ h1, getD_extTop]

theorem le_compactCore_length (lt : α → α → Bool) (L : List (List α)) (i : Nat) (srt up c : Bool) :
    L.length ≤ (compactCore lt L i srt up c).length := by
  rw [compactCore_length]; simp only [lenAfter]; split <;> omega

/-- no coin on the right-hand side -/
theorem compactCore_map_length (lt : α → α → Bool) (L : List (List α)) (i : Nat) (srt up c : Bool) :
    (compactCore lt L i srt up c).map List.length
      = (((extTop L i).map List.length).set i ((L.getD i []).length % 2)).set (i + 1)
          ((L.getD i []).length / 2 + (L.getD (i + 1) []).length) := by
  rw [compactCore_eq, List.map_set, List.map_set, leftoverOf_length, mergeUp_length, halfUpDown_adjOf_length]

theorem compactCore_nil (lt : α → α → Bool) (i : Nat) (srt up c : Bool) : compactCore lt [] i srt up c = [] := rfl

theorem compactCore_zero (lt : α → α → Bool) (cur : List α) (rest : List (List α)) (srt up c : Bool) :
    compactCore lt (cur :: rest) 0 srt up c
      = leftoverOf cur :: mergeUp lt (halfUpDown (adjOf lt srt cur) up c) (rest.headD []) :: rest.tail := by
  cases rest <;> rfl

theorem compactCore_cons (lt : α → α → Bool) (l : List α) (L : List (List α)) (i : Nat) (srt up c : Bool) :
    compactCore lt (l :: L) (i + 1) srt up c = l :: compactCore lt L i srt up c := by
  simp only [compactCore, List.length_cons, beq_iff_eq, Nat.add_right_cancel_iff]
  split <;> rfl

theorem compactCore_of_ge (lt : α → α → Bool) (srt up c : Bool) : ∀ (L : List (List α)) (i : Nat), L.length ≤ i →
    compactCore lt L i srt up c = L
  | [], _, _ => rfl
  | _ :: _, 0, h => absurd h (Nat.not_succ_le_zero _)
  | l :: L, i + 1, h => by rw [compactCore_cons, compactCore_of_ge lt srt up c L i (Nat.le_of_succ_le_succ h)]

theorem compactCore_append (lt : α → α → Bool) (srt up c : Bool) (cur : List α) (rest : List (List α)) :
    ∀ pre : List (List α), compactCore lt (pre ++ cur :: rest) pre.length srt up c
      = pre ++ leftoverOf cur :: mergeUp lt (halfUpDown (adjOf lt srt cur) up c) (rest.headD []) :: rest.tail
  | [] => compactCore_zero lt cur rest srt up c
  | p :: ps => by
    rw [List.cons_append, List.length_cons, compactCore_cons, compactCore_append lt srt up c cur rest ps]; rfl

/-- the even rest of level `i` leaves it and one half of it arrives, with doubled weight, at level `i + 1`; no
`i < L.length`: a level that does not exist has an empty even rest -/
theorem wb_compactCore (lt : α → α → Bool) (p : α → Bool) (srt up c : Bool) : ∀ (h : Nat) (L : List (List α)) (i : Nat),
    wb p h (compactCore lt L i srt up c) + 2 ^ (h + i) * cnt p (adjOf lt srt (L.getD i []))
      = wb p h L + 2 * (2 ^ (h + i) * cnt p (halfUpDown (adjOf lt srt (L.getD i [])) up c))
  | h, [], i => by rw [List.getD_nil, adjOf_nil, halfUpDown_nil]; rfl
  | h, cur :: rest, 0 => by
    rw [compactCore_zero, List.getD_cons_zero, Nat.add_zero]
    simp only [wb, cnt_mergeUp, ← cnt_leftover_add_adj lt p srt cur, wb_headD_tail p (h + 1) rest, Nat.pow_succ',
      Nat.mul_assoc, Nat.mul_add]
    omega
  | h, l :: L, i + 1 => by
    have := wb_compactCore lt p srt up c (h + 1) L i
    rw [show h + 1 + i = h + (i + 1) from Nat.add_right_comm h 1 i] at this
    simp only [compactCore_cons, wb, List.getD_cons_succ]
    rw [Nat.add_assoc, Nat.add_assoc, this]

theorem compactCore_balanced (lt : α → α → Bool) (p : α → Bool) (h : Nat) (L : List (List α)) (i : Nat) (srt up : Bool) :
    wb p h (compactCore lt L i srt up false) + wb p h (compactCore lt L i srt up true) = 2 * wb p h L := by
  have hf := wb_compactCore lt p srt up false h L i
  have ht := wb_compactCore lt p srt up true h L i
  rw [← cnt_halfUpDown p (adjOf lt srt (L.getD i [])) up, Nat.mul_add] at hf ht
  omega

theorem weightSum_compactCore (lt : α → α → Bool) (h : Nat) (L : List (List α)) (i : Nat)
    (srt up c : Bool) (hi : i < L.length) :
    weightSum h (compactCore lt L i srt up c) = weightSum h L := by
  -- `hi` is not used: see `wb_compactCore`
  have := wb_compactCore lt (fun _ => true) srt up c h L i
  have he := adjOf_length_even lt srt (L.getD i [])
  rw [wb_true_eq_weightSum, wb_true_eq_weightSum, cnt_true, cnt_true, halfUpDown_length _ _ _ he, Nat.mul_left_comm,
    Nat.mul_div_cancel' (Nat.dvd_of_mod_eq_zero he)] at this
  exact Nat.add_right_cancel this

theorem sizeSum_compactCore (lt : α → α → Bool) (srt up c : Bool) : ∀ (L : List (List α)) (i : Nat),
    sizeSum (compactCore lt L i srt up c) + (L.getD i []).length / 2 = sizeSum L
  | [], i => by rw [List.getD_nil, List.length_nil, Nat.zero_div]; rfl
  | cur :: rest, 0 => by
    simp only [compactCore_zero, sizeSum, leftoverOf_length, mergeUp_length, halfUpDown_adjOf_length,
      sizeSum_headD_tail rest, List.getD_cons_zero]
    omega
  | l :: L, i + 1 => by
    have := sizeSum_compactCore lt srt up c L i
    simp only [compactCore_cons, sizeSum, List.getD_cons_succ]
    rw [Nat.add_assoc, this]

theorem sumAll_snd (lt : α → α → Bool) (p : α → Bool) :
    ∀ (ops : List (MOp α)) (L : List (List α)), (sumAll lt p L ops).2 = 2 ^ flips ops
  | [], _ => rfl
  | .add x :: ops, L => by
    simp only [sumAll, flips]; exact sumAll_snd lt p ops _
  | .compact i srt up :: ops, L => by
    simp only [sumAll, flips, sumAll_snd lt p ops, Nat.pow_succ]; omega

theorem sumAll_fst_eq_sum (lt : α → α → Bool) (p : α → Bool) :
    ∀ (ops : List (MOp α)) (L : List (List α)),
      (sumAll lt p L ops).1 = ((allVecs (flips ops)).map (fun cs => wb p 0 (mrun lt L ops cs))).sum
  | [], L => by
    simp only [sumAll, flips, allVecs, mrun, List.map_cons, List.map_nil, List.sum_cons, List.sum_nil,
      Nat.add_zero]
  | .add x :: ops, L => by
    simp only [sumAll, flips, mrun]; exact sumAll_fst_eq_sum lt p ops _
  | .compact i srt up :: ops, L => by
    simp only [sumAll, flips, allVecs, List.map_append, List.sum_append, List.map_map]
    rw [sumAll_fst_eq_sum lt p ops, sumAll_fst_eq_sum lt p ops]
    rfl

/-- validity of the schedule is not needed: an operation on a level that does not exist changes nothing -/
theorem sumAll_fst (lt : α → α → Bool) (p : α → Bool) :
    ∀ (ops : List (MOp α)) (L : List (List α)), (sumAll lt p L ops).1 = 2 ^ flips ops * (wb p 0 L + addedBelow p ops)
  | [], L => by rw [sumAll, flips, addedBelow, Nat.pow_zero, Nat.one_mul, Nat.add_zero]
  | .add x :: ops, L => by
    rw [sumAll, sumAll_fst lt p ops, mstep, wb_push, Nat.pow_zero, Nat.one_mul, flips, addedBelow, Nat.add_assoc]
  | .compact i srt up :: ops, L => by
    simp only [sumAll, flips, addedBelow, mstep]
    rw [sumAll_fst lt p ops, sumAll_fst lt p ops, ← Nat.mul_add, Nat.add_add_add_comm, compactCore_balanced,
      ← Nat.two_mul, ← Nat.mul_add, Nat.pow_succ, Nat.mul_assoc]

end DS.Mech
