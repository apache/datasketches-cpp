/- C06: the approximations of binomial_bounds.hpp are monotone in the number of standard deviations, branch by branch: two runs of
   the same `if` chain compared by `ite_rel`, results that may be missing by `optLE`. -/
import DSProofs.Lemmas.BoundsBinomial
namespace DS.Bounds
set_option linter.unusedSectionVars false

variable {K : Type} [Field K] [LinearOrder K] [IsStrictOrderedRing K] (F : MathFns K)

/-- rows n = 1..120 of an equivalence table of binomial_bounds.hpp (the code reads no other row: n = 0 and n > 120 branch off before) -/
def EquivRowsOK (K : Type) [Field K] [LinearOrder K] [IsStrictOrderedRing K] (t : List Lit) : Prop :=
  ∀ n k, 1 ≤ n → n ≤ 120 → 1 ≤ k → k < 3 →
    (0 : K) ≤ litK (t.getD (3 * n + (k - 1)) (0, 0, 1)) ∧
    (litK (t.getD (3 * n + (k - 1)) (0, 0, 1)) : K) ≤ litK (t.getD (3 * n + k) (0, 0, 1))

/-- what the monotonicity proof needs of the three tables of binomial_bounds.hpp (discharged for the generated tables by
    DSProofs/Gen/BoundsTables.lean through DSProofs/Lemmas/BoundsTablesFacts.lean) -/
structure BinomTablesOK (K : Type) [Field K] [LinearOrder K] [IsStrictOrderedRing K] (T : BinomTables) : Prop where
  delta_pos : ∀ k, 1 ≤ k → k ≤ 3 → (0 : K) < litK (T.delta.getD k (0, 0, 1)) ∧ (litK (T.delta.getD k (0, 0, 1)) : K) < 1
  delta_dec : ∀ k, 1 ≤ k → k < 3 → (litK (T.delta.getD (k + 1) (0, 0, 1)) : K) < litK (T.delta.getD k (0, 0, 1))
  lb_row : EquivRowsOK K T.lbEquiv
  ub_row : EquivRowsOK K T.ubEquiv

theorem log_one_sub_neg (hF : F.OK) (θ : K) (h0 : 0 < θ) (h1 : θ < 1) : F.log (1 - θ) < 0 := by
  have := hF.log_lt (1 - θ) 1 (sub_pos.2 h1) (sub_lt_self 1 h0)
  rwa [hF.log_one] at this

/-- two runs of the same `if` chain are related branch by branch (`R` is given explicitly: it cannot be inferred from the goal) -/
theorem ite_rel {α β : Sort _} (R : α → β → Prop) {c : Prop} [Decidable c] {x x' : α} {y y' : β}
    (h : c → R x y) (h' : ¬c → R x' y') : R (if c then x else x') (if c then y else y') := by
  split
  · exact h ‹_›
  · exact h' ‹_›

def optLE {α : Type} [LE α] (x y : Option α) : Prop := ∀ a b, x = some a → y = some b → a ≤ b

theorem optLE_some {α : Type} [LE α] {a b : α} (h : a ≤ b) : optLE (some a) (some b) :=
  fun _ _ ha hb => Option.some.inj ha ▸ Option.some.inj hb ▸ h

theorem optLE_none {α : Type} [LE α] (y : Option α) : optLE none y := fun _ _ ha => nomatch ha

theorem optLE_map {α β : Type} [LE α] [LE β] {f : α → β} (hf : ∀ a b, a ≤ b → f a ≤ f b) {x y : Option α} (h : optLE x y) :
    optLE (x.map f) (y.map f) := by
  intro a b ha hb
  obtain ⟨m, hm, rfl⟩ := Option.map_eq_some_iff.1 ha
  obtain ⟨m', hm', rfl⟩ := Option.map_eq_some_iff.1 hb
  exact hf _ _ (h m m' hm hm')

def optSame {α : Type} (x y : Option α) : Prop := x.isSome = y.isSome

theorem specialNStar_isSome (n : Nat) (p δ δ' : K) :
    (@specialNStar K (fieldNum F) n p δ).isSome = (@specialNStar K (fieldNum F) n p δ').isSome :=
  ite_rel optSame (fun _ => rfl) fun _ => ite_rel optSame (fun _ => rfl) fun _ =>
    -- not `rfl`: the kernel compares the two arguments of `isSome` before it reduces `isSome (some _)`, and so starts
    -- unfolding the loops with their 10⁶ fuel
    Option.isSome_some.trans Option.isSome_some.symm

theorem specialNPrimeF_isSome (n : Nat) (p δ δ' : K) :
    (@specialNPrimeF K (fieldNum F) n p δ).isSome = (@specialNPrimeF K (fieldNum F) n p δ').isSome :=
  ite_rel optSame (fun _ => rfl) fun _ => ite_rel optSame (fun _ => rfl) fun _ =>
    Option.isSome_some.trans Option.isSome_some.symm

theorem specialNStar_mono (n : Nat) (p δ δ' : K) (hδ : δ' ≤ δ) :
    optLE (@specialNStar K (fieldNum F) n p δ') (@specialNStar K (fieldNum F) n p δ) :=
  ite_rel optLE (fun _ => optLE_none _) fun _ => ite_rel optLE (fun _ => optLE_none _) fun _ =>
    optLE_some (nStarLoop_mono F _ δ δ' hδ n _ _ _ _).2

theorem specialNPrimeF_mono (n : Nat) (p δ δ' : K) (hδ : δ' ≤ δ) :
    optLE (@specialNPrimeF K (fieldNum F) n p δ) (@specialNPrimeF K (fieldNum F) n p δ') :=
  ite_rel optLE (fun _ => optLE_none _) fun _ => ite_rel optLE (fun _ => optLE_none _) fun _ =>
    optLE_some (nPrimeBLoop_mono F _ _ _ (sub_le_sub_left hδ _) (n + 1) _ _ _ _).2

/-- The `ite_rel optLE` steps follow the `if` chain of compute_approx_binomial_lower_bound in order: θ = 1, n = 0, n = 1 (log formula),
    n > 120 (Gaussian), θ > 1 − 10⁻⁵, θ < n/360 (Gaussian with the equivalence table), else the exact tail. -/
theorem approxLb_antitone (hF : F.OK) (T : BinomTables) (hT : BinomTablesOK K T) (n : Nat) (θ : K) (h0 : 0 < θ) (h1 : θ ≤ 1)
    (k : Nat) (hk1 : 1 ≤ k) (hk3 : k < 3) :
    optLE (@approxLb K (fieldNum F) T n θ (k + 1)) (@approxLb K (fieldNum F) T n θ k) := by
  have hd := hT.delta_dec k hk1 hk3
  unfold approxLb
  simp only [nat_eq, lit_eq, tget_eq, litK_c1, litK_c0_5, Nat.cast_one]
  refine ite_rel optLE (fun _ => optLE_some le_rfl) fun c1 => ?_
  have hθ1 : θ < 1 := lt_of_le_of_ne h1 fun e => c1 (decide_eq_true e)
  refine ite_rel optLE (fun _ => optLE_some le_rfl) fun c2 => ?_
  refine ite_rel optLE (fun _ => optLE_some ?_) fun c3 => ?_
  · obtain ⟨_, q1⟩ := hT.delta_pos k hk1 (by omega)
    exact hF.floor_mono _ _ (div_le_div_of_nonpos_of_le (log_one_sub_neg F hF θ h0 hθ1).le
      (hF.log_lt _ _ (sub_pos.2 q1) (sub_lt_sub_left hd 1)).le)
  refine ite_rel optLE (fun c4 => optLE_some ?_) fun c4 => ?_
  · exact sub_le_sub_right (contClassicLb_antitone F hF n (by omega) θ h0 (k : K) ((k + 1 : Nat) : K) k.cast_nonneg (Nat.cast_le.2 k.le_succ)) _
  refine ite_rel optLE (fun _ => optLE_some le_rfl) fun c5 => ?_
  refine ite_rel optLE (fun _ => optLE_some ?_) fun c6 => ?_
  · obtain ⟨p1, p2⟩ := hT.lb_row n k (by omega) (by omega) hk1 hk3
    exact sub_le_sub_right (contClassicLb_antitone F hF n (by omega) θ h0 _ _ p1 p2) _
  · exact optLE_map (fun _ _ => Nat.cast_le.2) (specialNStar_mono F n θ _ _ hd.le)

/-- Same walk along compute_approx_binomial_upper_bound: θ = 1, n = 0 (log formula), n > 120, θ > 1 − 10⁻⁵, θ < n/360, else the
    exact tail. -/
theorem approxUb_monotone (hF : F.OK) (T : BinomTables) (hT : BinomTablesOK K T) (n : Nat) (θ : K) (h0 : 0 < θ) (h1 : θ ≤ 1)
    (k : Nat) (hk1 : 1 ≤ k) (hk3 : k < 3) :
    optLE (@approxUb K (fieldNum F) T n θ k) (@approxUb K (fieldNum F) T n θ (k + 1)) := by
  have hd := hT.delta_dec k hk1 hk3
  unfold approxUb
  simp only [nat_eq, lit_eq, tget_eq, litK_c1, litK_c0_5, Nat.cast_one]
  refine ite_rel optLE (fun _ => optLE_some le_rfl) fun c1 => ?_
  have hθ1 : θ < 1 := lt_of_le_of_ne h1 fun e => c1 (decide_eq_true e)
  refine ite_rel optLE (fun _ => optLE_some ?_) fun c2 => ?_
  · obtain ⟨p2, _⟩ := hT.delta_pos (k + 1) (by omega) (by omega)
    exact hF.ceil_mono _ _ (div_le_div_of_nonpos_of_le (log_one_sub_neg F hF θ h0 hθ1).le (hF.log_lt _ _ p2 hd).le)
  refine ite_rel optLE (fun c4 => optLE_some ?_) fun c4 => ?_
  · exact add_le_add_left (contClassicUb_monotone F hF n θ h0 (k : K) ((k + 1 : Nat) : K) k.cast_nonneg (Nat.cast_le.2 k.le_succ)) _
  refine ite_rel optLE (fun _ => optLE_some le_rfl) fun c5 => ?_
  refine ite_rel optLE (fun _ => optLE_some ?_) fun c6 => ?_
  · obtain ⟨p1, p2⟩ := hT.ub_row n k (by omega) (by omega) hk1 hk3
    exact add_le_add_left (contClassicUb_monotone F hF n θ h0 _ _ p1 p2) _
  · exact optLE_map (fun _ _ => Nat.cast_le.2) (specialNPrimeF_mono F n θ _ _ hd.le)

theorem approxLb_isSome (T : BinomTables) (n : Nat) (θ : K) (k k' : Nat) :
    (@approxLb K (fieldNum F) T n θ k).isSome = (@approxLb K (fieldNum F) T n θ k').isSome := by
  unfold approxLb
  simp only [apply_ite Option.isSome, Option.isSome_some, Option.isSome_map]
  rw [specialNStar_isSome F n θ _ (@tget K (fieldNum F) T.delta k')]

theorem approxUb_isSome (T : BinomTables) (n : Nat) (θ : K) (k k' : Nat) :
    (@approxUb K (fieldNum F) T n θ k).isSome = (@approxUb K (fieldNum F) T n θ k').isSome := by
  unfold approxUb
  simp only [apply_ite Option.isSome, Option.isSome_some, Option.isSome_map]
  rw [specialNPrimeF_isSome F n θ _ (@tget K (fieldNum F) T.delta k')]

end DS.Bounds
