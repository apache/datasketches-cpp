/- Stepping through a table of `2^lg` slots with an odd stride: the first `2^lg` positions are pairwise different.
   The probe sequence of the theta table (ThetaTable) and the iterator of the frequent-items map (LifeFiIter) both
   walk this way. Core Lean only. -/
namespace DS

theorem pow2_dvd_of_odd {str : Nat} (hodd : str % 2 = 1) (lg d : Nat) (hd : 2 ^ lg ∣ d * str) : 2 ^ lg ∣ d :=
  have h2 : Nat.Coprime 2 str := by rw [Nat.coprime_iff_gcd_eq_one, Nat.gcd_rec, hodd]; exact Nat.gcd_one_left 2
  (h2.pow_left lg).dvd_of_dvd_mul_right hd

theorem odd_stride_inj {str : Nat} (hodd : str % 2 = 1) (i0 lg : Nat) {t1 t2 : Nat} (h1 : t1 < t2) (h2 : t2 < 2 ^ lg) :
    (i0 + t1 * str) % 2 ^ lg ≠ (i0 + t2 * str) % 2 ^ lg := by
  intro e
  have hz := Nat.sub_mod_eq_zero_of_mod_eq e.symm
  have hsub : i0 + t2 * str - (i0 + t1 * str) = (t2 - t1) * str := by
    rw [Nat.sub_mul, Nat.add_sub_add_left]
  rw [hsub] at hz
  have hle := Nat.le_of_dvd (Nat.sub_pos_of_lt h1) (pow2_dvd_of_odd hodd lg (t2 - t1) (Nat.dvd_of_mod_eq_zero hz))
  exact Nat.lt_irrefl _ (Nat.lt_of_le_of_lt (Nat.le_trans hle (Nat.sub_le t2 t1)) h2)

end DS
