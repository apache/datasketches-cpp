/- C19, theta/tuple hash table: the bookkeeping invariant of the table block, and the steps its programs are made of. -/
import DSModel.Life.Theta
import DSProofs.Lemmas.LifeView
namespace DS.Life.Theta
open DS.Life

def SlotOK (h : Heap) (b i : Nat) : Prop :=
  (wordAt h b i = 0 ∧ stAt h b i = .raw) ∨ (wordAt h b i ≠ 0 ∧ ∃ v, stAt h b i = .live v)

structure SlotsOK (h : Heap) (b size : Nat) : Prop where
  cells : HasCells h b size
  lt : b < h.next
  ok : ∀ i, i < size → SlotOK h b i

def Distinct (h : Heap) (b size : Nat) : Prop :=
  ∀ p q, p < size → q < size → wordAt h b p = wordAt h b q → wordAt h b p ≠ 0 → p = q

/-- the probe sequence of `find` -/
def probe (P : Params) (lg key : Nat) : Nat → Nat
  | 0 => key % 2 ^ lg
  | j + 1 => (probe P lg key j + stride P key lg) % 2 ^ lg

theorem probe_lt (P : Params) (lg key j : Nat) : probe P lg key j < 2 ^ lg := by
  cases j <;> exact Nat.mod_lt _ (Nat.pow_pos (Nat.succ_pos 1))

def PathTo (P : Params) (h : Heap) (b lg key p : Nat) : Prop :=
  ∃ j, probe P lg key j = p ∧ ∀ j', j' < j → wordAt h b (probe P lg key j') ≠ 0 ∧ wordAt h b (probe P lg key j') ≠ key

/-- every stored key is found by `find` -/
def PathInv (P : Params) (h : Heap) (b lg : Nat) : Prop :=
  ∀ p, p < 2 ^ lg → wordAt h b p ≠ 0 → PathTo P h b lg (wordAt h b p) p

/-- slot `i` holds a key (what `num_entries_` counts) -/
def nz (h : Heap) (b : Nat) : Nat → Bool := fun i => wordAt h b i != 0

theorem PathInv.distinct {P : Params} {h : Heap} {b lg : Nat} (hp : PathInv P h b lg) : Distinct h b (2 ^ lg) := by
  intro p q hpl hql heq hne
  obtain ⟨jp, ejp, hjp⟩ := hp p hpl hne
  obtain ⟨jq, ejq, hjq⟩ := hp q hql (heq ▸ hne)
  rw [← heq] at ejq hjq
  -- both are the first step at which the probe path of the key meets the key
  rw [← ejp, ← ejq, Nat.le_antisymm (Nat.le_of_not_lt fun hlt => (hjp jq hlt).2 ((congrArg _ ejq).trans heq.symm))
    (Nat.le_of_not_lt fun hlt => (hjq jp hlt).2 (congrArg _ ejp))]

/-- the bookkeeping invariant of the table block `b` of lg size `lg` holding `num` entries -/
structure TableAt (P : Params) (h : Heap) (b lg num : Nat) : Prop where
  slots : SlotsOK h b (2 ^ lg)
  path : PathInv P h b lg
  count : num = cnt (nz h b) (2 ^ lg)

/-- invariant of a table object (nothing is owned when `entries_ == nullptr`) -/
def TableInv (P : Params) (h : Heap) (t : Table) : Prop :=
  match t.entries with
  | none => True
  | some b => TableAt P h b t.lgCur t.num

theorem SlotsOK.cellAt {h : Heap} {b size i : Nat} (hs : SlotsOK h b size) (hi : i < size) :
    ∃ c, h.cell? b i = some c ∧ c.word = wordAt h b i ∧ c.st = stAt h b i := hs.cells.cell_st hi

theorem SlotOK.live_of_ne {h : Heap} {b i : Nat} (ok : SlotOK h b i) (hk : wordAt h b i ≠ 0) : ∃ v, stAt h b i = .live v :=
  ok.elim (fun x => absurd x.1 hk) (fun x => x.2)

theorem SlotOK.raw_of_eq {h : Heap} {b i : Nat} (ok : SlotOK h b i) (hk : wordAt h b i = 0) : stAt h b i = .raw :=
  ok.elim (fun x => x.2) (fun x => absurd hk x.1)

theorem SlotOK.live_or_raw {h : Heap} {b i : Nat} (ok : SlotOK h b i) : (∃ v, stAt h b i = .live v) ∨ stAt h b i = .raw :=
  ok.elim (fun x => Or.inr x.2) (fun x => Or.inl x.2)

theorem SlotOK.of_views {h h' : Heap} {b b' i i' : Nat} (hw : wordAt h' b' i' = wordAt h b i)
    (hs : stAt h' b' i' = stAt h b i) (ok : SlotOK h b i) : SlotOK h' b' i' := by
  unfold SlotOK at *
  rw [hw, hs]; exact ok

theorem vstep_ifKey {β} {S} {h : Heap} {b i n : Nat} {A : Nat → M β} {B : M β} {Q : β → Heap → Prop}
    (hc : HasCells h b n) (hi : i < n) (ok : SlotOK h b i)
    (sA : ∀ v, wordAt h b i ≠ 0 → stAt h b i = .live v → SafeF S h (A (wordAt h b i) h) Q)
    (sB : wordAt h b i = 0 → stAt h b i = .raw → SafeF S h (B h) Q) :
    SafeF S h ((readWord b i >>= fun k => if k ≠ 0 then A k else B) h) Q := by
  apply vstep_readWord hc hi
  rcases ok with ⟨hk, hr⟩ | ⟨hk, v, hv⟩
  · rw [if_neg (not_not_intro hk)]
    exact sB hk hr
  · rw [if_pos hk]
    exact sA v hk hv

theorem TableAt.empty (P : Params) {h : Heap} {b lg : Nat} (hc : HasCells h b (2 ^ lg)) (hlt : b < h.next)
    (hz : ∀ i, i < 2 ^ lg → stAt h b i = .raw ∧ wordAt h b i = 0) : TableAt P h b lg 0 :=
  ⟨⟨hc, hlt, fun i hi => Or.inl ⟨(hz i hi).2, (hz i hi).1⟩⟩, fun p hp hne => absurd (hz p hp).2 hne,
    (cnt_zero_of_all_false fun i hi => by simp [nz, (hz i hi).2]).symm⟩

def FindPost (P : Params) (h : Heap) (b lg key : Nat) (r : Nat × Bool) : Prop :=
  r.1 < 2 ^ lg ∧ ((r.2 = true ∧ wordAt h b r.1 = key) ∨ (r.2 = false ∧ wordAt h b r.1 = 0 ∧ PathTo P h b lg key r.1))

theorem findLoop_spec (P : Params) (S : Nat → Bool) (b lg key : Nat) (h0 : Heap) (hc : HasCells h0 b (2 ^ lg)) :
    ∀ fuel j, (∀ j', j' < j → wordAt h0 b (probe P lg key j') ≠ 0 ∧ wordAt h0 b (probe P lg key j') ≠ key) →
      SafeF S h0 (findLoop b (2 ^ lg) (stride P key lg) key fuel (probe P lg key j) h0)
        (fun r h => h = h0 ∧ FindPost P h0 b lg key r) := by
  intro fuel
  induction fuel with
  | zero => exact fun j _ => SafeF.exc _
  | succ f ih =>
    intro j hj
    unfold findLoop
    apply vstep_readWord hc (probe_lt P lg key j)
    by_cases h0w : wordAt h0 b (probe P lg key j) = 0
    · rw [if_pos h0w]
      exact SafeF.pure ⟨rfl, probe_lt P lg key j, Or.inr ⟨rfl, h0w, j, rfl, hj⟩⟩
    · rw [if_neg h0w]
      by_cases hkw : wordAt h0 b (probe P lg key j) = key
      · rw [if_pos hkw]
        exact SafeF.pure ⟨rfl, probe_lt P lg key j, Or.inl ⟨rfl, hkw⟩⟩
      · rw [if_neg hkw]
        exact ih (j + 1) fun j' hj' => (Nat.lt_succ_iff_lt_or_eq.mp hj').elim (hj j') (· ▸ ⟨h0w, hkw⟩)

theorem vstep_find {β} {P : Params} {S : Nat → Bool} {h : Heap} {b lg key : Nat} {f : Nat × Bool → M β} {Q : β → Heap → Prop}
    (hc : HasCells h b (2 ^ lg)) (s : ∀ r, FindPost P h b lg key r → SafeF S h (f r h) Q) :
    SafeF S h ((find P b lg key >>= f) h) Q :=
  SafeF.bind (m := find P b lg key) (findLoop_spec P S b lg key h hc (2 ^ lg) 0 nofun) fun r _ ⟨e, fp⟩ _ => e ▸ s r fp

theorem vstep_constructEntry {β} {S} {h : Heap} {b i n : Nat} (key v : Nat) {f : Unit → M β} {Q : β → Heap → Prop}
    (hc : HasCells h b n) (hi : i < n) (hr : stAt h b i = .raw) (hS : S b = true)
    (s : ∀ h', SameBut h h' (fun b' j => b' = b ∧ j = i) → wordAt h' b i = key → stAt h' b i = .live v →
          SafeF S h' (f () h') Q) :
    SafeF S h ((constructEntry b i key v >>= f) h) Q := by
  unfold constructEntry
  simp only [M.bind_assoc]
  apply vstep_construct v hc hi hr hS
  intro h1 sb1 _ hst1
  apply vstep_writeWord key (sb1.cells _ _ hc) hi hS
  exact fun h2 sb2 hw2 hst2 => s h2 (sb1.trans sb2 (fun _ _ => id) fun _ _ => id) hw2 (hst2.trans hst1)

theorem vstep_copyConstructEntry {β} {S} {h : Heap} {sb si sn db di dn v : Nat} {f : Unit → M β} {Q : β → Heap → Prop}
    (hcs : HasCells h sb sn) (hsi : si < sn) (hl : stAt h sb si = .live v)
    (hcd : HasCells h db dn) (hdi : di < dn) (hr : stAt h db di = .raw) (hS : S db = true)
    (s : ∀ h', SameBut h h' (fun b' j => b' = db ∧ j = di) → wordAt h' db di = wordAt h sb si → stAt h' db di = .live v →
          SafeF S h' (f () h') Q) :
    SafeF S h ((copyConstructEntry sb si db di >>= f) h) Q := by
  unfold copyConstructEntry
  rw [M.bind_assoc]
  apply vstep_read hcs hsi hl
  rw [M.bind_assoc]
  apply vstep_readWord hcs hsi
  exact vstep_constructEntry _ v hcd hdi hr hS s

/-- `new (&dst) EN(std::move(src)); src.~EN();` -/
theorem vstep_moveEntry {β} {S} {h : Heap} {sb si sn db di dn v : Nat} {f : Unit → M β} {Q : β → Heap → Prop}
    (hcs : HasCells h sb sn) (hsi : si < sn) (hl : stAt h sb si = .live v)
    (hcd : HasCells h db dn) (hdi : di < dn) (hr : stAt h db di = .raw)
    (hSs : S sb = true) (hSd : S db = true)
    (s : ∀ h', SameBut h h' (fun b' j => (b' = sb ∧ j = si) ∨ (b' = db ∧ j = di)) →
          wordAt h' db di = wordAt h sb si → stAt h' db di = .live v →
          wordAt h' sb si = wordAt h sb si → stAt h' sb si = .raw → SafeF S h' (f () h') Q) :
    SafeF S h ((moveConstructEntry sb si db di >>= fun _ => destroy sb si >>= f) h) Q := by
  have hne : ¬ (db = sb ∧ di = si) := by
    rintro ⟨rfl, rfl⟩
    rw [hl] at hr; cases hr
  have hne' : ¬ (sb = db ∧ si = di) := fun x => hne ⟨x.1.symm, x.2.symm⟩
  unfold moveConstructEntry
  rw [M.bind_assoc]
  apply vstep_moveFrom hcs hsi hl hSs
  intro h1 sb1 hw1 hst1
  rw [M.bind_assoc]
  apply vstep_readWord (sb1.cells _ _ hcs) hsi
  apply vstep_constructEntry _ v (sb1.cells _ _ hcd) hdi ((sb1.st db di hne).trans hr) hSd
  intro h2 sb2 hw2 hst2
  have sb12 := sb1.trans sb2 (fun _ _ => Or.inl) fun _ _ => Or.inr
  apply vstep_destroy (sb12.cells _ _ hcs) hsi (by rw [sb2.st sb si hne', hst1]; exact nofun) hSs
  intro h3 sb3 hw3 hst3
  apply s h3 (sb12.trans sb3 (fun _ _ => id) fun _ _ => Or.inl) _ _ _ hst3
  · rw [sb3.word db di hne, hw2, hw1]
  · rw [sb3.st db di hne, hst2]
  · rw [hw3, sb2.word sb si hne', hw1]

end DS.Life.Theta
