/- C08 for whole histories: the mean over the coins of the weight below any point is the true count (`runT_mean`).  It meets the
shapes (`runT_SS`, KllShape) only in Props/C08_Kll, where the mean over a tree of uniform depth becomes a sum over all coin vectors. -/
import DSProofs.Lemmas.KllFair
import DSProofs.Lemmas.KllView
import DSProofs.Lemmas.KllTruth2
namespace DS.Kll
open DS DS.SortedView DS.Mech

variable {α : Type}

/-- a measure of the entry at a position, 0 past the end: the form in which the proofs read a state or a ground truth -/
def atD {β : Type} (f : β → Nat) (i : Nat) (l : List β) : Nat :=
  match l[i]? with
  | some a => f a
  | none => 0

/-- `atD (W p)` (`valAt_eq`), as the statements of Props/C08_Kll write it -/
def valAt (p : α → Bool) (i : Nat) (st : List (Sketch α)) : Nat :=
  match st[i]? with
  | some s => W p s
  | none => 0

/-- `atD (cnt p)` (`cntAt_eq`): the true count in the ground truth -/
def cntAt (p : α → Bool) (i : Nat) (tr : List (List α)) : Nat :=
  match tr[i]? with
  | some l => cnt p l
  | none => 0

theorem atD_set {β : Type} (f : β → Nat) (l : List β) (i j : Nat) (a : β) :
    atD f j (l.set i a) = if i = j ∧ i < l.length then f a else atD f j l := by
  unfold atD
  by_cases hij : i = j
  · subst hij
    by_cases hlt : i < l.length
    · rw [List.getElem?_set_self hlt, if_pos ⟨rfl, hlt⟩]
    · rw [List.getElem?_eq_none (by rw [List.length_set]; exact Nat.not_lt.mp hlt),
        List.getElem?_eq_none (Nat.not_lt.mp hlt), if_neg (fun h => hlt h.2)]
  · rw [List.getElem?_set_ne hij, if_neg (fun h => hij h.1)]

theorem atD_append {β : Type} (f : β → Nat) (l : List β) (j : Nat) (a : β) :
    atD f j (l ++ [a]) = if j = l.length then f a else atD f j l := by
  unfold atD
  rcases Nat.lt_trichotomy j l.length with hj | rfl | hj
  · rw [List.getElem?_append_left hj, if_neg (Nat.ne_of_lt hj)]
  · rw [List.getElem?_concat_length, if_pos rfl]
  · rw [List.getElem?_eq_none (by rw [List.length_append]; exact hj), if_neg (Nat.ne_of_gt hj),
      List.getElem?_eq_none (Nat.le_of_lt hj)]

theorem atD_of_ge {β : Type} (f : β → Nat) {l : List β} {i : Nat} (h : l.length ≤ i) : atD f i l = 0 := by
  unfold atD; rw [List.getElem?_eq_none h]

theorem atD_of_lt {β : Type} (f : β → Nat) {l : List β} {i : Nat} (h : i < l.length) : atD f i l = f l[i] := by
  unfold atD; rw [List.getElem?_eq_getElem h]

theorem valAt_eq (p : α → Bool) (i : Nat) (st : List (Sketch α)) : valAt p i st = atD (W p) i st := by
  unfold valAt atD; cases st[i]? <;> rfl

theorem cntAt_eq (p : α → Bool) (i : Nat) (tr : List (List α)) : cntAt p i tr = atD (cnt p) i tr := by
  unfold cntAt atD; cases tr[i]? <;> rfl

/-- the linear form (index a, optional index b, constant) giving the expected value at index `i` after an operation that
acts (`Op.ok`) in a state of `n` sketches: the value before, plus what an update or a merge into `i` adds; a copy is read
at its source -/
def lin (c : Cmp α) (p : α → Bool) (n : Nat) (i : Nat) : Op α → Nat × Option Nat × Nat
  | .upd j x => (i, none, if i = j then (if c.isNaN x then 0 else if p x then 1 else 0) else 0)
  | .merge a b => (i, if i = a then some b else none, 0)
  | .copy j => (if i = n then j else i, none, 0)
  | _ => (i, none, 0)

/-- the value of a linear form of `lin` when index `j` is worth `f j` -/
def linVal (f : Nat → Nat) (l : Nat × Option Nat × Nat) : Nat :=
  f l.1 + (match l.2.1 with | some b => f b | none => 0) + l.2.2

theorem mean_atD_set (p : α → Bool) (st : List (Sketch α)) {j : Nat} (hj : j < st.length) (i : Nat) {t : CT (Sketch α)} {v : Nat}
    (h : CT.Mean (W p) v t) :
    CT.Mean (atD (W p) i) (if i = j then v else atD (W p) i st) (CT.map (fun s' => st.set j s') t) := by
  refine CT.Mean.map ?_
  by_cases hij : i = j
  · subst hij; simpa only [atD_set, hj, and_self, if_true] using h
  · simpa only [atD_set, hij, Ne.symm hij, false_and, if_false] using CT.Mean.const (atD (W p) i st) t

theorem stepT_mean {P : Params} (ok : ParamsOk P) (c : Cmp α) (p : α → Bool) {st : List (Sketch α)}
    (hi : ∀ s ∈ st, InvS P c.lt s) (op : Op α) (hok : op.ok P st.length) (i : Nat) :
    CT.Mean (atD (W p) i) (linVal (fun j => atD (W p) j st) (lin c p st.length i op)) (stepT P c st op) := by
  cases op with
  | new k =>
    rw [stepT_new c st hok]
    show atD (W p) i (st ++ [init k]) = atD (W p) i st
    rw [atD_append, W_init]
    split
    · rename_i h; rw [h, atD_of_ge (W p) (Nat.le_refl _)]
    · rfl
  | upd j x =>
    rw [stepT_upd P c hok x]
    have := mean_atD_set p st hok i (updateT_mean P c p st[j] x)
    dsimp only [lin, linVal]
    by_cases hij : i = j
    · subst hij
      rw [if_pos rfl] at this ⊢
      rwa [atD_of_lt (W p) hok]
    · rw [if_neg hij] at this ⊢
      exact this
  | merge a b =>
    rw [stepT_merge P c hok]
    have := mean_atD_set p st hok.2.1 i (mergeT_mean ok c p (st[a]'hok.2.1) (hi _ (List.getElem_mem hok.2.2)))
    dsimp only [lin, linVal]
    by_cases hia : i = a
    · subst hia
      rw [if_pos rfl] at this ⊢
      dsimp only
      rwa [atD_of_lt (W p) hok.2.1, atD_of_lt (W p) hok.2.2]
    · rw [if_neg hia] at this ⊢
      exact this
  | copy j =>
    rw [stepT_copy P c hok]
    show atD (W p) i (st ++ [st[j]]) = _
    dsimp only [lin, linVal]
    rw [atD_append]
    by_cases he : i = st.length
    · rw [if_pos he, if_pos he, atD_of_lt (W p) hok]; rfl
    · rw [if_neg he, if_neg he]; rfl
  | view j =>
    rw [stepT_view P c hok]
    show atD (W p) i (st.set j (sortLevelZero c st[j])) = atD (W p) i st
    rw [atD_set]
    split
    · rename_i h
      rw [← h.1, atD_of_lt (W p) hok]
      exact sortLevelZero_wb c _ p
    · rfl

theorem truthStep_lin (P : Params) (c : Cmp α) (p : α → Bool) (tr : List (List α)) (op : Op α) (hok : op.ok P tr.length)
    (i : Nat) : atD (cnt p) i (truthStep P c tr op) = linVal (fun j => atD (cnt p) j tr) (lin c p tr.length i op) := by
  cases op with
  | new k =>
    rw [truthStep_new c tr hok, atD_append]
    show _ = atD (cnt p) i tr
    split
    · rename_i h; rw [h, atD_of_ge (cnt p) (Nat.le_refl _)]; rfl
    · rfl
  | upd j x =>
    rw [truthStep_upd P c hok x, atD_set]
    dsimp only [lin, linVal]
    by_cases hij : j = i
    · subst hij
      rw [if_pos ⟨rfl, hok⟩, if_pos rfl, atD_of_lt (cnt p) hok]
      by_cases hx : c.isNaN x = true
      · rw [if_pos hx, if_pos hx]; rfl
      · rw [if_neg hx, if_neg hx, cnt_cons]; exact Nat.add_comm _ _
    · rw [if_neg fun h => hij h.1, if_neg (Ne.symm hij)]; rfl
  | merge a b =>
    rw [truthStep_merge P c hok, atD_set]
    dsimp only [lin, linVal]
    by_cases hia : a = i
    · subst hia
      rw [if_pos ⟨rfl, hok.2.1⟩, if_pos rfl, cnt_append]
      dsimp only
      rw [atD_of_lt (cnt p) hok.2.1, atD_of_lt (cnt p) hok.2.2]
      exact Nat.add_comm _ _
    · rw [if_neg fun h => hia h.1, if_neg (Ne.symm hia)]; rfl
  | copy j =>
    rw [truthStep_copy P c hok, atD_append]
    dsimp only [lin, linVal]
    by_cases he : i = tr.length
    · rw [if_pos he, if_pos he, atD_of_lt (cnt p) hok]; rfl
    · rw [if_neg he, if_neg he]; rfl
  | view j => rfl

theorem runT_mean {P : Params} (ok : ParamsOk P) {c : Cmp α} (sw : StrictWeak c.lt) (p : α → Bool) (ops : List (Op α)) :
    ∀ i, CT.Mean (atD (W p) i) (atD (cnt p) i (truth P c ops [])) (runT P c ops []) := by
  induction ops using snoc_induction with
  | nil => intro i; rfl
  | snoc ops op ih =>
    intro i
    rw [runT_snoc, truth_snoc]
    -- at every leaf the state has as many sketches as the ground truth (`PW`): the operation acts on both or on neither
    have hinv := runT_invT ok sw ops (st := []) (tr := []) (by simp) ⟨rfl, by simp⟩
    by_cases hok : op.ok P (truth P c ops []).length
    case neg =>
      rw [truthStep_of_not_ok hok]
      exact (ih i).bind (c := 0) hinv fun st h => by rw [stepT_of_not_ok (h.2.1 ▸ hok)]; rfl
    rw [truthStep_lin P c p _ op hok]
    generalize hl : lin c p (truth P c ops []).length i op = l
    obtain ⟨a, b, k⟩ := l
    -- the linear form of the means before is the mean of the linear form
    have hlin : CT.Mean (fun st => linVal (fun j => atD (W p) j st) (a, b, k))
        (linVal (fun j => atD (cnt p) j (truth P c ops [])) (a, b, k)) (runT P c ops []) := by
      cases b with
      | none => exact ((ih a).add (CT.Mean.const 0 _)).add (CT.Mean.const k _)
      | some b => exact ((ih a).add (ih b)).add (CT.Mean.const k _)
    refine hlin.bind (c := 0) hinv fun st h => ?_
    rw [← hl, ← h.2.1]
    exact stepT_mean ok c p h.1 op (h.2.1 ▸ hok) i

end DS.Kll
