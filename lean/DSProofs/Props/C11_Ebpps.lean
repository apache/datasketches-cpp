/-
C11 (EBPPS part) — truncated images are rejected; the item count derived from `c` cannot make the specification
reader materialise more than the input holds.

ONLY property theorems + non-vacuity examples.  Model: DSModel/Wire/Ebpps.lean; every constant set, every lawful serde,
every well-formed image, EVERY prefix length; no padding disjunct.
-/
import DSProofs.Props.C09_Ebpps
namespace DS.Wire.Ebpps
open DS.Wire

variable {ι : Type}

theorem decPartial_PS (sd : Serde ι) (hsd : sd.Lawful) (p : Bool) : PS (decPartial sd p) := by
  unfold decPartial
  split
  · exact PS_bind _ _ hsd.ps (fun _ => PS_pure _)
  · exact PS_pure _

theorem decodeBody_PS (c : EbConsts) (sd : Serde ι) (hsd : sd.Lawful) (flags : Nat) : PS (decodeBody c sd flags) :=
  (decodeBody_within c sd hsd flags).ps

/-- the documented reader is prefix-safe -/
theorem decode_PS (c : EbConsts) (sd : Serde ι) (hsd : sd.Lawful) : PS (decode c sd) := (decode_within c sd hsd).ps

/-- **every strict prefix of every valid image is rejected** -/
theorem prefix_rejected (c : EbConsts) (hc : c.ok) (sd : Serde ι) (hsd : sd.Lawful) (s : Image ι) (hs : WF c sd s)
    (n : Nat) (hn : n < (encode c sd s).length) : decode c sd ((encode c sd s).take n) = none :=
  prefix_rejected' (decode c sd) (decode_PS c sd hsd) (encode c sd s) s (decode_encode c hc sd hsd s hs) n hn

theorem decodeBody_bounded (c : EbConsts) (sd : Serde ι) (hsd : sd.Lawful) (flags : Nat) (b r : Bytes)
    (body : Option (Body ι)) (h : decodeBody c sd flags b = some (body, r)) :
    (match body with | none => 0 | some x => x.items.length) ≤ b.length := by
  -- the `match` of the statement also abstracts `h`
  cases body <;> exact (decodeBody_within c sd hsd flags).le h

/-- **bounded**: the number of items of an accepted image (⌊c⌋, whatever `c` says) is at most the input length -/
theorem decode_bounded (c : EbConsts) (sd : Serde ι) (hsd : sd.Lawful) (b r : Bytes) (s : Image ι)
    (h : decode c sd b = some (s, r)) : count s ≤ b.length :=
  (decode_within c sd hsd).le h

/-- non-vacuity: the 66-byte image with a partial item; the executable reader rejects the prefix that lacks its last byte
and the prefix that ends right before the partial item -/
example : (encode generated serdeStr exPartial).length = 66 := by decide +kernel
example : (decode generated serdeStr ((encode generated serdeStr exPartial).take 65)).isNone = true := by decide +kernel
example : (decode generated serdeStr ((encode generated serdeStr exPartial).take 60)).isNone = true := by decide +kernel
example : (decode generated serdeStr (encode generated serdeStr exPartial)).isSome = true := by decide +kernel

end DS.Wire.Ebpps
