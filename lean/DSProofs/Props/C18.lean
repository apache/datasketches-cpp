/-
C18 — EBPPS sampling sketch: bookkeeping exact, c = rho·cumWt = min(k, cumWt/wtMax), sample size ⌊c⌋ / ⌈c⌉.

Property theorems, their non-vacuity examples, and the bridge `streamOK_of_valid` from `ValidStream` to the `StreamOK` of the
lemma files (helper lemmas: Lemmas/Ebpps*.lean).
Model: DSModel/Ebpps/{Num,Sample,Sketch,Run}.lean — ONE generic definition over an ops-only numeric class; the `Float`
instance is what `dsmodel_ebpps` executes and what the correspondence check `./check C18` compares bit for bit with
ebpps_sketch_impl.hpp / ebpps_sample_impl.hpp (all random draws supplied through the DATASKETCHES_VERIF hook);
the theorems below are about the `Rat` instance of the SAME definitions (exact arithmetic; binary64 rounding is not
modelled).  The stream and single-merge statements (`eb_counts` … `eb_merge`) are for every `k ≥ 1`, every finite stream
of positive rational weights, every sequence of admissible draws (`Draws`: the values returned by `next_double()` and by
`random_idx`), and every model variant `v` (`Variant`: which of the five proposed repairs the current source contains;
the pinned tree (the commit of /repo the development was built against, DESIGN.md §4) is `{}`; the two binary64 repairs are no-ops in exact arithmetic).  The statement over arbitrary
histories (`eb_all_histories_repaired`) needs the two sketch-merge repairs; it is refuted for `{}`.

Admissible unit draws (`UnitOK`): values of `next_double()` lie in `[0,1)`; for the pinned code the theorems need the
draw to be nonzero, `(0,1)`: a draw of exactly `0.0` loses the partial item (`eb_structure_full_false`).

NOT formalised (DESIGN.md §5): "over the sampling randomness each item's inclusion probability is proportional to its
weight" as a statement about the joint distribution of all draws.  Only the one-step identities are proved
(`eb_one_step_pps_downsample`, `eb_one_step_pps_new_item`, `eb_one_step_pps_merge`).
-/
import DSProofs.Lemmas.EbppsPpsDown
import DSProofs.Lemmas.EbppsHist
namespace DS.Ebpps

/-- the items offered by a stream -/
def itemsOf (ops : List (Upd Rat)) : List Nat := ops.map (·.item)

/-- a valid update stream: positive weights and admissible draws -/
def ValidStream (v : Variant) (ops : List (Upd Rat)) : Prop := ∀ u ∈ ops, 0 < u.w ∧ UnitOK v.geDraw u.d

lemma streamOK_of_valid {v : Variant} {ops : List (Upd Rat)} (h : ValidStream v ops) :
    StreamOK v (· ∈ itemsOf ops) ops := fun u hu =>
  ⟨(h u hu).1, List.mem_map.2 ⟨u, hu, rfl⟩, (h u hu).2⟩

/-- n and the cumulative weight are exact (and `k`, the maximum weight are what they should be). -/
theorem eb_counts (v : Variant) (k : Nat) (hk : 1 ≤ k) (ops : List (Upd Rat)) (h : ValidStream v ops) :
    (runUpdates v (Sketch.fresh k) ops).n = ops.length ∧
    (runUpdates v (Sketch.fresh k) ops).cumWt = wsum ops ∧
    (runUpdates v (Sketch.fresh k) ops).k = k ∧
    (runUpdates v (Sketch.fresh k) ops).wtMax = wmaxFrom 0 ops := by
  obtain ⟨-, h2, h3, h4, h5⟩ := runUpdates_wf v ops _ (wf_fresh hk) (streamOK_of_valid h)
  refine ⟨by simpa [Sketch.fresh] using h2, by simpa [Sketch.fresh] using h3, by simpa [Sketch.fresh] using h5, ?_⟩
  simpa [Sketch.fresh] using h4

example : ValidStream {} [⟨1, 3, ⟨[1/2], [7]⟩⟩, ⟨2, 1/4, ⟨[1/3, 2/3], []⟩⟩] := by
  intro u hu; simp at hu; rcases hu with rfl | rfl <;> simp [UnitOK] <;> norm_num

/-- after every update `c = rho·cumWt = min(k, cumWt / wtMax)` with `rho = min(1/wtMax, k/cumWt)`. -/
theorem eb_c_closed_form (v : Variant) (k : Nat) (hk : 1 ≤ k) (ops : List (Upd Rat)) (hne : ops ≠ [])
    (h : ValidStream v ops) :
    (runUpdates v (Sketch.fresh k) ops).sample.c =
        (runUpdates v (Sketch.fresh k) ops).rho * (runUpdates v (Sketch.fresh k) ops).cumWt ∧
    (runUpdates v (Sketch.fresh k) ops).rho = min (1 / wmaxFrom 0 ops) ((k : Rat) / wsum ops) ∧
    (runUpdates v (Sketch.fresh k) ops).sample.c = min (k : Rat) (wsum ops / wmaxFrom 0 ops) := by
  have hc := runUpdates_core v ops hne _ (wf_fresh hk) (streamOK_of_valid h)
  obtain ⟨_, e2, e3, e4⟩ := eb_counts v k hk ops h
  have h1 := hc.c
  have h2 := hc.rho
  have h3 := hc.closed
  rw [e3, e4, e2] at h2 h3
  exact ⟨h1, h2, h3⟩

example : wsum [⟨1, 3, ⟨[], []⟩⟩, ⟨2, 1/4, ⟨[], []⟩⟩] = 13/4 ∧ wmaxFrom 0 [⟨1, 3, ⟨[], []⟩⟩, ⟨2, 1/4, ⟨[], []⟩⟩] = 3 := by
  constructor <;> simp [wsum, wmaxFrom] <;> norm_num

/-- `|data| = ⌊c⌋`, the partial item is present iff `frac c > 0`, every stored item is an input item; hence every
`get_result()` (whatever the draw) has `⌊c⌋` items, or `⌊c⌋ + 1 = ⌈c⌉` items when `c` is not integral, all of them
input items. -/
theorem eb_structure (v : Variant) (k : Nat) (hk : 1 ≤ k) (ops : List (Upd Rat)) (h : ValidStream v ops) :
    ((runUpdates v (Sketch.fresh k) ops).sample.data.length : Int) = (runUpdates v (Sketch.fresh k) ops).sample.c.floor ∧
    ((runUpdates v (Sketch.fresh k) ops).sample.part.isSome ↔
      (((runUpdates v (Sketch.fresh k) ops).sample.c.floor : Int) : Rat) < (runUpdates v (Sketch.fresh k) ops).sample.c) ∧
    (∀ x ∈ (runUpdates v (Sketch.fresh k) ops).sample.items, x ∈ itemsOf ops) ∧
    ∀ d : Draws Rat,
      (((getSample (runUpdates v (Sketch.fresh k) ops).sample d).1.length : Int)
          = (runUpdates v (Sketch.fresh k) ops).sample.c.floor ∨
        ((((runUpdates v (Sketch.fresh k) ops).sample.c.floor : Int) : Rat) < (runUpdates v (Sketch.fresh k) ops).sample.c ∧
         ((getSample (runUpdates v (Sketch.fresh k) ops).sample d).1.length : Int)
          = (runUpdates v (Sketch.fresh k) ops).sample.c.floor + 1)) ∧
      ∀ x ∈ (getSample (runUpdates v (Sketch.fresh k) ops).sample d).1, x ∈ itemsOf ops := by
  have hs := (runUpdates_wf v ops _ (wf_fresh hk) (streamOK_of_valid h)).1.sinv
  exact ⟨hs.len, hs.part, hs.itemsP, fun d => getSample_spec hs d⟩

/-- equal weights and `n ≤ k`: `c = n`, nothing is ever dropped, every `get_result()` returns every item (for ANY draws). -/
theorem eb_equal_weights_keep_all (v : Variant) (k : Nat) (w : Rat) (hw : 0 < w) (ops : List (Upd Rat))
    (hall : ∀ u ∈ ops, u.w = w) (hnk : ops.length ≤ k) :
    (runUpdates v (Sketch.fresh k) ops).sample.c = (ops.length : Rat) ∧
    (runUpdates v (Sketch.fresh k) ops).sample.data = itemsOf ops ∧
    (runUpdates v (Sketch.fresh k) ops).sample.part = none ∧
    ∀ d : Draws Rat, (getSample (runUpdates v (Sketch.fresh k) ops).sample d).1 = itemsOf ops := by
  have h0 : EqState (Sketch.fresh k : Sketch Rat) 0 [] w :=
    ⟨by simp [Sketch.fresh, Sample.empty], by simp [Sketch.fresh], by simp [Sketch.fresh], fun h => absurd h (lt_irrefl 0)⟩
  obtain ⟨hst, -⟩ := runUpdates_equal v w hw ops (Sketch.fresh k) 0 [] h0 hall (by simpa [Sketch.fresh] using hnk)
  have hsm := hst.sample
  simp only [Nat.zero_add, List.nil_append] at hsm
  refine ⟨by rw [hsm], by rw [hsm]; rfl, by rw [hsm], fun d => ?_⟩
  rw [hsm]
  unfold getSample
  simp only [Option.toList_none, List.append_nil, ite_self]
  rfl

example : (∀ u ∈ [(⟨1, 5, ⟨[], []⟩⟩ : Upd Rat), ⟨2, 5, ⟨[], []⟩⟩], u.w = 5) ∧ [(⟨1, 5, ⟨[], []⟩⟩ : Upd Rat), ⟨2, 5, ⟨[], []⟩⟩].length ≤ 2 := by
  simp

/-- merging two non-empty sketches, in BOTH directions (`a.merge(b)` and `b.merge(a)`; the lvalue and the rvalue overload
compute the same `*this`): n and the cumulative weight add, `k := min`, the sample keeps its structure with every stored
item an input item of one of the two streams, and `c = min(k, cumWt / wtMax)` for the merged totals. -/
theorem eb_merge (v : Variant) (ka kb : Nat) (hka : 1 ≤ ka) (hkb : 1 ≤ kb) (A B : List (Upd Rat))
    (hA : A ≠ []) (hB : B ≠ []) (hvA : ValidStream v A) (hvB : ValidStream v B)
    (d : Draws Rat) (hd : UnitOK v.geDraw d) :
    let a := runUpdates v (Sketch.fresh ka) A
    let b := runUpdates v (Sketch.fresh kb) B
    ∀ m, (m = (mergeSk v a b d).1 ∨ m = (mergeSk v b a d).1) →
      m.n = A.length + B.length ∧ m.cumWt = wsum A + wsum B ∧ m.k = min ka kb ∧
      m.sample.c = min ((min ka kb : Nat) : Rat) ((wsum A + wsum B) / max (wmaxFrom 0 A) (wmaxFrom 0 B)) ∧
      (m.sample.data.length : Int) = m.sample.c.floor ∧
      (m.sample.part.isSome ↔ ((m.sample.c.floor : Int) : Rat) < m.sample.c) ∧
      ∀ x ∈ m.sample.items, x ∈ itemsOf A ∨ x ∈ itemsOf B := by
  intro a b m hm
  obtain ⟨an, aw, ak, am⟩ := eb_counts v ka hka A hvA
  obtain ⟨bn, bw, bk, bm⟩ := eb_counts v kb hkb B hvB
  have ca := (runUpdates_core v A hA _ (wf_fresh hka) (streamOK_of_valid hvA)).mono
    (Q := fun x => x ∈ itemsOf A ∨ x ∈ itemsOf B) (fun x hx => Or.inl hx)
  have cb := (runUpdates_core v B hB _ (wf_fresh hkb) (streamOK_of_valid hvB)).mono
    (Q := fun x => x ∈ itemsOf A ∨ x ∈ itemsOf B) (fun x hx => Or.inr hx)
  -- the two directions are one lemma with the operands exchanged
  rcases hm with rfl | rfl
  · obtain ⟨e1, e2, e3, e4, hs⟩ := mergeSk_counts (v := v) ca cb hd an aw ak am bn bw bk bm
    exact ⟨e1, e2, e3, e4, hs.len, hs.part, hs.itemsP⟩
  · obtain ⟨e1, e2, e3, e4, hs⟩ := mergeSk_counts (v := v) cb ca hd bn bw bk bm an aw ak am
    rw [Nat.add_comm] at e1
    rw [add_comm] at e2
    rw [Nat.min_comm, add_comm, max_comm] at e4
    exact ⟨e1, e2, (Nat.min_comm _ _) ▸ e3, e4, hs.len, hs.part, hs.itemsP⟩

/-! ## One-step PPS identities (interval lengths of the draw regions)

`incl s x` is the probability that `get_result()` returns `x` given the sample `s`: 1 per full occurrence, `frac c` for the
partial item (`{u : u < frac c}` has length `frac c`).  One update first down-samples the resident sample by `rho'/rho`
and then merges the one-item sample of the new item, `theta = rho'·w` (`eb_update_is_downsample_then_merge`). -/

/-- the `absorb` step that `update` performs on a non-empty sketch leaves the sample
`mergeSample (downsample old (rho'/rho)) (replaceContent item (rho'·w))` with
`rho' = min(1/max(wtMax, w), k/(cumWt + w))`, for every model variant. -/
theorem eb_update_is_downsample_then_merge (v : Variant) (s : Sketch Rat) (item : Nat) (w : Rat) (d : Draws Rat)
    (hpos : 0 < s.cumWt) (hw : 0 < w) (hk : 1 ≤ s.k)
    (rho' : Rat) (hr : rho' = min (1 / max s.wtMax w) ((s.k : Rat) / (s.cumWt + w))) :
    (absorb v s item w (fun r => r * w) (max s.wtMax w) d).1.sample =
      (mergeSample v.geDraw (downsample v.geDraw s.sample (rho' / s.rho) d).1 (replaceContent item (rho' * w))
        (downsample v.geDraw s.sample (rho' / s.rho) d).2).1 ∧
    (absorb v s item w (fun r => r * w) (max s.wtMax w) d).1.rho = rho' ∧ 0 < rho' * w ∧ rho' * w ≤ 1 := by
  have hmx : 0 < max s.wtMax w := lt_max_of_lt_right hw
  have hkq : (0 : Rat) < s.k := by exact_mod_cast hk
  have hrp : 0 < rho' := by rw [hr]; exact lt_min (div_pos one_pos hmx) (div_pos hkq (by linarith))
  have hth1 : rho' * w ≤ 1 := by rw [hr]; exact rho_mul_le_one hw
  have hcond : (Num.lt (zero : Rat) s.cumWt) = true := by simp [hpos]
  refine ⟨?_, ?_, mul_pos hrp hw, hth1⟩
  · unfold absorb
    simp only [hcond, if_true, rat_newRho, mergeSampleV_eq_rat, ← hr]
    rw [replaceContentV_eq_rat _ _ hth1]
  · unfold absorb
    simp only [rat_newRho, ← hr]

/-- downsample half of the one-step PPS property: for the resident sample `s` and `0 < theta < 1` (`theta = rho'/rho`) there is
a threshold `t ∈ [0,1]` for the unit draw — draws below `t` give the outcome `FA js`, draws above `t` give `FB js`
(regions of lengths `t`, `1 - t`), `js` being the values of `random_idx`, independent and uniform with the bounds `bA`
resp. `bB` (`expIdx`: exact average over all index vectors; the partial Fisher–Yates shuffle is proved uniform in
`exp_count_subAt`) — and for EVERY item `x` the expected inclusion probability after the step is `theta · incl s x`:
every resident item's inclusion probability is scaled by exactly `rho'/rho`.
(`⟨[u], js⟩`: `downsample` consults one unit draw; further unit draws are left untouched.) -/
theorem eb_one_step_pps_downsample (ge : Bool) (P : Nat → Prop) (s : Sample Rat) (hs : SInv P s) (hc : 0 < s.c)
    (theta : Rat) (h0 : 0 < theta) (h1 : theta < 1) :
    ∃ (t : Rat) (bA bB : List Nat) (FA FB : List Nat → Sample Rat), 0 ≤ t ∧ t ≤ 1 ∧
      (∀ u js, u < t → (downsample ge s theta ⟨[u], js⟩).1 = FA js) ∧
      (∀ u js, t < u → (downsample ge s theta ⟨[u], js⟩).1 = FB js) ∧
      ∀ x, t * expIdx bA (fun js => incl (FA js) x) + (1 - t) * expIdx bB (fun js => incl (FB js) x) = theta * incl s x := by
  obtain ⟨m, hm, hmn⟩ := exists_kept hs hc h0 h1
  by_cases hz : m = 0
  · subst hz
    exact ⟨_, _, _, _, _, downsample_pps_case1 (ge := ge) hs hc h1 hm⟩
  · by_cases hfull : m = s.data.length
    · exact ⟨_, _, _, _, _, downsample_pps_case2 (ge := ge) hs hc h1 hm hz hfull⟩
    · exact ⟨_, _, _, _, _, downsample_pps_case3 (ge := ge) hs h0 h1 hm hz (lt_of_le_of_ne hmn hfull)⟩

example : expIdx [2, 3] (fun js => (js.sum : Rat)) = 3 / 2 := by
  simp [expIdx, avg, sumTo]; norm_num

/-- merge half of the one-step PPS property: there is a threshold `t ∈ [0,1]` such that every draw below `t` produces the
sample `A` and every draw above `t` produces `B` (regions of lengths `t` and `1 - t`), and for EVERY item `x`
`t·incl A x + (1-t)·incl B x = incl s x + (theta if x is the new item else 0)`: the new item is included with probability
`theta = rho'·w`, and the merge leaves every resident item's inclusion probability unchanged. -/
theorem eb_one_step_pps_new_item (ge : Bool) (P : Nat → Prop) (s : Sample Rat) (hs : SInv P s) (item : Nat) (hP : P item)
    (theta : Rat) (h0 : 0 < theta) (h1 : theta ≤ 1) :
    ∃ (t : Rat) (A B : Sample Rat), 0 ≤ t ∧ t ≤ 1 ∧
      (∀ d : Draws Rat, d.unit.1 < t → (mergeSample ge s (replaceContent item theta) d).1 = A) ∧
      (∀ d : Draws Rat, t < d.unit.1 → (mergeSample ge s (replaceContent item theta) d).1 = B) ∧
      ∀ x, t * incl A x + (1 - t) * incl B x = incl s x + (if x = item then theta else 0) := by
  obtain ⟨t, A, B, t0, t1, hA, hB, hx⟩ := merge_pps ge s (replaceContent item theta)
  exact ⟨t, A, B, t0, t1, hA, hB, fun x => by rw [hx x, incl_replaceContent item h0 h1 x]⟩

/-- the same identity for the merge of ANY two well-structured samples (used when sketches are merged): expected inclusion
after = inclusion in the first + inclusion in the second. -/
theorem eb_one_step_pps_merge (ge : Bool) (P : Nat → Prop) (s o : Sample Rat) (hs : SInv P s) (ho : SInv P o) :
    ∃ (t : Rat) (A B : Sample Rat), 0 ≤ t ∧ t ≤ 1 ∧
      (∀ d : Draws Rat, d.unit.1 < t → (mergeSample ge s o d).1 = A) ∧
      (∀ d : Draws Rat, t < d.unit.1 → (mergeSample ge s o d).1 = B) ∧
      ∀ x, t * incl A x + (1 - t) * incl B x = incl s x + incl o x :=
  merge_pps ge s o

example : SInv (fun _ => True) (⟨5/2, [1, 2], some 3⟩ : Sample Rat) := by
  refine ⟨by norm_num, ?_, ?_, fun _ _ => trivial, fun _ _ => trivial⟩
  · have : (5/2 : Rat).floor = 2 := by decide +kernel
    simp [this]
  · have : (5/2 : Rat).floor = 2 := by decide +kernel
    simp [this]; norm_num

/-- With the repaired merge (`wt_max_` stored, empty operands handled: proposed_fixes/C18-merge-wt-max.patch and
C18-merge-empty-k.patch) EVERY history — any tree of updates, merges in either direction, resets and serialization
points, any draws — keeps all the invariants: counters exact, `k` the smallest merged `k`, `c = rho·cumWt = min(k, cumWt/wtMax)`,
sample structure, stored items ⊆ offered items. -/
theorem eb_all_histories_repaired (v : Variant) (hv1 : v.mergeSetsWtMax = true) (hv2 : v.mergeEmptyShrinks = true)
    (h : Hist Rat) (hok : h.OK v) :
    (h.eval v).n = h.cnt ∧ (h.eval v).cumWt = h.wt ∧ (h.eval v).k = h.kmin ∧ (h.eval v).wtMax = h.wmax ∧
    (0 < h.wt → (h.eval v).sample.c = (h.eval v).rho * (h.eval v).cumWt ∧
                (h.eval v).sample.c = min (h.kmin : Rat) (h.wt / h.wmax)) ∧
    ((h.eval v).sample.data.length : Int) = (h.eval v).sample.c.floor ∧
    ((h.eval v).sample.part.isSome ↔ (((h.eval v).sample.c.floor : Int) : Rat) < (h.eval v).sample.c) ∧
    ∀ x ∈ (h.eval v).sample.items, x ∈ h.items := by
  have a := hist_agrees hv1 hv2 h hok
  have hs := a.wf.sinv
  refine ⟨a.n, a.w, a.k, a.m, ?_, hs.len, hs.part, ?_⟩
  · intro hpos
    rcases a.wf.fresh_or_live with ⟨hw, -, -, -⟩ | ⟨hc, -, -⟩
    · rw [a.w] at hw; rw [hw] at hpos; exact absurd hpos (lt_irrefl 0)
    · have h3 := hc.closed
      rw [a.w, a.m, a.k] at h3
      exact ⟨hc.c, h3⟩
  · exact hs.itemsP

example : (Hist.merge (.upd (.fresh 3) ⟨1, 2, ⟨[], []⟩⟩) (.reset (.upd (.fresh 5) ⟨2, 7, ⟨[1/2], [3]⟩⟩)) ⟨[1/4], []⟩ : Hist Rat).OK
    { mergeSetsWtMax := true, mergeEmptyShrinks := true } := by
  simp [Hist.OK, UnitOK]; norm_num

/-! ### What the pinned code (`Variant` `{}`) violates (witnesses; each is replayed on the real headers by corpus/regress/C18/) -/

/-- FULL closed form over arbitrary histories of the pinned code (`Variant` `{}`): false. -/
def eb_c_closed_form_full : Prop :=
  ∀ h : Hist Rat, h.OK {} → 0 < h.wt → (h.eval {}).sample.c = min (h.kmin : Rat) (h.wt / h.wmax)

/-- `{1,1}` (k=4) merges `{2}`, then one more update of weight 1 (corpus/regress/C18/f1-wt-max-stale.txt) -/
def witnessStaleMax : Hist Rat :=
  .upd (.merge (.upd (.upd (.fresh 4) ⟨1, 1, ⟨[], []⟩⟩) ⟨2, 1, ⟨[], []⟩⟩) (.upd (.fresh 4) ⟨3, 2, ⟨[], []⟩⟩) ⟨[], []⟩)
    ⟨4, 1, ⟨[], []⟩⟩

/-- `internal_merge` never stores the new maximum weight: after the merge the next update computes `rho` from the stale
`wt_max_` and `c` leaves the closed form (`14/5` instead of `min(4, 5/2)`). -/
theorem eb_c_closed_form_full_false : ¬ eb_c_closed_form_full := by
  intro h
  have h1 := h witnessStaleMax (by simp [witnessStaleMax, Hist.OK, UnitOK]) (by simp [witnessStaleMax, Hist.wt]; norm_num)
  have h2 : (witnessStaleMax.eval {}).sample.c = 14 / 5 := by decide +kernel
  have h3 : min ((witnessStaleMax.kmin : Nat) : Rat) (witnessStaleMax.wt / witnessStaleMax.wmax) = 5 / 2 := by
    simp [witnessStaleMax, Hist.kmin, Hist.wt, Hist.wmax]; norm_num
  rw [h2, h3] at h1
  norm_num at h1

/-- the closed form for every history once `wt_max_` is stored and empty operands are handled.  For the pinned code it is
proved for update streams (`eb_c_closed_form`) and for one merge of two streams in either direction (`eb_merge`). -/
theorem eb_c_closed_form_partial (v : Variant) (hv1 : v.mergeSetsWtMax = true) (hv2 : v.mergeEmptyShrinks = true)
    (h : Hist Rat) (hok : h.OK v) (hpos : 0 < h.wt) :
    (h.eval v).sample.c = min (h.kmin : Rat) (h.wt / h.wmax) :=
  ((eb_all_histories_repaired v hv1 hv2 h hok).2.2.2.2.1 hpos).2

/-- unit draws as the library produces them: `[0, 1)` -/
def HalfOpen (d : Draws Rat) : Prop := ∀ u ∈ d.us, 0 ≤ u ∧ u < 1

/-- FULL structure statement for the pinned code with draws in `[0,1)`: false. -/
def eb_structure_full : Prop :=
  ∀ (k : Nat), 1 ≤ k → ∀ ops : List (Upd Rat), (∀ u ∈ ops, 0 < u.w ∧ HalfOpen u.d) →
    ((runUpdates {} (Sketch.fresh k) ops).sample.data.length : Int) = (runUpdates {} (Sketch.fresh k) ops).sample.c.floor

/-- k = 1, two unit weights, every `next_double()` equal to 0.0 (corpus/regress/C18/f2-unit-draw-zero.txt) -/
def witnessZeroDraw : List (Upd Rat) := [⟨1, 1, ⟨[0], []⟩⟩, ⟨2, 1, ⟨[0, 0], []⟩⟩]

/-- `next_double() > c_frac / c_` with `c_frac = 0` and a draw of exactly 0 does not move a full item to the partial slot:
the sample is emptied while `c = 1/2`, and the following merge has no item to promote: `c = 1`, no item. -/
theorem eb_structure_full_false : ¬ eb_structure_full := by
  intro h
  have h1 := h 1 (le_refl 1) witnessZeroDraw (by
    intro u hu
    simp [witnessZeroDraw] at hu
    rcases hu with rfl | rfl <;> simp [HalfOpen])
  revert h1
  decide +kernel

/-- the structure statement as proved for the pinned code: draws in the open interval `(0,1)`. -/
theorem eb_structure_partial (k : Nat) (hk : 1 ≤ k) (ops : List (Upd Rat))
    (h : ∀ u ∈ ops, 0 < u.w ∧ ∀ x ∈ u.d.us, 0 < x ∧ x < 1) :
    ((runUpdates {} (Sketch.fresh k) ops).sample.data.length : Int) = (runUpdates {} (Sketch.fresh k) ops).sample.c.floor :=
  (eb_structure {} k hk ops (fun u hu => ⟨(h u hu).1, fun x hx => by simpa using (h u hu).2 x hx⟩)).1

/-- FULL merge statement over arbitrary histories of the pinned code: `k` is the smallest merged `k` and `c ≤ k`: false. -/
def eb_merge_full : Prop :=
  ∀ h : Hist Rat, h.OK {} → (h.eval {}).k = h.kmin ∧ (h.eval {}).sample.c ≤ (h.eval {}).k

/-- an empty sketch of size 2 merges a sketch of size 4 holding four unit weights (corpus/regress/C18/f3-merge-empty-k.txt) -/
def witnessEmptyOperand : Hist Rat :=
  .merge (.fresh 2)
    (.upd (.upd (.upd (.upd (.fresh 4) ⟨1, 1, ⟨[], []⟩⟩) ⟨2, 1, ⟨[], []⟩⟩) ⟨3, 1, ⟨[], []⟩⟩) ⟨4, 1, ⟨[], []⟩⟩) ⟨[], []⟩

/-- `k` is lowered to 2 but nothing is replayed, so the sample keeps `c = 4 > k` (and in the other direction the early
return keeps `k = 4`). -/
theorem eb_merge_full_false : ¬ eb_merge_full := by
  intro h
  have h1 := (h witnessEmptyOperand (by simp [witnessEmptyOperand, Hist.OK, UnitOK])).2
  revert h1
  decide +kernel

/-- the merge statement as proved for the pinned code: non-empty operands, either direction (`eb_merge`). -/
theorem eb_merge_partial (ka kb : Nat) (hka : 1 ≤ ka) (hkb : 1 ≤ kb) (A B : List (Upd Rat))
    (hA : A ≠ []) (hB : B ≠ []) (hvA : ValidStream {} A) (hvB : ValidStream {} B) (d : Draws Rat) (hd : UnitOK false d) :
    (mergeSk {} (runUpdates {} (Sketch.fresh ka) A) (runUpdates {} (Sketch.fresh kb) B) d).1.k = min ka kb ∧
    (mergeSk {} (runUpdates {} (Sketch.fresh ka) A) (runUpdates {} (Sketch.fresh kb) B) d).1.sample.c ≤ (min ka kb : Nat) := by
  obtain ⟨-, -, h3, h4, -⟩ := eb_merge {} ka kb hka hkb A B hA hB hvA hvB d hd _ (Or.inl rfl)
  exact ⟨h3, by rw [h4]; exact min_le_left _ _⟩

end DS.Ebpps
