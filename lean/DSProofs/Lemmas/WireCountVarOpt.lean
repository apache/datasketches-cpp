/- VarOpt images: the mark bit-packing (8 per byte, least significant bit first), the body round trip, the `Within` terms. -/
import DSProofs.Lemmas.WireCount
import DSModel.Wire.VarOpt
namespace DS.Wire.VarOpt
open DS.Wire

theorem packByte_lt : ∀ l : List Bool, packByte l < 2 ^ l.length
  | [] => Nat.one_pos
  | b :: t => by
    have := packByte_lt t
    rw [packByte, List.length_cons, Nat.pow_succ]
    cases b <;> simp only [if_true, Bool.false_eq_true, if_false] <;> omega

theorem unpackByte_packByte : ∀ l : List Bool, unpackByte l.length (packByte l) = l
  | [] => rfl
  | b :: t => by
    rw [List.length_cons, unpackByte, packByte, Nat.add_mul_mod_self_left, Nat.add_mul_div_left _ _ (by decide)]
    cases b <;> exact congrArg _ ((Nat.zero_add _).symm ▸ unpackByte_packByte t)

theorem length_packMarksN : ∀ (nb : Nat) (l : List Bool), (packMarksN nb l).length = nb
  | 0, _ => rfl
  | nb + 1, l => congrArg (· + 1) (length_packMarksN nb (l.drop 8))

theorem length_packMarks (l : List Bool) : (packMarks l).length = marksBytes l.length := length_packMarksN _ l

/-- stated for every `l` (the first `8 * nb` marks come back), so that the induction carries no fact about `marksBytes` -/
theorem marksRd_packN : ∀ (nb : Nat) (l : List Bool) (r : Bytes),
    marksRd nb l.length (packMarksN nb l ++ r) = some (l.take (8 * nb), r)
  | 0, _, _ => rfl
  | nb + 1, l, r => by
    have hb : (UInt8.ofNat (packByte (l.take 8))).toNat = packByte (l.take 8) :=
      (UInt8.toNat_ofNat' ..).trans <| Nat.mod_eq_of_lt <| Nat.lt_of_lt_of_le (packByte_lt _) <|
        Nat.pow_le_pow_right (by decide) (List.length_take_le ..)
    rw [marksRd, packMarksN, List.cons_append, bind_ok (rfl : byte (_ :: _) = _), ← List.length_drop,
      bind_ok (marksRd_packN nb (l.drop 8) r), Reader.pure, hb, Nat.min_comm, ← List.length_take, unpackByte_packByte,
      Nat.mul_succ, Nat.add_comm, List.take_add]

theorem marksRd_pack (l : List Bool) (r : Bytes) : marksRd (marksBytes l.length) l.length (packMarks l ++ r) = some (l, r) := by
  rw [packMarks, marksRd_packN, List.take_of_length_le (by unfold marksBytes; omega)]

/-- the optional mark block of a gadget image -/
theorem bind_marks {β : Type} (g : Bool) (l : List Bool) (h : Nat) (hl : l.length = if g then h else 0)
    (f : List Bool → Reader β) (r : Bytes) :
    Reader.bind (if g then marksRd (marksBytes h) h else Reader.pure []) f ((if g then packMarks l else []) ++ r) = f l r := by
  refine bind_opt Iff.rfl (fun hg r => ?_) (fun hg => List.eq_nil_of_length_eq_zero (by rw [hl, if_neg hg])) f r
  rw [if_pos hg] at hl
  subst hl
  exact marksRd_pack l r

theorem PS_marksRd : ∀ nb h, PS (marksRd nb h)
  | 0, _ => PS_pure _
  | nb + 1, _ => PS_bind _ _ PS_byte fun _ => PS_bind _ _ (PS_marksRd nb _) fun _ => PS_pure _

theorem all_posF64 (ws : List Nat) (h : ∀ w ∈ ws, w < 2 ^ 64 ∧ posF64 w = true) : ws.all posF64 = true :=
  List.all_eq_true.2 fun w hw => (h w hw).2

theorem length_encodeBody {ι : Type} (sd : Serde ι) (g : Bool) (b : Body ι) (hml : b.marks.length = if g then b.weights.length else 0) :
    (encodeBody sd g (some b)).length = 16 + (if b.rItems.length = 0 then 0 else 8) + 8 * b.weights.length +
      (if g then marksBytes b.weights.length else 0) + itemsBytes sd b.hItems + itemsBytes sd b.rItems := by
  cases g <;> simp only [encodeBody, List.length_append, apply_ite List.length, List.length_nil, length_w64, length_w32,
    length_encU64s, length_encItems, length_packMarks, hml, if_true, Bool.false_eq_true, if_false, ← Nat.add_assoc]

/-- both modes (warm-up: no R region; full), with or without marks -/
theorem decodeBody_enc {ι : Type} (c : VoConsts) (hne : c.preWarmup ≠ c.preFull) (sd : Serde ι) (hsd : sd.Lawful)
    (k : Nat) (g : Bool) (b : Body ι) (hb : WFBody sd k g b) (tail : Bytes) :
    decodeBody c sd (if b.rItems.length = 0 then c.preWarmup else c.preFull) k g (encodeBody sd g (some b) ++ tail)
      = some (some b, tail) := by
  obtain ⟨hn, hh, hr, htw, hhl, hml, hws, hhi, hri, hmode⟩ := hb
  have hws' : ∀ w ∈ b.weights, w < 2 ^ 64 := fun w hw => (hws w hw).1
  simp only [decodeBody, encodeBody, List.append_assoc]
  rw [bind_u64 _ hn, bind_u32 _ hh, bind_u32 _ hr]
  by_cases hr0 : b.rItems.length = 0
  · simp only [hr0, if_true] at hmode ⊢
    obtain ⟨hnh, hnk, htw0⟩ := hmode
    have hpf : (c.preWarmup == c.preFull) = false := by simp [hne]
    rw [bind_guard _ (by rw [if_pos hnk]; simp [hnh])]
    simp only [hpf, Bool.false_eq_true, if_false, List.nil_append]
    rw [bind_pure, bind_ok (decU64s_enc b.weights rfl hws' _), bind_guard _ (all_posF64 b.weights hws), bind_marks g b.marks _ hml,
      bind_ok (decItems_enc sd hsd b.hItems hhl hhi _), bind_ok (decItems_enc sd hsd b.rItems hr0 hri _), ← htw0]
    rfl
  · simp only [hr0, if_false] at hmode ⊢
    obtain ⟨hkn, hhr, htwp⟩ := hmode
    have hnk : ¬ b.n ≤ k := by omega
    rw [bind_guard _ (by rw [if_neg hnk]; simp [hhr])]
    simp only [beq_self_eq_true, if_true]
    rw [bind_assoc, bind_u64 _ htw, bind_assoc, bind_guard _ (by simp [htwp, hr0]), bind_pure,
      bind_ok (decU64s_enc b.weights rfl hws' _), bind_guard _ (all_posF64 b.weights hws), bind_marks g b.marks _ hml,
      bind_ok (decItems_enc sd hsd b.hItems hhl hhi _), bind_ok (decItems_enc sd hsd b.rItems rfl hri _)]
    rfl

theorem decodeBody_within (c : VoConsts) (sd : Serde ι) (hsd : sd.Lawful) (pre k : Nat) (g : Bool) :
    Within 1 0 (decodeBody c sd pre k g) fun body =>
      match body with | none => 0 | some x => x.weights.length + x.hItems.length + x.rItems.length :=
  Within_pass (PS_leNat 8) fun _ => Within_pass (PS_leNat 4) fun h => Within_pass (PS_leNat 4) fun r =>
  Post_guard fun _ =>
  -- the optional `total_wt_r` field
  Within_pass (PS_ite _ _ _ (PS_bind _ _ (PS_leNat 8) fun _ => PS_bind _ _ (PS_guard _) fun _ => PS_pure _) (PS_pure _)) fun _ =>
  Within_bind (decU64s_within h) fun _ => Post_guard fun _ =>
  Within_pass (PS_ite _ _ _ (PS_marksRd _ _) (PS_pure _)) fun _ => Within_bind (decItems_within sd hsd h) fun _ =>
  Within_bind (decItems_within sd hsd r) fun _ => Within_pure (by rw [Nat.zero_add]; exact Nat.le_refl _)

theorem decode_within (c : VoConsts) (sd : Serde ι) (hsd : sd.Lawful) : Within 1 0 (decode c sd) count := by
  unfold decode
  refine Within_pass (PS_leNat 1) fun _ => Within_pass (PS_leNat 1) fun _ => Within_pass (PS_leNat 1) fun _ =>
    Within_pass (PS_leNat 1) fun _ => Within_pass (PS_leNat 4) fun _ => Post_guard fun _ =>
    Post_guard fun _ => Post_guard fun _ => Post_map _ ?_
  split
  · exact Within_pure (Nat.le_refl 0)
  · exact decodeBody_within c sd hsd _ _ _

theorem uDecodeBody_within (c : VoConsts) (sd : Serde ι) (hsd : sd.Lawful) (e : Bool) :
    Within 1 0 (uDecodeBody c sd e) fun body => match body with | none => 0 | some x => count x.gadget := by
  unfold uDecodeBody
  split
  · exact Within_pure (Nat.le_refl 0)
  · exact Within_pass (PS_leNat 8) fun _ => Within_pass (PS_leNat 8) fun _ => Within_pass (PS_leNat 8) fun _ =>
      Post_map _ (decode_within c sd hsd)

theorem uDecode_within (cu : VuConsts) (c : VoConsts) (sd : Serde ι) (hsd : sd.Lawful) :
    Within 1 0 (uDecode cu c sd) uCount :=
  Within_pass (PS_leNat 1) fun _ => Within_pass (PS_leNat 1) fun _ => Within_pass (PS_leNat 1) fun _ =>
  Within_pass (PS_leNat 1) fun _ => Within_pass (PS_leNat 4) fun _ => Post_guard fun _ =>
  Post_guard fun _ => Post_guard fun _ => Post_map _ (uDecodeBody_within c sd hsd _)

end DS.Wire.VarOpt
