/- C19, KLL sketch: the invariants `Inv` and `Usable` and their transport; the arithmetic the specs share: capacities, and the
   weight bookkeeping `n = Σ 2^l · |level l|` behind the bound on the number of levels. -/
import DSProofs.Lemmas.LifeKllSteps
namespace DS.Life.Kll
open DS.Life

/-- the blocks of a sketch: its object storage (with the min/max optionals), the items block, the sorted view -/
def owned (s : Sketch) : List Nat := s.self :: (s.items.toList ++ s.view.toList)

/-- side conditions on the tunables: compaction always removes at least one item (`m ≥ 2`), and the initial
    capacity is `k` (`m ≤ MIN_K`) -/
def Params.OK (P : Params) : Prop := 2 ≤ P.defaultM ∧ P.defaultM ≤ P.minK

/-- pure bookkeeping of `levels_`, `num_levels_`, `items_size_` -/
structure LevelsOK (k m numLevels : Nat) (levels : List Nat) (itemsSize : Nat) : Prop where
  nl : 1 ≤ numLevels
  len : levels.length = numLevels + 1
  mono : ∀ i, i < numLevels → levels.getD i 0 ≤ levels.getD (i + 1) 0
  top : levels.getD numLevels 0 = itemsSize
  cap : itemsSize = computeTotalCapacity k m numLevels

/-- the items block as `Inv` knows it: raw below `l0`, objects (live or moved-from) from there on.  `ItemsLive` below is the same
    with live objects, for a usable sketch; `ItemsOK` (LifeKllUpdate) adds `items_` and the levels -/
structure ItemsAt (h : Heap) (b l0 size : Nat) : Prop where
  cells : HasCells h b size
  raw : ∀ i, i < l0 → stAt h b i = .raw
  nonraw : ∀ i, l0 ≤ i → i < size → stAt h b i ≠ .raw

/-- enough to destroy the object or to assign to it (also holds of a moved-from sketch) -/
structure Inv (P : Params) (h : Heap) (s : Sketch) : Prop where
  m_eq : s.m = P.defaultM
  self_cells : HasCells h s.self 2
  self_lt : s.self < h.next
  view_ok : ∀ v, s.view = some v → HasCells h v 1 ∧ stAt h v 0 = .raw ∧ v < h.next ∧ v ≠ s.self
  items_ok : ∀ b, s.items = some b →
    LevelsOK s.k s.m s.numLevels s.levels s.itemsSize ∧ ItemsAt h b (s.levels.getD 0 0) s.itemsSize ∧
    b < h.next ∧ b ≠ s.self ∧ s.view ≠ some b

/-- safe to use: the items block exists, every retained item and engaged min/max is live -/
structure Usable (P : Params) (h : Heap) (s : Sketch) : Prop where
  toInv : Inv P h s
  items : ∃ b, s.items = some b ∧ ∀ i, s.levels.getD 0 0 ≤ i → i < s.itemsSize → ∃ v, stAt h b i = .live v
  mm0 : s.n = 0 → stAt h s.self 0 = .raw ∧ stAt h s.self 1 = .raw
  mm1 : s.n ≠ 0 → (∃ v, stAt h s.self 0 = .live v) ∧ (∃ v, stAt h s.self 1 = .live v)
  ret : s.n ≠ 0 → s.levels.getD 0 0 < s.itemsSize
  wt : sumSampleWeights s.numLevels s.levels = s.n
  pw : s.numLevels = 1 ∨ 2 ^ (s.numLevels - 1) ≤ s.n

theorem Usable.inv {P : Params} {h : Heap} {s : Sketch} (u : Usable P h s) : Inv P h s := u.toInv

theorem mem_owned {s : Sketch} {b : Nat} : b ∈ owned s ↔ b = s.self ∨ s.items = some b ∨ s.view = some b := by
  unfold owned
  cases s.items <;> cases s.view <;> simp [eq_comm]

theorem owns_fresh {h' : Heap} {ids0 : List Nat} {a n0 : Nat} {d : Sketch} (hid : h'.ids = (a + 1) :: a :: ids0)
    (hn : n0 ≤ a) (e1 : d.self = a) (e2 : d.items = some (a + 1)) (e3 : d.view = none) :
    Owns h' ids0 [] (owned d) n0 := by
  rw [show owned d = [a, a + 1] by rw [owned, e1, e2, e3]; rfl]
  refine ⟨fun x => ?_, fun x hx => Or.inr ?_⟩
  · rw [hid, List.mem_cons, List.mem_cons, List.mem_cons, List.mem_singleton]
    exact ⟨fun h => h.elim (.inr ∘ .inr) fun h => h.elim (.inr ∘ .inl) fun h => .inl ⟨h, List.not_mem_nil⟩,
      fun h => h.elim (fun h => .inr (.inr h.1)) fun h => h.elim (.inr ∘ .inl) .inl⟩
  · rcases List.mem_cons.1 hx with rfl | h
    · exact hn
    · exact List.mem_singleton.1 h ▸ Nat.le_succ_of_le hn

section
variable {P : Params} {h : Heap} {s : Sketch} {b v : Nat} (i : Inv P h s)
include i

theorem Inv.items_lok (hb : s.items = some b) : LevelsOK s.k s.m s.numLevels s.levels s.itemsSize := (i.items_ok b hb).1
theorem Inv.items_at (hb : s.items = some b) : ItemsAt h b (s.levels.getD 0 0) s.itemsSize := (i.items_ok b hb).2.1
theorem Inv.items_lt (hb : s.items = some b) : b < h.next := (i.items_ok b hb).2.2.1
theorem Inv.items_ne_self (hb : s.items = some b) : b ≠ s.self := (i.items_ok b hb).2.2.2.1
theorem Inv.items_ne_view (hb : s.items = some b) : s.view ≠ some b := (i.items_ok b hb).2.2.2.2
theorem Inv.view_cells (hv : s.view = some v) : HasCells h v 1 := (i.view_ok v hv).1
theorem Inv.view_raw (hv : s.view = some v) : stAt h v 0 = .raw := (i.view_ok v hv).2.1
theorem Inv.view_lt (hv : s.view = some v) : v < h.next := (i.view_ok v hv).2.2.1
theorem Inv.view_ne_self (hv : s.view = some v) : v ≠ s.self := (i.view_ok v hv).2.2.2

end

/-- `Usable` only looks at these fields (not at `lvl0Sorted`, `minK`) -/
theorem Usable.of_fields {P : Params} {h : Heap} {s s' : Sketch} (u : Usable P h s)
    (e1 : s'.self = s.self) (e2 : s'.k = s.k) (e3 : s'.m = s.m) (e4 : s'.numLevels = s.numLevels) (e5 : s'.n = s.n)
    (e6 : s'.levels = s.levels) (e7 : s'.items = s.items) (e8 : s'.itemsSize = s.itemsSize) (e9 : s'.view = s.view) :
    Usable P h s' := by
  obtain ⟨self, k, m, minK, nl, srt, n, ls, items, sz, view⟩ := s
  obtain ⟨self', k', m', minK', nl', srt', n', ls', items', sz', view'⟩ := s'
  simp only at e1 e2 e3 e4 e5 e6 e7 e8 e9
  subst e1 e2 e3 e4 e5 e6 e7 e8 e9
  exact ⟨⟨u.toInv.m_eq, u.toInv.self_cells, u.toInv.self_lt, u.toInv.view_ok, u.toInv.items_ok⟩, u.items, u.mm0, u.mm1, u.ret,
    u.wt, u.pw⟩


theorem ItemsAt.transfer {h h' : Heap} {b l0 size : Nat} (so : SameOn h h' b) (i : ItemsAt h b l0 size) :
    ItemsAt h' b l0 size :=
  ⟨so.cells _ i.cells, fun j hj => by rw [so.st]; exact i.raw j hj, fun j h1 h2 => by rw [so.st]; exact i.nonraw j h1 h2⟩

/-- the transport rule of `Inv`: the object storage keeps its two cells (`Inv` does not look at the states of the optionals),
    the view block looks the same, the items block still is one -/
theorem Inv.of_parts {P : Params} {h h' : Heap} {s : Sketch} (i : Inv P h s) (hn : h.next ≤ h'.next) (hc : HasCells h' s.self 2)
    (hv : ∀ v, s.view = some v → SameOn h h' v)
    (hi : ∀ b, s.items = some b → ItemsAt h b (s.levels.getD 0 0) s.itemsSize → ItemsAt h' b (s.levels.getD 0 0) s.itemsSize) :
    Inv P h' s :=
  ⟨i.m_eq, hc, Nat.lt_of_lt_of_le i.self_lt hn,
    fun v e => have ⟨a, b, c, d⟩ := i.view_ok v e
      ⟨(hv v e).cells _ a, ((hv v e).st 0).trans b, Nat.lt_of_lt_of_le c hn, d⟩,
    fun b e => have ⟨a, c, d, x⟩ := i.items_ok b e
      ⟨a, hi b e c, Nat.lt_of_lt_of_le d hn, x⟩⟩

theorem Inv.transfer_but_self {P : Params} {h h' : Heap} {o : Sketch} (inv : Inv P h o)
    (so : ∀ x, x ∈ owned o → x ≠ o.self → SameOn h h' x) (hc : HasCells h' o.self 2) (hn : h.next ≤ h'.next) :
    Inv P h' o :=
  inv.of_parts hn hc (fun v e => so v (mem_owned.2 (.inr (.inr e))) (inv.view_ne_self e))
    fun b e c => c.transfer (so b (mem_owned.2 (.inr (.inl e))) (inv.items_ne_self e))

theorem Inv.transfer {P : Params} {h h' : Heap} {s : Sketch} (so : ∀ b, b ∈ owned s → SameOn h h' b)
    (hn : h.next ≤ h'.next) (i : Inv P h s) : Inv P h' s :=
  i.transfer_but_self (fun x hx _ => so x hx) ((so _ (mem_owned.2 (Or.inl rfl))).cells _ i.self_cells) hn

/-- objects of the items block of `o` were moved from: `o` can still be destroyed / assigned to -/
theorem Inv.of_nonraw {P : Params} {h h' : Heap} {o : Sketch} {ob : Nat} (inv : Inv P h o) (hob : o.items = some ob)
    (so : ∀ x, x ∈ owned o → x ≠ ob → SameOn h h' x) (hn : h.next ≤ h'.next)
    (hc : ∀ m, HasCells h ob m → HasCells h' ob m)
    (hst : ∀ j, stAt h' ob j = stAt h ob j ∨ (stAt h ob j ≠ .raw ∧ stAt h' ob j ≠ .raw)) : Inv P h' o := by
  refine inv.of_parts hn ((so _ (mem_owned.2 (.inl rfl)) fun e => inv.items_ne_self hob e.symm).cells _ inv.self_cells)
    (fun v e => so v (mem_owned.2 (.inr (.inr e))) fun x => inv.items_ne_view hob (x ▸ e)) fun b e c => ?_
  obtain rfl := Option.some.inj (hob.symm.trans e)
  exact ⟨hc _ c.cells, fun j hj => (hst j).elim (fun x => x.trans (c.raw j hj)) fun x => absurd (c.raw j hj) x.1,
    fun j h1 h2 => (hst j).elim (fun x => x ▸ c.nonraw j h1 h2) (·.2)⟩

/-- the min/max optionals (cells 0 and 1 of the object storage) are engaged exactly when `n ≠ 0`; said of any block `b` that
    shows their states, since copies and moves put them into a new storage -/
theorem mm_of_eq {P : Params} {h h' : Heap} {s : Sketch} (u : Usable P h s) {b : Nat}
    (e0 : stAt h' b 0 = stAt h s.self 0) (e1 : stAt h' b 1 = stAt h s.self 1) :
    (s.n = 0 → stAt h' b 0 = .raw ∧ stAt h' b 1 = .raw) ∧
    (s.n ≠ 0 → (∃ v, stAt h' b 0 = .live v) ∧ (∃ v, stAt h' b 1 = .live v)) := by
  rw [e0, e1]; exact ⟨u.mm0, u.mm1⟩

theorem Usable.transfer {P : Params} {h h' : Heap} {s : Sketch} (so : ∀ b, b ∈ owned s → SameOn h h' b)
    (hn : h.next ≤ h'.next) (u : Usable P h s) : Usable P h' s :=
  have ss := so _ (mem_owned.2 (Or.inl rfl))
  have hmm := mm_of_eq u (ss.st 0) (ss.st 1)
  ⟨u.toInv.transfer so hn, u.items.imp fun b x => ⟨x.1, LiveOn.sameOn (so b (mem_owned.2 (.inr (.inl x.1)))) x.2⟩,
    hmm.1, hmm.2, u.ret, u.wt, u.pw⟩

theorem Inv.local {P : Params} {h h' : Heap} {s : Sketch} (e : ∀ b, b ∈ owned s → h'.find? b = h.find? b)
    (hn : h.next ≤ h'.next) (i : Inv P h s) : Inv P h' s :=
  i.transfer (fun b hb => SameOn.of_find? (e b hb)) hn

theorem Usable.local {P : Params} {h h' : Heap} {s : Sketch} (e : ∀ b, b ∈ owned s → h'.find? b = h.find? b)
    (hn : h.next ≤ h'.next) (u : Usable P h s) : Usable P h' s :=
  u.transfer (fun b hb => SameOn.of_find? (e b hb)) hn

theorem Inv.owned_ids {P : Params} {h : Heap} {s : Sketch} (i : Inv P h s) :
    ∀ b, b ∈ owned s → b ∈ h.ids ∧ b < h.next := by
  intro b hb
  rcases mem_owned.1 hb with rfl | hb | hb
  · exact ⟨HasCells.mem_ids i.self_cells, i.self_lt⟩
  · obtain ⟨_, c, d, _, _⟩ := i.items_ok b hb
    exact ⟨HasCells.mem_ids c.cells, d⟩
  · obtain ⟨a, _, c, _⟩ := i.view_ok b hb
    exact ⟨HasCells.mem_ids a, c⟩

theorem Usable.mm_src {P : Params} {h : Heap} {s : Sketch} (u : Usable P h s) :
    (stAt h s.self 0 = .raw ∨ ∃ v, stAt h s.self 0 = .live v) ∧ (stAt h s.self 1 = .raw ∨ ∃ v, stAt h s.self 1 = .live v) := by
  by_cases hn : s.n = 0
  · exact ⟨Or.inl (u.mm0 hn).1, Or.inl (u.mm0 hn).2⟩
  · exact ⟨Or.inr (u.mm1 hn).1, Or.inr (u.mm1 hn).2⟩

theorem Inv.rehome {P : Params} {h h' : Heap} {s : Sketch} (i : Inv P h s) (self' : Nat) (vw : Option Nat)
    (hself : HasCells h' self' 2) (hlt : self' < h'.next)
    (hitems : ∀ b, s.items = some b → SameOn h h' b ∧ b ≠ self' ∧ vw ≠ some b) (hn : h.next ≤ h'.next)
    (hv : ∀ v, vw = some v → HasCells h' v 1 ∧ stAt h' v 0 = .raw ∧ v < h'.next ∧ v ≠ self') :
    Inv P h' { s with self := self', view := vw } :=
  ⟨i.m_eq, hself, hlt, hv, fun b hb =>
    ⟨i.items_lok hb, (i.items_at hb).transfer (hitems b hb).1, Nat.lt_of_lt_of_le (i.items_lt hb) hn, (hitems b hb).2⟩⟩

theorem Usable.rehome {P : Params} {h h' : Heap} {s : Sketch} (u : Usable P h s) (self' : Nat) (vw : Option Nat)
    (hself : HasCells h' self' 2) (hlt : self' < h'.next)
    (e0 : stAt h' self' 0 = stAt h s.self 0) (e1 : stAt h' self' 1 = stAt h s.self 1)
    (hitems : ∀ b, s.items = some b → SameOn h h' b ∧ b ≠ self' ∧ vw ≠ some b) (hn : h.next ≤ h'.next)
    (hv : ∀ v, vw = some v → HasCells h' v 1 ∧ stAt h' v 0 = .raw ∧ v < h'.next ∧ v ≠ self') :
    Usable P h' { s with self := self', view := vw } :=
  have hmm := mm_of_eq u e0 e1
  ⟨u.toInv.rehome self' vw hself hlt hitems hn hv, u.items.imp fun b x => ⟨x.1, LiveOn.sameOn (hitems b x.1).1 x.2⟩,
    hmm.1, hmm.2, u.ret, u.wt, u.pw⟩

/-- `ItemsAt` of a usable sketch: live, not only non-raw -/
structure ItemsLive (h : Heap) (b l0 size : Nat) : Prop where
  cells : HasCells h b size
  raw : ∀ i, i < l0 → stAt h b i = .raw
  live : LiveOn h b l0 size

theorem ItemsLive.itemsAt {h : Heap} {b l0 size : Nat} (il : ItemsLive h b l0 size) : ItemsAt h b l0 size :=
  ⟨il.cells, il.raw, fun i h1 h2 => by obtain ⟨v, hv⟩ := il.live i h1 h2; rw [hv]; simp⟩

theorem ItemsLive.transfer {h h' : Heap} {b l0 size : Nat} (so : SameOn h h' b) (il : ItemsLive h b l0 size) :
    ItemsLive h' b l0 size :=
  ⟨so.cells _ il.cells, fun j hj => (so.st j).trans (il.raw j hj), il.live.sameOn so⟩

theorem Usable.itemsLive {P : Params} {h : Heap} {s : Sketch} (u : Usable P h s) {b : Nat} (hb : s.items = some b) :
    ItemsLive h b (s.levels.getD 0 0) s.itemsSize := by
  obtain ⟨b', hb', hl⟩ := u.items
  obtain rfl := Option.some.inj (hb.symm.trans hb')
  exact ⟨(u.toInv.items_at hb).cells, (u.toInv.items_at hb).raw, hl⟩

theorem Usable.build {P : Params} {h : Heap} {s : Sketch} (m_eq : s.m = P.defaultM)
    (self_cells : HasCells h s.self 2) (self_lt : s.self < h.next)
    (view_ok : ∀ v, s.view = some v → HasCells h v 1 ∧ stAt h v 0 = .raw ∧ v < h.next ∧ v ≠ s.self)
    {b : Nat} (hb : s.items = some b) (lok : LevelsOK s.k s.m s.numLevels s.levels s.itemsSize)
    (il : ItemsLive h b (s.levels.getD 0 0) s.itemsSize) (hblt : b < h.next) (hbself : b ≠ s.self)
    (hbview : s.view ≠ some b)
    (mm0 : s.n = 0 → stAt h s.self 0 = .raw ∧ stAt h s.self 1 = .raw)
    (mm1 : s.n ≠ 0 → (∃ v, stAt h s.self 0 = .live v) ∧ (∃ v, stAt h s.self 1 = .live v))
    (ret : s.n ≠ 0 → s.levels.getD 0 0 < s.itemsSize) (wt : sumSampleWeights s.numLevels s.levels = s.n)
    (pw : s.numLevels = 1 ∨ 2 ^ (s.numLevels - 1) ≤ s.n) : Usable P h s := by
  refine ⟨⟨m_eq, self_cells, self_lt, view_ok, ?_⟩, ⟨b, hb, il.live⟩, mm0, mm1, ret, wt, pw⟩
  intro b' hb'
  rw [hb] at hb'; cases hb'
  exact ⟨lok, il.itemsAt, hblt, hbself, hbview⟩

theorem mono_chain {f : Nat → Nat} {a b : Nat} (hm : ∀ l, a ≤ l → l < b → f l ≤ f (l + 1)) :
    ∀ j i, a ≤ i → i ≤ j → j ≤ b → f i ≤ f j := by
  intro j i ha hi
  induction hi with
  | refl => exact fun _ => Nat.le_refl _
  | @step j hij ih => exact fun hj => Nat.le_trans (ih (Nat.le_of_succ_le hj)) (hm j (Nat.le_trans ha hij) hj)

theorem LevelsOK.le_of_le {k m nl : Nat} {ls : List Nat} {sz : Nat} (l : LevelsOK k m nl ls sz) (j i : Nat) (hi : i ≤ j)
    (hj : j ≤ nl) : ls.getD i 0 ≤ ls.getD j 0 :=
  mono_chain (f := fun i => ls.getD i 0) (a := 0) (fun i _ hi => l.mono i hi) j i (Nat.zero_le _) hi hj

theorem LevelsOK.le_top {k m nl : Nat} {ls : List Nat} {sz : Nat} (l : LevelsOK k m nl ls sz) (i : Nat) (hi : i ≤ nl) :
    ls.getD i 0 ≤ sz := by
  rw [← l.top]; exact l.le_of_le nl i hi (Nat.le_refl _)

theorem LevelsOK.init {k m a c : Nat} (ha : a ≤ c) (hc : c = computeTotalCapacity k m 1) : LevelsOK k m 1 [a, c] c := by
  refine ⟨Nat.le_refl _, rfl, fun i hi => ?_, rfl, hc⟩
  rw [Nat.lt_one_iff.1 hi]
  exact ha

theorem foldl_add_init (l : List Nat) (a : Nat) : l.foldl (· + ·) a = a + l.foldl (· + ·) 0 := by
  induction l generalizing a with
  | nil => rfl
  | cons x xs ih => rw [List.foldl_cons, List.foldl_cons, ih (a + x), ih (0 + x), Nat.zero_add, Nat.add_assoc]

/-- the levels below the new top level each have one more level above them -/
theorem computeTotalCapacity_succ (k m n : Nat) :
    computeTotalCapacity k m (n + 1) = computeTotalCapacity k m n + levelCapacity k (n + 1) 0 m := by
  unfold computeTotalCapacity
  rw [List.range_succ_eq_map, List.map_cons, List.foldl_cons, foldl_add_init, List.map_map, Nat.zero_add, Nat.add_comm]
  exact congrArg (fun g => (List.map g (List.range n)).foldl (· + ·) 0 + _)
    (funext fun h => congrArg (fun d => max m (intCapAux k (d - 1))) (Nat.add_sub_add_right n 1 h))

theorem levelCapacity_ge (k n h m : Nat) : m ≤ levelCapacity k n h m := Nat.le_max_left _ _

theorem computeTotalCapacity_one (k m : Nat) (hm : m ≤ k) : computeTotalCapacity k m 1 = k := by
  rw [computeTotalCapacity_succ k m 0, levelCapacity, intCapAux, if_pos (Nat.zero_le 30)]
  show 0 + max m ((2 * k * 1 / 1 + 1) / 2) = k
  rw [Nat.zero_add, Nat.mul_one, Nat.div_one, Nat.mul_add_div Nat.zero_lt_two]
  exact Nat.max_eq_right hm

theorem computeTotalCapacity_pred (k m n : Nat) (hn : 1 ≤ n) :
    computeTotalCapacity k m n = computeTotalCapacity k m (n - 1) + levelCapacity k n 0 m := by
  cases n with
  | zero => exact absurd hn (Nat.not_succ_le_zero 0)
  | succ n => exact computeTotalCapacity_succ k m n

theorem levelCapacity_depth (k N cl m : Nat) :
    levelCapacity k N cl m = levelCapacity k (N - cl) 0 m := rfl

theorem computeTotalCapacity_one_ge (k m : Nat) : m ≤ computeTotalCapacity k m 1 :=
  Nat.le_trans (levelCapacity_ge k 1 0 m) (computeTotalCapacity_succ k m 0 ▸ Nat.le_add_left _ _)


/-- total weight recorded in the levels (`Usable.wt`: it is `n`); the parts of `update` and `merge` run while `n` is not
    yet the weight, so their specs speak of `W` -/
def W (s : Sketch) : Nat := sumSampleWeights s.numLevels s.levels

/-- the bound on the number of levels in terms of the recorded weight (`Usable.pw` with `W s` for `n`); unrelated to the
    pointwise list relation `PW` of the KllHist family -/
def PW (s : Sketch) : Prop := s.numLevels = 1 ∨ 2 ^ (s.numLevels - 1) ≤ W s

/-- `Σ_{l < n} 2^l · f l`: the weight of `n` levels with populations `f` (`sumSampleWeights_eq`) -/
def wsum (f : Nat → Nat) : Nat → Nat
  | 0 => 0
  | n + 1 => wsum f n + 2 ^ n * f n

theorem wsum_succ (f : Nat → Nat) (n : Nat) : wsum f (n + 1) = wsum f n + 2 ^ n * f n := rfl

/-- population of level `l` -/
def pop (ls : List Nat) (l : Nat) : Nat := ls.getD (l + 1) 0 - ls.getD l 0

theorem sumSampleWeights_eq (nl : Nat) (ls : List Nat) : sumSampleWeights nl ls = wsum (pop ls) nl := by
  unfold sumSampleWeights
  induction nl with
  | zero => rfl
  | succ n ih =>
    rw [List.range_succ, List.map_append, List.foldl_append, ih]
    rfl

theorem wsum_congr {f g : Nat → Nat} {n : Nat} (h : ∀ l, l < n → f l = g l) : wsum f n = wsum g n := by
  induction n with
  | zero => rfl
  | succ n ih =>
    rw [wsum_succ, wsum_succ, ih fun l hl => h l (Nat.lt_succ_of_lt hl), h n (Nat.lt_succ_self n)]

theorem wsum_bump0 {f g : Nat → Nat} {n : Nat} (hn : 0 < n) (h0 : g 0 = f 0 + 1) (h : ∀ l, l ≠ 0 → g l = f l) :
    wsum g n = wsum f n + 1 := by
  induction (show 1 ≤ n from hn) with
  | refl =>
    show 0 + 2 ^ 0 * g 0 = 0 + 2 ^ 0 * f 0 + 1
    rw [h0, Nat.mul_add, Nat.add_assoc]
  | @step m hm ih =>
    rw [wsum_succ, wsum_succ, ih hm, h m (Nat.ne_of_gt hm), Nat.add_right_comm]

/-- `2h` items leave level `i`, `h` items arrive at level `i + 1` -/
theorem wsum_move {f g : Nat → Nat} {n i hh : Nat} (hi : i + 1 < n) (h1 : g i + 2 * hh = f i)
    (h2 : g (i + 1) = f (i + 1) + hh) (h : ∀ l, l ≠ i → l ≠ i + 1 → g l = f l) : wsum g n = wsum f n := by
  induction (show i + 2 ≤ n from hi) with
  | refl =>
    -- below `i` nothing changes; `2^i · 2h` of weight is taken from level `i` and `2^(i+1) · h` added to level `i + 1`
    rw [wsum_succ, wsum_succ, wsum_succ, wsum_succ, wsum_congr fun l hl => h l (Nat.ne_of_lt hl) (Nat.ne_of_lt (Nat.lt_succ_of_lt hl)), h2, ← h1, Nat.pow_succ,
      Nat.mul_add, Nat.mul_add, Nat.mul_assoc (2 ^ i) 2 hh]
    ac_rfl
  | @step m hm ih =>
    rw [wsum_succ, wsum_succ, ih (Nat.lt_of_succ_le hm), h m (Nat.ne_of_gt (Nat.lt_of_lt_of_le (Nat.lt_succ_of_lt (Nat.lt_succ_self i)) hm))
      (Nat.ne_of_gt hm)]

theorem wsum_top_le (f : Nat → Nat) (n : Nat) : 2 ^ n * f n ≤ wsum f (n + 1) := Nat.le_add_left _ _

theorem sumSampleWeights_congr {nl : Nat} {ls ls' : List Nat} (h : ∀ i, i ≤ nl → ls'.getD i 0 = ls.getD i 0) :
    sumSampleWeights nl ls' = sumSampleWeights nl ls := by
  rw [sumSampleWeights_eq, sumSampleWeights_eq]
  exact wsum_congr fun l hl => by rw [pop, pop, h l (Nat.le_of_lt hl), h (l + 1) hl]

theorem wsum_add (f g : Nat → Nat) (n : Nat) : wsum (fun l => f l + g l) n = wsum f n + wsum g n := by
  induction n with
  | zero => rfl
  | succ n ih =>
    rw [wsum_succ, wsum_succ, wsum_succ, ih, Nat.mul_add, Nat.add_assoc, Nat.add_assoc, Nat.add_left_comm (wsum g n)]

theorem wsum_ext_zero (f : Nat → Nat) {nl n : Nat} (h : nl ≤ n) :
    wsum (fun l => if l < nl then f l else 0) n = wsum f nl := by
  induction h with
  | refl => exact wsum_congr fun l hl => if_pos hl
  | @step m hm ih =>
    rw [wsum_succ, ih, if_neg (Nat.not_lt.2 hm), Nat.mul_zero, Nat.add_zero]

theorem wsum_drop0 (f : Nat → Nat) {n : Nat} (h : 1 ≤ n) :
    wsum (fun l => if l = 0 then 0 else f l) n + f 0 = wsum f n := by
  induction h with
  | refl =>
    show 0 + 2 ^ 0 * (if 0 = 0 then 0 else f 0) + f 0 = 0 + 2 ^ 0 * f 0
    rw [if_pos rfl, Nat.mul_zero, Nat.pow_zero, Nat.one_mul]
  | @step m hm ih =>
    rw [wsum_succ, wsum_succ, if_neg (Nat.ne_of_gt hm), Nat.add_right_comm, ih]

theorem pop0_le_W (s : Sketch) (h : 1 ≤ s.numLevels) : pop s.levels 0 ≤ W s := by
  rw [W, sumSampleWeights_eq, ← wsum_drop0 _ h]
  exact Nat.le_add_left _ _

theorem foldl_zero (l : List Nat) (hz : ∀ x, x ∈ l → x = 0) : l.foldl (· + ·) 0 = 0 := by
  induction l with
  | nil => rfl
  | cons x xs ih =>
    rw [List.foldl_cons, hz x (List.mem_cons_self ..)]
    exact ih fun y hy => hz y (List.mem_cons_of_mem _ hy)

/-- the weight check of `merge` gives "retained > 0" -/
theorem ret_of_weight {k m nl : Nat} {ls : List Nat} {sz : Nat} (lok : LevelsOK k m nl ls sz)
    (hw : sumSampleWeights nl ls ≠ 0) : ls.getD 0 0 < sz := by
  refine Decidable.by_contra fun hge => hw (foldl_zero _ fun x hx => ?_)
  obtain ⟨l, hl, rfl⟩ := List.mem_map.1 hx
  -- every level is empty: `levels[l+1] ≤ size ≤ levels[0] ≤ levels[l]`
  have hl' := List.mem_range.1 hl
  rw [Nat.sub_eq_zero_of_le (Nat.le_trans (lok.le_top (l + 1) hl')
    (Nat.le_trans (Nat.le_of_not_lt hge) (lok.le_of_le l 0 (Nat.zero_le _) (Nat.le_of_lt hl')))), Nat.mul_zero]

end DS.Life.Kll
