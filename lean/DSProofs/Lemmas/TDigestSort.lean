/-
t-digest (C17), exact arithmetic: the stable sort of `merge(buffer, weight)`.  Its first / last element is the FIRST element
of minimal mean / the LAST element of maximal mean of the input (stability), which is what makes the first and last
centroid singletons.
-/
import DSProofs.Lemmas.TDigestRat
namespace DS.TDigest
open Num Conv

abbrev C := Centroid Rat

def Sorted (l : List C) : Prop := l.Pairwise (fun a b => a.mean ≤ b.mean)

theorem sorted_cons {a : C} {l : List C} : Sorted (a :: l) ↔ (∀ b ∈ l, a.mean ≤ b.mean) ∧ Sorted l :=
  List.pairwise_cons

theorem head_le_of_sorted {c : C} {cs : List C} (hs : Sorted (c :: cs)) : ∀ d ∈ c :: cs, c.mean ≤ d.mean :=
  List.forall_mem_cons.2 ⟨le_refl _, (sorted_cons.1 hs).1⟩

theorem le_last_of_sorted {cs : List C} {l : C} (hs : Sorted cs) (hl : cs.getLast? = some l) : ∀ d ∈ cs, d.mean ≤ l.mean := by
  intro d hd
  obtain ⟨i, rfl⟩ := List.getLast?_eq_some_iff.1 hl
  unfold Sorted at hs
  rw [List.pairwise_append] at hs
  rcases List.mem_append.1 hd with h | h
  · exact hs.2.2 d h l (by simp)
  · simp at h; subst h; exact le_refl _

theorem Sorted.reverse_ge {l : List C} (h : Sorted l) : l.reverse.Pairwise (fun a b => b.mean ≤ a.mean) :=
  List.pairwise_reverse.2 h

/-- one step of the insertion, with the comparison as a proposition -/
theorem insertC_cons (x y : C) (ys : List C) :
    insertC x (y :: ys) = if y.mean < x.mean then y :: insertC x ys else x :: y :: ys := by
  simp only [insertC, rat_lt]

theorem mem_insertC {x c : C} {l : List C} : c ∈ insertC x l ↔ c = x ∨ c ∈ l := by
  rw [(insertC_perm x l).mem_iff, List.mem_cons]

theorem mem_stableSort {c : C} {l : List C} : c ∈ stableSort l ↔ c ∈ l :=
  (stableSort_perm l).mem_iff

theorem insertC_sorted (x : C) (l : List C) (h : Sorted l) : Sorted (insertC x l) := by
  induction l with
  | nil => exact List.pairwise_singleton _ _
  | cons y ys ih =>
    obtain ⟨hy, hys⟩ := sorted_cons.1 h
    rw [insertC_cons]
    split_ifs with hlt
    · exact sorted_cons.2 ⟨fun z hz => (mem_insertC.1 hz).elim (fun e => e ▸ hlt.le) (hy z), ih hys⟩
    · exact sorted_cons.2 ⟨fun z hz => (not_lt.1 hlt).trans (head_le_of_sorted h z hz), h⟩

theorem stableSort_sorted (l : List C) : Sorted (stableSort l) := by
  induction l with
  | nil => exact List.Pairwise.nil
  | cons x xs ih => exact insertC_sorted x _ ih

theorem stableSort_of_sorted {l : List C} (h : Sorted l) : stableSort l = l := by
  induction l with
  | nil => rfl
  | cons x xs ih =>
    obtain ⟨hx, hxs⟩ := sorted_cons.1 h
    show insertC x (stableSort xs) = _
    rw [ih hxs]
    cases xs with
    | nil => rfl
    | cons y ys => rw [insertC_cons, if_neg (not_lt.2 (hx y (List.mem_cons_self ..)))]

/-- the first element (in list order) among those of minimal mean -/
def firstMin : List C → Option C
  | [] => none
  | x :: xs =>
    match firstMin xs with
    | none => some x
    | some m => if m.mean < x.mean then some m else some x

/-- the last element (in list order) among those of maximal mean -/
def lastMax : List C → Option C
  | [] => none
  | x :: xs =>
    match lastMax xs with
    | none => some x
    | some m => if m.mean < x.mean then some x else some m

theorem head?_insertC (x : C) (l : List C) :
    (insertC x l).head? = (match l.head? with
      | none => some x
      | some y => if y.mean < x.mean then some y else some x) := by
  cases l with
  | nil => rfl
  | cons y ys =>
    rw [insertC_cons]
    show _ = if y.mean < x.mean then some y else some x
    split_ifs <;> rfl

theorem head?_stableSort (l : List C) : (stableSort l).head? = firstMin l := by
  induction l with
  | nil => rfl
  | cons x xs ih =>
    show (insertC x (stableSort xs)).head? = _
    rw [head?_insertC, ih]
    rfl

theorem getLast?_insertC (x : C) (l : List C) (h : Sorted l) :
    (insertC x l).getLast? = (match l.getLast? with
      | none => some x
      | some y => if y.mean < x.mean then some x else some y) := by
  induction l with
  | nil => rfl
  | cons y ys ih =>
    rw [insertC_cons]
    split_ifs with hlt
    · rw [List.getLast?_cons_of_ne_nil (insertC_ne_nil x ys), ih (sorted_cons.1 h).2]
      cases ys with
      | nil => exact (if_pos hlt).symm
      | cons z zs => rw [List.getLast?_cons_cons]
    · -- `x` goes first: the last element is the last of `y :: ys`, and it is not below `x`
      obtain ⟨e, he⟩ : ∃ e, (y :: ys).getLast? = some e := ⟨_, List.getLast?_cons⟩
      rw [List.getLast?_cons_cons, he]
      exact (if_neg (not_lt.2 ((not_lt.1 hlt).trans (le_last_of_sorted h he y (List.mem_cons_self ..))))).symm

theorem getLast?_stableSort (l : List C) : (stableSort l).getLast? = lastMax l := by
  induction l with
  | nil => rfl
  | cons x xs ih =>
    show (insertC x (stableSort xs)).getLast? = _
    rw [getLast?_insertC x _ (stableSort_sorted xs), ih]
    rfl

theorem firstMin_eq_none {l : List C} : firstMin l = none ↔ l = [] := by
  rw [← head?_stableSort, List.head?_eq_none_iff, stableSort_eq_nil]

theorem lastMax_eq_none {l : List C} : lastMax l = none ↔ l = [] := by
  rw [← getLast?_stableSort, List.getLast?_eq_none_iff, stableSort_eq_nil]

theorem firstMin_mem {l : List C} {m : C} (h : firstMin l = some m) : m ∈ l :=
  mem_stableSort.1 (List.mem_of_head? ((head?_stableSort l).trans h))

theorem lastMax_mem {l : List C} {m : C} (h : lastMax l = some m) : m ∈ l :=
  mem_stableSort.1 (List.mem_of_getLast? ((getLast?_stableSort l).trans h))

theorem firstMin_le {l : List C} {m : C} (h : firstMin l = some m) : ∀ c ∈ l, m.mean ≤ c.mean := by
  intro c hc
  obtain ⟨t, ht⟩ := List.head?_eq_some_iff.1 ((head?_stableSort l).trans h)
  exact head_le_of_sorted (ht ▸ stableSort_sorted l) c (ht ▸ mem_stableSort.2 hc)

theorem lastMax_ge {l : List C} {m : C} (h : lastMax l = some m) : ∀ c ∈ l, c.mean ≤ m.mean := fun c hc =>
  le_last_of_sorted (stableSort_sorted l) ((getLast?_stableSort l).trans h) c (mem_stableSort.2 hc)

theorem firstMin_sorted {l : List C} (h : Sorted l) : firstMin l = l.head? := by
  rw [← head?_stableSort, stableSort_of_sorted h]

theorem lastMax_sorted {l : List C} (h : Sorted l) : lastMax l = l.getLast? := by
  rw [← getLast?_stableSort, stableSort_of_sorted h]

theorem firstMin_append (a b : List C) :
    firstMin (a ++ b) = (match firstMin a, firstMin b with
      | none, y => y
      | some x, none => some x
      | some x, some y => if y.mean < x.mean then some y else some x) := by
  induction a with
  | nil => simp [firstMin]
  | cons x a ih =>
    simp only [List.cons_append, firstMin, ih]
    rcases ha : firstMin a with _ | p
    · rcases hb : firstMin b with _ | y <;> rfl
    · rcases hb : firstMin b with _ | y
      · simp only []; split_ifs <;> rfl
      · -- the third comparison, `y` against `x`, is left open only where the first two decide it by transitivity
        by_cases h1 : y.mean < p.mean <;> by_cases h2 : p.mean < x.mean <;> simp only [h1, h2, if_true, if_false]
        · exact if_pos (h1.trans h2)
        · exact (if_neg (not_lt.2 ((not_lt.1 h2).trans (not_lt.1 h1)))).symm

theorem lastMax_append (a b : List C) :
    lastMax (a ++ b) = (match lastMax a, lastMax b with
      | none, y => y
      | some x, none => some x
      | some x, some y => if y.mean < x.mean then some x else some y) := by
  induction a with
  | nil => simp [lastMax]
  | cons x a ih =>
    simp only [List.cons_append, lastMax, ih]
    rcases ha : lastMax a with _ | p
    · rcases hb : lastMax b with _ | y <;> rfl
    · rcases hb : lastMax b with _ | y
      · simp only []; split_ifs <;> rfl
      · by_cases h1 : y.mean < p.mean <;> by_cases h2 : p.mean < x.mean <;> simp only [h1, h2, if_true, if_false]
        · exact (if_pos (h1.trans h2)).symm
        · exact if_neg (not_lt.2 ((not_lt.1 h2).trans (not_lt.1 h1)))

/-- the element the stable sort will put first / last is a singleton: what `merge(buffer, weight)` needs of its working list
for the first / last centroid to stay one (the first and the last element are never merged, TDigestCluster) -/
def HeadW1 (l : List C) : Prop := ∀ m, firstMin l = some m → m.weight = 1
def LastW1 (l : List C) : Prop := ∀ m, lastMax l = some m → m.weight = 1

theorem firstMin_append_or (a b : List C) : firstMin (a ++ b) = firstMin a ∨ firstMin (a ++ b) = firstMin b := by
  rw [firstMin_append]
  rcases firstMin a with _ | x <;> rcases firstMin b with _ | y
  · exact .inl rfl
  · exact .inr rfl
  · exact .inl rfl
  · show (if _ then _ else _) = _ ∨ (if _ then _ else _) = _
    split_ifs
    exacts [.inr rfl, .inl rfl]

theorem lastMax_append_or (a b : List C) : lastMax (a ++ b) = lastMax a ∨ lastMax (a ++ b) = lastMax b := by
  rw [lastMax_append]
  rcases lastMax a with _ | x <;> rcases lastMax b with _ | y
  · exact .inl rfl
  · exact .inr rfl
  · exact .inl rfl
  · show (if _ then _ else _) = _ ∨ (if _ then _ else _) = _
    split_ifs
    exacts [.inl rfl, .inr rfl]

theorem HeadW1.append {a b : List C} (ha : HeadW1 a) (hb : HeadW1 b) : HeadW1 (a ++ b) := fun m hm =>
  (firstMin_append_or a b).elim (fun e => ha m (e ▸ hm)) fun e => hb m (e ▸ hm)

theorem LastW1.append {a b : List C} (ha : LastW1 a) (hb : LastW1 b) : LastW1 (a ++ b) := fun m hm =>
  (lastMax_append_or a b).elim (fun e => ha m (e ▸ hm)) fun e => hb m (e ▸ hm)

theorem HeadW1.of_all {l : List C} (h : ∀ c ∈ l, c.weight = 1) : HeadW1 l :=
  fun m hm => h m (firstMin_mem hm)

theorem LastW1.of_all {l : List C} (h : ∀ c ∈ l, c.weight = 1) : LastW1 l :=
  fun m hm => h m (lastMax_mem hm)

theorem HeadW1.of_sorted {l : List C} (hs : Sorted l) (h : ∀ c, l.head? = some c → c.weight = 1) : HeadW1 l :=
  fun m hm => h m (firstMin_sorted hs ▸ hm)

theorem LastW1.of_sorted {l : List C} (hs : Sorted l) (h : ∀ c, l.getLast? = some c → c.weight = 1) : LastW1 l :=
  fun m hm => h m (lastMax_sorted hs ▸ hm)

/-! ### least elements

`min_` / `max_` are treated alike with the order reversed, so the facts about them are stated once, for an order `r`
that is `≤` (minimum) or its converse (maximum). -/

def Least (r : Rat → Rat → Prop) (m : Rat) (l : List Rat) : Prop := m ∈ l ∧ ∀ v ∈ l, r m v

variable {r : Rat → Rat → Prop} {m : Rat} {l : List Rat}

/-- If `V` has an `r`-least element, it is the `r`-least element of `A` (`Least.cover`): every element of `A` is above one
of `V`, and a least element of `V` belongs to `A`.  A preorder on lists that respects `++`; it holds between the values a
digest holds and the values it has accepted, for `≤` and for `≥`. -/
def Cover (r : Rat → Rat → Prop) (V A : List Rat) : Prop :=
  (∀ a ∈ A, ∃ v ∈ V, r v a) ∧ ∀ m, Least r m V → m ∈ A

theorem Cover.append {V1 V2 A1 A2 : List Rat} (h1 : Cover r V1 A1) (h2 : Cover r V2 A2) :
    Cover r (V1 ++ V2) (A1 ++ A2) := by
  refine ⟨fun a ha => ?_, fun m hm => ?_⟩
  · rcases List.mem_append.1 ha with ha | ha
    · obtain ⟨v, hv, hva⟩ := h1.1 a ha
      exact ⟨v, List.mem_append_left _ hv, hva⟩
    · obtain ⟨v, hv, hva⟩ := h2.1 a ha
      exact ⟨v, List.mem_append_right _ hv, hva⟩
  · -- a least element of `V1 ++ V2` is a least element of the part it lies in
    rcases List.mem_append.1 hm.1 with h | h
    · exact List.mem_append_left _ (h1.2 m ⟨h, fun v hv => hm.2 v (List.mem_append_left _ hv)⟩)
    · exact List.mem_append_right _ (h2.2 m ⟨h, fun v hv => hm.2 v (List.mem_append_right _ hv)⟩)

variable [IsPartialOrder Rat r]

theorem Least.unique {a b : Rat} (h1 : Least r a l) (h2 : Least r b l) : a = b :=
  antisymm_of r (h1.2 b h2.1) (h2.2 a h1.1)

theorem Least.cover {V A : List Rat} (h : Least r m V) (hc : Cover r V A) : Least r m A :=
  ⟨hc.2 m h, fun a ha => let ⟨v, hv, hva⟩ := hc.1 a ha; trans_of r (h.2 v hv) hva⟩

theorem Cover.of_perm {V A : List Rat} (h : V.Perm A) : Cover r V A :=
  ⟨fun a ha => ⟨a, h.mem_iff.2 ha, refl_of r a⟩, fun _ hm => h.mem_iff.1 hm.1⟩

theorem Cover.refl (l : List Rat) : Cover r l l := .of_perm (.refl l)

theorem Cover.of_least {V A : List Rat} (hV : Least r m V) (hA : Least r m A) : Cover r V A :=
  ⟨fun a ha => ⟨m, hV.1, hA.2 a ha⟩, fun _ h => h.unique hV ▸ hA.1⟩

theorem Cover.trans {U V A : List Rat} (h1 : Cover r U V) (h2 : Cover r V A) : Cover r U A :=
  ⟨fun a ha => let ⟨v, hv, hva⟩ := h2.1 a ha; let ⟨u, hu, huv⟩ := h1.1 v hv; ⟨u, hu, trans_of r huv hva⟩,
    fun m hm => h2.2 m (hm.cover h1)⟩

theorem firstMin_least {l : List C} {m : C} (h : firstMin l = some m) : Least (· ≤ ·) m.mean (l.map (·.mean)) :=
  ⟨List.mem_map_of_mem (firstMin_mem h), fun v hv => by
    obtain ⟨c, hc, rfl⟩ := List.mem_map.1 hv; exact firstMin_le h c hc⟩

theorem lastMax_least {l : List C} {m : C} (h : lastMax l = some m) : Least (fun a b => b ≤ a) m.mean (l.map (·.mean)) :=
  ⟨List.mem_map_of_mem (lastMax_mem h), fun v hv => by
    obtain ⟨c, hc, rfl⟩ := List.mem_map.1 hv; exact lastMax_ge h c hc⟩

end DS.TDigest
