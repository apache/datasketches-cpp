/-
The arithmetic of the MSB-first bit stream specification (`joinFields`, `splitFields`, bytes as fields of 8 bits), up to
`unpackFields (packFields ds) = ds`.
-/
import DSModel.Wire.BitPack
namespace DS.Wire.BitPack

theorem two_pow_8_mul (len : Nat) : 2 ^ (8 * len) = 256 ^ len := by
  rw [Nat.pow_mul]

theorem shl_add_div {k B : Nat} (A : Nat) (hB : B < 2 ^ k) : (A * 2 ^ k + B) / 2 ^ k = A := by
  rw [Nat.add_comm, Nat.add_mul_div_right _ _ (Nat.two_pow_pos _), Nat.div_eq_of_lt hB, Nat.zero_add]

theorem shl_add_mod {k B : Nat} (A : Nat) (hB : B < 2 ^ k) : (A * 2 ^ k + B) % 2 ^ k = B := by
  rw [Nat.add_comm, Nat.add_mul_mod_self_right, Nat.mod_eq_of_lt hB]

theorem joinFields_lt (eb : Nat) (ds : List Nat) (h : ∀ d ∈ ds, d < 2 ^ eb) : joinFields eb ds < 2 ^ (eb * ds.length) := by
  induction ds with
  | nil => exact Nat.two_pow_pos _
  | cons d t ih =>
    rw [joinFields, List.length_cons, Nat.mul_succ, Nat.pow_add, Nat.mul_comm (2 ^ _)]
    exact Nat.lt_of_lt_of_le (Nat.add_lt_add_left (ih fun x hx => h x (List.mem_cons_of_mem d hx)) _)
      (Nat.succ_mul d _ ▸ Nat.mul_le_mul_right _ (h d List.mem_cons_self))

theorem splitFields_mod (eb : Nat) : ∀ n x, splitFields eb n (x % 2 ^ (eb * n)) = splitFields eb n x := by
  intro n
  induction n with
  | zero => intro x; rfl
  | succ n ih =>
    intro x
    rw [splitFields, splitFields, Nat.mul_succ, Nat.pow_add, Nat.mod_mul_right_div_self, Nat.mod_mod, ← ih (x % _),
      Nat.mod_mul_right_mod, ih]

theorem splitFields_joinFields (eb : Nat) (ds : List Nat) (h : ∀ d ∈ ds, d < 2 ^ eb) :
    splitFields eb ds.length (joinFields eb ds) = ds := by
  induction ds with
  | nil => rfl
  | cons d t ih =>
    have ht : ∀ x ∈ t, x < 2 ^ eb := fun x hx => h x (List.mem_cons_of_mem d hx)
    have hj := joinFields_lt eb t ht
    rw [List.length_cons, splitFields, joinFields, shl_add_div d hj, ← splitFields_mod, shl_add_mod d hj, ih ht,
      Nat.mod_eq_of_lt (h d List.mem_cons_self)]

theorem length_splitFields (eb n x : Nat) : (splitFields eb n x).length = n := by
  induction n with
  | zero => rfl
  | succ n ih => rw [splitFields, List.length_cons, ih]

theorem joinFields_splitFields (eb : Nat) : ∀ n x, joinFields eb (splitFields eb n x) = x % 2 ^ (eb * n)
  | 0, x => (Nat.mod_one x).symm
  | n + 1, x => by
    rw [splitFields, joinFields, length_splitFields, joinFields_splitFields eb n x, Nat.mul_succ, Nat.pow_add, Nat.mod_mul,
      Nat.mul_comm, Nat.add_comm]

theorem splitFields_lt (eb n x : Nat) : ∀ d ∈ splitFields eb n x, d < 2 ^ eb := by
  induction n with
  | zero => exact fun d hd => nomatch hd
  | succ n ih =>
    intro d hd
    rcases List.mem_cons.1 hd with rfl | hd
    · exact Nat.mod_lt _ (Nat.two_pow_pos _)
    · exact ih d hd

theorem getD_splitFields (eb n x j : Nat) (h : j < n) : (splitFields eb n x).getD j 0 = (x / 2 ^ (eb * (n - 1 - j))) % 2 ^ eb := by
  induction n generalizing j with
  | zero => exact absurd h (Nat.not_lt_zero j)
  | succ n ih =>
    cases j with
    | zero => rfl
    | succ j =>
      rw [splitFields, List.getD_cons_succ, ih j (Nat.lt_of_succ_lt_succ h), Nat.add_sub_cancel, Nat.sub_sub, Nat.add_comm 1 j]

theorem testBit_splitFields_get (eb n x j b : Nat) (hj : j < n) :
    ((splitFields eb n x).getD j 0).testBit b = (decide (b < eb) && x.testBit (eb * (n - 1 - j) + b)) := by
  rw [getD_splitFields eb n x j hj, Nat.testBit_mod_two_pow, Nat.testBit_div_two_pow, Nat.add_comm]

/-- `testBit_splitFields_get` read at `ds = splitFields (joinFields ds)` -/
theorem testBit_joinFields (eb : Nat) (ds : List Nat) (h : ∀ d ∈ ds, d < 2 ^ eb) (P : Nat) (hP : P < eb * ds.length) :
    (joinFields eb ds).testBit P = (ds.getD (ds.length - 1 - P / eb) 0).testBit (P % eb) := by
  have hpos : 0 < eb := Nat.pos_of_ne_zero fun h0 => by rw [h0, Nat.zero_mul] at hP; exact Nat.not_lt_zero _ hP
  have hq : P / eb < ds.length := (Nat.div_lt_iff_lt_mul hpos).2 (Nat.mul_comm eb _ ▸ hP)
  have := testBit_splitFields_get eb ds.length (joinFields eb ds) (ds.length - 1 - P / eb) (P % eb)
    (Nat.lt_of_le_of_lt (Nat.sub_le _ _) (Nat.sub_lt (Nat.zero_lt_of_lt hq) Nat.one_pos))
  rw [splitFields_joinFields eb ds h, decide_eq_true (Nat.mod_lt P hpos), Bool.true_and,
    Nat.sub_sub_self (Nat.le_sub_one_of_lt hq), Nat.div_add_mod] at this
  exact this.symm

theorem regroup_roundtrip {a b k m : Nat} (hab : a * k = b * m) (l : List Nat) (hl : l.length = k) (hv : ∀ v ∈ l, v < 2 ^ a) :
    splitFields a k (joinFields b (splitFields b m (joinFields a l))) = l := by
  rw [joinFields_splitFields, ← hab, ← hl, Nat.mod_eq_of_lt (joinFields_lt a l hv), splitFields_joinFields a l hv]

theorem joinFields_append (eb : Nat) (l1 l2 : List Nat) :
    joinFields eb (l1 ++ l2) = joinFields eb l1 * 2 ^ (eb * l2.length) + joinFields eb l2 := by
  induction l1 with
  | nil => simp [joinFields]
  | cons d t ih =>
    simp only [List.cons_append, joinFields, List.length_append, ih]
    rw [Nat.mul_add, Nat.pow_add, Nat.add_mul, Nat.mul_assoc, Nat.add_assoc]

theorem splitFields_append (eb a b A B : Nat) (hB : B < 2 ^ (eb * b)) :
    splitFields eb (a + b) (A * 2 ^ (eb * b) + B) = splitFields eb a A ++ splitFields eb b B := by
  induction a with
  | zero => rw [Nat.zero_add, ← splitFields_mod, shl_add_mod A hB]; rfl
  | succ a ih =>
    rw [Nat.add_right_comm, splitFields, splitFields, ih, List.cons_append, Nat.mul_add, Nat.pow_add, Nat.mul_comm (2 ^ (eb * a)),
      ← Nat.div_div_eq_div_mul, shl_add_div A hB]

theorem wBe_eq_map (len x : Nat) : wBe len x = (splitFields 8 len x).map UInt8.ofNat := by
  induction len with
  | zero => rfl
  | succ n ih => rw [wBe, splitFields, List.map_cons, ih, two_pow_8_mul]

theorem beNat_eq_joinFields (bs : Bytes) : beNat bs = joinFields 8 (bs.map (·.toNat)) := by
  induction bs with
  | nil => rfl
  | cons x t ih => rw [beNat, List.map_cons, joinFields, List.length_map, ih, two_pow_8_mul]

theorem length_wBe (len x : Nat) : (wBe len x).length = len := by
  rw [wBe_eq_map, List.length_map, length_splitFields]

theorem beNat_wBe_mod (len x : Nat) : beNat (wBe len x) = x % 256 ^ len := by
  have hid : (splitFields 8 len x).map ((·.toNat) ∘ UInt8.ofNat) = splitFields 8 len x :=
    (List.map_congr_left fun d hd => by
      simp only [Function.comp, UInt8.toNat_ofNat']; exact Nat.mod_eq_of_lt (splitFields_lt 8 len x d hd)).trans (List.map_id _)
  rw [beNat_eq_joinFields, wBe_eq_map, List.map_map, hid, joinFields_splitFields, two_pow_8_mul]

theorem beNat_wBe (len x : Nat) (h : x < 256 ^ len) : beNat (wBe len x) = x := by
  rw [beNat_wBe_mod, Nat.mod_eq_of_lt h]

theorem beNat_append (b1 b2 : Bytes) : beNat (b1 ++ b2) = beNat b1 * 256 ^ b2.length + beNat b2 := by
  rw [beNat_eq_joinFields, beNat_eq_joinFields, beNat_eq_joinFields, List.map_append, joinFields_append, List.length_map,
    two_pow_8_mul]

theorem beNat_lt (bs : Bytes) : beNat bs < 256 ^ bs.length := by
  rw [beNat_eq_joinFields, ← two_pow_8_mul, ← List.length_map (f := (·.toNat))]
  exact joinFields_lt 8 _ fun d hd => by
    obtain ⟨x, _, rfl⟩ := List.mem_map.1 hd
    exact x.toNat_lt

theorem eight_bytesForBits (b : Nat) : b ≤ 8 * bytesForBits b := by
  unfold bytesForBits; omega

theorem length_packFields (eb : Nat) (ds : List Nat) : (packFields eb ds).length = bytesForBits (eb * ds.length) :=
  length_wBe _ _

theorem two_pow_pad (bits : Nat) : 2 ^ bits * 2 ^ (8 * bytesForBits bits - bits) = 256 ^ bytesForBits bits := by
  rw [← Nat.pow_add, ← two_pow_8_mul, Nat.add_sub_cancel' (eight_bytesForBits bits)]

theorem joinFields_pad_lt (eb : Nat) (ds : List Nat) (h : ∀ d ∈ ds, d < 2 ^ eb) :
    joinFields eb ds * 2 ^ (8 * bytesForBits (eb * ds.length) - eb * ds.length) < 256 ^ bytesForBits (eb * ds.length) := by
  rw [← two_pow_pad]
  exact Nat.mul_lt_mul_of_pos_right (joinFields_lt eb ds h) (Nat.two_pow_pos _)

theorem unpackFields_packFields (eb : Nat) (ds : List Nat) (h : ∀ d ∈ ds, d < 2 ^ eb) :
    unpackFields eb ds.length (packFields eb ds) = ds := by
  rw [unpackFields, length_packFields, packFields, beNat_wBe _ _ (joinFields_pad_lt eb ds h),
    Nat.mul_div_cancel _ (Nat.two_pow_pos _)]
  exact splitFields_joinFields eb ds h

end DS.Wire.BitPack
