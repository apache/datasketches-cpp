/- Rat instance of the ops-only numeric class `DS.Num`: every operation unfolds to the field operation on `Rat`.  (`DS.Num`,
   DSModel/Num.lean, is the class of the VarOpt model only; EBPPS has its own `DS.Ebpps.Num`.) -/
import DSModel.Num
import Mathlib.Algebra.Order.Field.Rat
import Mathlib.Tactic.Linarith
import Mathlib.Tactic.Ring
import Mathlib.Tactic.FieldSimp
import Mathlib.Tactic.Positivity
namespace DS

@[simp] theorem Num.add_rat (a b : Rat) : Num.add a b = a + b := rfl
@[simp] theorem Num.sub_rat (a b : Rat) : Num.sub a b = a - b := rfl
@[simp] theorem Num.mul_rat (a b : Rat) : Num.mul a b = a * b := rfl
@[simp] theorem Num.div_rat (a b : Rat) : Num.div a b = a / b := rfl
@[simp] theorem Num.neg_rat (a : Rat) : Num.neg a = -a := rfl
@[simp] theorem Num.ofNat_rat (n : Nat) : (Num.ofNat n : Rat) = (n : Rat) := rfl
@[simp] theorem Num.lt_rat (a b : Rat) : Num.lt a b = decide (a < b) := rfl
@[simp] theorem Num.le_rat (a b : Rat) : Num.le a b = decide (a ≤ b) := rfl
@[simp] theorem Num.eq_rat (a b : Rat) : Num.eq a b = decide (a = b) := rfl
@[simp] theorem Num.isFinite_rat (a : Rat) : Num.isFinite a = true := rfl
@[simp] theorem Num.zero_rat : (Num.zero : Rat) = 0 := by simp [Num.zero]
@[simp] theorem Num.one_rat : (Num.one : Rat) = 1 := by simp [Num.one]

end DS
