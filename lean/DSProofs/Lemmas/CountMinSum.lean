/-
The quantities the C14 statements compare (`trueWeight`, `totalAbs`, `cellSum`, `negOther`, `posOther`) are all sums, over
the stream, of a per-update contribution (`wsum g ops = Σ g o`), so that a bracket between two of them is an inequality
between the contributions of ONE update.
-/
import DSProofs.Lemmas.CountMinCells
namespace DS.CountMin
set_option linter.unusedSectionVars false

variable {W : Type} [Weight W] [L : WeightLaws W] {σ : Type}
open WeightLaws

def wsum (g : σ → W) : List σ → W
  | [] => 𝟘
  | o :: ops => g o +ʷ wsum g ops

theorem foldl_ite_eq (p : σ → Prop) [DecidablePred p] (g : σ → W) : ∀ (ops : List σ) (v : W),
    ops.foldl (fun acc o => if p o then acc +ʷ g o else acc) v = v +ʷ wsum (fun o => if p o then g o else 𝟘) ops
  | [], v => (add_zero v).symm
  | o :: ops, v => by
    rw [List.foldl_cons, foldl_ite_eq p g ops, wsum]
    split
    · exact add_assoc _ _ _
    · rw [zero_add]

theorem foldl_add_eq (g : σ → W) (ops : List σ) (v : W) :
    ops.foldl (fun acc o => acc +ʷ g o) v = v +ʷ wsum g ops := by
  simpa only [if_true] using foldl_ite_eq (fun _ => True) g ops v

theorem wsum_append (g : σ → W) : ∀ a b : List σ, wsum g (a ++ b) = wsum g a +ʷ wsum g b
  | [], b => (zero_add _).symm
  | o :: a, b => by rw [List.cons_append, wsum, wsum, wsum_append g a b, add_assoc]

theorem wsum_add (g g' : σ → W) : ∀ ops : List σ, wsum (fun o => g o +ʷ g' o) ops = wsum g ops +ʷ wsum g' ops
  | [] => (zero_add _).symm
  | o :: ops => by rw [wsum, wsum, wsum, wsum_add g g' ops, add_add_add_comm]

theorem wsum_le {g g' : σ → W} : ∀ {ops : List σ}, (∀ o ∈ ops, g o ≤ʷ g' o) → wsum g ops ≤ʷ wsum g' ops
  | [], _ => le_refl _
  | _ :: _, h => add_le_add (h _ List.mem_cons_self) (wsum_le fun o ho => h o (List.mem_cons_of_mem _ ho))

theorem wsum_zero {g : σ → W} : ∀ {ops : List σ}, (∀ o ∈ ops, g o = 𝟘) → wsum g ops = 𝟘
  | [], _ => rfl
  | o :: ops, h => by
    rw [wsum, h o List.mem_cons_self, zero_add]; exact wsum_zero fun o ho => h o (List.mem_cons_of_mem _ ho)

theorem wsum_nonneg {g : σ → W} {ops : List σ} (h : ∀ o ∈ ops, (𝟘 : W) ≤ʷ g o) : (𝟘 : W) ≤ʷ wsum g ops := by
  have := wsum_le (g := fun _ => 𝟘) h
  rwa [wsum_zero fun _ _ => rfl] at this

section
variable {ι : Type}

/-- what one update adds to flat cell `i` -/
def cellC (c : Cfg) (h : ι → Nat → Nat) (i : Nat) (o : ι × W) : W := if hits c h o.1 i then o.2 else 𝟘
def absC (o : ι × W) : W := Weight.absw o.2

theorem cellSum_eq (c : Cfg) (h : ι → Nat → Nat) (i : Nat) (ops : List (ι × W)) :
    cellSum c h i ops = wsum (cellC c h i) ops :=
  (foldl_ite_eq _ _ ops 𝟘).trans (zero_add _)

theorem totalAbs_eq_wsum (ops : List (ι × W)) : totalAbs ops = wsum absC ops :=
  (foldl_add_eq _ ops 𝟘).trans (zero_add _)

/-- −|w| ≤ what an update adds to a cell ≤ |w| -/
theorem cellC_range (c : Cfg) (h : ι → Nat → Nat) (i : Nat) (o : ι × W) :
    cellC c h i o ≤ʷ absC o ∧ (𝟘 : W) ≤ʷ (cellC c h i o +ʷ absC o) := by
  unfold cellC; split
  · exact ⟨le_absw o.2, add_absw_nonneg o.2⟩
  · rw [zero_add]; exact ⟨absw_nonneg o.2, absw_nonneg o.2⟩

theorem cellSum_le_totalAbs (c : Cfg) (h : ι → Nat → Nat) (i : Nat) (ops : List (ι × W)) :
    cellSum c h i ops ≤ʷ totalAbs ops := by
  rw [cellSum_eq, totalAbs_eq_wsum]; exact wsum_le fun o _ => (cellC_range c h i o).1

theorem cellSum_add_totalAbs_nonneg (c : Cfg) (h : ι → Nat → Nat) (i : Nat) (ops : List (ι × W)) :
    (𝟘 : W) ≤ʷ (cellSum c h i ops +ʷ totalAbs ops) := by
  rw [cellSum_eq, totalAbs_eq_wsum, ← wsum_add]; exact wsum_nonneg fun o _ => (cellC_range c h i o).2

theorem totalAbs_nonneg (ops : List (ι × W)) : (𝟘 : W) ≤ʷ totalAbs ops := by
  rw [totalAbs_eq_wsum]; exact wsum_nonneg fun o _ => absw_nonneg o.2

theorem cellSum_append (c : Cfg) (h : ι → Nat → Nat) (i : Nat) (a b : List (ι × W)) :
    cellSum c h i (a ++ b) = cellSum c h i a +ʷ cellSum c h i b := by
  simp only [cellSum_eq, wsum_append]

theorem totalAbs_append (a b : List (ι × W)) : totalAbs (a ++ b) = totalAbs a +ʷ totalAbs b := by
  simp only [totalAbs_eq_wsum, wsum_append]

/-- −total ≤ cell ≤ total with total = 0 -/
theorem cellSum_of_totalAbs_zero (c : Cfg) (h : ι → Nat → Nat) (i : Nat) {ops : List (ι × W)} (hz : totalAbs ops = 𝟘) :
    cellSum c h i ops = 𝟘 := by
  have h1 := cellSum_le_totalAbs c h i ops
  have h2 := cellSum_add_totalAbs_nonneg c h i ops
  rw [hz] at h1 h2
  rw [add_zero] at h2
  exact le_antisymm h1 h2

variable [DecidableEq ι]

def trueC (x : ι) (o : ι × W) : W := if o.1 = x then o.2 else 𝟘
def negC (x : ι) (o : ι × W) : W := if o.1 ≠ x ∧ nonnegW o.2 = false then Weight.absw o.2 else 𝟘
def posC (x : ι) (o : ι × W) : W := if o.1 ≠ x ∧ nonnegW o.2 = true then o.2 else 𝟘

theorem trueWeight_eq_wsum (x : ι) (ops : List (ι × W)) : trueWeight x ops = wsum (trueC x) ops :=
  (foldl_ite_eq _ _ ops 𝟘).trans (zero_add _)

theorem negOther_eq_wsum (x : ι) (ops : List (ι × W)) : negOther x ops = wsum (negC x) ops :=
  (foldl_ite_eq _ _ ops 𝟘).trans (zero_add _)

theorem posOther_eq_wsum (x : ι) (ops : List (ι × W)) : posOther x ops = wsum (posC x) ops :=
  (foldl_ite_eq _ _ ops 𝟘).trans (zero_add _)

/-- an update of `x` itself adds the same to its cell and to its true weight; an update of another item adds nothing to the
true weight and, to the cell, nothing or its weight: at least −|w| when negative, at most w when not -/
theorem cellC_bracket (c : Cfg) (h : ι → Nat → Nat) {x : ι} {i : Nat} (hx : hits c h x i = true) (o : ι × W) :
    trueC x o ≤ʷ (cellC c h i o +ʷ negC x o) ∧ cellC c h i o ≤ʷ (trueC x o +ʷ posC x o) := by
  unfold trueC cellC negC posC
  by_cases hox : o.1 = x
  · simp only [hox, hx, if_true, ne_eq, not_true_eq_false, false_and, if_false, add_zero]
    exact ⟨le_refl _, le_refl _⟩
  · by_cases hw : (𝟘 : W) ≤ʷ o.2
    · simp only [hox, (nonnegW_iff _).2 hw, if_false, ne_eq, not_false_eq_true, true_and, Bool.true_eq_false, if_true, add_zero,
        zero_add]
      split
      · exact ⟨hw, le_refl _⟩
      · exact ⟨le_refl _, hw⟩
    · simp only [hox, Bool.not_eq_true _ ▸ mt (nonnegW_iff _).1 hw, if_false, ne_eq, not_false_eq_true, true_and, if_true,
        Bool.false_eq_true, zero_add]
      split
      · rw [absw_of_neg hw]; exact ⟨le_refl _, le_of_not_le hw⟩
      · rw [zero_add]; exact ⟨absw_nonneg _, le_refl _⟩

theorem trueWeight_le_cellSum_add_negOther (c : Cfg) (h : ι → Nat → Nat) {x : ι} {i : Nat} (hx : hits c h x i = true) (ops : List (ι × W)) :
    trueWeight x ops ≤ʷ (cellSum c h i ops +ʷ negOther x ops) := by
  rw [trueWeight_eq_wsum, cellSum_eq, negOther_eq_wsum, ← wsum_add]; exact wsum_le fun o _ => (cellC_bracket c h hx o).1

theorem cellSum_le_trueWeight_add_posOther (c : Cfg) (h : ι → Nat → Nat) {x : ι} {i : Nat} (hx : hits c h x i = true) (ops : List (ι × W)) :
    cellSum c h i ops ≤ʷ (trueWeight x ops +ʷ posOther x ops) := by
  rw [trueWeight_eq_wsum, cellSum_eq, posOther_eq_wsum, ← wsum_add]; exact wsum_le fun o _ => (cellC_bracket c h hx o).2

theorem negOther_of_nonneg (x : ι) {ops : List (ι × W)} (hpos : ∀ o ∈ ops, (𝟘 : W) ≤ʷ o.2) : negOther x ops = 𝟘 := by
  rw [negOther_eq_wsum]
  exact wsum_zero fun o ho => if_neg fun hc => Bool.noConfusion (hc.2.symm.trans ((nonnegW_iff _).2 (hpos o ho)))

end
end DS.CountMin
