/-
Laws of the weight type under which C14 is proved (exact arithmetic: an ordered commutative monoid with the
code's `|w|`) and their instance `Int` (`Rat`: Lemmas/CountMinRat.lean).
-/
import DSModel.CountMin.Spec
namespace DS.CountMin

/-- The laws.  `le` is the order of the weight type; `Weight.lt` (used by `std::min_element`) is its strict
part; `absw` is `w >= 0 ? w : -w`, characterised without subtraction: `absw w = w` for `0 ≤ w` and
`w + absw w = 0` otherwise. -/
class WeightLaws (W : Type) [Weight W] where
  le : W → W → Prop
  le_refl : ∀ a : W, le a a
  le_trans : ∀ {a b c : W}, le a b → le b c → le a c
  le_antisymm : ∀ {a b : W}, le a b → le b a → a = b
  le_total : ∀ a b : W, le a b ∨ le b a
  lt_iff : ∀ a b : W, Weight.lt a b = true ↔ ¬ le b a
  add_assoc : ∀ a b c : W, Weight.add (Weight.add a b) c = Weight.add a (Weight.add b c)
  add_comm : ∀ a b : W, Weight.add a b = Weight.add b a
  zero_add : ∀ a : W, Weight.add Weight.zero a = a
  add_le_add_left : ∀ {a b : W} (c : W), le a b → le (Weight.add c a) (Weight.add c b)
  absw_of_nonneg : ∀ {w : W}, le Weight.zero w → Weight.absw w = w
  absw_of_neg : ∀ {w : W}, ¬ le Weight.zero w → Weight.add w (Weight.absw w) = Weight.zero
  isZero_iff : ∀ a : W, Weight.isZero a = true ↔ a = Weight.zero

scoped infixl:65 " +ʷ " => Weight.add
scoped infix:50 " ≤ʷ " => WeightLaws.le
scoped notation "𝟘" => Weight.zero

instance : WeightLaws Int where
  le a b := a ≤ b
  le_refl a := Int.le_refl a
  le_trans := Int.le_trans
  le_antisymm := Int.le_antisymm
  le_total := Int.le_total
  lt_iff a b := by simp [Weight.lt]
  add_assoc := Int.add_assoc
  add_comm := Int.add_comm
  zero_add := Int.zero_add
  add_le_add_left c h := Int.add_le_add_left h c
  absw_of_nonneg := by intro w h; simp only [Weight.absw, Weight.zero] at *; simp [h]
  absw_of_neg := by
    intro w h
    simp only [Weight.absw, Weight.zero, Weight.add] at *
    simp only [h, if_false]; omega
  isZero_iff a := by simp [Weight.isZero, Weight.zero]

section
variable {W : Type} [Weight W] [L : WeightLaws W]
open WeightLaws

-- Inside `DS.CountMin` with `open WeightLaws`, `le_refl`, `zero_add`, … are the fields of `WeightLaws` and `add_zero`, `add_le_add`, …
-- below are derived from them: the names follow the class and are not Mathlib's (CountMinRat.lean writes `_root_.` for those).

theorem add_zero (a : W) : a +ʷ 𝟘 = a := by rw [add_comm, zero_add]

theorem add_le_add {a b c d : W} (h1 : a ≤ʷ b) (h2 : c ≤ʷ d) : (a +ʷ c) ≤ʷ (b +ʷ d) :=
  le_trans (by rw [add_comm a c, add_comm b c]; exact add_le_add_left c h1) (add_le_add_left b h2)

theorem le_of_not_le {a b : W} (h : ¬ a ≤ʷ b) : b ≤ʷ a := (le_total a b).resolve_left h

theorem add_add_add_comm (a b c d : W) : (a +ʷ b) +ʷ (c +ʷ d) = (a +ʷ c) +ʷ (b +ʷ d) := by
  rw [add_assoc, ← add_assoc b c d, add_comm b c, add_assoc c b d, ← add_assoc]

theorem absw_nonneg (w : W) : (𝟘 : W) ≤ʷ Weight.absw w := by
  by_cases h : (𝟘 : W) ≤ʷ w
  · rw [absw_of_nonneg h]; exact h
  · -- w + |w| = 0; if |w| ≤ 0 then 0 = w + |w| ≤ w + 0 = w
    refine le_of_not_le fun h1 => h ?_
    have h2 := add_le_add_left w h1
    rwa [absw_of_neg h, add_zero] at h2

theorem le_absw (w : W) : w ≤ʷ Weight.absw w := by
  by_cases h : (𝟘 : W) ≤ʷ w
  · rw [absw_of_nonneg h]; exact le_refl w
  · exact le_trans (le_of_not_le h) (absw_nonneg w)

theorem add_absw_nonneg (w : W) : (𝟘 : W) ≤ʷ (w +ʷ Weight.absw w) := by
  by_cases h : (𝟘 : W) ≤ʷ w
  · have := add_le_add_left w (absw_nonneg w)
    rw [add_zero] at this
    exact le_trans h this
  · rw [absw_of_neg h]; exact le_refl _

theorem nonnegW_iff (w : W) : nonnegW w = true ↔ (𝟘 : W) ≤ʷ w := by
  rw [nonnegW, Bool.not_eq_true', ← Bool.not_eq_true, lt_iff, Classical.not_not]

end
end DS.CountMin
