/-
C10 (count-min part) — the constants that define the wire contract, as extracted from the CURRENT headers by the
translator (tools/trules/wire_count.py → DSGen/WireCount.lean), equal the documented values.

The documented contract (count_min.hpp "The serialized sketch binary form ...", DataSketches family table):
family id 18, serial version 1, two preamble longs (empty and non-empty), flag bit 0 = empty; a sketch needs at
least 3 buckets and fewer than 2^30 cells.  A consistent change of writer AND reader (every round trip still
passes) is caught here, and by the committed baseline corpus (corpus/baseline/countmin).
`encode`/`decode` of DSModel/Wire/CountMin.lean are the documented layout itself (C09 proves they are mutually
inverse); the two-phase check ties them to the code: the documented reader recovers the API content from the
code's bytes and re-encodes them to the same bytes.
-/
import DSModel.Wire.CountMinGen
namespace DS.Wire.CountMin

/-- every wire constant of the current headers has its documented value -/
theorem wire_consts_documented : generated = documented := by decide

/-- the documented image of the empty 1×3 sketch with the default seed (seed hash 0x93cc), byte for byte -/
example : encode documented { numBuckets := 3, numHashes := 1, seedHash := 0x93cc, body := none }
    = [2, 1, 18, 1, 0, 0, 0, 0, 3, 0, 0, 0, 1, 0xcc, 0x93, 0] := by decide +kernel

end DS.Wire.CountMin
