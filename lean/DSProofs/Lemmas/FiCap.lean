/- The load invariant of the L1 frequent-items model: the number of active items never exceeds the capacity of the current
   table size when every purge deletes at least one counter (true of the median). This is why `purge did not reduce number of
   active items` is unreachable and why deserialisation never grows or purges. -/
import DSProofs.Lemmas.FiEps
namespace DS.Fi
set_option linter.unusedSectionVars false

variable {ι : Type} [DecidableEq ι]

/-- the purge amount `a` deletes at least one counter if `update x w` purges in state `s` (true of the median) -/
def AmtDel (T : Tun) (s : St ι) (x : ι) (w a : Nat) : Prop :=
  purges T s x w = true → ∃ v ∈ vals (adjust s.map x w), v ≤ a

instance (T : Tun) (s : St ι) (x : ι) (w a : Nat) : Decidable (AmtDel T s x w a) := inferInstanceAs (Decidable (_ → _))

/-- the load invariant kept under `AmtDel`: the first conjunct is the claim, the other two carry it through table growth -/
def CapInv (T : Tun) (s : St ι) : Prop :=
  s.map.length ≤ capacity T s.lgCur ∧ s.lgCur ≤ s.lgMax ∧ T.lgMin ≤ s.lgCur

theorem length_purgeMap_le (m : Map ι) (a : Nat) : (purgeMap m a).length ≤ m.length := by
  simpa [keys] using (keys_purgeMap_sublist m a).length_le

theorem length_purgeMap_lt (m : Map ι) (a : Nat) (h : ∃ v ∈ vals m, v ≤ a) : (purgeMap m a).length < m.length := by
  obtain ⟨v, hv, hva⟩ := h
  obtain ⟨p, hp, rfl⟩ := List.mem_map.1 hv
  rw [purgeMap_eq, List.length_map]
  exact List.length_filter_lt_length_iff_exists.2 ⟨p, hp, by simpa using hva⟩

theorem capacity_succ (T : Tun) (lg : Nat) (h : 1 ≤ capacity T lg) : capacity T lg + 1 ≤ capacity T (lg + 1) := by
  unfold capacity at *
  have hd : 0 < T.lfDen := Nat.pos_of_ne_zero fun h0 => by rw [h0, Nat.div_zero] at h; cases h
  rw [Nat.pow_succ, Nat.mul_right_comm]
  have := Nat.div_mul_le_self (2 ^ lg * T.lfNum) T.lfDen
  have : 2 ^ lg * T.lfNum / T.lfDen * 2 ≤ 2 ^ lg * T.lfNum * 2 / T.lfDen := by
    rw [Nat.le_div_iff_mul_le hd, Nat.mul_right_comm]; omega
  omega

theorem capInv_init (T : Tun) (lgMax lgStart : Nat) (h : lgStart ≤ lgMax) : CapInv T (init T lgMax lgStart : St ι) :=
  ⟨Nat.zero_le _, by simp only [init]; omega, Nat.le_max_right ..⟩

theorem capInv_update (T : Tun) (hmin : 1 ≤ capacity T T.lgMin) (s : St ι) (h : CapInv T s) (x : ι) (w a : Nat)
    (hdel : AmtDel T s x w a) : CapInv T (update T s x w a) := by
  obtain ⟨hlen, hlg, hmn⟩ := h
  by_cases hw : w = 0
  · subst hw; exact ⟨hlen, hlg, hmn⟩
  have hla := length_adjust s.map x w
  rw [update_pos T s x hw]
  split
  · next hp =>
    have := length_purgeMap_lt _ a (hdel hp)
    rw [if_neg ((purges_iff T s x w).mp hp).2.1] at hla
    exact ⟨by dsimp only; omega, hlg, hmn⟩
  · next hp =>
    unfold CapInv
    dsimp only
    split
    · next hk =>
      refine ⟨?_, hlg, hmn⟩
      rcases hk with hk | hk
      · rw [hla, if_pos hk]; exact hlen
      · rw [hla]; split <;> omega
    · next hk =>
      -- a new key beyond the capacity that does not purge: the table doubles
      rw [not_or] at hk
      have := capacity_succ T s.lgCur (Nat.le_trans hmin (capacity_mono T hmn))
      have : s.lgCur < s.lgMax := Nat.lt_of_not_le fun hl => hp ((purges_iff T s x w).mpr ⟨hw, hk.1, Nat.lt_succ_of_le (Nat.le_of_not_lt hk.2), hl⟩)
      rw [hla, if_neg hk.1]
      exact ⟨by omega, this, Nat.le_succ_of_le hmn⟩

theorem capInv_replay (T : Tun) (hmin : 1 ≤ capacity T T.lgMin) (ents : List (Ent ι)) (s : St ι) (h : CapInv T s)
    (hok : ReplayP T (AmtDel T) s ents) : CapInv T (replay T s ents) := by
  induction ents generalizing s with
  | nil => exact h
  | cons e t ih => obtain ⟨x, w, a⟩ := e; exact ih _ (capInv_update T hmin s h x w a hok.1) hok.2

theorem reachP_cap (T : Tun) (hmin : 1 ≤ capacity T T.lgMin) {b : Bool} {s : St ι}
    (h : ReachP T b (AmtDel T) s) : CapInv T s := by
  induction h with
  | new lgMax lgStart hl => exact capInv_init T lgMax lgStart hl
  | upd x w a _ hok ih => exact capInv_update T hmin _ ih x w a hok
  | merge ents _ _ _ _ hok ih1 _ =>
    unfold merge
    split
    · exact ih1
    · exact capInv_replay T hmin ents _ ih1 hok
  | roundtrip _ ih =>
    unfold roundtrip
    split
    · exact ⟨Nat.zero_le _, ih.2⟩
    · exact ih

end DS.Fi
