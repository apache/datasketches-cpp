/-
t-digest (C17), exact arithmetic: get_CDF / get_PMF.  `get_rank` gives the same answer before and after a compress
(`rank_compress`), so the ranks that get_CDF collects while threading the compress side effect are the ranks of the split
points on the original digest.
-/
import DSProofs.Lemmas.TDigestRankState
namespace DS.TDigest
open Num Conv

/-- `centroids_.size() + buffer_.size() == 1` (the test of get_rank) means: exactly one value was accepted -/
theorem Inv.length_one_iff {s : St Rat} (hs : Inv s) : s.cs.length + s.buf.length = 1 ↔ s.totalWeight = 1 := by
  have hle := length_le_sumWeights hs.pos
  -- at most one centroid: its weight is 1, being the first
  have h1 : s.cs.length ≤ 1 → sumWeights s.cs = s.cs.length := fun h => by
    match hcs : s.cs with
    | [] => rfl
    | [c] => rw [sumWeights_cons, sumWeights_nil, hs.headW c (by rw [hcs]; rfl)]; rfl
    | _ :: _ :: _ => rw [hcs] at h; exact absurd h (by simp)
  unfold St.totalWeight
  rw [hs.cw]
  constructor <;> intro h <;> have := h1 (by omega) <;> omega

theorem compress_length (sc : Scale Rat) (hsc : ScaleOK sc) (tun : Tun) (s : St Rat) (hs : Inv s) :
    ((compress sc tun s).cs.length + (compress sc tun s).buf.length = 1) ↔ (s.cs.length + s.buf.length = 1) := by
  rw [(compress_inv sc hsc tun s hs).1.length_one_iff, hs.length_one_iff, (compress_weight sc tun s hs.cw).2]

theorem rank_compress (sc : Scale Rat) (hsc : ScaleOK sc) (tun : Tun) (s : St Rat) (hs : Inv s) (x : Rat) :
    (getRank sc tun (compress sc tun s) x).1 = (getRank sc tun s x).1 := by
  rcases compress_cases sc tun s with ⟨_, he⟩ | ⟨hb, _⟩
  · rw [he]
  · have hne : s.isEmpty = false := (isEmpty_false_iff s).2 (Or.inr hb)
    obtain ⟨_, hbuf', hemp, _⟩ := compress_inv sc hsc tun s hs
    obtain ⟨hmin, hmax⟩ := compress_extremes sc hsc tun s hs hne
    -- the same tests with the same outcomes, and a second compress does nothing
    rw [getRank_fst sc tun _ (hemp.trans hne), getRank_fst sc tun s hne, hmin, hmax,
      compress_of_buf_nil sc tun _ hbuf']
    simp only [compress_length sc hsc tun s hs]

theorem getRank_snd_inv (sc : Scale Rat) (hsc : ScaleOK sc) (tun : Tun) (s : St Rat) (hs : Inv s) (x : Rat) :
    Inv (getRank sc tun s x).2 ∧ ∀ y, (getRank sc tun (getRank sc tun s x).2 y).1 = (getRank sc tun s y).1 := by
  rcases getRank_state sc tun s x with h | h <;> rw [h]
  · exact ⟨hs, fun _ => rfl⟩
  · exact ⟨(compress_inv sc hsc tun s hs).1, fun y => rank_compress sc hsc tun s hs y⟩

theorem ranksOf_spec (sc : Scale Rat) (hsc : ScaleOK sc) (tun : Tun) (s : St Rat) (pts : List Rat) :
    Inv s → ∀ rs s', ranksOf sc tun s pts = (some rs, s') → rs.map some = pts.map fun x => (getRank sc tun s x).1 := by
  fun_induction ranksOf sc tun s pts with
  | case1 s => intro _ rs s' h; rw [← (Prod.mk.inj h).1 |> Option.some.inj]; rfl
  | case2 s x xs s1 hg => intro _ rs s' h; exact nomatch (Prod.mk.inj h).1
  | case3 s x xs r s1 hg s2 hr ih => intro _ rs s' h; exact nomatch (Prod.mk.inj h).1
  | case4 s x xs r s1 hg rs1 s2 hr ih =>
    intro hs rs s' h
    have hs1 := getRank_snd_inv sc hsc tun s hs x
    rw [hg] at hs1
    rw [← Option.some.inj (Prod.mk.inj h).1, List.map_cons, List.map_cons, hg, ih hs1.1 rs1 s2 hr]
    exact congrArg _ (List.map_congr_left fun y _ => hs1.2 y)

theorem pairwise_of_checkSplit {pts : List Rat} : checkSplit pts = true → pts.Pairwise (· < ·) := by
  fun_induction checkSplit pts with
  | case1 => exact fun _ => .nil
  | case2 a => exact fun _ => List.pairwise_singleton _ a
  | case3 a b t ih =>
    intro h
    simp only [rat_isNaN, Bool.not_false, Bool.true_and, Bool.and_eq_true, rat_lt] at h
    have hp := ih h.2
    exact List.pairwise_cons.2 ⟨List.forall_mem_cons.2 ⟨h.1, fun c hc => h.1.trans ((List.pairwise_cons.1 hp).1 c hc)⟩, hp⟩

theorem checkSplit_of_not_pairwise {pts : List Rat} (hbad : ¬ pts.Pairwise (· < ·)) : checkSplit pts = false :=
  Bool.eq_false_iff.2 fun h => hbad (pairwise_of_checkSplit h)

theorem getCDF_spec (sc : Scale Rat) (hsc : ScaleOK sc) (tun : Tun) (s : St Rat) (hs : Inv s) (pts : List Rat)
    (c : List Rat) (s' : St Rat) (h : getCDF sc tun s pts = (some c, s')) :
    c = pts.filterMap (fun x => (getRank sc tun s x).1) ++ [1] ∧ c.length = pts.length + 1 := by
  unfold getCDF at h
  split at h
  · split at h
    · rename_i rs s1 hr
      have e := ranksOf_spec sc hsc tun s pts hs rs s1 hr
      have e1 : pts.filterMap (fun x => (getRank sc tun s x).1) = rs := by
        simpa [List.filterMap_map] using (congrArg (List.filterMap id) e).symm
      have e2 : rs.length = pts.length := by simpa using congrArg List.length e
      rw [← Option.some.inj (Prod.mk.inj h).1, e1]
      exact ⟨rfl, by simp [e2]⟩
    · exact nomatch (Prod.mk.inj h).1
  · exact nomatch (Prod.mk.inj h).1

theorem diffs_sum (prev : Rat) (l : List Rat) : (diffs prev l).sum = (l.getLast?.getD prev) - prev := by
  induction l generalizing prev with
  | nil => simp [diffs]
  | cons c cs ih =>
    simp only [diffs, List.sum_cons, ih, rat_sub, List.getLast?_cons, Option.getD_some]
    ring

theorem pmfOfCdf_sum (c : List Rat) : (pmfOfCdf c).sum = c.getLast?.getD 0 := by
  cases c with
  | nil => simp [pmfOfCdf]
  | cons a t =>
    simp only [pmfOfCdf, List.sum_cons, diffs_sum, List.getLast?_cons, Option.getD_some]
    ring

theorem getPMF_sum (sc : Scale Rat) (hsc : ScaleOK sc) (tun : Tun) (s : St Rat) (hs : Inv s) (pts : List Rat)
    (p : List Rat) (s' : St Rat) (h : getPMF sc tun s pts = (some p, s')) :
    p.sum = 1 ∧ ∃ c, (getCDF sc tun s pts).1 = some c ∧ p = pmfOfCdf c := by
  unfold getPMF at h
  split at h
  · rename_i c s1 hc
    obtain ⟨e1, _⟩ := getCDF_spec sc hsc tun s hs pts c s1 hc
    rw [← Option.some.inj (Prod.mk.inj h).1]
    exact ⟨by rw [pmfOfCdf_sum, e1]; simp, c, by rw [hc], rfl⟩
  · exact nomatch (Prod.mk.inj h).1

end DS.TDigest
