/-
C14 — Count-min never under-estimates and is linear under merge.

The property theorems and their non-vacuity examples (helper lemmas: Lemmas/CountMin*.lean).
Model: DSModel/CountMin/Basic.lean (tied to count/include/count_min_impl.hpp by `./check C14`); the
specification functions `trueWeight`, `totalAbs`, `cellSum`, `negOther`, `posOther` are in DSModel/CountMin/Spec.lean.

Quantifiers.  Every statement holds for
  * every row-hash function `h : ι → Nat → Nat` (in the code: MurmurHash3 under the per-row seeds; nothing about
    the hash is used) and every item type `ι`,
  * every configuration `c` (any numHashes ≥ 1 where an estimate is involved, any numBuckets ≥ 1 — in particular
    every numBuckets ≥ 3 the constructor admits — any seed),
  * every finite stream `ops : List (ι × W)` and every merge tree `t : MTree ι W` (leaves = streams, inner nodes =
    merge of the two subtrees followed by further updates),
  * every weight type `W` satisfying `WeightLaws` = exact arithmetic of an ordered commutative monoid with the code's
    `|w| = (w >= 0 ? w : -w)`; instances: `Int` (int64_t / uint64_t without overflow) and `Rat` (double without
    rounding).  Overflow and floating-point rounding are NOT modelled.

Negative weights (what the code does: cells get the signed weight, total gets |w|, the estimate is still the row
minimum): `cm_bounds_order`, `cm_total_abs`, `cm_merge_linear`, `cm_merge_refuses`, `cm_roundtrip` hold unchanged;
never-under does NOT (`cm_negative_can_under`); what holds instead is `cm_signed_range` (−total ≤ estimate ≤ total)
and the two-sided `cm_signed_bracket`, of which `cm_never_under` is the special case without negative weights.

Constructor: `cm_ctor_sound`; the full statement `cm_ctor_full` holds for the limits and arithmetic width generated from the
header (`cm_ctor_full_current`: a 64-bit size product) and fails for the pinned code (`cm_ctor_full_false`: the 32-bit size
product accepts some configurations with a too-small array; known finding `ctor-size-product-overflow`, witness replayed by
the check).
-/
import DSProofs.Lemmas.CountMinRat
import DSGen.CountMin
namespace DS.CountMin
set_option linter.unusedSectionVars false

variable {W : Type} [Weight W] [WeightLaws W] {ι : Type} [DecidableEq ι]
open WeightLaws

/-- the estimate is the minimum over the rows of the EXACT count of the item's cell in that row
(`cellSum` = sum of the weights of all updates whose item falls into that cell) -/
theorem cm_estimate_is_row_min (c : Cfg) (h : ι → Nat → Nat) (hnh : 1 ≤ c.numHashes) (hnb : 1 ≤ c.numBuckets)
    (ops : List (ι × W)) (x : ι) :
    (∃ r, r < c.numHashes ∧ estimate h (run c h ops) x = cellSum c h (cellIdx c h x r) ops) ∧
    ∀ r, r < c.numHashes → estimate h (run c h ops) x ≤ʷ cellSum c h (cellIdx c h x r) ops := by
  have := estimate_spec h (run c h ops) x (by rw [run_cfg]; exact hnh)
  simp only [run_cfg] at this
  exact ⟨this.1.imp fun r hr => ⟨hr.1, by rw [hr.2, run_cellAt c h ops hnb x hr.1]⟩,
         fun r hr => by rw [← run_cellAt c h ops hnb x hr]; exact this.2 r hr⟩

/-- NEVER UNDER: for a stream of non-negative weights, true weight ≤ estimate ≤ total weight, for every item
(present or absent). -/
theorem cm_never_under (c : Cfg) (h : ι → Nat → Nat) (hnh : 1 ≤ c.numHashes) (hnb : 1 ≤ c.numBuckets)
    (ops : List (ι × W)) (hpos : ∀ o ∈ ops, (𝟘 : W) ≤ʷ o.2) (x : ι) :
    trueWeight x ops ≤ʷ estimate h (run c h ops) x ∧ estimate h (run c h ops) x ≤ʷ (run c h ops).total := by
  obtain ⟨⟨r, hr, he⟩, _⟩ := cm_estimate_is_row_min c h hnh hnb ops x
  have hlow := trueWeight_le_cellSum_add_negOther c h (hits_cellIdx c h x hr hnb) ops
  rw [negOther_of_nonneg x hpos, add_zero] at hlow
  rw [he, run_total]
  exact ⟨hlow, cellSum_le_totalAbs c h _ ops⟩

/-- BOUNDS ORDER: lb ≤ estimate ≤ ub, for every stream (signed weights included).  The upper bound's arithmetic
`u numBuckets estimate total` (= `static_cast<W>(estimate + e/numBuckets * total)`) enters only through
`0 ≤ total → estimate ≤ u nb estimate total`; `ubExactInt` / `ubExactRat` (the coded formula in exact arithmetic,
with truncation toward zero for integer `W`) satisfy it, see the examples below. -/
theorem cm_bounds_order (c : Cfg) (h : ι → Nat → Nat) (ops : List (ι × W)) (x : ι) (u : Nat → W → W → W)
    (hu : ∀ nb e t, (𝟘 : W) ≤ʷ t → e ≤ʷ u nb e t) :
    lowerBound h (run c h ops) x ≤ʷ estimate h (run c h ops) x ∧
    estimate h (run c h ops) x ≤ʷ upperBound u h (run c h ops) x := by
  refine ⟨le_refl _, ?_⟩
  unfold upperBound
  apply hu
  rw [run_total]
  exact totalAbs_nonneg ops

/-- TOTAL: total weight = Σ |w| (holds for every `Weight W`, no laws needed). -/
theorem cm_total_abs (c : Cfg) (h : ι → Nat → Nat) (ops : List (ι × W)) :
    (run c h ops).total = totalAbs ops := run_total c h ops

/-- every cell holds exactly the sum of the weights of the updates that hit it; nothing outside the array -/
theorem cm_cells_exact (c : Cfg) (h : ι → Nat → Nat) (hnb : 1 ≤ c.numBuckets) (ops : List (ι × W)) (i : Nat) :
    (run c h ops).cells[i]? = if i < c.numHashes * c.numBuckets then some (cellSum c h i ops) else none :=
  run_cells c h ops hnb i

/-- MERGE LINEARITY: for every merge tree over sketches of one configuration, no merge is refused and the result
is EXACTLY (configuration, all cells, total) the single sketch fed the concatenated streams. -/
theorem cm_merge_linear (c : Cfg) (h : ι → Nat → Nat) (hnb : 1 ≤ c.numBuckets) (t : MTree ι W) :
    t.evalO c h = some (run c h t.stream) := by
  induction t with
  | leaf ops => rfl
  | node l r more ihl ihr =>
    simp only [MTree.evalO, ihl, ihr]
    have hc : compatible (run c h l.stream).cfg (run c h r.stream).cfg = true := (compatible_iff _ _).mpr (by simp)
    simp only [merge, hc, if_true, Option.map_some]
    rw [runFrom_mergeCore_run c h hnb]; rfl

/-- MERGE LINEARITY, read off at the getters: estimates, bounds and total of the merged tree are those of the single sketch
fed the concatenated streams. -/
theorem cm_merge_linear_estimates (c : Cfg) (h : ι → Nat → Nat) (hnb : 1 ≤ c.numBuckets) (t : MTree ι W) (x : ι)
    (u : Nat → W → W → W) :
    ∃ s, t.evalO c h = some s ∧ estimate h s x = estimate h (run c h t.stream) x ∧
      lowerBound h s x = lowerBound h (run c h t.stream) x ∧
      upperBound u h s x = upperBound u h (run c h t.stream) x ∧ s.total = totalAbs t.stream :=
  ⟨_, cm_merge_linear c h hnb t, rfl, rfl, rfl, run_total c h _⟩

/-- one merge step, cell by cell: cells add, totals add -/
theorem cm_merge_cellwise (a b : St W) (hc : a.cfg = b.cfg) (i : Nat) :
    ∃ m, merge a b = some m ∧ m.cfg = a.cfg ∧ m.total = a.total +ʷ b.total ∧
      m.cells[i]? = (a.cells[i]?).bind (fun u => (b.cells[i]?).map (fun v => u +ʷ v)) := by
  exact ⟨mergeCore a b, by simp [merge, (compatible_iff _ _).mpr hc], rfl, rfl, mergeCore_cells a b i⟩

/-- MERGE REFUSES: a sketch is not merged with itself, nor with a sketch of different numHashes, numBuckets or
seed; every other merge is accepted. -/
theorem cm_merge_refuses (i j : Nat) (a b : St W) :
    (i = j → mergeObj i j a b = none) ∧
    (a.cfg ≠ b.cfg → merge a b = none ∧ mergeObj i j a b = none) ∧
    (i ≠ j → a.cfg = b.cfg → mergeObj i j a b = some (mergeCore a b)) := by
  refine ⟨fun hij => by simp [mergeObj, hij], fun hne => ?_, fun hij hc => ?_⟩
  · have : compatible a.cfg b.cfg = false := Bool.eq_false_iff.mpr (mt (compatible_iff _ _).mp hne)
    simp [mergeObj, merge, this]
  · simp [mergeObj, merge, (compatible_iff _ _).mpr hc, hij]

/-- ROUND TRIP: deserialize(serialize(s)) = s for every reachable state (an "empty" image carries no cells, and a
reachable state with total 0 has only zero cells); with the writer's seed the reader accepts. -/
theorem cm_roundtrip (c : Cfg) (h : ι → Nat → Nat) (hnb : 1 ≤ c.numBuckets) (ops : List (ι × W)) (sh : Nat → Nat) :
    roundTrip (run c h ops) = run c h ops ∧
    roundTripSeed sh (run c h ops) c.seed = some (run c h ops) := by
  have h1 := roundTrip_run c h hnb ops
  refine ⟨h1, ?_⟩
  unfold roundTripSeed
  rw [h1]
  have hcfg := run_cfg c h ops
  generalize run c h ops = s at hcfg ⊢
  cases s with | mk cfg cells total => cases cfg; cases hcfg; simp

/-- SIGNED WEIGHTS, range: every estimate lies in [−total, total] (second part stated as 0 ≤ estimate + total). -/
theorem cm_signed_range (c : Cfg) (h : ι → Nat → Nat) (hnh : 1 ≤ c.numHashes) (hnb : 1 ≤ c.numBuckets)
    (ops : List (ι × W)) (x : ι) :
    estimate h (run c h ops) x ≤ʷ (run c h ops).total ∧
    (𝟘 : W) ≤ʷ (estimate h (run c h ops) x +ʷ (run c h ops).total) := by
  obtain ⟨⟨r, _, he⟩, _⟩ := cm_estimate_is_row_min c h hnh hnb ops x
  rw [he, run_total]
  exact ⟨cellSum_le_totalAbs c h _ ops, cellSum_add_totalAbs_nonneg c h _ ops⟩

/-- SIGNED WEIGHTS, bracket: true(x) − N ≤ estimate(x) ≤ true(x) + P where N = Σ|w| over the negative updates of
OTHER items and P = Σ w over the non-negative updates of other items (stated without subtraction).
With no negative weights N = 0: this is never-under. -/
theorem cm_signed_bracket (c : Cfg) (h : ι → Nat → Nat) (hnh : 1 ≤ c.numHashes) (hnb : 1 ≤ c.numBuckets)
    (ops : List (ι × W)) (x : ι) :
    trueWeight x ops ≤ʷ (estimate h (run c h ops) x +ʷ negOther x ops) ∧
    estimate h (run c h ops) x ≤ʷ (trueWeight x ops +ʷ posOther x ops) := by
  obtain ⟨⟨r, hr, he⟩, _⟩ := cm_estimate_is_row_min c h hnh hnb ops x
  rw [he]
  have hx := hits_cellIdx c h x hr hnb
  exact ⟨trueWeight_le_cellSum_add_negOther c h hx ops, cellSum_le_trueWeight_add_posOther c h hx ops⟩

/-- never-under is FALSE once a negative weight occurs: two items sharing every cell, weights +5 and −3. -/
theorem cm_negative_can_under :
    ∃ (c : Cfg) (h : Nat → Nat → Nat) (ops : List (Nat × Int)) (x : Nat),
      1 ≤ c.numHashes ∧ 3 ≤ c.numBuckets ∧ estimate h (run c h ops) x < trueWeight x ops :=
  ⟨⟨2, 3, 0⟩, fun _ _ => 0, [(0, 5), (1, -3)], 0, by decide +kernel⟩

/-- the constructor refuses fewer than `minBuckets` buckets, and what it accepts WITHOUT wrap-around of the size
product is a sketch with the full numHashes × numBuckets zero array and numHashes·numBuckets < maxCells. -/
theorem cm_ctor_sound (p : CtorParams) (nh nb seed : Nat) :
    (nb < p.minBuckets → (construct p nh nb seed : Option (St W)) = none) ∧
    (∀ s : St W, construct p nh nb seed = some s → nh * nb < 2 ^ p.arithBits →
      s = init ⟨nh, nb, seed⟩ ∧ p.minBuckets ≤ nb ∧ nh * nb < p.maxCells) := by
  refine ⟨fun hlt => ?_, fun s hs hw => construct_some p nh nb seed s hs hw⟩
  simp [construct, ctorOk, hlt]

/-- FULL statement about the constructor: every (uint8_t, uint32_t) argument pair it accepts yields a sketch
with the full array (so that all theorems above apply to it). -/
def cm_ctor_full (p : CtorParams) : Prop :=
  ∀ (nh nb seed : Nat) (s : St Int), nh < 2 ^ 8 → nb < 2 ^ 32 → construct p nh nb seed = some s →
    s = init ⟨nh, nb, seed⟩

/-- `cm_ctor_full` holds when the size product cannot wrap (≥ 40-bit arithmetic). -/
theorem cm_ctor_full_of_wide (p : CtorParams) (hw : 40 ≤ p.arithBits) : cm_ctor_full p := by
  intro nh nb seed s hnh hnb hs
  have h1 : nh * nb < 2 ^ 8 * 2 ^ 32 := Nat.mul_lt_mul'' hnh hnb
  have h2 : 2 ^ 8 * 2 ^ 32 ≤ 2 ^ p.arithBits := by
    rw [← Nat.pow_add]; exact Nat.pow_le_pow_right (by decide) hw
  exact (construct_some p nh nb seed s hs (Nat.lt_of_lt_of_le h1 h2)).1

/-- `cm_ctor_full` holds for the constructor guard as the header has it (limits and arithmetic width regenerated from
count_min_impl.hpp on every run). -/
theorem cm_ctor_full_current :
    cm_ctor_full ⟨DSGen.countmin_MIN_BUCKETS, DSGen.countmin_MAX_CELLS, DSGen.countmin_SIZE_ARITH_BITS⟩ :=
  cm_ctor_full_of_wide _ (by decide)

/-- `cm_ctor_full` is FALSE for the pinned code (minBuckets 3, maxCells 2^30, 32-bit product): 4 hashes × 2^30 buckets
is accepted with an empty array.  Replayed on the real code by the fixed history of vlib/props/c14.py. -/
theorem cm_ctor_full_false : ¬ cm_ctor_full ⟨3, 2 ^ 30, 32⟩ := by
  intro hf
  have h := hf 4 (2 ^ 30) 0 ⟨⟨4, 2 ^ 30, 0⟩, #[], 0⟩ (by decide) (by decide) (by rfl)
  have h2 := congrArg (fun s => s.cells.size) h
  simp [init] at h2

/-! ### non-vacuity: a concrete stream with collisions -/

def exCfg : Cfg := ⟨2, 3, 9001⟩
def exHash : Nat → Nat → Nat := fun x r => x + r * (x / 2)
def exOps : List (Nat × Int) := [(0, 2), (1, 3), (0, 1), (4, 5), (3, 0), (7, 4)]
example : (∀ o ∈ exOps, (𝟘 : Int) ≤ʷ o.2) := by show ∀ o ∈ exOps, (0 : Int) ≤ o.2; decide +kernel
example : trueWeight 1 exOps = 3 ∧ estimate exHash (run exCfg exHash exOps) 1 = 7 ∧
    (run exCfg exHash exOps).total = 15 ∧ trueWeight 3 exOps = 0 ∧ estimate exHash (run exCfg exHash exOps) 3 = 3 := by decide +kernel
example : (run exCfg exHash exOps).cells = #[3, 12, 0, 8, 7, 0] := by decide +kernel
/-- the coded upper-bound formulas satisfy the hypothesis of `cm_bounds_order` for every constant E ≥ 0 -/
example (E : ℚ) (hE : 0 ≤ E) : ∀ nb e t, (𝟘 : Int) ≤ʷ t → e ≤ʷ ubExactInt E nb e t := ubExactInt_ge E hE
example (E : ℚ) (hE : 0 ≤ E) : ∀ nb e t, (𝟘 : ℚ) ≤ʷ t → e ≤ʷ ubExactRat E nb e t := ubExactRat_ge E hE
example : ubExactInt (2718281828 / 1000000000) 3 7 15 = 20 := by
  unfold ubExactInt truncQ; norm_num
/-- a merge tree with updates at the inner node -/
def exTree : MTree Nat Int := .node (.leaf [(0, 2), (1, 3)]) (.node (.leaf [(0, 1)]) (.leaf [(4, 5)]) [(3, 0)]) [(7, 4)]
example : exTree.stream = exOps ∧ exTree.evalO exCfg exHash = some (run exCfg exHash exOps) :=
  ⟨by decide, cm_merge_linear exCfg exHash (by decide) exTree⟩
/-- signed stream: the bracket is tight here (true 5, estimate 2, N = 3) -/
example : trueWeight 0 [(0, (5 : Int)), (1, -3)] = 5 ∧ negOther 0 [(0, (5 : Int)), (1, -3)] = 3 ∧
    estimate (fun _ _ => 0) (run ⟨2, 3, 0⟩ (fun _ _ => 0) [(0, (5 : Int)), (1, -3)]) 0 = 2 := by decide +kernel

end DS.CountMin
