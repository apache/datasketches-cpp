/- Density sketch image: the header step and the level loop of the round trip (the round trip itself is in Props/C09_Density),
   sizes, and the `Sized` term behind C11.  The level loop is handled through its two equations `levelsLoop_zero` / `levelsLoop_pos`. -/
import DSProofs.Lemmas.WireMisc
import DSModel.Wire.Density
namespace DS.Wire.Density
open DS.Wire

theorem point_enc (tsz dim : Nat) (p : Point) (h : p.length = dim ∧ ∀ v ∈ p, v < 256 ^ tsz) (t : Bytes) :
    point tsz dim (encodePoint tsz p ++ t) = some (p, t) :=
  h.1 ▸ repeatN_flatMap (leNat_wLe tsz) p h.2 t

theorem lastNonEmpty_cons (l : Level) (rest : List Level) :
    lastNonEmpty (l :: rest) = true ↔ (rest = [] ∧ l ≠ []) ∨ lastNonEmpty rest = true := by
  cases rest with
  | nil => cases l <;> simp [lastNonEmpty]
  | cons m t => simp [lastNonEmpty]

theorem lastNonEmpty_pos : ∀ (ls : List Level), lastNonEmpty ls = true → 0 < totalPoints ls
  | [], h => nomatch h
  | l :: rest, h => by
    rcases (lastNonEmpty_cons l rest).1 h with ⟨_, hl⟩ | hr
    · exact Nat.lt_of_lt_of_le (List.length_pos_iff.2 hl) (Nat.le_add_right _ _)
    · exact Nat.lt_of_lt_of_le (lastNonEmpty_pos rest hr) (Nat.le_add_left _ _)

theorem levelsLoop_zero (tsz dim fuel : Nat) : levelsLoop tsz dim fuel 0 = Reader.pure [] := by
  cases fuel <;> rfl

theorem levelsLoop_pos (tsz dim fuel rem : Nat) (h : 0 < rem) :
    levelsLoop tsz dim (fuel + 1) rem =
      Reader.bind u32 fun sz => Reader.bind (guard (decide (sz ≤ rem))) fun _ =>
      Reader.bind (repeatN (point tsz dim) sz) fun pts =>
      Reader.bind (levelsLoop tsz dim fuel (rem - sz)) fun rest => Reader.pure (pts :: rest) := by
  cases rem with
  | zero => exact absurd h (Nat.lt_irrefl 0)
  | succ r => rfl

theorem levelsLoop_enc (tsz dim : Nat) : ∀ (ls : List Level) (fuel : Nat), ls.length ≤ fuel →
    (ls = [] ∨ lastNonEmpty ls = true) → totalPoints ls < 2^32 →
    (∀ l ∈ ls, ∀ p ∈ l, p.length = dim ∧ ∀ v ∈ p, v < 256 ^ tsz) → ∀ t : Bytes,
    levelsLoop tsz dim fuel (totalPoints ls) (encodeLevels tsz ls ++ t) = some (ls, t)
  | [], fuel, _, _, _, _, t => by rw [totalPoints, levelsLoop_zero]; rfl
  | l :: rest, 0, hf, _, _, _, _ => absurd hf (Nat.not_succ_le_zero _)
  | l :: rest, fuel + 1, hf, hl, ht, hp, t => by
    have hne := hl.resolve_left (List.cons_ne_nil l rest)
    have hpos := lastNonEmpty_pos _ hne
    rw [totalPoints] at ht hpos ⊢
    rw [levelsLoop_pos _ _ _ _ hpos]
    simp only [encodeLevels, encodeLevel, List.append_assoc]
    rw [bind_u32 _ (Nat.lt_of_le_of_lt (Nat.le_add_right ..) ht), bind_guard _ (decide_eq_true (Nat.le_add_right ..)),
      bind_ok (repeatN_flatMap (point_enc tsz dim) l (hp l (List.mem_cons_self ..)) _),
      Nat.add_sub_cancel_left, bind_ok (levelsLoop_enc tsz dim rest fuel (Nat.le_of_succ_le_succ hf)
        (((lastNonEmpty_cons l rest).1 hne).imp_left And.left) (Nat.lt_of_le_of_lt (Nat.le_add_left ..) ht)
        (fun l' hl' => hp l' (List.mem_cons_of_mem _ hl')) t)]
    rfl

theorem isEmptyFlag_roundtrip (c : Consts) (e : Bool) : isEmptyFlag c (if e then 2 ^ c.emptyBit else 0) = e := by
  cases e
  · simp [isEmptyFlag]
  · simp [isEmptyFlag, Nat.div_self (Nat.two_pow_pos c.emptyBit)]

theorem decode_header (c : Consts) (hc : c.Valid) (tsz : Nat) (s : Img) (hk : s.k < 2 ^ 16) (hd : s.dim < 2 ^ 32)
    (tail : Bytes) :
    decode c tsz (encode c tsz s ++ tail) =
      decodeBody tsz s.k s.dim s.body.isNone (encodeBody tsz s.body ++ tail) := by
  obtain ⟨h1, h2, h3, h4, h5⟩ := hc
  have hp : (if s.body.isNone then c.preShort else c.preLong) < 256 := by split <;> assumption
  have hf : (if s.body.isNone then 2 ^ c.emptyBit else 0) < 256 := by
    split
    · exact Nat.pow_lt_pow_right (by decide) h5
    · decide
  simp only [encode, decode, List.append_assoc]
  rw [bind_u8 _ hp, bind_u8 _ h3, bind_u8 _ h4, bind_u8 _ hf, isEmptyFlag_roundtrip,
    bind_guard _ (beq_self_eq_true _), bind_guard _ (beq_self_eq_true _), bind_guard _ (beq_self_eq_true _),
    bind_u16 _ hk, bind_skip, bind_u32 _ hd]

theorem length_encodePoint (tsz : Nat) (p : Point) : (encodePoint tsz p).length = p.length * tsz :=
  length_flatMap_of_mem (wLe tsz) tsz p fun v _ => length_wLe tsz v

theorem length_encodeLevels (tsz dim : Nat) (ls : List Level) (h : ∀ l ∈ ls, ∀ p ∈ l, p.length = dim) :
    (encodeLevels tsz ls).length = levelsSize tsz dim ls := by
  induction ls with
  | nil => rfl
  | cons l t ih =>
    have h1 := length_flatMap_of_mem (encodePoint tsz) (dim * tsz) l
      fun p hp => by rw [length_encodePoint, h l (List.mem_cons_self ..) p hp]
    have h2 := ih (fun l' hl' => h l' (List.mem_cons_of_mem _ hl'))
    simp only [encodeLevels, encodeLevel, List.length_append, length_w32, h1, h2, levelsSize]

theorem point_sized (tsz dim : Nat) :
    Sized (point tsz dim) 0 (fun _ => dim * tsz) (fun p => p.length = dim ∧ ∀ v ∈ p, v < 256 ^ tsz) :=
  Sized_repeatN (Sized_leNat tsz) dim

theorem levelsLoop_sized (tsz dim : Nat) : ∀ fuel rem, Sized (levelsLoop tsz dim fuel rem) 0 (levelsSize tsz dim)
    (fun lv => totalPoints lv = rem ∧ lv.length ≤ fuel ∧ (lv = [] ∨ lastNonEmpty lv = true) ∧
      ∀ l ∈ lv, ∀ p ∈ l, p.length = dim ∧ ∀ v ∈ p, v < 256 ^ tsz)
  | fuel, 0 => by
    rw [levelsLoop_zero]
    exact Sized_pure _ rfl ⟨rfl, Nat.zero_le _, Or.inl rfl, fun _ h => nomatch h⟩
  | 0, rem + 1 => Post_fail
  | fuel + 1, rem + 1 => by
    rw [levelsLoop_pos _ _ _ _ (Nat.succ_pos rem)]
    refine Sized_bind (Sized_leNat 4) fun sz _ => Post_guard fun hle =>
      Sized_bind (Sized_repeatN (point_sized tsz dim) sz) fun pts hpts =>
      Sized_bind (levelsLoop_sized tsz dim fuel (rem + 1 - sz)) fun rest hrest => ?_
    have hle := of_decide_eq_true hle
    obtain ⟨i1, i2, i3, i4⟩ := hrest
    refine Sized_pure _ (by simp only [levelsSize, hpts.1])
      ⟨by rw [totalPoints, hpts.1, i1]; exact Nat.add_sub_of_le hle, Nat.succ_le_succ i2, Or.inr ?_,
        List.forall_mem_cons.2 ⟨hpts.2, i4⟩⟩
    -- with no further level the points still asked for (`rem + 1`) are all in `pts`
    refine (lastNonEmpty_cons pts rest).2 (i3.imp_left fun h => ⟨h, List.length_pos_iff.1 ?_⟩)
    subst h
    rw [hpts.1]
    exact Nat.lt_of_lt_of_le (Nat.succ_pos rem) (Nat.sub_eq_zero_iff_le.1 i1.symm)

theorem decodeBody_sized (tsz k dim : Nat) (hk : k < 2 ^ 16) (hd : dim < 2 ^ 32) (e : Bool) :
    Sized (decodeBody tsz k dim e) 12 (serializedSize tsz) (WF tsz) := by
  unfold decodeBody
  refine Post_ite _ (Sized_pure _ rfl ⟨hk, hd, trivial⟩)
    (Sized_bind (Sized_leNat 4) fun nr hnr => Post_guard fun hpos => Sized_bind (Sized_leNat 8) fun _ hn =>
     Sized_bind (levelsLoop_sized tsz dim _ _) fun lv hlv => Sized_pure _ rfl
       ⟨hk, hd, hnr, hn, of_decide_eq_true hpos, hlv.1, hlv.2.2.1.resolve_left ?_, hlv.2.1, hlv.2.2.2⟩)
  -- no level at all would mean no point, but `nr` is positive
  rintro rfl
  exact absurd hlv.1.symm (Nat.ne_of_gt (of_decide_eq_true hpos))

theorem decode_sized (c : Consts) (tsz : Nat) : Sized (decode c tsz) 0 (serializedSize tsz) (WF tsz) :=
  Sized_bind (Sized_leNat 1) fun _ _ => Sized_bind (Sized_leNat 1) fun _ _ => Sized_bind (Sized_leNat 1) fun _ _ =>
  Sized_bind (Sized_leNat 1) fun _ _ => Post_guard fun _ => Post_guard fun _ => Post_guard fun _ =>
  Sized_bind (Sized_leNat 2) fun _ hk => Sized_bind (Sized_skip 2) fun _ _ => Sized_bind (Sized_leNat 4) fun _ hd =>
  decodeBody_sized _ _ _ hk hd _

theorem four_mul_length_le_levelsSize (tsz dim : Nat) : ∀ ls : List Level, 4 * ls.length ≤ levelsSize tsz dim ls
  | [] => Nat.le_refl 0
  | l :: t => by
    have ih := four_mul_length_le_levelsSize tsz dim t
    simp only [List.length_cons, levelsSize]; omega

theorem totalPoints_le_size (tsz dim : Nat) (hd : 0 < dim) (ht : 0 < tsz) : ∀ ls : List Level,
    totalPoints ls ≤ levelsSize tsz dim ls
  | [] => Nat.le_refl 0
  | l :: t => by
    have ih := totalPoints_le_size tsz dim hd ht t
    have : l.length ≤ l.length * (dim * tsz) := Nat.le_mul_of_pos_right _ (Nat.mul_pos hd ht)
    simp only [totalPoints, levelsSize]; omega

end DS.Wire.Density
