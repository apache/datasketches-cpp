/- The invariant `Good` of the REPAIRED model (`Fix.fixed`) under the promise ghost, and what it gives for any view. -/
import DSProofs.Lemmas.BloomImage
import DSModel.Bloom.Promise
namespace DS.Bloom

variable {ι : Type}

@[simp] theorem setV_vi_same (p : PGhost ι) (v : Nat) (i : VInfo ι) : (p.setV v i).vi v = some i := by simp [PGhost.setV]
theorem setV_vi_ne {p : PGhost ι} {v v' : Nat} {i : VInfo ι} (h : v' ≠ v) : (p.setV v i).vi v' = p.vi v' := by simp [PGhost.setV, h]
@[simp] theorem setV_si (p : PGhost ι) (v : Nat) (i : VInfo ι) : (p.setV v i).si = p.si := rfl
@[simp] theorem setS_si_same (p : PGhost ι) (k : Key) (s : SInfo ι) : (p.setS k s).si k = s := by simp [PGhost.setS]
theorem setS_si_ne {p : PGhost ι} {k k' : Key} {s : SInfo ι} (h : k' ≠ k) : (p.setS k s).si k' = p.si k' := by simp [PGhost.setS, h]
@[simp] theorem setS_vi (p : PGhost ι) (k : Key) (s : SInfo ι) : (p.setS k s).vi = p.vi := rfl
@[simp] theorem mapViewsOf_si (p : PGhost ι) (w : World) (k : Key) (fn : VInfo ι → VInfo ι) : (p.mapViewsOf w k fn).si = p.si := rfl

theorem mapViewsOf_vi (p : PGhost ι) (w : World) (k : Key) (fn : VInfo ι → VInfo ι) (v : Nat) (f : Filter) (i : VInfo ι)
    (hf : w.filters v = some f) (hi : p.vi v = some i) :
    (p.mapViewsOf w k fn).vi v = some (if keyOf v f = k then fn i else i) := by
  simp only [PGhost.mapViewsOf, hf, hi]
  by_cases h : keyOf v f = k <;> simp [h]

theorem mapViewsOf_vi_ne (p : PGhost ι) (w : World) (k : Key) (fn : VInfo ι → VInfo ι) (v : Nat) (f : Filter)
    (hf : w.filters v = some f) (hk : keyOf v f ≠ k) : (p.mapViewsOf w k fn).vi v = p.vi v := by
  cases hi : p.vi v with
  | none => simp [PGhost.mapViewsOf, hi]
  | some i => rw [mapViewsOf_vi _ _ _ _ v f i hf hi, if_neg hk]

theorem write_own (p : PGhost ι) (w : World) (v : Nat) (f : Filter) (i : VInfo ι) (b : Nat) (hr : f.ref = .owned b) :
    p.write w v f i = (p, i.promised) := by
  simp [PGhost.write, keyOf, hr]

theorem write_tainted (p : PGhost ι) (w : World) (v : Nat) (f : Filter) (i : VInfo ι) (m : Nat) (hr : f.ref = .mem m)
    (ht : (p.si (.mem m)).tainted = true) : p.write w v f i = (p, false) := by
  simp [PGhost.write, keyOf, hr, ht]

theorem write_stale (p : PGhost ι) (w : World) (v : Nat) (f : Filter) (i : VInfo ι) (m : Nat) (hr : f.ref = .mem m)
    (ht : (p.si (.mem m)).tainted = false) (hs : (i.sync != (p.si (.mem m)).ver || f.readOnly) = true) :
    p.write w v f i = (p.taint w (.mem m), false) := by
  simp only [PGhost.write, keyOf, hr, ht, Bool.false_eq_true, if_false, hs, if_true]

theorem write_ok (p : PGhost ι) (w : World) (v : Nat) (f : Filter) (i : VInfo ι) (m : Nat) (hr : f.ref = .mem m)
    (ht : (p.si (.mem m)).tainted = false) (hs : (i.sync != (p.si (.mem m)).ver || f.readOnly) = false) :
    p.write w v f i = ((p.setS (.mem m) { p.si (.mem m) with ver := (p.si (.mem m)).ver + 1 }).setV v
        { i with sync := (p.si (.mem m)).ver + 1 }, i.promised) := by
  simp only [PGhost.write, keyOf, hr, ht, Bool.false_eq_true, if_false, hs]

theorem taint_si_same (p : PGhost ι) (w : World) (k : Key) : (p.taint w k).si k = ⟨[], (p.si k).ver, true⟩ := by
  simp [PGhost.taint]

theorem taint_si_ne (p : PGhost ι) (w : World) {k k' : Key} (h : k' ≠ k) : (p.taint w k).si k' = p.si k' := by
  simp [PGhost.taint, setS_si_ne h]

theorem taint_vi_same (p : PGhost ι) (w : World) (k : Key) (u : Nat) (fu : Filter) (iu : VInfo ι)
    (hfu : w.filters u = some fu) (hiu : p.vi u = some iu) (hk : keyOf u fu = k) :
    (p.taint w k).vi u = some { iu with M := [] } := by
  unfold PGhost.taint
  rw [mapViewsOf_vi _ _ _ _ u fu iu hfu (by simpa using hiu)]
  simp [hk]

theorem taint_vi_ne (p : PGhost ι) (w : World) (k : Key) (u : Nat) (fu : Filter)
    (hfu : w.filters u = some fu) (hk : keyOf u fu ≠ k) : (p.taint w k).vi u = p.vi u := by
  unfold PGhost.taint
  rw [mapViewsOf_vi_ne _ _ _ _ u fu hfu hk, setS_vi]

theorem destructive_si_same (p : PGhost ι) (w : World) (k : Key) (l : List ι) : (p.destructive w k l).si k = { p.si k with S := l } := by
  simp [PGhost.destructive]

theorem destructive_si_ne (p : PGhost ι) (w : World) {k k' : Key} (l : List ι) (h : k' ≠ k) : (p.destructive w k l).si k' = p.si k' := by
  simp [PGhost.destructive, setS_si_ne h]

theorem destructive_vi_same (p : PGhost ι) (w : World) (k : Key) (l : List ι) (u : Nat) (fu : Filter) (iu : VInfo ι)
    (hfu : w.filters u = some fu) (hiu : p.vi u = some iu) (hk : keyOf u fu = k) :
    (p.destructive w k l).vi u = some { iu with M := [] } := by
  unfold PGhost.destructive
  rw [mapViewsOf_vi _ _ _ _ u fu iu hfu (by simpa using hiu)]
  simp [hk]

theorem destructive_vi_ne (p : PGhost ι) (w : World) (k : Key) (l : List ι) (u : Nat) (fu : Filter)
    (hfu : w.filters u = some fu) (hk : keyOf u fu ≠ k) : (p.destructive w k l).vi u = p.vi u := by
  unfold PGhost.destructive
  rw [mapViewsOf_vi_ne _ _ _ _ u fu hfu hk, setS_vi]

theorem destructive_nil_eq (p : PGhost ι) (w : World) (k : Key) (hS : (p.si k).S = [])
    (hM : ∀ u fu iu, w.filters u = some fu → p.vi u = some iu → keyOf u fu = k → iu.M = []) : p.destructive w k [] = p := by
  cases p with
  | mk vi si =>
  simp only [PGhost.destructive, PGhost.setS, PGhost.mapViewsOf, PGhost.mk.injEq]
  constructor
  · funext u
    cases hiu : vi u with
    | none => rfl
    | some iu =>
      cases hfu : w.filters u with
      | none => rfl
      | some fu =>
        by_cases hk : keyOf u fu = k
        · have := hM u fu iu hfu hiu hk
          simp only [hk, if_true, ← this]
        · simp only [hk, if_false]
  · funext k'
    by_cases e : k' = k
    · subst e; simp only [if_true, ← hS]
    · simp only [e, if_false]

theorem taint_eq_self (p : PGhost ι) (w : World) (k : Key) (ht : (p.si k).tainted = true) (hS : (p.si k).S = [])
    (hM : ∀ u fu iu, w.filters u = some fu → p.vi u = some iu → keyOf u fu = k → iu.M = []) : p.taint w k = p := by
  have e : (⟨[], (p.si k).ver, true⟩ : SInfo ι) = { p.si k with S := [] } := by rw [← ht]
  have : p.taint w k = p.destructive w k [] := by unfold PGhost.taint PGhost.destructive; rw [e]
  rw [this]; exact destructive_nil_eq p w k hS hM

/-- `inSync` of Promise.lean as a function of the state info of the view's own bit state (`inSync_eq`) -/
def insync (s : SInfo ι) (f : Filter) (i : VInfo ι) : Bool :=
  match f.ref with
  | .owned _ => true
  | .mem _ => !s.tainted && i.sync == s.ver

theorem inSync_eq (p : PGhost ι) (v : Nat) (f : Filter) (i : VInfo ι) : inSync p v f i = insync (p.si (keyOf v f)) f i := by
  unfold inSync insync keyOf
  cases f.ref <;> rfl

theorem insync_mem_iff {s : SInfo ι} {f : Filter} {i : VInfo ι} (hm : isMem f = true) :
    insync s f i = true ↔ s.tainted = false ∧ i.sync = s.ver := by
  obtain ⟨m, hr⟩ := ref_of_isMem hm
  simp [insync, hr]

theorem insync_mem_false {s : SInfo ι} {f : Filter} {i : VInfo ι} (hm : isMem f = true) (h : s.tainted = true ∨ i.sync < s.ver) :
    insync s f i = false := by
  cases hin : insync s f i with
  | false => rfl
  | true =>
    obtain ⟨ht, hs⟩ := (insync_mem_iff hm).mp hin
    rcases h with h | h
    · rw [ht] at h; cases h
    · omega

/-- `hf` may ignore an item (`none`: the overload does nothing); the items of `l` are not ignored under `seed` -/
def Hashed (hf : ι → Nat → Option (Nat × Nat)) (seed : Nat) (l : List ι) : Prop := ∀ x ∈ l, (hf x seed).isSome = true

theorem Hashed.nil {hf : ι → Nat → Option (Nat × Nat)} {seed : Nat} : Hashed hf seed [] := fun _ h => nomatch h

theorem Hashed.cons (hf : ι → Nat → Option (Nat × Nat)) {seed : Nat} {l : List ι} {x0 : ι} {h : Nat × Nat} (hh : hf x0 seed = some h) (hl : Hashed hf seed l) :
    Hashed hf seed (x0 :: l) := by
  intro y hy
  rcases List.mem_cons.mp hy with rfl | hy
  · rw [hh]; rfl
  · exact hl y hy

theorem Hashed.append (hf : ι → Nat → Option (Nat × Nat)) {seed : Nat} {l l' : List ι} (h1 : Hashed hf seed l) (h2 : Hashed hf seed l') : Hashed hf seed (l ++ l') := by
  intro y hy
  rcases List.mem_append.mp hy with h | h
  · exact h1 y h
  · exact h2 y h

theorem Hashed.filter (hf : ι → Nat → Option (Nat × Nat)) {seed : Nat} {l : List ι} (q : ι → Bool) (h1 : Hashed hf seed l) : Hashed hf seed (l.filter q) := by
  intro y hy; exact h1 y (List.mem_filter.mp hy).1

/-- per view: `X` = the number holding its bit state, `s` = ghost info of that bit state.  Field names: `up`, `us` speak of an
unpromised view (nothing recorded; never in sync with a block that carries promises, so that a write through it counts as stale and
taints the block, `good_write_lost`), `k1` is `KOK`, `hs`/`cov` the recorded items (hashed, covered), `ne` not `is_empty`, `ex` exact
count, `dh` dirty marker in the header, `sv` sync ≤ version, `tm` tainted memory, `os` owned state -/
structure ViewOK (P : Params) (hf : ι → Nat → Option (Nat × Nat)) (X : Nat) (s : SInfo ι) (f : Filter) (i : VInfo ι) : Prop where
  up : i.promised = false → i.M = []
  us : i.promised = false → isMem f = true → s.tainted = false → i.sync < s.ver
  k1 : i.promised = true → KOK f
  hs : Hashed hf f.seed i.M
  cov : Covers hf X (f.off P) f.cfg i.M
  /-- so that the `is_empty` short-circuit in `query` cannot hide recorded items -/
  ne : i.M ≠ [] → f.isEmpty = false
  ex : i.promised = true → insync s f i = true → f.dirty = false → f.nbs = popCount X (f.off P) f.capBits
  /-- `Fix.dirtyThrough`, the D13 repair: DIRTY_BITS_VALUE is written through, so that a later wrap of the block sees it -/
  dh : i.promised = true → insync s f i = true → isMem f = true → f.readOnly = false → f.dirty = true → getField X 192 64 = P.dirty
  sv : isMem f = true → i.sync ≤ s.ver
  tm : isMem f = true → s.tainted = true → i.M = []
  /-- an owned bit state belongs to exactly this view -/
  os : isMem f = false → Covers hf X 0 f.cfg s.S ∧ Hashed hf f.seed s.S ∧ (i.promised = false → s.S = [])

/-- per caller block that still carries promises, `S` = the items recorded for it: what a reader that wraps or deserializes the block
will find -/
def BlockOK (P : Params) (hf : ι → Nat → Option (Nat × Nat)) (b : Block) (S : List ι) : Prop :=
  (∃ nb nh seed, parseImage P b = .emptyImg nb nh seed ∧ S = [] ∧ nb ≤ 2 ^ 32 - 64) ∨
  (∃ cap nh seed nbs nl, parseImage P b = .full cap nh seed nbs nl ∧ (1 ≤ nh ∧ cap < 2 ^ 32) ∧ (nbs = P.dirty ∨ nbs = popCount b.val 256 cap) ∧
      Covers hf b.val 256 ⟨cap, nh, seed⟩ S ∧ Hashed hf seed S)

structure Good (P : Params) (hf : ι → Nat → Option (Nat × Nat)) (w : World) (p : PGhost ι) : Prop where
  tracked : ∀ v f, w.filters v = some f → ∃ i, p.vi v = some i
  fwf : ∀ v f, w.filters v = some f → FWF f
  view : ∀ v f i, w.filters v = some f → p.vi v = some i → ViewOK P hf (keyVal w (keyOf v f)) (p.si (keyOf v f)) f i
  blk : ∀ m b, w.blocks m = some b → (p.si (.mem m)).tainted = false → BlockOK P hf b (p.si (.mem m)).S
  taintS : ∀ m, (p.si (.mem m)).tainted = true → (p.si (.mem m)).S = []
  memref : ∀ v f m, w.filters v = some f → f.ref = .mem m → ∃ b, w.blocks m = some b
  /-- a promised in-sync view of a block that carries promises sees the header it was created from (for one view and one block
  this clause has the name `Sees`, BloomGoodFrame.lean) -/
  memfull : ∀ v f i m b, w.filters v = some f → p.vi v = some i → f.ref = .mem m → w.blocks m = some b →
      i.promised = true → insync (p.si (.mem m)) f i = true →
      ∃ nbs nl, parseImage P b = .full f.capBits f.numHashes f.seed nbs nl

theorem good_empty (P : Params) (hf : ι → Nat → Option (Nat × Nat)) : Good P hf World.empty (PGhost.empty : PGhost ι) := by
  refine ⟨?_, ?_, ?_, ?_, ?_, ?_, ?_⟩ <;> intros <;> simp_all [World.empty, PGhost.empty]

/-- `Good.view` is stated for the bit state of the view's key (`keyVal`), the form in which frames are stated (`Good.setFilter`,
BloomGoodFrame); what the invariant gives for one view is stated in the words of the model, with `w.val f`, and starts from here -/
theorem Good.viewOK {P : Params} {hf : ι → Nat → Option (Nat × Nat)} {w : World} {p : PGhost ι} (hg : Good P hf w p) {v : Nat} {f : Filter}
    {i : VInfo ι} (hv : w.filters v = some f) (hi : p.vi v = some i) : ViewOK P hf (w.val f) (p.si (keyOf v f)) f i :=
  val_eq_keyVal w v f hv ▸ hg.view v f i hv hi

theorem query_of_viewOK (P : Params) (hf : ι → Nat → Option (Nat × Nat)) (w : World) (f : Filter)
    (s : SInfo ι) (i : VInfo ι) (hok : ViewOK P hf (w.val f) s f i) (x : ι) (hx : x ∈ i.M) :
    query P w f (hf x f.seed) = true := by
  have hs := hok.hs x hx
  cases hh : hf x f.seed with
  | none => rw [hh] at hs; cases hs
  | some h =>
    have hne := hok.ne (List.ne_nil_of_mem hx)
    have hc := hok.cov x hx h hh
    simp only [Filter.cfg] at hc
    simp [query, hne, hc]

section
variable (P : Params) (hf : ι → Nat → Option (Nat × Nat))

theorem qau_eq_query_of_viewOK (fx : Fix) (w : World) (v : Nat) (f : Filter) (hv : w.filters v = some f) (s : SInfo ι) (i : VInfo ι)
    (hok : ViewOK P hf (w.val f) s f i) (hw : FWF f) (hp : i.promised = true) (hin : insync s f i = true)
    (hro : f.readOnly = false) (h : Option (Nat × Nat)) :
    (opQau P fx w v h).2 = .bool (query P w f h) := by
  cases h with
  | none => simp [opQau, hv, query]
  | some h =>
    rw [opQau_answer P fx w v f hv hro h]
    by_cases he : f.isEmpty = true
    · -- the filter believes it is empty: then its bits are clear, so the bit-level answer is false too
      have hd : f.dirty = false := by
        simp only [Filter.isEmpty, Bool.and_eq_true, Bool.not_eq_true'] at he; exact he.1
      have hn : f.nbs = 0 := by
        simp only [Filter.isEmpty, Bool.and_eq_true, beq_iff_eq] at he; exact he.2
      have hex := hok.ex hp hin hd
      rw [hn] at hex
      have hclr := (popCount_eq_zero_iff _ _ _).mp hex.symm _ (idx_lt h.1 h.2 f.capBits 1 hw.capPos)
      simp [query, he, allSet_false_of_idx1_clear _ _ h.1 h.2 _ _ (hok.k1 hp).1 hclr]
    · have he' : f.isEmpty = false := by simpa using he
      simp [query, he']

theorem promised_of_M_ne {X : Nat} {s : SInfo ι} {f : Filter} {i : VInfo ι} (hok : ViewOK P hf X s f i) (hM : i.M ≠ []) : i.promised = true := by
  cases hp : i.promised with
  | true => rfl
  | false => exact absurd (hok.up hp) hM

theorem popCount_pos_of_covers (X off : Nat) (c : Cfg) (l : List ι) (hc : Covers hf X off c l) (hh : Hashed hf c.seed l)
    (hl : l ≠ []) (hk : 1 ≤ c.k) (hcap : 0 < c.cap) : 0 < popCount X off c.cap := by
  obtain ⟨x, hx⟩ := List.exists_mem_of_ne_nil l hl
  have hs := hh x hx
  cases hhx : hf x c.seed with
  | none => rw [hhx] at hs; cases hs
  | some h =>
    have ha := (allSet_iff _ _ _).mp (hc x hx h hhx) _ (idx1_mem_indices h.1 h.2 c.cap c.k hk)
    exact popCount_pos X off c.cap _ (idx_lt _ _ _ _ hcap) ha

theorem not_empty_of_count {X off : Nat} {f : Filter} {nbs : Nat} {M : List ι} (hk : KOK f) (hcap : 0 < f.capBits)
    (hcnt : nbs = P.dirty ∨ nbs = popCount X off f.capBits) (hcov : Covers hf X off f.cfg M) (hhs : Hashed hf f.seed M)
    (hd : f.dirty = (nbs == P.dirty)) (hn : f.dirty = false → f.nbs = nbs) (hM : M ≠ []) : f.isEmpty = false := by
  have hpos := popCount_pos_of_covers hf X off f.cfg M hcov hhs hM hk.1 hcap
  simp only [Filter.cfg] at hpos
  cases hdf : f.dirty with
  | true => simp [Filter.isEmpty, hdf]
  | false =>
    rw [hdf] at hd
    have hne : nbs ≠ P.dirty := by simpa using hd.symm
    have := hcnt.resolve_left hne
    simp only [Filter.isEmpty, hdf, hn hdf, Bool.not_false, Bool.true_and, beq_eq_false_iff_ne]
    omega

theorem covers_recorded (hP : P.Layout) (w : World) (p : PGhost ι) (hg : Good P hf w p) (u : Nat) (g' : Filter)
    (hu : w.filters u = some g') (hag : agrees w g' = true) :
    Covers hf (w.val g') (g'.off P) g'.cfg (p.si (keyOf u g')).S ∧ Hashed hf g'.seed (p.si (keyOf u g')).S := by
  cases hr : g'.ref with
  | owned b =>
    obtain ⟨iu, hiu⟩ := hg.tracked u g' hu
    have := (hg.viewOK hu hiu).os (by simp [isMem, hr])
    rw [show g'.off P = 0 by simp [Filter.off, hr]]
    exact ⟨this.1, this.2.1⟩
  | mem m =>
    rw [keyOf_of_mem hr, off_mem P hP (by simp [isMem, hr]), show w.val g' = w.blockVal m by simp [World.val, hr]]
    by_cases ht : (p.si (.mem m)).tainted = true
    · rw [hg.taintS m ht]; exact ⟨Covers.nil, Hashed.nil⟩
    · obtain ⟨b, hb⟩ := hg.memref u g' m hu hr
      have hbv : w.blockVal m = b.val := by simp [World.blockVal, hb]
      rcases hg.blk m b hb (by simpa using ht) with ⟨_, _, _, _, hS, _⟩ | ⟨cap, nh, seed, nbs, nl, hfull, hk, _, hcov, hhs⟩
      · rw [hS]; exact ⟨Covers.nil, Hashed.nil⟩
      · have hag' : hdrCfg (w.blockVal m) = g'.cfg := by
          simp only [agrees, hr, decide_eq_true_eq] at hag; exact hag
        rw [hbv, hdrCfg_of_parse hfull hk.2] at hag'
        have hseed : seed = g'.seed := congrArg Cfg.seed hag'
        rw [hbv, ← hag']
        exact ⟨hcov, hseed ▸ hhs⟩

theorem agrees_of_insync (w : World) (p : PGhost ι) (hg : Good P hf w p) (v : Nat) (f : Filter) (i : VInfo ι)
    (hv : w.filters v = some f) (hi : p.vi v = some i) (hp : i.promised = true) (hin : insync (p.si (keyOf v f)) f i = true) :
    agrees w f = true := by
  cases hr : f.ref with
  | owned b => simp [agrees, hr]
  | mem m =>
    obtain ⟨b, hb⟩ := hg.memref v f m hv hr
    rw [keyOf_of_mem hr] at hin
    obtain ⟨nbs, nl, hparse⟩ := hg.memfull v f i m b hv hi hr hb hp hin
    simp only [agrees, hr, decide_eq_true_eq, World.blockVal, hb]
    exact hdrCfg_of_parse hparse ((hg.view v f i hv hi).k1 hp).2

end

end DS.Bloom
