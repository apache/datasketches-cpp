/- C08: the mean over the coins (`CT.Mean`, KllCT) of the weight `W p` of the retained items satisfying `p` is what every KLL
operation makes of it without coins (`*_mean`); `CT.Mean.bind` composes two such steps.  Nothing here looks at shapes. -/
import DSProofs.Lemmas.KllHist
namespace DS.Kll
open DS DS.SortedView DS.Mech

variable {α : Type}

/-- the weight of the retained items satisfying `p`: the rank numerator when `p` is "below `x`" -/
def W (p : α → Bool) (s : Sketch α) : Nat := wb p 0 s.levels

theorem W_init (p : α → Bool) (k : Nat) : W p (init k : Sketch α) = 0 := by simp [W, init, wb, cnt]

theorem W_compress (P : Params) (c : Cmp α) (p : α → Bool) (s : Sketch α) :
    W p (compress P c s false) + W p (compress P c s true) = 2 * W p s := by
  unfold W
  rcases Nat.lt_or_ge (findLevel P s.k s.levels.length s.levels 0) s.levels.length with h | h
  · rw [compress_eq P c s false rfl h, compress_eq P c s true rfl h]
    exact compactCore_balanced c.lt p 0 s.levels _ _ _
  · rw [compress_of_ge P c s false h, compress_of_ge P c s true h, Nat.two_mul]

theorem W_push (p : α → Bool) (s : Sketch α) (x : α) : W p (push s x) = W p s + (if p x then 1 else 0) := by
  rw [W, W, push, wb_push, Nat.pow_zero, Nat.one_mul]

theorem internalUpdateT_mean (P : Params) (c : Cmp α) (p : α → Bool) (s : Sketch α) (x : α) :
    CT.Mean (W p) (W p s + (if p x then 1 else 0)) (internalUpdateT P c s x) := by
  unfold internalUpdateT
  by_cases hf : s.full = true
  · rw [if_pos hf]
    exact ⟨_, _, by rw [W_push, W_push, Nat.mul_add, ← W_compress P c p s]; omega, rfl, rfl⟩
  · rw [if_neg hf]; exact W_push p s x

theorem replayT_mean (P : Params) (c : Cmp α) (p : α → Bool) : ∀ (xs : List α) (s : Sketch α),
    CT.Mean (W p) (W p s + cnt p xs) (replayT P c s xs)
  | [], s => rfl
  | x :: t, s => by
    rw [cnt_cons, ← Nat.add_assoc]
    exact (internalUpdateT_mean P c p s x).bind (CT.All_true _) fun s' _ => replayT_mean P c p t s'

theorem gcLoop_mean {P : Params} (ok : ParamsOk P) (lt : α → α → Bool) (p : α → Bool) (k : Nat) (sorted0 : Bool)
    (fuel : Nat) (below : List (List α)) (cur : List α) (rest : List (List α)) (cnt' tgt : Nat)
    (h : GcInv P k below cur rest cnt' tgt fuel) :
    CT.Mean (fun r => wb p 0 r.1) (wb p 0 (below.reverse ++ cur :: rest)) (gcLoop P lt k sorted0 fuel below cur rest cnt' tgt) :=
  gcLoop_ind ok lt k sorted0 (M := fun L t => CT.Mean (fun r : List (List α) × Nat => wb p 0 r.1) (wb p 0 L) t)
    (fun _ _ _ _ => rfl) (fun L i up _ _ _ ih => ⟨_, _, compactCore_balanced lt p 0 L i _ up, ih false, ih true⟩)
    fuel below cur rest cnt' tgt h

theorem W_split (p : α → Bool) (s : Sketch α) : W p s = cnt p (s.levels.headD []) + wb p 1 s.levels.tail := by
  rw [W, wb_headD_tail, Nat.pow_zero, Nat.one_mul]

theorem mergeHigherT_mean {P : Params} (ok : ParamsOk P) (c : Cmp α) (p : α → Bool) (s o : Sketch α) :
    CT.Mean (W p) (W p s + wb p 1 o.levels.tail) (mergeHigherT P c s o) := by
  have := gcLoop_mean ok c.lt p s.k s.sorted0 _ [] _ _ _ _
    (GcInv.init P s.k (s.levels.headD []) (zipLevels c.lt s.levels.tail o.levels.tail))
  rw [List.reverse_nil, List.nil_append, wb, wb_zipLevels, ← Nat.add_assoc, Nat.zero_add, Nat.pow_zero, Nat.one_mul,
    ← W_split p s] at this
  exact CT.Mean.map this

theorem W_eq_zero_of_n_zero {P : Params} {lt : α → α → Bool} {s : Sketch α} (h : InvS P lt s) (h0 : s.n = 0) (p : α → Bool) :
    W p s = 0 := by
  have := wb_le_weightSum p 0 s.levels
  rw [h.weight, h0] at this
  unfold W; omega

theorem mergeT_mean {P : Params} (ok : ParamsOk P) (c : Cmp α) (p : α → Bool) (s : Sketch α) {o : Sketch α}
    (ho : InvS P c.lt o) : CT.Mean (W p) (W p s + W p o) (mergeT P c s o) := by
  unfold mergeT
  split
  · rename_i h0
    rw [W_eq_zero_of_n_zero ho (by simpa using h0) p]; rfl
  · have hrep := replayT_mean P c p (o.levels.headD []) (mergeMinMax c s o)
    rw [show W p (mergeMinMax c s o) = W p s by unfold W; rw [(mergeMinMax_fields c s o).2.2.1]] at hrep
    rw [W_split p o, ← Nat.add_assoc]
    refine hrep.bind (CT.All_true _) fun s2 _ => ?_
    -- the last step only rewrites n and minK
    refine CT.Mean.map (g := W p) (h := fun s3 : Sketch α =>
      { s3 with n := s.n + o.n, minK := if o.isEstimationMode then min s3.minK o.minK else s3.minK }) ?_
    show CT.Mean (W p) _ _
    split
    · exact mergeHigherT_mean ok c p s2 o
    · rename_i ho2; rw [tail_eq_nil_of_numLevels_lt ho2]; rfl

theorem updateT_mean (P : Params) (c : Cmp α) (p : α → Bool) (s : Sketch α) (x : α) :
    CT.Mean (W p) (W p s + (if c.isNaN x then 0 else if p x then 1 else 0)) (updateT P c s x) := by
  unfold updateT
  by_cases hx : c.isNaN x = true
  · rw [if_pos hx, if_pos hx]; rfl
  · rw [if_neg hx, if_neg hx]
    have : W p (updateMinMax c s x) = W p s := by unfold W updateMinMax; split <;> rfl
    exact this ▸ internalUpdateT_mean P c p (updateMinMax c s x) x

end DS.Kll
