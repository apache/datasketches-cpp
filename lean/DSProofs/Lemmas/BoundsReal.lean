/- C06: the hypotheses `MathFns.OK` are satisfiable -- the real square root, logarithm, floor, ceiling and power. -/
import DSProofs.Lemmas.BoundsField
import Mathlib.Analysis.SpecialFunctions.Pow.Real
import Mathlib.Analysis.SpecialFunctions.Sqrt
namespace DS.Bounds

noncomputable def realFns : MathFns ℝ where
  sqrt := Real.sqrt
  log := Real.log
  floor := fun x => (⌊x⌋ : ℝ)
  ceil := fun x => (⌈x⌉ : ℝ)
  pow := fun a b => a ^ b

theorem realFns_ok : realFns.OK where
  sqrt_nonneg := Real.sqrt_nonneg
  sqrt_sq := fun _ h => Real.mul_self_sqrt h
  log_one := Real.log_one
  log_lt := fun _ _ hx hxy => Real.log_lt_log hx hxy
  floor_mono := fun x y h => by
    show ((⌊x⌋ : ℤ) : ℝ) ≤ ((⌊y⌋ : ℤ) : ℝ)
    exact_mod_cast Int.floor_mono h
  ceil_mono := fun x y h => by
    show ((⌈x⌉ : ℤ) : ℝ) ≤ ((⌈y⌉ : ℤ) : ℝ)
    exact_mod_cast Int.ceil_mono h
  le_ceil := fun x => Int.le_ceil x

theorem realFns_expOK : realFns.ExpOK := by
  intro r hr
  show r ≤ litK cIconExp * (2 : ℝ) ^ r
  have hg : (litK cIconExp : ℝ) = 7940236163830469 / 10000000000000000 := by simp [litK, cIconExp]
  have h2 : (2 : ℝ) ^ r = (2 : ℝ) ^ (5 : ℝ) * (2 : ℝ) ^ (r - 5) := by
    rw [← Real.rpow_add (by norm_num)]; congr 1; ring
  have h5 : (2 : ℝ) ^ (5 : ℝ) = 32 := by
    have : ((5 : ℕ) : ℝ) = (5 : ℝ) := by norm_num
    rw [← this, Real.rpow_natCast]; norm_num
  have hl : (1 / 2 : ℝ) ≤ Real.log 2 := by
    have h := Real.log_le_sub_one_of_pos (x := (1 / 2 : ℝ)) (by norm_num)
    have e : Real.log (1 / 2 : ℝ) = - Real.log 2 := by rw [one_div, Real.log_inv]
    rw [e] at h; linarith
  have he : 1 + (r - 5) * (1 / 2) ≤ (2 : ℝ) ^ (r - 5) := by
    rw [Real.rpow_def_of_pos (by norm_num)]
    have := Real.add_one_le_exp (Real.log 2 * (r - 5))
    have := mul_le_mul_of_nonneg_right hl (sub_nonneg.2 hr)
    linarith
  rw [hg, h2, h5]
  linarith

end DS.Bounds
