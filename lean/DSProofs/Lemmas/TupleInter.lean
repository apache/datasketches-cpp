/- Summaries inside the intersection: policy folded over the summaries of ALL inputs, in presentation order. -/
import DSProofs.Lemmas.ThetaInter
import DSProofs.Lemmas.TupleUnion
namespace DS.Theta

variable {σ : Type}

def sumsAll (k : Nat) : List (Compact σ) → List σ
  | [] => []
  | sk :: r => sumsIn k sk.ents ++ sumsAll k r

theorem sumsAll_append (k : Nat) (P : List (Compact σ)) (sk : Compact σ) :
    sumsAll k (P ++ [sk]) = sumsAll k P ++ sumsIn k sk.ents := by
  induction P with
  | nil => simp [sumsAll]
  | cons a t ih => simp [sumsAll, ih, List.append_assoc]

def ISum (pol : σ → σ → σ) (P : List (Compact σ)) (i : Inter σ) : Prop :=
  ∀ k v, lookup k i.ents = some v → foldSums pol (sumsAll k P) = some v

theorem isum_update (pol : σ → σ → σ) (sh : Nat) (P : List (Compact σ)) (i i' : Inter σ) (sk : Compact σ)
    (hI : IInv P i) (hS : ISum pol P i) (hw : WFop sk) (hu : interUpdate pol sh i sk = some i') :
    ISum pol (P ++ [sk]) i' := by
  intro k v hv
  rw [sumsAll_append]
  cases hie : i.isEmpty with
  | true =>
    -- input ignored: the intersection was already exactly empty, so it has no entries
    rw [interUpdate_of_isEmpty pol sh i sk hie] at hu
    cases hu
    rw [(hI.em hie).1] at hv; cases hv
  | false =>
    obtain ⟨_, _, hents, _⟩ := interUpdate_some pol sh i i' sk _ rfl hie hu
    have hkv := mem_of_lookup k v _ hv
    rw [hents, mem_sortKV] at hkv
    cases hval : i.valid with
    | false =>
      rw [hval, if_neg Bool.false_ne_true] at hkv
      have hP : P = [] := Classical.byContradiction fun hc => by rw [hI.valid_iff.2 hc] at hval; cases hval
      subst hP
      simp [sumsAll, sumsIn_of_mem_nodup k v sk.ents hw.nodup hkv, foldSums]
    | true =>
      rw [hval, if_pos rfl] at hkv
      obtain ⟨x, e2, h4, h5, h6⟩ := mem_interLoop pol _ _ _ _ hw.ord_sorted k v hkv
      rw [sumsIn_of_mem_nodup k e2 sk.ents hw.nodup h5, foldSums_snoc, hS k x h4, h6]

theorem isum_fold (pol : σ → σ → σ) (sh : Nat) (sks : List (Compact σ)) (i : Inter σ)
    (hw : ∀ s, s ∈ sks → WFop s) (hi : interFold pol sh interInit sks = some i) : IInv sks i ∧ ISum pol sks i :=
  interFold_induction pol sh (fun P i => IInv P i ∧ ISum pol P i)
    (fun P i i' sk hwP hsk h hu => ⟨iinv_update pol sh P i i' sk h.1 hwP hsk hu, isum_update pol sh P i i' sk h.1 h.2 hsk hu⟩)
    sks [] interInit i (fun _ hs => nomatch hs) hw ⟨iinv_init, fun _ _ hv => nomatch hv⟩ hi

end DS.Theta
