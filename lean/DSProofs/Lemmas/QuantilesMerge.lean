/- `merge` of the classic quantiles sketch as a `Spec`, branch by branch; `RelOK`: what a relation between a sketch and the items it
has accepted must be closed under. -/
import DSProofs.Lemmas.QuantilesInv
namespace DS.Quantiles

open Tree

variable {α : Type}

/-- all that `in_place_propagate_carry` in merge mode and the loop over the source levels change in `t`: the level vector (now of
length `L`) and the bit pattern (now `F`) -/
abbrev Carried (S : List α → Prop) (k L F : Nat) (t t' : Sketch α) : Prop :=
  ∃ lv, t' = { t with levels := lv, bits := F } ∧ lv.length = L ∧ LevelsShape S k lv F

section
variable (c : Cmp α) (p : α → Bool) {S : List α → Prop} (hS : SortOK c.lt S)
include hS

theorem propagateCarry_spec (start : Nat) (bufK : List α) (t : Sketch α)
    (hsh : LevelsShape S t.k t.levels t.bits) (hbuf : bufK.length = t.k) (hSb : S bufK)
    (hroom : t.bits + 2 ^ start < 2 ^ t.levels.length) :
    Spec (Carried S t.k t.levels.length (t.bits + 2 ^ start) t)
      (rippleAr (t.levels.length - start) (t.bits / 2 ^ start)) (wSketch p) (2 ^ (start + 1) * bufK.countP p + wSketch p t)
      (propagateCarry c.lt start bufK [] false t) := by
  rw [propagateCarry, if_neg Bool.false_ne_true]
  have h := (carryFrom_spec c.lt p t.k hS start t.levels t.bits bufK 2 hsh hbuf hSb hroom).add_const (t.bb.countP p)
  refine (Spec.map h ?_).congr rfl ?_
  · exact fun r hr => ⟨⟨r, rfl, hr.2, hr.1⟩, rfl⟩
  · rw [← Nat.pow_succ, Nat.add_left_comm]
    rfl

theorem mergeLevel_spec (factor lg lvl : Nat) (hf : factor = 2 ^ lg) (l : List α) (t : Sketch α)
    (hl : l.length = factor * t.k) (hSl : S l) (hsh : LevelsShape S t.k t.levels t.bits)
    (hroom : t.bits + 2 ^ (lvl + lg) < 2 ^ t.levels.length) :
    Spec (Carried S t.k t.levels.length (t.bits + 2 ^ (lvl + lg)) t)
      ((if factor = 1 then [] else [factor]) ++ rippleAr (t.levels.length - (lvl + lg)) (t.bits / 2 ^ (lvl + lg)))
      (wSketch p) (2 ^ (lvl + 1) * l.countP p + wSketch p t)
      (if factor = 1 then propagateCarry c.lt lvl l [] false t
       else Tree.choose factor (fun o => propagateCarry c.lt (lvl + lg) (strided factor o l) [] false t)) := by
  by_cases h1 : factor = 1
  · obtain rfl : lg = 0 := (Nat.pow_eq_one.mp (hf.symm.trans h1)).resolve_left (by decide)
    rw [if_pos h1, if_pos h1]
    exact propagateCarry_spec c p hS lvl l t hsh (by rw [hl, h1, Nat.one_mul]) hSl hroom
  · rw [if_neg h1, if_neg h1]
    refine Spec.stride p l (hf ▸ Nat.two_pow_pos lg) (2 ^ (lvl + 1)) (wSketch p t) fun o ho => ?_
    refine (propagateCarry_spec c p hS (lvl + lg) (strided factor o l) t hsh (strided_length hl ho)
      (hS.strided _ _ _ hSl) hroom).congr rfl ?_
    rw [hf, ← Nat.pow_add, Nat.add_comm lg, Nat.add_right_comm]

/-- `standard_merge`: `factor = 1`; `downsampling_merge`: `factor = 2^lg`.  `F`: the target's bit pattern once every valid source
level has been carried in -/
theorem mergeLevels_spec (factor lg k L F : Nat) (hf : factor = 2 ^ lg) (hFL : F < 2 ^ L) :
    ∀ (sl : List (List α)) (pat lvl : Nat) (t : Sketch α),
    LevelsShape S (factor * k) sl pat → t.k = k → LevelsShape S k t.levels t.bits → t.levels.length = L →
    t.bits + pat * 2 ^ (lvl + lg) = F →
    Spec (Carried S k L F t)
      (levelsAr factor lg sl.length pat lvl L t.bits) (wSketch p) (wLevels p (2 ^ (lvl + 1)) sl + wSketch p t)
      (mergeLevels c.lt factor lg sl pat lvl t) := by
  intro sl
  induction sl with
  | nil =>
    intro pat lvl t hsl hk hsh hlen hF
    cases hsl
    rw [Nat.zero_mul, Nat.add_zero] at hF
    exact Spec.done ⟨t.levels, hF ▸ rfl, hlen, hF ▸ hsh⟩ (Nat.zero_add _).symm
  | cons l rest ih =>
    intro pat lvl t hsl hk hsh hlen hF
    have hX := pat_mul_two_pow pat (lvl + lg)
    rw [Nat.add_right_comm lvl lg 1] at hX
    rcases hsl.head_cases with ⟨hodd, hl⟩ | ⟨heven, rfl⟩
    · -- a valid source level
      rw [hodd, Nat.one_mul] at hX
      subst hk hlen
      have hstep := mergeLevel_spec c p hS factor lg lvl hf l t hl hsl.2.1 hsh (by omega)
      rw [mergeLevels, if_pos hodd, List.length_cons, levelsAr, if_pos hodd]
      refine (Spec.bind (hstep.add_const (wLevels p (2 ^ (lvl + 1 + 1)) rest)) fun t1 ht1 => ?_).congr rfl ?_
      · obtain ⟨lv1, rfl, hl1, hs1⟩ := ht1
        exact ih (pat / 2) (lvl + 1) { t with levels := lv1, bits := t.bits + 2 ^ (lvl + lg) } hsl.2.2 rfl hs1 hl1
          (by show t.bits + 2 ^ (lvl + lg) + _ = F; rw [Nat.add_assoc, ← hX]; exact hF)
      · rw [wLevels, ← Nat.pow_succ']
        exact (Nat.add_left_comm ..).trans (Nat.add_assoc ..).symm
    · -- an empty source level
      rw [Nat.mod_two_not_eq_one.mp heven, Nat.zero_mul, Nat.zero_add] at hX
      rw [mergeLevels, if_neg heven, List.length_cons, levelsAr, if_neg heven]
      refine (ih (pat / 2) (lvl + 1) t hsl.2.2 hk hsh hlen (hX ▸ hF)).congr rfl ?_
      rw [wLevels, ← Nat.pow_succ', List.countP_nil, Nat.mul_zero, Nat.zero_add]

end

/-- closure properties of a relation `R s items` between a sketch and the list of items it has accepted
(instantiated in Lemmas/QuantilesRel.lean with n / min / max / content) -/
structure RelOK (c : Cmp α) (S : List α → Prop) (R : Sketch α → List α → Prop) : Prop where
  upd : ∀ s items x s', Inv c S s → R s items → c.nan x = false → UpdPost c S s x s' → R s' (items ++ [x])
  perm : ∀ s items items', R s items → items.Perm items' → R s items'
  len : ∀ s items, R s items → s.n = items.length
  exact_bb : ∀ s items, Inv c S s → R s items → s.bits = 0 → s.bb.Perm items
  /-- the finalisation of `standard_merge` / `downsampling_merge`: `t1` = target after the source's base buffer was
  streamed in; the loop over the source levels has replaced levels and pattern, then `n`, min and max are set -/
  levelMerge : ∀ (t1 src : Sketch α) (it is : List α) (factor N : Nat) (lv : List (List α)), R t1 (it ++ src.bb) → R src is →
    Inv c S src → Inv c S t1 → 0 < factor → N + src.bb.length = t1.n + src.n →
    R { t1 with levels := lv, bits := t1.bits + src.bits * factor, n := N,
                minItem := mergeMin c.lt t1.minItem src.minItem, maxItem := mergeMax c.lt t1.maxItem src.maxItem } (it ++ is)
  sortbb : ∀ s items, R s items → R (s.sortBB c) items
  new : ∀ k, R (Sketch.new k) []

theorem wSketch_empty (p : α → Bool) {c : Cmp α} {S : List α → Prop} {s : Sketch α} (hs : Inv c S s) (hn : s.n = 0) :
    wSketch p s = 0 := by
  have hb : s.bb = [] := List.eq_nil_of_length_eq_zero (by rw [hs.bb_len, hn]; simp)
  have hbits : s.bits = 0 := by rw [hs.bits_eq, hn]; simp
  have hl : s.levels = [] := List.eq_nil_of_length_eq_zero (by rw [hs.lv_len, hbits, bitLen_zero])
  simp [wSketch, hb, hl, wLevels]

/-- what every branch of `merge` establishes of the result `r`, whichever of the two objects the code builds it in; `k`: the one
the branch keeps -/
structure Merged (c : Cmp α) (S : List α → Prop) (R : Sketch α → List α → Prop) (k : Nat) (tgt src : Sketch α)
    (it is : List α) (r : Sketch α) : Prop where
  inv : Inv c S r
  k_eq : r.k = k
  n_eq : r.n = tgt.n + src.n
  rel : R r (it ++ is)

/-- a branch that builds the result in the other object (`downsampling_merge(other, *this)`, streaming `*this` into a copy of
`other`) is the same lemma with the operands exchanged -/
theorem Merged.swap {c : Cmp α} {S : List α → Prop} {R : Sketch α → List α → Prop} (hR : RelOK c S R) (p : α → Bool)
    {k : Nat} {tgt src : Sketch α} {it is : List α} {ar : List Nat} {t : Tree (Sketch α)}
    (h : Spec (Merged c S R k src tgt is it) ar (wSketch p) (wSketch p src + wSketch p tgt) t) :
    Spec (Merged c S R k tgt src it is) ar (wSketch p) (wSketch p tgt + wSketch p src) t :=
  (h.weaken fun r hr => ⟨hr.inv, hr.k_eq, hr.n_eq.trans (Nat.add_comm _ _), hR.perm r _ _ hr.rel List.perm_append_comm⟩).congr
    rfl (Nat.add_comm _ _)

/-- `n = sn + tn` in blocks of the target's `2 k`, for a source of `B` blocks of `2 (f k)` and `b` loose items -/
theorem blocks_divmod {k f b B tn sn : Nat} (hk : 0 < k) (hsn : sn = B * (2 * (f * k)) + b) :
    (sn + tn) / (2 * k) = (tn + b) / (2 * k) + B * f ∧ (sn + tn) % (2 * k) = (tn + b) % (2 * k) := by
  have h : sn + tn = tn + b + B * f * (2 * k) := by
    rw [hsn, Nat.mul_assoc B f, Nat.mul_left_comm f 2 k]; omega
  rw [h]
  exact ⟨Nat.add_mul_div_right _ _ (Nat.mul_pos Nat.two_pos hk), Nat.add_mul_mod_self_right ..⟩

section
variable (c : Cmp α) (p : α → Bool) {S : List α → Prop} (hS : SortOK c.lt S)
  {R : Sketch α → List α → Prop} (hR : RelOK c S R)
include hS hR

theorem levelMerge_spec (factor lg : Nat) (tgt src : Sketch α) (it is : List α)
    (ht : Inv c S tgt) (hs : Inv c S src) (hrt : R tgt it) (hrs : R src is)
    (hf : factor = 2 ^ lg) (hk : src.k = factor * tgt.k) :
    Spec (Merged c S R tgt.k tgt src it is)
      (levelMergeAr factor tgt.k tgt.n src.k src.n) (wSketch p) (wSketch p tgt + wSketch p src)
      (levelMerge c factor tgt src) := by
  unfold levelMerge levelMergeAr
  by_cases hn : src.n = 0
  · simp only [hn, if_true]
    have his : is = [] := List.eq_nil_of_length_eq_zero (by rw [← hR.len src is hrs, hn])
    refine Spec.done ⟨ht, rfl, by omega, by rw [his]; simpa using hrt⟩ ?_
    rw [wSketch_empty p hs hn]; rfl
  · simp only [hn, if_false]
    have hfpos : 0 < factor := by rw [hf]; exact Nat.two_pow_pos lg
    have hup := updateAll_spec c p hS R hR.upd src.bb tgt it ht hrt hs.bb_ok
    obtain ⟨hF, hM⟩ := blocks_divmod (sn := src.n) (tn := tgt.n) ht.kpos (f := factor) (B := src.bits) (b := src.bb.length)
      (by rw [hs.bits_eq, hs.bb_len, ← hk]; exact (Nat.div_add_mod' ..).symm)
    refine (Spec.bind (hup.add_const (wLevels p 2 src.levels)) ?_).congr (by rw [hs.bb_len]) (by simp only [wSketch]; omega)
    intro t1 ht1
    obtain ⟨hi1, hk1, hn1, hr1⟩ := ht1
    have hFt : (src.n + tgt.n) / (2 * t1.k) = t1.bits + src.bits * factor := by rw [hi1.bits_eq, hk1, hn1, hF]
    have hext : (extendLevels t1.levels (bitLen ((src.n + tgt.n) / (2 * t1.k)))).length
        = bitLen ((src.n + tgt.n) / (2 * t1.k)) := by
      have hle : t1.levels.length ≤ bitLen ((src.n + tgt.n) / (2 * t1.k)) := by
        rw [hi1.lv_len, hFt]
        exact bitLen_mono (Nat.le_add_right _ _)
      rw [extendLevels, List.length_append, List.length_replicate, Nat.add_sub_cancel' hle]
    have hloop := mergeLevels_spec c p hS factor lg tgt.k (bitLen ((src.n + tgt.n) / (2 * t1.k)))
      ((src.n + tgt.n) / (2 * t1.k)) hf (lt_two_pow_bitLen _) src.levels src.bits 0
      { t1 with levels := extendLevels t1.levels (bitLen ((src.n + tgt.n) / (2 * t1.k))) }
      (hk ▸ hs.lv_shape) hk1 (hk1 ▸ hi1.lv_shape.append_nil hS.nil _) hext
      (by rw [hFt, Nat.zero_add, hf])
    rw [(congrArg ctz hf).trans (ctz_two_pow lg)]
    refine (Spec.map hloop ?_).congr ?_ ?_
    · rintro _ ⟨lv3, rfl, hl3, hs3⟩
      -- the result is a record update of `t1`: each field is one of `t1`, `lv3`, the final pattern, or one of the three set last
      refine ⟨⟨⟨hk1 ▸ ht.kpow, (hi1.bb_len.trans (by rw [hk1, hn1, hM])), rfl, hl3, hk1 ▸ hs3, hi1.bb_ok, hi1.bb_sorted⟩,
        hk1, Nat.add_comm _ _, ?_⟩, rfl⟩
      exact hFt ▸ hR.levelMerge t1 src it is factor _ lv3 hr1 hrs hs hi1 hfpos (by rw [hn1]; omega)
    · rw [hs.lv_len, hs.bits_eq, hk1, hi1.bits_eq, hk1, hn1, hs.bb_len]
    · simp only [wSketch, Nat.zero_add, extendLevels, wLevels_append_replicate_nil, Nat.pow_one]

theorem stream_spec (tgt src : Sketch α) (it is : List α) (ht : Inv c S tgt) (hs : Inv c S src) (hrt : R tgt it)
    (hrs : R src is) (hsb : src.bits = 0) :
    Spec (Merged c S R tgt.k tgt src it is) (updatesAr tgt.k tgt.n src.n) (wSketch p) (wSketch p tgt + wSketch p src)
      (tgt.updateAll c src.bb) := by
  obtain ⟨hlen, hlv⟩ := hs.of_bits_zero hsb
  refine ((updateAll_spec c p hS R hR.upd src.bb tgt it ht hrt hs.bb_ok).weaken fun r hr => ?_).congr (by rw [hlen])
    (by rw [wSketch, wSketch, hlv]; rfl)
  exact ⟨hr.1, hr.2.1, hlen ▸ hr.2.2.1, hR.perm r _ _ hr.2.2.2 ((hR.exact_bb src is hs hrs hsb).append_left it)⟩

/-- `merge(other)`: every branch streams one operand into the other or level-merges the one with the larger `k` into the
other -/
theorem merge_spec (tgt src : Sketch α) (it is : List α)
    (ht : Inv c S tgt) (hs : Inv c S src) (hrt : R tgt it) (hrs : R src is) :
    Spec (Merged c S R (mergeK tgt.k tgt.n src.k src.n) tgt src it is)
      (mergeAr tgt.k tgt.n src.k src.n) (wSketch p) (wSketch p tgt + wSketch p src) (tgt.merge c src) := by
  obtain ⟨e1, he1⟩ := ht.kpow
  obtain ⟨e2, he2⟩ := hs.kpow
  -- `downsampling_merge(a, b)` for `a.k < b.k`
  have down := fun (a b : Sketch α) (ia ib : List α) (ha : Inv c S a) (hb : Inv c S b) (ra : R a ia) (rb : R b ib)
      (ea eb : Nat) (hea : a.k = 2 ^ ea) (heb : b.k = 2 ^ eb) (hlt : a.k < b.k) =>
    levelMerge_spec c p hS hR (b.k / a.k) (eb - ea) a b ia ib ha hb ra rb (pow2_div heb hea hlt).1 (pow2_div heb hea hlt).2
  unfold Sketch.merge mergeAr mergeK standardMerge downsamplingMerge
  rw [← ht.bits_eq, ← hs.bits_eq]
  by_cases hn : src.n = 0
  · have hb : src.bits = 0 := hs.bits_eq.trans (by rw [hn]; exact Nat.zero_div _)
    have h := stream_spec c p hS hR tgt src it is ht hs hrt hrs hb
    rw [List.length_eq_zero_iff.mp ((hs.of_bits_zero hb).1.trans hn), hn] at h
    rw [if_pos hn, if_pos hn, if_pos hn]
    exact h
  simp only [if_neg hn]
  by_cases hsb : src.bits = 0
  · simpa only [if_pos hsb] using stream_spec c p hS hR tgt src it is ht hs hrt hrs hsb
  simp only [if_neg hsb]
  by_cases htb : tgt.bits = 0
  · simp only [htb, ne_eq, not_true_eq_false, if_false]
    by_cases hle : tgt.k ≤ src.k
    · simpa only [if_pos hle] using Merged.swap hR p (stream_spec c p hS hR src tgt is it hs ht hrs hrt htb)
    · simpa only [if_neg hle] using Merged.swap hR p (down src tgt is it hs ht hrs hrt e2 e1 he2 he1 (Nat.lt_of_not_le hle))
  · simp only [ne_eq, htb, not_false_eq_true, if_true]
    by_cases heq : tgt.k = src.k
    · simpa only [if_pos heq, if_neg (show ¬ tgt.k > src.k by omega)] using
        levelMerge_spec c p hS hR 1 0 tgt src it is ht hs hrt hrs rfl (by rw [heq, Nat.one_mul])
    · simp only [if_neg heq]
      by_cases hgt : tgt.k > src.k
      · simpa only [if_pos hgt] using Merged.swap hR p (down src tgt is it hs ht hrs hrt e2 e1 he2 he1 hgt)
      · simpa only [if_neg hgt] using down tgt src it is ht hs hrt hrs e1 e2 he1 he2 (by omega)

end

end DS.Quantiles
