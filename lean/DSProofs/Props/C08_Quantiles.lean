/-
C08 (part "quantiles") — ranks of the classic `quantiles_sketch` are unbiased over the coin flips and stride offsets,
and the number of random choices does not depend on their outcomes.

Here: the property theorems and their non-vacuity examples; helper lemmas: Lemmas/Quantiles*.lean.  The statements use
`prodAr`, `Tree.sumOver` (QuantilesTree), `Wst`, `Ttr` (QuantilesHist: retained weight / accepted count of one object for a
predicate), `LevelsShape` (QuantilesSpec), `belowP` (QuantilesView).
Model: DSModel/Quantiles/*.lean; a history `ops` (see Props/C07_Quantiles.lean) is a choice tree `runHist c lim ops`
whose nodes are the coins of `zip_buffer` (arity 2) and the offsets of `zip_buffer_with_stride` (arity = the
down-sampling factor).  `arHist c lim ops` is the sequence of arities computed from the operands' `(k, n)` alone,
`truthHist` the accepted items per object.  Sums run over ALL leaves = all coin vectors and stride offsets.
Except for `C08q_rank_unbiased`, which takes a strict weak order (`SWO`, QuantilesBasic), the theorems of this file need
NOTHING of the comparator (it may be any Boolean function): unbiasedness of the weights does not depend on levels being sorted.
Not decided here (DESIGN.md §5): "normalized rank error within get_normalized_rank_error as often as claimed".
-/
import DSProofs.Lemmas.QuantilesHist
import DSProofs.Lemmas.QuantilesFacts
import DSProofs.Props.C07_Quantiles
namespace DS.Quantiles

variable {α : Type}

/-- **compaction_balanced (coin)**: the evens and the odds of any buffer together count every item once -/
theorem C08q_compaction_balanced (p : α → Bool) (l : List α) :
    (strided 2 0 l).countP p + (strided 2 1 l).countP p = l.countP p := by
  simpa [Tree.sumRange] using strided_countP_sum p 2 Nat.two_pos l

example : (strided 2 0 [1, 2, 3, 4, 5, 6]).countP (· ≤ 3) + (strided 2 1 [1, 2, 3, 4, 5, 6]).countP (· ≤ 3) = 3 := by decide

/-- **compaction_balanced (stride)**: for every stride `s > 0`, every list and every predicate (in particular
`· ≤ y` and `· < y`), `Σ_{o<s} cnt(every s-th item from offset o) = cnt(list)` -/
theorem C08q_compaction_balanced_stride (p : α → Bool) (s : Nat) (hs : 0 < s) (l : List α) :
    Tree.sumRange s (fun o => (strided s o l).countP p) = l.countP p :=
  strided_countP_sum p s hs l

example : Tree.sumRange 4 (fun o => (strided 4 o [1, 2, 3, 4, 5, 6, 7, 8]).countP (· ≤ 5)) = 5 := by decide

/-- **flips_shape_only**: every path of the choice tree of a history consumes exactly the arity sequence
`arHist c lim ops`, which is computed from the `(k, n)` of the operands only (never from items or coin values);
and at every leaf the shape of every object is the one predicted: `(k, n)` as in `knHist`, `bit_pattern = n / 2k`,
base buffer of `n mod 2k` items, `bitLen(bit_pattern)` levels, level `i` of `k` or 0 items according to bit `i` -/
theorem C08q_flips_shape_only (c : Cmp α) (lim : Limits) (hlim : 0 < lim.minK) (ops : List (Op α)) :
    (runHist c lim ops).Uniform (arHist c lim ops) ∧
    (runHist c lim ops).All (fun st => ∀ id,
      match st.get? id, aget (knHist c lim ops).1 id with
      | some s, some kn => s.k = kn.1 ∧ s.n = kn.2 ∧ s.bits = s.n / (2 * s.k) ∧ s.bb.length = s.n % (2 * s.k) ∧
          s.levels.length = bitLen s.bits ∧ LevelsShape (fun _ => True) s.k s.levels s.bits
      | none, none => True
      | _, _ => False) := by
  have hsp := hist_spec c lim hlim (fun _ => true) (sortOK_true c.lt) (relC_ok c _) ops 0
  refine ⟨hsp.uni, hsp.all.mono fun st hst id => ?_⟩
  cases hg : st.get? id with
  | none => rw [(hst.get_none hg).2]; trivial
  | some s =>
    obtain ⟨_, _, hk, hi, _⟩ := hst.get hg
    rw [hk]
    exact ⟨rfl, rfl, hi.bits_eq, hi.bb_len, hi.lv_len, hi.lv_shape⟩

/-- the same along a recorded stream: the log of arities requested from the source is `arHist`, whatever the values -/
theorem C08q_flips_shape_only_run (c : Cmp α) (lim : Limits) (hlim : 0 < lim.minK) (ops : List (Op α)) (src : Tree.Src) :
    ((runHist c lim ops).run src).2.log = (arHist c lim ops).reverse ++ src.log ∧
    ((runHist c lim ops).run src).2.q = src.q.drop (arHist c lim ops).length :=
  (C08q_flips_shape_only c lim hlim ops).1.run_log src

/-- the hypotheses are met by the demo history of Props/C07 (limits as in the header: MIN_K = 2); its arity
sequence is `[2, 2, 2]` (by `#eval arHist intCmp demoLim demoOps`; the example checks the hypothesis only): the coin of the compaction of object 0 (k = 2, n = 4),
the coin of the compaction of object 1 (k = 4, n = 8) and the stride offset (arity 2) of the down-sampling merge -/
example : 0 < demoLim.minK := by decide

/-- **quantiles_unbiased**: for every history, every object `id` and every predicate `p` on items (`· ≤ y`, `· < y`,
any other): the retained weight satisfying `p`, summed over ALL coin vectors and stride offsets, equals
`(∏ arities) · #{accepted items satisfying p}`; the number of leaves is `∏ arities` (= `2^F · ∏ strides`) -/
theorem C08q_quantiles_unbiased (c : Cmp α) (lim : Limits) (hlim : 0 < lim.minK) (ops : List (Op α)) (id : Nat)
    (p : α → Bool) :
    (runHist c lim ops).sum (Wst p id) = prodAr (arHist c lim ops) * Ttr p id (truthHist c lim ops) ∧
    (runHist c lim ops).leafCount = prodAr (arHist c lim ops) := by
  have hsp := hist_spec c lim hlim p (sortOK_true c.lt) (relC_ok c _) ops id
  exact ⟨hsp.sum, hsp.uni.leafCount⟩

/-- the same identity with the leaves enumerated as explicit choice vectors `v` (`v_j < arity_j`) fed through the
random source, exactly what `harness/quantiles_h.cpp` does with `verif_random_source` -/
theorem C08q_quantiles_unbiased_vectors (c : Cmp α) (lim : Limits) (hlim : 0 < lim.minK) (ops : List (Op α)) (id : Nat)
    (p : α → Bool) :
    Tree.sumOver (arHist c lim ops) (fun v => Wst p id ((runHist c lim ops).run { q := v, log := [] }).1) =
      prodAr (arHist c lim ops) * Ttr p id (truthHist c lim ops) := by
  have hsp := hist_spec c lim hlim p (sortOK_true c.lt) (relC_ok c _) ops id
  rw [← hsp.uni.sum_eq_sumOver (Wst p id) []]
  exact hsp.sum

example : Ttr (fun x : Int => decide (x ≤ 9)) 0 (truthHist intCmp demoLim demoOps) = 6 := by decide

/-- the estimated rank itself: for a strict-weak-order comparator, `get_rank(x, inclusive)`'s numerator (read off the
sorted view of object `id`), summed over all coin vectors and stride offsets, is `(∏ arities) · (true number of
accepted items ≤ x resp. < x)`; the denominator is `n` at every leaf.  I.e. the mean of the estimated rank over the
fair coins / uniform offsets is exactly the true rank. -/
theorem C08q_rank_unbiased (c : Cmp α) (hc : SWO c.lt) (lim : Limits) (hlim : 0 < lim.minK) (ops : List (Op α))
    (id : Nat) (x : α) (incl : Bool) :
    (runHist c lim ops).sum (fun st => match st.get? id with
        | some s => SortedView.rankNum c.lt (s.view c) x incl
        | none => 0) =
      prodAr (arHist c lim ops) * Ttr (belowP c.lt x incl) id (truthHist c lim ops) ∧
    (runHist c lim ops).All (fun st => ∀ s, st.get? id = some s →
      (s.view c).total = s.n ∧ ∃ items, aget (truthHist c lim ops) id = some items ∧ s.n = items.length) := by
  have hsp := hist_spec c lim hlim (belowP c.lt x incl) (sortOK_sorted hc) (rel_ok c _ hc) ops id
  refine ⟨hsp.sum ▸ (Tree.sum_congr_all hsp.all fun st hst => ?_).symm, hsp.all.mono fun st hst s hg => ?_⟩
  · unfold Wst
    cases hg : st.get? id with
    | none => rfl
    | some s =>
      obtain ⟨_, _, _, hi, _⟩ := hst.get hg
      exact (view_rankNum hc hi x incl).symm
  · obtain ⟨items, ht, _, hi, hr⟩ := hst.get hg
    exact ⟨view_total hc hi, items, ht, hr.1.len⟩

example : SWO intCmp.lt ∧ 0 < demoLim.minK := ⟨intCmp_swo, by decide⟩

end DS.Quantiles
