/-
C07 (part "quantiles") — the classic `quantiles_sketch` conserves weight, keeps exact extremes and answers coherently.

Here: the property theorems, their non-vacuity examples, `Reach` and the demo histories and comparators they speak of, and
`C07q_reach_inv`, through which every statement below is read off `hist_spec`; helper lemmas: Lemmas/Quantiles*.lean.  The
statements also use `Tree.IsLeaf` (QuantilesTree), `SWO`, `Sorted` (QuantilesBasic), `wSketch`, `LevelsShape` (QuantilesSpec),
`pairsLevels`, `totalLen` (QuantilesIter), `belowP` (QuantilesView).
Model: DSModel/Quantiles/{Tree,Sketch,Query,History}.lean, tied to quantiles/include/quantiles_sketch_impl.hpp and
common/include/quantiles_sorted_view_impl.hpp by `./check c07quant`.

Quantification.  `ops` ranges over ALL finite histories of `new id k | upd id x | merge dst src | copy src dst | sortq id`
over any number of live sketches (any k accepted by `check_k`, equal / unequal k, exact / estimating / empty operands,
arbitrary merge graphs – an object may be merged into several others; lvalue and rvalue `merge` are the same function
of the operands).  A history is a choice tree (`runHist`): every coin of `zip_buffer` and every stride offset of
`zip_buffer_with_stride` is a branching node.  `Reach c lim ops id s items` says: `s` is the state of object `id`
at SOME leaf of that tree (i.e. for some outcome of all random choices) and `items` is the list of items object `id`
has accepted (own updates and merged-in ones; NaN updates are not accepted).  Every theorem holds for every
reachable `s`, hence for every coin/draw sequence.  `c.lt` is the comparator (a strict weak order), `lim` the
limits `MIN_K ≥ 1`, `MAX_K` read from the header.
Self-merge `a.merge(a)` is excluded (`stepOp` treats it as a no-op; the code iterates a vector it is pushing to).
-/
import DSProofs.Lemmas.QuantilesHist
import DSProofs.Lemmas.QuantilesFacts
namespace DS.Quantiles

variable {α : Type}

/-- `s` is the state of object `id` at some leaf of the choice tree of `ops`; `items` = what that object accepted -/
def Reach (c : Cmp α) (lim : Limits) (ops : List (Op α)) (id : Nat) (s : Sketch α) (items : List α) : Prop :=
  ∃ st, Tree.IsLeaf st (runHist c lim ops) ∧ st.get? id = some s ∧ aget (truthHist c lim ops) id = some items

/-- the comparator `<` on `Int` (the harness' `int64_t` instantiation) -/
def intCmp : Cmp Int := { lt := fun a b => decide (a < b), nan := fun _ => false }

theorem intCmp_swo : SWO intCmp.lt where
  irrefl := by intro a; simp [intCmp]
  trans := by intro a b c; simp only [intCmp, decide_eq_true_eq]; omega
  ntrans := by intro a b c; simp only [intCmp, decide_eq_false_iff_not]; omega

/-- a history with two compactions, a down-sampling merge (k = 4 into k = 2) and a view query -/
def demoOps : List (Op Int) :=
  [.new 0 2, .upd 0 5, .upd 0 3, .upd 0 9, .upd 0 1, .upd 0 7, .new 1 4] ++
  ([10, 11, 12, 13, 14, 15, 16, 17, 18] : List Int).map (fun x => Op.upd 1 x) ++ [.merge 0 1, .sortq 0, .upd 0 2]

def demoLim : Limits := { minK := 2, maxK := 32768 }

/-- every live object of a history is reachable (non-vacuity of `Reach`), for every outcome of the random choices -/
theorem C07q_reach_exists (c : Cmp α) (lim : Limits) (hlim : 0 < lim.minK) (ops : List (Op α)) (id : Nat)
    (items : List α) (ht : aget (truthHist c lim ops) id = some items) (src : Tree.Src) :
    ∃ s, ((runHist c lim ops).run src).1.get? id = some s ∧ Reach c lim ops id s items := by
  have hsp := hist_spec c lim hlim (fun _ => true) (sortOK_true c.lt) (relC_ok c _) ops id
  have hleaf := Tree.run_isLeaf hsp.all src
  cases hg : ((runHist c lim ops).run src).1.get? id with
  | none => exact absurd (ht.symm.trans ((hsp.all.of_leaf hleaf).get_none hg).1) (Option.some_ne_none items)
  | some s => exact ⟨s, rfl, _, hleaf, hg, ht⟩

def demoItems : List Int := [5, 3, 9, 1, 7, 10, 11, 12, 13, 14, 15, 16, 17, 18, 2]

theorem demo_truth : aget (truthHist intCmp demoLim demoOps) 0 = some demoItems := by decide

theorem demo3_truth : aget (truthHist intCmp demoLim [.new 0 2, .upd 0 5, .upd 0 3, .upd 0 9]) 0 = some [5, 3, 9] := by
  decide

example : ∃ s, Reach intCmp demoLim demoOps 0 s demoItems := by
  obtain ⟨s, _, h⟩ := C07q_reach_exists intCmp demoLim (by decide) demoOps 0 _ demo_truth { q := [1, 0, 1] }
  exact ⟨s, h⟩

/-- the invariant and the relation to the accepted items hold at every leaf (the lemma behind all statements below) -/
theorem C07q_reach_inv (c : Cmp α) (hc : SWO c.lt) (lim : Limits) (hlim : 0 < lim.minK) {ops : List (Op α)} {id : Nat}
    {s : Sketch α} {items : List α} (h : Reach c lim ops id s items) : Inv c (Sorted c.lt) s ∧ Rel c s items := by
  obtain ⟨st, hleaf, hg, ht⟩ := h
  have hsp := hist_spec c lim hlim (fun _ => true) (sortOK_sorted hc) (rel_ok c _ hc) ops id
  obtain ⟨_, ht', _, hi, hr⟩ := (hsp.all.of_leaf hleaf).get hg
  cases ht.symm.trans ht'
  exact ⟨hi, hr⟩

example : SWO intCmp.lt := intCmp_swo

/-- **n_exact**: `n` is the number of accepted items (merged ones included); none of them is NaN -/
theorem C07q_n_exact (c : Cmp α) (hc : SWO c.lt) (lim : Limits) (hlim : 0 < lim.minK) {ops : List (Op α)} {id : Nat}
    {s : Sketch α} {items : List α} (h : Reach c lim ops id s items) :
    s.n = items.length ∧ ∀ x ∈ items, c.nan x = false :=
  let r := (C07q_reach_inv c hc lim hlim h).2.1
  ⟨r.len, r.ok⟩

example : ∃ s, Reach intCmp demoLim demoOps 0 s demoItems ∧ s.n = 15 := by
  obtain ⟨s, _, h⟩ := C07q_reach_exists intCmp demoLim (by decide) demoOps 0 _ demo_truth { q := [] }
  exact ⟨s, h, (C07q_n_exact intCmp intCmp_swo demoLim (by decide) h).1⟩

/-- **NaN updates are ignored**: the sketch is returned unchanged and no random choice is made -/
theorem C07q_nan_update_ignored (c : Cmp α) (s : Sketch α) (x : α) (hx : c.nan x = true) :
    s.update c x = Tree.done s := by
  simp [Sketch.update, hx]

/-- a comparator on `Int` that treats 0 as "NaN" -/
def nanAtZero : Cmp Int := { lt := fun a b => decide (a < b), nan := fun x => x == 0 }

example : ({ k := 2 } : Sketch Int).update nanAtZero 0 = Tree.done { k := 2 } :=
  C07q_nan_update_ignored nanAtZero _ 0 rfl

/-- **minmax_exact**: `min_item_` / `max_item_` are elements of the accepted items that no accepted item is
smaller / larger than; they are absent exactly when nothing was accepted -/
theorem C07q_minmax_exact (c : Cmp α) (hc : SWO c.lt) (lim : Limits) (hlim : 0 < lim.minK) {ops : List (Op α)}
    {id : Nat} {s : Sketch α} {items : List α} (h : Reach c lim ops id s items) :
    (match s.minItem with
      | none => items = []
      | some m => m ∈ items ∧ ∀ x ∈ items, c.lt x m = false) ∧
    (match s.maxItem with
      | none => items = []
      | some m => m ∈ items ∧ ∀ x ∈ items, c.lt m x = false) := by
  have r := (C07q_reach_inv c hc lim hlim h).2.2
  constructor
  · have := r.mn; cases hm : s.minItem <;> simpa [hm, MinRel] using this
  · have := r.mx; cases hm : s.maxItem <;> simpa [hm, MinRel] using this

example : ∃ s, Reach intCmp demoLim demoOps 0 s demoItems := by
  obtain ⟨s, _, h⟩ := C07q_reach_exists intCmp demoLim (by decide) demoOps 0 _ demo_truth { q := [0, 0, 1, 1] }
  exact ⟨s, h⟩

/-- **weight_conserved**: the `const_iterator` exactly as coded (constructor, `operator++`, `operator==`,
`operator*`) yields the base buffer with weight 1 followed by the valid levels with weights `2^(i+1)`;
that is exactly `num_retained` pairs, and their weights sum to `n` -/
theorem C07q_weight_conserved (c : Cmp α) (hc : SWO c.lt) (lim : Limits) (hlim : 0 < lim.minK) {ops : List (Op α)}
    {id : Nat} {s : Sketch α} {items : List α} (h : Reach c lim ops id s items) :
    s.iterate = s.bb.map (fun x => (x, 1)) ++ pairsLevels 2 s.levels ∧
    s.iterate.length = s.numRetained ∧ (s.iterate.map (·.2)).sum = s.n := by
  have hi := (C07q_reach_inv c hc lim hlim h).1
  have he := iterate_eq s hi
  have hf := expectedIter_facts hi
  rw [he]
  exact ⟨rfl, hf.1, hf.2⟩

/-- **retained_bound**: `bit_pattern = n / 2k`, the base buffer holds `n mod 2k` items, level `i` holds `k` items if
bit `i` is set and none otherwise (and there are no levels beyond the highest set bit), so the number of stored items
is `get_num_retained() = |base buffer| + k·popcount(bit_pattern)` -/
theorem C07q_retained_bound (c : Cmp α) (hc : SWO c.lt) (lim : Limits) (hlim : 0 < lim.minK) {ops : List (Op α)}
    {id : Nat} {s : Sketch α} {items : List α} (h : Reach c lim ops id s items) :
    s.bits = s.n / (2 * s.k) ∧ s.bb.length = s.n % (2 * s.k) ∧
    s.numRetained = s.bb.length + s.k * popcount s.bits ∧
    s.bb.length + totalLen s.levels = s.numRetained ∧
    s.levels.length = bitLen s.bits ∧ LevelsShape (Sorted c.lt) s.k s.levels s.bits ∧ (∃ e, s.k = 2 ^ e) := by
  have hi := (C07q_reach_inv c hc lim hlim h).1
  have hr := retained_formula hi
  exact ⟨hi.bits_eq, hi.bb_len, hr.1, hr.2, hi.lv_len, hi.lv_shape, hi.kpow⟩

/-- **levels_sorted**: every level is ascending w.r.t. the comparator, and so is the base buffer whenever
`is_base_buffer_sorted_` is set (the precondition of `get_sorted_view` and of the merges) -/
theorem C07q_levels_sorted (c : Cmp α) (hc : SWO c.lt) (lim : Limits) (hlim : 0 < lim.minK) {ops : List (Op α)}
    {id : Nat} {s : Sketch α} {items : List α} (h : Reach c lim ops id s items) :
    (∀ l ∈ s.levels, Sorted c.lt l) ∧ (s.bbSorted = true → Sorted c.lt s.bb) := by
  have hi := (C07q_reach_inv c hc lim hlim h).1
  exact ⟨hi.lv_shape.sorted, hi.bb_sorted⟩

/-- **the sorted view** has total weight `n`, `num_retained` entries in ascending order, and `get_rank`'s numerator
is the total weight of the retained items `≤ x` (inclusive) resp. `< x` (exclusive) -/
theorem C07q_view (c : Cmp α) (hc : SWO c.lt) (lim : Limits) (hlim : 0 < lim.minK) {ops : List (Op α)}
    {id : Nat} {s : Sketch α} {items : List α} (h : Reach c lim ops id s items) :
    (s.view c).total = s.n ∧ (s.view c).ents.length = s.numRetained ∧ Sorted c.lt ((s.view c).ents.map (·.1)) ∧
    ∀ x incl, SortedView.rankNum c.lt (s.view c) x incl = wSketch (belowP c.lt x incl) s := by
  have hi := (C07q_reach_inv c hc lim hlim h).1
  exact ⟨view_total hc hi, view_length hc hi, view_sorted hc hi, fun x incl => view_rankNum hc hi x incl⟩

/-- **rank_mono, rank_incl_ge_excl, rank ≤ 1**: the rank numerator is monotone in the query point, the inclusive one is
at least the exclusive one, and none exceeds the total `n` -/
theorem C07q_rank_monotone (c : Cmp α) (hc : SWO c.lt) (lim : Limits) (hlim : 0 < lim.minK) {ops : List (Op α)}
    {id : Nat} {s : Sketch α} {items : List α} (h : Reach c lim ops id s items) :
    (∀ x y incl, c.lt y x = false →
      SortedView.rankNum c.lt (s.view c) x incl ≤ SortedView.rankNum c.lt (s.view c) y incl) ∧
    (∀ x, SortedView.rankNum c.lt (s.view c) x false ≤ SortedView.rankNum c.lt (s.view c) x true) ∧
    (∀ x incl, SortedView.rankNum c.lt (s.view c) x incl ≤ (s.view c).total) :=
  rank_monotone hc (C07q_reach_inv c hc lim hlim h).1

/-- **exact_mode_exact**: while `n < 2k` (nothing compacted) the rank numerator of every `x` is the number of
accepted items `≤ x` (resp. `< x`) over the denominator `n = |items|`, and for every integer weight threshold `w`
(the code computes `⌈r·n⌉` inclusive / `⌊r·n⌋` exclusive from the rank `r` in doubles) the quantile is the element of
index `w - 1` (inclusive) / `w` (exclusive) of the ascending arrangement of the accepted items, clamped to the last -/
theorem C07q_exact_mode_exact (c : Cmp α) (hc : SWO c.lt) (lim : Limits) (hlim : 0 < lim.minK) {ops : List (Op α)}
    {id : Nat} {s : Sketch α} {items : List α} (h : Reach c lim ops id s items) (hex : s.n < 2 * s.k) :
    (∀ x incl, SortedView.rankNum c.lt (s.view c) x incl = items.countP (belowP c.lt x incl)) ∧
    (s.view c).total = items.length ∧
    ∀ w incl, ∃ sorted : List α, sorted.Perm items ∧ Sorted c.lt sorted ∧
      SortedView.quantileAt (s.view c) w incl =
        match sorted[(if incl then w - 1 else w)]? with
        | some x => some x
        | none => sorted.getLast? := by
  obtain ⟨hi, hr⟩ := C07q_reach_inv c hc lim hlim h
  exact ⟨fun x incl => (exact_rank hc hi hr.1 hex x incl).1, by rw [view_total hc hi, hr.1.len],
    fun w incl => exact_quantile hc hi hr.1 hex w incl⟩

/-- a sketch still in exact mode is reachable: three updates into k = 2 -/
example : ∃ s, Reach intCmp demoLim [.new 0 2, .upd 0 5, .upd 0 3, .upd 0 9] 0 s [5, 3, 9] ∧ s.n < 2 * s.k := by
  obtain ⟨s, _, h⟩ := C07q_reach_exists intCmp demoLim (by decide) [.new 0 2, .upd 0 5, .upd 0 3, .upd 0 9] 0 _
    demo3_truth { q := [] }
  obtain ⟨st, hleaf, hg, _⟩ := id h  -- `id`: so that `obtain` sees through `Reach`
  obtain ⟨_, _, hk, _, _⟩ := ((hist_spec intCmp demoLim (by decide) (fun _ => true) (sortOK_true _) (relC_ok intCmp _)
    [.new 0 2, .upd 0 5, .upd 0 3, .upd 0 9] 0).all.of_leaf hleaf).get hg
  have hkk : aget (knHist intCmp demoLim [.new 0 2, .upd 0 5, .upd 0 3, .upd 0 9]).1 0 = some (2, 3) := by decide
  obtain ⟨hk2, hn3⟩ := Prod.mk.inj (Option.some.inj (hk.symm.trans hkk))
  exact ⟨s, h, by rw [hk2, hn3]; decide⟩

/-- the full statement: every rank that is not in `[0, 1]` – negative, above one, or NaN – is rejected -/
def C07q_invalid_rejected_full : Prop :=
  ∀ (c : Cmp Int) (s : Sketch Int) (cls : RankClass) (wOf : Nat → Nat) (incl : Bool),
    cls ≠ RankClass.ok → (s.getQuantileCore c cls wOf incl).2 = QOut.rejected

/-- at the pinned commit of /repo the guard is `(rank < 0.0) || (rank > 1.0)`, which is false for NaN: `get_quantile(NaN)` on a
non-empty sketch is answered (through an undefined double→uint64 conversion).  Witness: one item, rank NaN.
(finding `nan-rank-answered`, proposed_fixes/C07-nan-rank-answered.patch; /repo has since been repaired, e01cb97: the header now
tests `!((rank >= 0.0) && (rank <= 1.0))`; `rankRejected` in the model keeps the pinned shape) -/
theorem C07q_invalid_rejected_full_false : ¬ C07q_invalid_rejected_full := by
  intro h
  have := h intCmp { k := 4, n := 1, bb := [5], minItem := some 5, maxItem := some 5 } RankClass.nan (fun t => t) true
    (by decide)
  simp [Sketch.getQuantileCore, rankRejected] at this

/-- what does hold: queries on an empty sketch (rank, quantile, CDF/PMF), ranks below 0 or above 1, split points
containing a NaN or not strictly increasing are all rejected (the code throws) -/
theorem C07q_invalid_rejected_partial (c : Cmp α) (s : Sketch α) :
    (s.n = 0 → ∀ x incl cls wOf sp, s.getRankNum c x incl = (s, .rejected) ∧
        s.getQuantileCore c cls wOf incl = (s, .rejected) ∧ s.getCDFNum c sp incl = (s, .rejected)) ∧
    (∀ cls wOf incl, cls = RankClass.neg ∨ cls = RankClass.big → s.getQuantileCore c cls wOf incl = (s, .rejected)) ∧
    (∀ sp incl x, x ∈ sp → c.nan x = true → (s.getCDFNum c sp incl).2 = .rejected) ∧
    (∀ pre post a b incl, c.lt a b = false → (s.getCDFNum c (pre ++ a :: b :: post) incl).2 = .rejected) :=
  ⟨fun hn x incl cls wOf sp => by simp [Sketch.getRankNum, Sketch.getQuantileCore, Sketch.getCDFNum, hn],
   fun cls wOf incl hc => by
    unfold Sketch.getQuantileCore
    by_cases hn : s.n = 0
    · simp [hn]
    · rcases hc with rfl | rfl <;> simp [hn, rankRejected],
   fun sp incl x hx hn => bad_splits_rejected c s sp incl (checkSplitPoints_nan c sp x hx hn),
   fun pre post a b incl hab => bad_splits_rejected c s _ incl (checkSplitPoints_order c pre post a b hab)⟩

example : (({ k := 4 } : Sketch Int).getQuantileCore intCmp RankClass.ok (fun t => t) true).2 = QOut.rejected := by
  simp [Sketch.getQuantileCore]

/-- all of the above holds along every recorded stream of random choices (what the harness feeds through the
`verif_random_source` it installs as `random_utils::verif_source`): the result of `Tree.run` is a leaf -/
theorem C07q_every_run (c : Cmp α) (lim : Limits) (hlim : 0 < lim.minK) (ops : List (Op α)) (src : Tree.Src) :
    Tree.IsLeaf ((runHist c lim ops).run src).1 (runHist c lim ops) :=
  Tree.run_isLeaf (hist_spec c lim hlim (fun _ => true) (sortOK_true c.lt) (relC_ok c _) ops 0).all src

example : Tree.IsLeaf ((runHist intCmp demoLim demoOps).run { q := [1, 1, 0, 1] }).1 (runHist intCmp demoLim demoOps) :=
  C07q_every_run intCmp demoLim (by decide) demoOps _

end DS.Quantiles
