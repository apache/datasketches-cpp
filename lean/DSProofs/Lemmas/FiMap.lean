/- The L1 frequent-items map (DSModel/Fi/Abstract.lean): counters under `bump` / `adjust` / `purgeMap`, sums and counts
   of the counters, the median of `sortNat`. -/
import DSModel.Fi.Abstract
import DSProofs.Lemmas.ListAux
namespace DS.Fi
set_option linter.unusedSectionVars false

variable {ι : Type} [DecidableEq ι]

@[simp] theorem keys_nil : keys ([] : Map ι) = [] := rfl
@[simp] theorem keys_cons (p : ι × Nat) (m : Map ι) : keys (p :: m) = p.1 :: keys m := rfl
@[simp] theorem cnt_nil (x : ι) : cnt ([] : Map ι) x = 0 := rfl
@[simp] theorem cnt_cons (k : ι) (v : Nat) (m : Map ι) (x : ι) :
    cnt ((k, v) :: m) x = (if k = x then v else 0) + cnt m x := rfl

theorem keys_append (m n : Map ι) : keys (m ++ n) = keys m ++ keys n := List.map_append

theorem cnt_append (m n : Map ι) (x : ι) : cnt (m ++ n) x = cnt m x + cnt n x := by
  induction m with
  | nil => simp
  | cons p t ih => obtain ⟨k, v⟩ := p; simp [ih, Nat.add_assoc]

theorem hasKey_iff (m : Map ι) (x : ι) : hasKey m x = true ↔ x ∈ keys m := by
  induction m with
  | nil => simp [hasKey]
  | cons p t ih => simp [hasKey, ih, @eq_comm _ p.1 x]

theorem hasKey_false_iff (m : Map ι) (x : ι) : hasKey m x = false ↔ x ∉ keys m := by
  rw [← hasKey_iff, Bool.not_eq_true]

theorem cnt_eq_zero_of_not_mem (m : Map ι) (x : ι) (h : x ∉ keys m) : cnt m x = 0 := by
  induction m with
  | nil => rfl
  | cons p t ih =>
    obtain ⟨k, v⟩ := p
    simp only [keys_cons, List.mem_cons, not_or] at h
    simp [Ne.symm h.1, ih h.2]

theorem cnt_of_mem (m : Map ι) (hn : (keys m).Nodup) (k : ι) (v : Nat) (h : (k, v) ∈ m) : cnt m k = v := by
  induction m with
  | nil => simp at h
  | cons p t ih =>
    obtain ⟨k', v'⟩ := p
    simp only [keys_cons, List.nodup_cons] at hn
    rcases List.mem_cons.mp h with h | h
    · cases h
      simp [cnt_eq_zero_of_not_mem t k hn.1]
    · have hne : k' ≠ k := fun e => hn.1 (e ▸ List.mem_map.mpr ⟨(k, v), h, rfl⟩)
      simp [hne, ih hn.2 h]

theorem mem_keys_of_cnt_pos (m : Map ι) (x : ι) (h : 0 < cnt m x) : x ∈ keys m :=
  Decidable.by_contra fun hx => by simp [cnt_eq_zero_of_not_mem m x hx] at h

theorem mem_of_cnt_pos (m : Map ι) (hn : (keys m).Nodup) (x : ι) (h : 0 < cnt m x) : (x, cnt m x) ∈ m := by
  obtain ⟨⟨k, v⟩, hp, rfl⟩ := List.mem_map.mp (mem_keys_of_cnt_pos m x h)
  rwa [cnt_of_mem m hn k v hp]

theorem keys_bump (m : Map ι) (x : ι) (w : Nat) : keys (bump m x w) = keys m := by
  induction m with
  | nil => rfl
  | cons p t ih => simp only [bump, keys_cons, ih]; split <;> rfl

theorem len_bump (m : Map ι) (x : ι) (w : Nat) : (bump m x w).length = m.length := by
  rw [← List.length_map (f := (·.1)), ← List.length_map (f := (·.1)) (as := m)]; exact congrArg _ (keys_bump m x w)

theorem bump_of_not_mem (m : Map ι) (x : ι) (w : Nat) (h : x ∉ keys m) : bump m x w = m := by
  induction m with
  | nil => rfl
  | cons p t ih =>
    simp only [keys_cons, List.mem_cons, not_or] at h
    simp [bump, Ne.symm h.1, ih h.2]

theorem cnt_bump (m : Map ι) (hn : (keys m).Nodup) (x : ι) (w : Nat) (hx : x ∈ keys m) (y : ι) :
    cnt (bump m x w) y = cnt m y + (if x = y then w else 0) := by
  induction m with
  | nil => simp at hx
  | cons p t ih =>
    obtain ⟨k, v⟩ := p
    simp only [keys_cons, List.nodup_cons, List.mem_cons] at hn hx
    by_cases hk : k = x
    · subst hk
      rw [bump, if_pos rfl, bump_of_not_mem t k w hn.1, cnt_cons, cnt_cons]
      split <;> omega
    · rw [bump, if_neg hk, cnt_cons, cnt_cons, ih hn.2 (hx.resolve_left (Ne.symm hk))]
      omega

theorem cnt_adjust (m : Map ι) (hn : (keys m).Nodup) (x : ι) (w : Nat) (y : ι) :
    cnt (adjust m x w) y = cnt m y + (if x = y then w else 0) := by
  unfold adjust
  split
  · next h => exact cnt_bump m hn x w ((hasKey_iff m x).mp h) y
  · simp [cnt_append]

theorem nodup_adjust (m : Map ι) (hn : (keys m).Nodup) (x : ι) (w : Nat) : (keys (adjust m x w)).Nodup := by
  unfold adjust
  split
  · rwa [keys_bump]
  · next h =>
    rw [Bool.not_eq_true, hasKey_false_iff] at h
    simpa [keys_append, List.nodup_append, hn] using fun a ha (e : a = x) => h (e ▸ ha)

theorem length_adjust (m : Map ι) (x : ι) (w : Nat) :
    (adjust m x w).length = if x ∈ keys m then m.length else m.length + 1 := by
  simp only [adjust, ← hasKey_iff]
  split
  · exact len_bump m x w
  · simp

theorem purgeMap_eq (m : Map ι) (a : Nat) : purgeMap m a = (m.filter fun p => a < p.2).map fun p => (p.1, p.2 - a) := by
  induction m with
  | nil => rfl
  | cons p t ih =>
    obtain ⟨k, v⟩ := p
    simp only [purgeMap, List.filter_cons, decide_eq_true_eq]
    split <;> simp [ih]

theorem keys_purgeMap_sublist (m : Map ι) (a : Nat) : (keys (purgeMap m a)).Sublist (keys m) := by
  rw [purgeMap_eq, keys, List.map_map]
  exact List.filter_sublist.map _

theorem nodup_purgeMap (m : Map ι) (hn : (keys m).Nodup) (a : Nat) : (keys (purgeMap m a)).Nodup :=
  hn.sublist (keys_purgeMap_sublist m a)

theorem cnt_purgeMap (m : Map ι) (hn : (keys m).Nodup) (a : Nat) (y : ι) :
    cnt (purgeMap m a) y = cnt m y - a := by
  induction m with
  | nil => simp [purgeMap]
  | cons p t ih =>
    obtain ⟨k, v⟩ := p
    simp only [keys_cons, List.nodup_cons] at hn
    simp only [purgeMap]
    by_cases hk : k = y
    · subst hk
      split <;> simp [ih hn.2, cnt_eq_zero_of_not_mem t k hn.1] <;> omega
    · split <;> simp [hk, ih hn.2]

@[simp] theorem sumVals_nil : sumVals ([] : Map ι) = 0 := rfl
@[simp] theorem sumVals_cons (k : ι) (v : Nat) (m : Map ι) : sumVals ((k, v) :: m) = v + sumVals m := rfl
@[simp] theorem vals_cons (p : ι × Nat) (m : Map ι) : vals (p :: m) = p.2 :: vals m := rfl
@[simp] theorem vals_nil : vals ([] : Map ι) = [] := rfl
@[simp] theorem vals_length (m : Map ι) : (vals m).length = m.length := List.length_map _

theorem sumVals_append (m n : Map ι) : sumVals (m ++ n) = sumVals m + sumVals n := by
  induction m with
  | nil => simp
  | cons p t ih => obtain ⟨k, v⟩ := p; simp [ih, Nat.add_assoc]

theorem sumVals_bump (m : Map ι) (hn : (keys m).Nodup) (x : ι) (w : Nat) (hx : x ∈ keys m) :
    sumVals (bump m x w) = sumVals m + w := by
  induction m with
  | nil => simp at hx
  | cons p t ih =>
    obtain ⟨k, v⟩ := p
    simp only [keys_cons, List.nodup_cons, List.mem_cons] at hn hx
    by_cases hk : k = x
    · subst hk
      rw [bump, if_pos rfl, bump_of_not_mem t k w hn.1, sumVals_cons, sumVals_cons]
      omega
    · rw [bump, if_neg hk, sumVals_cons, sumVals_cons, ih hn.2 (hx.resolve_left (Ne.symm hk))]
      omega

theorem sumVals_adjust (m : Map ι) (hn : (keys m).Nodup) (x : ι) (w : Nat) :
    sumVals (adjust m x w) = sumVals m + w := by
  unfold adjust
  split
  · next h => exact sumVals_bump m hn x w ((hasKey_iff m x).mp h)
  · simp [sumVals_append]

theorem cnt_perm {m n : Map ι} (h : m.Perm n) (x : ι) : cnt m x = cnt n x := by
  induction h with
  | nil => rfl
  | cons p _ ih => obtain ⟨k, v⟩ := p; simp [ih]
  | swap p q l => obtain ⟨k, v⟩ := p; obtain ⟨k', v'⟩ := q; simp; omega
  | trans _ _ ih1 ih2 => exact ih1.trans ih2

theorem sumVals_perm {m n : Map ι} (h : m.Perm n) : sumVals m = sumVals n := by
  induction h with
  | nil => rfl
  | cons p _ ih => obtain ⟨k, v⟩ := p; simp [ih]
  | swap p q l => obtain ⟨k, v⟩ := p; obtain ⟨k', v'⟩ := q; simp; omega
  | trans _ _ ih1 ih2 => exact ih1.trans ih2

theorem countGE_eq_countP (l : List Nat) (a : Nat) : countGE l a = l.countP (a ≤ ·) := by
  induction l with
  | nil => rfl
  | cons v t ih => simp only [countGE, List.countP_cons, ih, decide_eq_true_eq]; omega

theorem countGE_anti (l : List Nat) {a b : Nat} (h : a ≤ b) : countGE l b ≤ countGE l a := by
  rw [countGE_eq_countP, countGE_eq_countP]
  exact List.countP_mono_left fun v _ hv => by simp only [decide_eq_true_eq] at hv ⊢; omega

theorem countGE_perm {l m : List Nat} (h : l.Perm m) (a : Nat) : countGE l a = countGE m a := by
  rw [countGE_eq_countP, countGE_eq_countP, h.countP_eq]

theorem countGE_all (l : List Nat) (a : Nat) (h : ∀ v ∈ l, a ≤ v) : countGE l a = l.length := by
  rw [countGE_eq_countP, List.countP_eq_length]; simpa using h

theorem sumVals_purgeMap (m : Map ι) (a : Nat) :
    sumVals (purgeMap m a) + a * countGE (vals m) a ≤ sumVals m := by
  induction m with
  | nil => simp [purgeMap, countGE]
  | cons p t ih =>
    obtain ⟨k, v⟩ := p
    simp only [purgeMap, vals_cons, countGE, sumVals_cons, Nat.mul_add]
    split <;> split <;> simp only [sumVals_cons, Nat.mul_one, Nat.mul_zero] <;> omega

theorem countGE_sorted_getD (s : List Nat) (hs : s.Pairwise (· ≤ ·)) (i : Nat) (hi : i < s.length) :
    s.length - i ≤ countGE s (s.getD i 0) := by
  induction s generalizing i with
  | nil => simp at hi
  | cons h t ih =>
    have ⟨hh, ht⟩ := List.pairwise_cons.mp hs
    cases i with
    | zero =>
      rw [List.getD_cons_zero, countGE_all _ _ (List.forall_mem_cons.mpr ⟨Nat.le_refl _, hh⟩)]
      omega
    | succ j =>
      have := ih ht j (by simpa using hi)
      simp only [List.getD_cons_succ, countGE, List.length_cons]
      omega

/-- the code's purge amount (element of rank n/2 of the sample) has at least `n - n/2` sample elements above or at it -/
theorem upperHalf_le_countGE_median (l : List Nat) : upperHalf l.length ≤ countGE l (medianOf l) := by
  cases l with
  | nil => simp [upperHalf]
  | cons x t =>
    have hp := perm_sortNat (x :: t)
    have := countGE_sorted_getD _ (sorted_sortNat (x :: t)) ((x :: t).length / 2)
      (by rw [hp.length_eq, List.length_cons]; omega)
    rwa [hp.length_eq, countGE_perm hp] at this

theorem medianOf_mem (l : List Nat) (h : l ≠ []) : medianOf l ∈ l := by
  have hp := perm_sortNat l
  have hi : l.length / 2 < (sortNat l).length := by
    have := List.length_pos_iff.mpr h
    rw [hp.length_eq]; omega
  rw [medianOf, List.getD_eq_getElem?_getD, List.getElem?_eq_getElem hi]
  exact hp.mem_iff.mp (List.getElem_mem hi)

theorem medianOf_perm {l m : List Nat} (h : l.Perm m) : medianOf l = medianOf m := by
  unfold medianOf
  rw [sortNat_perm h, h.length_eq]

theorem upperHalf_mono {a b : Nat} (h : a ≤ b) : upperHalf a ≤ upperHalf b := by
  unfold upperHalf; omega

theorem two_mul_upperHalf (n : Nat) : n ≤ 2 * upperHalf n := by
  unfold upperHalf; omega

theorem capacity_mono (T : Tun) {a b : Nat} (h : a ≤ b) : capacity T a ≤ capacity T b :=
  Nat.div_le_div_right (Nat.mul_le_mul_right _ (Nat.pow_le_pow_right (by decide) h))

end DS.Fi
