/- C12, repaired source shape: with `is_empty() = (total_weight == 0)` (header flag `emptyByTotal`) the bracketing
   invariant and the exact total hold for EVERY history, including merges and round trips of fully purged sketches. -/
import DSProofs.Lemmas.FiReach
namespace DS.Fi
set_option linter.unusedSectionVars false

variable {ι : Type} [DecidableEq ι]

/-- every history of the sketch with the `is_empty()`-dependent operations read from the header flag (`mergeF`, `roundtripF`; the
theorems take `T.emptyByTotal = true`, the repaired shape); the constructors of `Reach` without its exclusion of fully purged
operands -/
inductive ReachF (T : Tun) : St ι → (ι → Nat) → Nat → Prop
  | new (lgMax lgStart : Nat) (h : lgStart ≤ lgMax) : ReachF T (init T lgMax lgStart) (fun _ => 0) 0
  | upd {s f N} (x : ι) (w a : Nat) (h : ReachF T s f N) :
      ReachF T (update T s x w a) (fun y => f y + (if x = y then w else 0)) (N + w)
  | merge {s f N o g M} (ents : List (Ent ι)) (hs : ReachF T s f N) (ho : ReachF T o g M)
      (hp : (entPairs ents).Perm o.map) :
      ReachF T (mergeF T s o ents) (fun y => f y + g y) (N + M)
  | roundtrip {s f N} (h : ReachF T s f N) : ReachF T (roundtripF T s) f N
  | congr {s f g N} (h : ReachF T s f N) (hfg : ∀ y, f y = g y) : ReachF T s g N

/-- besides the bracket and the exact total: a sketch of total weight 0 has seen no item, which is what makes skipping it
in `mergeF` and writing it as the empty image in `roundtripF` harmless -/
theorem reachF_inv (T : Tun) (hT : T.emptyByTotal = true) {s : St ι} {f : ι → Nat} {N : Nat} (h : ReachF T s f N) :
    Brk s f ∧ s.total = N ∧ (N = 0 → ∀ y, f y = 0) := by
  induction h with
  | new lgMax lgStart _ => exact ⟨brk_init T lgMax lgStart, rfl, fun _ _ => rfl⟩
  | upd x w a _ ih =>
    refine ⟨brk_update T _ _ ih.1 x w a, by rw [total_update, ih.2.1], fun h0 y => ?_⟩
    show _ + _ = 0
    rw [ih.2.2 (by omega) y, show w = 0 by omega, ite_self]
  | @merge s f N o g M ents _ _ hp ih1 ih2 =>
    simp only [mergeF, hT, if_true]
    have hz : N + M = 0 → ∀ y, f y + g y = 0 := fun hz y => by rw [ih1.2.2 (by omega) y, ih2.2.2 (by omega) y]
    split
    · next h0 =>
      have hM : M = 0 := by rw [← ih2.2.1]; exact h0
      exact ⟨ih1.1.congr fun y => by rw [ih2.2.2 hM y]; rfl, by rw [ih1.2.1, hM]; rfl, hz⟩
    · exact ⟨brk_merge_replay T ih1.1 ih2.1 hp _, by rw [← ih1.2.1, ← ih2.2.1], hz⟩
  | @roundtrip s f N _ ih =>
    simp only [roundtripF, hT, if_true]
    split
    · next h0 =>
      have hN : N = 0 := by rw [← ih.2.1]; exact h0
      -- `Brk` reads only `map` and `offset`, which the empty image has in common with `init T 0 0`
      exact ⟨(brk_init T 0 0).congr fun y => (ih.2.2 hN y).symm, hN.symm, ih.2.2⟩
    · exact ih
  | congr _ hfg ih => exact ⟨ih.1.congr hfg, ih.2.1, fun hz y => by rw [← hfg y]; exact ih.2.2 hz y⟩

end DS.Fi
