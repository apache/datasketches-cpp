/- The register array of the L1 HLL model as the per-slot maxima of a coupon set (`IsMaxAt`, `RegsOf`, `HInv`), and what one
`hllUpdate` does to it and to (curMin, numAtCurMin). -/
import DSModel.Hll.Sketch
import DSProofs.Lemmas.ListAux
namespace DS.Hll

variable {ν : Type} [HNum ν]

/-- `m` is the maximum coupon value among the coupons satisfying `M` that fall into `slot` (0 if there is none) -/
def IsMaxAt (p : Params) (lgK : Nat) (M : Nat → Prop) (slot m : Nat) : Prop :=
  (∀ c, M c → cSlot p lgK c = slot → cValue p c ≤ m) ∧
  (m = 0 ∨ ∃ c, M c ∧ cSlot p lgK c = slot ∧ cValue p c = m)

theorem IsMaxAt.le_of_bound {p : Params} {lgK : Nat} {M : Nat → Prop} {slot a b : Nat} (ha : IsMaxAt p lgK M slot a)
    (hb : ∀ c, M c → cSlot p lgK c = slot → cValue p c ≤ b) : a ≤ b :=
  ha.2.elim (fun h => h ▸ Nat.zero_le b) fun ⟨c, hc, hs, hv⟩ => hv ▸ hb c hc hs

theorem IsMaxAt.unique {p : Params} {lgK : Nat} {M : Nat → Prop} {slot a b : Nat}
    (ha : IsMaxAt p lgK M slot a) (hb : IsMaxAt p lgK M slot b) : a = b :=
  Nat.le_antisymm (ha.le_of_bound hb.1) (hb.le_of_bound ha.1)

theorem cValue_zero (p : Params) : cValue p 0 = 0 := Nat.zero_div _

/-- The EMPTY coupon (0) has value 0, so only the nonzero coupons of `M` matter. -/
theorem IsMaxAt.congr_nz {p : Params} {lgK : Nat} {M N : Nat → Prop} {slot m : Nat}
    (h : ∀ c, c ≠ 0 → (M c ↔ N c)) (hm : IsMaxAt p lgK M slot m) : IsMaxAt p lgK N slot m := by
  refine ⟨fun c hc hs => ?_, hm.2.elim Or.inl fun ⟨c, hc, hs, hv⟩ => ?_⟩
  · by_cases h0 : c = 0
    · rw [h0, cValue_zero]; exact Nat.zero_le m
    · exact hm.1 c ((h c h0).2 hc) hs
  · by_cases h0 : c = 0
    · rw [h0, cValue_zero] at hv; exact Or.inl hv.symm
    · exact Or.inr ⟨c, (h c h0).1 hc, hs, hv⟩

theorem IsMaxAt.congr {p : Params} {lgK : Nat} {M N : Nat → Prop} {slot m : Nat}
    (h : ∀ c, M c ↔ N c) (hm : IsMaxAt p lgK M slot m) : IsMaxAt p lgK N slot m :=
  hm.congr_nz fun c _ => h c

theorem IsMaxAt.insert {p : Params} {lgK : Nat} {M : Nat → Prop} {slot m c : Nat} (hm : IsMaxAt p lgK M slot m)
    (hc : cSlot p lgK c = slot → cValue p c ≤ m) : IsMaxAt p lgK (fun x => M x ∨ x = c) slot m := by
  refine ⟨?_, hm.2.imp id fun ⟨x, hx, h⟩ => ⟨x, Or.inl hx, h⟩⟩
  rintro x (hx | rfl) hxs
  · exact hm.1 x hx hxs
  · exact hc hxs

theorem IsMaxAt.union {p : Params} {lgK : Nat} {M N : Nat → Prop} {slot a b : Nat} (ha : IsMaxAt p lgK M slot a)
    (hb : IsMaxAt p lgK N slot b) : IsMaxAt p lgK (fun c => M c ∨ N c) slot (max a b) := by
  refine ⟨fun c hc hs => hc.elim (fun h => Nat.le_trans (ha.1 c h hs) (Nat.le_max_left ..))
    fun h => Nat.le_trans (hb.1 c h hs) (Nat.le_max_right ..), ?_⟩
  rcases Nat.le_total a b with h | h
  · rw [Nat.max_eq_right h]; exact hb.2.imp id fun ⟨c, hc, hx⟩ => ⟨c, Or.inr hc, hx⟩
  · rw [Nat.max_eq_left h]; exact ha.2.imp id fun ⟨c, hc, hx⟩ => ⟨c, Or.inl hc, hx⟩

theorem cSlot_lt (p : Params) (lgK c : Nat) : cSlot p lgK c < 2^lgK :=
  Nat.mod_lt _ (Nat.two_pow_pos lgK)

theorem getD_setIfInBounds_self {a : Array Nat} {i v d : Nat} (h : i < a.size) :
    (a.setIfInBounds i v).getD i d = v := by
  simp [Array.getD_eq_getD_getElem?, h]

theorem getD_setIfInBounds_ne {a : Array Nat} {i j v d : Nat} (h : i ≠ j) :
    (a.setIfInBounds i v).getD j d = a.getD j d := by
  simp [Array.getD_eq_getD_getElem?, h]

theorem getD_eq_getElem {a : Array Nat} {i d : Nat} (h : i < a.size) : a.getD i d = a[i] := by
  simp [Array.getD_eq_getD_getElem?, h]

/-- `IsMaxAt` in every slot of an array of the right size: what `HInv.size` and `HInv.regs` say of `s.regs` (`HInv.regsOf`),
as a statement about an array alone -/
structure RegsOf (p : Params) (lgK : Nat) (M : Nat → Prop) (regs : Array Nat) : Prop where
  size : regs.size = 2^lgK
  max : ∀ slot, slot < 2^lgK → IsMaxAt p lgK M slot (regs.getD slot 0)

theorem RegsOf.congr_nz {p : Params} {lgK : Nat} {M N : Nat → Prop} {regs : Array Nat} (h : RegsOf p lgK M regs)
    (hmn : ∀ c, c ≠ 0 → (M c ↔ N c)) : RegsOf p lgK N regs :=
  ⟨h.size, fun s hs => (h.max s hs).congr_nz hmn⟩

theorem RegsOf.unique {p : Params} {lgK : Nat} {M N : Nat → Prop} {a b : Array Nat} (ha : RegsOf p lgK M a)
    (hb : RegsOf p lgK N b) (h : ∀ c, c ≠ 0 → (M c ↔ N c)) : a = b :=
  Array.ext (ha.size.trans hb.size.symm) fun i h1 h2 => by
    rw [← getD_eq_getElem (d := 0) h1, ← getD_eq_getElem (d := 0) h2]
    have hi : i < 2^lgK := ha.size ▸ h1
    exact ((ha.max i hi).congr_nz h).unique (hb.max i hi)

theorem RegsOf.zero (p : Params) (lgK : Nat) : RegsOf p lgK (fun _ => False) (Array.replicate (2^lgK) 0) :=
  ⟨Array.size_replicate, fun slot hs => ⟨fun _ hc => hc.elim, Or.inl (by simp [Array.getD_eq_getD_getElem?, hs])⟩⟩

theorem RegsOf.all_zero_iff {p : Params} {lgK : Nat} {M : Nat → Prop} {regs : Array Nat} (h : RegsOf p lgK M regs) :
    (∀ slot, slot < 2^lgK → regs.getD slot 0 = 0) ↔ ∀ c, M c → cValue p c = 0 := by
  constructor
  · intro hz c hc
    have := (h.max _ (cSlot_lt p lgK c)).1 c hc rfl
    rw [hz _ (cSlot_lt p lgK c)] at this
    exact Nat.le_zero.1 this
  · intro hall slot hs
    exact Nat.le_zero.1 ((h.max slot hs).le_of_bound fun c hc _ => Nat.le_of_eq (hall c hc))

/-- what every `internalCouponUpdate` does to the registers (`if (newVal > curVal)` store); HLL_4 reaches it behind its quick
rejection (`hllUpdate_eq`) -/
def maxUpdate (p : Params) (lgK : Nat) (regs : Array Nat) (c : Nat) : Array Nat :=
  if regs.getD (cSlot p lgK c) 0 < cValue p c then regs.setIfInBounds (cSlot p lgK c) (cValue p c) else regs

theorem RegsOf.maxUpdate {p : Params} {lgK : Nat} {regs : Array Nat} {M : Nat → Prop} (hr : RegsOf p lgK M regs) (c : Nat) :
    RegsOf p lgK (fun x => M x ∨ x = c) (maxUpdate p lgK regs c) := by
  have hs : cSlot p lgK c < regs.size := hr.size ▸ cSlot_lt p lgK c
  unfold DS.Hll.maxUpdate
  by_cases hlt : regs.getD (cSlot p lgK c) 0 < cValue p c
  · rw [if_pos hlt]
    refine ⟨Array.size_setIfInBounds.trans hr.size, fun slot hsl => ?_⟩
    by_cases he : cSlot p lgK c = slot
    · subst he
      rw [getD_setIfInBounds_self hs]
      exact ⟨fun x hx hxs => hx.elim (fun h => Nat.le_trans ((hr.max _ hsl).1 x h hxs) (Nat.le_of_lt hlt)) fun h => h ▸ Nat.le_refl _,
        Or.inr ⟨c, Or.inr rfl, rfl, rfl⟩⟩
    · rw [getD_setIfInBounds_ne he]
      exact (hr.max slot hsl).insert fun h => absurd h he
  · rw [if_neg hlt]
    exact ⟨hr.size, fun slot hsl => (hr.max slot hsl).insert fun h => h ▸ Nat.le_of_not_lt hlt⟩

theorem count_eq_zero_iff_getD {a : Array Nat} {w : Nat} : a.count w = 0 ↔ ∀ i, i < a.size → a.getD i 0 ≠ w := by
  rw [Array.count_eq_zero, Array.mem_iff_getElem]
  exact ⟨fun h i hi e => h ⟨i, hi, getD_eq_getElem hi ▸ e⟩, fun h ⟨i, hi, e⟩ => h i hi (getD_eq_getElem hi ▸ e)⟩

theorem count_zero_eq_size_iff {a : Array Nat} : a.count 0 = a.size ↔ ∀ i, i < a.size → a.getD i 0 = 0 := by
  rw [Array.count_eq_size]
  constructor
  · intro hb i hi
    rw [getD_eq_getElem hi]
    exact (hb _ (Array.getElem_mem hi)).symm
  · intro hb b hbm
    rcases Array.mem_iff_getElem.1 hbm with ⟨i, hi, he⟩
    rw [← he, ← getD_eq_getElem (d := 0) hi, hb i hi]

theorem count_raise {a : Array Nat} {i v w : Nat} (h : i < a.size) (hw : w ≤ a.getD i 0) (hlt : a.getD i 0 < v) :
    (a.setIfInBounds i v).count w = if a.getD i 0 = w then a.count w - 1 else a.count w := by
  rw [getD_eq_getElem h] at hw hlt ⊢
  rw [Array.setIfInBounds, dif_pos h, Array.count_set h]
  by_cases ho : a[i] = w <;> simp [ho, Nat.ne_of_gt (Nat.lt_of_le_of_lt hw hlt)]

/-- what HLL_4 keeps of `r = (curMin, numAtCurMin)`: a lower bound of the registers and its multiplicity -/
structure MinCount (regs : Array Nat) (r : Nat × Nat) : Prop where
  le : ∀ i, i < regs.size → r.1 ≤ regs.getD i 0
  count : r.2 = regs.count r.1

theorem shiftLoop_spec (regs : Array Nat) : ∀ (fuel cm : Nat), (∀ i, i < regs.size → cm < regs.getD i 0) →
    MinCount regs (shiftLoop regs fuel cm)
  | 0, cm, h => ⟨fun i hi => Nat.le_of_lt (h i hi), (count_eq_zero_iff_getD.2 fun i hi => Nat.ne_of_gt (h i hi)).symm⟩
  | fuel + 1, cm, h => by
    simp only [shiftLoop]
    split
    · next hn =>
      exact shiftLoop_spec regs fuel (cm + 1) fun i hi =>
        Nat.lt_of_le_of_ne (h i hi) (Ne.symm (count_eq_zero_iff_getD.1 hn i hi))
    · exact ⟨h, rfl⟩

theorem bumpPair_h4 {tt : TType} {regs : Array Nat} {slot nv cm n : Nat} (htt : tt = .h4) (hsz : slot < regs.size)
    (hlt : regs.getD slot 0 < nv) (h : MinCount regs (cm, n)) :
    MinCount (regs.setIfInBounds slot nv) (bumpPair tt (regs.setIfInBounds slot nv) cm n (regs.getD slot 0)) := by
  have hge : ∀ i, i < (regs.setIfInBounds slot nv).size → cm ≤ (regs.setIfInBounds slot nv).getD i 0 := by
    intro i hi
    by_cases he : slot = i
    · rw [← he, getD_setIfInBounds_self hsz]; exact Nat.le_trans (h.le slot hsz) (Nat.le_of_lt hlt)
    · rw [getD_setIfInBounds_ne he]; exact h.le i (Array.size_setIfInBounds ▸ hi)
  have hcs := count_raise hsz (h.le slot hsz) hlt
  have hn : n = regs.count cm := h.count
  rw [← hn] at hcs
  subst htt
  unfold bumpPair
  simp only
  by_cases hoc : regs.getD slot 0 = cm
  · rw [if_pos hoc] at hcs ⊢
    by_cases hz : n - 1 = 0
    -- the raised register was the only one at curMin
    · rw [if_pos hz]
      exact shiftLoop_spec _ 64 cm fun i hi =>
        Nat.lt_of_le_of_ne (hge i hi) (Ne.symm (count_eq_zero_iff_getD.1 (hcs.trans hz) i hi))
    · rw [if_neg hz]; exact ⟨hge, hcs.symm⟩
  · rw [if_neg hoc] at hcs ⊢; exact ⟨hge, hcs.symm⟩

theorem bumpPair_ne_h4 {tt : TType} (htt : tt ≠ .h4) (regs : Array Nat) (cm n old : Nat) :
    bumpPair tt regs cm n old = (cm, if old = 0 then n - 1 else n) := by
  cases tt
  · exact absurd rfl htt
  all_goals
    unfold bumpPair
    by_cases h : old = 0 <;> simp [h]

/-- invariant of a plain (non-gadget) sketch in HLL mode: the registers are the per-slot maxima of the coupon set `M` (the coupons
offered to the register array so far); for HLL_4 `curMin` is a lower bound of the registers and `numAtCurMin` its multiplicity, for
HLL_6 / HLL_8 `curMin` stays 0 and `numAtCurMin` counts the zero registers -/
structure HInv (p : Params) (s : St ν) (M : Nat → Prop) : Prop where
  size : s.regs.size = 2^s.lgK
  regs : ∀ slot, slot < 2^s.lgK → IsMaxAt p s.lgK M slot (s.regs.getD slot 0)
  cm_le : s.tt = .h4 → ∀ slot, slot < 2^s.lgK → s.curMin ≤ s.regs.getD slot 0
  cnt4 : s.tt = .h4 → s.numAtCurMin = s.regs.count s.curMin
  cnt68 : s.tt ≠ .h4 → s.curMin = 0 ∧ s.numAtCurMin = s.regs.count 0

theorem HInv.congr_nz {p : Params} {s : St ν} {M N : Nat → Prop} (h : HInv p s M) (hmn : ∀ c, c ≠ 0 → (M c ↔ N c)) :
    HInv p s N :=
  ⟨h.size, fun slot hs => (h.regs slot hs).congr_nz hmn, h.cm_le, h.cnt4, h.cnt68⟩

theorem HInv.congr {p : Params} {s : St ν} {M N : Nat → Prop} (h : HInv p s M) (hmn : ∀ c, M c ↔ N c) : HInv p s N :=
  h.congr_nz fun c _ => hmn c

theorem HInv.of_fields {p : Params} {s t : St ν} {M : Nat → Prop} (h : HInv p s M) (hk : t.lgK = s.lgK) (htt : t.tt = s.tt)
    (hr : t.regs = s.regs) (hc : t.curMin = s.curMin) (hn : t.numAtCurMin = s.numAtCurMin) : HInv p t M :=
  ⟨by rw [hr, hk]; exact h.size, by rw [hr, hk]; exact h.regs, by rw [htt, hk, hc, hr]; exact h.cm_le,
    by rw [htt, hn, hc, hr]; exact h.cnt4, by rw [htt, hn, hc, hr]; exact h.cnt68⟩

theorem HInv.regsOf {p : Params} {s : St ν} {M : Nat → Prop} (h : HInv p s M) : RegsOf p s.lgK M s.regs := ⟨h.size, h.regs⟩

theorem HInv.minCount {p : Params} {s : St ν} {M : Nat → Prop} (h : HInv p s M) : MinCount s.regs (s.curMin, s.numAtCurMin) := by
  by_cases htt : s.tt = .h4
  · exact ⟨fun i hi => h.cm_le htt i (h.size ▸ hi), h.cnt4 htt⟩
  · obtain ⟨h0, hn⟩ := h.cnt68 htt
    rw [h0]; exact ⟨fun i _ => Nat.zero_le _, hn⟩

theorem HInv.regs_eq {p : Params} {s t : St ν} {a b : List Nat} (hs : HInv p s (fun c => c ∈ a ∧ c ≠ 0))
    (ht : HInv p t (fun c => c ∈ b ∧ c ≠ 0)) (hk : s.lgK = t.lgK) (hsame : ∀ c, c ≠ 0 → (c ∈ a ↔ c ∈ b)) : s.regs = t.regs :=
  hs.regsOf.unique (hk ▸ ht.regsOf) fun c _ => and_congr_left (hsame c)

theorem HInv.newHll (p : Params) (lgK : Nat) (tt : TType) (sf : Bool) :
    HInv p (newHll lgK tt sf : St ν) (fun _ => False) := by
  refine ⟨(RegsOf.zero p lgK).size, (RegsOf.zero p lgK).max, ?_, ?_, ?_⟩
  · intro _ slot hs; simp [DS.Hll.newHll]
  · intro _; simp [DS.Hll.newHll]
  · intro _; simp [DS.Hll.newHll]

@[simp] theorem hipKxq_regs (s : St ν) (a b : Nat) : (hipKxq s a b).regs = s.regs := rfl
@[simp] theorem hipKxq_lgK (s : St ν) (a b : Nat) : (hipKxq s a b).lgK = s.lgK := rfl
@[simp] theorem hipKxq_tt (s : St ν) (a b : Nat) : (hipKxq s a b).tt = s.tt := rfl
@[simp] theorem hipKxq_curMin (s : St ν) (a b : Nat) : (hipKxq s a b).curMin = s.curMin := rfl
@[simp] theorem hipKxq_numAtCurMin (s : St ν) (a b : Nat) : (hipKxq s a b).numAtCurMin = s.numAtCurMin := rfl
@[simp] theorem hipKxq_mode (s : St ν) (a b : Nat) : (hipKxq s a b).mode = s.mode := rfl
@[simp] theorem hipKxq_tbl (s : St ν) (a b : Nat) : (hipKxq s a b).tbl = s.tbl := rfl
@[simp] theorem hipKxq_lgArr (s : St ν) (a b : Nat) : (hipKxq s a b).lgArr = s.lgArr := rfl
@[simp] theorem hipKxq_startFull (s : St ν) (a b : Nat) : (hipKxq s a b).startFull = s.startFull := rfl

/- `unfold` first: a bare `rfl` makes the elaborator write out the nested `{ s with .. }` of `raiseReg` in all fourteen fields before it
projects one, which is slow to check. -/
@[simp] theorem raiseReg_regs (s : St ν) (slot old nv : Nat) : (raiseReg s slot old nv).regs = s.regs.setIfInBounds slot nv := by unfold raiseReg bumpCounts; rfl
@[simp] theorem raiseReg_lgK (s : St ν) (slot old nv : Nat) : (raiseReg s slot old nv).lgK = s.lgK := by unfold raiseReg bumpCounts; rfl
@[simp] theorem raiseReg_tt (s : St ν) (slot old nv : Nat) : (raiseReg s slot old nv).tt = s.tt := by unfold raiseReg bumpCounts; rfl
@[simp] theorem raiseReg_mode (s : St ν) (slot old nv : Nat) : (raiseReg s slot old nv).mode = s.mode := by unfold raiseReg bumpCounts; rfl
@[simp] theorem raiseReg_tbl (s : St ν) (slot old nv : Nat) : (raiseReg s slot old nv).tbl = s.tbl := by unfold raiseReg bumpCounts; rfl
@[simp] theorem raiseReg_lgArr (s : St ν) (slot old nv : Nat) : (raiseReg s slot old nv).lgArr = s.lgArr := by unfold raiseReg bumpCounts; rfl
@[simp] theorem raiseReg_startFull (s : St ν) (slot old nv : Nat) : (raiseReg s slot old nv).startFull = s.startFull := by unfold raiseReg bumpCounts; rfl
theorem raiseReg_curMin (s : St ν) (slot old nv : Nat) : (raiseReg s slot old nv).curMin =
    (bumpPair s.tt (s.regs.setIfInBounds slot nv) s.curMin s.numAtCurMin old).1 := by unfold raiseReg bumpCounts; rfl
theorem raiseReg_numAtCurMin (s : St ν) (slot old nv : Nat) : (raiseReg s slot old nv).numAtCurMin =
    (bumpPair s.tt (s.regs.setIfInBounds slot nv) s.curMin s.numAtCurMin old).2 := by unfold raiseReg bumpCounts; rfl

/-- `t` (the later state) has the fields of `s` that an update of the register array leaves alone -/
structure SameCfg (s t : St ν) : Prop where
  lgK : t.lgK = s.lgK
  tt : t.tt = s.tt
  mode : t.mode = s.mode
  tbl : t.tbl = s.tbl
  lgArr : t.lgArr = s.lgArr
  startFull : t.startFull = s.startFull

theorem hllUpdate_cases {P : St ν → Prop} (p : Params) (s : St ν) (c : Nat) (h0 : P s)
    (h1 : s.regs.getD (cSlot p s.lgK c) 0 < cValue p c →
      P (raiseReg s (cSlot p s.lgK c) (s.regs.getD (cSlot p s.lgK c) 0) (cValue p c))) : P (hllUpdate p s c) := by
  unfold hllUpdate
  by_cases hq : s.tt = .h4 ∧ cValue p c ≤ s.curMin
  · rw [if_pos hq]; exact h0
  · rw [if_neg hq]
    by_cases hlt : s.regs.getD (cSlot p s.lgK c) 0 < cValue p c
    · rw [if_pos hlt]; exact h1 hlt
    · rw [if_neg hlt]; exact h0

theorem hllUpdate_fields (p : Params) (s : St ν) (c : Nat) : SameCfg s (hllUpdate p s c) :=
  hllUpdate_cases (P := fun t => SameCfg s t) p s c ⟨rfl, rfl, rfl, rfl, rfl, rfl⟩ fun _ =>
    ⟨raiseReg_lgK .., raiseReg_tt .., raiseReg_mode .., raiseReg_tbl .., raiseReg_lgArr .., raiseReg_startFull ..⟩

theorem foldl_hllUpdate_fields (p : Params) (l : List Nat) (s : St ν) : SameCfg s (l.foldl (hllUpdate p) s) := by
  induction l generalizing s with
  | nil => exact ⟨rfl, rfl, rfl, rfl, rfl, rfl⟩
  | cons a t ih =>
    have h1 := ih (hllUpdate p s a)
    have h2 := hllUpdate_fields p s a
    exact ⟨h1.lgK.trans h2.lgK, h1.tt.trans h2.tt, h1.mode.trans h2.mode, h1.tbl.trans h2.tbl, h1.lgArr.trans h2.lgArr,
      h1.startFull.trans h2.startFull⟩

/-- HLL_4's quick rejection never hides a real update once `curMin` is a lower bound of the register -/
theorem hllUpdate_eq (p : Params) (s : St ν) (c : Nat) (hq : s.tt = .h4 → s.curMin ≤ s.regs.getD (cSlot p s.lgK c) 0) :
    hllUpdate p s c = if s.regs.getD (cSlot p s.lgK c) 0 < cValue p c then
      raiseReg s (cSlot p s.lgK c) (s.regs.getD (cSlot p s.lgK c) 0) (cValue p c) else s := by
  unfold hllUpdate
  by_cases h4 : s.tt = .h4 ∧ cValue p c ≤ s.curMin
  · rw [if_pos h4, if_neg (Nat.not_lt.2 (Nat.le_trans h4.2 (hq h4.1)))]
  · rw [if_neg h4]

theorem hllUpdate_value_zero (p : Params) (s : St ν) (c : Nat) (h : cValue p c = 0) : hllUpdate p s c = s := by
  unfold hllUpdate
  rw [h, if_neg (Nat.not_lt_zero _), ite_self]

theorem hllUpdate_regs (p : Params) (s : St ν) (c : Nat) (hq : s.tt = .h4 → s.curMin ≤ s.regs.getD (cSlot p s.lgK c) 0) :
    (hllUpdate p s c).regs = maxUpdate p s.lgK s.regs c := by
  rw [hllUpdate_eq p s c hq, apply_ite St.regs, raiseReg_regs]
  rfl

theorem hllUpdate_counts (p : Params) (s : St ν) (c : Nat) (hq : s.tt = .h4 → s.curMin ≤ s.regs.getD (cSlot p s.lgK c) 0) :
    ((hllUpdate p s c).curMin, (hllUpdate p s c).numAtCurMin) =
      (if s.regs.getD (cSlot p s.lgK c) 0 < cValue p c then
        bumpPair s.tt (s.regs.setIfInBounds (cSlot p s.lgK c) (cValue p c)) s.curMin s.numAtCurMin (s.regs.getD (cSlot p s.lgK c) 0)
       else (s.curMin, s.numAtCurMin)) := by
  rw [hllUpdate_eq p s c hq]
  by_cases hlt : s.regs.getD (cSlot p s.lgK c) 0 < cValue p c
  · rw [if_pos hlt, if_pos hlt, raiseReg_curMin, raiseReg_numAtCurMin]
  · rw [if_neg hlt, if_neg hlt]

theorem HInv.hllUpdate {p : Params} {s : St ν} {M : Nat → Prop} (h : HInv p s M) (c : Nat) :
    HInv p (hllUpdate p s c) (fun x => M x ∨ x = c) := by
  have hsz : cSlot p s.lgK c < s.regs.size := h.size ▸ cSlot_lt p s.lgK c
  have hmu := h.regsOf.maxUpdate c
  unfold DS.Hll.maxUpdate at hmu
  rw [hllUpdate_eq p s c fun h4 => h.cm_le h4 _ (cSlot_lt p s.lgK c)]
  by_cases hlt : s.regs.getD (cSlot p s.lgK c) 0 < cValue p c
  · rw [if_pos hlt] at hmu ⊢
    have h4 := fun htt => bumpPair_h4 (cm := s.curMin) (n := s.numAtCurMin) htt hsz hlt
      ⟨fun i hi => h.cm_le htt i (h.size ▸ hi), h.cnt4 htt⟩
    constructor <;> simp only [raiseReg_regs, raiseReg_lgK, raiseReg_tt, raiseReg_curMin, raiseReg_numAtCurMin]
    · exact hmu.size
    · exact hmu.max
    · exact fun htt slot hs => (h4 htt).le slot (hmu.size ▸ hs)
    · exact fun htt => (h4 htt).count
    · intro htt
      simp only [bumpPair_ne_h4 htt, (h.cnt68 htt).1, (h.cnt68 htt).2, count_raise hsz (Nat.zero_le _) hlt, and_self]
  · rw [if_neg hlt] at hmu ⊢
    exact ⟨hmu.size, hmu.max, h.cm_le, h.cnt4, h.cnt68⟩

theorem HInv.foldl {p : Params} (l : List Nat) {s : St ν} {M : Nat → Prop} (h : HInv p s M) :
    HInv p (l.foldl (DS.Hll.hllUpdate p) s) (fun x => M x ∨ x ∈ l) := by
  induction l generalizing s M with
  | nil => exact h.congr (by simp)
  | cons a t ih => exact (ih (h.hllUpdate a)).congr fun c => by rw [List.mem_cons]; exact or_assoc

theorem HInv.isEmpty_iff {p : Params} {s : St ν} {M : Nat → Prop} (h : HInv p s M) (hm : s.mode = .hll) :
    isEmpty s = true ↔ ∀ slot, slot < 2^s.lgK → s.regs.getD slot 0 = 0 := by
  have hmc := h.minCount
  have hcnt : s.numAtCurMin = s.regs.count s.curMin := hmc.count
  unfold isEmpty
  rw [hm, ← h.size, ← count_zero_eq_size_iff]
  simp only [decide_eq_true_eq]
  constructor
  · rintro ⟨h0, hn⟩
    rw [← hn, hcnt, h0]
  · intro hz
    -- register 0 is zero and `curMin` is below it
    have h0 : s.curMin = 0 := by
      have hpos : 0 < s.regs.size := h.size ▸ Nat.two_pow_pos _
      exact Nat.le_zero.1 (count_zero_eq_size_iff.1 hz 0 hpos ▸ hmc.le 0 hpos)
    exact ⟨h0, by rw [hcnt, h0, hz]⟩

end DS.Hll
