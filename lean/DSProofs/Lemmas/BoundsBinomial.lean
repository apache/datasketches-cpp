/- C06: the model of binomial_bounds.hpp and of the Theta / Tuple wrappers (DSModel/Bounds/Binomial.lean) over an ordered field: what
   the `BNum` operations are there (`nat_eq` … `eqb_eq`), the clamps, the Gaussian branch (`sqrt_shift`), the partial-sum loops. -/
import DSProofs.Lemmas.BoundsField
import DSModel.Bounds.Binomial
namespace DS.Bounds
set_option linter.unusedSectionVars false

variable {K : Type} [Field K] [LinearOrder K] [IsStrictOrderedRing K] (F : MathFns K)

theorem stdMin_eq (a b : K) : @stdMin K (fieldNum F) a b = min a b := by
  unfold stdMin
  split
  · rename_i h; exact (min_eq_right (le_of_lt h)).symm
  · rename_i h; exact (min_eq_left (not_lt.mp h)).symm

theorem stdMax_eq (a b : K) : @stdMax K (fieldNum F) a b = max a b := by
  unfold stdMax
  split
  · rename_i h; exact (max_eq_right (le_of_lt h)).symm
  · rename_i h; exact (max_eq_left (not_lt.mp h)).symm

@[simp] theorem nat_eq (n : Nat) : @nat K (fieldNum F) n = (n : K) := rfl
@[simp] theorem lit_eq (t : Lit) : @lit K (fieldNum F) t = litK t := rfl
@[simp] theorem tget_eq (t : List Lit) (i : Nat) : @tget K (fieldNum F) t i = litK (t.getD i (0, 0, 1)) := rfl

@[simp] theorem sqrt_eq (x : K) : @BNum.sqrt K (fieldNum F) x = F.sqrt x := rfl
@[simp] theorem log_eq (x : K) : @BNum.log K (fieldNum F) x = F.log x := rfl
@[simp] theorem floor_eq (x : K) : @BNum.floor K (fieldNum F) x = F.floor x := rfl
@[simp] theorem ceil_eq (x : K) : @BNum.ceil K (fieldNum F) x = F.ceil x := rfl
@[simp] theorem fmax_eq (x y : K) : @BNum.fmax K (fieldNum F) x y = max x y := rfl
@[simp] theorem pow_eq (x y : K) : @BNum.pow K (fieldNum F) x y = F.pow x y := rfl
theorem eqb_eq (a b : K) : @BNum.eqb K (fieldNum F) a b = decide (a = b) := rfl

@[simp] theorem litK_c0 : (litK c0 : K) = 0 := by simp [litK, c0]
@[simp] theorem litK_c1 : (litK c1 : K) = 1 := by simp [litK, c1]
@[simp] theorem litK_c0_5 : (litK c0_5 : K) = 1 / 2 := by simp [litK, c0_5]
@[simp] theorem litK_c2 : (litK c2 : K) = 2 := by simp [litK, c2]
@[simp] theorem litK_c4 : (litK c4 : K) = 4 := by simp [litK, c4]

theorem argsOk_iff (θ : K) (k : Nat) :
    @argsOk K (fieldNum F) θ k = true ↔ (0 ≤ θ ∧ θ ≤ 1) ∧ (1 ≤ k ∧ k ≤ 3) := by
  unfold argsOk
  simp only [nat_eq, Nat.cast_zero, Nat.cast_one, Bool.and_eq_true, Bool.not_eq_true', Bool.or_eq_false_iff,
    decide_eq_false_iff_not, not_lt, gt_iff_lt]

theorem estimationMode_eq_false_iff (maxTheta : Nat) (s : ThetaState) :
    estimationMode maxTheta s = false ↔ maxTheta ≤ s.theta64 ∨ s.empty = true := by
  unfold estimationMode
  cases s.empty <;> simp

theorem getLowerBound_eq (T : BinomTables) (n : Nat) (θ : K) (k : Nat) :
    @getLowerBound K (fieldNum F) T n θ k =
      if (0 ≤ θ ∧ θ ≤ 1) ∧ (1 ≤ k ∧ k ≤ 3) then (@approxLb K (fieldNum F) T n θ k).map fun a => min ((n : K) / θ) (max (n : K) a)
      else none := by
  unfold getLowerBound
  simp only [argsOk_iff, stdMin_eq, stdMax_eq, nat_eq]

theorem getUpperBound_eq (T : BinomTables) (n : Nat) (θ : K) (k : Nat) :
    @getUpperBound K (fieldNum F) T n θ k =
      if (0 ≤ θ ∧ θ ≤ 1) ∧ (1 ≤ k ∧ k ≤ 3) then (@approxUb K (fieldNum F) T n θ k).map fun b => max ((n : K) / θ) b else none := by
  unfold getUpperBound
  simp only [argsOk_iff, stdMax_eq, nat_eq]

theorem nStarLoop_mono (q δ δ' : K) (hδ : δ' ≤ δ) (n : Nat) (fuel : Nat) : ∀ (cur tot : K) (m : Nat),
    m - 1 ≤ @nStarLoop K (fieldNum F) q δ n fuel cur tot m ∧
    @nStarLoop K (fieldNum F) q δ' n fuel cur tot m ≤ @nStarLoop K (fieldNum F) q δ n fuel cur tot m := by
  induction fuel with
  | zero => exact fun _ _ _ => ⟨le_rfl, le_rfl⟩
  | succ f ih =>
    intro cur tot m
    unfold nStarLoop
    by_cases h : tot ≤ δ
    · rw [if_pos h]
      refine ⟨(Nat.sub_le m 1).trans (ih _ _ (m + 1)).1, ?_⟩
      by_cases h' : tot ≤ δ'
      · rw [if_pos h']; exact (ih _ _ _).2
      · rw [if_neg h']; exact (Nat.sub_le m 1).trans (ih _ _ (m + 1)).1
    · rw [if_neg h, if_neg fun h' => h (h'.trans hδ)]
      exact ⟨le_rfl, le_rfl⟩

theorem nPrimeBLoop_mono (q o o' : K) (ho : o ≤ o') (n : Nat) (fuel : Nat) : ∀ (cur tot : K) (m : Nat),
    m ≤ @nPrimeBLoop K (fieldNum F) q o' n fuel cur tot m ∧
    @nPrimeBLoop K (fieldNum F) q o n fuel cur tot m ≤ @nPrimeBLoop K (fieldNum F) q o' n fuel cur tot m := by
  induction fuel with
  | zero => exact fun _ _ _ => ⟨le_rfl, le_rfl⟩
  | succ f ih =>
    intro cur tot m
    unfold nPrimeBLoop
    by_cases h : tot < o'
    · rw [if_pos h]
      refine ⟨m.le_succ.trans (ih _ _ (m + 1)).1, ?_⟩
      by_cases h' : tot < o
      · rw [if_pos h']; exact (ih _ _ _).2
      · rw [if_neg h']; exact m.le_succ.trans (ih _ _ (m + 1)).1
    · rw [if_neg h, if_neg fun h' => h (h'.trans_le ho)]
      exact ⟨le_rfl, le_rfl⟩

/-- with S = √(b² + 4m) the product of the two Gaussian bounds m + b²/2 ∓ bS/2 is m² -/
theorem gauss_prod {b m S : K} (h : S * S = b * b + 4 * m) :
    (m + 1 / 2 * (b * b) - 1 / 2 * b * S) * (m + 1 / 2 * (b * b) + 1 / 2 * b * S) = m * m := by
  rw [show (m + 1 / 2 * (b * b) - 1 / 2 * b * S) * (m + 1 / 2 * (b * b) + 1 / 2 * b * S) =
    (m + 1 / 2 * (b * b)) * (m + 1 / 2 * (b * b)) - 1 / 4 * (b * b) * (S * S) by ring, h]
  ring

/-- For 0 ≤ b₁ ≤ b₂ and m > 0 the two bounds m + b²/2 ∓ b·√(b²+4m)/2 move apart: the upper one is increasing term by term and
    positive, and the lower one is m² divided by it (`gauss_prod`). -/
theorem sqrt_shift (hF : F.OK) {b1 b2 m : K} (hb1 : 0 ≤ b1) (hb : b1 ≤ b2) (hm : 0 < m) :
    m + 1 / 2 * (b2 * b2) - 1 / 2 * b2 * F.sqrt (b2 * b2 + 4 * m) ≤ m + 1 / 2 * (b1 * b1) - 1 / 2 * b1 * F.sqrt (b1 * b1 + 4 * m) ∧
    m + 1 / 2 * (b1 * b1) + 1 / 2 * b1 * F.sqrt (b1 * b1 + 4 * m) ≤ m + 1 / 2 * (b2 * b2) + 1 / 2 * b2 * F.sqrt (b2 * b2 + 4 * m) := by
  have hc : 0 ≤ 4 * m := mul_nonneg zero_le_four hm.le
  have h1 := hF.sqrt_sq _ (add_nonneg (mul_self_nonneg b1) hc)
  have h2 := hF.sqrt_sq _ (add_nonneg (mul_self_nonneg b2) hc)
  have hS1 := hF.sqrt_nonneg (b1 * b1 + 4 * m)
  have hS2 := hF.sqrt_nonneg (b2 * b2 + 4 * m)
  generalize F.sqrt (b1 * b1 + 4 * m) = S1 at *
  generalize F.sqrt (b2 * b2 + 4 * m) = S2 at *
  have hS12 : S1 ≤ S2 :=
    (mul_self_le_mul_self_iff hS1 hS2).2 (by rw [h1, h2]; exact add_le_add_left (mul_self_le_mul_self hb1 hb) _)
  have hu := add_le_add (add_le_add_right (mul_le_mul_of_nonneg_left (mul_self_le_mul_self hb1 hb) one_half_pos.le) m)
      (mul_le_mul (mul_le_mul_of_nonneg_left hb one_half_pos.le) hS12 hS1 (mul_nonneg one_half_pos.le (hb1.trans hb)))
  have hu1 := add_pos_of_pos_of_nonneg (add_pos_of_pos_of_nonneg hm (mul_nonneg one_half_pos.le (mul_self_nonneg b1)))
      (mul_nonneg (mul_nonneg one_half_pos.le hb1) hS1)
  have hl2 := (mul_pos_iff_of_pos_right (hu1.trans_le hu)).1 ((gauss_prod h2).symm ▸ mul_pos hm hm)
  refine ⟨le_of_mul_le_mul_right ?_ hu1, hu⟩
  rw [gauss_prod h1, ← gauss_prod h2]
  exact mul_le_mul_of_nonneg_left hu hl2.le

theorem contClassicLb_antitone (hF : F.OK) (n : Nat) (hn : 1 ≤ n) (θ : K) (h0 : 0 < θ) (s1 s2 : K) (hs1 : 0 ≤ s1) (hs : s1 ≤ s2) :
    @contClassicLb K (fieldNum F) n θ s2 ≤ @contClassicLb K (fieldNum F) n θ s1 := by
  have hn' : (1 : K) ≤ n := Nat.one_le_cast.2 hn
  have hr := hF.sqrt_nonneg ((1 - θ) / θ)
  unfold contClassicLb
  simp only [nat_eq, lit_eq, sqrt_eq, litK_c0_5, litK_c1, litK_c4]
  exact (sqrt_shift F hF (mul_nonneg hs1 hr) (mul_le_mul_of_nonneg_right hs hr) (div_pos (sub_pos.2 (one_half_lt_one.trans_le hn')) h0)).1

theorem contClassicUb_monotone (hF : F.OK) (n : Nat) (θ : K) (h0 : 0 < θ) (s1 s2 : K) (hs1 : 0 ≤ s1) (hs : s1 ≤ s2) :
    @contClassicUb K (fieldNum F) n θ s1 ≤ @contClassicUb K (fieldNum F) n θ s2 := by
  have hr := hF.sqrt_nonneg ((1 - θ) / θ)
  unfold contClassicUb
  simp only [nat_eq, lit_eq, sqrt_eq, litK_c0_5, litK_c1, litK_c4]
  exact (sqrt_shift F hF (mul_nonneg hs1 hr) (mul_le_mul_of_nonneg_right hs hr) (div_pos (by positivity) h0)).2

end DS.Bounds
