/- C19 / FI: `Swept` (how far a loop over the cells of a block has come), the loops over a whole array, and the three arrays of a
   table allocated (an empty table) and released, with the ownership delta handed on. -/
import DSProofs.Lemmas.LifeFiTable
namespace DS.Life.Fi
open DS.Life

/-- a sweep upwards over the cells of one block has reached `i`: the cells below are in their final state `Q`, the others as in
    `f0` (`f`, `f0`: a view of the block now and at the start) -/
structure Swept {α : Type} (f0 f : Nat → α) (i : Nat) (Q : Nat → α → Prop) : Prop where
  done : ∀ j, j < i → Q j (f j)
  rest : ∀ j, i ≤ j → f j = f0 j

theorem Swept.init {α : Type} (f0 : Nat → α) (Q : Nat → α → Prop) : Swept f0 f0 0 Q :=
  ⟨fun j hj => absurd hj (Nat.not_lt_zero j), fun _ _ => rfl⟩

theorem Swept.step {α : Type} {f0 f f' : Nat → α} {i : Nat} {Q : Nat → α → Prop} (s : Swept f0 f i Q)
    (hne : ∀ j, j ≠ i → f' j = f j) (hq : Q i (f' i)) : Swept f0 f' (i + 1) Q :=
  ⟨Nat.forall_lt_succ_right.2 ⟨fun j hj => (hne j (Nat.ne_of_lt hj)).symm ▸ s.done j hj, hq⟩,
    fun j hj => (hne j (Nat.ne_of_gt hj)).trans (s.rest j (Nat.le_of_succ_le hj))⟩

theorem Swept.skip {α : Type} {f0 f : Nat → α} {i : Nat} {Q : Nat → α → Prop} (s : Swept f0 f i Q) (hq : Q i (f0 i)) :
    Swept f0 f (i + 1) Q := s.step (fun _ _ => rfl) ((s.rest i (Nat.le_refl i)).symm ▸ hq)

theorem fill0_spec (n0 : Nat) (S : Nat → Bool) (b size : Nat) (hS : S b = true) (h0 : Heap) (hc0 : HasCells h0 b size) :
    TripleS n0 S (fun h => h = h0) (fill0 b size)
      (fun _ h => SameOutside [b] h0 h ∧ HasCells h b size ∧ (∀ i, stAt h b i = stAt h0 b i) ∧
        ∀ i, i < size → wordAt h b i = 0) := by
  refine (TripleS.loopUp (fun k h => SameOutside [b] h0 h ∧ HasCells h b size ∧ (∀ i, stAt h b i = stAt h0 b i) ∧
    ∀ i, i < k → wordAt h b i = 0) (fun i => writeWord b i 0) size 0 ?_).conseq
    (fun h e => by subst e; exact ⟨SameOutside.refl _ _, hc0, fun _ => rfl, fun i hi => absurd hi (Nat.not_lt_zero i)⟩)
    (fun _ h hI => by rwa [Nat.zero_add] at hI)
  intro i _ hi h _ ⟨sb, hc, hr, hz⟩
  obtain ⟨c, e⟩ := hc.cell (Nat.zero_add size ▸ hi)
  apply SafeF.last
  apply stepR_writeWord 0 e hS
  intro h' up
  refine SafeF.pure ⟨sb.trans (up.sameOutside (.head _)), up.hasCells hc, fun j => ?_, Nat.forall_lt_succ_right.2 ⟨fun j hj => ?_, up.wordAt_eq⟩⟩
  · rw [up.stAt_same e rfl]; exact hr j
  · rw [up.wordAt_ne (fun hh => Nat.ne_of_lt hj hh.2)]; exact hz j hj

/-- `std::copy(src, src + size, dst)` on trivially copyable elements -/
theorem copyWords_spec (n0 : Nat) (S : Nat → Bool) (src dst size : Nat) (hS : S dst = true) (hne : src ≠ dst) (h0 : Heap)
    (hc0 : HasCells h0 dst size) (hs0 : HasCells h0 src size) :
    TripleS n0 S (fun h => h = h0) (loopUp (fun i => do let w ← readWord src i; writeWord dst i w) size 0)
      (fun _ h => SameOutside [dst] h0 h ∧ HasCells h dst size ∧ (∀ i, stAt h dst i = stAt h0 dst i) ∧
        ∀ i, i < size → wordAt h dst i = wordAt h0 src i) := by
  refine (TripleS.loopUp (fun k h => SameOutside [dst] h0 h ∧ HasCells h dst size ∧ (∀ i, stAt h dst i = stAt h0 dst i) ∧
    ∀ i, i < k → wordAt h dst i = wordAt h0 src i) (fun i => do let w ← readWord src i; writeWord dst i w) size 0 ?_).conseq
    (fun h e => by subst e; exact ⟨SameOutside.refl _ _, hc0, fun _ => rfl, fun i hi => absurd hi (Nat.not_lt_zero i)⟩)
    (fun _ h hI => by rwa [Nat.zero_add] at hI)
  intro i _ hi h _ ⟨sb, hc, hr, hz⟩
  have hi' : i < size := Nat.zero_add size ▸ hi
  have esrc : h.find? src = h0.find? src := sb.out src (fun e => hne (List.mem_singleton.1 e))
  apply vstep_readWord (HasCells_congr esrc hs0) hi'
  obtain ⟨c, e⟩ := hc.cell hi'
  -- the program is named because unification would otherwise abstract the heap out of the word just read, which is much slower to check
  apply SafeF.last (m := writeWord dst i _)
  apply stepR_writeWord _ e hS
  intro h' up
  refine SafeF.pure ⟨sb.trans (up.sameOutside (.head _)), up.hasCells hc, fun j => ?_, Nat.forall_lt_succ_right.2 ⟨fun j hj => ?_, ?_⟩⟩
  · rw [up.stAt_same e rfl]; exact hr j
  · rw [up.wordAt_ne (fun hh => Nat.ne_of_lt hj hh.2)]; exact hz j hj
  · rw [up.wordAt_eq, wordAt_congr esrc]

/-- `for (i...) items[i].~T()` -/
theorem destroyAll_spec (n0 : Nat) (S : Nat → Bool) (b n : Nat) (hS : S b = true) (h0 : Heap) (hc : HasCells h0 b n)
    (hnr : ∀ i, i < n → stAt h0 b i ≠ .raw) :
    TripleS n0 S (fun h => h = h0) (loopUp (fun i => destroy b i) n 0)
      (fun _ h => SameOutside [b] h0 h ∧ HasCells h b n ∧ ∀ i, i < n → stAt h b i = .raw) := by
  refine (TripleS.loopUp (fun k h => SameOutside [b] h0 h ∧ HasCells h b n ∧
    Swept (stAt h0 b) (stAt h b) k (fun _ s => s = .raw)) (fun i => destroy b i) n 0 ?_).conseq
    (fun h e => by subst e; exact ⟨SameOutside.refl _ _, hc, Swept.init _ _⟩)
    (fun _ h ⟨a, c, sw⟩ => ⟨a, c, by have := sw.done; rwa [Nat.zero_add] at this⟩)
  intro i _ hi h _ ⟨sb, hc', sw⟩
  have hnr' : stAt h b i ≠ .raw := by rw [sw.rest i (Nat.le_refl _)]; exact hnr i (Nat.zero_add n ▸ hi)
  obtain ⟨c, ec, est, _⟩ := cell_of_stAt_ne_raw hnr'
  apply SafeF.last
  apply stepR_destroy ec (est ▸ hnr') hS
  intro h' up
  exact SafeF.pure ⟨sb.trans (up.sameOutside (.head _)), up.hasCells hc', sw.step (fun j hj => up.stAt_idx hj b) up.stAt_eq⟩

/-- `sd.deserialize(..., items, num)`: placement-new of every item -/
theorem constructAll_spec (n0 : Nat) (S : Nat → Bool) (b n : Nat) (g : Nat → Nat) (hS : S b = true) (h0 : Heap)
    (hc : HasCells h0 b n) (hr : ∀ i, stAt h0 b i = .raw) :
    TripleS n0 S (fun h => h = h0) (loopUp (fun i => construct b i (g i)) n 0)
      (fun _ h => SameOutside [b] h0 h ∧ HasCells h b n ∧ ∀ i, i < n → ∃ x, stAt h b i = .live x) := by
  refine (TripleS.loopUp (fun k h => SameOutside [b] h0 h ∧ HasCells h b n ∧
    Swept (stAt h0 b) (stAt h b) k (fun _ s => ∃ x, s = .live x)) (fun i => construct b i (g i)) n 0 ?_).conseq
    (fun h e => by subst e; exact ⟨SameOutside.refl _ _, hc, Swept.init _ _⟩)
    (fun _ h ⟨a, c, sw⟩ => ⟨a, c, by have := sw.done; rwa [Nat.zero_add] at this⟩)
  intro i _ hi h _ ⟨sb, hc', sw⟩
  obtain ⟨c, ec, _, est⟩ := hc'.cell_st (Nat.zero_add n ▸ hi)
  apply SafeF.last
  apply stepR_construct (g i) ec (est.trans ((sw.rest i (Nat.le_refl _)).trans (hr i))) hS
  intro h' up
  exact SafeF.pure ⟨sb.trans (up.sameOutside (.head _)), up.hasCells hc',
    sw.step (fun j hj => up.stAt_idx hj b) ⟨g i, up.stAt_eq⟩⟩

/-- `sd.serialize(os, items, num)` reads every item -/
theorem readAll_spec (n0 : Nat) (S : Nat → Bool) (b n : Nat) (h0 : Heap)
    (hl : ∀ i, i < n → ∃ x, stAt h0 b i = .live x) :
    TripleS n0 S (fun h => h = h0) (loopUp (fun i => do let _ ← read b i; pure ()) n 0) (fun _ h => h = h0) := by
  refine TripleS.loopUp (fun _ h => h = h0) _ n 0 ?_
  intro i _ hi h _ e
  obtain ⟨x, hx⟩ := hl i (Nat.zero_add n ▸ hi)
  exact vstep_readLive (e ▸ hx) (SafeF.pure e)

/-- `allocator.deallocate` of `keys_`, `values_`, `states_` (destructor, end of `resize`): the arrays of a table `T` of an earlier
    heap `ht`; since then the keys were destroyed, the other two arrays are as they were -/
theorem gstep_dealloc3 {β} {S} {h0 ht h : Heap} {own0 A X E : List Nat} {u : Bool} {k v s n : Nat} {f : Unit → M β}
    {Q : β → Heap → Prop} (g : Grown h0 h own0 (A ++ [k, v, s]) X) (hlt0 : IdsLt h0) (hA : ∀ b, b ∈ [k, v, s] → b ∉ A)
    (T : Tbl u E ht k v s n) (ev : h.find? v = ht.find? v) (es : h.find? s = ht.find? s)
    (ck : HasCells h k n) (rk : ∀ j, j < n → stAt h k j = .raw) (hS : ∀ b, b ∈ [k, v, s] → S b = true)
    (cont : ∀ h', Grown h0 h' own0 A X → h'.next = h.next → (∀ b, b ∉ [k, v, s] → h'.find? b = h.find? b) →
      SafeF S h' (f () h') Q) :
    SafeF S h ((dealloc k n >>= fun _ => dealloc v n >>= fun _ => dealloc s n >>= f) h) Q := by
  apply gstep_dealloc g hlt0 ck rk (hS k (.head _)) (List.mem_append_right _ (.head _))
    (mem_append_cons_ne (hA k (.head _)) (not_mem_pair T.kv T.ks))
  intro h1 g1 o1 n1
  have ev1 := (o1 v T.kv.symm).trans ev
  apply gstep_dealloc g1 hlt0 (HasCells_congr ev1 T.cv) (fun j _ => (stAt_congr ev1 j).trans (T.rawv j))
    (hS v (.tail _ (.head _))) (List.mem_append_right _ (.head _))
    (mem_append_cons_ne (hA v (.tail _ (.head _))) (fun e => T.vs (List.mem_singleton.1 e)))
  intro h2 g2 o2 n2
  have es2 := ((o2 s T.vs.symm).trans (o1 s T.ks.symm)).trans es
  apply gstep_dealloc g2 hlt0 (HasCells_congr es2 T.cs) (fun j _ => (stAt_congr es2 j).trans (T.raws j))
    (hS s (.tail _ (.tail _ (.head _)))) (List.mem_append_right _ (.head _))
    (mem_append_cons_ne (D := []) (hA s (.tail _ (.tail _ (.head _)))) List.not_mem_nil)
  intro h3 g3 o3 n3
  refine cont h3 (g3.congr (fun _ => Iff.rfl) (fun b => by rw [List.append_nil])) ((n3.trans n2).trans n1) (fun b hb => ?_)
  simp only [List.mem_cons, List.not_mem_nil, or_false, not_or] at hb
  rw [o3 b hb.2.2, o2 b hb.2.1, o1 b hb.1]

/-- in `h'` the ids `k`, `v`, `s` are three distinct blocks of `n` raw cells, allocated since `h` (`h.next ≤ · < h'.next`); the blocks
    of `h` are as they were -/
structure New3 (h h' : Heap) (k v s n : Nat) : Prop where
  rk : RawBlock h' k n
  rv : RawBlock h' v n
  rs : RawBlock h' s n
  kv : k ≠ v
  ks : k ≠ s
  vs : v ≠ s
  lo : ∀ b, b ∈ [k, v, s] → h.next ≤ b
  hi : ∀ b, b ∈ [k, v, s] → b < h'.next
  old : ∀ b, b < h.next → h'.find? b = h.find? b

theorem New3.next_le {h h' : Heap} {k v s n : Nat} (N : New3 h h' k v s n) : h.next ≤ h'.next :=
  Nat.le_of_lt (Nat.lt_of_le_of_lt (N.lo k (.head _)) (N.hi k (.head _)))

/-- the three `allocate` calls of the constructors and of `resize`; the new blocks are owned -/
theorem gstep_alloc3 {β} {S} {h0 h : Heap} {own0 own X : List Nat} (n : Nat) {f : Nat → Nat → Nat → M β}
    {Q : β → Heap → Prop} (g : Grown h0 h own0 own X) (hS : ∀ b, h.next ≤ b → S b = true)
    (s : ∀ h' k v s, Grown h0 h' own0 ([k, v, s] ++ own) X → New3 h h' k v s n → SafeF S h' (f k v s h') Q) :
    SafeF S h ((alloc .item n >>= fun k => alloc .u64 n >>= fun v => alloc .u16 n >>= fun s => f k v s) h) Q := by
  apply gstep_alloc _ _ g (hS _ (Nat.le_refl _))
  intro h1 g1 _ Rk old1 nx1
  have l1 : h.next < h1.next := nx1 ▸ Nat.lt_succ_self _
  apply gstep_alloc _ _ g1 (hS _ (Nat.le_of_lt l1))
  intro h2 g2 _ Rv old2 nx2
  have l2 : h1.next < h2.next := nx2 ▸ Nat.lt_succ_self _
  apply gstep_alloc _ _ g2 (hS _ (Nat.le_of_lt (Nat.lt_trans l1 l2)))
  intro h3 g3 _ Rs old3 nx3
  have l3 : h2.next < h3.next := nx3 ▸ Nat.lt_succ_self _
  have l13 := Nat.lt_trans l1 l2
  have kv := Nat.ne_of_lt l1
  have vs := Nat.ne_of_lt l2
  have ks := Nat.ne_of_lt l13
  -- `g3` lists the three blocks newest first
  refine s h3 _ _ _ (g3.congr (fun _ => Iff.rfl) (fun b => by
      simp only [List.cons_append, List.nil_append, List.mem_cons]
      rw [or_left_comm, or_left_comm (b := b = h2.next), or_left_comm (a := b = h1.next)]))
    ⟨(Rk.congr (old2 _ kv)).congr (old3 _ ks), Rv.congr (old3 _ vs), Rs, kv, ks, vs,
      List.forall_mem_cons.2 ⟨Nat.le_refl _, List.forall_mem_cons.2 ⟨Nat.le_of_lt l1, List.forall_mem_singleton.2 (Nat.le_of_lt l13)⟩⟩,
      List.forall_mem_cons.2 ⟨Nat.lt_trans l13 l3, List.forall_mem_cons.2 ⟨Nat.lt_trans l2 l3, List.forall_mem_singleton.2 l3⟩⟩,
      fun b hb => ?_⟩
  rw [old3 b (Nat.ne_of_lt (Nat.lt_trans hb l13)), old2 b (Nat.ne_of_lt (Nat.lt_trans hb l1)), old1 b (Nat.ne_of_lt hb)]

/-- three new arrays and `std::fill(states_, states_ + size, 0)`: an empty table, owned -/
theorem gstep_newTable {β} {S} {h0 h : Heap} {own0 own X : List Nat} (n : Nat) {f : Nat → Nat → Nat → M β}
    {Q : β → Heap → Prop} (g : Grown h0 h own0 own X) (hS : ∀ b, h.next ≤ b → S b = true)
    (cont : ∀ h' k v s, Grown h0 h' own0 ([k, v, s] ++ own) X → Tbl true [] h' k v s n → cnt (act h' s) n = 0 →
      (∀ b, b < h.next → h'.find? b = h.find? b) → (∀ b, b ∈ [k, v, s] → h.next ≤ b) → h.next ≤ h'.next →
      SafeF S h' (f k v s h') Q) :
    SafeF S h ((alloc .item n >>= fun k => alloc .u64 n >>= fun v => alloc .u16 n >>= fun s =>
      fill0 s n >>= fun _ => f k v s) h) Q := by
  apply gstep_alloc3 n g hS
  intro h3 k v s g3 N
  have hSs := hS s (N.lo s (.tail _ (.tail _ (.head _))))
  apply SafeF.bind_triple (fill0_spec 0 S s n hSs h3 N.rs.cells) (Nat.zero_le _) rfl
  intro _ h4 ⟨sb, cs4, rs4, hz⟩ _
  have ns : ∀ {b}, b ≠ s → b ∉ [s] := fun hb e => hb (List.mem_singleton.1 e)
  have Rk4 := N.rk.congr (sb.out _ (ns N.ks))
  have Rv4 := N.rv.congr (sb.out _ (ns N.vs))
  have hlt4 : ∀ b, b ∈ [k, v, s] → b < h4.next := fun b hb => sb.next ▸ N.hi b hb
  exact cont h4 _ _ _ (g3.sameOutside sb (fun _ hb => Or.inl (List.mem_singleton.1 hb ▸ .tail _ (.tail _ (.head _)))))
    ⟨Rk4.cells, Rv4.cells, cs4, N.kv, N.ks, N.vs, hlt4 k (.head _), hlt4 v (.tail _ (.head _)), hlt4 s (.tail _ (.tail _ (.head _))),
      Rv4.raw, fun i => (rs4 i).trans (N.rs.raw i), fun i hi _ => SlotOK.inactive (hz i hi) (Rk4.raw i)⟩
    (cnt_zero_of_all_false (fun i hi => act_zero.2 (hz i hi)))
    (fun b hb => (sb.out b (ns (Nat.ne_of_lt (Nat.lt_of_lt_of_le hb (N.lo s (.tail _ (.tail _ (.head _)))))))).trans (N.old b hb))
    N.lo (sb.next ▸ N.next_le)

end DS.Life.Fi
