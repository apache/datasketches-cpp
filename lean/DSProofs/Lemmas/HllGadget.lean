/- The union gadget: `GH` (gadget in HLL mode: its counters may be stale but never report a non-empty gadget empty) and `GI` (gadget
invariant: the whole history, with a current lg_k), walked once through `union_impl` for both source shapes.  "Pinned shape" is
`hll_union` at the commit of apache/datasketches-cpp that the development verifies (`unionImpl`, `unionReset`: defects D1, D14),
"repaired shape" the same with the two fixes (the `…F` functions when both source-shape flags of `Params` are true).
`GInv` (Lemmas/HllUnionInv.lean) and `GInvR` (Lemmas/HllUnionRep.lean) are the forms in which Props/C04 and Props/C04_Repaired state
the invariant: structures of their own, converted to and from `GI` (`toGI`, `toGInv`, `toGInvR`); every proof goes through `GI`. -/
import DSProofs.Lemmas.HllUnion
namespace DS.Hll

variable {ν : Type} [HNum ν]

/-- an HLL-mode union gadget (HLL_8) whose registers are the per-slot maxima of `M`.  Its kxq / curMin / numAtCurMin may be stale
(deferred rebuild), but never so stale that a non-empty gadget reports `isEmpty` (what breaks after a down-sampling, D1).
`num_le` keeps an update from producing such a state: `numAtCurMin - 1` cannot be `2^lgK`.  `size` and `regs` are `RegsOf` written
out (`GH.regsOf`). -/
structure GH (p : Params) (g : St ν) (M : Nat → Prop) : Prop where
  mode : g.mode = .hll
  tt8 : g.tt = .h8
  size : g.regs.size = 2^g.lgK
  regs : ∀ slot, slot < 2^g.lgK → IsMaxAt p g.lgK M slot (g.regs.getD slot 0)
  num_le : g.numAtCurMin ≤ 2^g.lgK
  empty_sound : isEmpty g = true → ∀ slot, slot < 2^g.lgK → g.regs.getD slot 0 = 0

theorem GH.regsOf {p : Params} {g : St ν} {M : Nat → Prop} (h : GH p g M) : RegsOf p g.lgK M g.regs := ⟨h.size, h.regs⟩

theorem isEmpty_hll_counts {g : St ν} (hm : g.mode = .hll) : isEmpty g = true ↔ (g.curMin = 0 ∧ g.numAtCurMin = 2^g.lgK) := by
  unfold isEmpty; rw [hm]; simp

theorem GH.congr_nz {p : Params} {g : St ν} {M N : Nat → Prop} (h : GH p g M) (hmn : ∀ c, c ≠ 0 → (M c ↔ N c)) : GH p g N :=
  ⟨h.mode, h.tt8, h.size, fun slot hs => (h.regs slot hs).congr_nz hmn, h.num_le, h.empty_sound⟩

theorem GH.congr {p : Params} {g : St ν} {M N : Nat → Prop} (h : GH p g M) (hmn : ∀ c, M c ↔ N c) : GH p g N :=
  h.congr_nz fun c _ => hmn c

theorem GH.of_count {p : Params} {g : St ν} {M : Nat → Prop} (hm : g.mode = .hll) (h8 : g.tt = .h8)
    (hr : RegsOf p g.lgK M g.regs) (hn : g.numAtCurMin = g.regs.count g.curMin) : GH p g M := by
  refine ⟨hm, h8, hr.size, hr.max, ?_, fun he slot hs => ?_⟩
  · rw [hn, ← hr.size]; exact Array.count_le_size
  · rw [isEmpty_hll_counts hm, hn] at he
    exact count_zero_eq_size_iff.1 (by rw [← he.1, he.2, hr.size]) slot (hr.size ▸ hs)

theorem HInv.toGH {p : Params} {s : St ν} {M : Nat → Prop} (h : HInv p s M) (hm : s.mode = .hll) (h8 : s.tt = .h8) : GH p s M :=
  have hc := h.cnt68 (by rw [h8]; simp)
  GH.of_count hm h8 h.regsOf (by rw [hc.1]; exact hc.2)

theorem two_pow_ne_pred {n k : Nat} (hn : n ≤ 2^k) : n - 1 ≠ 2^k := by
  have := Nat.two_pow_pos k
  omega

theorem GH.hllUpdate {p : Params} {g : St ν} {M : Nat → Prop} (h : GH p g M) (c : Nat) :
    GH p (hllUpdate p g c) (fun x => M x ∨ x = c) := by
  have hmu := h.regsOf.maxUpdate c
  rw [← hllUpdate_regs p g c fun h4 => absurd (h.tt8.symm.trans h4) (by simp), ← (hllUpdate_fields p g c).lgK] at hmu
  have hn := h.num_le
  refine hllUpdate_cases (P := fun t => RegsOf p t.lgK _ t.regs → GH p t _) p g c
    (fun hr => ⟨h.mode, h.tt8, hr.size, hr.max, hn, h.empty_sound⟩) (fun hlt hr => ?_) hmu
  -- a register is raised: numAtCurMin stays or goes down by one, and the gadget does not report empty afterwards
  refine ⟨(raiseReg_mode ..).trans h.mode, (raiseReg_tt ..).trans h.tt8, hr.size, hr.max, ?_, fun he => ?_⟩
  · rw [raiseReg_numAtCurMin, raiseReg_lgK, h.tt8, bumpPair_ne_h4 (by simp)]
    by_cases ho : g.regs.getD (cSlot p g.lgK c) 0 = 0
    · rw [if_pos ho]; exact Nat.le_trans (Nat.sub_le _ _) hn
    · rw [if_neg ho]; exact hn
  · rw [isEmpty_hll_counts ((raiseReg_mode ..).trans h.mode), raiseReg_curMin, raiseReg_numAtCurMin, raiseReg_lgK, h.tt8, bumpPair_ne_h4 (by simp)] at he
    by_cases ho : g.regs.getD (cSlot p g.lgK c) 0 = 0
    · rw [if_pos ho] at he
      exact absurd he.2 (two_pow_ne_pred hn)
    · rw [if_neg ho] at he
      exact absurd (h.empty_sound ((isEmpty_hll_counts h.mode).2 he) _ (cSlot_lt p g.lgK c)) ho

theorem GH.foldl {p : Params} (l : List Nat) {g : St ν} {M : Nat → Prop} (h : GH p g M) :
    GH p (l.foldl (DS.Hll.hllUpdate p) g) (fun x => M x ∨ x ∈ l) := by
  induction l generalizing g M with
  | nil => exact h.congr (by simp)
  | cons a t ih => exact (ih (h.hllUpdate a)).congr fun c => by rw [List.mem_cons]; exact or_assoc

theorem convertTo_h8_counts (p : Params) (s : St ν) (hsz : s.regs.size = 2^s.lgK) :
    (convertTo p s .h8).curMin = 0 ∧ (convertTo p s .h8).numAtCurMin = s.regs.count 0 := by
  obtain ⟨r, hi, -, htt, -, -, -, -, e1⟩ := convertTo_replayed p s .h8
  refine ⟨e1.trans (hi.cnt68 (by rw [htt]; simp)).1, ?_⟩
  show 2^s.lgK - nonZeroCount s.regs = _
  rw [← hsz]
  exact Nat.sub_sub_self Array.count_le_size

/-- `copyAs(HLL_8)` of an HLL-mode state is a good gadget, whether it is the state itself (`hself`) or comes from the
converting constructor -/
theorem copyAs_h8_GH {p : Params} {s : St ν} {M : Nat → Prop} (hm : s.mode = .hll) (hr : RegsOf p s.lgK M s.regs)
    (hk : s.lgK ≤ p.keyBits) (hself : TType.h8 = s.tt ∧ s.rebuild = false → GH p s M) :
    GH p (copyAs p s .h8) M ∧ (copyAs p s .h8).lgK = s.lgK := by
  obtain ⟨pm, pk, ptt, pregs, _⟩ := copyAs_preserves p s .h8 (fun _ => hr.size) hk
  refine ⟨?_, pk⟩
  by_cases hc : TType.h8 = s.tt ∧ s.rebuild = false
  · have e : copyAs p s .h8 = s := by unfold copyAs; rw [hm]; exact if_pos hc
    rw [e]; exact hself hc
  · have e : copyAs p s .h8 = convertTo p s .h8 := by unfold copyAs; rw [hm]; exact if_neg hc
    have cc := convertTo_h8_counts p s hr.size
    exact GH.of_count (pm.trans hm) ptt (by rw [pregs, pk]; exact hr) (by rw [pregs, e, cc.1]; exact cc.2)

/-- one register of the rebuild loop: the running minimum of the registers seen (`pre`) and its multiplicity -/
theorem rebuildStep_spec {pre : List Nat} {acc : Nat × Nat × ν × ν} (v : Nat) (h1 : ∀ x, x ∈ pre → acc.1 ≤ x)
    (h2 : acc.2.1 = pre.count acc.1) :
    (∀ x, x ∈ pre ++ [v] → (rebuildStep acc v).1 ≤ x) ∧ (rebuildStep acc v).2.1 = (pre ++ [v]).count (rebuildStep acc v).1 := by
  obtain ⟨cm, n, k0, k1⟩ := acc
  have hmem : ∀ c, (∀ x, x ∈ pre → c ≤ x) → c ≤ v → ∀ x, x ∈ pre ++ [v] → c ≤ x := fun c hc hv x hx =>
    (List.mem_append.1 hx).elim (hc x) fun e => List.mem_singleton.1 e ▸ hv
  simp only at h1 h2
  unfold rebuildStep
  simp only
  by_cases hgt : v > cm
  · rw [if_pos hgt]
    refine ⟨hmem cm h1 (Nat.le_of_lt hgt), ?_⟩
    show n = (pre ++ [v]).count cm
    rw [List.count_append, ← h2, List.count_eq_zero.2 fun e => Nat.ne_of_lt hgt (List.mem_singleton.1 e)]
    rfl
  · rw [if_neg hgt]
    by_cases hlt : v < cm
    · rw [if_pos hlt]
      refine ⟨hmem v (fun x hx => Nat.le_trans (Nat.le_of_lt hlt) (h1 x hx)) (Nat.le_refl _), ?_⟩
      show 1 = (pre ++ [v]).count v
      rw [List.count_append, List.count_singleton_self, List.count_eq_zero.2 fun hv => Nat.not_le.2 hlt (h1 v hv)]
    · rw [if_neg hlt]
      have e : v = cm := Nat.le_antisymm (Nat.not_lt.1 hgt) (Nat.not_lt.1 hlt)
      subst e
      refine ⟨hmem v h1 (Nat.le_refl _), ?_⟩
      show n + 1 = (pre ++ [v]).count v
      rw [List.count_append, ← h2, List.count_singleton_self]

theorem rebuild_fold_spec : ∀ (l pre : List Nat) (acc : Nat × Nat × ν × ν), (∀ x, x ∈ pre → acc.1 ≤ x) →
    acc.2.1 = pre.count acc.1 →
    (∀ x, x ∈ pre ++ l → (l.foldl rebuildStep acc).1 ≤ x) ∧ (l.foldl rebuildStep acc).2.1 = (pre ++ l).count (l.foldl rebuildStep acc).1
  | [], pre, acc, h1, h2 => by rw [List.append_nil]; exact ⟨h1, h2⟩
  | v :: l, pre, acc, h1, h2 => by
    have st := rebuildStep_spec v h1 h2
    have ih := rebuild_fold_spec l (pre ++ [v]) _ st.1 st.2
    rw [List.append_assoc] at ih
    exact ih

theorem checkRebuild_of_not {g : St ν} (h : ¬ (g.mode = .hll ∧ g.rebuild = true)) : checkRebuild g = g := if_neg h

theorem checkRebuild_fields (g : St ν) : SameCfg g (checkRebuild g) ∧ (checkRebuild g).regs = g.regs := by
  unfold checkRebuild
  by_cases hc : g.mode = .hll ∧ g.rebuild = true
  · rw [if_pos hc]; exact ⟨⟨rfl, rfl, rfl, rfl, rfl, rfl⟩, rfl⟩
  · rw [if_neg hc]; exact ⟨⟨rfl, rfl, rfl, rfl, rfl, rfl⟩, rfl⟩

theorem checkRebuild_counts (g : St ν) (hc : g.mode = .hll ∧ g.rebuild = true) :
    (checkRebuild g).curMin = (g.regs.toList.foldl rebuildStep (64, 0, (HNum.ofNat (2^g.lgK) : ν), HNum.ofNat 0)).1 ∧
    (checkRebuild g).numAtCurMin = (g.regs.toList.foldl rebuildStep (64, 0, (HNum.ofNat (2^g.lgK) : ν), HNum.ofNat 0)).2.1 := by
  unfold checkRebuild
  rw [if_pos hc]
  exact ⟨rfl, rfl⟩

theorem checkRebuild_fresh {p : Params} {g : St ν} {M : Nat → Prop} (hm : g.mode = .hll) (h8 : g.tt = .h8)
    (hr : RegsOf p g.lgK M g.regs) (hrb : g.rebuild = true) : GH p (checkRebuild g) M := by
  obtain ⟨f, fr⟩ := checkRebuild_fields g
  obtain ⟨c1, c2⟩ := checkRebuild_counts g ⟨hm, hrb⟩
  have sp := (rebuild_fold_spec (ν := ν) g.regs.toList [] (64, 0, HNum.ofNat (2^g.lgK), HNum.ofNat 0)
    (fun _ hx => nomatch hx) rfl).2
  rw [List.nil_append, Array.count_toList] at sp
  exact GH.of_count (f.mode.trans hm) (f.tt.trans h8) (by rw [fr, f.lgK]; exact hr) (by rw [c1, c2, fr]; exact sp)

theorem run_tt (p : Params) : ∀ (l : List Nat) (s : St ν), (run p s l).tt = s.tt
  | [], _ => rfl
  | a :: l, s => (run_tt p l (couponUpdate p s a)).trans (couponUpdate_keeps p s a).2.1

/-- `run_eq_foldl_hllUpdate` with a second hypothesis, which the proof does not use -/
theorem run_hll (p : Params) : ∀ (l : List Nat) (s : St ν), s.mode = .hll → (∀ c, c ∈ l → c ≠ 0) →
    run p s l = l.foldl (hllUpdate p) s :=
  fun l s hm _ => run_eq_foldl_hllUpdate p l s hm

theorem mem_append_zeros_left {a b : List Nat} {c : Nat} (hz : ∀ c, c ∈ a → c = 0) (hc : c ≠ 0) : c ∈ b ↔ c ∈ a ++ b := by
  rw [List.mem_append]
  exact ⟨Or.inr, fun h => h.elim (fun h1 => absurd (hz c h1) hc) id⟩

theorem pos_append {p : Params} {a b : List Nat} (ha : ∀ c, c ∈ a → c ≠ 0 → 0 < cValue p c)
    (hb : ∀ c, c ∈ b → c ≠ 0 → 0 < cValue p c) : ∀ c, c ∈ a ++ b → c ≠ 0 → 0 < cValue p c :=
  fun c hc h0 => (List.mem_append.1 hc).elim (fun h => ha c h h0) (fun h => hb c h h0)

theorem GH.not_empty {p : Params} {g : St ν} {M : Nat → Prop} (h : GH p g M) {c : Nat} (hc : M c) (hv : 0 < cValue p c) :
    isEmpty g = false := by
  cases he : isEmpty g with
  | false => rfl
  | true => exact absurd (h.regsOf.all_zero_iff.1 (h.empty_sound he) c hc) (Nat.ne_of_gt hv)

theorem GH.mergeHll {p : Params} {g src : St ν} {M S : Nat → Prop} (h : GH p g M) (hle : g.lgK ≤ src.lgK)
    (hsz : src.regs.size = 2^src.lgK) (hregs : ∀ i, i < 2^src.lgK → IsMaxAt p src.lgK S i (src.regs.getD i 0))
    (hne : isEmpty g = false) :
    GH p ({ DS.Hll.mergeHll g src with ooo := true, hip := HNum.ofNat 0 } : St ν) (fun c => M c ∨ S c) := by
  have hmc := h.regsOf.merge ⟨hsz, hregs⟩ hle
  refine ⟨h.mode, h.tt8, hmc.size, hmc.max, h.num_le, ?_⟩
  intro he
  have e1 : isEmpty ({ DS.Hll.mergeHll g src with ooo := true, hip := HNum.ofNat 0 } : St ν) = isEmpty g := by
    unfold isEmpty DS.Hll.mergeHll; rfl
  rw [e1, hne] at he
  exact absurd he (by simp)

theorem copyAs_nonhll (p : Params) (s : St ν) (t : TType) (hm : s.mode ≠ .hll) : copyAs p s t = { s with tt := t } := by
  unfold copyAs
  cases hmm : s.mode with
  | hll => exact absurd hmm hm
  | list => rfl
  | set => rfl

theorem downsampleF_GH {p : Params} (hfl : p.unionDownsampleRebuilds = true) {src : St ν} {S : Nat → Prop} {tgt : Nat}
    (hlt : tgt < src.lgK) (hs : RegsOf p src.lgK S src.regs) :
    GH p (copyOrDownsampleF p src tgt) S ∧ (copyOrDownsampleF p src tgt).lgK = tgt := by
  let t0 : St ν := mergeHll (newHll tgt .h8 false) src
  have fr := checkRebuild_fresh (g := t0) rfl rfl (RegsOf.downsample hs (Nat.le_of_lt hlt)) rfl
  have e : copyOrDownsampleF p src tgt = { checkRebuild t0 with hip := src.hip, ooo := src.ooo } := by
    unfold copyOrDownsampleF
    rw [if_pos hfl, if_neg (Nat.not_le.2 hlt)]
  rw [e]
  exact ⟨⟨fr.mode, fr.tt8, fr.size, fr.regs, fr.num_le, fr.empty_sound⟩, (checkRebuild_fields t0).1.lgK⟩

theorem copyOrDownsampleF_of_le (p : Params) (src : St ν) {tgt : Nat} (hle : src.lgK ≤ tgt) :
    copyOrDownsampleF p src tgt = copyAs p src .h8 := by
  unfold copyOrDownsampleF copyOrDownsample
  rw [if_pos hle, if_pos hle, ite_self]

/-- what `union_impl` needs to know about an HLL-mode source of ANY lg_k (a sketch, or a gadget that the rvalue adoption makes a
source): its registers, and that its HLL_8 copy is a good gadget. -/
structure HllSource (p : Params) (src : St ν) (S : Nat → Prop) : Prop where
  regs : RegsOf p src.lgK S src.regs
  copy : GH p (copyAs p src .h8) S
  copy_lgk : (copyAs p src .h8).lgK = src.lgK

theorem HllSource.of_HInv {p : Params} {src : St ν} {S : Nat → Prop} (hm : src.mode = .hll) (h : HInv p src S)
    (hk : src.lgK ≤ p.keyBits) : HllSource p src S :=
  have c := copyAs_h8_GH hm h.regsOf hk (fun hc => h.toGH hm hc.1.symm)
  ⟨h.regsOf, c.1, c.2⟩

theorem HllSource.of_GH {p : Params} {g : St ν} {S : Nat → Prop} (h : GH p g S) (hk : g.lgK ≤ p.keyBits) : HllSource p g S :=
  have c := copyAs_h8_GH h.mode h.regsOf hk (fun _ => h)
  ⟨h.regsOf, c.1, c.2⟩

theorem HllSource.copyOrDownsampleF {p : Params} {src : St ν} {S : Nat → Prop} (h : HllSource p src S) (tgt : Nat)
    (hred : p.unionDownsampleRebuilds = true ∨ src.lgK ≤ tgt) :
    GH p (copyOrDownsampleF p src tgt) S ∧ (copyOrDownsampleF p src tgt).lgK = min src.lgK tgt := by
  by_cases hle : src.lgK ≤ tgt
  · rw [copyOrDownsampleF_of_le p src hle, Nat.min_eq_left hle]; exact ⟨h.copy, h.copy_lgk⟩
  · have := downsampleF_GH (hred.resolve_right hle) (src := src) (S := S) (tgt := tgt) (Nat.lt_of_not_le hle) h.regs
    rw [Nat.min_eq_right (Nat.le_of_not_le hle)]; exact this

/-- the invariant of the union gadget `g` along a history (gadget invariant), for both source shapes: `cs` = every coupon offered since
the last reset, `L` = the gadget's lg_k = min(lg_max_k, lg_k of the non-empty HLL-mode inputs since then).  In LIST / SET mode the
gadget is an ordinary sketch of `cs` at lg_max_k (`RInv`), in HLL mode it is a `GH` of `cs`. -/
structure GI (p : Params) (lgMaxK : Nat) (g : St ν) (cs : List Nat) (L : Nat) : Prop where
  lgk : g.lgK = L
  le : L ≤ lgMaxK
  tt8 : g.tt = .h8
  pos : ∀ c, c ∈ cs → c ≠ 0 → 0 < cValue p c
  nonhll : g.mode ≠ .hll → L = lgMaxK ∧ RInv p lgMaxK g cs
  hll : g.mode = .hll → GH p g (fun c => c ∈ cs ∧ c ≠ 0)

theorem GI.new (p : Params) (K : Nat) : GI p K (newSketch p K .h8 false : St ν) [] K := by
  refine ⟨rfl, Nat.le_refl _, rfl, by simp, fun _ => ⟨rfl, RInv.init p K .h8⟩, fun hm => ?_⟩
  simp [newSketch, newList] at hm

theorem GI.empty_content {p : Params} {K L : Nat} {g : St ν} {cs : List Nat} (h : GI p K g cs L)
    (he : isEmpty g = true) : ∀ c, c ∈ cs → c = 0 := by
  intro c hc
  apply Classical.byContradiction
  intro h0
  by_cases hm : g.mode = .hll
  · rw [(h.hll hm).not_empty ⟨hc, h0⟩ (h.pos c hc h0)] at he
    exact absurd he (by simp)
  · exact h0 (((h.nonhll hm).2.isEmpty_iff hm).1 he c hc)

/-- either the source has the repaired shape and an HLL-mode gadget holds a nonzero coupon (so that it cannot report empty, before
or after a down-sampling), or nothing has been reduced and this input needs no precision reduction -/
def MayMerge (p : Params) (K L : Nat) (g : St ν) (cs : List Nat) (src : St ν) : Prop :=
  (p.unionDownsampleRebuilds = true ∧ (g.mode = .hll → ∃ c, c ∈ cs ∧ c ≠ 0)) ∨ (L = K ∧ (src.mode = .hll → src.lgK = K))

/-- a gadget that reports empty is still at lg_max_k.  This is what fails on the pinned shape after a down-sampling or a reset
(D1 / D14); hence `MayMerge`: the repaired shape, or nothing reduced so far -/
theorem GI.empty_lgk {p : Params} {K L : Nat} {g src : St ν} {cs : List Nat} (h : GI p K g cs L)
    (hred : MayMerge p K L g cs src) (he : isEmpty g = true) : L = K := by
  rcases hred with ⟨-, hw⟩ | ⟨hl, -⟩
  · by_cases hm : g.mode = .hll
    · obtain ⟨c, hc, h0⟩ := hw hm
      exact absurd (h.empty_content he c hc) h0
    · exact (h.nonhll hm).1
  · exact hl

theorem GI.of_RInv {p : Params} {K : Nat} {g : St ν} {cs : List Nat} (hr : RInv p K g cs) (h8 : g.tt = .h8)
    (hpos : ∀ c, c ∈ cs → c ≠ 0 → 0 < cValue p c) : GI p K g cs K :=
  ⟨hr.lgK_eq, Nat.le_refl _, h8, hpos, fun _ => ⟨rfl, hr⟩, fun hm => (hr.hll hm).toGH hm h8⟩

/-- an HLL-mode gadget at lg_k `L`, given in the form the gadget lemmas return -/
theorem GI.of_GH {p : Params} {K L : Nat} {g : St ν} {cs : List Nat} {M : Nat → Prop} (h : GH p g M ∧ g.lgK = L) (hle : L ≤ K)
    (hpos : ∀ c, c ∈ cs → c ≠ 0 → 0 < cValue p c) (hM : ∀ c, M c ↔ (c ∈ cs ∧ c ≠ 0)) : GI p K g cs L :=
  ⟨h.2, hle, h.1.tt8, hpos, fun hm => absurd h.1.mode hm, fun _ => h.1.congr hM⟩

theorem GI.congr {p : Params} {K L : Nat} {g : St ν} {cs cs' : List Nat} (h : GI p K g cs L)
    (hmem : ∀ c, c ≠ 0 → (c ∈ cs ↔ c ∈ cs')) (hpos : ∀ c, c ∈ cs' → c ≠ 0 → 0 < cValue p c) : GI p K g cs' L :=
  ⟨h.lgk, h.le, h.tt8, hpos, fun hm => ⟨(h.nonhll hm).1, (h.nonhll hm).2.congr_nz hmem⟩, fun hm => (h.hll hm).congr_nz fun c hc => and_congr_left fun _ => hmem c hc⟩

theorem GI.append_zeros {p : Params} {K L : Nat} {g : St ν} {cs scs : List Nat} (h : GI p K g cs L)
    (hz : ∀ c, c ∈ scs → c = 0) : GI p K g (cs ++ scs) L :=
  h.congr (fun c hc => by rw [List.mem_append]; exact ⟨Or.inl, fun h => h.elim id fun h1 => absurd (hz c h1) hc⟩)
    (pos_append h.pos (fun c hc h0 => absurd (hz c hc) h0))

/-- `update` with a raw item (its coupon `c`) -/
theorem GI.coupon {p : Params} (hp : p.listFitsSet) {K L : Nat} {g : St ν} {cs : List Nat} (h : GI p K g cs L)
    (c : Nat) (hc : c ≠ 0 → 0 < cValue p c) : GI p K (couponUpdate p g c) (cs ++ [c]) L := by
  by_cases hc0 : c = 0
  · have e : couponUpdate p g c = g := by unfold couponUpdate; rw [if_pos hc0]
    rw [e]
    exact h.append_zeros (fun x hx => (List.mem_singleton.1 hx).trans hc0)
  have hpos := pos_append h.pos (fun x hx h0 => by rw [List.mem_singleton.1 hx]; exact hc hc0)
  by_cases hm : g.mode = .hll
  · rw [couponUpdate_of_hll p hm]
    exact .of_GH ⟨(h.hll hm).hllUpdate c, (hllUpdate_fields p g c).lgK.trans h.lgk⟩ h.le hpos fun _ => nz_snoc hc0
  · obtain ⟨hl, hr⟩ := h.nonhll hm
    rw [hl]
    exact GI.of_RInv (hr.step hp c) ((couponUpdate_keeps p g c).2.1.trans h.tt8) hpos

theorem GI.run {p : Params} (hp : p.listFitsSet) {K L : Nat} : ∀ (l : List Nat) {g : St ν} {cs : List Nat},
    GI p K g cs L → (∀ c, c ∈ l → c ≠ 0 → 0 < cValue p c) → GI p K (DS.Hll.run p g l) (cs ++ l) L
  | [], g, cs, h, _ => by rw [List.append_nil]; exact h
  | a :: l, g, cs, h, hl => by
    have ih := GI.run hp l (h.coupon hp a (hl a List.mem_cons_self)) (fun c hc => hl c (List.mem_cons_of_mem _ hc))
    rw [List.append_assoc] at ih
    exact ih

theorem GI.touch {p : Params} {K L : Nat} {g : St ν} {cs : List Nat} (h : GI p K g cs L) : GI p K (checkRebuild g) cs L := by
  by_cases hc : g.mode = .hll ∧ g.rebuild = true
  · exact .of_GH ⟨checkRebuild_fresh hc.1 h.tt8 (h.hll hc.1).regsOf hc.2, (checkRebuild_fields g).1.lgK.trans h.lgk⟩ h.le h.pos
      fun _ => Iff.rfl
  · rw [checkRebuild_of_not hc]; exact h

/-- `hll_sketch::reset` of a gadget at lg_max_k (pinned shape: an adopted start-full sketch restarts as an empty HLL array) -/
theorem GI.reset {p : Params} {K : Nat} {g : St ν} {cs : List Nat} (h : GI p K g cs K) : GI p K (DS.Hll.reset p g) [] K := by
  unfold DS.Hll.reset
  by_cases hsf : g.startFull = true
  · rw [if_pos hsf, h.lgk, h.tt8]
    exact .of_GH ⟨(HInv.newHll (ν := ν) p K .h8 true).toGH rfl rfl, rfl⟩ (Nat.le_refl _) (by simp) (by simp)
  · rw [if_neg hsf, h.lgk, h.tt8]
    exact GI.new p K

/-- `get_result`: the content of ONE sketch of lg_k `L` that saw every coupon of `cs` -/
theorem GI.result {p : Params} {K L : Nat} {g : St ν} {cs : List Nat} (h : GI p K g cs L) (hkb : K ≤ p.keyBits) (tt : TType) :
    (copyAs p g tt).lgK = L ∧
    ((copyAs p g tt).mode = .hll → (copyAs p g tt).regs.size = 2^L ∧
      ∀ slot, slot < 2^L → IsMaxAt p L (fun c => c ∈ cs) slot ((copyAs p g tt).regs.getD slot 0)) ∧
    ((copyAs p g tt).mode ≠ .hll → (copyAs p g tt).items.Nodup ∧ ∀ c, c ∈ (copyAs p g tt).items ↔ (c ∈ cs ∧ c ≠ 0)) := by
  obtain ⟨pm, pk, -, pregs, pitems⟩ := copyAs_preserves p g tt (fun hm => (h.hll hm).size)
    (by rw [h.lgk]; exact Nat.le_trans h.le hkb)
  refine ⟨pk.trans h.lgk, fun hm => ?_, fun hm => ?_⟩
  · have gh := h.hll (pm ▸ hm)
    rw [pregs, ← h.lgk]
    exact ⟨gh.size, fun slot hs => (gh.regs slot hs).congr_nz fun c h0 => and_iff_left h0⟩
  · have hgm : g.mode ≠ .hll := fun e => hm (pm.trans e)
    rw [pitems hgm]
    exact (h.nonhll hgm).2.items_exact hgm

theorem GI.result_determined {p : Params} {K L : Nat} {g g' : St ν} {cs cs' : List Nat} (h : GI p K g cs L) (h' : GI p K g' cs' L)
    (hkb : K ≤ p.keyBits) (tt tt' : TType) (hsame : ∀ c, c ≠ 0 → (c ∈ cs ↔ c ∈ cs')) :
    let r := copyAs p g tt
    let r' := copyAs p g' tt'
    r.lgK = r'.lgK ∧ (r.mode = .hll → r'.mode = .hll → r.regs = r'.regs) ∧
    (r.mode ≠ .hll → r'.mode ≠ .hll → ∀ c, c ∈ r.items ↔ c ∈ r'.items) := by
  obtain ⟨ak, ah, al⟩ := h.result hkb tt
  obtain ⟨bk, bh, bl⟩ := h'.result hkb tt'
  refine ⟨ak.trans bk.symm, fun hm hm' => ?_, fun hm hm' c => ?_⟩
  · exact RegsOf.unique ⟨(ah hm).1, (ah hm).2⟩ ⟨(bh hm').1, (bh hm').2⟩ hsame
  · rw [(al hm).2 c, (bl hm').2 c]
    exact and_congr_left (hsame c)

/-- lg_k after `union_impl` with source `src`.  `union_impl` does not ask whether `src` is empty (the rvalue adoption calls it with
the empty old gadget as source); `lgkUpd` below is the bookkeeping of `update`, which skips empty inputs -/
def lgkAfter (L : Nat) (src : St ν) : Nat := if src.mode = .hll then min L src.lgK else L

/-- `src` is a sketch built from the coupon stream `scs` (what `run_newSketch` and `isEmpty_run_iff` say of a built sketch) -/
structure SkOf (p : Params) (src : St ν) (scs : List Nat) : Prop where
  list : src.mode ≠ .hll → RInv p src.lgK src scs
  hll : src.mode = .hll → HInv p src (fun c => c ∈ scs ∧ c ≠ 0)
  kb : src.lgK ≤ p.keyBits
  pos : ∀ c, c ∈ scs → c ≠ 0 → 0 < cValue p c
  emp : isEmpty src = true ↔ ∀ c, c ∈ scs → c = 0

theorem unionImplF_lgMaxK (p : Params) (u : Un ν) (s : St ν) : (unionImplF p u s).lgMaxK = u.lgMaxK := by
  unfold unionImplF
  simp only [apply_ite Un.lgMaxK, ite_self]

theorem unionUpdateF_lgMaxK (p : Params) (u : Un ν) (s : St ν) : (unionUpdateF p u s).lgMaxK = u.lgMaxK := by
  unfold unionUpdateF
  simp only [apply_ite Un.lgMaxK, unionImplF_lgMaxK, ite_self]

theorem unionUpdateRvF_lgMaxK (p : Params) (u : Un ν) (s : St ν) : (unionUpdateRvF p u s).lgMaxK = u.lgMaxK := by
  unfold unionUpdateRvF
  simp only [apply_ite Un.lgMaxK, unionImplF_lgMaxK, ite_self]

theorem GI.unionImplF {p : Params} (hp : p.listFitsSet) {K L : Nat}
    {u : Un ν} {cs : List Nat} (hu : u.lgMaxK = K) (h : GI p K u.gadget cs L)
    (src : St ν) (scs : List Nat)
    (hsl : src.mode ≠ .hll → RInv p src.lgK src scs)
    (hsh : src.mode = .hll → HllSource p src (fun c => c ∈ scs ∧ c ≠ 0))
    (hred : MayMerge p K L u.gadget cs src)
    (hpos : ∀ c, c ∈ scs → c ≠ 0 → 0 < cValue p c) :
    GI p K (DS.Hll.unionImplF p u src).gadget (cs ++ scs) (lgkAfter L src) := by
  have hposall := pos_append h.pos hpos
  have hfull := h.empty_lgk hred
  unfold DS.Hll.unionImplF lgkAfter
  simp only
  by_cases hm : src.mode ≠ .hll
  · rw [if_pos hm, if_neg (fun e => hm e)]
    have hr := hsl hm
    by_cases hcnd : isEmpty u.gadget = true ∧ src.lgK = u.gadget.lgK
    · -- the empty gadget is replaced by a copy of the LIST / SET input
      rw [if_pos hcnd, copyAs_nonhll p src .h8 hm]
      have hl := hfull hcnd.1
      have hk : src.lgK = K := by rw [hcnd.2, h.lgk, hl]
      rw [hl]
      exact GI.of_RInv (RInv.congr_nz ⟨hk, hr.sf, by rw [← hk]; exact hr.ph, hr.items_perm, fun hm' => absurd hm' hm⟩
        fun _ hc => mem_append_zeros_left (h.empty_content hcnd.1) hc) rfl hposall
    · rw [if_neg hcnd]
      refine (GI.run hp src.items h fun c hc h0 => hpos c ((hr.mem_items hm c).1 hc).1 h0).congr (fun c hc => ?_) hposall
      rw [List.mem_append, List.mem_append, hr.mem_items hm c, and_iff_left hc]
  · have hm' := Decidable.not_not.1 hm
    rw [if_neg hm, if_pos hm']
    have hH := hsh hm'
    have hcg := hH.copyOrDownsampleF K (hred.elim (fun x => Or.inl x.1) (fun x => Or.inr (Nat.le_of_eq (x.2 hm'))))
    -- whatever the gadget was, the result is an HLL-mode gadget of lg_k min(L, lg_k of the input)
    refine .of_GH ?_ (Nat.le_trans (Nat.min_le_left _ _) h.le) hposall fun _ => Iff.rfl
    by_cases he : isEmpty u.gadget = true
    · -- the empty gadget is replaced by a copy / down-sampled copy of the input
      rw [he]
      simp only [Bool.not_true, Bool.false_eq_true, if_false]
      rw [hu]
      exact ⟨hcg.1.congr_nz fun _ hc => and_congr_left fun _ => mem_append_zeros_left (h.empty_content he) hc, by rw [hcg.2, Nat.min_comm, hfull he]⟩
    · have hnee : isEmpty u.gadget = false := Bool.eq_false_iff.2 he
      rw [hnee]
      simp only [Bool.not_false, if_true]
      by_cases hgm : u.gadget.mode ≠ .hll
      · -- LIST / SET gadget: copy or down-sample the input to lg_max_k, then merge the gadget's coupons into it
        rw [if_pos hgm, hu]
        obtain ⟨hl, hr0⟩ := h.nonhll hgm
        refine ⟨(GH.foldl u.gadget.items hcg.1).congr fun c => ?_,
          ((foldl_hllUpdate_fields p u.gadget.items _).lgK.trans hcg.2).trans (by rw [Nat.min_comm, hl])⟩
        rw [hr0.mem_items hgm c, nz_append]
        exact Or.comm
      · -- HLL gadget: down-sample the gadget first if the input is coarser, then register-wise maximum (folded)
        rw [if_neg hgm]
        have hgm' := Decidable.not_not.1 hgm
        have gh := h.hll hgm'
        simp only
        by_cases hlt : src.lgK < u.gadget.lgK
        · rw [if_pos hlt]
          -- a real reduction: only on the repaired shape
          obtain ⟨hfl, hv⟩ := hred.resolve_right fun x => by
            rw [h.lgk, x.1, x.2 hm'] at hlt; exact Nat.lt_irrefl _ hlt
          obtain ⟨v, hv, hv0⟩ := hv hgm'
          have hd := downsampleF_GH hfl (src := u.gadget) (S := fun c => c ∈ cs ∧ c ≠ 0) (tgt := src.lgK) hlt gh.regsOf
          have hmg := hd.1.mergeHll (src := src) (S := fun c => c ∈ scs ∧ c ≠ 0) (Nat.le_of_eq hd.2) hH.regs.size hH.regs.max
            (hd.1.not_empty (c := v) ⟨hv, hv0⟩ (h.pos v hv hv0))
          exact ⟨hmg.congr fun _ => nz_append.symm, hd.2.trans (Nat.min_eq_right (h.lgk ▸ Nat.le_of_lt hlt)).symm⟩
        · rw [if_neg hlt]
          have hmg := gh.mergeHll (src := src) (S := fun c => c ∈ scs ∧ c ≠ 0) (Nat.le_of_not_lt hlt) hH.regs.size hH.regs.max hnee
          exact ⟨hmg.congr fun _ => nz_append.symm, h.lgk.trans (Nat.min_eq_left (h.lgk ▸ Nat.le_of_not_lt hlt)).symm⟩

/-- lg_k bookkeeping of `update(sketch)`: only a non-empty HLL-mode input can reduce it (`lgkStepG` folds it over a history) -/
def lgkUpd (L : Nat) (src : St ν) : Nat := if src.mode = .hll ∧ isEmpty src = false then min L src.lgK else L

theorem SkOf.exists_nz {p : Params} {src : St ν} {scs : List Nat} (hs : SkOf p src scs) (he : ¬ isEmpty src = true) :
    ∃ c, c ∈ scs ∧ c ≠ 0 := by
  apply Classical.byContradiction
  intro hn
  exact he (hs.emp.2 fun c hc => Classical.byContradiction fun h0 => hn ⟨c, hc, h0⟩)

/-- `update(const hll_sketch&)`; the second conjunct: an HLL-mode gadget goes on holding a nonzero coupon -/
theorem GI.unionUpdateF {p : Params} (hp : p.listFitsSet) {K L : Nat}
    {u : Un ν} {cs : List Nat} (hu : u.lgMaxK = K) (h : GI p K u.gadget cs L)
    {src : St ν} {scs : List Nat} (hs : SkOf p src scs) (hred : MayMerge p K L u.gadget cs src) :
    GI p K (DS.Hll.unionUpdateF p u src).gadget (cs ++ scs) (lgkUpd L src) ∧
    ((u.gadget.mode = .hll → ∃ c, c ∈ cs ∧ c ≠ 0) →
      (DS.Hll.unionUpdateF p u src).gadget.mode = .hll → ∃ c, c ∈ cs ++ scs ∧ c ≠ 0) := by
  unfold DS.Hll.unionUpdateF lgkUpd
  by_cases he : isEmpty src = true
  · rw [if_pos he, if_neg (by rw [he]; simp)]
    exact ⟨h.append_zeros (hs.emp.1 he), fun hw hm => (hw hm).imp fun c hc => ⟨List.mem_append_left _ hc.1, hc.2⟩⟩
  · rw [if_neg he]
    have r := h.unionImplF hp hu src scs hs.list (fun hm => HllSource.of_HInv hm (hs.hll hm) hs.kb) hred hs.pos
    unfold lgkAfter at r
    simp only [Bool.eq_false_iff.2 he, and_true]
    exact ⟨r, fun _ _ => (hs.exists_nz he).imp fun c hc => ⟨List.mem_append_right _ hc.1, hc.2⟩⟩

/-- `update(hll_sketch&&)`: the adoption shortcut swaps gadget and argument and then merges the old gadget back; `hold`: what is
known of a gadget that reports empty although it is in HLL mode (on the repaired shape there is none) -/
theorem GI.unionUpdateRvF {p : Params} (hp : p.listFitsSet) {K L : Nat}
    {u : Un ν} {cs : List Nat} (hu : u.lgMaxK = K) (h : GI p K u.gadget cs L)
    {src : St ν} {scs : List Nat} (hs : SkOf p src scs) (hred : MayMerge p K L u.gadget cs src)
    (hold : isEmpty u.gadget = true → u.gadget.mode = .hll → HllSource p u.gadget (fun c => c ∈ cs ∧ c ≠ 0)) :
    GI p K (DS.Hll.unionUpdateRvF p u src).gadget (cs ++ scs) (lgkUpd L src) ∧
    ((u.gadget.mode = .hll → ∃ c, c ∈ cs ∧ c ≠ 0) →
      (DS.Hll.unionUpdateRvF p u src).gadget.mode = .hll → ∃ c, c ∈ cs ++ scs ∧ c ≠ 0) := by
  have hlv := h.unionUpdateF hp hu hs hred
  unfold DS.Hll.unionUpdateRvF
  unfold DS.Hll.unionUpdateF at hlv
  by_cases he : isEmpty src = true
  · rw [if_pos he] at hlv ⊢; exact hlv
  · rw [if_neg he] at hlv ⊢
    by_cases had : isEmpty u.gadget = true ∧ src.tt = .h8 ∧ src.lgK ≤ u.lgMaxK ∧ (src.mode = .hll ∨ src.lgK = u.lgMaxK)
    · rw [if_pos had]
      obtain ⟨hge, h8, hle, hdis⟩ := had
      have hl := h.empty_lgk hred hge
      have hw := hs.exists_nz he
      -- the adopted sketch is a good gadget for its own coupons
      have hgs : GI p K src scs src.lgK :=
        ⟨rfl, hu ▸ hle, h8, hs.pos, fun hm => ⟨(hdis.resolve_left hm).trans hu, (hdis.resolve_left hm).trans hu ▸ hs.list hm⟩,
          fun hm => (hs.hll hm).toGH hm h8⟩
      -- the old gadget, which holds nothing, is merged back at lg_max_k.  `MayMerge` for the swapped pair: on the repaired shape the
      -- adopted sketch holds a nonzero coupon (`hw`); otherwise the adopted sketch is at lg_max_k, by HLL mode (`x.2`) or by the
      -- adoption condition (`hdis`), and so is the old gadget (`hl`)
      have r := hgs.unionImplF hp (u := { u with gadget := src }) hu u.gadget cs
        (fun hm => by rw [h.lgk, hl]; exact (h.nonhll hm).2) (hold hge)
        (hred.elim (fun x => Or.inl ⟨x.1, fun _ => hw⟩) fun x => Or.inr
          ⟨Classical.byCases x.2 fun hm => (hdis.resolve_left hm).trans hu, fun _ => h.lgk.trans hl⟩) h.pos
      have hL : lgkAfter src.lgK u.gadget = lgkUpd L src := by
        unfold lgkAfter lgkUpd
        rw [h.lgk, hl, Nat.min_eq_left (hu ▸ hle), ite_self]
        by_cases hm : src.mode = .hll
        · rw [if_pos ⟨hm, Bool.eq_false_iff.2 he⟩, Nat.min_eq_right (hu ▸ hle)]
        · rw [if_neg fun x => hm x.1]; exact (hdis.resolve_left hm).trans hu
      rw [← hL]
      exact ⟨r.congr (fun c _ => by simp only [List.mem_append]; exact Or.comm) (pos_append h.pos hs.pos),
        fun _ _ => hw.imp fun c hc => ⟨List.mem_append_right _ hc.1, hc.2⟩⟩
    · rw [if_neg had]; exact hlv

theorem build_lgK (p : Params) (hp : p.listFitsSet) (d : SkDesc) : (d.build p : St ν).lgK = d.lgK :=
  (run_newSketch p hp d.lgK d.tt d.sf d.cs).1

theorem SkDesc.skOf (p : Params) (hp : p.listFitsSet) (d : SkDesc) (hk : d.lgK ≤ p.keyBits)
    (hdv : ∀ c, c ∈ d.cs → c ≠ 0 → 0 < cValue p c) : SkOf p (d.build p : St ν) d.cs := by
  obtain ⟨-, bl, bh, -⟩ := run_newSketch (ν := ν) p hp d.lgK d.tt d.sf d.cs
  have bk := build_lgK (ν := ν) p hp d
  exact ⟨fun hm => bk ▸ bl hm, bh, bk ▸ hk, hdv, isEmpty_run_iff (ν := ν) p hp d.lgK d.tt d.sf d.cs hdv⟩

end DS.Hll
