/- C16 (repaired source shapes) — /repo carries six `fix:` commits on top of the pinned upstream commit in
   var_opt_sketch / var_opt_union (dbbe534 deserialize m, cb4d600 marks init, 9b12d7b reset realloc, 74c906d pseudo-exact
   coercer, dc2ac23 coercer tolerance, ff5b1bd valid-mode check slack).  The translator reads the shapes from the
   CURRENT headers on every run (`DSGen.varopt_*` flags, tools/trules/varopt.py); the model takes them as fields of
   `Tunables` and the executed driver follows them.

   Every theorem of Props/C16.lean is stated for an arbitrary `T : Tunables`, so it holds for the repaired variant as
   well (update never throws from a reachable state also with the slack check; weight conservation; heavy items exact;
   union n / weight / size / no marks).  This file adds the two statements that are FALSE at the all-flags-off
   tunables `exT` (`vo_serde_update_full_false`, `vo_union_wellformed_full_false` in Props/C16.lean) and TRUE for the
   repaired shapes, plus the fact that the generated flags are the repaired ones (`vo_source_shapes_current`).  Two
   repaired defects live in floating point only (absolute tolerance, rounded tau) and have no counterpart over `Rat`;
   the marks-initialisation and reset-reallocation fixes are memory-safety repairs
   below the level of the model (their flags only select what the witnesses of vlib/props/c16.py expect). -/
import DSProofs.Lemmas.VarOptWitness
import DSGen.VarOpt
namespace DS.VarOpt
open DS

/-- **vo_serde_update_current.** With the repaired reader (`deserialize` passes m = 0) the full statement holds: a
    sketch left behind by ANY stream (any mode), sent through serialize → deserialize, keeps accepting every update. -/
theorem vo_serde_update_current (T : Tunables) (hfix : T.deserializeM0 = true)
    (sk : Sk Rat) (items : List (Int × Rat)) (hfs : FromStream sk items) (hk : sk.k ≤ T.maxK) :
    ∃ sk2, serdeRoundTrip T sk = some sk2 ∧
      ∀ (x : Int) (w : Rat) (ds : Draws Rat), 0 < w → (update T sk2 x w false ds).isSome = true := by
  obtain ⟨ins, L, hinv, _, _, hgad⟩ := hfs.inv
  by_cases hne : sk.isEmpty = true
  · -- an empty sketch comes back as a fresh one
    have hk1 := hinv.kpos
    have hc0 : (sk.k == 0 || decide (sk.k > T.maxK)) = false := by simp; omega
    have hs : serdeRoundTrip T sk = Sk.new T sk.k sk.rf sk.gadget := by
      unfold serdeRoundTrip
      rw [if_neg (by rw [hc0]; simp), if_pos hne]
    have hnew : ∃ s1, (Sk.new T sk.k sk.rf sk.gadget : Option (Sk Rat)) = some s1 := by
      unfold Sk.new
      rw [if_neg (by rw [hc0]; simp)]
      exact ⟨_, rfl⟩
    obtain ⟨s1, hs1⟩ := hnew
    obtain ⟨hi, _, hg1, _⟩ := new_inv T sk.k sk.rf sk.gadget s1 hs1
    exact ⟨s1, hs.trans hs1, fun x w ds hw => hi.update_isSome T x hw ds⟩
  · obtain ⟨sk2, hs2, hi, _⟩ := serde_inv T sk ins L hinv hgad hk (by simpa using hne) (Or.inr hfix)
    exact ⟨sk2, hs2, fun x w ds hw => hi.update_isSome T x hw ds⟩

/-- the estimation-mode witness of `vo_serde_update_full_false` at the repaired tunables `exTR`: the update succeeds -/
example : ((serdeRoundTrip exTR wA).bind (fun s => update exTR s 4 3 false wDs)).isSome = true := by decide +kernel
example : FromStream wA wItemsA ∧ exTR.deserializeM0 = true ∧ wA.k ≤ exTR.maxK := ⟨wA_fromStream, rfl, by decide +kernel⟩

/-- **vo_union_wellformed_current.** With the repaired coercer (guard against the OUTER tau, result re-heapified) the
    full statement `vo_union_wellformed_full` of Props/C16.lean holds: whatever `get_result` returns — through any of
    the three coercers, for any inputs, any max_k, any draws — is `WellFormed` (H is a min-heap and no H item is lighter than tau; no more than
    that: it is not the invariant `Inv0`, and no theorem here states that a later `update` of the result succeeds).  (Uses the `resolve_tau` bookkeeping invariant: when the number of marked items equals
    `outer_tau_denom`, `outer_tau_numer` is exactly their total weight, so the new tau IS the outer tau.) -/
theorem vo_union_wellformed_current (T : Tunables) (h1 : T.coercerOuterTau = true) (h2 : T.coercerHeapify = true)
    (maxK : Nat) (u0 : Un Rat) (hu0 : Un.new T maxK = some u0)
    (inputs : List (Sk Rat × List (Int × Rat))) (hin : ∀ p ∈ inputs, FromStream p.1 p.2) (ds : Draws Rat)
    (u : Un Rat) (ds' : Draws Rat) (hall : unionAll T u0 (inputs.map (·.1)) ds = some (u, ds'))
    (ds2 : Draws Rat) (res : Sk Rat) (ds3 : Draws Rat) (hres : u.getResult T ds2 = some (res, ds3)) :
    WellFormed res := by
  obtain ⟨insG, LG, hu, hb, -⟩ := unionAll_inv hu0 hin hall
  exact getResult_wf_repaired T h1 h2 u insG LG _ _ hu hb ds2 res ds3 hres

/-- the witness of `vo_union_wellformed_full_false` under the repaired coercer: the light item is absorbed
    (k_result = 2, both samples in R, tau = 31/2) instead of staying in H below tau -/
def wResR : Sk Rat :=
  (((unionAll exTR ((Un.new exTR 10 : Option (Un Rat)).getD wU0) [wA, wB] wDs).bind
      (fun p => p.1.getResult exTR wDs)).getD (wNew 1, wDs)).1
example : (wResR.k, wResR.H.length, wResR.R.length, wResR.totalWtR) = (2, 0, 2, 31) := by decide +kernel

/-- the source shapes in the headers NOW are the repaired ones (regenerated by the translator on every run; if a fix
    is reverted the flag flips, this obligation breaks, and the flag-following model follows the unrepaired shape again) -/
theorem vo_source_shapes_current :
    DSGen.varopt_deserializeM0 = true ∧ DSGen.varopt_coercerOuterTau = true ∧ DSGen.varopt_coercerHeapify = true ∧
    DSGen.varopt_coercerRelTol = true ∧ DSGen.varopt_validModeSlack = true ∧ DSGen.varopt_marksInit = true ∧
    DSGen.varopt_resetRealloc = true := by decide

end DS.VarOpt
