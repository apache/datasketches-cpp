/- VarOpt union: merging sketches into the gadget keeps the union invariant `UInv` and the `resolve_tau` bookkeeping
   `TauBook`.  Rat instance. -/
import DSProofs.Lemmas.VarOptQuery
namespace DS.VarOpt
open DS

def unionAll (T : Tunables) : Un Rat → List (Sk Rat) → Draws Rat → Option (Un Rat × Draws Rat)
  | u, [], ds => some (u, ds)
  | u, sk :: t, ds =>
    match u.update T sk ds with
    | some (u1, ds1) => unionAll T u1 t ds1
    | none => none

theorem corrected_spec (tau total : Rat) (htau : 0 < tau) (n : Nat) (cum : Rat) :
    (correctedRWeights tau total n cum).length = n ∧
    (1 ≤ n → sumR (correctedRWeights tau total n cum) = total - cum) ∧
    (0 < total - cum - ((n : Rat) - 1) * tau → ∀ x ∈ correctedRWeights tau total n cum, 0 < x) := by
  fun_induction correctedRWeights tau total n cum with
  | case1 => exact ⟨rfl, fun h => absurd h (by decide), fun _ _ h => absurd h List.not_mem_nil⟩
  | case2 cum =>
    refine ⟨rfl, fun _ => add_zero _, fun h x hx => ?_⟩
    rw [List.mem_singleton.1 hx]
    rwa [Nat.cast_one, sub_self, zero_mul, sub_zero] at h
  | case3 n cum hn ih =>
    obtain ⟨h1, h2, h3⟩ := ih
    refine ⟨congrArg (· + 1) h1, fun _ => ?_, fun h x hx => ?_⟩
    · rw [sumR, h2 (Nat.pos_of_ne_zero hn), Num.add_rat]; ring
    · rcases List.mem_cons.mp hx with rfl | hx'
      · exact htau
      · refine h3 ?_ x hx'
        rw [Nat.cast_succ, add_sub_cancel_right] at h
        rw [Num.add_rat]
        linarith

theorem sumR_zip_snd {α : Type} (a : List α) (b : List Rat) (h : a.length = b.length) :
    sumR ((a.zip b).map (·.2)) = sumR b := by
  induction a generalizing b with
  | nil => cases b <;> simp_all [sumR]
  | cons x t ih =>
    cases b with
    | nil => simp at h
    | cons y t' => simp [sumR]; exact ih t' (by simpa using h)

theorem rSamplesCorrected_spec (s : Sk Rat) (hW : s.R ≠ [] → 0 < s.totalWtR) :
    (∀ p ∈ s.rSamplesCorrected, 0 < p.2) ∧ totalW s.rSamplesCorrected = (if s.R = [] then 0 else s.totalWtR) ∧
    s.rSamplesCorrected.length = s.R.length := by
  by_cases hr : s.R = []
  · simp [Sk.rSamplesCorrected, hr, totalW, sumR]
  have hr0 : (0 : Rat) < (s.R.length : Rat) := by exact_mod_cast List.length_pos_of_ne_nil hr
  have htau : 0 < s.totalWtR / (s.R.length : Rat) := div_pos (hW hr) hr0
  obtain ⟨h1, h2, h3⟩ := corrected_spec (s.totalWtR / (s.R.length : Rat)) s.totalWtR htau s.R.length 0
  -- the last item gets exactly tau
  have hlast : s.totalWtR - 0 - ((s.R.length : Rat) - 1) * (s.totalWtR / (s.R.length : Rat)) = s.totalWtR / (s.R.length : Rat) := by
    field_simp; ring
  unfold Sk.rSamplesCorrected totalW
  simp only [Num.div_rat, Num.ofNat_rat, Num.zero_rat]
  refine ⟨fun p hp => h3 (hlast.symm ▸ htau) p.2 (List.of_mem_zip hp).2, ?_, ?_⟩
  · rw [sumR_zip_snd _ _ h1.symm, h2 (List.length_pos_of_ne_nil hr), sub_zero, if_neg hr]
  · rw [List.length_zip, h1, Nat.min_self]

theorem totalW_map_H (H : List E) : totalW (H.map (fun e => (e.item, e.wt))) = sumW H := by
  induction H with
  | nil => rfl
  | cons e t ih => simp [totalW, sumR, sumW] at ih ⊢; rw [ih]

/-- every entry of `entriesOf g mark items` carries the mark `g && mark` -/
theorem filter_mark_entriesOf (g mark : Bool) (items : List (Int × Rat)) :
    (entriesOf g mark items).filter (·.mark) = if g && mark then entriesOf g mark items else [] := by
  split
  · rename_i h
    exact List.filter_eq_self.2 fun e he => (mem_entriesOf.1 he).2.trans h
  · rename_i h
    exact List.filter_eq_nil_iff.2 fun e he => (mem_entriesOf.1 he).2 ▸ h

/-- bookkeeping of `resolve_tau` against the marked entries ever fed to the gadget (ghost list `insG`): the
    denominator never exceeds their number, and when it equals it the numerator is their total weight -/
def TauBook (u : Un Rat) (insG : List E) : Prop :=
  u.outerTauDenom ≤ countMarks insG ∧
  (u.outerTauDenom = countMarks insG → u.outerTauNumer = sumW (insG.filter (·.mark)))

/-- invariant of a union: the gadget satisfies the sketch invariant for the ghost list `insG` of everything fed to
    it, whose total weight is `tot`; `cnt` is the union's item counter -/
structure UInv (u : Un Rat) (insG LG : List E) (tot : Rat) (cnt : Nat) : Prop where
  ginv : Inv u.gadget insG LG
  isGadget : u.gadget.gadget = true
  kEq : u.gadget.k = u.maxK
  n_eq : u.n = cnt
  tot_eq : sumW insG = tot
  nz : insG ≠ [] → 1 ≤ cnt

/-- the ghost list grows by the H entries (fed unmarked) and the R items (fed marked, with corrected weights), its marked part by
the R items and their weight `total_wt_r_` -/
theorem mergeItems_spec (T : Tunables) (u : Un Rat) (insG LG : List E) (tot : Rat) (cnt : Nat) (hu : UInv u insG LG tot cnt)
    (sk : Sk Rat) (ins L : List E) (hsk : Inv sk ins L) (ds : Draws Rat) :
    ∃ u' ds' insG' LG', mergeItems T u sk ds = some (u', ds') ∧ UInv u' insG' LG' (tot + sumW ins) (cnt + sk.n) ∧
      u'.maxK = u.maxK ∧ u'.outerTauNumer = u.outerTauNumer ∧ u'.outerTauDenom = u.outerTauDenom ∧
      countMarks insG' = countMarks insG + sk.R.length ∧
      sumW (insG'.filter (·.mark)) = sumW (insG.filter (·.mark)) + (if sk.R = [] then 0 else sk.totalWtR) := by
  unfold mergeItems
  by_cases hn : sk.n = 0
  · obtain rfl : ins = [] := List.eq_nil_of_length_eq_zero (hsk.n_eq.symm.trans hn)
    rw [if_pos (beq_iff_eq.2 hn), hn, hsk.R_nil_of_no_input]
    exact ⟨u, ds, insG, LG, rfl, ⟨hu.ginv, hu.isGadget, hu.kEq, hu.n_eq, hu.tot_eq.trans (add_zero _).symm, hu.nz⟩, rfl, rfl, rfl,
      rfl, (add_zero _).symm⟩
  · rw [if_neg (mt beq_iff_eq.1 hn)]
    obtain ⟨g1, ds1, L1, hf1, hinv1, hk1, hg1, -, -⟩ :=
      feed_spec T false (sk.H.map (fun e => (e.item, e.wt))) u.gadget insG LG ds hu.ginv
        (fun p hp => by
          obtain ⟨e, he, rfl⟩ := List.mem_map.mp hp
          exact hsk.pos e (hsk.perm.symm.subset (List.mem_append_left _ he)))
        (fun h => nomatch h)
    obtain ⟨hposR, htotR, hrlen⟩ := rSamplesCorrected_spec sk hsk.toInv0.wtR_pos
    obtain ⟨g2, ds2, L2, hf2, hinv2, hk2, hg2, -, -⟩ :=
      feed_spec T true sk.rSamplesCorrected g1 _ L1 ds1 hinv1 hposR (fun _ => hg1.trans hu.isGadget)
    simp only [hf1, hf2]
    rw [hg1, hu.isGadget] at hinv2
    refine ⟨_, ds2, _, L2, rfl, ⟨hinv2, hg2.trans (hg1.trans hu.isGadget), hk2.trans (hk1.trans hu.kEq),
      congrArg (· + sk.n) hu.n_eq, ?_, fun _ => Nat.le_add_left_of_le (Nat.pos_of_ne_zero hn)⟩, rfl, rfl, rfl, ?_, ?_⟩
    · rw [sumW_append, sumW_entriesOf, htotR, sumW_append, sumW_entriesOf, totalW_map_H, hu.tot_eq,
        ← hsk.toInv0.skWeight_eq, skWeight]
      ring
    · simp only [countMarks, List.filter_append, filter_mark_entriesOf, Bool.and_self, Bool.and_false, if_true,
        Bool.false_eq_true, if_false, List.length_append, length_entriesOf, hrlen, List.length_nil, Nat.zero_add]
      exact Nat.add_comm _ _
    · simp only [List.filter_append, filter_mark_entriesOf, Bool.and_self, Bool.and_false, if_true, Bool.false_eq_true,
        if_false, sumW_append, sumW_entriesOf, htotR, sumW, zero_add]
      exact add_comm _ _

/-- `resolve_tau` leaves the gadget and the counters alone; the outer tau is replaced by the sketch's, pooled with it, or kept -/
theorem resolveTau_spec (u : Un Rat) (sk : Sk Rat) :
    (resolveTau u sk).gadget = u.gadget ∧ (resolveTau u sk).n = u.n ∧ (resolveTau u sk).maxK = u.maxK ∧
    ((0 < sk.R.length ∧ (resolveTau u sk).outerTauDenom = sk.R.length ∧ (resolveTau u sk).outerTauNumer = sk.totalWtR) ∨
     (0 < sk.R.length ∧ (resolveTau u sk).outerTauDenom = u.outerTauDenom + sk.R.length ∧
        (resolveTau u sk).outerTauNumer = u.outerTauNumer + sk.totalWtR) ∨
     resolveTau u sk = u) := by
  fun_cases resolveTau u sk with
  | case1 hr | case2 hr => exact ⟨rfl, rfl, rfl, .inl ⟨hr, rfl, rfl⟩⟩
  | case3 hr => exact ⟨rfl, rfl, rfl, .inr (.inl ⟨hr, rfl, rfl⟩)⟩
  | case4 | case5 => exact ⟨rfl, rfl, rfl, .inr (.inr rfl)⟩

theorem unUpdate_spec (T : Tunables) (u : Un Rat) (insG LG : List E) (tot : Rat) (cnt : Nat) (hu : UInv u insG LG tot cnt)
    (hb : TauBook u insG) (sk : Sk Rat) (ins L : List E) (hsk : Inv sk ins L) (ds : Draws Rat) :
    ∃ u' ds' insG' LG', u.update T sk ds = some (u', ds') ∧ UInv u' insG' LG' (tot + sumW ins) (cnt + sk.n) ∧
      u'.maxK = u.maxK ∧ TauBook u' insG' := by
  obtain ⟨u1, ds1, insG', LG', hm, hinv, hmk, hnum, hden, hcm, hsm⟩ := mergeItems_spec T u insG LG tot cnt hu sk ins L hsk ds
  obtain ⟨h1, h2, h3, hτ⟩ := resolveTau_spec u1 sk
  refine ⟨resolveTau u1 sk, ds1, insG', LG', by simp [Un.update, hm], ?_, h3.trans hmk, ?_⟩
  · exact ⟨h1 ▸ hinv.ginv, h1 ▸ hinv.isGadget, (h1 ▸ hinv.kEq).trans h3.symm, h2.trans hinv.n_eq, hinv.tot_eq, hinv.nz⟩
  · obtain ⟨hle, heq⟩ := hb
    rw [← hden] at hle heq
    rw [← hnum] at heq
    unfold TauBook
    rw [hcm, hsm]
    rcases hτ with ⟨hr, hd, hn⟩ | ⟨hr, hd, hn⟩ | he
    · -- replaced: the counts agree only if no marked entry was there before, and then none weighs anything
      rw [hd, hn, if_neg (List.ne_nil_of_length_pos hr)]
      refine ⟨Nat.le_add_left _ _, fun h => ?_⟩
      rw [List.eq_nil_of_length_eq_zero (Nat.right_eq_add.1 h : countMarks insG = 0), sumW, zero_add]
    · -- pooled
      rw [hd, hn, if_neg (List.ne_nil_of_length_pos hr)]
      exact ⟨Nat.add_le_add_right hle _, fun h => by rw [heq (Nat.add_right_cancel h)]⟩
    · -- kept: its denominator can equal the new mark count only if `sk` brought no R items
      rw [he]
      refine ⟨Nat.le_add_right_of_le hle, fun h => ?_⟩
      have hr : sk.R.length = 0 := Nat.le_zero.1 (Nat.le_of_add_le_add_left (h ▸ hle : countMarks insG + sk.R.length ≤ countMarks insG + 0))
      rw [if_pos (List.eq_nil_of_length_eq_zero hr), add_zero]
      exact heq (h.trans (congrArg _ hr))

theorem newUnion_inv (T : Tunables) (maxK : Nat) (u0 : Un Rat) (h : Un.new T maxK = some u0) :
    UInv u0 [] [] 0 0 ∧ u0.maxK = maxK := by
  unfold Un.new at h
  split at h
  · rename_i g hg
    cases h
    obtain ⟨hinv, hk, hgg, -⟩ := new_inv T maxK T.defaultRf true g hg
    exact ⟨⟨hinv, hgg, hk, rfl, rfl, fun h => absurd rfl h⟩, rfl⟩
  · cases h

theorem newUnion_book (T : Tunables) (maxK : Nat) (u0 : Un Rat) (h : Un.new T maxK = some u0) : TauBook u0 [] := by
  unfold Un.new at h
  split at h
  · cases h
    exact ⟨Nat.le_refl _, fun _ => rfl⟩
  · cases h

theorem unionAll_spec (T : Tunables) (inputs : List (Sk Rat × List (Int × Rat))) (hin : ∀ p ∈ inputs, FromStream p.1 p.2) :
    ∀ (u : Un Rat) (insG LG : List E) (tot : Rat) (cnt : Nat) (ds : Draws Rat), UInv u insG LG tot cnt → TauBook u insG →
    ∃ u' ds' insG' LG', unionAll T u (inputs.map (·.1)) ds = some (u', ds') ∧
      UInv u' insG' LG' (tot + sumR (inputs.map (fun p => totalW p.2))) (cnt + (inputs.map (fun p => p.2.length)).sum) ∧
      u'.maxK = u.maxK ∧ TauBook u' insG' := by
  induction inputs with
  | nil => exact fun u insG LG tot cnt ds hu hb => ⟨u, ds, insG, LG, rfl, (add_zero tot).symm ▸ hu, rfl, hb⟩
  | cons p t ih =>
    intro u insG LG tot cnt ds hu hb
    obtain ⟨ins, L, hinv, htot, hn, -⟩ := (hin p List.mem_cons_self).inv
    obtain ⟨u1, ds1, insG1, LG1, hup, hu1, hk1, hb1⟩ := unUpdate_spec T u insG LG tot cnt hu hb p.1 ins L hinv ds
    obtain ⟨u2, ds2, insG2, LG2, hall, hu2, hk2, hb2⟩ :=
      ih (fun q hq => hin q (List.mem_cons_of_mem _ hq)) u1 insG1 LG1 _ _ ds1 hu1 hb1
    refine ⟨u2, ds2, insG2, LG2, by simp only [List.map_cons, unionAll, hup, hall], ?_, hk2.trans hk1, hb2⟩
    rw [List.map_cons, List.map_cons, sumR, List.sum_cons, ← add_assoc, ← Nat.add_assoc, ← htot, ← hn]
    exact hu2

theorem unionAll_inv {T : Tunables} {maxK : Nat} {u0 : Un Rat} (hu0 : Un.new T maxK = some u0)
    {inputs : List (Sk Rat × List (Int × Rat))} (hin : ∀ p ∈ inputs, FromStream p.1 p.2) {ds ds' : Draws Rat} {u : Un Rat}
    (hall : unionAll T u0 (inputs.map (·.1)) ds = some (u, ds')) :
    ∃ insG LG, UInv u insG LG (sumR (inputs.map (fun p => totalW p.2))) (inputs.map (fun p => p.2.length)).sum ∧
      TauBook u insG ∧ u.maxK = maxK := by
  obtain ⟨hinv0, hk0⟩ := newUnion_inv T maxK u0 hu0
  obtain ⟨u', ds'', insG, LG, hall', hu, hk, hb⟩ := unionAll_spec T inputs hin u0 [] [] 0 0 ds hinv0 (newUnion_book T maxK u0 hu0)
  rw [hall] at hall'
  cases hall'
  rw [zero_add, Nat.zero_add] at hu
  exact ⟨insG, LG, hu, hb, hk.trans hk0⟩

end DS.VarOpt
