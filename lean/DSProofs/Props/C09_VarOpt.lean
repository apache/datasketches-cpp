/-
C09 (VarOpt sketch and VarOpt union part) — the serialized images round-trip.

ONLY property theorems + non-vacuity examples (helper lemmas: Lemmas/WireCount.lean, Lemmas/WireCountVarOpt.lean).
Model: DSModel/Wire/VarOpt.lean.  Statements are for EVERY constant set with the decidable side conditions `c.ok` /
`cu.ok` (`generated_ok`, `generatedU_ok`), EVERY lawful item serde, every well-formed image state (empty, warm-up = no R
region, full = with R region; gadget images with marks; any resize factor) and every tail.
-/
import DSProofs.Lemmas.WireCountVarOpt
import DSModel.Wire.VarOptGen
namespace DS.Wire.VarOpt
open DS.Wire

variable {ι : Type}

theorem generated_ok : generated.ok := by decide
theorem generatedU_ok : generatedU.ok := by decide

theorem flagsRT_all (c : VoConsts) (hc : c.ok) (e g : Bool) : flagsRT c e g := by
  obtain ⟨_, _, _, _, f00, f01, f10, f11, _⟩ := hc
  cases e <;> cases g <;> assumption

/-- **round trip (sketch)**: the documented reader recovers exactly the image state and consumes exactly the image -/
theorem decode_encode (c : VoConsts) (hc : c.ok) (sd : Serde ι) (hsd : sd.Lawful) (s : Image ι) (hs : WF c sd s) (tail : Bytes) :
    decode c sd (encode c sd s ++ tail) = some (s, tail) := by
  obtain ⟨hrf, hk, hk1, hkm, hbody⟩ := hs
  obtain ⟨rf, k, g, body⟩ := s
  have hflags := flagsRT_all c hc
  obtain ⟨hf, hv, hne, _, _, _, _, _, hfirst⟩ := hc
  obtain ⟨hfe, hfw, hff⟩ := hfirst rf hrf
  cases body with
  | none =>
    have hfl := hflags true g
    simp only [decode, encode, preOf, encodeBody, Option.isNone_none, List.append_assoc, List.nil_append]
    rw [bind_u8 _ hfe.1, bind_u8 _ hv, bind_u8 _ hf, bind_u8 _ hfl.1, bind_u32 _ hk, hfl.2.1, hfe.2.1, hfe.2.2, hfl.2.2,
      bind_guard _ (by simp), bind_guard _ (by simp), bind_guard _ (by simp [hk1, hkm])]
    rfl
  | some b =>
    have hfl := hflags false g
    have hfb : firstRT c (if b.rItems.length = 0 then c.preWarmup else c.preFull) rf := by split <;> assumption
    simp only [decode, encode, preOf, Option.isNone_some, List.append_assoc]
    rw [bind_u8 _ hfb.1, bind_u8 _ hv, bind_u8 _ hf, bind_u8 _ hfl.1, bind_u32 _ hk, hfl.2.1, hfb.2.1, hfb.2.2, hfl.2.2,
      bind_guard _ (by rw [if_neg Bool.false_ne_true]; split <;> simp), bind_guard _ (by simp), bind_guard _ (by simp [hk1, hkm])]
    simp only [Bool.false_eq_true, if_false]
    rw [bind_ok (decodeBody_enc c hne sd hsd k g b hbody tail)]
    rfl

/-- the sketch image has exactly the advertised size (`get_serialized_size_bytes`) -/
theorem size_eq (c : VoConsts) (h1 : c.preEmpty = 1) (h3 : c.preWarmup = 3) (h4 : c.preFull = 4) (sd : Serde ι) (s : Image ι)
    (hs : WF c sd s) : (encode c sd s).length = serializedSize c sd s := by
  have hbody := hs.2.2.2.2
  simp only [encode, serializedSize, List.length_append, length_w8, length_w32, h1, h3, h4]
  cases hb : s.body with
  | none => rfl
  | some b =>
    rw [hb] at hbody
    rw [length_encodeBody sd s.gadget b hbody.2.2.2.2.2.1]
    by_cases hr0 : b.rItems.length = 0
    · simp only [hr0, if_true, ← Nat.add_assoc]
    · simp only [hr0, if_false, ← Nat.add_assoc]

/-- **round trip (union)**: preamble, outer tau and the embedded gadget image -/
theorem union_decode_encode (cu : VuConsts) (hcu : cu.ok) (c : VoConsts) (hc : c.ok) (sd : Serde ι) (hsd : sd.Lawful)
    (s : UImage ι) (hs : UWF cu c sd s) (tail : Bytes) :
    uDecode cu c sd (uEncode cu c sd s ++ tail) = some (s, tail) := by
  obtain ⟨hk, hk1, hkm, hbody⟩ := hs
  obtain ⟨hf, hv, hpe, hpn, hfl, hft, hff⟩ := hcu
  have hflags : uFlagsOf cu s.body.isNone < 256 ∧ uIsEmptyFlags cu (uFlagsOf cu s.body.isNone) = s.body.isNone := by
    cases s.body.isNone
    · exact ⟨Nat.zero_lt_succ _, hff⟩
    · exact ⟨hfl, hft⟩
  have hpre : (if s.body.isNone then cu.preEmpty else cu.preNonEmpty) < 256 := by split <;> assumption
  have hbd : uDecodeBody c sd s.body.isNone (uEncodeBody c sd s.body ++ tail) = some (s.body, tail) := by
    cases hb : s.body with
    | none => rfl
    | some b =>
      rw [hb] at hbody
      obtain ⟨hn, hnum, hden, hg⟩ := hbody
      simp only [uDecodeBody, uEncodeBody, Option.isNone_some, Bool.false_eq_true, if_false, List.append_assoc]
      rw [bind_u64 _ hn, bind_u64 _ hnum, bind_u64 _ hden, bind_ok (decode_encode c hc sd hsd b.gadget hg tail)]
      rfl
  simp only [uDecode, uEncode, List.append_assoc]
  rw [bind_u8 _ hpre, bind_u8 _ hv, bind_u8 _ hf, bind_u8 _ hflags.1, bind_u32 _ hk, hflags.2,
    bind_guard _ (by simp), bind_guard _ (by simp), bind_guard _ (by simp [hk1, hkm]), bind_ok hbd]
  rfl

/-- the union image has exactly the advertised size -/
theorem union_size_eq (cu : VuConsts) (hu1 : cu.preEmpty = 1) (hu4 : cu.preNonEmpty = 4) (c : VoConsts)
    (h1 : c.preEmpty = 1) (h3 : c.preWarmup = 3) (h4 : c.preFull = 4) (sd : Serde ι) (s : UImage ι) (hs : UWF cu c sd s) :
    (uEncode cu c sd s).length = uSerializedSize cu c sd s := by
  have hbody := hs.2.2.2
  simp only [uEncode, uSerializedSize, List.length_append, length_w8, length_w32, hu1, hu4]
  cases hb : s.body with
  | none => rfl
  | some b =>
    rw [hb] at hbody
    simp only [uEncodeBody, List.length_append, length_w64, size_eq c h1 h3 h4 sd b.gadget hbody.2.2.2, ← Nat.add_assoc]

/-- a full-mode gadget image with k = 3: one heavy (marked) item, two reservoir items; weight 2.0, total_wt_r = 3.0 -/
def exGadget : Image Nat :=
  { rf := 3, k := 3, gadget := true,
    body := some { n := 7, totalWtR := 0x4008000000000000, weights := [0x4000000000000000], marks := [true], hItems := [11], rItems := [12, 13] } }

example : WF generated serdeU64 exGadget := by
  unfold WF WFBody serdeU64 exGadget
  decide
def exUnion : UImage Nat :=
  { maxK := 3, body := some { n := 7, outerTauNum := 0, outerTauDen := 0, gadget := exGadget } }
example : UWF generatedU generated serdeU64 exUnion := by
  unfold UWF WF WFBody serdeU64 exUnion exGadget
  decide
/-- a warm-up sketch with string items -/
def exWarm : Image Bytes :=
  { rf := 0, k := 8, gadget := false,
    body := some { n := 2, totalWtR := 0, weights := [0x3ff0000000000000, 0x4000000000000000], marks := [], hItems := [[0x61], []], rItems := [] } }
example : WF generated serdeStr exWarm := by
  unfold WF WFBody serdeStr exWarm
  decide
example : generated.preEmpty = 1 ∧ generated.preWarmup = 3 ∧ generated.preFull = 4 ∧ generatedU.preEmpty = 1 ∧ generatedU.preNonEmpty = 4 := by decide

end DS.Wire.VarOpt
