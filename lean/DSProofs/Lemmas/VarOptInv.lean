/- The VarOpt sketch invariant `Inv s ins L` (Rat instance): `ins` = all inputs so far, `L` = the inputs absorbed into the
   reservoir (both ghost); `ins` is a permutation of `H ++ L`.  With it the order `TauLe` on tau, the weight `skWeight` a state stands
   for, and the step that leads back to the invariant from a mid-update state `Mid` of VarOptGrow (`growCandidateSet_spec`). -/
import DSProofs.Lemmas.VarOptGrow
namespace DS.VarOpt
open DS

/-- estimation mode (`r_ > 0`): `h + r = k`, H a heap, `total_wt_r_` the weight of the absorbed inputs `L`, and tau = `totalWtR / r`
separates them from H: every absorbed input is at most tau, every H entry at least tau (both cross-multiplied) -/
structure EstInv (s : Sk Rat) (L : List E) : Prop where
  cnt : s.H.length + s.R.length = s.k
  heap : IsHeap s.H
  wtR : s.totalWtR = sumW L
  rItems : ∀ x ∈ s.R, ∃ e ∈ L, e.item = x
  rLen : s.R.length < L.length
  lLight : ∀ e ∈ L, e.wt * (s.R.length : Rat) ≤ s.totalWtR
  hHeavy : ∀ e ∈ s.H, s.totalWtR ≤ e.wt * (s.R.length : Rat)

/-- everything except the item counter -/
structure Inv0 (s : Sk Rat) (ins L : List E) : Prop where
  kpos : 1 ≤ s.k
  mnil : s.M = []
  fresh : s.mStale = false
  perm : ins.Perm (s.H ++ L)
  pos : ∀ e ∈ ins, 0 < e.wt
  marks : MarksOK s.gadget s.numMarksInH s.H
  warm : s.R = [] → L = [] ∧ s.H.length ≤ s.k ∧ s.totalWtR = 0
  est : s.R ≠ [] → EstInv s L

structure Inv (s : Sk Rat) (ins L : List E) : Prop extends Inv0 s ins L where
  n_eq : s.n = ins.length

/-- tau (= totalWtR / r) of `s'` is at least that of `s` (cross-multiplied; vacuous while `s` is in warm-up) -/
def TauLe (s s' : Sk Rat) : Prop :=
  s.R ≠ [] → s'.R ≠ [] ∧ s.totalWtR * (s'.R.length : Rat) ≤ s'.totalWtR * (s.R.length : Rat)

theorem TauLe.refl (s : Sk Rat) : TauLe s s := fun h => ⟨h, le_refl _⟩

theorem TauLe.trans {a b c : Sk Rat} (h1 : TauLe a b) (h2 : TauLe b c) : TauLe a c := by
  intro ha
  obtain ⟨hb, h1'⟩ := h1 ha
  obtain ⟨hc, h2'⟩ := h2 hb
  have hb0 : (0 : Rat) < (b.R.length : Rat) := by exact_mod_cast List.length_pos_of_ne_nil hb
  -- both sides times `r_b`, through tau_b
  exact ⟨hc, le_of_mul_le_mul_right (by
    linarith [mul_le_mul_of_nonneg_right h1' (Nat.cast_nonneg (α := Rat) c.R.length),
      mul_le_mul_of_nonneg_right h2' (Nat.cast_nonneg (α := Rat) a.R.length)]) hb0⟩

def skWeight (s : Sk Rat) : Rat := sumW s.H + (if s.R = [] then 0 else s.totalWtR)

theorem Inv0.skWeight_eq {s : Sk Rat} {ins L : List E} (h : Inv0 s ins L) : skWeight s = sumW ins := by
  have hp := sumW_perm h.perm
  rw [sumW_append] at hp
  unfold skWeight
  by_cases hr : s.R = []
  · rw [if_pos hr, (h.warm hr).1] at *
    simp [sumW] at hp ⊢; exact hp.symm
  · rw [if_neg hr, (h.est hr).wtR]; exact hp.symm

theorem EstInv.setN {s : Sk Rat} {L : List E} (h : EstInv s L) (m : Nat) : EstInv { s with n := m } L :=
  ⟨h.cnt, h.heap, h.wtR, h.rItems, h.rLen, h.lLight, h.hHeavy⟩

theorem Inv0.setN {s : Sk Rat} {ins L : List E} (h : Inv0 s ins L) (m : Nat) : Inv0 { s with n := m } ins L :=
  ⟨h.kpos, h.mnil, h.fresh, h.perm, h.pos, h.marks, h.warm, fun hr => (h.est hr).setN m⟩

theorem EstInv.tau_le {s : Sk Rat} {L : List E} (h : EstInv s L) (hr : s.R ≠ []) {e : E} (he : e ∈ s.H) :
    s.totalWtR / (s.R.length : Rat) ≤ e.wt := by
  have hr0 : (0 : Rat) < (s.R.length : Rat) := by exact_mod_cast List.length_pos_of_ne_nil hr
  rw [div_le_iff₀ hr0]
  exact h.hHeavy e he

theorem Inv0.size_le {s : Sk Rat} {ins L : List E} (h : Inv0 s ins L) : s.H.length + s.R.length ≤ s.k := by
  by_cases hr : s.R = []
  · rw [hr]; simpa using (h.warm hr).2.1
  · exact le_of_eq (h.est hr).cnt

theorem Inv.R_nil_of_no_input {sk : Sk Rat} {L : List E} (h : Inv sk [] L) : sk.R = [] := by
  by_contra hr
  have := (h.est hr).rLen
  rw [(List.append_eq_nil_iff.1 (List.nil_perm.1 h.perm)).2] at this
  exact Nat.not_lt_zero _ this

theorem downsample_spec (s : Sk Rat) (wt : Rat) (nc : Nat) (ds : Draws Rat) (hnc : s.M.length + s.R.length = nc)
    (h1 : 1 ≤ nc) :
    ∃ R' ds', downsample s wt nc ds = ({ s with M := [], R := R', totalWtR := wt }, ds') ∧ R'.length = nc - 1 ∧
      ∀ x ∈ R', x ∈ s.M.map (·.item) ++ s.R := by
  simp only [downsample]
  generalize chooseDeleteSlot s.M s.R.length wt nc ds = p
  obtain ⟨del, ds1⟩ := p
  cases hc : s.M.map (·.item) ++ s.R with
  | nil =>
    have := congrArg List.length hc
    simp only [List.length_append, List.length_map, List.length_nil] at this
    omega
  | cons c0 ct =>
    exact ⟨_, ds1, rfl, by rw [List.length_tail, List.length_set, ← hc, List.length_append, List.length_map, hnc],
      fun x hx => mem_of_mem_set_tail (List.mem_cons_self ..) hx⟩

/-- `grow_candidate_set` + `downsample_candidate_set` lead from a mid-update state `Mid` back to the invariant `Inv0` (the
candidates join the absorbed inputs).  `W0 / r0` is the old tau; the new one is at least that (cross-multiplied). -/
theorem growCandidateSet_spec (s : Sk Rat) (L ins : List E) (wt : Rat) (nc : Nat) (W0 : Rat) (r0 : Nat) (ds : Draws Rat)
    (hmid : Mid s.H s.M L s.R s.k wt nc W0 r0 ins) (hnc : 2 ≤ nc) (hmk : MarksOK s.gadget s.numMarksInH s.H)
    (hk : 1 ≤ s.k) (hst : s.mStale = false) :
    ∃ s' ds' L', growCandidateSet s wt nc ds = (s', ds') ∧ Inv0 s' ins L' ∧ s'.R ≠ [] ∧
      W0 * (s'.R.length : Rat) ≤ s'.totalWtR * (r0 : Rat) ∧
      s'.k = s.k ∧ s'.gadget = s.gadget ∧ s'.rf = s.rf ∧ s'.n = s.n := by
  obtain ⟨H', M', nm', wt', nc', hgl, hmid', hmk', hle, hheavy⟩ :=
    growLoop_spec s.gadget s.H.length s.H s.M s.numMarksInH wt nc (le_refl _) hmid hmk
  have hnc2 : 2 ≤ nc' := le_trans hnc hle
  obtain ⟨R', ds', hd, hlen, hmemR⟩ := downsample_spec { s with H := H', M := M', numMarksInH := nm' } wt' nc' ds
    hmid'.nc_eq.symm (by omega)
  have hcast : (R'.length : Rat) = (nc' : Rat) - 1 := by rw [hlen, Nat.cast_sub (by omega), Nat.cast_one]
  have hne : R' ≠ [] := fun h => by rw [h, List.length_nil] at hlen; omega
  have hr0 : (0 : Rat) < (r0 : Rat) := by exact_mod_cast hmid'.r0pos
  have hnc1 : (0 : Rat) ≤ (nc' : Rat) - 1 := by rw [← hcast]; exact Nat.cast_nonneg _
  refine ⟨{ s with H := H', M := [], R := R', totalWtR := wt', numMarksInH := nm' }, ds', M' ++ L,
    by unfold growCandidateSet; rw [hgl]; exact hd, ?_, hne, by rw [hcast]; exact hmid'.tauMono, rfl, rfl, rfl, rfl⟩
  refine { kpos := hk, mnil := rfl, fresh := hst, perm := hmid'.perm, pos := hmid'.pos, marks := hmk',
           warm := fun h => absurd h hne, est := fun _ => ?_ }
  refine { cnt := ?_, heap := hmid'.heap, wtR := (sumW_append M' L).symm ▸ hmid'.wt_eq, rItems := fun x hx => ?_,
           rLen := ?_, lLight := fun e he => ?_, hHeavy := fun e he => hcast ▸ hheavy e he }
  · have := hmid'.cnt
    show H'.length + R'.length = s.k
    omega
  · rcases List.mem_append.1 (hmemR x hx) with h | h
    · obtain ⟨e, he, rfl⟩ := List.mem_map.1 h
      exact ⟨e, List.mem_append_left _ he, rfl⟩
    · obtain ⟨e, he, hx⟩ := hmid'.rItems x h
      exact ⟨e, List.mem_append_right _ he, hx⟩
  · have := hmid'.rLen
    have := hmid'.nc_eq
    show R'.length < (M' ++ L).length
    rw [List.length_append]
    omega
  · show e.wt * (R'.length : Rat) ≤ wt'
    rw [hcast]
    rcases List.mem_append.1 he with h | h
    · exact (hmid'.mLight e h).le
    · -- `e.wt ≤ W0 / r0 ≤ wt' / (nc' - 1)`, cross-multiplied
      refine le_of_mul_le_mul_right ?_ hr0
      rw [mul_right_comm]
      exact (mul_le_mul_of_nonneg_right (hmid'.lLight e h) hnc1).trans hmid'.tauMono

end DS.VarOpt
