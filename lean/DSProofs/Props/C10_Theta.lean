/-
C10 (compact theta sketch images) — documented layout, legacy serial versions 1 and 2.

ONLY property theorems and their non-vacuity examples.  `Theta.documented` (DSModel/Wire/Theta.lean) and the literals
below are the hand-written documented contract (DESIGN.md Appendix A); `DSGen.*` are the values translated from the
CURRENT headers on this run.  A consistent change of writer and reader still round-trips but breaks
`wire_consts_documented`.
-/
import DSProofs.Lemmas.WireThetaLegacy
import DSModel.Wire.GenConsts
namespace DS.Wire.Theta
open DS.Wire

/-- every wire constant of the compact theta sketch in the current headers has its documented value: serial versions
3 / 4, sketch type 3, flag bits (read-only 1, empty 2, compact 3, ordered 4), the parser's own copies and byte
offsets, the preamble-longs literals of the three writers, MAX_THETA = 2^63 − 1. -/
theorem wire_consts_documented :
    genThetaConsts = documented ∧
    DSGen.wth_flag_IS_BIG_ENDIAN = 0 ∧
    DSGen.wthp_TYPE = 3 ∧ DSGen.wthp_IS_EMPTY_FLAG = 2 ∧ DSGen.wthp_IS_ORDERED_FLAG = 4 ∧
    DSGen.wthp_PRE_LONGS_BYTE = 0 ∧ DSGen.wthp_SERIAL_VERSION_BYTE = 1 ∧ DSGen.wthp_TYPE_BYTE = 2 ∧ DSGen.wthp_FLAGS_BYTE = 5 ∧
    DSGen.wthp_SEED_HASH_U16 = 3 ∧ DSGen.wthp_SINGLE_ENTRY_U64 = 1 ∧ DSGen.wthp_NUM_ENTRIES_U32 = 2 ∧
    DSGen.wthp_ENTRIES_EXACT_U64 = 2 ∧ DSGen.wthp_ENTRIES_ESTIMATION_U64 = 3 ∧ DSGen.wthp_THETA_U64 = 2 ∧
    DSGen.wthp_V4_ENTRY_BITS_BYTE = 3 ∧ DSGen.wthp_V4_NUM_ENTRIES_BYTES_BYTE = 4 ∧ DSGen.wthp_V4_THETA_U64 = 1 ∧
    DSGen.wthp_V4_PACKED_DATA_EXACT_BYTE = 8 ∧ DSGen.wthp_V4_PACKED_DATA_ESTIMATION_BYTE = 16 ∧
    DSGen.wth_MAX_THETA = maxTheta ∧ maxTheta = 2 ^ 63 - 1 ∧
    DSGen.wth_pre_stream = [3, 1, 2] ∧ DSGen.wth_pre_bytes = [2, 1, 3, 1, 2] ∧ DSGen.wth_pre_v4_stream = [2, 1] := by
  decide

/-- the documented constants satisfy the side condition of all round-trip theorems. -/
theorem documented_ok : documented.ok = true := by decide

/-- legacy serial version 1 (no flags, no seed hash, always 3 preamble longs): the reader inverts the legacy writer. -/
theorem legacy_v1_decode_encode (c : Consts) (hc : c.ok = true) (s : Image) (hwf : WFLegacy s) (exp : Nat) (hseed : s.seedHash = exp) (tail : Bytes) :
    decode c exp (encodeV1 c s ++ tail) = some (s, tail) :=
  decode_encode_v1 (COk.of_ok hc) s hwf exp hseed tail

/-- legacy serial version 2 (1 / 2 / 3 preamble longs, seed hash, always ordered). -/
theorem legacy_v2_decode_encode (c : Consts) (hc : c.ok = true) (s : Image) (hwf : WFLegacy s) (exp : Nat) (hseed : s.seedHash = exp) (tail : Bytes) :
    decode c exp (encodeV2 c s ++ tail) = some (s, tail) :=
  decode_encode_v2 (COk.of_ok hc) s hwf exp hseed tail

example : WFLegacy ⟨false, true, 37836, 4611686018427387904, [5, 7, 11]⟩ := by decide
example : WFLegacy ⟨true, true, 37836, maxTheta, []⟩ := by decide

/-- the two shipped version-1 / version-2 "empty" images decode to the empty sketch (the estimation-mode files are
decoded by the driver and compared with the real reader in `./check c10_theta`). -/
theorem shipped_empty_images_decode :
    decode documented 37836 [3, 1, 3, 0, 0, 0x1e, 0, 0, 0, 0, 0, 0, 0, 0, 0, 0, 0xff, 0xff, 0xff, 0xff, 0xff, 0xff, 0xff, 0x7f]
      = some (⟨true, true, 37836, maxTheta, []⟩, []) ∧
    decode documented 37836 [1, 2, 3, 0, 0, 0x1e, 0xcc, 0x93] = some (⟨true, true, 37836, maxTheta, []⟩, []) := by
  decide

end DS.Wire.Theta
