/- L2 HLL_6 array: 6-bit fields packed into a little-endian byte stream (helper lemmas for Props/C03.lean `hll6_refines`).
`get6` reads bits `6*slot .. 6*slot+5` of the stream and `put6` replaces exactly those bits; both facts are stated per bit
(`get6f_testBit`, `streamBit_put6f`), so that get-after-put needs no case distinction on how a field lies in its bytes. -/
import DSModel.Hll.Array6
import DSProofs.Lemmas.HllRegs
namespace DS.Hll

/-- `get6` / `put6` on a byte FUNCTION (index -> byte), to keep array bounds out of the arithmetic -/
def get6f (f : Nat → Nat) (slot : Nat) : Nat :=
  ((f (slot * 6 / 8 + 1) * 256 + f (slot * 6 / 8)) / 2^(slot * 6 % 8)) % 64

/-- `w` with the 6-bit field at bit offset `o` replaced by `v % 64`, computed as `put6` does: clear the field, add the value -/
def setField6 (w o v : Nat) : Nat := w - (w / 2^o % 64) * 2^o + (v % 64) * 2^o

def put6f (f : Nat → Nat) (slot v : Nat) : Nat → Nat :=
  fun j =>
    if j = slot * 6 / 8 + 1 then setField6 (f (slot * 6 / 8 + 1) * 256 + f (slot * 6 / 8)) (slot * 6 % 8) v / 256 % 256
    else if j = slot * 6 / 8 then setField6 (f (slot * 6 / 8 + 1) * 256 + f (slot * 6 / 8)) (slot * 6 % 8) v % 256
    else f j

/-- every fourth field is byte-aligned: slot `4 * q` starts at bit 0 of byte `3 * q` -/
theorem idx0a (q : Nat) : (4 * q + 0) * 6 / 8 = 3 * q + 0 :=
  Nat.div_eq_of_eq_mul_right (by decide) (by rw [Nat.add_zero, Nat.add_zero, ← Nat.mul_assoc, Nat.mul_right_comm])
theorem idx0b (q : Nat) : (4 * q + 0) * 6 % 8 = 0 :=
  Nat.mod_eq_zero_of_dvd ⟨3 * q, by rw [Nat.add_zero, ← Nat.mul_assoc, Nat.mul_right_comm]⟩

theorem setField6_eq (w o v : Nat) : setField6 w o v = 2^(o + 6) * (w / 2^(o + 6)) + (2^o * (v % 64) + w % 2^o) := by
  have h := Nat.div_add_mod w (2^o * 64)
  rw [Nat.mod_mul] at h
  rw [show 2^(o + 6) = 2^o * 64 from Nat.pow_add 2 o 6]
  unfold setField6
  rw [Nat.mul_comm (w / 2^o % 64), Nat.mul_comm (v % 64)]
  omega

theorem setField6_testBit (w o v j : Nat) :
    (setField6 w o v).testBit j = if o ≤ j ∧ j < o + 6 then v.testBit (j - o) else w.testBit j := by
  have hlo : w % 2^o < 2^o := Nat.mod_lt _ (Nat.pow_pos (by decide))
  have hmid : 2^o * (v % 64) + w % 2^o < 2^(o + 6) := by
    rw [Nat.pow_add]
    calc _ < 2^o * (v % 64) + 2^o := Nat.add_lt_add_left hlo _
      _ = 2^o * (v % 64 + 1) := (Nat.mul_succ ..).symm
      _ ≤ 2^o * 2^6 := Nat.mul_le_mul_left _ (Nat.mod_lt v (by decide))
  rw [setField6_eq, Nat.testBit_two_pow_mul_add _ hmid, Nat.testBit_two_pow_mul_add _ hlo,
    Nat.testBit_mod_two_pow, Nat.testBit_div_two_pow, show 64 = 2^6 from rfl, Nat.testBit_mod_two_pow]
  by_cases h2 : j < o + 6
  · rw [if_pos h2]
    by_cases h1 : j < o
    · rw [if_pos h1, if_neg (fun h => Nat.not_le_of_lt h1 h.1), decide_eq_true h1, Bool.true_and]
    · rw [if_neg h1, if_pos ⟨Nat.le_of_not_lt h1, h2⟩, decide_eq_true (Nat.sub_lt_left_of_lt_add (Nat.le_of_not_lt h1) h2),
        Bool.true_and]
  · rw [if_neg h2, if_neg (fun h => h2 h.2), Nat.sub_add_cancel (Nat.le_of_not_lt h2)]

/-- bit `n` of the byte stream `f`, the least significant bit of byte 0 first -/
def streamBit (f : Nat → Nat) (n : Nat) : Bool := (f (n / 8)).testBit (n % 8)

theorem streamBit_mul_add (g : Nat → Nat) (m j : Nat) (hj : j < 8) : streamBit g (8 * m + j) = (g m).testBit j := by
  unfold streamBit
  rw [Nat.mul_add_div (by decide), Nat.mul_add_mod, Nat.div_eq_of_lt hj, Nat.mod_eq_of_lt hj]; rfl

theorem pair_testBit (f : Nat → Nat) (b j : Nat) (hf : f b < 256) (hj : j < 16) :
    (f (b + 1) * 256 + f b).testBit j = streamBit f (8 * b + j) := by
  rw [Nat.mul_comm, Nat.testBit_two_pow_mul_add (i := 8) _ hf]
  unfold streamBit
  rw [Nat.mul_add_div (by decide), Nat.mul_add_mod]
  by_cases h8 : j < 8
  · rw [if_pos h8, Nat.div_eq_of_lt h8, Nat.mod_eq_of_lt h8]; rfl
  · have hge : 8 ≤ j := Nat.le_of_not_lt h8
    rw [if_neg h8, Nat.div_eq_of_lt_le (k := 1) hge hj, Nat.mod_eq_sub_mod hge,
      Nat.mod_eq_of_lt (Nat.sub_lt_left_of_lt_add hge hj)]

theorem get6f_testBit (f : Nat → Nat) (hf : ∀ j, f j < 256) (s i : Nat) :
    (get6f f s).testBit i = (decide (i < 6) && streamBit f (6 * s + i)) := by
  unfold get6f
  rw [show 64 = 2^6 from rfl, Nat.testBit_mod_two_pow, Nat.testBit_div_two_pow]
  by_cases hi : i < 6
  · rw [pair_testBit f _ _ (hf _) (by omega), show 8 * (s * 6 / 8) + (i + s * 6 % 8) = 6 * s + i by
      rw [← Nat.add_assoc, Nat.add_right_comm, Nat.div_add_mod, Nat.mul_comm]]
  · simp [hi]

theorem put6f_lt (f : Nat → Nat) (hf : ∀ j, f j < 256) (s v j : Nat) : put6f f s v j < 256 := by
  unfold put6f
  split
  · exact Nat.mod_lt _ (by decide)
  · split
    · exact Nat.mod_lt _ (by decide)
    · exact hf j

theorem streamBit_setField (f : Nat → Nat) (hf : ∀ j, f j < 256) (q o v n : Nat) (ho : o < 8) :
    streamBit (fun j =>
      if j = q + 1 then setField6 (f (q + 1) * 256 + f q) o v / 256 % 256
      else if j = q then setField6 (f (q + 1) * 256 + f q) o v % 256 else f j) n =
    if 8 * q + o ≤ n ∧ n < 8 * q + o + 6 then v.testBit (n - (8 * q + o)) else streamBit f n := by
  by_cases hn : 8 * q ≤ n ∧ n < 8 * q + 16
  · -- `n` is bit `j` of the two-byte word that holds the field
    obtain ⟨j, rfl⟩ : ∃ j, n = 8 * q + j := ⟨n - 8 * q, (Nat.add_sub_cancel' hn.1).symm⟩
    have hj : j < 16 := Nat.lt_of_add_lt_add_left hn.2
    refine Eq.trans ?_ (Eq.trans (setField6_testBit (f (q + 1) * 256 + f q) o v j) ?_)
    · by_cases h8 : j < 8
      · rw [streamBit_mul_add _ q j h8]
        rw [if_neg (Nat.succ_ne_self q).symm, if_pos rfl, show 256 = 2^8 from rfl, Nat.testBit_mod_two_pow, decide_eq_true h8, Bool.true_and]
      · have hge : 8 ≤ j := Nat.le_of_not_lt h8
        have hj8 : j - 8 < 8 := Nat.sub_lt_left_of_lt_add hge hj
        rw [show 8 * q + j = 8 * (q + 1) + (j - 8) by rw [Nat.mul_succ, Nat.add_assoc, Nat.add_sub_cancel' hge],
          streamBit_mul_add _ (q + 1) (j - 8) hj8]
        rw [if_pos rfl, show 256 = 2^8 from rfl, Nat.testBit_mod_two_pow, Nat.testBit_div_two_pow, decide_eq_true hj8,
          Bool.true_and, Nat.sub_add_cancel hge]
    · rw [pair_testBit f q j (hf _) hj]
      simp only [Nat.add_le_add_iff_left, Nat.add_lt_add_iff_left, Nat.add_sub_add_left, Nat.add_assoc]
  · have h1 := Nat.mul_div_le n 8
    have h2 := Nat.lt_mul_div_succ n (show 0 < 8 by decide)
    unfold streamBit
    generalize n / 8 = m at h1 h2 ⊢
    dsimp only
    have hm : m ≠ q + 1 ∧ m ≠ q ∧ ¬(8 * q + o ≤ n ∧ n < 8 * q + o + 6) := by omega
    rw [if_neg hm.1, if_neg hm.2.1, if_neg hm.2.2]

theorem streamBit_put6f (f : Nat → Nat) (hf : ∀ j, f j < 256) (s v n : Nat) :
    streamBit (put6f f s v) n = if 6 * s ≤ n ∧ n < 6 * s + 6 then v.testBit (n - 6 * s) else streamBit f n := by
  rw [show 6 * s = 8 * (s * 6 / 8) + s * 6 % 8 by rw [Nat.div_add_mod, Nat.mul_comm]]
  exact streamBit_setField f hf _ _ v n (Nat.mod_lt _ (by decide))

theorem get6f_put6f (f : Nat → Nat) (hf : ∀ j, f j < 256) (s s' v : Nat) :
    get6f (put6f f s v) s' = if s' = s then v % 64 else get6f f s' := by
  have hg := get6f_testBit _ (put6f_lt f hf s v) s'
  by_cases he : s' = s
  · subst he
    rw [if_pos rfl]
    apply Nat.eq_of_testBit_eq
    intro i
    rw [hg, streamBit_put6f f hf, show 64 = 2^6 from rfl, Nat.testBit_mod_two_pow]
    by_cases hi : i < 6
    · rw [if_pos ⟨Nat.le_add_right _ _, Nat.add_lt_add_left hi _⟩, Nat.add_sub_cancel_left]
    · simp [hi]
  · rw [if_neg he]
    apply Nat.eq_of_testBit_eq
    intro i
    rw [hg, streamBit_put6f f hf, get6f_testBit f hf]
    by_cases hi : i < 6
    · rw [if_neg (by omega)]
    · simp [hi]

theorem get6_eq (b : Array Nat) (s : Nat) : get6 b s = get6f (fun j => b.getD j 0) s := rfl

theorem put6_getD (b : Array Nat) (s v j : Nat) (hb : s * 6 / 8 + 1 < b.size) :
    (put6 b s v).getD j 0 = put6f (fun j => b.getD j 0) s v j := by
  unfold put6 put6f setField6
  simp only
  by_cases h1 : j = s * 6 / 8 + 1
  · subst h1
    rw [if_pos rfl, getD_setIfInBounds_self (by rw [Array.size_setIfInBounds]; exact hb)]
  · rw [if_neg h1, getD_setIfInBounds_ne (Ne.symm h1)]
    by_cases h2 : j = s * 6 / 8
    · subst h2
      rw [if_pos rfl, getD_setIfInBounds_self (Nat.lt_of_succ_lt hb)]
    · rw [if_neg h2, getD_setIfInBounds_ne (Ne.symm h2)]

theorem put6_size (b : Array Nat) (s v : Nat) : (put6 b s v).size = b.size := by
  unfold put6; simp

/-- `+ 1`: what keeps the two-byte window of the last slot inside the array (`Inv6.idx`); `2 ≤ lgK` makes `2^lgK * 3 / 4` exact;
`blt` because the model's bytes are `Nat` -/
structure Inv6 (h : H6) : Prop where
  lgK_ge : 2 ≤ h.lgK
  size : h.bytes.size = (2^h.lgK * 3) / 4 + 1
  blt : ∀ i, h.bytes.getD i 0 < 256

theorem Inv6.idx {h : H6} (hi : Inv6 h) {s : Nat} (hs : s < 2^h.lgK) : s * 6 / 8 + 1 < h.bytes.size := by
  obtain ⟨n, hn⟩ : ∃ n, h.lgK = n + 2 := ⟨h.lgK - 2, by have := hi.lgK_ge; omega⟩
  rw [hi.size, hn, Nat.pow_add, show 2^2 = 4 from rfl, Nat.mul_comm (2^n) 4, Nat.mul_assoc,
    Nat.mul_div_cancel_left _ (by decide : 0 < 4)]
  rw [hn, Nat.pow_add] at hs
  exact Nat.succ_lt_succ (Nat.div_lt_of_lt_mul (by omega))

theorem H6.regs_size (h : H6) : h.regs.size = 2^h.lgK := by simp [H6.regs]
theorem H6.regs_getD (h : H6) {s : Nat} (hs : s < 2^h.lgK) : h.regs.getD s 0 = get6 h.bytes s := by
  simp [H6.regs, Array.getD_eq_getD_getElem?, hs]

theorem Inv6.new (lgK : Nat) (hk : 2 ≤ lgK) : Inv6 (H6.new lgK) := by
  refine ⟨hk, by simp [H6.new], fun i => ?_⟩
  simp only [H6.new, Array.getD_eq_getD_getElem?]
  by_cases hh : i < (2^lgK * 3) / 4 + 1 <;> simp [hh]

theorem get6_put6 {b : Array Nat} (hb : ∀ i, b.getD i 0 < 256) {s : Nat} (hidx : s * 6 / 8 + 1 < b.size) (v s' : Nat) :
    get6 (put6 b s v) s' = if s' = s then v % 64 else get6 b s' := by
  rw [get6_eq b, ← get6f_put6f _ hb]
  unfold get6 get6f
  simp only [put6_getD _ _ _ _ hidx]

/-- `n`: whatever numAtCurMin becomes -/
theorem Inv6.put {h : H6} (hi : Inv6 h) {s v : Nat} (hs : s < 2^h.lgK) (hv : v < 64) (n : Nat) :
    Inv6 { h with bytes := put6 h.bytes s v, numAtCurMin := n } ∧
    H6.regs { h with bytes := put6 h.bytes s v, numAtCurMin := n } = h.regs.setIfInBounds s v := by
  have hidx := hi.idx hs
  generalize hh : ({ h with bytes := put6 h.bytes s v, numAtCurMin := n } : H6) = h'
  have hk : h'.lgK = h.lgK := hh ▸ rfl
  have hb : h'.bytes = put6 h.bytes s v := hh ▸ rfl
  refine ⟨⟨hk ▸ hi.lgK_ge, by rw [hb, hk, put6_size]; exact hi.size, fun i => ?_⟩, ?_⟩
  · rw [hb, put6_getD _ _ _ _ hidx]; exact put6f_lt _ hi.blt _ _ _
  · apply Array.ext
    · rw [H6.regs_size, hk, Array.size_setIfInBounds, H6.regs_size]
    · intro i h1 h2
      have hi2 : i < 2^h.lgK := by rw [H6.regs_size, hk] at h1; exact h1
      rw [← getD_eq_getElem (d := 0) h1, ← getD_eq_getElem (d := 0) h2, H6.regs_getD h' (hk ▸ hi2), hb, get6_put6 hi.blt hidx]
      by_cases he : i = s
      · rw [if_pos he, he, getD_setIfInBounds_self (by rw [H6.regs_size]; exact hs), Nat.mod_eq_of_lt hv]
      · rw [if_neg he, getD_setIfInBounds_ne (Ne.symm he), H6.regs_getD h hi2]

/-- `hv`: the value must fit in 6 bits, as every coupon value does -/
theorem h6_refines (p : Params) {h : H6} (hi : Inv6 h) (c : Nat) (hv : cValue p c < 64) :
    Inv6 (h.update p c) ∧ (h.update p c).lgK = h.lgK ∧ (h.update p c).regs = maxUpdate p h.lgK h.regs c ∧
    (h.numAtCurMin = h.regs.count 0 → (h.update p c).numAtCurMin = (h.update p c).regs.count 0) := by
  have hs := cSlot_lt p h.lgK c
  have hgd := H6.regs_getD h hs
  unfold H6.update maxUpdate
  simp only
  rw [hgd]
  by_cases hlt : cValue p c > get6 h.bytes (cSlot p h.lgK c)
  · rw [if_pos hlt, if_pos hlt]
    obtain ⟨hI, hregs⟩ := hi.put hs hv (if get6 h.bytes (cSlot p h.lgK c) = 0 then h.numAtCurMin - 1 else h.numAtCurMin)
    refine ⟨hI, rfl, hregs, fun hn => ?_⟩
    rw [hregs, count_raise (by rw [H6.regs_size]; exact hs) (Nat.zero_le _) (by rw [hgd]; exact hlt), hgd, ← hn]
  · rw [if_neg hlt, if_neg hlt]
    exact ⟨hi, rfl, rfl, fun hn => hn⟩

end DS.Hll
