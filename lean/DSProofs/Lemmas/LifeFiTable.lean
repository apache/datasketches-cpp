/- C19 / FI: the invariant of `reverse_purge_hash_map` on the heap, how it is carried to another heap and how it evolves under
   cell updates.  It is carried by `find?` of whole blocks (`Tbl.of_agree`, `Grown.out`), which the `SameBut` views of the `vstep_*`
   rules do not determine; hence the FI proofs step their writes with the `stepR_*` rules, whose continuation gets `Upd`. -/
import DSModel.Life.Fi
import DSProofs.Lemmas.LifeFiAux
namespace DS.Life.Fi
open DS.Life

def owned (m : Map) : List Nat := m.keys.toList ++ m.values.toList ++ m.states.toList

/-- so that a table that just exceeded its capacity still has an empty slot (`cap_room`) -/
def Params.OK (P : Params) : Prop := 0 < P.loadDen ∧ 4 * P.loadNum ≤ 3 * P.loadDen ∧ 3 ≤ P.lgMinMap

instance (P : Params) : Decidable P.OK := by unfold Params.OK; exact inferInstance

/-- `is_active(i)`: `states_[i] > 0` -/
def act (h : Heap) (s : Nat) : Nat → Bool := fun i => decide (0 < wordAt h s i)

/-- slot `i` of a table with keys array `k` and states array `s`: inactive (`states_[i] = 0`) and its key cell raw, or active and its
    key cell an object.  `u = true` asks for a live object (a usable map); `u = false` allows a moved-from one, which is enough to
    destroy the map or assign to it (see `InvG`) -/
def SlotOK (u : Bool) (h : Heap) (k s i : Nat) : Prop :=
  (wordAt h s i = 0 ∧ stAt h k i = .raw) ∨
  (0 < wordAt h s i ∧ stAt h k i ≠ .raw ∧ (u = true → ∃ x, stAt h k i = .live x))

/-- the three arrays `k`, `v`, `s` of one table of `n` slots in heap `h`: of that size, distinct, allocated (`< next`), the values
    and states cells raw (trivial element types: only their words are used), every slot `SlotOK u` except those listed in `E`
    (slots in the middle of an insertion / deletion) -/
structure Tbl (u : Bool) (E : List Nat) (h : Heap) (k v s n : Nat) : Prop where
  ck : HasCells h k n
  cv : HasCells h v n
  cs : HasCells h s n
  kv : k ≠ v
  ks : k ≠ s
  vs : v ≠ s
  ltk : k < h.next
  ltv : v < h.next
  lts : s < h.next
  rawv : ∀ i, stAt h v i = .raw
  raws : ∀ i, stAt h s i = .raw
  slot : ∀ i, i < n → i ∉ E → SlotOK u h k s i

/-- the invariant, generic in `u` (`true`: usable object; `false`: enough to destroy or assign to; a moved-from map, all three
    pointers null, has only the latter).  `numActive` may exceed the capacity by one: `adjust_or_insert` counts the new key
    before `resize_or_purge_if_needed` runs -/
def InvG (u : Bool) (P : Params) (h : Heap) (m : Map) : Prop :=
  P.lgMinMap ≤ m.lgCur ∧ m.numActive ≤ getCapacity P m.lgCur + 1 ∧
  match m.keys, m.values, m.states with
  | some k, some v, some s => Tbl u [] h k v s (2 ^ m.lgCur) ∧ m.numActive = cnt (act h s) (2 ^ m.lgCur)
  | none, none, none => u = false ∧ m.numActive = 0
  | _, _, _ => False

def Inv (P : Params) (h : Heap) (m : Map) : Prop := InvG false P h m
def Usable (P : Params) (h : Heap) (m : Map) : Prop := InvG true P h m

theorem cap_room {P : Params} (hP : P.OK) {lg : Nat} (hlg : P.lgMinMap ≤ lg) : getCapacity P lg + 2 ≤ 2 ^ lg := by
  obtain ⟨_, hl, h3⟩ := hP
  -- `2 ^ lg = r · 8` with `r ≥ 1`, and `r · 8 · num / den ≤ r · 6` since `4 · num ≤ 3 · den`
  rw [getCapacity, ← Nat.pow_sub_mul_pow 2 (Nat.le_trans h3 hlg)]
  have hr : 0 < 2 ^ (lg - 3) := Nat.pow_pos Nat.zero_lt_two
  generalize 2 ^ (lg - 3) = r at hr ⊢
  have h1 : r * 8 * P.loadNum ≤ P.loadDen * (r * 6) :=
    calc r * 8 * P.loadNum = r * 2 * (4 * P.loadNum) := by rw [Nat.mul_assoc, Nat.mul_assoc r 2, ← Nat.mul_assoc 2]
      _ ≤ r * 2 * (3 * P.loadDen) := Nat.mul_le_mul_left _ hl
      _ = P.loadDen * (r * 6) := by rw [Nat.mul_comm P.loadDen, Nat.mul_assoc, Nat.mul_assoc r 6, ← Nat.mul_assoc 2]
  calc r * 8 * P.loadNum / P.loadDen + 2 ≤ r * 6 + r * 2 :=
        Nat.add_le_add (Nat.div_le_of_le_mul h1) (Nat.mul_le_mul_right 2 hr)
    _ = r * 8 := (Nat.mul_add r 6 2).symm

theorem SlotOK_congr {u : Bool} {h h' : Heap} {k s i : Nat} (hw : wordAt h' s i = wordAt h s i)
    (hs : stAt h' k i = stAt h k i) : SlotOK u h' k s i ↔ SlotOK u h k s i := by
  unfold SlotOK; rw [hw, hs]

theorem SlotOK.weak {u : Bool} {h : Heap} {k s i : Nat} (hs : SlotOK u h k s i) : SlotOK false h k s i :=
  hs.imp_right fun ⟨h1, h2, _⟩ => ⟨h1, h2, nofun⟩

theorem SlotOK.inactive {u : Bool} {h : Heap} {k s i : Nat} (hw : wordAt h s i = 0) (hs : stAt h k i = .raw) :
    SlotOK u h k s i := Or.inl ⟨hw, hs⟩

theorem SlotOK.active {u : Bool} {h : Heap} {k s i x : Nat} (hw : 0 < wordAt h s i) (hs : stAt h k i = .live x) :
    SlotOK u h k s i := Or.inr ⟨hw, by rw [hs]; nofun, fun _ => ⟨x, hs⟩⟩

theorem SlotOK.raw_of_zero {u : Bool} {h : Heap} {k s i : Nat} (hs : SlotOK u h k s i) (hw : wordAt h s i = 0) :
    stAt h k i = .raw :=
  hs.elim And.right fun h1 => absurd hw (Nat.ne_of_gt h1.1)

theorem SlotOK.zero_of_raw {u : Bool} {h : Heap} {k s i : Nat} (hs : SlotOK u h k s i) (hr : stAt h k i = .raw) :
    wordAt h s i = 0 :=
  hs.elim And.left fun h1 => absurd hr h1.2.1

theorem SlotOK.nonraw_of_pos {u : Bool} {h : Heap} {k s i : Nat} (hs : SlotOK u h k s i) (hw : 0 < wordAt h s i) :
    stAt h k i ≠ .raw :=
  fun hr => Nat.ne_of_gt hw (hs.zero_of_raw hr)

theorem SlotOK.live_of_pos {h : Heap} {k s i : Nat} (hs : SlotOK true h k s i) (hw : 0 < wordAt h s i) :
    ∃ x, stAt h k i = .live x :=
  hs.elim (fun h0 => absurd h0.1 (Nat.ne_of_gt hw)) fun h1 => h1.2.2 rfl

theorem act_congr {h h' : Heap} {s : Nat} (e : h'.find? s = h.find? s) : act h' s = act h s := by
  funext i; simp only [act, wordAt_congr e]

theorem Tbl.of_agree {u : Bool} {E : List Nat} {h h' : Heap} {k v s n : Nat} (T : Tbl u E h k v s n)
    (e : ∀ b, b ∈ [k, v, s] → h'.find? b = h.find? b) (hn : h.next ≤ h'.next) :
    Tbl u E h' k v s n ∧ act h' s = act h s := by
  have ek := e k (.head _)
  have ev := e v (.tail _ (.head _))
  have es := e s (.tail _ (.tail _ (.head _)))
  exact ⟨{ T with
    ck := HasCells_congr ek T.ck
    cv := HasCells_congr ev T.cv
    cs := HasCells_congr es T.cs
    ltk := Nat.lt_of_lt_of_le T.ltk hn
    ltv := Nat.lt_of_lt_of_le T.ltv hn
    lts := Nat.lt_of_lt_of_le T.lts hn
    rawv := fun i => (stAt_congr ev i).trans (T.rawv i)
    raws := fun i => (stAt_congr es i).trans (T.raws i)
    slot := fun i hi hE => (SlotOK_congr (wordAt_congr es i) (stAt_congr ek i)).2 (T.slot i hi hE) }, act_congr es⟩

theorem Tbl.sameOutside {u : Bool} {E X : List Nat} {h h' : Heap} {k v s n : Nat} (T : Tbl u E h k v s n)
    (sb : SameOutside X h h') (hX : ∀ b, b ∈ [k, v, s] → b ∉ X) : Tbl u E h' k v s n :=
  (T.of_agree (fun b hb => sb.out b (hX b hb)) (Nat.le_of_eq sb.next.symm)).1

theorem Tbl.ids {u : Bool} {E : List Nat} {h : Heap} {k v s n : Nat} (T : Tbl u E h k v s n) :
    ∀ b, b ∈ [k, v, s] → b ∈ h.ids ∧ b < h.next :=
  List.forall_mem_cons.2 ⟨⟨T.ck.mem_ids, T.ltk⟩, List.forall_mem_cons.2 ⟨⟨T.cv.mem_ids, T.ltv⟩,
    List.forall_mem_singleton.2 ⟨T.cs.mem_ids, T.lts⟩⟩⟩

theorem Tbl.withSlot {u u' : Bool} {E E' : List Nat} {h : Heap} {k v s n : Nat} (T : Tbl u E h k v s n)
    (hs : ∀ i, i < n → i ∉ E' → SlotOK u' h k s i) : Tbl u' E' h k v s n :=
  { T with slot := hs }

theorem Tbl.exempt {u : Bool} {E E' : List Nat} {h : Heap} {k v s n : Nat} (T : Tbl u E h k v s n)
    (hE : ∀ j, j ∈ E → j ∈ E') : Tbl u E' h k v s n :=
  T.withSlot (fun i hi hx => T.slot i hi (fun hm => hx (hE i hm)))

theorem Tbl.close {u : Bool} {E : List Nat} {h : Heap} {k v s n : Nat} (T : Tbl u E h k v s n)
    (hE : ∀ j, j ∈ E → j < n → SlotOK u h k s j) : Tbl u [] h k v s n :=
  T.withSlot fun i hi _ => if hm : i ∈ E then hE i hm hi else T.slot i hi hm

/-- a cell update keeps the table if the cell is a key cell or keeps its state (so stays raw), and is a value cell or lies in an
    exempt slot -/
theorem Tbl.upd {u : Bool} {E : List Nat} {h h' : Heap} {k v s n b i : Nat} {c' : Cell}
    (T : Tbl u E h k v s n) (up : Upd h h' b i c') (hst : b = k ∨ c'.st = stAt h b i) (hE : b = v ∨ i ∈ E) :
    Tbl u E h' k v s n := by
  have raw : ∀ a, k ≠ a → (∀ j, stAt h a j = .raw) → ∀ j, stAt h' a j = .raw := fun a ha hraw j => by
    by_cases hne : a = b ∧ j = i
    · obtain ⟨rfl, rfl⟩ := hne
      rw [up.stAt_eq, hst.resolve_left (fun e => ha e.symm)]; exact hraw j
    · rw [up.stAt_ne hne]; exact hraw j
  exact { T with
    ck := up.hasCells T.ck
    cv := up.hasCells T.cv
    cs := up.hasCells T.cs
    ltk := up.next ▸ T.ltk
    ltv := up.next ▸ T.ltv
    lts := up.next ▸ T.lts
    rawv := raw v T.kv T.rawv
    raws := raw s T.ks T.raws
    slot := fun j hj hx => by
      have h1 : ¬ (s = b ∧ j = i) := fun hh => hx (hh.2 ▸ hE.resolve_left (fun e => T.vs (e.symm.trans hh.1.symm)))
      have h2 : ¬ (k = b ∧ j = i) := fun hh => hx (hh.2 ▸ hE.resolve_left (fun e => T.kv (hh.1.trans e)))
      exact (SlotOK_congr (up.wordAt_ne h1) (up.stAt_ne h2)).2 (T.slot j hj hx) }

theorem act_pos {h : Heap} {s i : Nat} : act h s i = true ↔ 0 < wordAt h s i := by simp [act]

theorem act_zero {h : Heap} {s i : Nat} : act h s i = false ↔ wordAt h s i = 0 := by simp [act]

theorem act_upd_word {h h' : Heap} {b i : Nat} {c c' : Cell} (up : Upd h h' b i c') (hc : h.cell? b i = some c)
    (hw : c'.word = c.word) (s : Nat) : act h' s = act h s := by
  funext j; simp only [act, up.wordAt_same hc hw]

theorem act_upd_s {h h' : Heap} {s i : Nat} {c' : Cell} (up : Upd h h' s i c') (j : Nat) :
    act h' s j = if j = i then decide (0 < c'.word) else act h s j := by
  unfold act
  split
  · subst j; rw [up.wordAt_eq]
  · rw [up.wordAt_idx ‹_›]

theorem cnt_upd_on {h h' : Heap} {s i n : Nat} {c' : Cell} (up : Upd h h' s i c') (hi : i < n)
    (h0 : wordAt h s i = 0) (h1 : 0 < c'.word) : cnt (act h' s) n = cnt (act h s) n + 1 :=
  cnt_set_true hi (act_zero.2 h0) (by rw [act_upd_s up, if_pos rfl]; exact decide_eq_true h1)
    (fun j hj => by rw [act_upd_s up, if_neg hj])

theorem cnt_upd_off {h h' : Heap} {s i n : Nat} {c' : Cell} (up : Upd h h' s i c') (hi : i < n)
    (h0 : 0 < wordAt h s i) (h1 : c'.word = 0) : cnt (act h' s) n + 1 = cnt (act h s) n :=
  cnt_set_false hi (act_pos.2 h0) (by rw [act_upd_s up, if_pos rfl, h1]; rfl)
    (fun j hj => by rw [act_upd_s up, if_neg hj])

/-! the same facts for a cell replaced by `setCell` (and for `addLog`), the form in which `writeWord_ok`, `construct_ok`, … of LifeHeap and
    `step_moveConstruct` of LifeFiAux give the new heap.  The proofs of the family do not go that way (they get `Upd` from the
    `stepR_*` rules), so these have no user. -/

theorem Tbl.addLog {u : Bool} {E : List Nat} {h : Heap} {k v s n : Nat} (e : Ev) (T : Tbl u E h k v s n) :
    Tbl u E (h.addLog e) k v s n := (T.of_agree (h' := h.addLog e) (fun _ _ => rfl) (Nat.le_refl _)).1

theorem Tbl.setValue {u : Bool} {E : List Nat} {h : Heap} {k v s n i : Nat} {c : Cell} (w : Nat)
    (T : Tbl u E h k v s n) (hc : h.cell? v i = some c) : Tbl u E (h.setCell v i { c with word := w }) k v s n :=
  T.upd (Upd.of_setCell hc _) (.inr (stAt_of hc).symm) (.inl rfl)

theorem act_setCell_ne (h : Heap) {b s : Nat} (i : Nat) (c : Cell) (hb : s ≠ b) : act (h.setCell b i c) s = act h s :=
  act_congr (find?_setCell_ne h i c hb)

theorem act_setCell_st {h : Heap} {b i : Nat} {c : Cell} (st : Slot) (hc : h.cell? b i = some c) (s : Nat) :
    act (h.setCell b i { c with st := st }) s = act h s :=
  act_upd_word (Upd.of_setCell hc { c with st := st }) hc rfl s

theorem act_addLog (h : Heap) (e : Ev) (s : Nat) : act (h.addLog e) s = act h s := rfl

theorem cnt_act_same {h : Heap} {s i : Nat} {c : Cell} (c' : Cell) (hc : h.cell? s i = some c)
    (hw : (0 < c'.word) ↔ (0 < c.word)) (n : Nat) : cnt (act (h.setCell s i c') s) n = cnt (act h s) n := by
  apply cnt_congr
  intro j _
  rw [act_upd_s (Upd.of_setCell hc c')]
  split
  · subst j; simp only [act, wordAt_of hc]; exact decide_eq_decide.2 hw
  · rfl

theorem cnt_act_on {h : Heap} {s i n : Nat} {c : Cell} (c' : Cell) (hc : h.cell? s i = some c) (hi : i < n)
    (h0 : c.word = 0) (h1 : 0 < c'.word) : cnt (act (h.setCell s i c') s) n = cnt (act h s) n + 1 :=
  cnt_upd_on (Upd.of_setCell hc c') hi ((wordAt_of hc).trans h0) h1

theorem cnt_act_off {h : Heap} {s i n : Nat} {c : Cell} (c' : Cell) (hc : h.cell? s i = some c) (hi : i < n)
    (h0 : 0 < c.word) (h1 : c'.word = 0) : cnt (act (h.setCell s i c') s) n + 1 = cnt (act h s) n :=
  cnt_upd_off (Upd.of_setCell hc c') hi (wordAt_of hc ▸ h0) h1

theorem owned_some (lgCur lgMax na k v s : Nat) :
    owned { lgCur, lgMax, numActive := na, keys := some k, values := some v, states := some s } = [k, v, s] := rfl

theorem InvG.lg {u : Bool} {P : Params} {h : Heap} {m : Map} (hi : InvG u P h m) : P.lgMinMap ≤ m.lgCur := hi.1
theorem InvG.cap {u : Bool} {P : Params} {h : Heap} {m : Map} (hi : InvG u P h m) :
    m.numActive ≤ getCapacity P m.lgCur + 1 := hi.2.1

theorem InvG.ptrs {u : Bool} {P : Params} {h : Heap} {m : Map} (hi : InvG u P h m) :
    (∃ k v s, m.keys = some k ∧ m.values = some v ∧ m.states = some s ∧ owned m = [k, v, s] ∧
      Tbl u [] h k v s (2 ^ m.lgCur) ∧ m.numActive = cnt (act h s) (2 ^ m.lgCur)) ∨
    (m.keys = none ∧ m.values = none ∧ m.states = none ∧ owned m = [] ∧ u = false ∧ m.numActive = 0) := by
  obtain ⟨_, _, hm⟩ := hi
  split at hm
  · next k v s hk hv hs => exact Or.inl ⟨k, v, s, hk, hv, hs, by rw [owned, hk, hv, hs]; rfl, hm⟩
  · next hk hv hs => exact Or.inr ⟨hk, hv, hs, by rw [owned, hk, hv, hs]; rfl, hm⟩
  · exact hm.elim

theorem Usable.ptrs {P : Params} {h : Heap} {m : Map} (hi : Usable P h m) :
    ∃ k v s, m.keys = some k ∧ m.values = some v ∧ m.states = some s ∧ owned m = [k, v, s] ∧
      Tbl true [] h k v s (2 ^ m.lgCur) ∧ m.numActive = cnt (act h s) (2 ^ m.lgCur) :=
  (InvG.ptrs hi).resolve_right fun hh => nomatch hh.2.2.2.2.1

theorem InvG.mk_some {u : Bool} {P : Params} {h : Heap} {m : Map} {k v s : Nat} (hk : m.keys = some k)
    (hv : m.values = some v) (hs : m.states = some s) (hlg : P.lgMinMap ≤ m.lgCur)
    (hcap : m.numActive ≤ getCapacity P m.lgCur + 1) (T : Tbl u [] h k v s (2 ^ m.lgCur))
    (hn : m.numActive = cnt (act h s) (2 ^ m.lgCur)) : InvG u P h m := by
  rw [InvG, hk, hv, hs]
  exact ⟨hlg, hcap, T, hn⟩

theorem InvG.imp {u u' : Bool} {P : Params} {h h' : Heap} {m : Map} (hi : InvG u P h m) (hu : u = false → u' = false)
    (hT : ∀ k v s, owned m = [k, v, s] → Tbl u [] h k v s (2 ^ m.lgCur) →
      Tbl u' [] h' k v s (2 ^ m.lgCur) ∧ act h' s = act h s) : InvG u' P h' m := by
  rcases InvG.ptrs hi with ⟨k, v, s, hk, hv, hs, ho, T, hc⟩ | ⟨hk, hv, hs, _, hu0, hc⟩
  · obtain ⟨T', ea⟩ := hT k v s ho T
    exact InvG.mk_some hk hv hs hi.lg hi.cap T' (ea ▸ hc)
  · rw [InvG, hk, hv, hs]
    exact ⟨hi.lg, hi.cap, hu hu0, hc⟩

theorem Usable.inv {P : Params} {h : Heap} {m : Map} (hu : Usable P h m) : Inv P h m :=
  InvG.imp hu (fun _ => rfl) fun _ _ _ _ T => ⟨T.withSlot fun i hi hE => (T.slot i hi hE).weak, rfl⟩

theorem InvG.local {u : Bool} {P : Params} {h h' : Heap} {m : Map}
    (hf : ∀ b, b ∈ owned m → h'.find? b = h.find? b) (hn : h.next ≤ h'.next) (hi : InvG u P h m) : InvG u P h' m :=
  hi.imp id fun _ _ _ ho T => T.of_agree (ho ▸ hf) hn

theorem InvG.owned_ids {u : Bool} {P : Params} {h : Heap} {m : Map} (hi : InvG u P h m) :
    ∀ b, b ∈ owned m → b ∈ h.ids ∧ b < h.next := by
  rcases InvG.ptrs hi with ⟨k, v, s, _, _, _, ho, T, _⟩ | ⟨_, _, _, ho, _, _⟩
  · exact ho ▸ T.ids
  · exact ho ▸ fun _ hb => nomatch hb

theorem Inv.owned_nodup {P : Params} {h : Heap} {m : Map} (hi : Inv P h m) : (owned m).Nodup := by
  rcases InvG.ptrs hi with ⟨k, v, s, _, _, _, ho, T, _⟩ | ⟨_, _, _, ho, _, _⟩
  · rw [ho]; simp [T.kv, T.ks, T.vs]
  · rw [ho]; exact List.nodup_nil

-- the forms at `Inv` / `Usable` that `fiClass` (LifeSpecAll) names for its fields `inv_local`, `usable_local`, `owned_ids`
theorem Inv.local {P : Params} {h h' : Heap} {m : Map}
    (hf : ∀ b, b ∈ owned m → h'.find? b = h.find? b) (hn : h.next ≤ h'.next) (hi : Inv P h m) : Inv P h' m :=
  InvG.local hf hn hi

theorem Usable.local {P : Params} {h h' : Heap} {m : Map}
    (hf : ∀ b, b ∈ owned m → h'.find? b = h.find? b) (hn : h.next ≤ h'.next) (hi : Usable P h m) : Usable P h' m :=
  InvG.local hf hn hi

theorem Inv.owned_ids {P : Params} {h : Heap} {m : Map} (hi : Inv P h m) :
    ∀ b, b ∈ owned m → b ∈ h.ids ∧ b < h.next := InvG.owned_ids hi

end DS.Life.Fi
