/- C19 / FI: `serialize` and `deserialize(serialize(s))` with their temporary arrays. -/
import DSProofs.Lemmas.LifeFiCtorDtor
import DSProofs.Lemmas.LifeFiIter
import DSProofs.Lemmas.LifeFiResize
namespace DS.Life.Fi
open DS.Life

theorem serialize_spec (P : Params) (n0 : Nat) (S : Nat → Bool) (hS : ∀ b, n0 ≤ b → S b = true) (s : Sketch) (h0 : Heap) :
    TripleS n0 S (fun h => h = h0 ∧ Usable P h s.map ∧ IdsLt h) (Sketch.serialize P s)
      (fun _ h' => Grown h0 h' [] [] []) := by
  intro h hn ⟨he, hu, hlt⟩
  subst he
  unfold Sketch.serialize
  have g0 : Grown h h [] [] [] := Grown.refl hlt (fun _ hb => nomatch hb)
  by_cases hz : s.map.numActive = 0
  · rw [if_pos hz]
    exact SafeF.pure g0
  · rw [if_neg hz]
    obtain ⟨k, v, st, hk, hv, hst, _, T, hc⟩ := Usable.ptrs hu
    rw [hk, hv]
    apply step_deref
    apply step_deref
    -- the two temporaries `h.next` (weights) and `h1.next` (items), owned until they are released
    apply gstep_alloc _ _ g0 (hS _ hn)
    intro h1 g1 _ Rw old1 nx1
    have hle1 : h.next ≤ h1.next := nx1 ▸ Nat.le_succ _
    apply gstep_alloc _ _ g1 (hS _ (Nat.le_trans hn hle1))
    intro h2 g2 hnew2 Ri old2 nx2
    have hwi : h1.next ≠ h.next := fun e => hnew2 (e ▸ .head _)
    have hSw := hS _ hn
    have hSi := hS _ (Nat.le_trans hn hle1)
    -- the table as seen from a heap that differs in the two temporaries only
    have hold : ∀ b, b ∈ [k, v, st] → b ∉ [h1.next, h.next] ∧ b ≠ h1.next ∧ b ≠ h.next := fun b hb =>
      have e1 := Nat.ne_of_lt (T.ids b hb).2
      have e2 : b ≠ h1.next := nx1 ▸ Nat.ne_of_lt (Nat.lt_succ_of_lt (T.ids b hb).2)
      ⟨not_mem_pair e2 e1, e2, e1⟩
    have Told : ∀ hh, SameOutside [h1.next, h.next] h2 hh → Tbl true [] hh k v st (2 ^ s.map.lgCur) ∧ act hh st = act h st :=
      fun hh sb => T.of_agree (fun b hb => ((sb.out b (hold b hb).1).trans (old2 b (hold b hb).2.1)).trans (old1 b (hold b hb).2.2))
        (by rw [sb.next, nx2]; exact Nat.le_succ_of_le hle1)
    let I : Nat → Nat → Heap → Prop := fun c j hh =>
      j = c ∧ SameOutside [h1.next, h.next] h2 hh ∧ HasCells hh h.next s.map.numActive ∧
      HasCells hh h1.next s.map.numActive ∧ (∀ i, stAt hh h.next i = .raw) ∧
      Swept (fun _ => .raw) (stAt hh h1.next) c (fun _ st => ∃ x, st = .live x)
    have hI : ∀ c a hh, I c a hh → HasCells hh st (2 ^ s.map.lgCur) ∧ act hh st = act h st := fun c a hh hi =>
      ⟨(Told hh hi.2.1).1.cs, (Told hh hi.2.1).2⟩
    have Rw2 := Rw.congr (old2 h.next hwi.symm)
    apply SafeF.bind (forEachActive_safe (S := S) P s.map st hst _ (act h st) I hI ?_ 0 h2
      ⟨rfl, SameOutside.refl _ _, Rw2.cells, Ri.cells, Rw2.raw, fun i hi => absurd hi (Nat.not_lt_zero i), fun i _ => Ri.raw i⟩
      hc)
    · intro j h3 ⟨_, sb3, cw3, ci3, rw3, sw3⟩ _
      have hl3 := sw3.done
      -- weights are released, the items written out and destroyed
      apply gstep_dealloc (g2.sameOutside sb3 (fun _ hb => Or.inl hb)) hlt cw3 (fun i _ => rw3 i) hSw
        (.tail _ (.head _)) (mem_append_cons_ne (A := [h1.next]) (D := []) (fun e => hwi (List.mem_singleton.1 e).symm) List.not_mem_nil)
      intro h4 g4 old4 _
      have e4 := old4 h1.next hwi
      have hl4 : ∀ i, i < s.map.numActive → ∃ x, stAt h4 h1.next i = .live x := fun i hi => stAt_congr e4 i ▸ hl3 i hi
      apply SafeF.bind_triple (readAll_spec 0 S h1.next s.map.numActive h4 hl4) (Nat.zero_le _) rfl
      intro _ h4' e _
      subst e
      apply SafeF.bind_triple (destroyAll_spec 0 S h1.next s.map.numActive hSi h4' (HasCells_congr e4 ci3)
        (fun i hi => by obtain ⟨x, hx⟩ := hl4 i hi; rw [hx]; simp)) (Nat.zero_le _) rfl
      intro _ h5 ⟨sb5, ci5, hr5⟩ _
      apply SafeF.last
      apply gstep_dealloc (g4.sameOutside sb5 (fun _ hb => Or.inl hb)) hlt ci5 hr5 hSi (.head _) (mem_append_cons_ne (A := []) (D := []) List.not_mem_nil List.not_mem_nil)
      intro h6 g6 _ _
      exact SafeF.pure g6
    · -- the body of the range-for
      intro c j hh idx hcn ⟨hj, sb, cw, ci, rwt, sw⟩ hidx hact
      subst hj
      obtain ⟨T', hact'⟩ := Told hh sb
      obtain ⟨x, hx⟩ := (T'.slot idx hidx List.not_mem_nil).live_of_pos (act_pos.1 (hact' ▸ hact))
      rw [copyConstruct_bind]
      apply vstep_readLive hx
      obtain ⟨cit, ecit, _, estit⟩ := ci.cell_st hcn
      apply stepR_construct x ecit (estit.trans (sw.rest j (Nat.le_refl _))) hSi
      intro h1' u1
      apply vstep_readWord (u1.hasCells T'.cv) hidx
      obtain ⟨cwt, ecwt⟩ := (u1.hasCells cw).cell hcn
      apply stepR_writeWord _ ecwt hSw
      intro h2' u2
      refine SafeF.pure ⟨rfl, (sb.trans (u1.sameOutside (.head _))).trans (u2.sameOutside (.tail _ (.head _))), u2.hasCells (u1.hasCells cw),
        u2.hasCells (u1.hasCells ci), fun i => ?_,
        sw.step (fun i hi => (u2.stAt_same ecwt rfl _ i).trans (u1.stAt_idx hi _)) ⟨x, (u2.stAt_same ecwt rfl _ j).trans u1.stAt_eq⟩⟩
      rw [u2.stAt_same ecwt rfl, u1.stAt_ne (fun hh' => hwi hh'.1.symm)]; exact rwt i

/-- invariant of the re-insertion loop of `deserialize` at item `i`: the new sketch `acc` is usable and has grown since `h3`, the
    items array `it` exempt; the items below `i` are still objects (live or moved-from), the others untouched -/
def ReinsertInv (P : Params) (h3 : Heap) (own0 : List Nat) (it na : Nat) (i : Nat) (acc : Sketch) (h : Heap) : Prop :=
  Usable P h acc.map ∧ Grown h3 h own0 (owned acc.map) [it] ∧ HasCells h it na ∧
  Swept (stAt h3 it) (stAt h it) i (fun _ st => st ≠ .raw)

theorem roundTrip_spec (P : Params) (hP : P.OK) (n0 : Nat) (S : Nat → Bool) (hS : ∀ b, n0 ≤ b → S b = true) (s : Sketch)
    (h0 : Heap) :
    TripleS n0 S (fun h => h = h0 ∧ Usable P h s.map ∧ IdsLt h) (Sketch.roundTrip P s)
      (fun d h' => Usable P h' d.map ∧ Grown h0 h' [] (owned d.map) []) := by
  intro h hn ⟨he, hu, hlt⟩
  subst he
  unfold Sketch.roundTrip
  apply SafeF.bind_triple (sketchCtor_spec P n0 S hS _ _ h) hn ⟨rfl, hlt⟩
  intro d h1 ⟨hud, gd⟩ _
  by_cases hz : s.map.numActive = 0
  · rw [if_pos hz]
    exact SafeF.pure ⟨hud, gd⟩
  · rw [if_neg hz]
    obtain ⟨k, v, st, hk, hv, hst, _, T, hc⟩ := Usable.ptrs hu
    rw [hk, hv]
    apply step_deref
    apply step_deref
    obtain ⟨T1, a1⟩ := T.of_agree (fun b hb => gd.out b List.not_mem_nil List.not_mem_nil (T.ids b hb).2) gd.next
    -- the image is read off the source
    apply SafeF.bind (forEachActive_safe (S := S) P s.map st hst _ (act h1 st) (fun _ _ hh => hh = h1)
      (fun _ _ hh e => by subst e; exact ⟨T1.cs, rfl⟩) ?_ [] h1 rfl (by rw [a1]; exact hc))
    · intro img h1' e1 _
      subst e1
      clear T1 T hc hk hv hst a1
      have hSn : ∀ b, h1'.next ≤ b → S b = true := fun b hb => hS b (Nat.le_trans hn (Nat.le_trans gd.next hb))
      -- the temporaries `h1'.next` (weights) and `h2.next` (items), owned until they are released
      apply gstep_alloc _ _ gd (hSn _ (Nat.le_refl _))
      intro h2 g2 nw Rw old2 nx2
      have l2 : h1'.next < h2.next := nx2 ▸ Nat.lt_succ_self _
      have hSi := hSn _ (Nat.le_of_lt l2)
      apply gstep_alloc _ _ g2 hSi
      intro h3 g3 ni Ri old3 nx3
      have hwi : h1'.next ≠ h2.next := Nat.ne_of_lt l2
      have nid : h2.next ∉ owned d.map := fun e => ni (List.mem_cons_of_mem _ e)
      apply SafeF.bind_triple (constructAll_spec 0 S h2.next s.map.numActive _ hSi h3 Ri.cells Ri.raw) (Nat.zero_le _) rfl
      intro _ h4 ⟨sb4, ci4, hl4⟩ _
      have g4 := g3.sameOutside sb4 (fun _ hb => Or.inl (List.mem_singleton.1 hb ▸ .head _))
      have hitlt : h2.next < h4.next := by rw [sb4.next, nx3]; exact Nat.lt_succ_self _
      have hn4 : n0 ≤ h4.next := Nat.le_trans hn g4.next
      have ed : ∀ b, b ∈ owned d.map → h4.find? b = h1'.find? b := fun b hb =>
        ((sb4.out b (fun e => nid (List.mem_singleton.1 e ▸ hb))).trans (old3 b (fun e => nid (e ▸ hb)))).trans
          (old2 b (fun e => nw (e ▸ hb)))
      -- one re-insertion: `update(std::move(items[i]), weight)`
      have reinsert : ∀ i acc, i < s.map.numActive → TripleS n0 S (ReinsertInv P h4 (owned d.map) h2.next s.map.numActive i acc)
          (Sketch.update P acc (.moveOf h2.next i) ((img.getD i (0, 0)).2))
          (fun acc' hh => ReinsertInv P h4 (owned d.map) h2.next s.map.numActive (i + 1) acc' hh) := by
        intro i acc hi hh hnh ⟨hua, ga, cia, sw⟩
        obtain ⟨x, hx⟩ := hl4 i hi
        have hsrc : SrcOK hh (owned acc.map) (.moveOf h2.next i) :=
          ⟨fun hm => (ga.fresh _ hm).elim nid fun e => Nat.lt_irrefl _ (Nat.lt_of_lt_of_le hitlt e), x,
            (sw.rest i (Nat.le_refl _)).trans hx⟩
        have hSo : ∀ b, b ∈ owned acc.map ++ srcBlk (.moveOf h2.next i) → S b = true := fun b hb =>
          (List.mem_append.1 hb).elim (fun e => hS b (Nat.le_trans hn ((ga.fresh b e).elim
              (fun e' => (gd.fresh b e').elim (fun e'' => absurd e'' List.not_mem_nil) id) (Nat.le_trans g4.next))))
            fun e => List.mem_singleton.1 e ▸ hSi
        refine SafeF.mono (update_spec P hP n0 S acc (.moveOf h2.next i) _ hS hSo hh hh hnh
          ⟨rfl, hua, hsrc, ga.lt, fun b hb => List.mem_singleton.1 hb ▸ Nat.lt_of_lt_of_le hitlt ga.next⟩) ?_
        intro acc' hh' ⟨hua', g', hmv⟩
        have hmv' : MovedAt hh hh' h2.next i := hmv
        refine ⟨hua', ga.trans g' g4.lt, by simpa only [HasCells, hmv'.count] using cia, sw.step hmv'.other ?_⟩
        rcases hmv'.cell with e | e <;> rw [e] <;> simp [sw.rest i (Nat.le_refl _), hx]
      apply SafeF.bind_triple (TripleS.foldUp (ReinsertInv P h4 (owned d.map) h2.next s.map.numActive)
        (fun i acc => Sketch.update P acc (.moveOf h2.next i) ((img.getD i (0, 0)).2)) s.map.numActive 0 d
        (fun i acc _ hi => reinsert i acc (Nat.zero_add s.map.numActive ▸ hi))) hn4
        ⟨InvG.local ed (Nat.le_trans (Nat.le_of_lt l2) (Nat.le_of_lt hitlt)) hud,
          Grown.refl g4.lt (fun b hb => g4.mem_ids (List.mem_cons_of_mem _ (List.mem_cons_of_mem _ hb))), ci4,
          Swept.init _ _⟩
      intro d' h5 ⟨hud5, g5, ci5, sw5⟩ _
      -- the two temporaries are bystanders of the re-insertion
      have nwd : h1'.next ∉ owned d.map := nw
      have g5' : Grown h h5 [] (owned d'.map ++ [h2.next, h1'.next]) [h2.next] :=
        ((g4.congr (o' := owned d.map ++ [h2.next, h1'.next]) (fun _ => Iff.rfl) (fun b => by
            simp only [List.mem_append, List.mem_cons, List.not_mem_nil, or_false]
            constructor <;> rintro (e | e | e) <;> simp [e])).weakenX (fun _ e => absurd e List.not_mem_nil)).trans
          (g5.frame [h2.next, h1'.next] (fun b hb => by
            rcases List.mem_cons.1 hb with e | e
            · exact e ▸ ⟨g4.mem_ids (.head _), nid⟩
            · exact List.mem_singleton.1 e ▸ ⟨g4.mem_ids (.tail _ (.head _)), nwd⟩)) hlt
      have hnew : ∀ b, b ∈ owned d'.map → b ≠ h2.next ∧ b ≠ h1'.next := fun b hb =>
        (g5.fresh b hb).elim (fun e => ⟨fun e' => nid (e' ▸ e), fun e' => nwd (e' ▸ e)⟩)
          (fun e => ⟨Nat.ne_of_gt (Nat.lt_of_lt_of_le hitlt e), Nat.ne_of_gt (Nat.lt_of_lt_of_le (Nat.lt_trans l2 hitlt) e)⟩)
      apply SafeF.bind_triple (destroyAll_spec 0 S h2.next s.map.numActive hSi h5 ci5
        (fun i hi => sw5.done i (by rw [Nat.zero_add]; exact hi))) (Nat.zero_le _) rfl
      intro _ h6 ⟨sb6, ci6, hr6⟩ _
      apply gstep_dealloc (g5'.sameOutside sb6 (fun _ hb => Or.inr hb)) hlt ci6 hr6 hSi
        (List.mem_append_right _ (.head _))
        (mem_append_cons_ne (D := [h1'.next]) (fun e => (hnew _ e).1 rfl) (fun e => hwi (List.mem_singleton.1 e).symm))
      intro h7 g7 old7 nx7
      -- the weights vector
      have ew : h7.find? h1'.next = h3.find? h1'.next := by
        have hw : h1'.next ∉ [h2.next] := fun e => hwi (List.mem_singleton.1 e)
        rw [old7 _ hwi, sb6.out _ hw, g5.out _ nwd hw (Nat.lt_trans l2 hitlt), sb4.out _ hw]
      have Rw7 := (Rw.congr (old3 _ hwi)).congr ew
      apply gstep_dealloc g7 hlt Rw7.cells (fun i _ => Rw7.raw i) (hSn _ (Nat.le_refl _)) (List.mem_append_right _ (.head _))
        (mem_append_cons_ne (D := []) (fun e => (hnew _ e).2 rfl) List.not_mem_nil)
      intro h8 g8 old8 nx8
      refine SafeF.pure ⟨InvG.local (fun b hb => ?_) (Nat.le_of_eq ((nx8.trans nx7).trans sb6.next).symm) hud5,
        (g8.congr (fun _ => Iff.rfl) (fun b => by rw [List.append_nil])).weakenX (fun b e hl => ?_)⟩
      · rw [old8 b (hnew b hb).2, old7 b (hnew b hb).1, sb6.out b (fun e => (hnew b hb).1 (List.mem_singleton.1 e))]
      · exact absurd hl (Nat.not_lt_of_le (List.mem_singleton.1 e ▸ Nat.le_trans gd.next (Nat.le_of_lt l2)))
    · -- reading one (item, weight) pair
      intro c acc hh idx _ e hidx hact
      subst e
      obtain ⟨x, hx⟩ := (T1.slot idx hidx List.not_mem_nil).live_of_pos (act_pos.1 hact)
      apply vstep_readLive hx
      apply vstep_readWord T1.cv hidx
      exact SafeF.pure rfl

end DS.Life.Fi
