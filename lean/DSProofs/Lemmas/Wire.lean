/-
The reader combinators.  Whatever is proved of every successful read of a decoder is an instance of `Post rd Φ` (prefix safety
and `Φ` of every successful read) whose `Φ` carries one parameter that the `bind` rule moves along, so that one term following
the decoder's text gives its prefix safety and the property: `Within` (credit `acc`: `≤` on a count), `Sized` (offset `k`: `=` on
the number of bytes consumed), `Exact` (prefix `p`: `=` on the bytes themselves).
"A successful read uses at least `c` bytes" is `Consumes rd c`; `Consuming rd` is `Consumes rd 1`, `Shrinks rd` is
`Consumes rd 0` (every `PS` reader, `PS.shrinks`); `Within 1 0 rd fun _ => c` is `PS rd ∧ Consumes rd c`.  The item codecs of the
families each come with a structure of laws (`Serde.Lawful` of the count group in WireCount, `Serde.Lawful` of the quantile
group in WireQuant, `Tuple.Laws`): round trip, `PS`, and `Consuming` (`progress` spells it out) resp. `Consumes _ 0`.
-/
import DSModel.Wire.Reader
namespace DS.Wire
open Reader

variable {α β : Type}

theorem bind_ok {m : Reader α} {f : α → Reader β} {b r : Bytes} {x : α} (h : m b = some (x, r)) :
    Reader.bind m f b = f x r := by simp only [Reader.bind, h]

theorem bind_some {m : Reader α} {f : α → Reader β} {b r : Bytes} {y : β}
    (h : Reader.bind m f b = some (y, r)) : ∃ a r1, m b = some (a, r1) ∧ f a r1 = some (y, r) := by
  simp only [Reader.bind] at h
  cases hm : m b with
  | none => simp [hm] at h
  | some p => obtain ⟨a, r1⟩ := p; simp only [hm] at h; exact ⟨a, r1, rfl, h⟩

theorem pure_some {a x : α} {b r : Bytes} (h : Reader.pure a b = some (x, r)) : x = a ∧ r = b := by
  simp only [Reader.pure, Option.some.injEq, Prod.mk.injEq] at h; exact ⟨h.1.symm, h.2.symm⟩

theorem guard_some {c : Bool} {b r : Bytes} {u : Unit} (h : guard c b = some (u, r)) : c = true ∧ r = b := by
  cases c
  · exact nomatch h
  · exact ⟨rfl, (pure_some h).2⟩

theorem byte_inv {b r : Bytes} {y : UInt8} (h : byte b = some (y, r)) : b = y :: r := by
  cases b with
  | nil => exact nomatch h
  | cons z t => obtain ⟨rfl, rfl⟩ := Prod.mk.inj (Option.some.inj h); rfl

theorem byte_len {b r : Bytes} {y : UInt8} (h : byte b = some (y, r)) : b.length = r.length + 1 := by
  rw [byte_inv h]; rfl

/-- Prefix safety: a successful read consumed exactly `k` bytes; every shorter prefix is rejected and
every longer prefix yields the same value with the correspondingly shorter remainder. -/
def PS (rd : Reader α) : Prop := ∀ b x r, rd b = some (x, r) →
  ∃ k, k ≤ b.length ∧ r = b.drop k ∧ (∀ n, n < k → rd (b.take n) = none) ∧
       (∀ n, k ≤ n → rd (b.take n) = some (x, (b.take n).drop k))

theorem PS_pure (a : α) : PS (Reader.pure a) := fun b x r h => by
  obtain ⟨rfl, rfl⟩ := pure_some h
  exact ⟨0, Nat.zero_le _, rfl, fun _ hn => (nomatch hn), fun _ _ => rfl⟩

theorem PS_fail : PS (Reader.fail : Reader α) := fun _ _ _ h => nomatch h

theorem PS_byte : PS byte := fun b x r h => by
  rw [byte_inv h]
  exact ⟨1, Nat.le_add_left 1 _, rfl, fun | 0, _ => rfl | _ + 1, h => (nomatch h), fun | _ + 1, _ => rfl⟩

theorem PS_bind_of {m : Reader α} {f : α → Reader β} (hm : PS m) (hf : ∀ b a r, m b = some (a, r) → PS (f a)) :
    PS (Reader.bind m f) := fun b y r h => by
  obtain ⟨a, r1, h1, h2⟩ := bind_some h
  obtain ⟨k1, hk1, rfl, lt1, ge1⟩ := hm b a r1 h1
  obtain ⟨k2, hk2, rfl, lt2, ge2⟩ := hf b a _ h1 _ y r h2
  refine ⟨k1 + k2, Nat.add_le_of_le_sub' hk1 (List.length_drop ▸ hk2), List.drop_drop, fun n hn => ?_, fun n hn => ?_⟩
  · by_cases hn1 : n < k1
    · simp only [Reader.bind, lt1 n hn1]
    · rw [bind_ok (ge1 n (Nat.le_of_not_lt hn1)), List.drop_take]
      exact lt2 _ (Nat.sub_lt_left_of_lt_add (Nat.le_of_not_lt hn1) hn)
  · rw [bind_ok (ge1 n (Nat.le_trans (Nat.le_add_right k1 k2) hn)), List.drop_take, ge2 _ (Nat.le_sub_of_add_le' hn),
      ← List.drop_take, List.drop_drop]

theorem PS_bind (m : Reader α) (f : α → Reader β) (hm : PS m) (hf : ∀ a, PS (f a)) : PS (Reader.bind m f) :=
  PS_bind_of hm fun _ a _ _ => hf a

theorem PS_guard (c : Bool) : PS (guard c) := by
  cases c
  · exact PS_fail
  · exact PS_pure ()

theorem PS_ite (c : Prop) [Decidable c] (a b : Reader α) (ha : PS a) (hb : PS b) : PS (if c then a else b) := by
  split <;> assumption

theorem PS_repeatN (r : Reader α) (hr : PS r) : ∀ n, PS (repeatN r n)
  | 0 => PS_pure []
  | n + 1 => PS_bind _ _ hr (fun _ => PS_bind _ _ (PS_repeatN r hr n) (fun _ => PS_pure _))

theorem PS.rem_suffix {rd : Reader α} (h : PS rd) {b r : Bytes} {x : α} (hd : rd b = some (x, r)) :
    ∃ k, k ≤ b.length ∧ r = b.drop k :=
  let ⟨k, hk, hr, _⟩ := h b x r hd
  ⟨k, hk, hr⟩

theorem PS.rem_le {rd : Reader α} (h : PS rd) {b r : Bytes} {x : α} (hd : rd b = some (x, r)) : r.length ≤ b.length := by
  obtain ⟨k, _, rfl⟩ := h.rem_suffix hd
  exact List.length_drop ▸ Nat.sub_le ..

theorem prefix_rejected (rd : Reader α) (h : PS rd) (img : Bytes) (x : α) (hd : rd img = some (x, []))
    (n : Nat) (hn : n < img.length) : rd (img.take n) = none := by
  obtain ⟨k, _, hr, hlt, _⟩ := h img x [] hd
  -- nothing is left, so all of the image was consumed
  exact hlt n (Nat.lt_of_lt_of_le hn (List.drop_eq_nil_iff.1 hr.symm))

/-- the same from the round trip as the formats state it, `∀ tail, rd (img ++ tail) = some (x, tail)` -/
theorem prefix_rejected' (rd : Reader α) (h : PS rd) (img : Bytes) (x : α)
    (hd : ∀ tail, rd (img ++ tail) = some (x, tail)) (n : Nat) (hn : n < img.length) : rd (img.take n) = none :=
  prefix_rejected rd h img x (by rw [← hd [], List.append_nil]) n hn

def Consumes (rd : Reader α) (k : Nat) : Prop := ∀ b x r, rd b = some (x, r) → r.length + k ≤ b.length

def Shrinks (rd : Reader α) : Prop := Consumes rd 0

theorem PS.shrinks {rd : Reader α} (h : PS rd) : Shrinks rd := fun _ _ _ hd => h.rem_le hd

/-- `Consumes rd 1`: what lets a repeated reader be counted against the bytes (`Within_items_consuming`) -/
def Consuming (rd : Reader α) : Prop := ∀ b x r, rd b = some (x, r) → r.length < b.length

theorem byte_consuming : Consuming byte := fun _ _ _ h => Nat.le_of_eq (byte_len h).symm

theorem Consuming.bind {m : Reader α} {f : α → Reader β} (hm : Consuming m) (hf : ∀ a, PS (f a)) :
    Consuming (Reader.bind m f) := by
  intro b y r h
  obtain ⟨a, r1, h1, h2⟩ := bind_some h
  exact Nat.lt_of_le_of_lt ((hf a).rem_le h2) (hm b a r1 h1)

theorem length_wLe : ∀ (n x : Nat), (wLe n x).length = n
  | 0, _ => rfl
  | n + 1, x => congrArg (· + 1) (length_wLe n (x / 256))

theorem length_w8 (x : Nat) : (w8 x).length = 1 := length_wLe 1 x
theorem length_w16 (x : Nat) : (w16 x).length = 2 := length_wLe 2 x
theorem length_w32 (x : Nat) : (w32 x).length = 4 := length_wLe 4 x
theorem length_w64 (x : Nat) : (w64 x).length = 8 := length_wLe 8 x
theorem length_wZeros (n : Nat) : (wZeros n).length = n := List.length_replicate

attribute [simp] length_w8 length_w16 length_w32 length_w64

theorem leNat_wLe : ∀ (n x : Nat), x < 256 ^ n → ∀ r : Bytes, leNat n (wLe n x ++ r) = some (x, r)
  | 0, x, hx, r => by rw [Nat.lt_one_iff.1 hx]; rfl
  | n + 1, x, hx, r => by
    rw [wLe, leNat, List.cons_append, bind_ok (rfl : byte (_ :: _) = _),
      bind_ok (leNat_wLe n (x / 256) ((Nat.div_lt_iff_lt_mul (by decide)).2 hx) r), Reader.pure,
      UInt8.toNat_ofNat', Nat.mod_mod_of_dvd _ (by decide), Nat.mod_add_div]

theorem u8_w8 (x : Nat) (hx : x < 2^8) (r : Bytes) : u8 (w8 x ++ r) = some (x, r) := leNat_wLe 1 x hx r
theorem u16_w16 (x : Nat) (hx : x < 2^16) (r : Bytes) : u16 (w16 x ++ r) = some (x, r) := leNat_wLe 2 x hx r
theorem u32_w32 (x : Nat) (hx : x < 2^32) (r : Bytes) : u32 (w32 x ++ r) = some (x, r) := leNat_wLe 4 x hx r
theorem u64_w64 (x : Nat) (hx : x < 2^64) (r : Bytes) : u64 (w64 x ++ r) = some (x, r) := leNat_wLe 8 x hx r

theorem bytesN_append : ∀ a r : Bytes, bytesN a.length (a ++ r) = some (a, r)
  | [], _ => rfl
  | x :: t, r => by rw [List.length_cons, bytesN, List.cons_append, bind_ok (rfl : byte (_ :: _) = _), bind_ok (bytesN_append t r)]; rfl

theorem skip_append (a r : Bytes) : skip a.length (a ++ r) = some ((), r) := bind_ok (bytesN_append a r)

/-! ### bind-form round trips (rewrite a decoder run over `encode … ++ tail` field by field) -/

theorem bind_u8 (x : Nat) (hx : x < 256) (f : Nat → Reader β) (r : Bytes) :
    Reader.bind u8 f (w8 x ++ r) = f x r := bind_ok (u8_w8 x hx r)
theorem bind_u16 (x : Nat) (hx : x < 2 ^ 16) (f : Nat → Reader β) (r : Bytes) :
    Reader.bind u16 f (w16 x ++ r) = f x r := bind_ok (u16_w16 x hx r)
theorem bind_u32 (x : Nat) (hx : x < 2 ^ 32) (f : Nat → Reader β) (r : Bytes) :
    Reader.bind u32 f (w32 x ++ r) = f x r := bind_ok (u32_w32 x hx r)
theorem bind_u64 (x : Nat) (hx : x < 2 ^ 64) (f : Nat → Reader β) (r : Bytes) :
    Reader.bind u64 f (w64 x ++ r) = f x r := bind_ok (u64_w64 x hx r)
theorem bind_leNat (n x : Nat) (hx : x < 256 ^ n) (f : Nat → Reader β) (r : Bytes) :
    Reader.bind (leNat n) f (wLe n x ++ r) = f x r := bind_ok (leNat_wLe n x hx r)
theorem bind_bytesN (a : Bytes) (n : Nat) (hn : a.length = n) (f : Bytes → Reader β) (r : Bytes) :
    Reader.bind (bytesN n) f (a ++ r) = f a r := hn ▸ bind_ok (bytesN_append a r)
theorem bind_skip_of {a : Bytes} {n : Nat} (hn : a.length = n) (f : Unit → Reader β) (r : Bytes) :
    Reader.bind (skip n) f (a ++ r) = f () r := hn ▸ bind_ok (skip_append a r)
theorem bind_skip (n : Nat) (f : Unit → Reader β) (r : Bytes) :
    Reader.bind (skip n) f (wZeros n ++ r) = f () r := bind_skip_of (length_wZeros n) f r
theorem bind_guard_true (f : Unit → Reader β) (r : Bytes) :
    Reader.bind (guard true) f r = f () r := rfl
theorem bind_guard (c : Bool) (hc : c = true) (f : Unit → Reader β) (r : Bytes) :
    Reader.bind (guard c) f r = f () r := hc ▸ rfl
theorem bind_pure (a : α) (f : α → Reader β) (r : Bytes) : Reader.bind (Reader.pure a) f r = f a r := rfl

theorem bind_assoc (m : Reader α) (f : α → Reader β) {γ : Type} (g : β → Reader γ) :
    Reader.bind (Reader.bind m f) g = Reader.bind m (fun x => Reader.bind (f x) g) := by
  funext b
  simp only [Reader.bind]
  cases m b <;> rfl

theorem bind_congr (m : Reader α) (f g : α → Reader β) (b : Bytes)
    (h : ∀ a r, m b = some (a, r) → f a r = g a r) : Reader.bind m f b = Reader.bind m g b := by
  simp only [Reader.bind]
  cases hm : m b with
  | none => rfl
  | some p => exact h p.1 p.2 hm

/-- `h` has the form of a field lemma (`u64_w64`, an `X_enc`); `wL` is any list writer that writes element by element -/
theorem repeatN_enc {rd : Reader α} {enc : α → Bytes} {P : α → Prop} (h : ∀ x, P x → ∀ r, rd (enc x ++ r) = some (x, r))
    {wL : List α → Bytes} (h0 : wL [] = []) (h1 : ∀ x t, wL (x :: t) = enc x ++ wL t) :
    ∀ (l : List α) (r : Bytes), (∀ x ∈ l, P x) → repeatN rd l.length (wL l ++ r) = some (l, r)
  | [], r, _ => by rw [h0]; rfl
  | x :: t, r, hP => by
    rw [h1, List.append_assoc, List.length_cons, repeatN, bind_ok (h x (hP x List.mem_cons_self) _),
      bind_ok (repeatN_enc h h0 h1 t r fun y hy => hP y (List.mem_cons_of_mem x hy))]
    rfl

theorem repeatN_one {rd : Reader α} {b r : Bytes} {x : α} (h : repeatN rd 1 b = some ([x], r)) : rd b = some (x, r) := by
  obtain ⟨a, r1, h1, h⟩ := bind_some h
  obtain ⟨t, r2, h2, h⟩ := bind_some h
  obtain ⟨rfl, rfl⟩ := pure_some h2
  obtain ⟨hx, rfl⟩ := pure_some h
  rw [h1, (List.cons.inj hx).1]

theorem length_elementwise {enc : α → Bytes} {wL : List α → Bytes} (h0 : wL [] = []) (h1 : ∀ x t, wL (x :: t) = enc x ++ wL t)
    {m : Nat} : ∀ l : List α, (∀ x ∈ l, (enc x).length = m) → (wL l).length = l.length * m
  | [], _ => by rw [h0]; exact (Nat.zero_mul m).symm
  | x :: t, h => by
    rw [h1, List.length_append, h x List.mem_cons_self, List.length_cons, Nat.succ_mul, Nat.add_comm,
      length_elementwise h0 h1 t fun y hy => h y (List.mem_cons_of_mem x hy)]

/-- an optional field: written when `q`, read when `p`; where it is absent the reader substitutes `d`, which `x` then is -/
theorem bind_opt {p q : Prop} [Decidable p] [Decidable q] (hpq : p ↔ q) {rd : Reader α} {w : Bytes} {x d : α}
    (hx : q → ∀ r, rd (w ++ r) = some (x, r)) (hd : ¬ q → x = d) (f : α → Reader β) (r : Bytes) :
    Reader.bind (if p then rd else Reader.pure d) f ((if q then w else []) ++ r) = f x r := by
  by_cases h : q
  · rw [if_pos (hpq.2 h), if_pos h, bind_ok (hx h r)]
  · rw [if_neg (mt hpq.1 h), if_neg h, hd h]; rfl

/-- `Φ b x r`: what holds of input `b`, result `x` and remainder `r` of every successful read -/
def Post (rd : Reader α) (Φ : Bytes → α → Bytes → Prop) : Prop :=
  PS rd ∧ ∀ b x r, rd b = some (x, r) → Φ b x r

variable {rd : Reader α}

section
variable {Φ : Bytes → α → Bytes → Prop}

theorem Post.ps (h : Post rd Φ) : PS rd := h.1

theorem Post.imp {Φ' : Bytes → α → Bytes → Prop} (h : Post rd Φ) (hΦ : ∀ b x r, Φ b x r → Φ' b x r) : Post rd Φ' :=
  ⟨h.1, fun b x r hd => hΦ b x r (h.2 b x r hd)⟩

theorem Post_fail : Post (Reader.fail : Reader α) Φ := ⟨PS_fail, fun _ _ _ h => nomatch h⟩

theorem Post_pure {a : α} (h : ∀ b, Φ b a b) : Post (Reader.pure a) Φ :=
  ⟨PS_pure a, fun b _ _ hd => by obtain ⟨rfl, rfl⟩ := pure_some hd; exact h _⟩

theorem Post_guard {c : Bool} {f : Unit → Reader α} (hf : c = true → Post (f ()) Φ) : Post (Reader.bind (guard c) f) Φ := by
  cases c
  · exact Post_fail
  · exact hf rfl

theorem Post_ite_of (c : Prop) [Decidable c] {a b : Reader α} (ha : c → Post a Φ) (hb : ¬ c → Post b Φ) :
    Post (if c then a else b) Φ := by
  split
  · exact ha ‹_›
  · exact hb ‹_›

theorem Post_ite (c : Prop) [Decidable c] {a b : Reader α} (ha : Post a Φ) (hb : Post b Φ) : Post (if c then a else b) Φ :=
  Post_ite_of c (fun _ => ha) fun _ => hb

theorem Post_map {m : Reader β} (g : β → α) (hm : Post m fun b a r => Φ b (g a) r) :
    Post (Reader.bind m fun a => Reader.pure (g a)) Φ :=
  ⟨PS_bind _ _ hm.1 fun _ => PS_pure _, fun b y r hd => by
    obtain ⟨a, r1, h1, h2⟩ := bind_some hd
    obtain ⟨rfl, rfl⟩ := pure_some h2
    exact hm.2 b a _ h1⟩

end

/-! `Sized rd k sz P`: entered `k` bytes into an image, `rd` leaves it `sz x` bytes into the image with a result `x`
satisfying `P`.  The offset `k` lets the size be a function of the final result alone although the
bytes taken by a field may depend on earlier fields (`Sized_bind` adds them to the offset). -/

def Sized (rd : Reader α) (k : Nat) (sz : α → Nat) (P : α → Prop) : Prop :=
  Post rd fun b x r => k + b.length = sz x + r.length ∧ P x

section
variable {k : Nat} {sz : α → Nat} {P : α → Prop}

/-- the form in which the property theorems state consumption -/
theorem Sized.consumed (h : Sized rd 0 sz P) {b r : Bytes} {x : α} (hd : rd b = some (x, r)) :
    b.length = sz x + r.length ∧ P x :=
  (h.2 b x r hd).imp_left (Nat.zero_add _).symm.trans

theorem Sized_pure (a : α) (hk : k = sz a) (hP : P a) : Sized (Reader.pure a) k sz P :=
  Post_pure fun _ => ⟨by rw [hk], hP⟩

theorem Sized_bind {m : Reader β} {f : β → Reader α} {szm : β → Nat} {Pm : β → Prop}
    (hm : Sized m 0 szm Pm) (hf : ∀ a, Pm a → Sized (f a) (k + szm a) sz P) : Sized (Reader.bind m f) k sz P :=
  ⟨PS_bind_of hm.1 fun b a r h => (hf a (hm.2 b a r h).2).1, fun b y r h => by
    obtain ⟨a, r1, h1, h2⟩ := bind_some h
    obtain ⟨l1, p1⟩ := hm.consumed h1
    obtain ⟨l2, p2⟩ := (hf a p1).2 r1 y r h2
    exact ⟨by rw [← l2, Nat.add_assoc, ← l1], p2⟩⟩

theorem Sized_byte : Sized byte 0 (fun _ => 1) (fun _ => True) :=
  ⟨PS_byte, fun _ _ _ h => ⟨by rw [byte_len h, Nat.zero_add, Nat.add_comm], trivial⟩⟩

theorem Sized_leNat : ∀ n, Sized (leNat n) 0 (fun _ => n) (fun x => x < 256 ^ n)
  | 0 => Sized_pure _ rfl (by decide)
  | n + 1 => Sized_bind Sized_byte fun y _ => Sized_bind (Sized_leNat n) fun hi hhi =>
      Sized_pure _ (by simp +arith only) (by have := y.toNat_lt; rw [Nat.pow_succ]; omega)

theorem Sized_bytesN : ∀ n, Sized (bytesN n) 0 (fun _ => n) (fun x => x.length = n)
  | 0 => Sized_pure _ rfl rfl
  | n + 1 => Sized_bind Sized_byte fun _ _ => Sized_bind (Sized_bytesN n) fun _ ht =>
      Sized_pure _ (by simp +arith only) (congrArg (· + 1) ht)

theorem Sized_skip (n : Nat) : Sized (skip n) 0 (fun _ => n) (fun _ => True) :=
  Sized_bind (Sized_bytesN n) fun _ _ => Sized_pure _ (Nat.zero_add n) trivial

theorem Sized_repeatN {m : Nat} (hrd : Sized rd 0 (fun _ => m) P) :
    ∀ n, Sized (repeatN rd n) 0 (fun _ => n * m) (fun xs => xs.length = n ∧ ∀ x ∈ xs, P x)
  | 0 => Sized_pure _ (Nat.zero_mul m).symm ⟨rfl, fun _ h => nomatch h⟩
  | n + 1 => Sized_bind hrd fun x hx => Sized_bind (Sized_repeatN hrd n) fun t ht =>
      Sized_pure _ (by simp +arith only [Nat.succ_mul])
        ⟨by rw [List.length_cons, ht.1], List.forall_mem_cons.2 ⟨hx, ht.2⟩⟩

end

theorem bytesN_len (n : Nat) (b r x : Bytes) (h : bytesN n b = some (x, r)) : x.length = n ∧ r.length + n = b.length :=
  let ⟨hl, hx⟩ := (Sized_bytesN n).consumed h
  ⟨hx, (Nat.add_comm .. ▸ hl).symm⟩

theorem leNat_len (n : Nat) (b r : Bytes) (x : Nat) (h : leNat n b = some (x, r)) : r.length + n = b.length :=
  (Nat.add_comm .. ▸ ((Sized_leNat n).consumed h).1).symm

theorem PS_leNat (n : Nat) : PS (leNat n) := (Sized_leNat n).ps
theorem PS_bytesN (n : Nat) : PS (bytesN n) := (Sized_bytesN n).ps
theorem PS_skip (n : Nat) : PS (skip n) := (Sized_skip n).ps

theorem leNat_succ_consuming (n : Nat) : Consuming (leNat (n + 1)) :=
  byte_consuming.bind fun _ => PS_bind _ _ (PS_leNat n) (fun _ => PS_pure _)

/-! `Within k acc rd μ`: the measure `μ` of whatever `rd` returns, plus the bytes left over, is at most the
credit `acc` plus the bytes given, a byte being worth `k`.  With `μ` the number of items of an image, `k = 1` and `acc = 0`
this says that no count field can make a reader produce more items than the input holds; `k = 8` is the bound
of a bit-packed image, one item per bit.  `acc` carries what the readers in front have earned through a chain of `bind`s. -/

def Within (k acc : Nat) (rd : Reader α) (μ : α → Nat) : Prop :=
  Post rd fun b x r => μ x + k * r.length ≤ acc + k * b.length

variable {k acc : Nat} {μ : α → Nat}

theorem Within.bound (h : Within k 0 rd μ) {b r : Bytes} {x : α} (hd : rd b = some (x, r)) :
    μ x + k * r.length ≤ k * b.length :=
  Nat.le_trans (h.2 b x r hd) (Nat.le_of_eq (Nat.zero_add _))

theorem Within.le (h : Within 1 0 rd μ) {b r : Bytes} {x : α} (hd : rd b = some (x, r)) :
    μ x ≤ b.length :=
  Nat.le_trans (Nat.le_add_right _ _) (Nat.one_mul b.length ▸ h.bound hd)

theorem Within.mono {μ' : α → Nat} (h : Within k acc rd μ) (hμ : ∀ x, μ' x ≤ μ x) : Within k acc rd μ' :=
  h.imp fun _ x _ => Nat.le_trans (Nat.add_le_add_right (hμ x) _)

theorem Within.of_ps (h : PS rd) : Within k acc rd fun _ => 0 :=
  ⟨h, fun _ _ _ hd => Nat.le_trans (Nat.le_of_eq (Nat.zero_add _)) <|
    Nat.le_trans (Nat.mul_le_mul_left k (h.rem_le hd)) (Nat.le_add_left _ _)⟩

theorem Within_pure {a : α} (h : μ a ≤ acc) : Within k acc (Reader.pure a) μ :=
  Post_pure fun _ => Nat.add_le_add_right h _

theorem Within_bind {m : Reader α} {f : α → Reader β} {ν : α → Nat} {μ : β → Nat}
    (hm : Within k 0 m ν) (hf : ∀ a, Within k (acc + ν a) (f a) μ) : Within k acc (Reader.bind m f) μ :=
  ⟨PS_bind _ _ hm.1 fun a => (hf a).1, fun b y r hd => by
    obtain ⟨a, r1, h1, h2⟩ := bind_some hd
    exact Nat.le_trans ((hf a).2 r1 y r h2) (Nat.add_assoc .. ▸ Nat.add_le_add_left (hm.bound h1) acc)⟩

theorem Within_pass {m : Reader α} {f : α → Reader β} {μ : β → Nat}
    (hm : PS m) (hf : ∀ a, Within k acc (f a) μ) : Within k acc (Reader.bind m f) μ :=
  Within_bind (Within.of_ps hm) hf

theorem Within_repeatN {ν : α → Nat} (h : Within k 0 rd ν) :
    ∀ n, Within k 0 (repeatN rd n) fun l => (l.map ν).sum
  | 0 => Within_pure (Nat.le_refl 0)
  | n + 1 => Within_bind h fun x => Within_bind (Within_repeatN h n) fun t =>
      Within_pure (Nat.le_of_eq (by rw [List.map_cons, List.sum_cons, Nat.zero_add]))

/-! `Within 1 0 rd fun _ => c` is `PS rd ∧ Consumes rd c` in the form that the rules above produce. -/

theorem Within.consumes {c : Nat} (h : Within 1 0 rd fun _ => c) : Consumes rd c := fun b _ r hd =>
  Nat.add_comm .. ▸ Nat.one_mul r.length ▸ Nat.one_mul b.length ▸ h.bound hd

theorem Within.of_consumes {c : Nat} (hp : PS rd) (h : Consumes rd c) : Within 1 0 rd fun _ => c :=
  ⟨hp, fun b x r hd => show c + 1 * r.length ≤ 0 + 1 * b.length by
    rw [Nat.zero_add, Nat.one_mul, Nat.one_mul, Nat.add_comm]
    exact h b x r hd⟩

theorem Within.of_consuming (hp : PS rd) (hc : Consuming rd) : Within 1 0 rd fun _ => 1 := .of_consumes hp hc

/-- `hck`: the `c` bytes are worth at least one item -/
theorem Within_item {c : Nat} (h : Within 1 0 rd fun _ => c) (hck : 1 ≤ k * c) : Within k 0 rd fun _ => 1 :=
  ⟨h.1, fun b x r hd => show 1 + k * r.length ≤ 0 + k * b.length by
    rw [Nat.zero_add, Nat.add_comm]
    exact Nat.le_trans (Nat.add_le_add_left hck _) (Nat.mul_add .. ▸ Nat.mul_le_mul_left k (h.consumes b x r hd))⟩

theorem Within_items {c : Nat} (h : Within 1 0 rd fun _ => c) (hck : 1 ≤ k * c) :
    ∀ n, Within k 0 (repeatN rd n) List.length
  | 0 => Within_pure (Nat.le_refl 0)
  | n + 1 => Within_bind (Within_item h hck) fun x => Within_bind (Within_items h hck n) fun t =>
      Within_pure (Nat.le_of_eq (by rw [List.length_cons, Nat.zero_add, Nat.add_comm]))

theorem Within_items_consuming (hp : PS rd) (hc : Consuming rd) (n : Nat) :
    Within 1 0 (repeatN rd n) List.length :=
  Within_items (.of_consuming hp hc) (Nat.le_refl 1) n

theorem Within_leNat (n : Nat) : Within 1 0 (leNat n) fun _ => n :=
  .of_consumes (PS_leNat n) fun b x r hd => Nat.le_of_eq (leNat_len n b r x hd)

/-! `Exact p rd w`: `rd` accepts only what `w` writes: entered behind the bytes `p`, a successful read has consumed
exactly what brings `p` up to `w x`, the writing of its result.  HLL only: `skip n` does not check what it skips, so a decoder
that passes over reserved bytes accepts images no writer produces. -/

def Exact (p : Bytes) (rd : Reader α) (w : α → Bytes) : Prop :=
  Post rd fun b x r => p ++ b = w x ++ r

variable {p : Bytes} {w : α → Bytes}

theorem Exact.inv (h : Exact [] rd w) {b r : Bytes} {x : α} (hd : rd b = some (x, r)) : b = w x ++ r :=
  h.2 b x r hd

theorem Exact_pure {a : α} (h : p = w a) : Exact p (Reader.pure a) w :=
  Post_pure fun _ => by rw [h]

theorem Exact_bind {m : Reader α} {f : α → Reader β} {v : α → Bytes} {w : β → Bytes}
    (hm : Exact p m v) (hf : ∀ a, Exact (v a) (f a) w) : Exact p (Reader.bind m f) w :=
  ⟨PS_bind _ _ hm.1 fun a => (hf a).1, fun b y r hd => by
    obtain ⟨a, r1, h1, h2⟩ := bind_some hd
    exact (hm.2 b a r1 h1).trans ((hf a).2 r1 y r h2)⟩

theorem Exact_field {m : Reader α} {f : α → Reader β} {v : α → Bytes} {w : β → Bytes}
    (hm : Exact [] m v) (hf : ∀ a, Exact (p ++ v a) (f a) w) : Exact p (Reader.bind m f) w :=
  Exact_bind (hm.imp fun b x r (h : b = v x ++ r) => by rw [h, List.append_assoc]) hf

theorem Exact_byte : Exact [] byte fun y => [y] := ⟨PS_byte, fun _ _ _ h => byte_inv h⟩

theorem Exact_leNat : ∀ n, Exact [] (leNat n) (wLe n)
  | 0 => Exact_pure rfl
  | n + 1 => Exact_field Exact_byte fun y => Exact_field (Exact_leNat n) fun hi => Exact_pure (by
      rw [wLe, Nat.add_mul_mod_self_left, Nat.mod_eq_of_lt y.toNat_lt, Nat.add_mul_div_left _ _ (by decide),
        Nat.div_eq_of_lt y.toNat_lt, Nat.zero_add, UInt8.ofNat_toNat]
      rfl)

theorem Exact_bytesN : ∀ n, Exact [] (bytesN n) id
  | 0 => Exact_pure rfl
  | n + 1 => Exact_field Exact_byte fun _ => Exact_field (Exact_bytesN n) fun _ => Exact_pure rfl

theorem Exact_repeatN {enc : α → Bytes} (wL : List α → Bytes) (h0 : wL [] = [])
    (h1 : ∀ x t, wL (x :: t) = enc x ++ wL t) (h : Exact [] rd enc) : ∀ n, Exact [] (repeatN rd n) wL
  | 0 => Exact_pure h0.symm
  | n + 1 => Exact_field h fun x => Exact_field (Exact_repeatN wL h0 h1 h n) fun t => Exact_pure (h1 x t).symm

end DS.Wire
