/- The sorted view shared by the quantile sketches (DSModel/SortedView.lean): on a sorted view the rank scan returns the weight of
the entries below the query point, and the quantile scan stops where its test switches between the two ranks of its answer.
Also here: `merge_eq_mergeUp` (`std::merge` on the entries is the KLL model's `mergeUp`), the `cumulate_*` facts about cumulative
weights, `checkSplitPoints_pairwise`.  Core Lean only. -/
import DSProofs.Lemmas.KllBasic
namespace DS.SortedView

variable {α : Type}

/-- a list of (item, weight) entries is ascending by item -/
def SortedE (lt : α → α → Bool) (l : List (α × Nat)) : Prop := Sorted lt (l.map Prod.fst)

/-- total weight of the entries -/
def sumW : List (α × Nat) → Nat
  | [] => 0
  | e :: t => e.2 + sumW t

/-- is `a` counted by the rank of `x`?  inclusive: `a ≤ x`; exclusive: `a < x` -/
def isBelow (lt : α → α → Bool) (x : α) (incl : Bool) (a : α) : Bool := if incl then !lt x a else lt a x

/-- total weight of the entries `≤ x` (inclusive) resp. `< x` (exclusive) -/
def weightBelow (lt : α → α → Bool) (x : α) (incl : Bool) : List (α × Nat) → Nat
  | [] => 0
  | e :: t => (if isBelow lt x incl e.1 then e.2 else 0) + weightBelow lt x incl t

/-- `sumW` and `weightBelow`, which the statements use, are its two instances -/
def wP (p : α → Bool) : List (α × Nat) → Nat
  | [] => 0
  | e :: t => (if p e.1 then e.2 else 0) + wP p t

/-- `std::merge` on the entries is `merge_sorted_arrays` (the KLL model's `mergeUp`) with the comparison on the items and the
runs exchanged: both take from the second run only what is strictly smaller.  With too little fuel the two differ. -/
theorem mergeF_eq_mergeUpF (lt : α → α → Bool) : ∀ (f : Nat) (l r : List (α × Nat)), l.length + r.length ≤ f →
    mergeF lt f l r = Kll.mergeUpF (fun p q => lt p.1 q.1) f r l
  | _, [], r => fun _ => by cases r <;> simp only [mergeF, Kll.mergeUpF]
  | _, _ :: _, [] => fun _ => by simp only [mergeF, Kll.mergeUpF]
  | 0, _ :: _, _ :: _ => fun h => absurd h (Nat.not_succ_le_zero _)
  | f + 1, a :: l, b :: r => fun h => by
    rw [mergeF, Kll.mergeUpF, mergeF_eq_mergeUpF lt f (a :: l) r (Nat.le_of_succ_le_succ h),
      mergeF_eq_mergeUpF lt f l (b :: r) (by simp only [List.length_cons] at h ⊢; omega)]

theorem merge_eq_mergeUp (lt : α → α → Bool) (l r : List (α × Nat)) :
    merge lt l r = Kll.mergeUp (fun p q => lt p.1 q.1) r l := by
  unfold merge Kll.mergeUp
  rw [Nat.add_comm r.length]
  exact mergeF_eq_mergeUpF lt _ l r (Nat.le_refl _)

@[simp] theorem merge_nil_left (lt : α → α → Bool) (r : List (α × Nat)) : merge lt [] r = r := by
  rw [merge_eq_mergeUp, Kll.mergeUp_nil_right]

@[simp] theorem merge_nil_right (lt : α → α → Bool) (l : List (α × Nat)) : merge lt l [] = l := by
  rw [merge_eq_mergeUp, Kll.mergeUp_nil_left]

theorem merge_cons_cons (lt : α → α → Bool) (a b : α × Nat) (l r : List (α × Nat)) :
    merge lt (a :: l) (b :: r) = if lt b.1 a.1 then b :: merge lt (a :: l) r else a :: merge lt l (b :: r) := by
  rw [merge_eq_mergeUp, Kll.mergeUp_cons_cons, ← merge_eq_mergeUp, ← merge_eq_mergeUp]

theorem merge_perm (lt : α → α → Bool) (l r : List (α × Nat)) : (merge lt l r).Perm (l ++ r) := by
  rw [merge_eq_mergeUp]; exact (Kll.mergeUp_perm _ r l).trans List.perm_append_comm

theorem merge_sorted {lt : α → α → Bool} (sw : StrictWeak lt) (l r : List (α × Nat)) (hl : SortedE lt l)
    (hr : SortedE lt r) : SortedE lt (merge lt l r) := by
  rw [merge_eq_mergeUp]
  exact List.pairwise_map.mpr (Kll.sorted_mergeUp (lt := fun (p q : α × Nat) => lt p.1 q.1)
    ⟨fun a b => sw.asymm a.1 b.1, fun a b c => sw.negTrans a.1 b.1 c.1⟩ r l
    (List.pairwise_map.mp hr) (List.pairwise_map.mp hl))

theorem add_eq_merge (lt : α → α → Bool) (view : List (α × Nat)) (items : List α) (w : Nat) :
    add lt view items w = merge lt view (items.map (fun x => (x, w))) := by
  unfold add
  split
  · rename_i h
    rw [List.isEmpty_iff.mp h, merge_nil_left]
  · rfl

theorem add_perm (lt : α → α → Bool) (view : List (α × Nat)) (items : List α) (w : Nat) :
    (add lt view items w).Perm (view ++ items.map (fun x => (x, w))) := by
  rw [add_eq_merge]; exact merge_perm lt _ _

theorem sortedE_map {lt : α → α → Bool} {items : List α} (w : Nat) (h : Sorted lt items) :
    SortedE lt (items.map (fun x => (x, w))) :=
  List.pairwise_map.mpr (List.pairwise_map.mpr h)

theorem add_sorted {lt : α → α → Bool} (sw : StrictWeak lt) {view : List (α × Nat)} {items : List α} (w : Nat)
    (hv : SortedE lt view) (hi : Sorted lt items) : SortedE lt (add lt view items w) := by
  rw [add_eq_merge]; exact merge_sorted sw _ _ hv (sortedE_map w hi)

theorem sumW_eq_wP (l : List (α × Nat)) : sumW l = wP (fun _ => true) l := by
  induction l with
  | nil => rfl
  | cons e t ih => rw [sumW, wP, ih, if_pos rfl]

theorem weightBelow_eq_wP (lt : α → α → Bool) (x : α) (incl : Bool) (l : List (α × Nat)) :
    weightBelow lt x incl l = wP (isBelow lt x incl) l := by
  induction l with
  | nil => rfl
  | cons e t ih => rw [weightBelow, wP, ih]

theorem wP_append (p : α → Bool) : ∀ a b : List (α × Nat), wP p (a ++ b) = wP p a + wP p b
  | [], b => (Nat.zero_add _).symm
  | e :: t, b => by rw [List.cons_append, wP, wP, wP_append p t b, Nat.add_assoc]

theorem wP_perm (p : α → Bool) {a b : List (α × Nat)} (h : a.Perm b) : wP p a = wP p b := by
  induction h with
  | nil => rfl
  | cons x _ ih => rw [wP, wP, ih]
  | swap x y l => simp only [wP]; exact Nat.add_left_comm ..
  | trans _ _ ih1 ih2 => exact ih1.trans ih2

theorem wP_map_const (p : α → Bool) (items : List α) (w : Nat) :
    wP p (items.map (fun a => (a, w))) = w * (items.filter p).length := by
  induction items with
  | nil => rfl
  | cons a t ih =>
    rw [List.map_cons, wP, ih, List.filter_cons]
    split
    · rw [List.length_cons, Nat.mul_succ, Nat.add_comm]
    · exact Nat.zero_add _

theorem wP_add (lt : α → α → Bool) (p : α → Bool) (view : List (α × Nat)) (items : List α) (w : Nat) :
    wP p (add lt view items w) = wP p view + w * (items.filter p).length := by
  rw [wP_perm p (add_perm lt view items w), wP_append, wP_map_const]

theorem wP_mono {p q : α → Bool} (h : ∀ a, p a = true → q a = true) : ∀ l : List (α × Nat), wP p l ≤ wP q l
  | [] => Nat.le_refl _
  | e :: t => by
    refine Nat.add_le_add ?_ (wP_mono h t)
    split
    · rw [if_pos (h _ ‹_›)]; exact Nat.le_refl _
    · exact Nat.zero_le _

theorem wP_congr {p q : α → Bool} : ∀ l : List (α × Nat), (∀ e ∈ l, p e.1 = q e.1) → wP p l = wP q l
  | [], _ => rfl
  | e :: t, h => by
    rw [wP, wP, h e List.mem_cons_self, wP_congr t fun e' he' => h e' (List.mem_cons_of_mem _ he')]

theorem wP_false : ∀ l : List (α × Nat), wP (fun _ => false) l = 0
  | [] => rfl
  | e :: t => by rw [wP, wP_false t, if_neg Bool.false_ne_true]

theorem foldl_total (l : List (α × Nat)) (acc : Nat) : l.foldl (fun a e => a + e.2) acc = acc + sumW l := by
  induction l generalizing acc with
  | nil => rfl
  | cons e t ih => rw [List.foldl_cons, ih, sumW, Nat.add_assoc]

theorem total_eq_sumW (l : List (α × Nat)) : total l = sumW l :=
  (foldl_total l 0).trans (Nat.zero_add _)

theorem cumulate_fst : ∀ (acc : Nat) (raw : List (α × Nat)), (cumulate acc raw).map Prod.fst = raw.map Prod.fst
  | _, [] => rfl
  | acc, (x, w) :: t => by simp only [cumulate, List.map_cons, cumulate_fst (acc + w) t]

theorem cumulate_length (acc : Nat) (raw : List (α × Nat)) : (cumulate acc raw).length = raw.length := by
  have := congrArg List.length (cumulate_fst acc raw); simpa using this

theorem cumulate_ge (m : Nat) : ∀ (acc : Nat) (raw : List (α × Nat)), (∀ e ∈ raw, m ≤ e.2) →
    ∀ e ∈ cumulate acc raw, acc + m ≤ e.2
  | _, [] => fun _ _ he => nomatch he
  | acc, (x, w) :: t => fun h e he => by
    have hw : m ≤ w := h (x, w) List.mem_cons_self
    rcases List.mem_cons.mp he with rfl | he
    · exact Nat.add_le_add_left hw acc
    · exact Nat.le_trans (Nat.add_le_add_right (Nat.le_add_right acc w) m)
        (cumulate_ge m (acc + w) t (fun e he => h e (List.mem_cons_of_mem _ he)) e he)

/-- `m = 0` and `m = 1` (no empty entry) are the two uses (`view_total`, Props/C07_View): cumulative weights never decrease, resp.
strictly increase -/
theorem cumulate_pairwise (m : Nat) : ∀ (acc : Nat) (raw : List (α × Nat)), (∀ e ∈ raw, m ≤ e.2) →
    (cumulate acc raw).Pairwise (fun a b => a.2 + m ≤ b.2)
  | _, [] => fun _ => List.Pairwise.nil
  | acc, (x, w) :: t => fun h => by
    have ht := fun e he => h e (List.mem_cons_of_mem _ he)
    exact List.pairwise_cons.mpr ⟨cumulate_ge m (acc + w) t ht, cumulate_pairwise m (acc + w) t ht⟩

theorem cumulate_le : ∀ (acc : Nat) (raw : List (α × Nat)), ∀ e ∈ cumulate acc raw, e.2 ≤ acc + sumW raw
  | _, [] => fun _ he => nomatch he
  | acc, (x, w) :: t => fun e he => by
    rw [sumW, ← Nat.add_assoc]
    rcases List.mem_cons.mp he with rfl | he
    · exact Nat.le_add_right _ _
    · exact cumulate_le (acc + w) t e he

theorem cumulate_getLast? : ∀ (acc : Nat) (raw : List (α × Nat)), raw ≠ [] →
    (cumulate acc raw).getLast?.map Prod.snd = some (acc + sumW raw)
  | _, [] => fun h => absurd rfl h
  | acc, [(x, w)] => fun _ => rfl
  | acc, (x, w) :: (y1, y2) :: t => fun _ => by
    have := cumulate_getLast? (acc + w) ((y1, y2) :: t) (List.cons_ne_nil _ _)
    rw [cumulate] at this
    rw [cumulate, cumulate, List.getLast?_cons_cons, this]
    exact congrArg some (Nat.add_assoc ..)

theorem isBelow_incl {lt : α → α → Bool} {x a : α} : isBelow lt x true a = true ↔ lt x a = false :=
  Iff.of_eq (Bool.not_eq_true' (lt x a))

theorem isBelow_excl {lt : α → α → Bool} {x a : α} : isBelow lt x false a = lt a x := rfl

theorem isBelow_trans {lt : α → α → Bool} (sw : StrictWeak lt) {a e x y : α} (incl : Bool) (hae : lt e a = false)
    (hxy : lt y x = false) (h : isBelow lt x incl e = true) : isBelow lt y incl a = true := by
  cases incl with
  | true => exact isBelow_incl.mpr (sw.negTrans y x a hxy (sw.negTrans x e a (isBelow_incl.mp h) hae))
  | false =>
    rw [isBelow_excl] at h ⊢
    cases hay : lt a y with
    | true => rfl
    | false => rw [sw.negTrans e y x (sw.negTrans e a y hae hay) hxy] at h; exact h

theorem isBelow_excl_incl {lt : α → α → Bool} (sw : StrictWeak lt) (x a : α) (h : isBelow lt x false a = true) :
    isBelow lt x true a = true :=
  isBelow_incl.mpr (sw.asymm a x h)

theorem rankGo_cons (lt : α → α → Bool) (x : α) (incl : Bool) (a : α) (c : Nat) (t : List (α × Nat)) (acc : Nat) :
    rankGo lt x incl ((a, c) :: t) acc = if isBelow lt x incl a then rankGo lt x incl t c else acc := by
  rw [rankGo, isBelow]; cases incl <;> cases lt x a <;> cases lt a x <;> rfl

theorem rankGo_eq {lt : α → α → Bool} (sw : StrictWeak lt) (x : α) (incl : Bool) :
    ∀ (raw : List (α × Nat)) (acc : Nat), SortedE lt raw →
    rankGo lt x incl (cumulate acc raw) acc = acc + wP (isBelow lt x incl) raw
  | [] => fun _ _ => rfl
  | (a, w) :: t => fun acc hs => by
    have hs' := List.pairwise_cons.mp (show Sorted lt (a :: t.map Prod.fst) from hs)
    rw [cumulate, rankGo_cons, wP]
    split
    · rw [rankGo_eq sw x incl t (acc + w) hs'.2, Nat.add_assoc]
    · -- the scan stops at `a`: nothing from here on is below the bound
      rename_i hb
      rw [wP_congr (q := fun _ => false) t fun e he => Bool.eq_false_iff.mpr fun h =>
        hb (isBelow_trans sw incl (hs'.1 e.1 (List.mem_map_of_mem he)) (sw.irrefl x) h), wP_false]
      rfl

theorem rankNum_eq {lt : α → α → Bool} (sw : StrictWeak lt) (raw : List (α × Nat)) (hs : SortedE lt raw) (x : α) (incl : Bool) :
    rankNum lt (build raw) x incl = wP (isBelow lt x incl) raw :=
  (rankGo_eq sw x incl raw 0 hs).trans (Nat.zero_add _)

theorem rankNum_mono {lt : α → α → Bool} (sw : StrictWeak lt) {raw : List (α × Nat)} (hs : SortedE lt raw)
    {x y : α} (hxy : lt y x = false) (incl : Bool) :
    rankNum lt (build raw) x incl ≤ rankNum lt (build raw) y incl := by
  rw [rankNum_eq sw raw hs, rankNum_eq sw raw hs]
  exact wP_mono (fun a => isBelow_trans sw incl (sw.irrefl a) hxy) raw

theorem rankNum_excl_le_incl {lt : α → α → Bool} (sw : StrictWeak lt) {raw : List (α × Nat)} (hs : SortedE lt raw) (x : α) :
    rankNum lt (build raw) x false ≤ rankNum lt (build raw) x true := by
  rw [rankNum_eq sw raw hs, rankNum_eq sw raw hs]
  exact wP_mono (isBelow_excl_incl sw x) raw

theorem rankNum_le_total {lt : α → α → Bool} (sw : StrictWeak lt) {raw : List (α × Nat)} (hs : SortedE lt raw) (x : α)
    (incl : Bool) : rankNum lt (build raw) x incl ≤ (build raw).total := by
  rw [rankNum_eq sw raw hs, build, total_eq_sumW, sumW_eq_wP]
  exact wP_mono (fun _ _ => rfl) raw

/-- the stop test of `quantGo` -/
def qhit (weight : Nat) (incl : Bool) (c : Nat) : Bool := if incl then !(decide (c < weight)) else decide (weight < c)

theorem qhit_incl {w c : Nat} : qhit w true c = true ↔ w ≤ c := by simp [qhit]

theorem qhit_excl {w c : Nat} : qhit w false c = true ↔ w < c := by simp [qhit]

theorem qhit_le {w1 w2 : Nat} (incl : Bool) {c d : Nat} (hw : w1 ≤ w2) (hc : c ≤ d) (h : qhit w2 incl c = true) :
    qhit w1 incl d = true := by
  cases incl
  · exact qhit_excl.mpr (Nat.lt_of_le_of_lt hw (Nat.lt_of_lt_of_le (qhit_excl.mp h) hc))
  · exact qhit_incl.mpr (Nat.le_trans hw (Nat.le_trans (qhit_incl.mp h) hc))

theorem quantGo_cons (weight : Nat) (incl : Bool) (x : α) (c : Nat) (t : List (α × Nat)) (last : Option α) :
    quantGo weight incl ((x, c) :: t) last = if qhit weight incl c then some x else quantGo weight incl t (some x) := by
  simp only [quantGo, qhit]; cases incl <;> simp

theorem quantGo_mem (weight : Nat) (incl : Bool) : ∀ (ents : List (α × Nat)) (last : Option α),
    last.toList ++ ents.map Prod.fst ≠ [] →
    ∃ q, quantGo weight incl ents last = some q ∧ q ∈ last.toList ++ ents.map Prod.fst
  | [], none => fun h => absurd rfl h
  | [], some l => fun _ => ⟨l, rfl, List.mem_singleton_self l⟩
  | (x, c) :: t, last => fun _ => by
    rw [quantGo_cons]
    split
    · exact ⟨x, rfl, List.mem_append_right _ List.mem_cons_self⟩
    · obtain ⟨q, hq, hm⟩ := quantGo_mem weight incl t (some x) (List.cons_ne_nil _ _)
      exact ⟨q, hq, List.mem_append_right _ hm⟩

theorem quantGo_ge {lt : α → α → Bool} (sw : StrictWeak lt) (weight : Nat) (incl : Bool) {x q : α} {ents : List (α × Nat)}
    (hs : Sorted lt (x :: ents.map Prod.fst)) (hq : quantGo weight incl ents (some x) = some q) : lt q x = false := by
  obtain ⟨q', hq', hm⟩ := quantGo_mem weight incl ents (some x) (List.cons_ne_nil _ _)
  rw [hq, Option.some.injEq] at hq'; subst hq'
  rcases List.mem_cons.mp hm with rfl | hm
  · exact sw.irrefl _
  · exact (List.pairwise_cons.mp hs).1 q hm

/-- `last`, if any, is the entry before `ents` -/
theorem quantGo_mono {lt : α → α → Bool} (sw : StrictWeak lt) {w1 w2 : Nat} (hw : w1 ≤ w2) (incl : Bool) :
    ∀ (ents : List (α × Nat)) (last : Option α), Sorted lt (last.toList ++ ents.map Prod.fst) →
    ∀ q1 q2, quantGo w1 incl ents last = some q1 → quantGo w2 incl ents last = some q2 → lt q2 q1 = false
  | [] => fun _ _ q1 q2 h1 h2 => by cases Option.some.inj (h1.symm.trans h2); exact sw.irrefl q1
  | (x, c) :: t => fun last hs q1 q2 h1 h2 => by
    rw [quantGo_cons] at h1 h2
    have hs' : Sorted lt (x :: t.map Prod.fst) := (List.pairwise_append.mp hs).2.1
    split at h2
    · -- the scan for `w2` stops at `x`: so does the one for `w1`
      rw [if_pos (qhit_le incl hw (Nat.le_refl c) ‹_›)] at h1
      rw [← Option.some.inj h1, ← Option.some.inj h2]; exact sw.irrefl x
    · split at h1
      · rw [← Option.some.inj h1]; exact quantGo_ge sw w2 incl hs' h2
      · exact quantGo_mono sw hw incl t (some x) hs' q1 q2 h1 h2

/-- the quantile scan against the two rank scans of its answer `q` on the same cumulative view: the stop test switches between
the exclusive and the inclusive rank of `q` (`acc`: the running total, for the induction) -/
theorem quantGo_dual {lt : α → α → Bool} (sw : StrictWeak lt) (w : Nat) (incl : Bool) :
    ∀ (raw : List (α × Nat)) (acc : Nat) (last : Option α) (q : α), SortedE lt raw → ¬ qhit w incl acc = true →
    qhit w incl (acc + sumW raw) = true → quantGo w incl (cumulate acc raw) last = some q →
    qhit w incl (rankGo lt q true (cumulate acc raw) acc) = true ∧ ¬ qhit w incl (rankGo lt q false (cumulate acc raw) acc) = true
  | [] => fun _ _ _ _ h1 h2 _ => absurd h2 h1
  | (a, wa) :: t => fun acc last q hs h1 h2 hq => by
    have hs' := List.pairwise_cons.mp (show Sorted lt (a :: t.map Prod.fst) from hs)
    rw [cumulate, quantGo_cons] at hq
    rw [sumW, ← Nat.add_assoc] at h2
    rw [cumulate, rankGo_cons, rankGo_cons]
    split at hq
    · -- the scan stops at `a`: the exclusive rank scan stops before it, the inclusive one goes past it
      rename_i hh
      rw [← Option.some.inj hq, if_pos (isBelow_incl.mpr (sw.irrefl a)), isBelow_excl, sw.irrefl a, if_neg Bool.false_ne_true,
        rankGo_eq sw a true t _ hs'.2]
      exact ⟨qhit_le incl (Nat.le_refl w) (Nat.le_add_right _ _) hh, h1⟩
    · -- the scan goes on, so `a ≤ q`: the inclusive rank scan goes on as well, the exclusive one goes on or stops at `acc`
      have ih := quantGo_dual sw w incl t (acc + wa) (some a) q hs'.2 ‹_› h2 hq
      rw [if_pos (isBelow_incl.mpr (quantGo_ge sw w incl (by rw [cumulate_fst]; exact hs) hq))]
      refine ⟨ih.1, ?_⟩
      split
      · exact ih.2
      · exact h1

/-- on unit weights both stop tests are one: the entry of index `i` has cumulative weight `acc + i + 1`, and the scan stops
there when `k ≤ acc + i`, with `k = w - 1` resp. `w` -/
theorem qhit_succ (w : Nat) (incl : Bool) (acc : Nat) :
    qhit w incl (acc + 1) = true ↔ (if incl then w - 1 else w) - acc = 0 := by
  cases incl
  · rw [qhit_excl, if_neg Bool.false_ne_true, Nat.sub_eq_zero_iff_le]; exact Nat.lt_succ_iff
  · rw [qhit_incl, if_pos rfl, Nat.sub_eq_zero_iff_le]; exact Nat.sub_le_iff_le_add.symm

theorem quantGo_unit (w : Nat) (incl : Bool) : ∀ (l : List α) (acc : Nat) (last : Option α),
    quantGo w incl (cumulate acc (l.map (fun x => (x, 1)))) last =
      match l[(if incl then w - 1 else w) - acc]? with
      | some x => some x
      | none => (l.getLast?).or last
  | [] => fun _ _ => rfl
  | x :: t => fun acc last => by
    rw [List.map_cons, cumulate, quantGo_cons]
    cases h : (if incl then w - 1 else w) - acc with
    | zero => rw [if_pos ((qhit_succ w incl acc).mpr h)]; rfl
    | succ n =>
      rw [if_neg (fun hc => absurd ((qhit_succ w incl acc).mp hc) (h ▸ Nat.succ_ne_zero n)),
        quantGo_unit w incl t (acc + 1) (some x), Nat.sub_add_eq, h, Nat.add_sub_cancel,
        List.getElem?_cons_succ, List.getLast?_cons]
      cases t[n]? <;> cases t.getLast? <;> rfl

/-- the test is on neighbours; transitivity carries it to all pairs -/
theorem checkSplitPoints_pairwise {lt : α → α → Bool} (sw : StrictWeak lt) (isNaN : α → Bool) : ∀ sps : List α,
    checkSplitPoints lt isNaN sps = true → sps.Pairwise (fun a b => lt a b = true)
  | [], _ => List.Pairwise.nil
  | [_], _ => List.pairwise_singleton _ _
  | x :: y :: t, hv => by
    simp only [checkSplitPoints, Bool.and_eq_true] at hv
    have ih := checkSplitPoints_pairwise sw isNaN (y :: t) hv.2
    exact List.pairwise_cons.mpr ⟨fun z hz => (List.mem_cons.mp hz).elim (· ▸ hv.1.2)
      fun hz => sw.trans hv.1.2 ((List.pairwise_cons.mp ih).1 z hz), ih⟩

end DS.SortedView
