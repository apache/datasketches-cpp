/- The relation between a classic quantiles sketch and the items it has accepted: `RelC` (count, no NaN, content) needs nothing of
the comparator, `RelM` (min / max) a strict weak order; `RelC` and the conjunction `Rel` of the two satisfy `RelOK` (`relC_ok`,
`rel_ok`). -/
import DSProofs.Lemmas.QuantilesMerge
namespace DS.Quantiles

variable {α : Type}

structure RelC (c : Cmp α) (s : Sketch α) (items : List α) : Prop where
  len : s.n = items.length
  ok : ∀ x ∈ items, c.nan x = false
  sub : ∀ x ∈ s.bb, x ∈ items
  exact : s.bits = 0 → s.bb.Perm items

def MinRel (lt : α → α → Bool) : Option α → List α → Prop
  | none, items => items = []
  | some a, items => a ∈ items ∧ ∀ x ∈ items, lt x a = false

/-- the code treats `max_item_` as `min_item_` with the comparator's arguments swapped: every fact below is stated for the
minimum -/
abbrev MaxRel (lt : α → α → Bool) : Option α → List α → Prop := MinRel (fun a b => lt b a)

theorem mergeMax_eq (lt : α → α → Bool) (a b : Option α) : mergeMax lt a b = mergeMin (fun a b => lt b a) a b := by
  cases a <;> cases b <;> rfl

structure RelM (c : Cmp α) (s : Sketch α) (items : List α) : Prop where
  mn : MinRel c.lt s.minItem items
  mx : MaxRel c.lt s.maxItem items

theorem relC_ok (c : Cmp α) (S : List α → Prop) : RelOK c S (RelC c) where
  upd := by
    intro s items x s' _ hr hx hp
    refine ⟨by rw [hp.n_eq, hr.len]; simp, ?_, ?_, ?_⟩
    · intro y hy
      rcases List.mem_append.mp hy with h | h
      · exact hr.ok y h
      · simp at h; rw [h]; exact hx
    · intro y hy
      rcases hp.shape with ⟨hb, _, _⟩ | ⟨hb, _⟩
      · rw [hb] at hy
        rcases List.mem_append.mp hy with h | h
        · exact List.mem_append_left _ (hr.sub y h)
        · exact List.mem_append_right _ h
      · rw [hb] at hy; simp at hy
    · intro hb0
      rcases hp.shape with ⟨hb, hbits, _⟩ | ⟨_, hbits⟩
      · rw [hb]; exact List.Perm.append_right [x] (hr.exact (by rw [← hbits]; exact hb0))
      · omega
  perm := by
    intro s items items' hr hp
    exact ⟨by rw [hr.len, hp.length_eq], fun x hx => hr.ok x (hp.mem_iff.mpr hx),
      fun x hx => hp.mem_iff.mp (hr.sub x hx), fun hb => (hr.exact hb).trans hp⟩
  len := fun _ _ hr => hr.len
  exact_bb := fun _ _ _ hr hb => hr.exact hb
  levelMerge := by
    intro t1 src it is factor N lv h1 hs _ _ hfpos hn
    refine ⟨?_, ?_, ?_, ?_⟩
    · have a := h1.len; have b := hs.len
      simp only [List.length_append] at a ⊢
      omega
    · intro x hx
      rcases List.mem_append.mp hx with h | h
      · exact h1.ok x (List.mem_append_left _ h)
      · exact hs.ok x h
    · intro x hx
      rcases List.mem_append.mp (h1.sub x hx) with h | h
      · exact List.mem_append_left _ h
      · exact List.mem_append_right _ (hs.sub x h)
    · intro hb0
      have hb0 : t1.bits + src.bits * factor = 0 := hb0
      have hsb : src.bits = 0 := (Nat.mul_eq_zero.mp (Nat.eq_zero_of_add_eq_zero_left hb0)).resolve_right (Nat.ne_of_gt hfpos)
      exact (h1.exact (Nat.eq_zero_of_add_eq_zero_right hb0)).trans (List.Perm.append_left it (hs.exact hsb))
  sortbb := by
    intro s items hr
    obtain ⟨_, hn, hb, _, _, _, hp⟩ := sortBB_fields c s
    exact ⟨by rw [hn]; exact hr.len, hr.ok, fun x hx => hr.sub x (hp.mem_iff.mp hx),
      fun h0 => hp.trans (hr.exact (by rw [← hb]; exact h0))⟩
  new := fun k => ⟨rfl, by simp, by simp [Sketch.new], fun _ => by simp [Sketch.new]⟩

theorem minRel_congr {lt : α → α → Bool} {m : Option α} {a b : List α} (h : MinRel lt m a)
    (hab : ∀ x, x ∈ a ↔ x ∈ b) : MinRel lt m b := by
  cases m with
  | none =>
    cases h
    exact List.eq_nil_iff_forall_not_mem.mpr fun x hx => List.not_mem_nil ((hab x).mpr hx)
  | some x => exact ⟨(hab x).mp h.1, fun y hy => h.2 y ((hab y).mpr hy)⟩

theorem minRel_union {lt : α → α → Bool} (h : SWO lt) {a b : Option α} {A B : List α}
    (ha : MinRel lt a A) (hb : MinRel lt b B) : MinRel lt (mergeMin lt a b) (A ++ B) := by
  cases a with
  | none => cases ha; exact hb
  | some x =>
    cases b with
    | none => cases hb; rw [List.append_nil]; exact ha
    | some y =>
      have key : ∀ {u v : α} {V : List α}, (∀ z ∈ V, lt z v = false) → lt v u = false → ∀ z ∈ V, lt z u = false :=
        fun hV hvu z hz => h.ntrans z _ _ (hV z hz) hvu
      rw [mergeMin]
      cases hyx : lt y x with
      | true =>
        rw [if_pos rfl]
        have hxy : lt x y = false := by
          cases hxy : lt x y with
          | false => rfl
          | true => exact absurd (h.trans y x y hyx hxy) (by rw [h.irrefl]; decide)
        exact ⟨List.mem_append_right _ hb.1, fun z hz => (List.mem_append.mp hz).elim (key ha.2 hxy z) (hb.2 z)⟩
      | false =>
        rw [if_neg Bool.false_ne_true]
        exact ⟨List.mem_append_left _ ha.1, fun z hz => (List.mem_append.mp hz).elim (ha.2 z) (key hb.2 hyx z)⟩

/-- the update rule (`newMin`; `newMax` for the converse comparator) is the merge rule for a single item -/
theorem minRel_update {lt : α → α → Bool} (h : SWO lt) {n : Nat} {m : Option α} {items : List α} (x : α)
    (hn : n = items.length) (hm : MinRel lt m items) :
    MinRel lt (if n = 0 then some x else m.map (fun m => if lt x m then x else m)) (items ++ [x]) := by
  have e : (if n = 0 then some x else m.map (fun m => if lt x m then x else m)) = mergeMin lt m (some x) := by
    cases m with
    | none => cases hm; rw [if_pos (show n = 0 from hn)]; rfl
    | some a =>
      rw [if_neg (hn ▸ Nat.ne_of_gt (List.length_pos_of_mem hm.1)), Option.map, mergeMin]
      split <;> rfl
  exact e ▸ minRel_union h hm ⟨List.mem_singleton_self x, fun _ hy => List.mem_singleton.mp hy ▸ h.irrefl x⟩

/-- `hsub`: the source's base buffer `bb` lies inside the source's items `is` -/
theorem minRel_merge {lt : α → α → Bool} (h : SWO lt) {a b : Option α} {it is bb : List α}
    (ha : MinRel lt a (it ++ bb)) (hb : MinRel lt b is) (hsub : ∀ x ∈ bb, x ∈ is) :
    MinRel lt (mergeMin lt a b) (it ++ is) :=
  minRel_congr (minRel_union h ha hb) fun x => by
    simp only [List.mem_append]
    exact ⟨fun hx => hx.elim (fun hx => hx.elim .inl fun hx => .inr (hsub x hx)) .inr,
      fun hx => hx.elim (fun hx => .inl (.inl hx)) .inr⟩

theorem minRel_perm {lt : α → α → Bool} {m : Option α} {a b : List α} (h : MinRel lt m a) (hp : a.Perm b) :
    MinRel lt m b :=
  minRel_congr h fun _ => hp.mem_iff

def Rel (c : Cmp α) (s : Sketch α) (items : List α) : Prop := RelC c s items ∧ RelM c s items

theorem rel_ok (c : Cmp α) (S : List α → Prop) (h : SWO c.lt) : RelOK c S (Rel c) where
  upd := by
    intro s items x s' hi hr hx hp
    refine ⟨(relC_ok c S).upd s items x s' hi hr.1 hx hp, ?_, ?_⟩
    · rw [hp.min_eq]; exact minRel_update h x hr.1.len hr.2.mn
    · rw [hp.max_eq]; exact minRel_update h.flip x hr.1.len hr.2.mx
  perm := fun s a b hr hp => ⟨(relC_ok c S).perm s a b hr.1 hp, minRel_perm hr.2.mn hp, minRel_perm hr.2.mx hp⟩
  len := fun _ _ hr => hr.1.len
  exact_bb := fun _ _ _ hr hb => hr.1.exact hb
  levelMerge := fun t1 src it is factor N lv h1 hs hsi hti hf hn =>
    ⟨(relC_ok c S).levelMerge t1 src it is factor N lv h1.1 hs.1 hsi hti hf hn, minRel_merge h h1.2.mn hs.2.mn hs.1.sub,
      mergeMax_eq c.lt _ _ ▸ minRel_merge h.flip h1.2.mx hs.2.mx hs.1.sub⟩
  sortbb := by
    intro s items hr
    obtain ⟨_, _, _, _, hmn, hmx, _⟩ := sortBB_fields c s
    exact ⟨(relC_ok c S).sortbb s items hr.1, by rw [hmn]; exact hr.2.mn, by rw [hmx]; exact hr.2.mx⟩
  new := fun k => ⟨(relC_ok c S).new k, by simp [Sketch.new, MinRel], by simp [Sketch.new, MinRel]⟩

end DS.Quantiles
