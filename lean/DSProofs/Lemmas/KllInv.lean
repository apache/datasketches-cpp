/- Structural invariant of the KLL model and its preservation by update (compress_while_updating). -/
import DSProofs.Lemmas.KllCap
import DSProofs.Lemmas.KllMech
namespace DS.Kll
open DS DS.SortedView DS.Mech

variable {α : Type}

/-- level 0 is not asked to be sorted: it is sorted on demand (`sort_level_zero`) -/
def LevelsSorted (lt : α → α → Bool) (L : List (List α)) : Prop := ∀ i, 0 < i → Sorted lt (L.getD i [])

/-- The structural invariant of a sketch.  `itemsSize` is `items_size_`, the allocated length of `items_`: `cap` and `ret_le` say
that the retained items fit.  `top`: the top level is non-empty unless it is level 0 (a sketch that has not compacted yet, the
empty one included); this is what bounds `num_levels_` by `ub_on_num_levels(n)`. -/
structure InvS (P : Params) (lt : α → α → Bool) (s : Sketch α) : Prop where
  ne : s.levels ≠ []
  weight : weightSum 0 s.levels = s.n
  cap : s.itemsSize = computeTotalCapacity P s.k s.levels.length
  ret_le : sizeSum s.levels ≤ s.itemsSize
  sorted : LevelsSorted lt s.levels
  sorted0 : s.sorted0 = true → Sorted lt (s.levels.getD 0 [])
  top : s.levels.length = 1 ∨ s.levels.getD (s.levels.length - 1) [] ≠ []

theorem levels_eq_cons {P : Params} {lt : α → α → Bool} {s : Sketch α} (h : InvS P lt s) :
    s.levels = s.levels.headD [] :: s.levels.tail := by
  cases hs : s.levels with
  | nil => exact absurd hs h.ne
  | cons a b => rfl

theorem init_inv (P : Params) (ok : ParamsOk P) (lt : α → α → Bool) (k : Nat) (hk : validK P k = true) :
    InvS P lt (init k : Sketch α) := by
  have hk' : P.m ≤ k := by
    simp only [validK, Bool.and_eq_true, decide_eq_true_eq] at hk
    have := ok.minK_ge; omega
  refine ⟨by simp [init], by simp [init, weightSum], ?_, by simp [init, sizeSum], ?_, by simp [init], Or.inl (by simp [init])⟩
  · simp only [init, List.length_singleton]; exact (computeTotalCapacity_one P ok k hk').symm
  · intro i hi
    have : ([[]] : List (List α)).getD i [] = [] := by
      cases i with
      | zero => omega
      | succ j => simp
    simp only [init, this]; exact List.Pairwise.nil

/-- what `push` and `sort_level_zero` do to a sketch -/
theorem InvS.headLevel {P : Params} {lt : α → α → Bool} {s : Sketch α} (h : InvS P lt s) (l0' : List α) (n' : Nat) (b : Bool)
    (hn : n' + (s.levels.headD []).length = s.n + l0'.length) (hret : l0'.length + sizeSum s.levels.tail ≤ s.itemsSize)
    (h0 : b = true → Sorted lt l0') : InvS P lt { s with levels := l0' :: s.levels.tail, n := n', sorted0 := b } := by
  obtain ⟨l0, t, hL⟩ : ∃ l0 t, s.levels = l0 :: t := ⟨_, _, levels_eq_cons h⟩
  obtain ⟨-, hw, hc, -, hs, -, ht⟩ := h
  rw [hL] at hw hc hs ht hn hret ⊢
  rw [weightSum_zero_cons] at hw
  simp only [List.headD_cons, List.tail_cons] at hn hret ⊢
  exact {
    ne := List.cons_ne_nil _ _
    weight := by rw [weightSum_zero_cons]; show l0'.length + weightSum 1 t = n'; omega
    cap := hc
    ret_le := hret
    sorted := fun i hi => match i, hi with | j + 1, _ => hs (j + 1) (Nat.succ_pos j)
    sorted0 := h0
    top := by
      cases t with
      | nil => exact Or.inl rfl
      | cons a b => exact ht }

theorem push_inv {P : Params} {lt : α → α → Bool} {s : Sketch α} (h : InvS P lt s)
    (hlt : sizeSum s.levels < s.itemsSize) (x : α) : InvS P lt (push s x) := by
  rw [sizeSum_headD_tail] at hlt
  exact h.headLevel (x :: s.levels.headD []) (s.n + 1) false (Nat.add_right_comm ..)
    (by rw [List.length_cons, Nat.add_right_comm]; exact hlt) (fun h => nomatch h)

/-- the two order clauses of `InvS`, for a level list carried without its sketch (`general_compress`) -/
def LevelsOrd (lt : α → α → Bool) (sorted0 : Bool) (L : List (List α)) : Prop :=
  LevelsSorted lt L ∧ (sorted0 = true → Sorted lt (L.getD 0 []))

/-- `i == 0 && !sorted0`: exactly an unsorted level 0 is sorted first, as `compress_while_updating` and `general_compress` do -/
theorem LevelsOrd.compactCore {lt : α → α → Bool} (sw : StrictWeak lt) {sorted0 : Bool} {L : List (List α)} {i : Nat}
    (up c : Bool) (hi : i < L.length) (h : LevelsOrd lt sorted0 L) :
    LevelsOrd lt sorted0 (compactCore lt L i (i == 0 && !sorted0) up c) := by
  have hL : ∀ j, 0 < j ∨ sorted0 = true → Sorted lt (L.getD j []) := fun j hj => by
    cases j with
    | zero => exact h.2 (hj.resolve_left (Nat.lt_irrefl 0))
    | succ j => exact h.1 _ (Nat.succ_pos j)
  have hadj : Sorted lt (adjOf lt (i == 0 && !sorted0) (L.getD i [])) := by
    cases i with
    | zero => cases sorted0 with
      | false => exact sorted_adjOf_true sw _
      | true => exact sorted_adjOf _ (h.2 rfl)
    | succ j => exact sorted_adjOf _ (h.1 _ (Nat.succ_pos j))
  have key : ∀ j, 0 < j ∨ sorted0 = true → Sorted lt ((Mech.compactCore lt L i (i == 0 && !sorted0) up c).getD j []) := by
    intro j hj
    by_cases h1 : j = i
    · rw [h1, getD_compactCore_self lt _ up c hi]; exact sorted_leftoverOf _
    · by_cases h2 : j = i + 1
      · rw [h2, getD_compactCore_succ lt _ up c hi]
        exact sorted_mergeUp sw _ _ (sorted_halfUpDown up c hadj) (h.1 _ (Nat.succ_pos i))
      · rw [getD_compactCore_ne lt _ up c L h1 h2]; exact hL j hj
  exact ⟨fun j hj => key j (Or.inl hj), fun h0 => key 0 (Or.inr h0)⟩

theorem top_compactCore (lt : α → α → Bool) (srt up c : Bool) {L : List (List α)} {i : Nat} (hi : i < L.length)
    (h2 : 2 ≤ (L.getD i []).length) (ht : L.length = 1 ∨ L.getD (L.length - 1) [] ≠ []) :
    (compactCore lt L i srt up c).getD ((compactCore lt L i srt up c).length - 1) [] ≠ [] := by
  have hs : (compactCore lt L i srt up c).getD (i + 1) [] ≠ [] := fun hnil => by
    have := congrArg List.length (getD_compactCore_succ lt srt up c hi)
    rw [hnil, List.length_nil, mergeUp_length, halfUpDown_adjOf_length] at this
    exact Nat.ne_of_gt (Nat.add_pos_left (Nat.div_pos h2 Nat.zero_lt_two) _) this.symm
  rw [compactCore_length]
  simp only [lenAfter]
  by_cases htop : i + 1 = L.length
  · rw [if_pos (beq_iff_eq.mpr htop), ← htop]; exact hs
  · rw [if_neg (by rw [beq_iff_eq]; exact htop)]
    obtain ⟨n, hn⟩ : ∃ n, L.length = n + 1 := ⟨L.length - 1, (Nat.succ_pred_eq_of_pos (Nat.zero_lt_of_lt hi)).symm⟩
    rw [hn] at hi htop ht ⊢
    -- the top level `n` is the one that received the half, or an untouched one: then `ht` speaks of it, `L.length = 1` being
    -- impossible below the top (`i = 0` would be the top level)
    by_cases h3 : n = i + 1
    · rw [h3]; exact hs
    · rw [Nat.add_sub_cancel] at ht ⊢
      rw [getD_compactCore_ne lt srt up c L (fun e => htop (congrArg (· + 1) e.symm)) h3]
      refine ht.resolve_left fun e => htop ?_
      rw [Nat.succ.inj e] at hi ⊢
      rw [Nat.lt_one_iff.mp hi]

theorem compress_eq (P : Params) (c : Cmp α) (s : Sketch α) (coin : Bool) {lvl : Nat}
    (hlvl : findLevel P s.k s.levels.length s.levels 0 = lvl) (hl : lvl < s.levels.length) :
    compress P c s coin = { s with
      levels := compactCore c.lt s.levels lvl (lvl == 0 && !s.sorted0) ((extTop s.levels lvl).getD (lvl + 1) []).isEmpty coin,
      itemsSize := if lvl + 1 = s.levels.length then s.itemsSize + levelCapacity P s.k (s.levels.length + 1) 0
                   else s.itemsSize } := by
  rw [← compactAt_extTop]
  unfold compress
  simp only [Sketch.numLevels, hlvl, if_neg (Nat.not_le.mpr hl)]
  by_cases h : lvl + 1 = s.levels.length
  · simp only [h, extTop, beq_self_eq_true, if_true, addTop, Sketch.numLevels]
  · simp only [h, extTop, beq_iff_eq, if_false]

theorem compress_of_ge (P : Params) (c : Cmp α) (s : Sketch α) (coin : Bool)
    (h : s.levels.length ≤ findLevel P s.k s.levels.length s.levels 0) : compress P c s coin = s := by
  unfold compress; exact if_pos h

theorem full_iff {s : Sketch α} : s.full = true ↔ sizeSum s.levels = s.itemsSize := beq_iff_eq

theorem findLevel_of_full {P : Params} (ok : ParamsOk P) {lt : α → α → Bool} {s : Sketch α} (h : InvS P lt s)
    (hfull : sizeSum s.levels = s.itemsSize) :
    findLevel P s.k s.levels.length s.levels 0 < s.levels.length ∧
    2 ≤ (s.levels.getD (findLevel P s.k s.levels.length s.levels 0) []).length := by
  have hfind : findLevel P s.k s.levels.length s.levels 0 < s.levels.length := by
    refine Nat.lt_of_not_le fun h1 => ?_
    have hle := findLevel_le P s.k s.levels.length s.levels 0
    have := findLevel_none P s.k s.levels.length s.levels 0 (by omega) h.ne
    rw [Nat.zero_add, ← computeTotalCapacity, ← h.cap] at this
    simp only [sumCaps] at this
    omega
  have hcap := findLevel_spec P s.k s.levels.length s.levels 0 (by omega)
  have hm := levelCapacity_ge P s.k s.levels.length (findLevel P s.k s.levels.length s.levels 0)
  have := ok.m_ge
  rw [Nat.sub_zero] at hcap
  exact ⟨hfind, by omega⟩

theorem compress_inv {P : Params} (ok : ParamsOk P) {c : Cmp α} (sw : StrictWeak c.lt) {s : Sketch α}
    (h : InvS P c.lt s) (hfull : sizeSum s.levels = s.itemsSize) (coin : Bool) :
    InvS P c.lt (compress P c s coin) ∧ sizeSum (compress P c s coin).levels < (compress P c s coin).itemsSize ∧
    (compress P c s coin).n = s.n ∧ (compress P c s coin).k = s.k := by
  obtain ⟨hfind, hcur⟩ := findLevel_of_full ok h hfull
  generalize hlvl : findLevel P s.k s.levels.length s.levels 0 = lvl at hfind hcur
  rw [compress_eq P c s coin hlvl hfind]
  generalize ((extTop s.levels lvl).getD (lvl + 1) []).isEmpty = up
  have hlen := compactCore_length c.lt s.levels lvl (lvl == 0 && !s.sorted0) up coin
  have hw := weightSum_compactCore c.lt 0 s.levels lvl (lvl == 0 && !s.sorted0) up coin hfind
  have hsz := sizeSum_compactCore c.lt (lvl == 0 && !s.sorted0) up coin s.levels lvl
  have hord := LevelsOrd.compactCore sw up coin hfind ⟨h.sorted, h.sorted0⟩
  have htop := top_compactCore c.lt (lvl == 0 && !s.sorted0) up coin hfind hcur h.top
  generalize compactCore c.lt s.levels lvl (lvl == 0 && !s.sorted0) up coin = L' at hlen hw hsz hord htop ⊢
  generalize hI : (if lvl + 1 = s.levels.length then s.itemsSize + levelCapacity P s.k (s.levels.length + 1) 0
    else s.itemsSize) = I
  -- the one place where it matters whether the top level was compacted
  obtain ⟨hcap, hge, h2⟩ : I = computeTotalCapacity P s.k L'.length ∧ s.itemsSize ≤ I ∧ 2 ≤ L'.length := by
    simp only [lenAfter, beq_iff_eq] at hlen
    rw [hlen, ← hI]
    by_cases htop : lvl + 1 = s.levels.length
    · rw [if_pos htop, if_pos htop, computeTotalCapacity_succ, h.cap]
      exact ⟨rfl, Nat.le_add_right _ _, htop ▸ Nat.le_add_left 2 lvl⟩
    · rw [if_neg htop, if_neg htop]
      exact ⟨h.cap, Nat.le_refl _, Nat.le_trans (Nat.le_add_left 2 lvl) (Nat.lt_of_le_of_ne hfind htop)⟩
  have hret : sizeSum L' < I :=
    Nat.lt_of_lt_of_le (by rw [← hfull, ← hsz]; exact Nat.lt_add_of_pos_right (Nat.div_pos hcur Nat.zero_lt_two)) hge
  exact ⟨{ ne := List.length_pos_iff.mp (Nat.lt_of_lt_of_le Nat.zero_lt_two h2), weight := hw.trans h.weight, cap := hcap,
            ret_le := Nat.le_of_lt hret, sorted := hord.1, sorted0 := hord.2, top := Or.inr htop },
    hret, rfl, rfl⟩

theorem internalUpdateT_All {P : Params} {c : Cmp α} {s : Sketch α} {x : α} {Q : Sketch α → Prop}
    (hfull : sizeSum s.levels = s.itemsSize → ∀ coin, Q (push (compress P c s coin) x))
    (hroom : sizeSum s.levels ≠ s.itemsSize → Q (push s x)) : CT.All Q (internalUpdateT P c s x) := by
  unfold internalUpdateT
  by_cases hf : s.full = true
  · rw [if_pos hf]; exact hfull (full_iff.mp hf)
  · rw [if_neg hf]; exact hroom (mt full_iff.mpr hf)

theorem internalUpdateT_inv {P : Params} (ok : ParamsOk P) {c : Cmp α} (sw : StrictWeak c.lt) {s : Sketch α}
    (h : InvS P c.lt s) (x : α) :
    CT.All (fun s' => InvS P c.lt s' ∧ s'.n = s.n + 1 ∧ s'.k = s.k ∧ s'.levels.getD 0 [] ≠ []) (internalUpdateT P c s x) := by
  refine internalUpdateT_All (fun hfull coin => ?_) (fun hne => ?_)
  · obtain ⟨hi, hlt, hn, hk⟩ := compress_inv ok sw h hfull coin
    exact ⟨push_inv hi hlt x, by simp only [push, hn], by simp only [push, hk], by simp [push]⟩
  · exact ⟨push_inv h (Nat.lt_of_le_of_ne h.ret_le hne) x, by simp [push], by simp [push], by simp [push]⟩

theorem updateMinMax_inv {P : Params} {c : Cmp α} {s : Sketch α} (h : InvS P c.lt s) (x : α) :
    InvS P c.lt (updateMinMax c s x) := by
  unfold updateMinMax
  split <;> exact { h with }

theorem updateT_inv {P : Params} (ok : ParamsOk P) {c : Cmp α} (sw : StrictWeak c.lt) {s : Sketch α}
    (h : InvS P c.lt s) (x : α) : CT.All (InvS P c.lt) (updateT P c s x) := by
  unfold updateT
  split
  · exact h
  · exact CT.All.imp (fun _ hs => hs.1) (internalUpdateT_inv ok sw (updateMinMax_inv h x) x)

theorem sortHead_eq (lt : α → α → Bool) {L : List (List α)} (h : L ≠ []) : sortHead lt L = sortBy lt (L.headD []) :: L.tail := by
  cases L with
  | nil => exact absurd rfl h
  | cons l t => rfl

theorem sortLevelZero_inv {P : Params} {c : Cmp α} (sw : StrictWeak c.lt) {s : Sketch α} (h : InvS P c.lt s) :
    InvS P c.lt (sortLevelZero c s) := by
  unfold sortLevelZero
  by_cases hs : s.sorted0 = true
  · rw [if_pos hs]; exact h
  · rw [if_neg hs, sortHead_eq c.lt h.ne]
    exact h.headLevel (sortBy c.lt (s.levels.headD [])) s.n true (by rw [sortBy_length])
      (by rw [sortBy_length, ← sizeSum_headD_tail]; exact h.ret_le) (fun _ => sorted_sortBy sw _)

theorem numLevels_le_ub {P : Params} {lt : α → α → Bool} {s : Sketch α} (h : InvS P lt s) :
    s.numLevels ≤ ubOnNumLevels s.n := by
  unfold ubOnNumLevels Sketch.numLevels
  rcases h.top with h1 | h1
  · omega
  · have hw := weightSum_ge_getD 0 s.levels (s.levels.length - 1)
    rw [h.weight, Nat.zero_add] at hw
    have hle : 2 ^ (s.levels.length - 1) ≤ s.n :=
      Nat.le_trans (Nat.le_mul_of_pos_right _ (List.length_pos_iff.mpr h1)) hw
    have := (Nat.le_log2 (Nat.ne_of_gt (Nat.lt_of_lt_of_le (Nat.two_pow_pos _) hle))).mpr hle
    omega

end DS.Kll
