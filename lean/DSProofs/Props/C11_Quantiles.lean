/-
C11 (classic quantiles) — truncated images are rejected by the specification reader; counts derived from n and k
cannot make it read or allocate beyond the input.

ONLY property theorems and their non-vacuity examples.  `./check c11_quant` holds the real
`quantiles_sketch::deserialize` (bytes and stream) to the verdict of `Quantiles.decode` on EVERY strict prefix
of every generated image under ASan/UBSan.
-/
import DSProofs.Props.C09_Quantiles
namespace DS.Wire.Quantiles
open Reader

theorem decodeBody_PS (sd : Serde) (hs : sd.Lawful) (c : Cfg) (pre ver flags k unused : Nat) :
    PS (decodeBody sd c pre ver flags k unused) :=
  (decodeBody_within sd hs c pre ver flags k unused).ps

/-- the specification reader is prefix-safe -/
theorem decode_PS (sd : Serde) (hs : sd.Lawful) (c : Cfg) : PS (decode sd c) := (decode_within sd hs c).ps

/-- EVERY strict prefix of a well-formed image (any accepted serial version) is rejected -/
theorem prefix_rejected (sd : Serde) (hs : sd.Lawful) (c : Cfg) (hc : CfgOK c) (s : Image) (hw : WF sd c s = true)
    (n : Nat) (hn : n < (encode sd c s).length) : decode sd c ((encode sd c s).take n) = none :=
  prefix_rejected' (decode sd c) (decode_PS sd hs c) _ s (fun tail => decode_encode sd hs c hc s tail hw) n hn

theorem decodeBody_bounded (sd : Serde) (hs : sd.Lawful) (c : Cfg) (pre ver flags k unused : Nat) (b r : Bytes) (s : Image)
    (h : decodeBody sd c pre ver flags k unused b = some (s, r)) : s.count ≤ b.length :=
  (decodeBody_within sd hs c pre ver flags k unused).le h

/-- a successful decode of `b` yields an image holding at most `|b|` items: the counts derived from n and k
(base buffer n mod 2k, k per set bit of n / 2k) cannot exceed what the input holds -/
theorem decode_bounded (sd : Serde) (hs : sd.Lawful) (c : Cfg) (b r : Bytes) (s : Image)
    (h : decode sd c b = some (s, r)) : s.count ≤ b.length :=
  (decode_within sd hs c).le h

/-- non-vacuity: the example image truncated after 40 of its 56 bytes is rejected -/
example : decode (Serde.fixed 8) docCfg ((encode (Serde.fixed 8) docCfg exImage).take 40) = none := by decide

/-- prefix rejection at the constants of the current headers (what `./check c11_quant` compares the real readers with) -/
theorem prefix_rejected_code (sd : Serde) (hs : sd.Lawful) (s : Image) (hw : WF sd codeCfg s = true)
    (n : Nat) (hn : n < (encode sd codeCfg s).length) : decode sd codeCfg ((encode sd codeCfg s).take n) = none :=
  prefix_rejected sd hs codeCfg codeCfg_ok s hw n hn

end DS.Wire.Quantiles
