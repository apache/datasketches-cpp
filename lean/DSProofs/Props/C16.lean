/- C16 — VarOpt: total weight conserved, heavy items exact (DESIGN.md §3 C16).

   All theorems are about the `Rat` instance of the executable model `DSModel/VarOpt/{Heap,Sketch,Union}.lean`
   (the `Float` instance of the same definitions is what the correspondence check compares with the real headers).
   They quantify over every configuration, every stream of positive weights, and every draw sequence `ds`
   (the random-choice oracle), with no bound on lengths.  `feed T false items s0 ds` = `update` applied to the items in
   order, starting from the empty sketch `s0`; `none` would be a C++ exception.

   NOT formalised (also stated in `CLAIM.note` of vlib/props/c16.py): "subset-sum estimates are unbiased over the sampling randomness"
   as a statement about whole histories.  `vo_one_step_unbiased` is the one-step identity it follows from.

   Two statements depend on the source-shape flags of `Tunables`: `vo_union_wellformed_*` and `vo_serde_update_*`.
   For each the file has `…_full` (the statement, quantified over every `T`), `…_full_false` (concrete witness at the
   all-flags-off tunables `exT`; the same histories are corpus/regress/C16/*.txt) and `…_partial` (what holds for
   every `T`).  The full statements under the repaired flags are in Props/C16_Repaired.lean.  Two further findings
   exist only in floating point (get_result() throwing on an absolute 1e-10 tolerance, update() throwing because
   total_wt_r_/r_ rounds above an H weight) and have no counterpart over `Rat`; the Float instance + oracle cover them. -/
import DSProofs.Lemmas.VarOptWitness
namespace DS.VarOpt
open DS

def exItems : List (Int × Rat) := [(1, 10), (2, 10), (3, 10), (4, 7)]
def exDraws : Draws Rat := ⟨[1/2, 1/4], [1, 5]⟩

/-- **vo_size.** After any stream of positive weights (any k, any draws) the sketch has counted every item, holds
    `h + r = min(n, k)` samples (`get_num_samples`), every H entry is an input with its weight, and every R item is
    an input item.  `update` never throws. -/
theorem vo_size (T : Tunables) (k rf : Nat) (s0 : Sk Rat) (h0 : Sk.new T k rf false = some s0)
    (items : List (Int × Rat)) (hpos : ∀ p ∈ items, 0 < p.2) (ds : Draws Rat) :
    ∃ s ds', feed T false items s0 ds = some (s, ds') ∧ s.n = items.length ∧ s.k = k ∧
      s.H.length + s.R.length = min items.length k ∧ s.numSamples = min items.length k ∧
      (∀ e ∈ s.H, (e.item, e.wt) ∈ items) ∧ (∀ x ∈ s.R, ∃ q ∈ items, q.1 = x) := by
  obtain ⟨s, ds', L, hf, hinv, hk, -⟩ := stream_inv h0 hpos ds
  have hsz := hinv.size
  rw [length_entriesOf, hk] at hsz
  refine ⟨s, ds', hf, by rw [hinv.n_eq, length_entriesOf], hk, hsz, by unfold Sk.numSamples; rw [hsz, hk]; omega,
    fun e he => (mem_entriesOf.mp (hinv.perm.symm.subset (List.mem_append_left _ he))).1, fun x hx => ?_⟩
  obtain ⟨e, heL, hex⟩ := (hinv.est (List.ne_nil_of_mem hx)).rItems x hx
  exact ⟨(e.item, e.wt), (mem_entriesOf.mp (hinv.perm.symm.subset (List.mem_append_right _ heL))).1, hex⟩

example : ∃ s0, Sk.new (α := Rat) exT 2 0 false = some s0 ∧ (∀ p ∈ exItems, 0 < p.2) :=
  ⟨_, rfl, by decide⟩

/-- **vo_weight_conserved.** `Σ_H w + total_wt_r = Σ inputs w` (no R part while in warm-up); hence the adjusted weights
    handed out by the iterator sum to the total, and `estimate_subset_sum(always true).estimate` is the total
    (for whatever bound functions `B`). -/
theorem vo_weight_conserved (T : Tunables) (k rf : Nat) (s0 : Sk Rat) (h0 : Sk.new T k rf false = some s0)
    (items : List (Int × Rat)) (hpos : ∀ p ∈ items, 0 < p.2) (ds : Draws Rat) :
    ∃ s ds', feed T false items s0 ds = some (s, ds') ∧
      sumW s.H + (if s.R = [] then 0 else s.totalWtR) = totalW items ∧
      sumR (s.samples.map (·.2)) = totalW items ∧
      (∀ B : FracBounds Rat, ∃ r, estimateSubsetSum B s (fun _ => true) = some r ∧ r.estimate = totalW items) := by
  obtain ⟨s, ds', L, hf, hinv, -, -⟩ := stream_inv h0 hpos ds
  have htot := sumW_entriesOf false false items
  refine ⟨s, ds', hf, hinv.toInv0.skWeight_eq.trans htot, by rw [hinv.samples_sum, htot], fun B => ?_⟩
  obtain ⟨r, h1, h2⟩ := hinv.estimate B fun _ => true
  exact ⟨r, h1, by rw [h2 fun _ => rfl, htot]⟩

example : totalW exItems = 37 := by norm_num [totalW, exItems, sumR]

/-- **vo_heavy_exact.** (a) tau = total_wt_r / r never decreases as the stream continues; (b) in estimation mode every
    H entry carries its input weight and is at least tau (in particular `peek_min`), and every input heavier than tau
    is in H with its exact weight. -/
theorem vo_heavy_exact (T : Tunables) (k rf : Nat) (s0 : Sk Rat) (h0 : Sk.new T k rf false = some s0)
    (items more : List (Int × Rat)) (hpos : ∀ p ∈ items, 0 < p.2) (hpos2 : ∀ p ∈ more, 0 < p.2) (ds : Draws Rat) :
    ∃ s ds' s2 ds2, feed T false items s0 ds = some (s, ds') ∧ feed T false more s ds' = some (s2, ds2) ∧
      (s.R ≠ [] → s2.R ≠ [] ∧ s.totalWtR / (s.R.length : Rat) ≤ s2.totalWtR / (s2.R.length : Rat)) ∧
      (s.R ≠ [] →
        (∀ e ∈ s.H, (e.item, e.wt) ∈ items ∧ s.totalWtR / (s.R.length : Rat) ≤ e.wt) ∧
        (s.H ≠ [] → s.totalWtR / (s.R.length : Rat) ≤ wtAt s.H 0) ∧
        (∀ q ∈ items, s.totalWtR / (s.R.length : Rat) < q.2 → ∃ e ∈ s.H, e.item = q.1 ∧ e.wt = q.2)) := by
  obtain ⟨s, ds', L, hf, hinv, -, -⟩ := stream_inv h0 hpos ds
  obtain ⟨s2, ds2, L2, hf2, _, _, _, _, htau⟩ := feed_spec T false more s _ L ds' hinv hpos2 (by simp)
  refine ⟨s, ds', s2, ds2, hf, hf2, ?_, ?_⟩
  · intro hr
    obtain ⟨hr2, hle⟩ := htau hr
    have h1 : (0 : Rat) < (s.R.length : Rat) := by exact_mod_cast List.length_pos_of_ne_nil hr
    have h2 : (0 : Rat) < (s2.R.length : Rat) := by exact_mod_cast List.length_pos_of_ne_nil hr2
    exact ⟨hr2, by rw [div_le_div_iff₀ h1 h2]; exact hle⟩
  · intro hr
    have he := hinv.est hr
    have hr0 : (0 : Rat) < (s.R.length : Rat) := by exact_mod_cast List.length_pos_of_ne_nil hr
    refine ⟨fun e heH => ⟨(mem_entriesOf.mp (hinv.perm.symm.subset (List.mem_append_left _ heH))).1, he.tau_le hr heH⟩, ?_, ?_⟩
    · intro hne
      obtain ⟨r, t, hH⟩ := List.exists_cons_of_ne_nil hne
      rw [hH, wtAt_zero_cons]
      exact he.tau_le hr (hH ▸ List.mem_cons_self)
    · intro q hq hlt
      have hmem' : ({ item := q.1, wt := q.2, mark := false } : E) ∈ entriesOf false false items :=
        mem_entriesOf.mpr ⟨hq, rfl⟩
      rcases List.mem_append.mp (hinv.perm.subset hmem') with h | h
      · exact ⟨_, h, rfl, rfl⟩
      · -- an absorbed input is at most tau
        have := he.lLight _ h
        rw [div_lt_iff₀ hr0] at hlt
        exact absurd hlt (not_lt.mpr this)

example : (∀ p ∈ exItems, 0 < p.2) ∧ (∀ p ∈ [((5 : Int), (100 : Rat))], 0 < p.2) := by decide

/-- the two fraction bounds bracket the sample fraction `r_true / r` (the analytic fact about
    `pseudo_hypergeometric_{lb,ub}_on_p` that is NOT proved here: those functions need sqrt/exp/pow) -/
def BracketsFraction (B : FracBounds Rat) : Prop :=
  ∀ (r c : Nat) (rate : Rat), 0 < r → c ≤ r → B.lb r c rate ≤ (c : Rat) / (r : Rat) ∧ (c : Rat) / (r : Rat) ≤ B.ub r c rate

/-- full statement: for the bound functions `B`, after every stream and for every predicate `estimate_subset_sum`
    returns (does not throw) and `lower_bound ≤ estimate ≤ upper_bound` -/
def vo_subset_bounds_full (B : FracBounds Rat) : Prop :=
  ∀ (T : Tunables) (k rf : Nat) (s0 : Sk Rat), Sk.new T k rf false = some s0 →
    ∀ (items : List (Int × Rat)), (∀ p ∈ items, 0 < p.2) → ∀ (ds : Draws Rat) (p : Int → Bool),
      ∃ s ds' res, feed T false items s0 ds = some (s, ds') ∧ estimateSubsetSum B s p = some res ∧
        res.lowerBound ≤ res.estimate ∧ res.estimate ≤ res.upperBound

/-- **vo_subset_bounds_partial.** The full statement holds for every pair of bound functions that brackets the
    sample fraction.  Missing for the literal statement: a proof that the code's Abramowitz–Stegun / exact-binomial
    formulas satisfy `BracketsFraction` (checked on every trace by the oracle instead). -/
theorem vo_subset_bounds_partial (B : FracBounds Rat) (hB : BracketsFraction B) : vo_subset_bounds_full B := by
  intro T k rf s0 h0 items hpos ds p
  obtain ⟨s, ds', L, hf, hinv, -, -⟩ := stream_inv h0 hpos ds
  obtain ⟨res, hres, -⟩ := hinv.estimate B p
  have hW : s.R.length ≠ 0 → 0 ≤ s.totalWtR := by
    intro hr0
    exact le_of_lt (hinv.toInv0.wtR_pos fun h => hr0 (by rw [h]; rfl))
  obtain ⟨h1, h2⟩ := estimate_bounds B s p hW hB res hres
  exact ⟨s, ds', res, hf, hres, h1, h2⟩

example : BracketsFraction ⟨fun r c _ => (c : Rat) / (r : Rat), fun r c _ => (c : Rat) / (r : Rat)⟩ :=
  fun _ _ _ _ _ => ⟨le_refl _, le_refl _⟩

/-- **vo_one_step_unbiased.** One down-sampling step (`choose_delete_slot`, general case of ≥ 2 explicit-weight
    candidates `M` plus `r ≥ 1` reservoir items, `c = |M| + r` candidates of total weight `W`, new threshold
    `τ' = W/(c−1)`, every M weight below τ' as `grow_candidate_set` guarantees).  With `u` the uniform draw:
    M-candidate `i` is the one deleted exactly for `u ∈ [thr i, thr (i+1))`, an interval of length `1 − w_i/τ'`, so
    `P[keep i]·τ' = w_i`; the deletion falls into R exactly for `u ≥ thr |M|`, a set of measure `r·(1 − τ/τ')` in
    `[0,1]` where `τ = (W − ΣM)/r` is the old per-item weight of R (the slot inside R is then the uniform integer draw),
    so each R item is kept with probability `τ/τ'`. -/
theorem vo_one_step_unbiased (M : List E) (r : Nat) (W : Rat) (c : Nat) (ds : Draws Rat)
    (hM : 2 ≤ M.length) (hc : c = M.length + r) (hr : 1 ≤ r) (hW : 0 < W)
    (hlight : ∀ e ∈ M, e.wt * ((c : Rat) - 1) < W) (hu : 0 ≤ (nextDouble ds).1) :
    (∀ i, i < M.length → ((chooseDeleteSlot M r W c ds).1 = i ↔
        thr (W / ((c : Rat) - 1)) M i ≤ (nextDouble ds).1 ∧ (nextDouble ds).1 < thr (W / ((c : Rat) - 1)) M (i + 1))) ∧
    (M.length ≤ (chooseDeleteSlot M r W c ds).1 ↔ thr (W / ((c : Rat) - 1)) M M.length ≤ (nextDouble ds).1) ∧
    (∀ i (hi : i < M.length),
        thr (W / ((c : Rat) - 1)) M (i + 1) - thr (W / ((c : Rat) - 1)) M i = 1 - M[i].wt / (W / ((c : Rat) - 1)) ∧
        (1 - (thr (W / ((c : Rat) - 1)) M (i + 1) - thr (W / ((c : Rat) - 1)) M i)) * (W / ((c : Rat) - 1)) = M[i].wt) ∧
    (1 - thr (W / ((c : Rat) - 1)) M M.length = (r : Rat) * (1 - ((W - sumW M) / (r : Rat)) / (W / ((c : Rat) - 1)))) := by
  obtain ⟨n, rfl⟩ : ∃ n, c = n + 1 := ⟨c - 1, by omega⟩
  have hn : 0 < n := by omega
  have hn0 : (0 : Rat) < (n : Rat) := by exact_mod_cast hn
  rw [Nat.cast_succ, add_sub_cancel_right] at hlight ⊢
  generalize hτ : W / (n : Rat) = τ
  have hτpos : 0 < τ := by rw [← hτ]; positivity
  obtain rfl : W = τ * n := by rw [← hτ]; field_simp
  have hlt : ∀ e ∈ M, e.wt < τ := fun e he => by rw [← hτ, lt_div_iff₀ hn0]; exact hlight e he
  obtain ⟨h1, h2⟩ := chooseDeleteSlot_thr hτpos hn r ds hM hlt hu
  refine ⟨h1, h2, fun i hi => ?_, ?_⟩
  · have e := thr_succ_sub τ M hi
    exact ⟨e, by rw [e, sub_sub_cancel, div_mul_cancel₀ _ (ne_of_gt hτpos)]⟩
  · unfold thr
    rw [List.take_length]
    have hr0 : (r : Rat) ≠ 0 := by exact_mod_cast (by omega : r ≠ 0)
    have hτne : τ ≠ 0 := ne_of_gt hτpos
    have hcr : (n : Rat) = (M.length : Rat) + (r : Rat) - 1 := eq_sub_of_add_eq (by exact_mod_cast hc)
    rw [hcr]
    field_simp
    ring

example : ∃ (M : List E) (W : Rat) (c : Nat), 2 ≤ M.length ∧ c = M.length + 2 ∧ 0 < W ∧
    (∀ e ∈ M, e.wt * ((c : Rat) - 1) < W) ∧ 0 ≤ (nextDouble exDraws).1 :=
  ⟨[⟨1, 3, false⟩, ⟨2, 4, false⟩], 27, 4, by decide, rfl, by norm_num, by
    intro e he; simp at he; rcases he with rfl | rfl <;> norm_num, by norm_num [nextDouble, exDraws, Num.ofFrac]⟩

-- `FromStream sk items` (Lemmas/VarOptStream.lean): `sk` is what some stream `items` of positive weights
-- (any tunables, any k, any resize factor, any draws) leaves behind, starting from the empty sketch.
-- `unionAll T u sks ds` (Lemmas/VarOptUnion.lean): `update` with each sketch of the list, in order.

/-- **vo_union.** Merging any list of sketches (each the result of any stream with any k) into a union of any
    `max_k`, with any draws: no `update` throws; the union's `n` is the sum of the inputs' `n`; and whenever
    `get_result` returns (does not throw), the result has that `n`, represents exactly the combined total weight
    (`Σ_H w + total_wt_r`), holds `h + r ≤ k_result ≤ max_k` samples, and carries no marks.
    ("smallest effective k" is read as the k of the returned sketch; an exact-mode input contributes all its items, so
    `min k_i` over the inputs is not a bound of the algorithm.)  Partial in two respects: "returns" is a hypothesis,
    and validity of the returned state as an estimation-mode state is not claimed here (it depends on `T`, see
    `vo_union_wellformed_full_false` and `vo_union_wellformed_current`). -/
theorem vo_union (T : Tunables) (maxK : Nat) (u0 : Un Rat) (hu0 : Un.new T maxK = some u0)
    (inputs : List (Sk Rat × List (Int × Rat))) (hin : ∀ p ∈ inputs, FromStream p.1 p.2) (ds : Draws Rat) :
    ∃ u ds', unionAll T u0 (inputs.map (·.1)) ds = some (u, ds') ∧
      u.n = (inputs.map (fun p => p.2.length)).sum ∧
      ∀ (ds2 : Draws Rat) (res : Sk Rat) (ds3 : Draws Rat), u.getResult T ds2 = some (res, ds3) →
        res.n = u.n ∧ skWeight res = sumR (inputs.map (fun p => totalW p.2)) ∧
        res.H.length + res.R.length ≤ res.k ∧ res.k ≤ maxK ∧ res.numSamples ≤ maxK ∧
        res.gadget = false ∧ res.numMarksInH = 0 ∧ (∀ e ∈ res.H, e.mark = false) := by
  obtain ⟨hinv0, hk0⟩ := newUnion_inv T maxK u0 hu0
  obtain ⟨u, ds', insG, LG, hall, hu, hk, _⟩ := unionAll_spec T inputs hin u0 [] [] 0 0 ds hinv0 (newUnion_book T maxK u0 hu0)
  simp only [zero_add] at hu
  refine ⟨u, ds', hall, hu.n_eq, ?_⟩
  intro ds2 res ds3 hres
  obtain ⟨hok, _⟩ := getResult_spec T u insG LG _ _ hu ds2 res ds3 hres
  refine ⟨by rw [hok.n_eq, hu.n_eq], hok.weight, hok.size, by rw [← hk0, ← hk]; exact hok.kLe, ?_, hok.notGadget,
    hok.noMarkCount, hok.noMarks⟩
  unfold Sk.numSamples
  have := hok.kLe; rw [hk, hk0] at this
  omega

example : ∃ u0, Un.new (α := Rat) exT 10 = some u0 ∧ (∀ p ∈ [(wA, wItemsA), (wB, wItemsB)], FromStream p.1 p.2) :=
  ⟨_, rfl, wAB_fromStream⟩

/-- full statement: whatever `get_result` returns is `WellFormed`: in estimation mode H is a min-heap and no H item is
    lighter than tau.  (That is all `WellFormed` says; it is not the invariant `Inv0`, and nothing here states that a later
    `update` of the result succeeds.) -/
def vo_union_wellformed_full : Prop :=
  ∀ (T : Tunables) (maxK : Nat) (u0 : Un Rat), Un.new T maxK = some u0 →
    ∀ (inputs : List (Sk Rat × List (Int × Rat))), (∀ p ∈ inputs, FromStream p.1 p.2) →
      ∀ (ds : Draws Rat) (u : Un Rat) (ds' : Draws Rat), unionAll T u0 (inputs.map (·.1)) ds = some (u, ds') →
        ∀ (ds2 : Draws Rat) (res : Sk Rat) (ds3 : Draws Rat), u.getResult T ds2 = some (res, ds3) → WellFormed res

/-- **False at the all-flags-off tunables `exT`** (finding `union-result-sample-lighter-than-tau`; with
    `coercerHeapify = false` the same coercer also skips re-heapifying, finding `union-result-not-heap-ordered`).
    Witness: k = 2 sketch after three items of weight
    10 (tau 15) and a k = 10 sketch holding one item of weight 1, united with max_k = 10: the pseudo-exact coercer
    (whose guard compares against NaN) returns H = {(4, 1)}, R = two items of total weight 30: 1 < tau = 15.
    Replayed on the real code by corpus/regress/C16/w3-*.txt (and w4-*.txt). -/
theorem vo_union_wellformed_full_false : ¬ vo_union_wellformed_full := by
  intro h
  obtain ⟨⟨u, ds'⟩, hall⟩ := Option.isSome_iff_exists.1 (by decide +kernel : (unionAll exT wU0 [wA, wB] wDs).isSome = true)
  have hu : wU = u := by simp [wU, hall]
  obtain ⟨⟨res, ds3⟩, hres⟩ := Option.isSome_iff_exists.1 (by decide +kernel : (wU.getResult exT wDs).isSome = true)
  have hwf := h exT 10 wU0 rfl [(wA, wItemsA), (wB, wItemsB)] wAB_fromStream wDs u ds' hall wDs res ds3 (hu ▸ hres)
  rw [show res = wRes by simp [wRes, hres]] at hwf
  -- the one H entry of the result weighs 1, tau is 15
  have : ¬ (wRes.R ≠ [] → ∀ e ∈ wRes.H, wRes.totalWtR / (wRes.R.length : Rat) ≤ e.wt) := by decide +kernel
  exact this fun hR => (hwf hR).2

/-- **vo_union_wellformed_partial.** The result IS a valid state whenever the pseudo-exact mark-moving coercer is not
    the path taken (no marked items in the gadget's H, or the general `migrate_marked_items_by_decreasing_k` path). -/
theorem vo_union_wellformed_partial (T : Tunables) (maxK : Nat) (u0 : Un Rat) (hu0 : Un.new T maxK = some u0)
    (inputs : List (Sk Rat × List (Int × Rat))) (hin : ∀ p ∈ inputs, FromStream p.1 p.2) (ds : Draws Rat)
    (u : Un Rat) (ds' : Draws Rat) (hall : unionAll T u0 (inputs.map (·.1)) ds = some (u, ds'))
    (ds2 : Draws Rat) (res : Sk Rat) (ds3 : Draws Rat) (hres : u.getResult T ds2 = some (res, ds3))
    (hpath : pseudoExact T u { u.gadget with n := u.n } = none) : WellFormed res := by
  obtain ⟨insG, LG, hu, -, -⟩ := unionAll_inv hu0 hin hall
  exact (getResult_spec T u insG LG _ _ hu ds2 res ds3 hres).2.1 hpath

example : (pseudoExact (α := Rat) exT wU0 { wU0.gadget with n := wU0.n }).isNone = true := by decide +kernel

/-- full statement: a sketch that went through serialize → deserialize keeps accepting the stream -/
def vo_serde_update_full : Prop :=
  ∀ (sk : Sk Rat) (items : List (Int × Rat)), FromStream sk items →
    ∀ (T : Tunables) (sk2 : Sk Rat), serdeRoundTrip T sk = some sk2 →
      ∀ (x : Int) (w : Rat) (ds : Draws Rat), 0 < w → (update T sk2 x w false ds).isSome = true

/-- **False at the all-flags-off tunables `exT`** (finding `update-throws-after-deserialize`): with
    `deserializeM0 = false`, `deserialize` constructs an estimation-mode sketch with `m_ = 1`, and every update path
    then fails an entry check.  Witness: the k = 2 sketch
    after three items of weight 10, through bytes, then `update(4, 3)`.  Replayed by corpus/regress/C16/w1-*.txt. -/
theorem vo_serde_update_full_false : ¬ vo_serde_update_full := by
  intro h
  obtain ⟨sk2, hs⟩ := Option.isSome_iff_exists.1 (by decide +kernel : (serdeRoundTrip exT wA).isSome = true)
  have := h wA wItemsA wA_fromStream exT sk2 hs 4 3 wDs (by norm_num)
  rw [show sk2 = wA2 by simp [wA2, hs]] at this
  revert this
  decide +kernel

/-- **vo_serde_update_partial.** What does hold: serialize → deserialize of a (non-gadget) sketch succeeds and the
    copy answers every query identically (n, k, number of samples, iterator output, subset sums); and a sketch that is
    still in warm-up keeps accepting updates. -/
theorem vo_serde_update_partial (sk : Sk Rat) (items : List (Int × Rat)) (hfs : FromStream sk items) (T : Tunables)
    (hk : sk.k ≤ T.maxK) (hne : sk.isEmpty = false) :
    ∃ sk2, serdeRoundTrip T sk = some sk2 ∧ sk2.n = sk.n ∧ sk2.k = sk.k ∧ sk2.numSamples = sk.numSamples ∧
      sk2.samples = sk.samples ∧ (∀ B p, estimateSubsetSum B sk2 p = estimateSubsetSum B sk p) ∧
      (sk.R = [] → ∀ (x : Int) (w : Rat) (ds : Draws Rat), 0 < w → (update T sk2 x w false ds).isSome = true) := by
  obtain ⟨ins, L, hinv, -, -, hgad⟩ := hfs.inv
  obtain ⟨a, hform⟩ := serde_formula T sk _ L hinv hgad hk hne
  refine ⟨_, hform, rfl, rfl, rfl, ?_, ?_, ?_⟩
  · by_cases hR : sk.R = []
    · simp [Sk.samples, hR]
    · have : sk.R.length > 0 := List.length_pos_of_ne_nil hR
      simp [Sk.samples, this]
  · intro B p
    by_cases hR : sk.R = []
    · simp [estimateSubsetSum, hR]
    · have : sk.R.length > 0 := List.length_pos_of_ne_nil hR
      simp [estimateSubsetSum, this]
  · intro hR x w ds3 hw
    obtain ⟨sk2, hs2, hi, _⟩ := serde_inv T sk _ L hinv hgad hk hne (Or.inl hR)
    rw [hform] at hs2
    injection hs2 with hs2
    exact hs2 ▸ hi.update_isSome T x hw ds3

example : FromStream wA wItemsA ∧ wA.k ≤ exT.maxK ∧ wA.isEmpty = false := ⟨wA_fromStream, by decide +kernel, by decide +kernel⟩

end DS.VarOpt
