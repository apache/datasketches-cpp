/- C19, KLL sketch: the special members.  Move assignment has two shapes (`resetSrc`: whether the source's cached sorted
   view is released first) over a shape-independent core `moveAssignCore`; copy assignment is copy construction, that core,
   and the destruction of the temporary (`copyAssign_eq`). -/
import DSProofs.Lemmas.LifeKllInv
namespace DS.Life.Kll
open DS.Life

theorem ctor_contract (P : Params) (hP : P.OK) (n0 k : Nat) (ids0 : List Nat) :
    TripleS n0 (foot [] n0) (fun h => h.ids = ids0 ∧ h.next = n0) (ctor P k)
      (fun s h' => Usable P h' s ∧ Owns h' ids0 [] (owned s) n0) := by
  intro h hn ⟨hid, hnx⟩
  unfold ctor
  by_cases hk : k < P.minK ∨ k > P.maxK
  · rw [if_pos hk]; exact SafeF.exc _
  · rw [if_neg hk]
    apply vstep_alloc _ _ (foot_new hn)
    intro h1 hc1 hr1 so1 hid1 hnx1
    apply vstep_alloc _ _ (foot_new (hnx1 ▸ Nat.le_succ_of_le hn))
    intro h2 hc2 hr2 so2 hid2 hnx2
    apply SafeF.pure
    have hlt : h.next < h1.next := hnx1 ▸ Nat.lt_succ_self _
    have ss := so2 h.next (Nat.ne_of_lt hlt)
    have hmk : P.defaultM ≤ k := Nat.le_trans hP.2 (Nat.le_of_not_lt fun e => hk (Or.inl e))
    exact ⟨Usable.build (b := h1.next) rfl (ss.cells _ hc1) (hnx2 ▸ Nat.lt_succ_of_lt hlt) nofun rfl
        (LevelsOK.init (Nat.le_refl _) (computeTotalCapacity_one k P.defaultM hmk).symm)
        ⟨hc2, fun i hi => hr2 i hi, On.nil (c := .live) (Nat.le_refl _)⟩ (hnx2 ▸ Nat.lt_succ_self _) (Nat.ne_of_gt hlt) nofun
        (fun _ => ⟨(ss.st 0).trans (hr1 0 Nat.zero_lt_two), (ss.st 1).trans (hr1 1 Nat.one_lt_two)⟩) (absurd rfl) (absurd rfl)
        (by simp [sumSampleWeights, List.range_succ]) (Or.inl rfl),
      owns_fresh (by rw [hid2, hid1, hid, hnx1]) hn rfl (congrArg some hnx1) rfl⟩

theorem dtor_rest {S : Nat → Bool} {h : Heap} (s : Sketch) {Q : Unit → Heap → Prop}
    (hself : HasCells h s.self 2)
    (hview : ∀ v, s.view = some v → HasCells h v 1 ∧ stAt h v 0 = .raw ∧ v ≠ s.self ∧ S v = true)
    (hS : S s.self = true)
    (k : ∀ h', (∀ b, b ≠ s.self → s.view ≠ some b → SameOn h h' b) →
          (∀ x, x ∈ h'.ids ↔ x ∈ h.ids ∧ x ≠ s.self ∧ s.view ≠ some x) → h'.next = h.next → Q () h') :
    SafeF S h ((do let _ ← resetSortedView s; optReset s.self 1; optReset s.self 0; dealloc s.self 2) h) Q := by
  apply vstep_resetSortedView (fun v hv => ⟨(hview v hv).1, (hview v hv).2.1, (hview v hv).2.2.2⟩)
  intro h1 so1 hid1 hnx1
  have hc1 := (so1 s.self fun e => (hview _ e).2.2.1 rfl).cells _ hself
  apply vstep_optReset hc1 Nat.one_lt_two hS
  intro h2 sb2 hr2
  apply vstep_optReset (sb2.cells _ _ hc1) Nat.zero_lt_two hS
  intro h3 sb3 hr3
  apply SafeF.last
  apply vstep_dealloc (sb3.cells _ _ (sb2.cells _ _ hc1)) ?_ hS
  · intro h4 so4 hid4 hnx4
    refine SafeF.pure (k h4 (fun b hb hbv => ?_) (fun x => ?_) (by rw [hnx4, sb3.next, sb2.next, hnx1]))
    · exact (((so1 b hbv).trans (sb2.sameOn (fun j x => hb x.1))).trans (sb3.sameOn (fun j x => hb x.1))).trans (so4 b hb)
    · rw [hid4, sb3.ids, sb2.ids, hid1, List.mem_filter, List.mem_filter, bne_iff_ne, bne_iff_ne, and_assoc, and_comm (a := _ ≠ _)]
  · intro i hi
    cases i with
    | zero => exact hr3
    | succ i =>
      obtain rfl : i = 0 := Nat.le_zero.1 (Nat.le_of_lt_succ (Nat.lt_of_succ_lt_succ hi))
      exact (sb3.st s.self 1 fun x => Nat.one_ne_zero x.2).trans hr2

theorem dtor_spec {P : Params} {S : Nat → Bool} {s : Sketch} {h : Heap} (inv : Inv P h s)
    (hS : ∀ b, b ∈ owned s → S b = true) :
    SafeF S h (dtor s h)
      (fun _ h' => (∀ b, b ∉ owned s → SameOn h h' b) ∧ (∀ x, x ∈ h'.ids ↔ (x ∈ h.ids ∧ x ∉ owned s)) ∧
        h'.next = h.next) := by
  have hSself : S s.self = true := hS _ (mem_owned.2 (Or.inl rfl))
  have hview : ∀ v, s.view = some v → HasCells h v 1 ∧ stAt h v 0 = .raw ∧ v ≠ s.self ∧ S v = true := fun v hv =>
    ⟨inv.view_cells hv, inv.view_raw hv, inv.view_ne_self hv, hS _ (mem_owned.2 (Or.inr (Or.inr hv)))⟩
  unfold dtor
  cases hit : s.items with
  | none =>
    apply dtor_rest s inv.self_cells hview hSself
    intro h' so hid hnx
    refine ⟨fun b hb => so b (fun e => hb (mem_owned.2 (Or.inl e))) (fun e => hb (mem_owned.2 (Or.inr (Or.inr e)))),
      fun x => ?_, hnx⟩
    rw [hid x, mem_owned, hit]
    simp only [reduceCtorEq, false_or, not_or, ne_eq]
  | some b =>
    obtain ⟨lok, iat, hblt, hbself, hbview⟩ := inv.items_ok b hit
    have hSb : S b = true := hS _ (mem_owned.2 (Or.inr (Or.inl hit)))
    have hl0 : s.levels.getD 0 0 ≤ s.itemsSize := lok.le_top 0 (Nat.zero_le _)
    apply step_lv (lok.len ▸ Nat.succ_pos _)
    apply step_lv (lok.len ▸ Nat.lt_succ_self _)
    rw [lok.top]
    apply vstep_destroyRange iat.cells (Nat.le_of_eq (Nat.add_sub_cancel' hl0))
      (fun j h1 h2 => iat.nonraw j h1 (Nat.add_sub_cancel' hl0 ▸ h2)) hSb
    intro h1 sb1 hr1
    have oth : ∀ x, x ≠ b → SameOn h h1 x := fun x hx => sb1.sameOn fun j y => hx y.1
    apply vstep_dealloc (sb1.cells _ _ iat.cells) ?_ hSb
    · intro h2 so2 hid2 hnx2
      apply dtor_rest s (((oth _ hbself.symm).trans (so2 _ hbself.symm)).cells _ inv.self_cells) ?_ hSself
      · intro h' so hid hnx
        refine ⟨fun x hx => ?_, fun x => ?_, by rw [hnx, hnx2, sb1.next]⟩
        · have hxb : x ≠ b := fun e => hx (mem_owned.2 (Or.inr (Or.inl (e ▸ hit))))
          exact ((oth x hxb).trans (so2 x hxb)).trans
            (so x (fun e => hx (mem_owned.2 (Or.inl e))) (fun e => hx (mem_owned.2 (Or.inr (Or.inr e)))))
        · rw [hid x, hid2, sb1.ids, mem_owned, hit, List.mem_filter, bne_iff_ne, Option.some.injEq, not_or, not_or]
          exact ⟨fun ⟨⟨a, b'⟩, c, d⟩ => ⟨a, c, Ne.symm b', d⟩, fun ⟨a, c, b', d⟩ => ⟨⟨a, Ne.symm b'⟩, c, d⟩⟩
      · intro v hv
        obtain ⟨a, b', c, d⟩ := hview v hv
        have hvb : v ≠ b := fun e => hbview (e ▸ hv)
        have sv := (oth v hvb).trans (so2 _ hvb)
        exact ⟨sv.cells _ a, (sv.st 0).trans b', c, d⟩
    · intro i hi
      by_cases hil : i < s.levels.getD 0 0
      · rw [sb1.st b i fun x => Nat.not_le_of_lt hil x.2.1]; exact iat.raw i hil
      · exact hr1 i (Nat.le_of_not_lt hil) (by rw [Nat.add_sub_cancel' hl0]; exact hi)

theorem dtor_contract (P : Params) (n0 : Nat) (s : Sketch) (ids0 : List Nat) :
    TripleS n0 (foot (owned s) n0) (fun h => Inv P h s ∧ h.ids = ids0) (dtor s)
      (fun _ h' => Owns h' ids0 (owned s) [] n0) := by
  intro h _ ⟨inv, hid⟩
  refine (dtor_spec inv fun b hb => foot_own hb).mono fun _ h' ⟨_, hids, _⟩ => ⟨fun x => ?_, nofun⟩
  rw [hids x, hid, List.mem_nil_iff, or_false]

theorem copyCtor_spec {P : Params} {S : Nat → Bool} {o : Sketch} {h : Heap} (u : Usable P h o) (hS0 : S h.next = true)
    (hS1 : S (h.next + 1) = true) :
    SafeF S h (copyCtor o h)
      (fun s' h' => s' = { o with self := h.next, items := some (h.next + 1), view := none } ∧ Usable P h' s' ∧
        (∀ b, b < h.next → SameOn h h' b) ∧ h'.ids = (h.next + 1) :: h.next :: h.ids ∧ h'.next = h.next + 2) := by
  have inv := u.toInv
  obtain ⟨ob, hob, hlive⟩ := u.items
  obtain ⟨lok, iat, hoblt, hobself, hobview⟩ := inv.items_ok ob hob
  obtain ⟨src0, src1⟩ := u.mm_src
  have hl0 : o.levels.getD 0 0 ≤ o.itemsSize := lok.le_top 0 (Nat.zero_le _)
  have hsz := Nat.add_sub_cancel' hl0
  unfold copyCtor
  apply vstep_alloc _ _ hS0
  intro h1 hc1 hr1 so1 hid1 hnx1
  have ne1 : o.self ≠ h.next := Nat.ne_of_lt inv.self_lt
  have ss1 := so1 o.self ne1
  apply vstep_optCopyCtor (ss1.cells _ inv.self_cells) Nat.zero_lt_two (by rw [ss1.st]; exact src0) hc1 Nat.zero_lt_two
    (hr1 0 Nat.zero_lt_two) hS0
  intro h2 sb2 hst2
  have ss2 : SameOn h1 h2 o.self := sb2.sameOn (fun j x => ne1 x.1)
  apply vstep_optCopyCtor (ss2.cells _ (ss1.cells _ inv.self_cells)) Nat.one_lt_two (by rw [ss2.st, ss1.st]; exact src1)
    (sb2.cells _ _ hc1) Nat.one_lt_two (by rw [sb2.st _ _ (fun x => Nat.one_ne_zero x.2)]; exact hr1 1 Nat.one_lt_two) hS0
  intro h3 sb3 hst3
  have hnx3 : h3.next = h.next + 1 := by rw [sb3.next, sb2.next, hnx1]
  apply vstep_alloc _ _ (hnx3 ▸ hS1)
  intro h4 hc4 hr4 so4 hid4 hnx4
  rw [hnx3] at hc4 hr4 so4 hid4 hnx4 ⊢
  apply step_lv (lok.len ▸ Nat.succ_pos _)
  apply step_lv (lok.len ▸ Nat.lt_succ_self _)
  rw [lok.top]
  apply step_deref_eq hob
  have old14 : ∀ b, b < h.next → SameOn h h4 b := fun b hb =>
    (((so1 b (Nat.ne_of_lt hb)).trans (sb2.sameOn (fun j x => Nat.ne_of_lt hb x.1))).trans
      (sb3.sameOn (fun j x => Nat.ne_of_lt hb x.1))).trans
      (so4 b (Nat.ne_of_lt (Nat.lt_succ_of_lt hb)))
  have sob := old14 ob hoblt
  apply vstep_copyRange (fun i => i) (sob.cells _ iat.cells) hc4 (Nat.ne_of_lt (Nat.lt_succ_of_lt hoblt)) (Nat.le_of_eq hsz)
    (fun j h1' h2' => ⟨hsz ▸ h2', by rw [sob.st]; exact hlive j h1' (hsz ▸ h2')⟩)
    (fun j h1' h2' => hr4 j (hsz ▸ h2')) hS1
  intro h5 sb5 hl5
  apply SafeF.pure
  have new5 : SameOn h3 h5 h.next := (so4 _ (Nat.ne_of_lt (Nat.lt_succ_self _))).trans
    (sb5.sameOn (fun j x => Nat.ne_of_lt (Nat.lt_succ_self _) x.1))
  have hmm := mm_of_eq u (b := h.next) (h' := h5)
    (by rw [new5.st, sb3.st _ _ (fun x => Nat.zero_ne_one x.2), hst2, ss1.st]) (by rw [new5.st, hst3, ss2.st, ss1.st])
  have hnx5 : h5.next = h.next + 2 := sb5.next.trans hnx4
  refine ⟨rfl, Usable.build (b := h.next + 1) inv.m_eq (new5.cells _ (sb3.cells _ _ (sb2.cells _ _ hc1)))
      (hnx5 ▸ Nat.lt_succ_of_lt (Nat.lt_succ_self _)) nofun rfl lok
      ⟨sb5.cells _ _ hc4, fun i hi => ?_, fun i h1' h2' => hl5 i h1' (hsz.symm ▸ h2')⟩
      (hnx5 ▸ Nat.lt_succ_self _) (Nat.ne_of_lt (Nat.lt_succ_self _)).symm nofun
      hmm.1 hmm.2 u.ret u.wt u.pw,
    fun b hb => (old14 b hb).trans (sb5.sameOn (fun j x => Nat.ne_of_lt (Nat.lt_succ_of_lt hb) x.1)),
    by rw [sb5.ids, hid4, sb3.ids, sb2.ids, hid1], hnx5⟩
  rw [sb5.st _ _ fun x => Nat.not_le_of_lt hi x.2.1]
  exact hr4 i (Nat.lt_of_lt_of_le hi hl0)

theorem copyCtor_contract (P : Params) (n0 : Nat) (o : Sketch) (ids0 : List Nat) :
    TripleS n0 (foot [] n0)
      (fun h => Usable P h o ∧ h.ids = ids0 ∧ h.next = n0 ∧ (∀ b, b ∈ owned o → b < n0)) (copyCtor o)
      (fun s' h' => Usable P h' s' ∧ Owns h' ids0 [] (owned s') n0) := by
  intro h hn ⟨u, hid, _, _⟩
  refine (copyCtor_spec u (foot_new hn) (foot_new (Nat.le_succ_of_le hn))).mono fun s' h' ⟨es, us, _, hid', _⟩ => ?_
  exact ⟨us, owns_fresh (hid ▸ hid') hn (es ▸ rfl) (es ▸ rfl) (es ▸ rfl)⟩

theorem moveCtor_contract (P : Params) (n0 : Nat) (o : Sketch) (ids0 : List Nat) :
    TripleS n0 (foot (owned o) n0) (fun h => Usable P h o ∧ h.ids = ids0 ∧ h.next = n0) (moveCtor o)
      (fun r h' => Usable P h' r.1 ∧ Inv P h' r.2 ∧ (∀ b, b ∈ owned r.1 → b ∉ owned r.2) ∧
         Owns h' ids0 (owned o) (owned r.1 ++ owned r.2) n0) := by
  intro h hn ⟨u, hid, hnx⟩
  have inv := u.toInv
  obtain ⟨src0, src1⟩ := u.mm_src
  have hSself : foot (owned o) n0 o.self = true := foot_own (mem_owned.2 (Or.inl rfl))
  have hSn : foot (owned o) n0 h.next = true := foot_new hn
  unfold moveCtor
  apply vstep_alloc _ _ hSn
  intro h1 hc1 hr1 so1 hid1 hnx1
  have old : ∀ {b}, b < h.next → b ≠ h.next := Nat.ne_of_lt
  have ss1 := so1 o.self (old inv.self_lt)
  apply vstep_optMoveCtor (ss1.cells _ inv.self_cells) Nat.zero_lt_two (by rw [ss1.st]; exact src0) hc1 Nat.zero_lt_two
    (hr1 0 Nat.zero_lt_two) hSself hSn
  intro h2 sb2 hst2 _
  apply vstep_optMoveCtor (sb2.cells _ _ (ss1.cells _ inv.self_cells)) Nat.one_lt_two
    (by rw [sb2.st _ _ (not_two_cells_of_index Nat.one_ne_zero Nat.one_ne_zero), ss1.st]; exact src1)
    (sb2.cells _ _ hc1) Nat.one_lt_two (by rw [sb2.st _ _ (not_two_cells_of_index Nat.one_ne_zero Nat.one_ne_zero)]; exact hr1 1 Nat.one_lt_two) hSself hSn
  intro h3 sb3 hst3 _
  apply SafeF.pure
  have hnx3 : h3.next = h.next + 1 := by rw [sb3.next, sb2.next, hnx1]
  have hle : h.next ≤ h3.next := hnx3 ▸ Nat.le_succ _
  have oth : ∀ b, b ≠ o.self → b < h.next → SameOn h h3 b := fun b h1' h2' =>
    ((so1 b (old h2')).trans (sb2.sameOn (fun j => not_two_cells_of_block h1' (old h2')))).trans
      (sb3.sameOn (fun j => not_two_cells_of_block h1' (old h2')))
  have u1 : Usable P h3 { o with self := h.next, view := none } :=
    u.rehome h.next none (sb3.cells _ _ (sb2.cells _ _ hc1)) (hnx3 ▸ Nat.lt_succ_self _)
      (by rw [sb3.st _ _ (not_two_cells_of_index Nat.zero_ne_one Nat.zero_ne_one), hst2, ss1.st]) (by rw [hst3, sb2.st _ _ (not_two_cells_of_index Nat.one_ne_zero Nat.one_ne_zero), ss1.st])
      (fun b hb => ⟨oth b (inv.items_ne_self hb) (inv.items_lt hb), old (inv.items_lt hb), nofun⟩) hle nofun
  have i2 : Inv P h3 { o with levels := [], items := none } :=
    ⟨inv.m_eq, sb3.cells _ _ (sb2.cells _ _ (ss1.cells _ inv.self_cells)), Nat.lt_of_lt_of_le inv.self_lt hle, fun v hv =>
      have sv := oth v (inv.view_ne_self hv) (inv.view_lt hv)
      ⟨sv.cells _ (inv.view_cells hv), (sv.st 0).trans (inv.view_raw hv), Nat.lt_of_lt_of_le (inv.view_lt hv) hle,
        inv.view_ne_self hv⟩, nofun⟩
  refine ⟨u1, i2, ?_, Owns.of_delta (fun _ => False) (fun x => x = h.next) (fun x => ?_)
    (fun x hx => hid ▸ (inv.owned_ids x hx).1) (fun _ d => d.elim) (fun x a => a ▸ hnx ▸ Nat.le_refl _) (fun x => ?_)⟩
  · intro b hb hb2
    simp only [mem_owned, reduceCtorEq, or_false, false_or] at hb hb2
    rcases hb with rfl | hb
    · exact hb2.elim (old inv.self_lt).symm fun e => old (inv.view_lt e) rfl
    · exact hb2.elim (inv.items_ne_self hb) (inv.items_ne_view hb)
  · rw [sb3.ids, sb2.ids, hid1, hid]
    simp only [List.mem_cons, not_false_eq_true, and_true, or_comm]
  · simp only [List.mem_append, mem_owned, reduceCtorEq, false_or, not_false_eq_true, and_true, or_comm, or_left_comm]

theorem selfMoveAssign_contract (P : Params) (n0 : Nat) (t : Sketch) (ids0 : List Nat) :
    TripleS n0 (foot (owned t) n0) (fun h => Usable P h t ∧ h.ids = ids0 ∧ h.next = n0) (selfMoveAssign t)
      (fun t' h' => Usable P h' t' ∧ Owns h' ids0 (owned t) (owned t') n0) := by
  intro h _ ⟨u, hid, _⟩
  have inv := u.toInv
  unfold selfMoveAssign
  apply SafeF.last
  apply vstep_resetSortedView (fun v hv => ⟨inv.view_cells hv, inv.view_raw hv,
    foot_own (mem_owned.2 (Or.inr (Or.inr hv)))⟩)
  intro h1 so1 hid1 hnx1
  apply SafeF.pure
  have ss := so1 t.self fun e => inv.view_ne_self e rfl
  refine ⟨u.rehome t.self none (ss.cells _ inv.self_cells) (hnx1 ▸ inv.self_lt) (ss.st 0) (ss.st 1)
    (fun b hb => ⟨so1 b (inv.items_ne_view hb), inv.items_ne_self hb, nofun⟩) (Nat.le_of_eq hnx1.symm) nofun,
    Owns.of_delta (fun x => t.view = some x) (fun _ => False) (fun x => ?_) (fun x hx => hid ▸ (inv.owned_ids x hx).1) (fun x d => mem_owned.2 (Or.inr (Or.inr d))) (fun _ a => a.elim)
    (fun x => ?_)⟩
  · rw [hid1, hid]
    simp only [List.mem_filter, bne_iff_ne, ne_eq, or_false]
  · simp only [mem_owned, reduceCtorEq, or_false]
    constructor
    · rintro (e | e)
      · exact ⟨Or.inl e, fun e' => inv.view_ne_self e' e⟩
      · exact ⟨Or.inr (Or.inl e), inv.items_ne_view e⟩
    · rintro ⟨e | e | e, d⟩
      · exact Or.inl e
      · exact Or.inr e
      · exact absurd e d

/-- under any footprint that covers the target's blocks and the source's storage -/
theorem moveAssignCore_spec {P : Params} {S : Nat → Bool} {t o : Sketch} {h : Heap} (n0 : Nat) (it : Inv P h t)
    (uo : Usable P h o) (dj : ∀ b, b ∈ owned t → b ∉ owned o) (hSt : ∀ b, b ∈ owned t → S b = true) (hSo : S o.self = true) :
    SafeF S h (moveAssignCore t o h)
      (fun r h' => r = ({ o with self := t.self, view := none }, { t with self := o.self, view := o.view }) ∧
        Usable P h' r.1 ∧ Inv P h' r.2 ∧ (∀ b, b ∈ owned r.1 → b ∉ owned r.2) ∧
        Owns h' h.ids (owned t ++ owned o) (owned r.1 ++ owned r.2) n0 ∧ h'.next = h.next) := by
  have io := uo.toInv
  have hts : t.self ∈ owned t := mem_owned.2 (Or.inl rfl)
  have hos : o.self ∈ owned o := mem_owned.2 (Or.inl rfl)
  have hne : t.self ≠ o.self := fun e => dj _ hts (e ▸ hos)
  unfold moveAssignCore
  apply vstep_optSwap it.self_cells Nat.zero_lt_two io.self_cells Nat.zero_lt_two hne (hSt _ hts) hSo
  intro h1 sb1 a1 b1
  apply vstep_optSwap (sb1.cells _ _ it.self_cells) Nat.one_lt_two (sb1.cells _ _ io.self_cells) Nat.one_lt_two
    hne (hSt _ hts) hSo
  intro h2 sb2 a2 b2
  have oth : ∀ b, b ≠ t.self → b ≠ o.self → SameOn h h2 b := fun b x y =>
    (sb1.sameOn (fun j => not_two_cells_of_block x y)).trans
      (sb2.sameOn (fun j => not_two_cells_of_block x y))
  have hview : ∀ v, t.view = some v → v ≠ t.self ∧ v ≠ o.self := fun v hv =>
    ⟨it.view_ne_self hv, fun e => dj v (mem_owned.2 (Or.inr (Or.inr hv))) (e ▸ hos)⟩
  apply vstep_resetSortedView (s := { o with self := t.self, view := t.view })
  · intro v hv
    have sv := oth v (hview v hv).1 (hview v hv).2
    exact ⟨sv.cells _ (it.view_cells hv), (sv.st 0).trans (it.view_raw hv), hSt _ (mem_owned.2 (Or.inr (Or.inr hv)))⟩
  intro h3 c23 hid3 hnx3
  apply SafeF.pure
  have hnx : h3.next = h.next := by rw [hnx3, sb2.next, sb1.next]
  have hts3 : HasCells h3 t.self 2 :=
    (c23 _ (fun e => (hview _ e).1 rfl)).cells _ (sb2.cells _ _ (sb1.cells _ _ it.self_cells))
  have hos3 : HasCells h3 o.self 2 :=
    (c23 _ (fun e => (hview _ e).2 rfl)).cells _ (sb2.cells _ _ (sb1.cells _ _ io.self_cells))
  have hoi : ∀ b, o.items = some b → b ≠ o.self ∧ b ≠ t.self ∧ t.view ≠ some b ∧ o.view ≠ some b := fun b hb =>
    have hbo : b ∈ owned o := mem_owned.2 (Or.inr (Or.inl hb))
    ⟨io.items_ne_self hb, fun e => dj _ hts (e ▸ hbo), fun e => dj b (mem_owned.2 (Or.inr (Or.inr e))) hbo, io.items_ne_view hb⟩
  have hti : ∀ b, t.items = some b → b ≠ t.self ∧ b ≠ o.self ∧ t.view ≠ some b ∧ o.view ≠ some b := fun b hb =>
    have hbt : b ∈ owned t := mem_owned.2 (Or.inr (Or.inl hb))
    ⟨it.items_ne_self hb, fun e => dj b hbt (e ▸ hos), it.items_ne_view hb, fun e => dj b hbt (mem_owned.2 (Or.inr (Or.inr e)))⟩
  have hov : ∀ v, o.view = some v → v ≠ o.self ∧ v ≠ t.self ∧ t.view ≠ some v := fun v hv =>
    have hvo : v ∈ owned o := mem_owned.2 (Or.inr (Or.inr hv))
    ⟨io.view_ne_self hv, fun e => dj _ hts (e ▸ hvo), fun e => dj v (mem_owned.2 (Or.inr (Or.inr e))) hvo⟩
  have u1 : Usable P h3 { o with self := t.self, view := none } := by
    apply uo.rehome t.self none hts3 (hnx ▸ it.self_lt)
    · rw [(c23 _ (fun e => (hview _ e).1 rfl)).st, sb2.st _ _ (not_two_cells_of_index Nat.zero_ne_one Nat.zero_ne_one), a1]
    · rw [(c23 _ (fun e => (hview _ e).1 rfl)).st, a2, sb1.st _ _ (not_two_cells_of_index Nat.one_ne_zero Nat.one_ne_zero)]
    · intro b hb
      obtain ⟨x1, x2, x3, _⟩ := hoi b hb
      exact ⟨(oth b x2 x1).trans (c23 b x3), x2, nofun⟩
    · exact Nat.le_of_eq hnx.symm
    · nofun
  have i2 : Inv P h3 { t with self := o.self, view := o.view } := by
    apply it.rehome o.self o.view hos3 (hnx ▸ io.self_lt)
    · intro b hb
      obtain ⟨x1, x2, x3, x4⟩ := hti b hb
      exact ⟨(oth b x1 x2).trans (c23 b x3), x2, x4⟩
    · exact Nat.le_of_eq hnx.symm
    · intro v hv
      obtain ⟨x1, x2, x3⟩ := hov v hv
      have sv := (oth v x2 x1).trans (c23 v x3)
      exact ⟨sv.cells _ (io.view_cells hv), (sv.st 0).trans (io.view_raw hv), hnx ▸ io.view_lt hv, x1⟩
  -- only the target's view is released; everything else changes hands
  refine ⟨rfl, u1, i2, ?_, Owns.of_delta (fun x => t.view = some x) (fun _ => False) (fun x => ?_) (fun x hx => ?_)
    (fun x d => List.mem_append_left _ (mem_owned.2 (Or.inr (Or.inr d)))) (fun _ a => a.elim) (fun x => ?_), hnx⟩
  · intro b hb hb2
    simp only [mem_owned, reduceCtorEq, or_false] at hb hb2
    rcases hb with rfl | hb
    · rcases hb2 with e | e | e
      · exact hne e
      · exact (hti _ e).1 rfl
      · exact (hov _ e).2.1 rfl
    · obtain ⟨x1, x2, x3, x4⟩ := hoi b hb
      rcases hb2 with e | e | e
      · exact x1 e
      · exact dj b (mem_owned.2 (Or.inr (Or.inl e))) (mem_owned.2 (Or.inr (Or.inl hb)))
      · exact x4 e
  · rw [hid3, sb2.ids, sb1.ids]
    simp only [List.mem_filter, bne_iff_ne, ne_eq, or_false]
  · exact (List.mem_append.1 hx).elim (fun hx => (it.owned_ids x hx).1) (fun hx => (io.owned_ids x hx).1)
  · simp only [List.mem_append, mem_owned, reduceCtorEq, or_false]
    constructor
    · rintro ((e | e) | (e | e | e))
      · exact ⟨Or.inl (Or.inl e), fun e' => (hview x e').1 e⟩
      · exact ⟨Or.inr (Or.inr (Or.inl e)), (hoi x e).2.2.1⟩
      · exact ⟨Or.inr (Or.inl e), fun e' => (hview x e').2 e⟩
      · exact ⟨Or.inl (Or.inr (Or.inl e)), (hti x e).2.2.1⟩
      · exact ⟨Or.inr (Or.inr (Or.inr e)), (hov x e).2.2⟩
    · rintro ⟨(e | e | e) | (e | e | e), d⟩
      · exact Or.inl (Or.inl e)
      · exact Or.inr (Or.inr (Or.inl e))
      · exact absurd e d
      · exact Or.inr (Or.inl e)
      · exact Or.inl (Or.inr e)
      · exact Or.inr (Or.inr (Or.inr e))

/-- copy-and-swap -/
theorem copyAssign_eq (t o : Sketch) : copyAssign t o = (do
    let copy ← copyCtor o
    let r ← moveAssignCore t copy
    dtor { r.2 with view := none }
    pure r.1) := by
  unfold copyAssign moveAssignCore
  simp only [M.bind_assoc]
  rfl

theorem copyAssign_contract (P : Params) (n0 : Nat) (t o : Sketch) (ids0 : List Nat) :
    TripleS n0 (foot (owned t) n0)
      (fun h => Inv P h t ∧ Usable P h o ∧ (t = o ∨ ∀ b, b ∈ owned t → b ∉ owned o) ∧ h.ids = ids0 ∧ h.next = n0 ∧
         (∀ b, b ∈ owned t → b < n0) ∧ (∀ b, b ∈ owned o → b < n0) ∧ (∀ x, x ∈ ids0 → x < n0))
      (copyAssign t o) (fun t' h' => Usable P h' t' ∧ Owns h' ids0 (owned t) (owned t') n0) := by
  intro h hn ⟨it, uo, _, hid, hnx, htlt, _, hwf⟩
  have hSt : ∀ b, b ∈ owned t → foot (owned t) n0 b = true := fun b hb => foot_own hb
  have hS0 : foot (owned t) n0 h.next = true := foot_new hn
  rw [copyAssign_eq]
  apply SafeF.bind (copyCtor_spec uo hS0 (foot_new (Nat.le_succ_of_le hn)))
  intro copy h1 ⟨ec, uc, old1, hid1, hnx1⟩ _
  subst ec
  -- the copy's blocks are the two new ones
  have hco : ∀ x, x ∈ owned ({ o with self := h.next, items := some (h.next + 1), view := none } : Sketch) ↔
      x = h.next ∨ x = h.next + 1 := fun x => by
    simp only [mem_owned, reduceCtorEq, or_false, Option.some.injEq, eq_comm]
  have hnew : ∀ x, x = h.next ∨ x = h.next + 1 → n0 ≤ x := fun x e =>
    e.elim (· ▸ hn) (· ▸ Nat.le_succ_of_le hn)
  have it1 : Inv P h1 t := it.transfer (fun b hb => old1 b (hnx ▸ htlt b hb)) (hnx1 ▸ Nat.le_add_right _ _)
  apply SafeF.bind (moveAssignCore_spec n0 it1 uc (fun b hb hc => Nat.not_le_of_lt (htlt b hb) (hnew b ((hco b).1 hc))) hSt hS0)
  intro r h3 ⟨er, u3, i3, dj3, ow, _⟩ _
  subst er
  have hd : ∀ x, x ∈ owned ({ t with self := h.next, view := none } : Sketch) ↔ x = h.next ∨ t.items = some x := fun x => by
    simp only [mem_owned, reduceCtorEq, or_false]
  apply SafeF.bind (dtor_spec i3 fun b hb => ((hd b).1 hb).elim (· ▸ hS0) fun e => hSt _ (mem_owned.2 (Or.inr (Or.inl e))))
  intro _ h5 ⟨so5, hid5, hnx5⟩ _
  apply SafeF.pure
  -- `ow` counts the blocks before the temporary died, `hid5` takes the temporary's away
  refine ⟨u3.transfer (fun b hb => so5 b (dj3 b hb)) (Nat.le_of_eq hnx5.symm), fun x => ?_, fun x hx => ?_⟩
  · rw [hid5, ow.ids, hid1, hid, List.mem_cons, List.mem_cons, List.mem_append, List.mem_append, hco, hd]
    constructor
    · rintro ⟨⟨a | a | a, b⟩ | a | a, c⟩
      · exact absurd (Or.inr (Or.inr a)) b
      · exact absurd (Or.inr (Or.inl a)) b
      · exact Or.inl ⟨a, fun e => b (Or.inl e)⟩
      · exact Or.inr a
      · exact absurd a c
    · rintro (⟨a, b⟩ | a)
      · have hx := hwf x a
        refine ⟨Or.inl ⟨Or.inr (Or.inr a), fun e => e.elim b fun e => Nat.not_le_of_lt hx (hnew x e)⟩, fun e => ?_⟩
        exact e.elim (fun e => Nat.not_le_of_lt hx (e ▸ hn)) fun e => b (mem_owned.2 (Or.inr (Or.inl e)))
      · exact ⟨Or.inr (Or.inl a), fun e => dj3 x a ((hd x).2 e)⟩
  · exact (ow.fresh x (List.mem_append_left _ hx)).elim
      (fun e => (List.mem_append.1 e).imp_right fun e => hnew x ((hco x).1 e)) Or.inr

theorem moveAssign_contract (P : Params) (rs : Bool) (n0 : Nat) (t o : Sketch) (ids0 : List Nat) :
    TripleS n0 (foot (owned t ++ owned o) n0)
      (fun h => Inv P h t ∧ Usable P h o ∧ (∀ b, b ∈ owned t → b ∉ owned o) ∧ h.ids = ids0 ∧ h.next = n0)
      (moveAssign rs t o)
      (fun r h' => Usable P h' r.1 ∧ Inv P h' r.2 ∧ (∀ b, b ∈ owned r.1 → b ∉ owned r.2) ∧
         Owns h' ids0 (owned t ++ owned o) (owned r.1 ++ owned r.2) n0) := by
  intro h _ ⟨it, uo, dj, hid, _⟩
  have io := uo.toInv
  have hSt : ∀ b, b ∈ owned t → foot (owned t ++ owned o) n0 b = true := fun b hb => foot_own (List.mem_append_left _ hb)
  have hSo : ∀ b, b ∈ owned o → foot (owned t ++ owned o) n0 b = true := fun b hb => foot_own (List.mem_append_right _ hb)
  have hos := hSo _ (mem_owned.2 (Or.inl rfl))
  unfold moveAssign
  cases rs with
  | false =>
    rw [if_neg nofun, pure_bind_apply]
    exact (moveAssignCore_spec n0 it uo dj hSt hos).mono fun r h' ⟨_, u, i, d, ow, _⟩ => ⟨u, i, d, hid ▸ ow⟩
  | true =>
    rw [if_pos rfl]
    apply vstep_resetSortedView fun v hv => ⟨io.view_cells hv, io.view_raw hv, hSo _ (mem_owned.2 (Or.inr (Or.inr hv)))⟩
    intro h1 so1 hid1 hnx1
    -- the source without its view is still usable, the target is untouched
    have ss := so1 o.self fun e => io.view_ne_self e rfl
    have uo1 : Usable P h1 { o with view := none } :=
      uo.rehome o.self none (ss.cells _ io.self_cells) (hnx1 ▸ io.self_lt) (ss.st 0) (ss.st 1)
        (fun b hb => ⟨so1 b (io.items_ne_view hb), io.items_ne_self hb, nofun⟩) (Nat.le_of_eq hnx1.symm) nofun
    have it1 : Inv P h1 t :=
      it.transfer (fun b hb => so1 b (fun e => dj b hb (mem_owned.2 (Or.inr (Or.inr e))))) (Nat.le_of_eq hnx1.symm)
    have hsub : ∀ b, b ∈ owned ({ o with view := none } : Sketch) → b ∈ owned o := fun b hb => by
      simp only [mem_owned, reduceCtorEq, or_false] at hb
      exact mem_owned.2 (hb.imp_right Or.inl)
    refine (moveAssignCore_spec n0 it1 uo1 (fun b hb hb' => dj b hb (hsub b hb')) hSt hos).mono ?_
    intro r h' ⟨_, u, i, d, ow, _⟩
    refine ⟨u, i, d, ow.after_release (fun x => o.view = some x) (fun x => ?_) (fun x => ?_)⟩
    · rw [hid1, hid, List.mem_filter, bne_iff_ne]
    · simp only [List.mem_append, mem_owned, reduceCtorEq, or_false, or_assoc]

end DS.Life.Kll
