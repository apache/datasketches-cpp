/-
C02 — Theta set operations return the exact set expression over the hash samples.

ONLY property theorems and non-vacuity examples (helper lemmas: Lemmas/ThetaUnion.lean, ThetaInter.lean).
Model: DSModel/Theta/SetOps.lean, tied to theta_union_base_impl.hpp, theta_intersection_base_impl.hpp,
theta_set_difference_base_impl.hpp by `./check C02`.

Operands are arbitrary well-formed sketches `WFop` (entries distinct and below the sketch's theta, ordered ⇒
sorted, empty ⇒ no entries) in ANY physical form — every form abstracts to `Compact σ`.  All statements hold
for every configuration (lg_k, resize factor, p, thresholds), every payload type `σ` with any combining policy
(σ = Unit is the Theta sketch; C13 reuses them for Tuple) and every finite sequence of operands.
-/
import DSProofs.Lemmas.ThetaUnion
import DSProofs.Lemmas.ThetaInter
namespace DS.Theta

variable {σ : Type}

/-- **Union result.**  After feeding any sequence of well-formed sketches to a union (from its initial state),
`get_result` is characterised by: entries strictly sorted (hence distinct); an entry is retained iff it was
retained by some non-empty input and is below the result theta; at most k = 2^lgNom entries; the result theta
is at most θ* = min(starting theta, thetas of the non-empty inputs), and it is strictly below θ* only when
exactly k entries are kept and the theta itself is one of the offered hashes — i.e. the (k+1)-th smallest
surviving hash (see `C02_union_result_unique`: these facts determine the result).  The result is empty iff
every input was empty. -/
theorem C02_union_result_spec (c : Cfg) (pol : σ → σ → σ) (sh : Nat) (sks : List (Compact σ))
    (hw : ∀ sk, sk ∈ sks → WFop sk) (u : Union σ) (hu : unionFold c pol sh (unionInit c) sks = some u)
    (ord : Bool) :
    (allEmpty sks = false →
      ResultSpec (offered sks) (thetaStar c.theta0 sks) (2^c.lgNom)
        (unionResult c u ord sh).theta (keys (unionResult c u ord sh).ents) ∧
      (unionResult c u ord sh).isEmpty = false) ∧
    (allEmpty sks = true → (unionResult c u ord sh).isEmpty = true ∧ (unionResult c u ord sh).ents = []) := by
  have hf := ustate_fold c pol sh sks [] c.theta0 true (unionInit c) u (ustate_init c) hw hu
  have hemp : u.tbl.isEmpty = allEmpty sks := hf.emp
  constructor
  · intro hne
    exact unionResult_spec c (offered sks) (thetaStar c.theta0 sks) u ord sh (by simpa [hne] using hf)
  · intro he
    unfold unionResult
    simp [hemp, he]

/-- The characterisation determines the result: it depends only on the SET of offered hashes, θ* and k. -/
theorem C02_union_result_unique (S1 S2 : List Nat) (θs k t1 t2 : Nat) (l1 l2 : List Nat)
    (hS : ∀ x, x ∈ S1 ↔ x ∈ S2) (h1 : ResultSpec S1 θs k t1 l1) (h2 : ResultSpec S2 θs k t2 l2) :
    t1 = t2 ∧ l1 = l2 :=
  resultSpec_unique S1 S2 θs k t1 t2 l1 l2 hS h1 h2

/-- **Order independence.**  Presenting the same sketches in any other order gives the same theta, the same
retained hashes and the same emptiness (and the union accepts one order iff it accepts the other). -/
theorem C02_union_perm_invariant (c : Cfg) (pol : σ → σ → σ) (sh : Nat) (sks sks' : List (Compact σ))
    (hp : sks.Perm sks') (hw : ∀ sk, sk ∈ sks → WFop sk) (u : Union σ)
    (hu : unionFold c pol sh (unionInit c) sks = some u) (ord : Bool) :
    ∃ u', unionFold c pol sh (unionInit c) sks' = some u' ∧
      (unionResult c u' ord sh).theta = (unionResult c u ord sh).theta ∧
      keys (unionResult c u' ord sh).ents = keys (unionResult c u ord sh).ents ∧
      (unionResult c u' ord sh).isEmpty = (unionResult c u ord sh).isEmpty := by
  have hw' : ∀ sk, sk ∈ sks' → WFop sk := fun sk hs => hw sk (hp.mem_iff.2 hs)
  have hok : ∀ sk, sk ∈ sks' → sk.isEmpty = true ∨ sk.seedHash = sh := by
    have := (unionFold_isSome c pol sh sks (unionInit c)).1 ⟨u, hu⟩
    intro sk hs; exact this sk (hp.mem_iff.2 hs)
  obtain ⟨u', hu'⟩ := (unionFold_isSome c pol sh sks' (unionInit c)).2 hok
  refine ⟨u', hu', ?_⟩
  have hae := allEmpty_perm sks sks' hp
  cases hb : allEmpty sks with
  | true =>
    -- nothing but empty inputs: both unions are still in their initial state
    rw [unionFold_of_allEmpty c pol sh _ sks hb] at hu
    rw [unionFold_of_allEmpty c pol sh _ sks' (hae ▸ hb)] at hu'
    cases hu; cases hu'
    exact ⟨rfl, rfl, rfl⟩
  | false =>
    have a := (C02_union_result_spec c pol sh sks hw u hu ord).1 hb
    have b := (C02_union_result_spec c pol sh sks' hw' u' hu' ord).1 (hae ▸ hb)
    have hS : ∀ x, x ∈ offered sks' ↔ x ∈ offered sks := fun x => (offered_perm sks sks' hp).mem_iff.symm
    have hb1 := b.1
    rw [← thetaStar_perm c.theta0 sks sks' hp] at hb1
    have := resultSpec_unique _ _ _ _ _ _ _ _ hS hb1 a.1
    exact ⟨this.1, this.2, by rw [a.2, b.2]⟩

/-- A non-empty operand built with another seed is refused (and an empty one is skipped without a check). -/
theorem C02_union_seed_mismatch_refused (c : Cfg) (pol : σ → σ → σ) (sh : Nat) (u : Union σ) (sk : Compact σ) :
    (sk.isEmpty = false → sk.seedHash ≠ sh → unionUpdate c pol sh u sk = none) ∧
    (sk.isEmpty = true → unionUpdate c pol sh u sk = some u) :=
  ⟨unionUpdate_mismatch c pol sh u sk, unionUpdate_empty c pol sh u sk⟩

/-- **Intersection result.**  After any non-empty sequence of well-formed sketches, the intersection has a
result; if it is not flagged empty, its theta is the minimum input theta and it retains exactly the hashes
retained by EVERY input that are below that theta; if it is flagged empty, it has no entries, theta is the
maximum, and indeed no hash is retained by every input (the empty set is exact).  Before the first update
`get_result` is refused. -/
theorem C02_inter_result_spec (pol : σ → σ → σ) (sh : Nat) (sks : List (Compact σ))
    (hw : ∀ sk, sk ∈ sks → WFop sk) (i : Inter σ) (hi : interFold pol sh interInit sks = some i) :
    (i.valid = true ↔ sks ≠ []) ∧
    (keys i.ents).Pairwise (· < ·) ∧
    (sks ≠ [] → i.isEmpty = false →
      i.theta = minTheta sks ∧ ∀ x, x ∈ keys i.ents ↔ ((∀ sk, sk ∈ sks → x ∈ keys sk.ents) ∧ x < i.theta)) ∧
    (i.isEmpty = true → i.ents = [] ∧ i.theta = MAX_THETA ∧ ∀ x, ¬ (∀ sk, sk ∈ sks → x ∈ keys sk.ents)) ∧
    (sks = [] → ∀ ord, interResult i ord sh = none) := by
  have h := iinv_fold pol sh sks i hw hi
  refine ⟨h.valid_iff, h.sorted, h.ne, fun he => ⟨(h.em he).1, (h.em he).2.1, (h.em he).2.2.2⟩, ?_⟩
  intro hnil ord
  have hv : i.valid = false := by
    cases hv : i.valid with
    | false => rfl
    | true => exact absurd hnil ((h.valid_iff).1 hv)
  simp [interResult, hv]

/-- An input that is empty makes the intersection exactly empty, whatever else is presented. -/
theorem C02_inter_empty_input (pol : σ → σ → σ) (sh : Nat) (sks : List (Compact σ))
    (hw : ∀ sk, sk ∈ sks → WFop sk) (i : Inter σ) (hi : interFold pol sh interInit sks = some i)
    (sk : Compact σ) (hm : sk ∈ sks) (he : sk.isEmpty = true) : i.isEmpty = true :=
  interFold_isEmpty pol sh sks interInit i hi (Or.inr ⟨sk, hm, he⟩)

/-- **A-not-B.**  The two documented short-circuits return A itself; otherwise theta is the minimum of the two
thetas, the entries are exactly A's entries below that theta that B does not retain (with A's payloads),
the result is empty iff nothing is left and theta is the maximum, and mismatching seeds are refused. -/
theorem C02_anotb_spec (sh : Nat) (a b : Compact σ) (ord : Bool) :
    ((a.isEmpty = true ∨ (a.ents ≠ [] ∧ b.isEmpty = true)) → aNotB sh a b ord = some (compactOfCompact a ord)) ∧
    (¬ (a.isEmpty = true ∨ (a.ents ≠ [] ∧ b.isEmpty = true)) →
      ((a.seedHash ≠ sh ∨ b.seedHash ≠ sh) → aNotB sh a b ord = none) ∧
      (a.seedHash = sh → b.seedHash = sh → ∃ r, aNotB sh a b ord = some r ∧
        r.theta = min a.theta b.theta ∧
        r.ents = a.ents.filter (fun e => decide (e.1 < min a.theta b.theta) && !((keys b.ents).contains e.1)) ∧
        (r.isEmpty = true ↔ (r.ents = [] ∧ min a.theta b.theta = MAX_THETA)) ∧
        (r.ordered = true ↔ (a.ordered = true ∨ ord = true ∨ r.ents.length ≤ 1)))) := by
  have hcond : (a.isEmpty || (!a.ents.isEmpty && b.isEmpty)) = true ↔
      (a.isEmpty = true ∨ (a.ents ≠ [] ∧ b.isEmpty = true)) := by
    simp
  unfold aNotB
  constructor
  · intro h
    rw [if_pos (hcond.2 h)]
  · intro h
    rw [if_neg (mt hcond.1 h)]
    constructor
    · intro hs
      rw [if_pos (by simpa using hs)]
    · intro h1 h2
      rw [if_neg (by simp [h1, h2])]
      exact ⟨_, rfl, rfl, rfl, by simp [List.isEmpty_iff], by simp [Bool.or_eq_true, or_assoc]⟩

/-! ### Non-vacuity: concrete operands (one in estimation mode, overlapping) through a k = 2 union,
an intersection and A-not-B. -/
def exA : Compact Unit := { theta := 90, ents := [(10, ()), (30, ()), (50, ())], isEmpty := false, ordered := true, seedHash := 7 }
def exB : Compact Unit := { theta := MAX_THETA, ents := [(50, ()), (20, ()), (95, ())], isEmpty := false, ordered := false, seedHash := 7 }
def exE : Compact Unit := { theta := MAX_THETA, ents := [], isEmpty := true, ordered := true, seedHash := 9 }
def exC : Cfg := { lgNom := 1, lgRf := 0, theta0 := MAX_THETA, lgStart := 2 }
def exPol : Unit → Unit → Unit := fun _ _ => ()

example : (unionFold exC exPol 7 (unionInit exC) [exA, exE, exB]).map (fun u => ((unionResult exC u true 7).theta, keys (unionResult exC u true 7).ents))
    = some (30, [10, 20]) := by decide +kernel
example : (unionFold exC exPol 7 (unionInit exC) [exB, exA, exE]).map (fun u => ((unionResult exC u true 7).theta, keys (unionResult exC u true 7).ents))
    = some (30, [10, 20]) := by decide +kernel
example : (interFold exPol 7 interInit [exA, exB]).map (fun i => (i.theta, keys i.ents, i.isEmpty)) = some (90, [50], false) := by decide +kernel
example : (aNotB 7 exA exB true).map (fun r => (r.theta, keys r.ents)) = some (90, [10, 30]) := by decide +kernel
example : WFop exA ∧ WFop exB := by
  refine ⟨⟨by decide, by decide, by decide, by decide, by decide⟩, ⟨by decide, by decide, by decide, by decide, by decide⟩⟩

end DS.Theta
