/- Repaired model: writes.  `Good` after `commit`, by what the ghost's `write` returns (`good_write_lost`, `good_write_kept`), which
is how every writing operation uses them.  A write to caller memory is called disciplined when it goes through a writable view that
is in sync with an untainted block (the single-writer discipline of Promise.lean): `PGhost.write` then bumps the version and the
promises survive (`write_mem_kept`); any other write to a block taints it. -/
import DSProofs.Lemmas.BloomGoodBind
namespace DS.Bloom

variable {ι : Type} (P : Params) (hf : ι → Nat → Option (Nat × Nat))

theorem viewOK_mem_nil {X : Nat} {s : SInfo ι} {f : Filter} {i : VInfo ι} (hm : isMem f = true) (hM : i.M = [])
    (hk : i.promised = true → KOK f) (hsv : i.sync ≤ s.ver) (hout : s.tainted = true ∨ i.sync < s.ver) : ViewOK P hf X s f i := by
  have hin : insync s f i = false := insync_mem_false hm hout
  exact {
    up := fun _ => hM
    us := fun _ _ ht => hout.elim (fun h => Bool.noConfusion (ht.symm.trans h)) id
    k1 := hk
    hs := hM ▸ Hashed.nil
    cov := hM ▸ Covers.nil
    ne := fun h => absurd hM h
    ex := fun _ h => Bool.noConfusion (hin.symm.trans h)
    dh := fun _ h => Bool.noConfusion (hin.symm.trans h)
    sv := fun _ => hsv
    tm := fun _ _ => hM
    os := fun h => Bool.noConfusion (h.symm.trans hm) }

/-- another view of the block after a disciplined write by someone else -/
theorem viewOK_stale {X X' : Nat} {s s' : SInfo ι} {f : Filter} {i : VInfo ι} (hok : ViewOK P hf X s f i) (hm : isMem f = true)
    (hver : s'.ver = s.ver + 1) (ht' : s'.tainted = false) (M' : List ι)
    (hM : M' = [] ∨ (M' = i.M ∧ ∀ j, j < f.capBits → X.testBit (f.off P + j) = true → X'.testBit (f.off P + j) = true))
    (hcap : 0 < f.capBits) :
    ViewOK P hf X' s' f { i with M := M' } := by
  have hlt : i.sync < s'.ver := hver ▸ Nat.lt_succ_of_le (hok.sv hm)
  rcases hM with rfl | ⟨rfl, hmono⟩
  · exact viewOK_mem_nil P hf hm rfl hok.k1 (Nat.le_of_lt hlt) (Or.inr hlt)
  · have hin : insync s' f i = false := insync_mem_false hm (Or.inr hlt)
    exact {
      up := hok.up
      us := fun _ _ _ => hlt
      k1 := hok.k1
      hs := hok.hs
      cov := hok.cov.mono hcap hmono
      ne := hok.ne
      ex := fun _ h => Bool.noConfusion (hin.symm.trans h)
      dh := fun _ h => Bool.noConfusion (hin.symm.trans h)
      sv := fun _ => Nat.le_of_lt hlt
      tm := fun _ h => Bool.noConfusion (ht'.symm.trans h)
      os := fun h => Bool.noConfusion (h.symm.trans hm) }

theorem committed_insync (s : SInfo ι) (f : Filter) (x nbs : Nat) (d : Bool) (i : VInfo ι) :
    insync s (committed f x nbs d) i = insync s f i := by
  unfold committed insync
  cases hr : f.ref <;> simp

/-- the writer after a disciplined write, a fresh wrap, a filter just initialised on the block -/
theorem viewOK_live_mem {X : Nat} {s : SInfo ι} {f : Filter} {i : VInfo ι} (hm : isMem f = true) (hp : i.promised = true)
    (hsy : i.sync = s.ver) (hk : KOK f) (ht : s.tainted = false)
    (hhs : Hashed hf f.seed i.M) (hcov : Covers hf X (f.off P) f.cfg i.M) (hne : i.M ≠ [] → f.isEmpty = false)
    (hex : f.dirty = false → f.nbs = popCount X (f.off P) f.capBits)
    (hdh : f.readOnly = false → f.dirty = true → getField X 192 64 = P.dirty) : ViewOK P hf X s f i :=
  { up := fun h => Bool.noConfusion (h.symm.trans hp)
    us := fun h => Bool.noConfusion (h.symm.trans hp)
    k1 := fun _ => hk
    hs := hhs
    cov := hcov
    ne := hne
    ex := fun _ _ => hex
    dh := fun _ _ _ => hdh
    sv := fun _ => Nat.le_of_eq hsy
    tm := fun _ h => Bool.noConfusion (ht.symm.trans h)
    os := fun h => Bool.noConfusion (h.symm.trans hm) }

/-- the writer after a write, a deserialized copy -/
theorem viewOK_live_own {X : Nat} {s : SInfo ι} {f : Filter} {i : VInfo ι} (hm : isMem f = false) (hp : i.promised = true) (hk : KOK f)
    (hhs : Hashed hf f.seed i.M) (hcov : Covers hf X (f.off P) f.cfg i.M) (hS : Covers hf X 0 f.cfg s.S ∧ Hashed hf f.seed s.S)
    (hne : i.M ≠ [] → f.isEmpty = false) (hex : f.dirty = false → f.nbs = popCount X (f.off P) f.capBits) :
    ViewOK P hf X s f i :=
  have nomem : ∀ {α : Prop}, isMem f = true → α := fun h' => Bool.noConfusion (hm.symm.trans h')
  { up := fun h => Bool.noConfusion (h.symm.trans hp)
    us := fun h => Bool.noConfusion (h.symm.trans hp)
    k1 := fun _ => hk
    hs := hhs
    cov := hcov
    ne := hne
    ex := fun _ _ => hex
    dh := fun _ _ h => nomem h
    sv := nomem
    tm := nomem
    os := fun _ => ⟨hS.1, hS.2, fun h => Bool.noConfusion (h.symm.trans hp)⟩ }

/-- a stale or read-only writer; for a block tainted already `taint` changes nothing -/
theorem good_write_mem_taint (w : World) (p : PGhost ι) (hg : Good P hf w p) (v : Nat) (f : Filter) (m : Nat)
    (hv : w.filters v = some f) (hr : f.ref = .mem m) (x nbs' : Nat) (d' : Bool) (hdr : Option Nat) :
    Good P hf (commit P w v f x nbs' d' hdr) (p.taint w (.mem m)) := by
  have hkey : keyOf v f = .mem m := keyOf_of_mem hr v
  have hm : isMem f = true := (keyOf_mem_of_eq hkey).2
  -- any view of the block, under its old filter or, for the writer, with the new cached fields
  have hany : ∀ u fu iu fu', w.filters u = some fu → p.vi u = some iu → keyOf u fu = .mem m → isMem fu' = true → (KOK fu → KOK fu') →
      ∃ iu', (p.taint w (.mem m)).vi u = some iu' ∧ ViewOK P hf (commitVal P f x hdr) ((p.taint w (.mem m)).si (.mem m)) fu' iu' ∧
        Sees P ⟨w.blockLen m, commitVal P f x hdr⟩ ((p.taint w (.mem m)).si (.mem m)) fu' iu' := by
    intro u fu iu fu' hfu hiu hk hmem' hkok
    have hoku := hg.view u fu iu hfu hiu
    rw [taint_si_same]
    refine ⟨_, taint_vi_same p w _ u fu iu hfu hiu hk, viewOK_mem_nil P hf hmem' rfl (fun hp => hkok (hoku.k1 hp)) ?_ (Or.inl rfl), fun _ hin => ?_⟩
    · have := hoku.sv (keyOf_mem_of_eq hk).2; rw [hk] at this; exact this
    · rw [insync_mem_false hmem' (Or.inl rfl)] at hin; cases hin
  obtain ⟨i, hi⟩ := hg.tracked v f hv
  obtain ⟨i', hi', hact⟩ := hany v f i { f with nbs := nbs', dirty := d' } hv hi hkey hm id
  rw [commit_mem P w v f m hr]
  refine hg.setBlock_setFilter v m _ _ i' hr ((hg.fwf v f hv).congr rfl rfl rfl) (fun k hk => taint_si_ne p w hk)
    (fun u fu _ hfu hk => taint_vi_ne p w _ u fu hfu hk) hi' hact (fun u fu iu _ hfu hiu hk => hany u fu iu fu hfu hiu hk (keyOf_mem_of_eq hk).2 id)
    (fun ht => ?_) (fun _ => ?_)
  · rw [taint_si_same] at ht; cases ht
  · rw [taint_si_same]

/-! ### a write through view `v`, by what the ghost's `write` returns

`false`: the promises about the written state are gone (an unpromised owned filter; a tainted block; a stale or read-only writer,
which taints the block), and nothing is asked of the new content.  `true`: an owned promised filter or a disciplined write; the
caller says which lists the state and the views end with and why the new content covers them. -/

theorem good_write_lost (w : World) (p : PGhost ι) (hg : Good P hf w p) (v : Nat) (f : Filter) (i : VInfo ι)
    (hv : w.filters v = some f) (hi : p.vi v = some i) (hkeep : (p.write w v f i).2 = false)
    (x nbs' : Nat) (d' : Bool) (hdr : Option Nat) :
    Good P hf (commit P w v f x nbs' d' hdr) (p.write w v f i).1 ∧ ((p.write w v f i).1.si (keyOf v f)).S = [] ∧
    ∀ u fu iu, w.filters u = some fu → (p.write w v f i).1.vi u = some iu → keyOf u fu = keyOf v f → iu.M = [] := by
  have hok := hg.view v f i hv hi
  cases hr : f.ref with
  | owned b =>
    have hm : isMem f = false := by simp [isMem, hr]
    have hkey : keyOf v f = .own v := by simp [keyOf, hr]
    rw [write_own p w v f i b hr] at hkeep ⊢
    simp only at hkeep ⊢
    rw [hkey] at hok ⊢
    have hM0 := hok.up hkeep
    have hS0 := (hok.os hm).2.2 hkeep
    refine ⟨?_, hS0, ?_⟩
    · rw [commit_owned P w v f b hr]
      refine hg.setFilter v _ i hi (fun _ _ _ _ => rfl) (fun _ _ => rfl) ((hg.fwf v f hv).congr rfl rfl rfl) ?_
        (fun m hm' => Ref.noConfusion hm')
      exact viewOK_owned_nil P hf rfl hS0 hM0 (fun hp => Bool.noConfusion (hkeep.symm.trans hp))
    · intro u fu iu hfu hiu hk
      have e := keyOf_eq_own_iff hk
      subst e
      rw [hi] at hiu
      rw [← Option.some.inj hiu]; exact hM0
  | mem m =>
    have hm : isMem f = true := by simp [isMem, hr]
    have hkey : keyOf v f = .mem m := by simp [keyOf, hr]
    rw [hkey] at hok ⊢
    by_cases ht : (p.si (.mem m)).tainted = true
    · rw [write_tainted p w v f i m hr ht]
      have hM : ∀ u fu iu, w.filters u = some fu → p.vi u = some iu → keyOf u fu = .mem m → iu.M = [] := by
        intro u fu iu hfu hiu hk
        have hoku := hg.view u fu iu hfu hiu
        rw [hk] at hoku
        exact hoku.tm (keyOf_mem_of_eq hk).2 ht
      have := good_write_mem_taint P hf w p hg v f m hv hr x nbs' d' hdr
      rw [taint_eq_self p w _ ht (hg.taintS m ht) hM] at this
      exact ⟨this, hg.taintS m ht, hM⟩
    · have ht' : (p.si (.mem m)).tainted = false := by simpa using ht
      by_cases hs : (i.sync != (p.si (.mem m)).ver || f.readOnly) = true
      · rw [write_stale p w v f i m hr ht' hs]
        refine ⟨?_, by rw [taint_si_same], ?_⟩
        · exact good_write_mem_taint P hf w p hg v f m hv hr x nbs' d' hdr
        · intro u fu iu hfu hiu hk
          obtain ⟨iu0, hiu0⟩ := hg.tracked u fu hfu
          rw [taint_vi_same p w _ u fu iu0 hfu hiu0 hk] at hiu
          rw [← Option.some.inj hiu]
      · -- a disciplined writer is promised
        exfalso
        have hs' : (i.sync != (p.si (.mem m)).ver || f.readOnly) = false := by simpa using hs
        rw [write_ok p w v f i m hr ht' hs'] at hkeep
        have := hok.us hkeep hm ht'
        simp only [Bool.or_eq_false_iff, bne_eq_false_iff_eq] at hs'
        exact Nat.ne_of_lt this hs'.1

theorem write_mem_kept (p : PGhost ι) (w : World) (v : Nat) (f : Filter) (i : VInfo ι) (m : Nat) (hr : f.ref = .mem m)
    (hkeep : (p.write w v f i).2 = true) :
    (p.si (.mem m)).tainted = false ∧ i.sync = (p.si (.mem m)).ver ∧
    p.write w v f i = ((p.setS (.mem m) { p.si (.mem m) with ver := (p.si (.mem m)).ver + 1 }).setV v
        { i with sync := (p.si (.mem m)).ver + 1 }, i.promised) := by
  by_cases ht : (p.si (.mem m)).tainted = true
  · rw [write_tainted p w v f i m hr ht] at hkeep; cases hkeep
  have ht' : (p.si (.mem m)).tainted = false := by simpa using ht
  by_cases hs : (i.sync != (p.si (.mem m)).ver || f.readOnly) = true
  · rw [write_stale p w v f i m hr ht' hs] at hkeep; cases hkeep
  have hs' : (i.sync != (p.si (.mem m)).ver || f.readOnly) = false := by simpa using hs
  refine ⟨ht', ?_, write_ok p w v f i m hr ht' hs'⟩
  simp only [Bool.or_eq_false_iff, bne_eq_false_iff_eq] at hs'; exact hs'.1

theorem write_kept (p : PGhost ι) (w : World) (v : Nat) (f : Filter) (i : VInfo ι) (hi : p.vi v = some i)
    (hkeep : (p.write w v f i).2 = true) :
    i.promised = true ∧ insync (p.si (keyOf v f)) f i = true ∧
    ((p.write w v f i).1.si (keyOf v f)).S = (p.si (keyOf v f)).S ∧
    (∃ i1, (p.write w v f i).1.vi v = some i1 ∧ i1.M = i.M) ∧ ∀ u, u ≠ v → (p.write w v f i).1.vi u = p.vi u := by
  cases hr : f.ref with
  | owned b =>
    rw [write_own p w v f i b hr] at hkeep ⊢
    exact ⟨hkeep, by simp [insync, hr], rfl, ⟨i, hi, rfl⟩, fun _ _ => rfl⟩
  | mem m =>
    obtain ⟨ht', hsync, e⟩ := write_mem_kept p w v f i m hr hkeep
    rw [e] at hkeep ⊢
    rw [keyOf_of_mem hr]
    exact ⟨hkeep, by simp [insync, hr, ht', hsync], by simp, ⟨_, setV_vi_same _ _ _, rfl⟩, fun u e => by rw [setV_vi_ne e, setS_vi]⟩

/-- how the ghost `p'` after a kept write through `v` differs from `p1`, the ghost that `write` returned; `grow`: the bits only grew.
`Kept.add` and `Kept.destr` (with `Kept.setV`) are the two shapes `pstep` produces. -/
structure Kept (w : World) (p1 p' : PGhost ι) (v : Nat) (k : Key) (S' M' : List ι) (grow : Prop) : Prop where
  si : p'.si k = { p1.si k with S := S' }
  si_ne : ∀ k', k' ≠ k → p'.si k' = p1.si k'
  vi : ∀ i1, p1.vi v = some i1 → p'.vi v = some { i1 with M := M' }
  vi_same : ∀ u fu iu, u ≠ v → w.filters u = some fu → p1.vi u = some iu → keyOf u fu = k →
    ∃ Mu, p'.vi u = some { iu with M := Mu } ∧ (Mu = [] ∨ (Mu = iu.M ∧ grow))
  vi_ne : ∀ u fu, u ≠ v → w.filters u = some fu → keyOf u fu ≠ k → p'.vi u = p1.vi u

/-- insertion, union -/
theorem Kept.add {w : World} {p1 : PGhost ι} {v : Nat} {k : Key} {S' M' : List ι} {grow : Prop} {i1 : VInfo ι}
    (hi1 : p1.vi v = some i1) (hg : ∀ u fu, u ≠ v → keyOf u fu = k → grow) :
    Kept w p1 ((p1.setS k { p1.si k with S := S' }).setV v { i1 with M := M' }) v k S' M' grow where
  si := by rw [setV_si, setS_si_same]
  si_ne := fun k' hk => by rw [setV_si, setS_si_ne hk]
  vi := fun i1' h => by cases hi1.symm.trans h; exact setV_vi_same _ _ _
  vi_same := fun u fu iu e _ hiu hk => ⟨iu.M, by rw [setV_vi_ne e, setS_vi, hiu], Or.inr ⟨rfl, hg u fu e hk⟩⟩
  vi_ne := fun u fu e _ _ => by rw [setV_vi_ne e, setS_vi]

/-- reset, invert, and intersect (followed by `Kept.setV`) -/
theorem Kept.destr {w : World} {p1 : PGhost ι} {v : Nat} {f : Filter} {S' : List ι} {grow : Prop} (hv : w.filters v = some f) :
    Kept w p1 (p1.destructive w (keyOf v f) S') v (keyOf v f) S' [] grow where
  si := destructive_si_same _ w _ _
  si_ne := fun _ hk => destructive_si_ne _ w _ hk
  vi := fun i1 h => destructive_vi_same _ w _ _ v f i1 hv h rfl
  vi_same := fun u fu iu _ hfu hiu hk => ⟨[], destructive_vi_same _ w _ _ u fu iu hfu hiu hk, Or.inl rfl⟩
  vi_ne := fun u fu _ hfu hk => destructive_vi_ne _ w _ _ u fu hfu hk

theorem Kept.setV {w : World} {p1 p' : PGhost ι} {v : Nat} {k : Key} {S' M0 M' : List ι} {grow : Prop} {i1 : VInfo ι}
    (K : Kept w p1 p' v k S' M0 grow) (hi1 : p1.vi v = some i1) : Kept w p1 (p'.setV v { i1 with M := M' }) v k S' M' grow where
  si := K.si
  si_ne := K.si_ne
  vi := fun i1' h => by cases hi1.symm.trans h; exact setV_vi_same _ _ _
  vi_same := fun u fu iu e hfu hiu hk => by rw [setV_vi_ne e]; exact K.vi_same u fu iu e hfu hiu hk
  vi_ne := fun u fu e hfu hk => by rw [setV_vi_ne e]; exact K.vi_ne u fu e hfu hk

/-- `S'`, `M'`: the lists the state and the writer end with.  `K`: how `p'` differs from the ghost `write` returned; its `grow` is
stated at bit 256, the offset of the bit array in a caller block, because it is asked only for the OTHER views of the written state,
and an owned state has none.  `hxlow`: the new content keeps the header bits, so the block still parses
to the writer's configuration; `hcnt`: the count field of the block holds the dirty marker or the exact count afterwards, which is
what `BlockOK` promises the next reader. -/
theorem good_write_kept (hP : P.Layout) {w : World} {p p' : PGhost ι} (hg : Good P hf w p) {v : Nat} {f : Filter} {i : VInfo ι}
    (hv : w.filters v = some f) (hi : p.vi v = some i) (hkeep : (p.write w v f i).2 = true)
    {x nbs' : Nat} {d' : Bool} {hdr : Option Nat} {S' M' : List ι}
    (K : Kept w (p.write w v f i).1 p' v (keyOf v f) S' M'
      (∀ j, (w.val f).testBit (256 + j) = true → x.testBit (256 + j) = true))
    (hxlow : isMem f = true → ∀ j, j < 256 → x.testBit j = (w.val f).testBit j)
    (hM : Covers hf x (f.off P) f.cfg M' ∧ Hashed hf f.seed M') (hS : Covers hf x (f.off P) f.cfg S' ∧ Hashed hf f.seed S')
    (hex : d' = false → nbs' = popCount x (f.off P) f.capBits)
    (hcnt : isMem f = true → (d' = true → getField (commitVal P f x hdr) 192 64 = P.dirty) ∧
      (d' = false → getField (commitVal P f x hdr) 192 64 = popCount x 256 f.capBits)) :
    Good P hf (commit P w v f x nbs' d' hdr) p' := by
  obtain ⟨hcov, hhs⟩ := hM
  obtain ⟨hcovS, hhsS⟩ := hS
  have hok := hg.view v f i hv hi
  obtain ⟨hp, -, -, -, hvi1⟩ := write_kept p w v f i hi hkeep
  obtain ⟨hsi, hsi_ne, hvi, hvi_same, hvi_ne⟩ := K
  -- an exact count of bits that cover a non-empty list is not zero
  have hne' : M' ≠ [] → (!d' && nbs' == 0) = false := fun hM => by
    cases d' with
    | true => rfl
    | false =>
      have hpos : 0 < popCount x (f.off P) f.capBits :=
        popCount_pos_of_covers hf x (f.off P) f.cfg M' hcov hhs hM (hok.k1 hp).1 (hg.fwf v f hv).capPos
      simp only [Bool.not_false, Bool.true_and, beq_eq_false_iff_ne, hex rfl]
      exact Nat.ne_of_gt hpos
  cases hr : f.ref with
  | owned b =>
    have hkey : keyOf v f = .own v := by simp [keyOf, hr]
    have hoff : f.off P = 0 := by simp [Filter.off, hr]
    rw [write_own p w v f i b hr] at hsi hsi_ne hvi hvi_ne
    simp only at hsi hsi_ne hvi hvi_ne
    rw [hkey] at hsi hsi_ne hvi_ne
    rw [hoff] at hcov hcovS hex
    rw [commit_owned P w v f b hr]
    refine hg.setFilter v _ _ (hvi i hi) (fun u fu e hfu => hvi_ne u fu e hfu (mt keyOf_eq_own_iff e)) hsi_ne
      ((hg.fwf v f hv).congr rfl rfl rfl) ?_ (fun m hm' => Ref.noConfusion hm')
    show ViewOK P hf (keyVal (w.setFilter v _) (.own v)) (p'.si (.own v)) _ _
    rw [keyVal_setFilter_own, hsi]
    exact viewOK_live_own P hf rfl hp (hok.k1 hp) hhs hcov ⟨hcovS, hhsS⟩ hne' hex
  | mem m =>
    have hm : isMem f = true := by simp [isMem, hr]
    have hkey : keyOf v f = .mem m := keyOf_of_mem hr v
    have hX : w.val f = w.blockVal m := by simp [World.val, hr]
    rw [hkey] at hok hsi hsi_ne hvi_same hvi_ne
    rw [off_mem P hP hm] at hcov hcovS hex
    rw [hX] at hxlow hvi_same
    obtain ⟨ht', hsync, e⟩ := write_mem_kept p w v f i m hr hkeep
    rw [e] at hsi hsi_ne hvi
    simp only [setV_si, setS_si_same] at hsi
    have hvi' := hvi _ (setV_vi_same _ _ _)
    rw [← hsync] at hvi'
    have hver : (p'.si (.mem m)).ver = i.sync + 1 := by rw [hsi, hsync]
    have ht2 : (p'.si (.mem m)).tainted = false := by rw [hsi]; exact ht'
    have hS' : (p'.si (.mem m)).S = S' := by rw [hsi]
    obtain ⟨hc1, hc2⟩ := hcnt hm
    -- the block before the write, as the writer sees it
    obtain ⟨b, hb⟩ := hg.memref v f m hv hr
    have hbv : w.blockVal m = b.val := by simp [World.blockVal, hb]
    have hbl : w.blockLen m = b.len := by simp [World.blockLen, hb]
    obtain ⟨nbs0, nl, hparse⟩ := hg.memfull v f i m b hv hi hr hb hp ((insync_mem_iff hm).mpr ⟨ht', hsync⟩)
    -- the new content: header bits kept, bit array that of `x`
    have hXhigh : ∀ j, (commitVal P f x hdr).testBit (256 + j) = x.testBit (256 + j) :=
      fun j => testBit_commitVal P hP f x hdr (Or.inr (Nat.le_add_right 256 j))
    have hparse' : parseImage P ⟨b.len, commitVal P f x hdr⟩ = .full f.capBits f.numHashes f.seed (getField (commitVal P f x hdr) 192 64) nl :=
      parseImage_write P b _ (fun j hj => hbv ▸ (testBit_commitVal P hP f x hdr (Or.inl hj)).trans (hxlow hm j (Nat.lt_trans hj (by decide)))) _ _ _ _ _ hparse
    have hpc : popCount (commitVal P f x hdr) 256 f.capBits = popCount x 256 f.capBits :=
      popCount_congr _ _ _ _ _ (fun j _ => hXhigh j)
    have hcovX : ∀ l, Covers hf x 256 f.cfg l → Covers hf (commitVal P f x hdr) 256 f.cfg l :=
      fun l hl => hl.mono (hg.fwf v f hv).capPos (fun j _ hb' => by rw [hXhigh]; exact hb')
    rw [commit_mem P w v f m hr]
    refine hg.setBlock_setFilter v m _ _ _ hr ((hg.fwf v f hv).congr rfl rfl rfl)
      (fun k hk => by rw [hsi_ne k hk, setV_si, setS_si_ne hk])
      (fun u fu e hfu hk => (hvi_ne u fu e hfu hk).trans (hvi1 u e)) hvi' ⟨?_, fun _ _ => ?_⟩ ?_ (fun _ => ?_) (fun ht => ?_)
    · exact viewOK_live_mem P hf hm hp hver.symm (hok.k1 hp) ht2 hhs (by show Covers hf _ (f.off P) f.cfg M'; rw [off_mem P hP hm]; exact hcovX _ hcov)
        hne' (fun hd => by show nbs' = popCount _ (f.off P) f.capBits; rw [off_mem P hP hm, hpc]; exact hex hd) (fun _ => hc1)
    · rw [hbl]; exact ⟨_, nl, hparse'⟩
    · -- another view of the block: out of sync now
      intro u fu iu e' hfu hiu hk
      obtain ⟨Mu, hMu, hcase⟩ := hvi_same u fu iu e' hfu ((hvi1 u e').trans hiu) hk
      have hoku := hg.view u fu iu hfu hiu
      have hmem := (keyOf_mem_of_eq hk).2
      rw [hk] at hoku
      have hsvu := hoku.sv hmem
      refine ⟨_, hMu, ?_, fun _ hin => ?_⟩
      · apply viewOK_stale P hf hoku hmem (by rw [hver, hsync]) ht2 Mu _ (hg.fwf u fu hfu).capPos
        refine hcase.imp_right (And.imp_right fun h2 j _ hb' => ?_)
        rw [off_mem P hP hmem] at hb' ⊢
        rw [hXhigh]; exact h2 j hb'
      · rw [insync_mem_false hmem (Or.inr (by rw [hver]; exact Nat.lt_succ_of_le (hsync ▸ hsvu)))] at hin; cases hin
    · rw [hS', hbl]
      refine Or.inr ⟨f.capBits, f.numHashes, f.seed, _, nl, hparse', hok.k1 hp, ?_, hcovX _ hcovS, hhsS⟩
      rw [hpc]
      cases d' with
      | true => exact Or.inl (hc1 rfl)
      | false => exact Or.inr (hc2 rfl)
    · rw [ht2] at ht; cases ht

end DS.Bloom
