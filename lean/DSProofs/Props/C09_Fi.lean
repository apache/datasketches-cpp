/-
C09 (frequent-items part) — the serialized image round-trips; the entry order is the only freedom.

ONLY property theorems + non-vacuity examples (helper lemmas: Lemmas/WireCount.lean).
Model: DSModel/Wire/Fi.lean.  Statements are for EVERY constant set `c` with the decidable side condition `c.ok`
(`generated_ok`: the current headers satisfy it), EVERY lawful item serde `sd` (`serdeU64_lawful`: 8-byte arithmetic
items, `serdeStr_lawful`: u32-length-prefixed strings — any other serde satisfying `Serde.Lawful` is covered too),
every well-formed image state and every tail.

Table-order freedom, stated precisely: the image lists the active (weight, item) pairs in hash-map iteration order.
A restored sketch re-inserts them into a fresh table, so its re-serialization may list the same pairs in another
order.  `Equiv s t` = same lg sizes, same total weight and offset, and `entries t` a permutation of `entries s`
(the SAME permutation on the weights array and the items array).  Equivalent images have the same size
(`size_equiv`) and the same multiset of rows, hence the same API content once rows are sorted.
The C++ side of the check (`reserialize-*`) demands byte equality or exactly this equivalence.
-/
import DSProofs.Lemmas.WireCount
import DSModel.Wire.FiGen
import Batteries.Data.List.Perm
namespace DS.Wire.Fi
open DS.Wire

variable {ι : Type}

theorem generated_ok : generated.ok := by decide

/-- **round trip**: the documented reader recovers exactly the image state and consumes exactly the image -/
theorem decode_encode (c : FiConsts) (hc : c.ok) (sd : Serde ι) (hsd : sd.Lawful) (s : Image ι) (hs : WF c sd s) (tail : Bytes) :
    decode c sd (encode c sd s ++ tail) = some (s, tail) := by
  obtain ⟨hlm, hcm, hmin, hbody⟩ := hs
  obtain ⟨hf, hv, hpe, hpn, hfl, hft, hff⟩ := hc
  have hlc : s.lgCur < 256 := by omega
  have hflags : flagsOf c s.body.isNone < 256 ∧ isEmptyFlags c (flagsOf c s.body.isNone) = s.body.isNone := by
    cases s.body.isNone
    · exact ⟨Nat.zero_lt_succ _, hff⟩
    · exact ⟨hfl, hft⟩
  have hpre : (if s.body.isNone then c.preEmpty else c.preNonEmpty) < 256 := by split <;> assumption
  have hbd : decodeBody sd s.body.isNone (encodeBody sd s.body ++ tail) = some (s.body, tail) := by
    cases hb : s.body with
    | none => rfl
    | some b =>
      rw [hb] at hbody
      obtain ⟨htw, hoff, hn, hlen, hws, hits⟩ := hbody
      simp only [decodeBody, encodeBody, Option.isNone_some, Bool.false_eq_true, if_false, List.append_assoc]
      rw [bind_u32 _ hn, bind_skip, bind_u64 _ htw, bind_u64 _ hoff, bind_ok (decU64s_enc b.weights rfl hws _),
        bind_ok (decItems_enc sd hsd b.items hlen hits _)]
      rfl
  simp only [decode, encode, List.append_assoc]
  rw [bind_u8 _ hpre, bind_u8 _ hv, bind_u8 _ hf, bind_u8 _ hlm, bind_u8 _ hlc, bind_u8 _ hflags.1, bind_skip, hflags.2,
    bind_guard _ (by simp), bind_guard _ (by simp), bind_guard _ (by simp), bind_guard _ (by simp [hcm, hmin]),
    bind_ok hbd]
  rfl

/-- the image has exactly the advertised size (`get_serialized_size_bytes`: 8, or 32 + 8·n + Σ size_of_item) -/
theorem size_eq (c : FiConsts) (h1 : c.preEmpty = 1) (h4 : c.preNonEmpty = 4) (sd : Serde ι) (s : Image ι) (hs : WF c sd s) :
    (encode c sd s).length = serializedSize c sd s := by
  simp only [encode, serializedSize, List.length_append, length_w8, length_wZeros, h1, h4]
  cases s.body with
  | none => rfl
  | some b =>
    simp only [encodeBody, List.length_append, length_w64, length_w32, length_wZeros, length_encU64s, length_encItems,
      ← Nat.add_assoc]

/-! ### the table-order freedom -/

/-- same logical sketch, entries listed in another order -/
def Equiv (s t : Image ι) : Prop :=
  s.lgMax = t.lgMax ∧ s.lgCur = t.lgCur ∧
  match s.body, t.body with
  | none, none => True
  | some a, some b => a.totalWeight = b.totalWeight ∧ a.offset = b.offset ∧ a.weights.length = a.items.length ∧
      b.weights.length = b.items.length ∧ (a.weights.zip a.items).Perm (b.weights.zip b.items)
  | _, _ => False

theorem itemsBytes_perm (sd : Serde ι) {l1 l2 : List ι} (h : l1.Perm l2) : itemsBytes sd l1 = itemsBytes sd l2 := by
  induction h with
  | nil => rfl
  | cons x _ ih => simp [itemsBytes, ih]
  | swap x y l => simp only [itemsBytes]; omega
  | trans _ _ ih1 ih2 => exact ih1.trans ih2

/-- images that differ only by the entry order have the same size -/
theorem size_equiv (c : FiConsts) (sd : Serde ι) (s t : Image ι) (h : Equiv s t) :
    serializedSize c sd s = serializedSize c sd t := by
  obtain ⟨_, _, hb⟩ := h
  simp only [serializedSize]
  cases hs : s.body with
  | none => cases ht : t.body with
    | none => rfl
    | some b => simp [hs, ht] at hb
  | some a => cases ht : t.body with
    | none => simp [hs, ht] at hb
    | some b =>
      simp only [hs, ht] at hb
      obtain ⟨_, _, hla, hlb, hp⟩ := hb
      have h1 : a.weights.Perm b.weights := by
        have := hp.map Prod.fst
        rwa [List.map_fst_zip (by omega), List.map_fst_zip (by omega)] at this
      have h2 : a.items.Perm b.items := by
        have := hp.map Prod.snd
        rwa [List.map_snd_zip (by omega), List.map_snd_zip (by omega)] at this
      simp only [h1.length_eq, itemsBytes_perm sd h2]

/-- non-vacuity: two-entry images (8-byte items; string items) are well formed; swapping both arrays is an `Equiv` -/
example : WF generated serdeU64 { lgMax := 4, lgCur := 3, body := some { totalWeight := 9, offset := 1, weights := [5, 3], items := [7, 2^64 - 1] } } := by
  unfold WF serdeU64
  decide
example : WF generated serdeStr { lgMax := 3, lgCur := 3, body := some { totalWeight := 2, offset := 0, weights := [2], items := [[0x61, 0x62]] } } := by
  unfold WF serdeStr
  decide
example : Equiv (ι := Nat) { lgMax := 4, lgCur := 3, body := some { totalWeight := 9, offset := 1, weights := [5, 3], items := [7, 8] } }
    { lgMax := 4, lgCur := 3, body := some { totalWeight := 9, offset := 1, weights := [3, 5], items := [8, 7] } } := by
  refine ⟨rfl, rfl, rfl, rfl, rfl, rfl, ?_⟩
  exact List.Perm.swap _ _ _

end DS.Wire.Fi
