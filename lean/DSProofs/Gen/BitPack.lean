/-
Obligation over GENERATED code (DSGen/BitPackIR.lean = bit_packing.hpp as translated on this run):
every `pack_bits_N` / `unpack_bits_N`, N = 1..63, evaluated symbolically under C integer-promotion rules, has
exactly the documented MSB-first layout, never touches a byte outside its N-byte block, never shifts an `int`
into or beyond its sign bit, and the two `switch` dispatchers call routine N for `case N` (and have no other case).
Checked by kernel evaluation (`decide +kernel`): `deviations_eq_fast` (Lemmas/BitPackDigits.lean) lets the kernel run
the Nat-coded evaluators (one number per symbolic word, which it computes with at once) and the model's own
list evaluators only on a routine that those do not accept.

The one deviation allowed is that of the pinned source: its `pack_bits_19` ORs into byte 10 before assigning it
(`*ptr++ |= static_cast<uint8_t>(values[4] >> 7);`, bit_packing.hpp line 564), so its layout is the documented one
only on a zero-filled output block (status 1).  The byte-vector writer passes a zero-filled vector, the STREAM writer
re-uses one block buffer: `serialize_compressed(std::ostream&)` writes a wrong image for entry width 19 and >= 16
entries (known finding C09 `theta_v4/eb19/stream-ne-bytes`).  The statement below holds on the pinned and on the
repaired source, and on no source with any other deviation; `Gen/BitPackFinding.lean` holds the pinned routine.
-/
import DSProofs.Lemmas.BitPackDigits
import DSGen.BitPackIR
namespace DS.Wire.BitPack

def currentDeviations : List (Bool × Nat × Nat) := deviations DSGen.BitPackIR.packRoutines DSGen.BitPackIR.unpackRoutines

/-- the full statement: no deviation at all.  No theorem asserts or refutes it as it stands (it speaks of the table translated
on this run): `bitpack_layouts_ok` proves it up to the one allowed deviation, and `bitpack_layouts_full_false`
(Gen/BitPackFinding.lean) shows that deviation for the routine of the pinned source. -/
def bitpack_layouts_full : Prop := currentDeviations = []

/-- all 126 layouts are the documented ones — except possibly `pack_bits_19`, which then still has the documented
layout on zero-filled output (status 1) — and the dispatchers are right. -/
theorem bitpack_layouts_ok :
    (currentDeviations = [] ∨ currentDeviations = [(true, 19, 1)]) ∧
    dispatchOk DSGen.BitPackIR.packDispatch DSGen.BitPackIR.unpackDispatch = true := by
  rw [currentDeviations, deviations_eq_fast]
  decide +kernel

end DS.Wire.BitPack
