/-
C07 (REQ part) — the REQ sketch conserves weight, keeps exact extremes and answers coherently.

Every theorem is about the executable model `DS.Req` (DSModel/Req/*.lean) of `req_compactor` + `req_sketch` and is quantified
over: every admissible tunable set `T` (`TunOK`, discharged for the values regenerated from the headers: `req_genTun_ok`), every
type ρ and functions `F` implementing the float section-size schedule (the driver uses Float32), every history `ops` of
new / update / merge / copy / query operations over any number of live sketches (any k, both accuracy modes, arbitrary merge
trees, empty operands, unequal k), every coin supply `coins`, and every object `id` live at the end.
`inputOf ops id` is the specification: the items fed to that object through updates, merges and copies.
Only property statements live here; helper lemmas are in DSProofs/Lemmas/Req*.lean.
-/
import DSProofs.Lemmas.ReqView
import DSProofs.Lemmas.ReqBound
import DSGen.Req
namespace DS.Req

variable {ρ : Type}

/-- the tunables as tools/trules/req.py reads them from the headers under /repo on every build -/
def genTun : Tun :=
  { minK := DSGen.req_MIN_K, initSections := DSGen.req_INIT_NUM_SECTIONS, multiplier := DSGen.req_MULTIPLIER,
    lazy := DSGen.req_LAZY_COMPRESSION, initCoinRandom := DSGen.req_INITIAL_COIN_RANDOM }

/-- the same constants with the compactor constructor of the pinned upstream commit (`coin_(false)`, i.e. `initCoinRandom = false`):
used by the witnesses and examples, which are statements about that shape whatever /repo's headers have -/
def pinTun : Tun := { genTun with initCoinRandom := false }

/-- the decidable side conditions hold for the header values under /repo (re-checked whenever DSGen/Req.lean changes) -/
theorem req_genTun_ok : TunOK genTun := by constructor <;> decide
theorem req_pinTun_ok : TunOK pinTun := by constructor <;> decide

/-- the model refines the specification: the ghost record of everything fed to a sketch is exactly `inputOf` -/
theorem req_input_refines {T : Tun} (hT : TunOK T) (F : SecFns ρ) (ops : List Op) (coins : List Bool) (id : Nat) (s : Sketch ρ)
    (h : (run T F ops coins).1.get id = some s) :
    inputOf ops id = some (entered0 s) ∧ SInv T s := by
  obtain ⟨sp, h1, h2⟩ := run_refines hT F ops coins id s h
  exact ⟨by simp [inputOf, h1, h2.2.2], h2.1⟩

/-- n_exact: `get_n()` is the number of accepted items, merged ones included -/
theorem req_n_exact {T : Tun} (hT : TunOK T) (F : SecFns ρ) (ops : List Op) (coins : List Bool) (id : Nat) (s : Sketch ρ)
    (h : (run T F ops coins).1.get id = some s) :
    ∃ items, inputOf ops id = some items ∧ s.n = items.length := by
  obtain ⟨h1, h2⟩ := req_input_refines hT F ops coins id s h
  exact ⟨_, h1, h2.ent⟩

/-- minmax_exact: min/max item are absent exactly for the empty input, and otherwise are members of the input bounding all of it -/
theorem req_minmax_exact {T : Tun} (hT : TunOK T) (F : SecFns ρ) (ops : List Op) (coins : List Bool) (id : Nat) (s : Sketch ρ)
    (h : (run T F ops coins).1.get id = some s) :
    ∃ items, inputOf ops id = some items ∧
      ((items = [] ∧ s.minItem = none ∧ s.maxItem = none) ∨
       (∃ lo hi, s.minItem = some lo ∧ s.maxItem = some hi ∧ lo ∈ items ∧ hi ∈ items ∧ ∀ y ∈ items, lo ≤ y ∧ y ≤ hi)) := by
  obtain ⟨h1, h2⟩ := req_input_refines hT F ops coins id s h
  refine ⟨_, h1, ?_⟩
  rcases h2.mn with ⟨e, m⟩ | ⟨lo, m1, m2, m3⟩
  · rcases h2.mx with ⟨_, m'⟩ | ⟨hi, _, m2', _⟩
    · exact Or.inl ⟨e, m, m'⟩
    · rw [e] at m2'; simp at m2'
  · rcases h2.mx with ⟨e, _⟩ | ⟨hi, n1, n2, n3⟩
    · rw [e] at m2; simp at m2
    · exact Or.inr ⟨lo, hi, m1, n1, m2, n2, fun y hy => ⟨m3 y hy, n3 y hy⟩⟩

example : ∃ s : Sketch Unit, (run pinTun ⟨fun _ => (), id, fun _ => 0⟩ [.new 0 4 true, .upd 0 5, .upd 0 (-3), .new 1 4 true, .upd 1 9, .merge 0 1] []).1.get 0 = some s
    ∧ s.n = 3 ∧ s.minItem = some (-3) ∧ s.maxItem = some 9 := ⟨_, rfl, by decide +kernel⟩

/-- the code never throws "compaction range error": in every reachable state a nominally full compactor has a
compaction range of even length ≥ 2 inside its buffer -/
theorem req_compaction_range_ok {T : Tun} (hT : TunOK T) (F : SecFns ρ) (ops : List Op) (coins : List Bool) :
    (run T F ops coins).2.throws = false :=
  (run_pres (SInv_ops hT F false) ops (fun _ _ _ => trivial) coins rfl).2

/-- weight_conserved, the full statement: iterating `begin() … end()` yields exactly `num_retained` pairs whose weights sum to n -/
def req_weight_conserved_full : Prop :=
  ∀ (T : Tun), TunOK T → ∀ (F : SecFns Unit) (ops : List Op) (coins : List Bool) (id : Nat) (s : Sketch Unit),
    (run T F ops coins).1.get id = some s →
    ∃ l, s.iterate = some l ∧ l.length = s.numRetained ∧ (l.map (·.2)).sum = s.n

/-- FALSE for the iterator of the pinned upstream commit (`Sketch.iterate`, the shape `iterSkipsEmpty = false`): on an empty sketch
`begin() ≠ end()` (the iterator starts inside compactor 0 without checking that it holds anything), so the loop
`for (it = begin(); it != end(); ++it)` reads outside the buffer (D3).  Witness: the history `new 0 4 lra`.  /repo carries the repair
(its commit f746338; the statements for that shape are in C07_Req_Repaired.lean); the oracle key of `./check c07req` for the defect is
`iter-begin-ne-end-on-empty`, its regression input corpus/regress/C07/req-empty-iterator.txt. -/
theorem req_weight_conserved_full_false : ¬ req_weight_conserved_full := by
  intro h
  have := h pinTun req_pinTun_ok ⟨fun _ => (), id, fun _ => 0⟩ [.new 0 4 false] [] 0 _ rfl
  obtain ⟨l, hl, _⟩ := this
  have hnone : (Sketch.new pinTun (⟨fun _ => (), id, fun _ => 0⟩ : SecFns Unit) 4 false false).iterate = none := by decide +kernel
  have e : (Acc.init []).peek = false := rfl
  rw [e, hnone] at hl; exact absurd hl (by simp)

/-- the proved part: for every NON-EMPTY sketch the iterator reaches `end()` after exactly `num_retained` valid reads and the
weights `2^lg_weight` sum to n (all histories, all coins).  Missing for the full statement: the empty sketch (see above). -/
theorem req_weight_conserved_partial {T : Tun} (hT : TunOK T) (F : SecFns ρ) (ops : List Op) (coins : List Bool) (id : Nat) (s : Sketch ρ)
    (h : (run T F ops coins).1.get id = some s) (hn : s.n ≠ 0) :
    ∃ l, s.iterate = some l ∧ l.length = s.numRetained ∧ (l.map (·.2)).sum = s.n ∧
      l = s.compactors.flatMap (fun c => c.items.map (fun x => (x, 2 ^ c.lgWeight))) := by
  obtain ⟨_, h2⟩ := req_input_refines hT F ops coins id s h
  refine ⟨allPairs s.compactors, iterate_of_AllNE s (h2.ne hn) h2.ret, ?_, ?_, rfl⟩
  · rw [length_allPairs, h2.ret]
  · rw [sum_weights_allPairs, h2.tw]

example : ∃ s : Sketch Unit, (run pinTun ⟨fun _ => (), id, fun _ => 0⟩ ([.new 0 4 false] ++ (List.range 30).map (fun i => Op.upd 0 (Int.ofNat i))) [true]).1.get 0 = some s
    ∧ s.n = 30 ∧ s.compactors.length = 2 ∧ s.numRetained = 28 := ⟨_, rfl, by decide +kernel⟩

/-- and exactly the empty sketches are the ones whose iteration fails -/
theorem req_iterator_fails_iff_empty {T : Tun} (hT : TunOK T) (F : SecFns ρ) (ops : List Op) (coins : List Bool) (id : Nat) (s : Sketch ρ)
    (h : (run T F ops coins).1.get id = some s) : s.iterate = none ↔ s.n = 0 := by
  obtain ⟨_, h2⟩ := req_input_refines hT F ops coins id s h
  constructor
  · intro hi
    by_cases hn : s.n = 0
    · exact hn
    · rw [iterate_of_AllNE s (h2.ne hn) h2.ret] at hi; simp at hi
  · intro hn
    obtain ⟨c, hc⟩ := List.length_eq_one_iff.1 (h2.one hn)
    have hr : s.numRetained = 0 := by
      have h3 := h2.tw; rw [hn, hc] at h3
      simp only [totalW_cons, totalW_nil, Nat.add_zero] at h3
      have : c.items.length = 0 := by
        rcases Nat.mul_eq_zero.1 h3.symm with h4 | h4
        · exact h4
        · exact absurd h4 (Nat.ne_of_gt (Nat.pow_pos (by decide)))
      rw [h2.ret, hc]; simp [this]
    simp [Sketch.iterate, hr, itWalk, itEq, itBegin, itEnd, hc]

/-- retained bookkeeping: `num_retained_` and `max_nom_size_` (updated incrementally inside `compress`) are exactly the sums
over the compactors; every compactor of a non-empty sketch holds at least one item; an empty sketch has exactly one level -/
theorem req_bookkeeping_exact {T : Tun} (hT : TunOK T) (F : SecFns ρ) (ops : List Op) (coins : List Bool) (id : Nat) (s : Sketch ρ)
    (h : (run T F ops coins).1.get id = some s) :
    s.numRetained = (s.compactors.map (fun c => c.items.length)).sum ∧
    s.maxNomSize = (s.compactors.map (Compactor.nomCap T)).sum ∧
    (s.n ≠ 0 → ∀ c ∈ s.compactors, c.items ≠ []) ∧ (s.n = 0 → s.compactors.length = 1) ∧
    s.n = (s.compactors.map (fun c => c.items.length * 2 ^ c.lgWeight)).sum := by
  obtain ⟨_, h2⟩ := req_input_refines hT F ops coins id s h
  refine ⟨h2.ret, h2.cap, h2.ne, h2.one, ?_⟩
  rw [h2.tw]; simp [totalW, weightP, cntP_true]

/-- compression is not lazy in the headers under /repo (`LAZY_COMPRESSION = false`), as `req_retained_bound` needs -/
theorem req_genTun_nonlazy : genTun.lazy = false := by decide
theorem req_pinTun_nonlazy : pinTun.lazy = false := by decide

/-- retained_bound: after EVERY public operation `num_retained < max_nom_size` (the sum of the nominal capacities
`MULTIPLIER · num_sections · section_size` of the compactors), and every compactor's section parameters are a point of the
section-size schedule of the sketch's k.  Hypotheses: compression not lazy, and `SecOK`: the float schedule raw ↦ raw/√2 never
shrinks the nominal capacity when the sections double (for the float code: checked by execution for every k the constructor can
produce and the whole schedule, `dsmodel_req selftest`; the kernel cannot evaluate Float32). -/
theorem req_retained_bound {T : Tun} (hT : TunOK T) (hlazy : T.lazy = false) (F : SecFns ρ) (hF : SecOK T F) (ops : List Op)
    (coins : List Bool) (id : Nat) (s : Sketch ρ) (h : (run T F ops coins).1.get id = some s) :
    s.numRetained < s.maxNomSize ∧ (∃ k0, s.k = effectiveK T k0) ∧
    ∀ c ∈ s.compactors, ∃ j, c.ssRaw = iterN F.next j (F.ofNat s.k) ∧ c.sectionSize = F.ne c.ssRaw := by
  have := (run_pres (bound_ops hT hlazy hF) ops (fun _ _ _ => trivial) coins trivial).1 id s h
  exact ⟨this.lt, this.sec⟩

/-- non-vacuity of `SecOK`: an exact schedule that keeps the section size -/
example : SecOK pinTun (⟨id, id, id⟩ : SecFns Nat) := by
  have hi : ∀ j (x : Nat), iterN (id : Nat → Nat) j x = x := by
    intro j x; induction j with
    | zero => rfl
    | succ n ih => simp [iterN, ih]
  constructor
  · intro k0; rfl
  · intro k0 j _; simp only [hi, id]; omega

/-- levels_sorted: every compactor above level 0 is ascending (what `compact`'s `inplace_merge`, `compute_weight`'s binary search
and the sorted view rely on), level 0 is ascending whenever its `sorted_` flag says so, and compactor `i` has `lg_weight = i` -/
theorem req_levels_sorted {T : Tun} (hT : TunOK T) (F : SecFns ρ) (ops : List Op) (coins : List Bool) (id : Nat) (s : Sketch ρ)
    (h : (run T F ops coins).1.get id = some s) (i : Nat) (c : Compactor ρ) (hc : s.compactors[i]? = some c) :
    c.lgWeight = i ∧ c.hra = s.hra ∧ ((i ≠ 0 ∨ c.sorted = true) → c.items.Pairwise (· ≤ ·)) := by
  obtain ⟨_, h2⟩ := req_input_refines hT F ops coins id s h
  have hci := CsInv_get h2.cs hc
  rw [Nat.zero_add] at hci
  exact ⟨hci.lg, hci.hraEq, hci.srt⟩

/-- REQ's direct `get_rank` (Σ per-compactor weights) is the sorted view's `get_rank`, bit for bit, and both numerators are the
weight of the retained items below the query point; the view's total weight is n -/
theorem req_rank_eq_view_rank {T : Tun} (hT : TunOK T) (F : SecFns ρ) (ops : List Op) (coins : List Bool) (id : Nat) (s : Sketch ρ)
    (h : (run T F ops coins).1.get id = some s) (x : Int) (inclusive : Bool) :
    s.getRank x inclusive = SortedView.getRank ltInt s.sortedView x inclusive ∧
    s.rankNum x inclusive = s.weightBelow x inclusive ∧ s.sortedView.total = s.n := by
  obtain ⟨_, h2⟩ := req_input_refines hT F ops coins id s h
  obtain ⟨a, b, c⟩ := rank_agree s h2 x inclusive
  exact ⟨by simp only [Sketch.getRank, SortedView.getRank, a, b, c], a, c⟩

/-- exact_mode_exact: while the sketch has a single level (nothing was ever compacted) its sorted view is the ascending input with
unit weights — so every rank, quantile, CDF and PMF computed from it is the true one of the input multiset — and the direct rank
numerator is the true count, for both criteria -/
theorem req_exact_mode_exact {T : Tun} (hT : TunOK T) (F : SecFns ρ) (ops : List Op) (coins : List Bool) (id : Nat) (s : Sketch ρ)
    (h : (run T F ops coins).1.get id = some s) (h1 : s.isEstimationMode = false) :
    ∃ items, inputOf ops id = some items ∧
      s.sortedView = SortedView.build ((sortInts items).map (fun x => (x, 1))) ∧
      ∀ x inclusive, s.rankNum x inclusive = (items.filter (fun y => if inclusive then decide (y ≤ x) else decide (y < x))).length := by
  obtain ⟨hin, h2⟩ := req_input_refines hT F ops coins id s h
  have hl : s.compactors.length = 1 := by
    have : ¬ s.compactors.length > 1 := by simpa [Sketch.isEstimationMode] using h1
    have : s.compactors.length ≠ 0 := fun e => h2.nonnil (List.length_eq_zero_iff.1 e)
    omega
  refine ⟨_, hin, by rw [Sketch.sortedView, exact_view s h2 hl], ?_⟩
  intro x inc
  obtain ⟨c, hc⟩ := List.length_eq_one_iff.1 hl
  rw [(rank_agree s h2 x inc).1]
  have hlg : c.lgWeight = 0 := by have := h2.cs; rw [hc] at this; exact this.1.lg
  simp only [Sketch.weightBelow, hc, weightP_cons, weightP_nil, hlg, Nat.pow_zero, Nat.mul_one, Nat.add_zero]
  rw [h2.ex c hc]
  simp [entered0, entered0L, hc, cntP]

example : ∃ s : Sketch Unit, (run pinTun ⟨fun _ => (), id, fun _ => 0⟩ [.new 0 4 false, .upd 0 5, .upd 0 1, .upd 0 5] []).1.get 0 = some s
    ∧ s.isEstimationMode = false ∧ s.rankNum 5 false = 1 ∧ s.rankNum 5 true = 3 := ⟨_, rfl, by decide +kernel⟩

end DS.Req
