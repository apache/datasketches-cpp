/- Facts about plain lists that several sketch families use. Core Lean only. -/
import DSModel.Util
namespace DS

theorem getD_set_eq {α} {d : α} (l : List α) (i : Nat) (x : α) (hi : i < l.length) : (l.set i x).getD i d = x := by
  rw [List.getD_eq_getElem?_getD, List.getElem?_set_self hi]; rfl

theorem getD_set_ne {α} {d : α} (l : List α) (i : Nat) (x : α) (j : Nat) (hne : j ≠ i) :
    (l.set i x).getD j d = l.getD j d := by
  rw [List.getD_eq_getElem?_getD, List.getElem?_set_ne (Ne.symm hne), List.getD_eq_getElem?_getD]

theorem getD_set {α} {d : α} (l : List α) (i : Nat) (x : α) (j : Nat) :
    (l.set i x).getD j d = if j = i ∧ i < l.length then x else l.getD j d := by
  by_cases hji : j = i
  · subst hji
    by_cases hl : j < l.length
    · rw [getD_set_eq l j x hl, if_pos ⟨rfl, hl⟩]
    · rw [if_neg fun h => hl h.2, List.set_eq_of_length_le (Nat.le_of_not_lt hl)]
  · rw [getD_set_ne l i x j hji, if_neg fun h => hji h.1]

theorem getD_mem {α} (l : List α) (i : Nat) (d : α) (h : i < l.length) : l.getD i d ∈ l := by
  rw [List.getD_eq_getElem?_getD, List.getElem?_eq_getElem h]
  exact List.getElem_mem h

theorem mem_of_mem_set_tail {α} {l : List α} {i : Nat} {a x : α} (ha : a ∈ l) (hx : x ∈ (l.set i a).tail) : x ∈ l := by
  have h1 : x ∈ l.set i a := List.mem_of_mem_tail hx
  rcases List.mem_or_eq_of_mem_set h1 with h | h
  · exact h
  · exact h ▸ ha

theorem exists_getLast? {α} {l : List α} (h : l ≠ []) : ∃ a, l.getLast? = some a :=
  ⟨l.getLast h, List.getLast?_eq_some_getLast h⟩

theorem getD_map_range {α} (f : Nat → α) (n i : Nat) (d : α) (h : i < n) : ((List.range n).map f).getD i d = f i := by
  simp [List.getD_eq_getElem?_getD, h]

theorem getD_toArray {α} (l : List α) (i : Nat) (d : α) : l.toArray.getD i d = l.getD i d := by
  simp [Array.getD, List.getD_eq_getElem?_getD]
  split <;> simp_all

theorem getD_inj_of_nodup {α} (l : List α) (hn : l.Nodup) (i j : Nat) (d : α) (hi : i < l.length) (hj : j < l.length)
    (h : l.getD i d = l.getD j d) : i = j := by
  apply (List.getElem?_inj hi hn).1
  simpa [List.getD_eq_getElem?_getD, List.getElem?_eq_getElem, hi, hj] using h

theorem getD_replicate {α : Type} (n : Nat) (a d : α) (j : Nat) (h : j < n) : (List.replicate n a).getD j d = a := by
  simp [List.getD_eq_getElem?_getD, h]

theorem ext_getD {α : Type} (l1 l2 : List α) (d : α) (hl : l1.length = l2.length) (h : ∀ j, j < l1.length → l1.getD j d = l2.getD j d) : l1 = l2 := by
  apply List.ext_getElem hl
  intro j h1 h2
  have := h j h1
  simp only [List.getD_eq_getElem?_getD, List.getElem?_eq_getElem h1, List.getElem?_eq_getElem h2, Option.getD_some] at this
  exact this

theorem getD_lt_of_mem {l : List Nat} {b : Nat} (hb : 0 < b) (h : ∀ v ∈ l, v < b) (i : Nat) : l.getD i 0 < b := by
  rw [List.getD_eq_getElem?_getD]
  cases hi : l[i]? with
  | none => exact hb
  | some v => exact h v (List.mem_of_getElem? hi)

theorem nodup_of_sorted {l : List Nat} (h : l.Pairwise (· < ·)) : l.Nodup :=
  h.imp Nat.ne_of_lt

theorem sorted_ext_on {α} (f : α → Nat) {l₁ l₂ : List α} (h₁ : l₁.Pairwise (f · < f ·)) (h₂ : l₂.Pairwise (f · < f ·))
    (h : ∀ x, x ∈ l₁ ↔ x ∈ l₂) : l₁ = l₂ :=
  have nd {l : List α} (hl : l.Pairwise (f · < f ·)) : l.Nodup := hl.imp fun hab e => Nat.ne_of_lt hab (congrArg f e)
  ((List.perm_ext_iff_of_nodup (nd h₁) (nd h₂)).2 h).eq_of_pairwise
    (fun _ _ _ _ hab hba => absurd hab (Nat.lt_asymm hba)) h₁ h₂

theorem sorted_ext {l₁ l₂ : List Nat} (h₁ : l₁.Pairwise (· < ·)) (h₂ : l₂.Pairwise (· < ·))
    (h : ∀ x, x ∈ l₁ ↔ x ∈ l₂) : l₁ = l₂ :=
  sorted_ext_on id h₁ h₂ h

theorem perm_insertNat (x : Nat) (l : List Nat) : (insertNat x l).Perm (x :: l) := by
  induction l with
  | nil => exact .refl _
  | cons y t ih =>
    simp only [insertNat]
    split
    · exact .refl _
    · exact (ih.cons y).trans (.swap x y t)

theorem perm_sortNat (l : List Nat) : (sortNat l).Perm l := by
  induction l with
  | nil => exact .refl _
  | cons x t ih => exact (perm_insertNat x _).trans (ih.cons x)

theorem sorted_insertNat (x : Nat) (l : List Nat) (h : l.Pairwise (· ≤ ·)) : (insertNat x l).Pairwise (· ≤ ·) := by
  induction l with
  | nil => simp [insertNat]
  | cons y t ih =>
    have ⟨hy, ht⟩ := List.pairwise_cons.mp h
    simp only [insertNat]
    split
    · next hxy =>
      exact List.pairwise_cons.mpr ⟨List.forall_mem_cons.mpr ⟨hxy, fun z hz => Nat.le_trans hxy (hy z hz)⟩, h⟩
    · refine List.pairwise_cons.mpr ⟨fun z hz => ?_, ih ht⟩
      rcases List.mem_cons.mp ((perm_insertNat x t).mem_iff.mp hz) with rfl | hz
      · omega
      · exact hy z hz

theorem sorted_sortNat (l : List Nat) : (sortNat l).Pairwise (· ≤ ·) := by
  induction l with
  | nil => exact .nil
  | cons x t ih => exact sorted_insertNat x _ ih

theorem sortNat_perm {l m : List Nat} (h : l.Perm m) : sortNat l = sortNat m :=
  (((perm_sortNat l).trans h).trans (perm_sortNat m).symm).eq_of_pairwise
    (fun _ _ _ _ => Nat.le_antisymm) (sorted_sortNat l) (sorted_sortNat m)

theorem sum_map_add {α} (l : List α) (f g : α → Nat) : (l.map (fun a => f a + g a)).sum = (l.map f).sum + (l.map g).sum := by
  induction l with
  | nil => rfl
  | cons a t ih => simp only [List.map_cons, List.sum_cons, ih]; omega

theorem sum_map_const {α} (l : List α) (c : Nat) : (l.map (fun _ => c)).sum = l.length * c := by
  induction l with
  | nil => exact (Nat.zero_mul c).symm
  | cons a t ih => simp only [List.map_cons, List.sum_cons, ih, List.length_cons, Nat.succ_mul]; omega

theorem sum_map_zero {α} (l : List α) (f : α → Nat) (h : ∀ a ∈ l, f a = 0) : (l.map f).sum = 0 :=
  (congrArg List.sum (List.map_congr_left h)).trans ((sum_map_const l 0).trans (Nat.mul_zero _))

theorem sum_map_mul_left {α} (l : List α) (c : Nat) (f : α → Nat) : (l.map (fun a => c * f a)).sum = c * (l.map f).sum := by
  induction l with
  | nil => rfl
  | cons a t ih => simp only [List.map_cons, List.sum_cons, ih, Nat.mul_add]

theorem sum_map_sum_comm {α β} (l : List α) (m : List β) (g : α → β → Nat) :
    (l.map (fun a => (m.map (g a)).sum)).sum = (m.map (fun b => (l.map (g · b)).sum)).sum := by
  induction l with
  | nil => exact (sum_map_zero m _ fun _ _ => rfl).symm
  | cons a t ih => simp only [List.map_cons, List.sum_cons, ih, sum_map_add]

theorem map_eq_self {α} {l : List α} {f : α → α} (h : ∀ a ∈ l, f a = a) : l.map f = l :=
  (List.map_congr_left h).trans (List.map_id' l)

theorem length_eq_of_nodup_mem {α} {l₁ l₂ : List α} (h₁ : l₁.Nodup) (h₂ : l₂.Nodup) (h : ∀ a, a ∈ l₁ ↔ a ∈ l₂) :
    l₁.length = l₂.length :=
  ((List.perm_ext_iff_of_nodup h₁ h₂).2 h).length_eq

theorem mem_map_congr {α β} (f : α → β) (l₁ l₂ : List α) (h : ∀ a, a ∈ l₁ ↔ a ∈ l₂) (b : β) : b ∈ l₁.map f ↔ b ∈ l₂.map f := by
  simp only [List.mem_map]
  constructor
  · rintro ⟨x, hx, he⟩; exact ⟨x, (h x).1 hx, he⟩
  · rintro ⟨x, hx, he⟩; exact ⟨x, (h x).2 hx, he⟩

theorem length_flatMap_const {α β} (E : List α) (f : α → List β) (m : Nat) (h : ∀ y, (f y).length = m) :
    (E.flatMap f).length = E.length * m := by
  induction E with
  | nil => simp
  | cons a t ih => rw [List.flatMap_cons, List.length_append, ih, h, List.length_cons, Nat.succ_mul, Nat.add_comm]

theorem zip_fst_snd {α β : Type} (l : List (α × β)) : (l.map (·.1)).zip (l.map (·.2)) = l := by
  rw [← List.unzip_fst, ← List.unzip_snd]; exact List.zip_unzip l

theorem drop_add_of_drop {α} {b x rest : List α} {n k : Nat} (h : b.drop n = x ++ rest) (hk : x.length = k) :
    b.drop (n + k) = rest := by
  rw [← List.drop_drop, h]; exact List.drop_left' hk

theorem find?_perm_of_unique {α : Type} (p : α → Bool) {l l' : List α} (h : l.Perm l')
    (hu : ∀ a ∈ l, ∀ b ∈ l, p a = true → p b = true → a = b) : l.find? p = l'.find? p := by
  cases h1 : l.find? p with
  | none =>
    have hn : ∀ a ∈ l, ¬ p a = true := by simpa [List.find?_eq_none] using h1
    symm
    rw [List.find?_eq_none]
    intro a ha
    exact hn a (h.mem_iff.mpr ha)
  | some a =>
    have ha := List.mem_of_find?_eq_some h1
    have hpa := List.find?_some h1
    cases h2 : l'.find? p with
    | none =>
      have hn : ∀ b ∈ l', ¬ p b = true := by simpa [List.find?_eq_none] using h2
      exact absurd hpa (hn a (h.mem_iff.mp ha))
    | some b =>
      have hb := h.mem_iff.mpr (List.mem_of_find?_eq_some h2)
      have hpb := List.find?_some h2
      rw [hu a ha b hb hpa hpb]

theorem filter_range_succ (n : Nat) (q : Nat → Bool) :
    ((List.range (n + 1)).filter q).length = ((List.range n).filter q).length + (if q n then 1 else 0) := by
  rw [List.range_succ, List.filter_append, List.length_append]
  by_cases h : q n <;> simp [h]

theorem count_map_filter (f : Nat → Nat) (v : Nat) (l : List Nat) : (l.map f).count v = (l.filter (fun s => f s = v)).length := by
  rw [List.count_eq_countP, List.countP_map, List.countP_eq_length_filter]
  rfl

theorem count_eq_filter_range (a : Array Nat) (v : Nat) :
    a.count v = ((List.range a.size).filter (fun s => a.getD s 0 = v)).length := by
  have e : a = ((List.range a.size).map (fun s => a.getD s 0)).toArray := by
    apply Array.ext
    · simp
    · intro i h1 h2; simp [Array.getD_eq_getD_getElem?, h1]
  conv => lhs; rw [e]
  rw [← count_map_filter]
  simp

theorem ite_eq_of {α β} {f : α → β} {p : Prop} [Decidable p] {a b : α} {k : β} (ha : f a = k) (hb : f b = k) :
    f (if p then a else b) = k := by
  split <;> assumption

theorem ite_lt {p : Prop} [Decidable p] {a b n : Nat} (ha : a < n) (hb : b < n) : (if p then a else b) < n := by
  split <;> assumption

theorem not_isEmpty_eq_false {α} {l : List α} : (!l.isEmpty) = false ↔ l = [] := by cases l <;> simp

theorem map_range_ne_nil (k : Nat) (f : Nat → Nat) (hk : 0 < k) : (List.range k).map f ≠ [] := by
  intro h
  have := congrArg List.length h
  simp at this; omega

theorem ext_getD_testBit {l l' : List Nat} (hl : l.length = l'.length)
    (h : ∀ i c, i < l.length → (l.getD i 0).testBit c = (l'.getD i 0).testBit c) : l = l' := by
  refine List.ext_getElem hl fun i h1 h2 => Nat.eq_of_testBit_eq fun c => ?_
  have := h i c h1
  rwa [List.getD_eq_getElem?_getD, List.getD_eq_getElem?_getD, List.getElem?_eq_getElem h1, List.getElem?_eq_getElem h2] at this

theorem mem_filter_of_union {l a b : List Nat} (hl : ∀ x, x ∈ l ↔ x ∈ a ∨ x ∈ b) (p : Nat → Prop) [DecidablePred p]
    (ha : ∀ x ∈ a, p x) (hb : ∀ x ∈ b, ¬ p x) (x : Nat) : x ∈ l.filter (fun x => decide (p x)) ↔ x ∈ a := by
  rw [List.mem_filter, hl, decide_eq_true_eq]
  exact ⟨fun ⟨h, hp⟩ => h.resolve_right fun hx => hb x hx hp, fun h => ⟨.inl h, ha x h⟩⟩

/-! Membership among the nonzero elements (`0` is the EMPTY coupon of the HLL coupon arrays). -/

theorem nz_append {a b : List Nat} {c : Nat} : (c ∈ a ++ b ∧ c ≠ 0) ↔ ((c ∈ a ∧ c ≠ 0) ∨ (c ∈ b ∧ c ≠ 0)) := by
  rw [List.mem_append, or_and_right]

theorem nz_snoc {a : List Nat} {c x : Nat} (hx : x ≠ 0) : ((c ∈ a ∧ c ≠ 0) ∨ c = x) ↔ (c ∈ a ++ [x] ∧ c ≠ 0) := by
  rw [nz_append, List.mem_singleton]
  exact or_congr_right ⟨fun h => ⟨h, h ▸ hx⟩, fun h => h.1⟩

theorem succ_divmod {K : Nat} (n : Nat) (hK : 0 < K) :
    n % K + 1 = K ∧ (n + 1) / K = n / K + 1 ∧ (n + 1) % K = 0 ∨
    n % K + 1 < K ∧ (n + 1) / K = n / K ∧ (n + 1) % K = n % K + 1 := by
  have h1 := Nat.mod_add_div n K
  have h2 := Nat.mod_lt n hK
  by_cases h : n % K + 1 = K
  · exact .inl ⟨h, (Nat.div_mod_unique hK).2 ⟨by rw [Nat.mul_add]; omega, hK⟩⟩
  · exact .inr ⟨by omega, (Nat.div_mod_unique hK).2 ⟨by omega, by omega⟩⟩

theorem pat_mul_two_pow (pat e : Nat) : pat * 2 ^ e = pat % 2 * 2 ^ e + pat / 2 * 2 ^ (e + 1) := by
  rw [Nat.pow_succ, Nat.mul_comm (2 ^ e) 2, ← Nat.mul_assoc, ← Nat.add_mul, Nat.mul_comm (pat / 2) 2, Nat.add_comm,
    Nat.div_add_mod]

theorem pow2_div {k1 k2 e1 e2 : Nat} (h1 : k1 = 2 ^ e1) (h2 : k2 = 2 ^ e2) (hlt : k2 < k1) :
    k1 / k2 = 2 ^ (e1 - e2) ∧ k1 = k1 / k2 * k2 := by
  subst h1 h2
  have he : e2 ≤ e1 := Nat.le_of_lt ((Nat.pow_lt_pow_iff_right (by decide)).mp hlt)
  rw [Nat.pow_div he Nat.two_pos, ← Nat.pow_add, Nat.sub_add_cancel he]
  exact ⟨rfl, rfl⟩

theorem lookup_filter_ne {β : Type} (m : List (Nat × β)) (i j : Nat) (h : j ≠ i) :
    List.lookup j (m.filter (fun p => p.1 != i)) = List.lookup j m := by
  induction m with
  | nil => rfl
  | cons a t ih =>
    obtain ⟨a1, a2⟩ := a
    rw [List.filter_cons]
    split
    · rw [List.lookup_cons, List.lookup_cons, ih]
    · next ha =>
      rw [ih, List.lookup_cons, beq_false_of_ne fun hj => h (hj.trans (by simpa using ha))]

theorem eq_replicate_zero_of_filter_length_zero (l : List Nat) (h : (l.filter (· != 0)).length = 0) :
    l = List.replicate l.length 0 :=
  List.eq_replicate_iff.2 ⟨rfl, fun a ha => by
    simpa using List.filter_eq_nil_iff.1 (List.eq_nil_of_length_eq_zero h) a ha⟩

theorem ite_parity (p x : Nat) : (if p % 2 = 1 then x + 1 else x) = x + p % 2 := by
  by_cases h : p % 2 = 1
  · rw [if_pos h, h]
  · rw [if_neg h, (Nat.mod_two_eq_zero_or_one p).resolve_right h]; rfl

end DS
