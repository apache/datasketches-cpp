/-
C06 — Distinct-count estimates and their confidence bounds (decided part).

The property theorems and their non-vacuity examples (helper lemmas: Lemmas/Bounds*.lean; obligations over the regenerated
tables: Gen/BoundsBits.lean, Gen/BoundsTables.lean, and Gen/BoundsTablesExtra.lean with further facts that no theorem consumes).

Models: DSModel/Bounds/{Binomial,HllEst,CpcEst}.lean, written once over the ops-only class `BNum`; `none` = the C++ throws.
  * the `Float` instance is compared bit for bit with binomial_bounds.hpp / the HLL / CPC headers by `./check C06`;
  * the theorems below are about the SAME definitions instantiated by `fieldNum F` over an ARBITRARY linearly ordered
    field `K`, with `sqrt / log / floor / ceil / pow` supplied as functions `F` that satisfy `F.OK` (real-analysis facts:
    √x ≥ 0, √x·√x = x for x ≥ 0, log strictly increasing with log 1 = 0, floor/ceil monotone, x ≤ ceil x).  The
    examples instantiate K := ℝ with the real functions (`realFns_ok`), but for the one of the register model `hipRun`, which is over ℚ.  Floating-point rounding is NOT modelled.
  * `binomT / hllT / cpcT` are the tables regenerated from the current headers (DSGen); what the proofs use of them are
    the kernel-decided facts of Gen/BoundsTables.lean.

NOT decided here and NOT claimed (DESIGN.md §5): negligible bias, spread ≤ published RSE, interval coverage ≥ nominal.
-/
import DSProofs.Lemmas.BoundsExamples
import DSProofs.Lemmas.BoundsReal
import DSProofs.Lemmas.BoundsHip
import DSProofs.Gen.BoundsBits
namespace DS.Bounds
set_option linter.unusedSectionVars false

variable {K : Type} [Field K] [LinearOrder K] [IsStrictOrderedRing K] (F : MathFns K)

/-! ## binomial_bounds.hpp (shared by Theta and Tuple) -/

/-- For ALL tables, sample counts n, sampling probabilities 0 < θ ≤ 1 and std-dev arguments: whenever the functions
    return, `n ≤ lb ≤ n/θ ≤ ub`.  True whatever the inner approximation computes, because of the `std::min/std::max`
    clamps in get_lower_bound / get_upper_bound (a C++ change that removes a clamp no longer agrees with this model, so
    the differential tie of `./check C06` fails). -/
theorem binomial_bounds_order (T : BinomTables) (n k : Nat) (θ lb ub : K) (h0 : 0 < θ) (h1 : θ ≤ 1)
    (hl : @getLowerBound K (fieldNum F) T n θ k = some lb) (hu : @getUpperBound K (fieldNum F) T n θ k = some ub) :
    (n : K) ≤ lb ∧ lb ≤ (n : K) / θ ∧ (n : K) / θ ≤ ub := by
  rw [getLowerBound_eq] at hl
  rw [getUpperBound_eq] at hu
  split at hl
  · rw [if_pos ‹_›] at hu
    obtain ⟨a, _, rfl⟩ := Option.map_eq_some_iff.1 hl
    obtain ⟨b, _, rfl⟩ := Option.map_eq_some_iff.1 hu
    exact ⟨le_min (le_div_self (Nat.cast_nonneg n) h0 h1) (le_max_left _ _), min_le_left _ _, le_max_left _ _⟩
  · cases hl

example : ∃ lb ub : ℝ, @getLowerBound ℝ (fieldNum realFns) binomT 200 (1 / 2) 2 = some lb ∧
    @getUpperBound ℝ (fieldNum realFns) binomT 200 (1 / 2) 2 = some ub ∧ (200 : ℝ) ≤ lb ∧ lb ≤ 200 / (1 / 2) ∧ 200 / (1 / 2) ≤ ub := by
  obtain ⟨lb, ub, hl, hu⟩ := gauss_defined realFns binomT 200 (by norm_num) (1 / 2 : ℝ) (by norm_num) (by norm_num) 2 (by norm_num) (by norm_num)
  have := binomial_bounds_order realFns binomT 200 2 (1 / 2 : ℝ) lb ub (by norm_num) (by norm_num) hl hu
  exact ⟨lb, ub, hl, hu, by simpa using this⟩

/-- The interval widens monotonically with the number of standard deviations κ ∈ {1,2} → κ+1, in EVERY branch of
    compute_approx_binomial_{lower,upper}_bound, for the tables of the current header:
    θ = 1 and θ > 1−10⁻⁵ (constant), n = 0 / n = 1 (log formulas: log strictly increasing, delta table decreasing),
    n > 120 (Gaussian with continuity correction: lb = ((√(b²+4n̂) − b)/2)², ub = ((√(b²+4n̂) + b)/2)²),
    θ < n/360 (Gaussian with the equivalence tables: rows increasing in the std-dev index),
    otherwise the exact tails (the partial-sum loops stop later for a smaller δ). -/
theorem binomial_bounds_mono_kappa (hF : F.OK) (n k : Nat) (θ : K) (h0 : 0 < θ) (h1 : θ ≤ 1) (hk1 : 1 ≤ k) (hk3 : k < 3)
    (lb ub lb' ub' : K)
    (hl : @getLowerBound K (fieldNum F) binomT n θ k = some lb) (hu : @getUpperBound K (fieldNum F) binomT n θ k = some ub)
    (hl' : @getLowerBound K (fieldNum F) binomT n θ (k + 1) = some lb') (hu' : @getUpperBound K (fieldNum F) binomT n θ (k + 1) = some ub') :
    lb' ≤ lb ∧ ub ≤ ub' := by
  have hθ : 0 ≤ θ ∧ θ ≤ 1 := ⟨h0.le, h1⟩
  rw [getLowerBound_eq, if_pos ⟨hθ, hk1, by omega⟩] at hl
  rw [getUpperBound_eq, if_pos ⟨hθ, hk1, by omega⟩] at hu
  rw [getLowerBound_eq, if_pos ⟨hθ, by omega, by omega⟩] at hl'
  rw [getUpperBound_eq, if_pos ⟨hθ, by omega, by omega⟩] at hu'
  exact ⟨optLE_map (fun _ _ h => min_le_min le_rfl (max_le_max le_rfl h))
      (approxLb_antitone F hF binomT binomT_ok n θ h0 h1 k hk1 hk3) lb' lb hl' hl,
    optLE_map (fun _ _ h => max_le_max le_rfl h) (approxUb_monotone F hF binomT binomT_ok n θ h0 h1 k hk1 hk3) ub ub' hu hu'⟩

example : ∃ lb ub lb' ub' : ℝ,
    @getLowerBound ℝ (fieldNum realFns) binomT 200 (1 / 2) 1 = some lb ∧ @getUpperBound ℝ (fieldNum realFns) binomT 200 (1 / 2) 1 = some ub ∧
    @getLowerBound ℝ (fieldNum realFns) binomT 200 (1 / 2) 2 = some lb' ∧ @getUpperBound ℝ (fieldNum realFns) binomT 200 (1 / 2) 2 = some ub' ∧
    lb' ≤ lb ∧ ub ≤ ub' := by
  obtain ⟨lb, ub, hl, hu⟩ := gauss_defined realFns binomT 200 (by norm_num) (1 / 2 : ℝ) (by norm_num) (by norm_num) 1 (by norm_num) (by norm_num)
  obtain ⟨lb', ub', hl', hu'⟩ := gauss_defined realFns binomT 200 (by norm_num) (1 / 2 : ℝ) (by norm_num) (by norm_num) 2 (by norm_num) (by norm_num)
  exact ⟨lb, ub, lb', ub', hl, hu, hl', hu',
    binomial_bounds_mono_kappa realFns realFns_ok 200 1 (1 / 2 : ℝ) (by norm_num) (by norm_num) (by norm_num) (by norm_num) lb ub lb' ub' hl hu hl' hu'⟩

/-- Whether the bound functions throw does not depend on the number of standard deviations (so the previous theorem
    compares two values whenever one of them exists). -/
theorem binomial_bounds_throw_indep_kappa (T : BinomTables) (n k k' : Nat) (θ : K) (hk : 1 ≤ k ∧ k ≤ 3) (hk' : 1 ≤ k' ∧ k' ≤ 3) :
    (@getLowerBound K (fieldNum F) T n θ k).isSome = (@getLowerBound K (fieldNum F) T n θ k').isSome ∧
    (@getUpperBound K (fieldNum F) T n θ k).isSome = (@getUpperBound K (fieldNum F) T n θ k').isSome := by
  simp only [getLowerBound_eq, getUpperBound_eq, hk, hk', and_true]
  split
  · simp only [Option.isSome_map]
    exact ⟨approxLb_isSome F T n θ k k', approxUb_isSome F T n θ k k'⟩
  · exact ⟨rfl, rfl⟩

example : (@getLowerBound ℝ (fieldNum realFns) binomT 5 (1 / 4) 1).isSome = (@getLowerBound ℝ (fieldNum realFns) binomT 5 (1 / 4) 3).isSome :=
  (binomial_bounds_throw_indep_kappa realFns binomT 5 1 3 (1 / 4 : ℝ) (by norm_num) (by norm_num)).1

/-! ## Theta / Tuple wrappers -/

/-- theta = MAX_THETA (or an empty sketch) ⇒ lower bound = estimate = upper bound = number of retained entries,
    for every std-dev argument (Theta sketches, compact sketches and set-operation results share this code). -/
theorem theta_exact_mode (T : BinomTables) (maxTheta : Nat) (hM : 0 < maxTheta) (s : ThetaState) (k : Nat)
    (h : s.theta64 = maxTheta ∨ (s.empty = true ∧ s.retained = 0 ∧ 0 < s.theta64)) :
    @thetaLowerBound K (fieldNum F) T maxTheta s k = some (s.retained : K) ∧
    @thetaUpperBound K (fieldNum F) T maxTheta s k = some (s.retained : K) ∧
    @thetaEstimate K (fieldNum F) maxTheta s = (s.retained : K) := by
  have hne : @estimationMode maxTheta s = false :=
    (estimationMode_eq_false_iff maxTheta s).2 (h.imp (fun e => Nat.le_of_eq e.symm) (·.1))
  unfold thetaLowerBound thetaUpperBound thetaEstimate thetaFrac
  simp only [hne, Bool.false_eq_true, if_false, nat_eq, true_and]
  rcases h with h | ⟨_, h0, hpos⟩
  · rw [h]
    have : (maxTheta : K) ≠ 0 := Nat.cast_ne_zero.2 (Nat.pos_iff_ne_zero.mp hM)
    rw [div_self this, div_one]
  · rw [h0]; simp

example : @thetaLowerBound ℝ (fieldNum realFns) binomT maxTheta ⟨maxTheta, 7, false⟩ 2 = some 7 ∧
    @thetaUpperBound ℝ (fieldNum realFns) binomT maxTheta ⟨maxTheta, 7, false⟩ 2 = some 7 ∧
    @thetaEstimate ℝ (fieldNum realFns) maxTheta ⟨maxTheta, 7, false⟩ = 7 := by
  simpa using theta_exact_mode realFns binomT maxTheta (by decide) ⟨maxTheta, 7, false⟩ 2 (Or.inl rfl)

/-- same for Tuple sketches (bounds for a subset of at most the retained entries) -/
theorem tuple_exact_mode (T : BinomTables) (maxTheta : Nat) (s : ThetaState) (k subset : Nat)
    (h : s.theta64 = maxTheta ∨ s.empty = true) :
    @tupleLowerBound K (fieldNum F) T maxTheta s k subset = some ((min subset s.retained : Nat) : K) ∧
    @tupleUpperBound K (fieldNum F) T maxTheta s k subset = some ((min subset s.retained : Nat) : K) := by
  have hne : @estimationMode maxTheta s = false :=
    (estimationMode_eq_false_iff maxTheta s).2 (h.imp (fun e => Nat.le_of_eq e.symm) id)
  have hm : (if s.retained < subset then s.retained else subset) = min subset s.retained := by
    split <;> omega
  unfold tupleLowerBound tupleUpperBound
  simp only [hne, Bool.false_eq_true, if_false, nat_eq, hm, and_self]

example : @tupleLowerBound ℝ (fieldNum realFns) binomT maxTheta ⟨maxTheta, 7, false⟩ 2 5 = some ((5 : Nat) : ℝ) :=
  (tuple_exact_mode realFns binomT maxTheta ⟨maxTheta, 7, false⟩ 2 5 (Or.inl rfl)).1

/-- in estimation mode the wrappers are binomial_bounds at (retained, theta64/MAX): ordered around the estimate -/
theorem theta_bounds_order (T : BinomTables) (maxTheta : Nat) (s : ThetaState) (k : Nat) (lb ub : K)
    (hpos : 0 < s.theta64) (hle : s.theta64 ≤ maxTheta)
    (hl : @thetaLowerBound K (fieldNum F) T maxTheta s k = some lb) (hu : @thetaUpperBound K (fieldNum F) T maxTheta s k = some ub)
    (hempty : s.empty = true → s.retained = 0) :
    lb ≤ @thetaEstimate K (fieldNum F) maxTheta s ∧ @thetaEstimate K (fieldNum F) maxTheta s ≤ ub := by
  have hM : 0 < maxTheta := lt_of_lt_of_le hpos hle
  by_cases hm : @estimationMode maxTheta s = true
  · unfold thetaLowerBound at hl
    unfold thetaUpperBound at hu
    simp only [hm, if_true] at hl hu
    have hMK : (0 : K) < (maxTheta : K) := Nat.cast_pos.2 hM
    have t0 : (0 : K) < @thetaFrac K (fieldNum F) maxTheta s := div_pos (Nat.cast_pos.2 hpos) hMK
    have t1 : @thetaFrac K (fieldNum F) maxTheta s ≤ 1 := (div_le_one hMK).2 (Nat.cast_le.2 hle)
    obtain ⟨_, g1, g2⟩ := binomial_bounds_order F T s.retained k _ lb ub t0 t1 hl hu
    unfold thetaEstimate
    exact ⟨g1, g2⟩
  · have hcase : s.theta64 = maxTheta ∨ (s.empty = true ∧ s.retained = 0 ∧ 0 < s.theta64) :=
      ((estimationMode_eq_false_iff maxTheta s).1 (Bool.not_eq_true _ ▸ hm)).imp (Nat.le_antisymm hle) fun h => ⟨h, hempty h, hpos⟩
    obtain ⟨e1, e2, e3⟩ := theta_exact_mode F T maxTheta hM s k hcase
    rw [e1] at hl; rw [e2] at hu
    simp only [Option.some.injEq] at hl hu
    rw [e3, ← hl, ← hu]
    exact ⟨le_refl _, le_refl _⟩

/-! ## HLL -/

/-- HLL-mode sketch state: lb ≤ estimate ≤ ub for every lgK 4..21, std-dev 1..3, HIP or composite estimator, GIVEN the
    state invariant `number of non-zero registers ≤ estimate` (and estimate ≥ 0).  Uses the generated rel-err tables
    (lower-bound entries ≥ 0, upper-bound entries in (−1, 0]) and, above lgK 12, (3·RSE)² < 2¹³.
    PARTIAL: the invariant is a hypothesis here.  It holds for the HIP estimator because every register change adds
    k/(kxq0+kxq1) ≥ 1 (`hll_hip_ge_nonzero_registers` below, on an abstract register model); for the composite estimator it is
    only observed by the oracle of `./check C06` on real sketches. -/
theorem hll_bounds_order_partial (hF : F.OK) (s : HllReg K) (sd : Nat) (e lb ub : K)
    (he : @hllEstimate K (fieldNum F) hllT s = some e) (h0 : 0 ≤ e) (hnz : ((numNonZeros s : Nat) : K) ≤ e)
    (hl : @hllLowerBound K (fieldNum F) hllT s sd = some lb) (hu : @hllUpperBound K (fieldNum F) hllT s sd = some ub) :
    lb ≤ e ∧ e ≤ ub := by
  obtain ⟨⟨_, s3⟩, rfl, rfl⟩ := hll_shape F s sd e lb ub he hl hu
  obtain ⟨⟨g0, u0, u1⟩, _⟩ := relErr_facts F hF s.ooo s.lgK sd s3
  exact ⟨lbClamp_le h0 hnz g0, le_div_self h0 (neg_lt_iff_pos_add'.1 u0) (add_le_of_nonpos_right u1)⟩

example : ∃ lb ub : ℝ,
    @hllLowerBound ℝ (fieldNum realFns) hllT ⟨10, 0, 1000, 1012, 0, 100, false⟩ 2 = some lb ∧
    @hllUpperBound ℝ (fieldNum realFns) hllT ⟨10, 0, 1000, 1012, 0, 100, false⟩ 2 = some ub ∧ lb ≤ 100 ∧ 100 ≤ ub := by
  obtain ⟨he, lb, ub, hl, hu⟩ := hll_hip_defined realFns (⟨10, 0, 1000, 1012, 0, 100, false⟩ : HllReg ℝ) rfl (by norm_num) (by norm_num) 2
    (by norm_num) (by norm_num)
  refine ⟨lb, ub, hl, hu, hll_bounds_order_partial realFns realFns_ok _ 2 100 lb ub he (by norm_num) ?_ hl hu⟩
  simp [numNonZeros]; norm_num

/-- The invariant assumed by `hll_bounds_order_partial`, for the HIP estimator: on an ABSTRACT register model of
    hipAndKxQIncrementalUpdate (k registers, a register change adds k/Σ2^-value to the accumulator before the change) the
    number of non-zero registers never exceeds the accumulator, for every k and every update sequence.  (This small model
    is not part of the differential tie of this check -- the HLL update path is C03's -- it documents why the hypothesis is
    the right one; the same argument gives `coupons ≤ HIP` for CPC, where each new coupon adds k/kxp ≥ 1.) -/
theorem hll_hip_ge_nonzero_registers (k : Nat) (ups : List (Nat × Nat)) :
    ((nonZeroCount (hipRun (K := K) (List.replicate k 0, 0) ups).1 : Nat) : K) ≤ (hipRun (K := K) (List.replicate k 0, 0) ups).2 := by
  have h0 : ((nonZeroCount (List.replicate k 0) : Nat) : K) ≤ 0 := by
    have : nonZeroCount (List.replicate k 0) = 0 := by
      induction k with
      | zero => rfl
      | succ n ih => simp [List.replicate_succ, nonZeroCount, ih]
    rw [this]; simp
  suffices H : ∀ (ups : List (Nat × Nat)) (s : List Nat × K), ((nonZeroCount s.1 : Nat) : K) ≤ s.2 →
      ((nonZeroCount (hipRun s ups).1 : Nat) : K) ≤ (hipRun s ups).2 from H ups _ h0
  intro ups
  induction ups with
  | nil => intro s h; exact h
  | cons u t ih => intro s h; exact ih (hipStep s u) (hipStep_inv s u h)

example : (hipRun (K := ℚ) (List.replicate 4 0, 0) [(0, 3), (1, 1), (0, 5), (7, 2)]).1 = [5, 1, 0, 0] := by
  simp [hipRun, hipStep, List.replicate]

/-- HLL-mode: lb antitone and ub monotone in the number of standard deviations, for EVERY register state with a
    non-negative estimate (no invariant needed). -/
theorem hll_bounds_mono_kappa (hF : F.OK) (s : HllReg K) (sd : Nat) (hsd : sd < 3) (e lb ub lb' ub' : K)
    (he : @hllEstimate K (fieldNum F) hllT s = some e) (h0 : 0 ≤ e)
    (hl : @hllLowerBound K (fieldNum F) hllT s sd = some lb) (hu : @hllUpperBound K (fieldNum F) hllT s sd = some ub)
    (hl' : @hllLowerBound K (fieldNum F) hllT s (sd + 1) = some lb') (hu' : @hllUpperBound K (fieldNum F) hllT s (sd + 1) = some ub') :
    lb' ≤ lb ∧ ub ≤ ub' := by
  obtain ⟨⟨s1, s3⟩, rfl, rfl⟩ := hll_shape F s sd e lb ub he hl hu
  obtain ⟨_, rfl, rfl⟩ := hll_shape F s (sd + 1) e lb' ub' he hl' hu'
  obtain ⟨⟨g0, _, _⟩, st⟩ := relErr_facts F hF s.ooo s.lgK sd s3
  obtain ⟨⟨_, u0', _⟩, _⟩ := relErr_facts F hF s.ooo s.lgK (sd + 1) hsd
  exact ⟨lbClamp_anti (Nat.cast_nonneg _) g0 (st s1 hsd).1,
    div_le_div_of_nonneg_left h0 (neg_lt_iff_pos_add'.1 u0') (add_le_add_right (st s1 hsd).2 1)⟩

example : ∃ lb ub lb' ub' : ℝ,
    @hllLowerBound ℝ (fieldNum realFns) hllT ⟨10, 0, 1000, 1012, 0, 100, false⟩ 1 = some lb ∧
    @hllUpperBound ℝ (fieldNum realFns) hllT ⟨10, 0, 1000, 1012, 0, 100, false⟩ 1 = some ub ∧
    @hllLowerBound ℝ (fieldNum realFns) hllT ⟨10, 0, 1000, 1012, 0, 100, false⟩ 2 = some lb' ∧
    @hllUpperBound ℝ (fieldNum realFns) hllT ⟨10, 0, 1000, 1012, 0, 100, false⟩ 2 = some ub' ∧ lb' ≤ lb ∧ ub ≤ ub' := by
  obtain ⟨he, lb, ub, hl, hu⟩ := hll_hip_defined realFns (⟨10, 0, 1000, 1012, 0, 100, false⟩ : HllReg ℝ) rfl (by norm_num) (by norm_num) 1
    (by norm_num) (by norm_num)
  obtain ⟨_, lb', ub', hl', hu'⟩ := hll_hip_defined realFns (⟨10, 0, 1000, 1012, 0, 100, false⟩ : HllReg ℝ) rfl (by norm_num) (by norm_num) 2
    (by norm_num) (by norm_num)
  exact ⟨lb, ub, lb', ub', hl, hu, hl', hu', hll_bounds_mono_kappa realFns realFns_ok _ 1 (by norm_num) 100 lb ub lb' ub' he (by norm_num) hl hu hl' hu'⟩

/-- LIST / SET mode (documented small-range behaviour): coupon count ≤ lb ≤ estimate ≤ ub, unconditionally -- the
    interpolated value is clamped from below by the coupon count in all three functions and 0 < κ·COUPON_RSE < 1. -/
theorem hll_coupon_bounds_order (count sd : Nat) (e lb ub : K)
    (he : @couponEstimate K (fieldNum F) hllT count = some e)
    (hl : @couponLowerBound K (fieldNum F) hllT count sd = some lb) (hu : @couponUpperBound K (fieldNum F) hllT count sd = some ub) :
    (count : K) ≤ lb ∧ lb ≤ e ∧ e ≤ ub := by
  obtain ⟨⟨_, s3⟩, x, hx, rfl, rfl⟩ := coupon_shape F hllT count sd lb ub hl hu
  unfold couponEstimate at he
  rw [nat_eq, hx] at he
  obtain rfl : max (x / 1) (count : K) = e := by rw [div_one]; exact Option.some.inj he
  obtain ⟨p0, p1, _⟩ := couponRse_facts (K := K) sd s3
  exact ⟨le_max_right _ _, max_div_anti count.cast_nonneg one_pos (le_add_of_nonneg_right p0),
    max_div_anti count.cast_nonneg (sub_pos.2 p1) (sub_le_self 1 p0)⟩

/-- LIST / SET mode: lb antitone, ub monotone in the number of standard deviations -/
theorem hll_coupon_bounds_mono_kappa (count sd : Nat) (hsd : sd < 3) (lb ub lb' ub' : K)
    (hl : @couponLowerBound K (fieldNum F) hllT count sd = some lb) (hu : @couponUpperBound K (fieldNum F) hllT count sd = some ub)
    (hl' : @couponLowerBound K (fieldNum F) hllT count (sd + 1) = some lb')
    (hu' : @couponUpperBound K (fieldNum F) hllT count (sd + 1) = some ub') :
    lb' ≤ lb ∧ ub ≤ ub' := by
  obtain ⟨_, x, hx, rfl, rfl⟩ := coupon_shape F hllT count sd lb ub hl hu
  obtain ⟨_, x', hx', rfl, rfl⟩ := coupon_shape F hllT count (sd + 1) lb' ub' hl' hu'
  obtain rfl := Option.some.inj (hx.symm.trans hx')
  obtain ⟨p0, _, hstep⟩ := couponRse_facts (K := K) sd (by omega)
  obtain ⟨_, p1', _⟩ := couponRse_facts (K := K) (sd + 1) (by omega)
  exact ⟨lbClamp_anti count.cast_nonneg p0 hstep,
    max_div_anti count.cast_nonneg (sub_pos.2 p1') (sub_le_sub_left hstep 1)⟩

/-! ## CPC -/

/-- compute_icon_estimate returns at least the coupon count for EVERY lg_k and coupon count, and exactly the count for
    0 or 1 coupons (documented small-range behaviour): polynomial branch by the clamp `result >= C ? result : C`,
    exponential branch (C > 5.6k / 5.7k) from `r ≤ 0.7940236163830469·2^r` for r ≥ 5 (`F.ExpOK`, true of the real power
    function: `realFns_expOK`).  With `cpc_bounds_order_partial` this discharges its hypothesis for merged sketches. -/
theorem cpc_icon_ge_coupons (hexp : F.ExpOK) (T : CpcTables) (lgK c : Nat) (e : K) (h : @iconEstimate K (fieldNum F) T lgK c = some e) :
    (c : K) ≤ e ∧ (c < 2 → e = c) := by
  unfold iconEstimate at h
  by_cases hbad : lgK < T.iconMinLgK ∨ lgK > T.iconMaxLgK
  · rw [if_pos hbad] at h; cases h
  rw [if_neg hbad] at h
  by_cases hc : c < 2
  · rw [if_pos hc] at h
    cases h
    obtain rfl | rfl : c = 0 ∨ c = 1 := by omega
    · simp
    · simp
  rw [if_neg hc] at h
  refine ⟨?_, fun h' => absurd h' hc⟩
  dsimp only [nat_eq, lit_eq] at h
  generalize hthr : (if lgK < 14 then litK c5_7 else litK c5_6 : K) = thr at h
  by_cases hx : (c : K) > thr * ((2 ^ lgK : Nat) : K)
  · rw [if_pos hx] at h
    cases h
    have hk : (0 : K) < ((2 ^ lgK : Nat) : K) := Nat.cast_pos.2 (Nat.two_pow_pos lgK)
    have h5 : (5 : K) ≤ thr := by
      rw [← hthr]; split <;> simp [litK, c5_7, c5_6] <;> norm_num
    exact iconExp_ge F hexp hk ((mul_le_mul_of_nonneg_right h5 hk.le).trans hx.le)
  · rw [if_neg hx] at h
    cases h
    split
    · assumption
    · exact le_rfl

example : realFns.ExpOK := realFns_expOK
example : @iconEstimate ℝ (fieldNum realFns) cpcT 10 1 = some 1 := by
  unfold iconEstimate; simp [cpcT, DSGen.Bounds.iconMinLgK, DSGen.Bounds.iconMaxLgK, litK, c1]

/-- CPC (HIP estimator when not merged, ICON after a merge): lb ≤ estimate ≤ ub for every lg_k ≥ 4 and κ ∈ 1..3, GIVEN the
    state invariant `coupons ≤ estimate`, estimate ≥ 0, and estimate = 0 for the empty sketch.  Uses the generated
    confidence tables: κ·x_κ/√k ∈ [0,1).
    PARTIAL: the invariant is a hypothesis (ICON: discharged by `cpc_icon_ge_coupons`; HIP: each new coupon adds k/kxp ≥ 1,
    same argument as `hll_hip_ge_nonzero_registers`, not modelled here). -/
theorem cpc_bounds_order_partial (hF : F.OK) (s : CpcState K) (k : Nat) (e lb ub : K)
    (he : @cpcEstimate K (fieldNum F) cpcT s = some e) (h0 : 0 ≤ e) (hc : (s.numCoupons : K) ≤ e) (hz : s.numCoupons = 0 → e = 0)
    (hl : @cpcLowerBound K (fieldNum F) cpcT s k = some lb) (hu : @cpcUpperBound K (fieldNum F) cpcT s k = some ub) :
    lb ≤ e ∧ e ≤ ub := by
  obtain ⟨⟨k1, k3⟩, z, nz⟩ := cpc_bounds_shape F s k e lb ub he hl hu
  by_cases c0 : s.numCoupons = 0
  · obtain ⟨rfl, rfl⟩ := z c0
    rw [hz c0]; exact ⟨le_refl _, le_refl _⟩
  · obtain ⟨h4, rfl, rfl⟩ := nz c0
    obtain ⟨g0, g1, _⟩ := cpcEps_facts F hF (confOK s.merged).2 s.lgK h4 k k1 k3
    exact ⟨lbClamp_le h0 hc (cpcEps_facts F hF (confOK s.merged).1 s.lgK h4 k k1 k3).1, ubForm_ge F hF e _ h0 g0 g1⟩

example : ∃ lb ub : ℝ, @cpcLowerBound ℝ (fieldNum realFns) cpcT ⟨10, 5, 6, false⟩ 2 = some lb ∧
    @cpcUpperBound ℝ (fieldNum realFns) cpcT ⟨10, 5, 6, false⟩ 2 = some ub ∧ lb ≤ 6 ∧ 6 ≤ ub := by
  obtain ⟨he, lb, ub, hl, hu⟩ := cpc_hip_defined realFns (⟨10, 5, 6, false⟩ : CpcState ℝ) rfl (by norm_num) (by norm_num) 2 (by norm_num) (by norm_num)
  exact ⟨lb, ub, hl, hu, cpc_bounds_order_partial realFns realFns_ok _ 2 6 lb ub he (by norm_num) (by norm_num) (by norm_num) hl hu⟩

/-- CPC: lb antitone and ub monotone in κ for every state with a non-negative estimate (κ·x_κ increasing in κ in all
    four generated tables and for the asymptotic constants). -/
theorem cpc_bounds_mono_kappa (hF : F.OK) (s : CpcState K) (k : Nat) (hk : k < 3) (e lb ub lb' ub' : K)
    (he : @cpcEstimate K (fieldNum F) cpcT s = some e) (h0 : 0 ≤ e)
    (hl : @cpcLowerBound K (fieldNum F) cpcT s k = some lb) (hu : @cpcUpperBound K (fieldNum F) cpcT s k = some ub)
    (hl' : @cpcLowerBound K (fieldNum F) cpcT s (k + 1) = some lb') (hu' : @cpcUpperBound K (fieldNum F) cpcT s (k + 1) = some ub') :
    lb' ≤ lb ∧ ub ≤ ub' := by
  obtain ⟨⟨k1, k3⟩, z, nz⟩ := cpc_bounds_shape F s k e lb ub he hl hu
  obtain ⟨_, z', nz'⟩ := cpc_bounds_shape F s (k + 1) e lb' ub' he hl' hu'
  by_cases c0 : s.numCoupons = 0
  · obtain ⟨rfl, rfl⟩ := z c0
    obtain ⟨rfl, rfl⟩ := z' c0
    exact ⟨le_refl _, le_refl _⟩
  · obtain ⟨h4, rfl, rfl⟩ := nz c0
    obtain ⟨_, rfl, rfl⟩ := nz' c0
    obtain ⟨g0, _, g2⟩ := cpcEps_facts F hF (confOK s.merged).1 s.lgK h4 k k1 k3
    obtain ⟨_, _, g2u⟩ := cpcEps_facts F hF (confOK s.merged).2 s.lgK h4 k k1 k3
    obtain ⟨_, g1', _⟩ := cpcEps_facts F hF (confOK s.merged).2 s.lgK h4 (k + 1) (by omega) (by omega)
    exact ⟨lbClamp_anti (Nat.cast_nonneg _) g0 (g2 hk), ubForm_mono F hF e _ _ h0 (g2u hk) g1'⟩

example : ∃ lb ub lb' ub' : ℝ, @cpcLowerBound ℝ (fieldNum realFns) cpcT ⟨10, 5, 6, false⟩ 1 = some lb ∧
    @cpcUpperBound ℝ (fieldNum realFns) cpcT ⟨10, 5, 6, false⟩ 1 = some ub ∧
    @cpcLowerBound ℝ (fieldNum realFns) cpcT ⟨10, 5, 6, false⟩ 2 = some lb' ∧
    @cpcUpperBound ℝ (fieldNum realFns) cpcT ⟨10, 5, 6, false⟩ 2 = some ub' ∧ lb' ≤ lb ∧ ub ≤ ub' := by
  obtain ⟨he, lb, ub, hl, hu⟩ := cpc_hip_defined realFns (⟨10, 5, 6, false⟩ : CpcState ℝ) rfl (by norm_num) (by norm_num) 1 (by norm_num) (by norm_num)
  obtain ⟨_, lb', ub', hl', hu'⟩ := cpc_hip_defined realFns (⟨10, 5, 6, false⟩ : CpcState ℝ) rfl (by norm_num) (by norm_num) 2 (by norm_num) (by norm_num)
  exact ⟨lb, ub, lb', ub', hl, hu, hl', hu', cpc_bounds_mono_kappa realFns realFns_ok _ 1 (by norm_num) 6 lb ub lb' ub' he (by norm_num) hl hu hl' hu'⟩

end DS.Bounds
