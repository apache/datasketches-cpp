/-
C10 (t-digest part) — the image follows the documented layout; the two big-endian formats of the
reference implementation (`asBytes` = type 1, `asSmallBytes` = type 2) that the reader claims to accept
have their own decoder AND encoder with a round-trip theorem (so legacy images can be generated and fed
to the real reader, `./check c10_misc`).

ONLY property theorems and non-vacuity examples.  `documented` is written by hand from
tdigest_impl.hpp / tdigest.hpp; `genConsts`, `genWsz*` are regenerated from the CURRENT headers every run.
-/
import DSProofs.Lemmas.WireMiscTDigest
import DSModel.Wire.TDigestGen
namespace DS.Wire.TDigest
open DS.Wire

/-- the documented contract: 1 preamble long for empty / single value else 2, serial version 1, sketch
type 20, flag bits 0 empty, 1 single value, 2 reverse merge; reference formats type 1 (doubles) / 2 (floats) -/
def documented : Consts :=
  { preSingle := 1, preMulti := 2, serVer := 1, sketchType := 20, emptyBit := 0, singleBit := 1, reverseBit := 2,
    compatDouble := 1, compatFloat := 2 }

/-- every wire constant extracted from the current headers equals its documented value; centroid weights
are 64-bit for tdigest<double> and 32-bit for tdigest<float> -/
theorem wire_consts_documented : genConsts = documented ∧ genWszDouble = 8 ∧ genWszFloat = 4 := by decide

/-- documented offsets: k at byte 3 (u16), flags at byte 5, payload from byte 8 -/
theorem header_offsets (c : Consts) (tsz wsz : Nat) (s : Img) :
    (encode c tsz wsz s).take 3 = w8 (if s.body.isEmpty || s.body.isSingle then c.preSingle else c.preMulti) ++
                                  w8 c.serVer ++ w8 c.sketchType ∧
    ((encode c tsz wsz s).drop 3).take 2 = w16 s.k ∧
    ((encode c tsz wsz s).drop 5).take 1 = w8 (flagsOf c s.body.isEmpty s.body.isSingle s.reverse) ∧
    (encode c tsz wsz s).drop 8 = encodeBody tsz wsz s.body := ⟨rfl, rfl, rfl, rfl⟩

/-- general image: num_centroids at byte 8, num_buffered at byte 12, then min, max, centroids, buffer -/
theorem body_offsets (tsz wsz mn mx : Nat) (cents : List (Nat × Nat)) (buf : List Nat) :
    (encodeBody tsz wsz (.multi mn mx cents buf)).take 4 = w32 cents.length ∧
    ((encodeBody tsz wsz (.multi mn mx cents buf)).drop 4).take 4 = w32 buf.length ∧
    (encodeBody tsz wsz (.multi mn mx cents buf)).drop 8 =
      wLe tsz mn ++ (wLe tsz mx ++ (cents.flatMap (encodeCent tsz wsz) ++ buf.flatMap (wLe tsz))) := ⟨rfl, rfl, rfl⟩

/-- reference formats: decode ∘ encode = id, consuming exactly the image -/
theorem legacy_decode_encode (c : Consts) (hc : c.Valid) (s : Legacy) (hs : WFLegacy s) (tail : Bytes) :
    decodeLegacy c (encodeLegacy c s ++ tail) = some (s, tail) := by
  obtain ⟨_, _, _, _, _, h6, h7, h8⟩ := hc
  cases s with
  | big mn mx comp cents =>
    obtain ⟨b1, b2, b3, b4, b5⟩ := hs
    simp only [encodeLegacy, List.append_assoc]
    rw [decodeLegacy_header c _ h6]
    simp only [decodeLegacyBody, beq_self_eq_true, if_true]
    rw [bind_beNat _ _ b1, bind_beNat _ _ b2, bind_beNat _ _ b3, bind_beNat _ _ b4,
      bind_ok (repeatN_flatMap (pairBe_enc 8) cents b5 _)]
    rfl
  | small mn mx comp c1 c2 cents =>
    obtain ⟨b1, b2, b3, b4, b5, b6, b7⟩ := hs
    have hne : (c.compatFloat == c.compatDouble) = false := by
      simp only [beq_eq_false_iff_ne, ne_eq]; exact fun h => h8 h.symm
    simp only [encodeLegacy, List.append_assoc]
    rw [decodeLegacy_header c _ h7]
    simp only [decodeLegacyBody, hne, Bool.false_eq_true, if_false, beq_self_eq_true, if_true]
    rw [bind_beNat _ _ b1, bind_beNat _ _ b2, bind_beNat _ _ b3, bind_beNat _ _ b4, bind_beNat _ _ b5,
      bind_beNat _ _ b6,
      bind_ok (repeatN_flatMap (pairBe_enc 4) cents b7 _)]
    rfl

theorem legacy_size_eq (c : Consts) (s : Legacy) : (encodeLegacy c s).length = legacySize s := by
  cases s with
  | big mn mx comp cents =>
    have h1 := length_flatMap_of_mem (encodePairBe 8) 16 cents (fun p _ => length_encodePairBe 8 p)
    simp +arith only [encodeLegacy, legacySize, length_w8, length_wZeros, length_wBe, List.length_append, h1]
  | small mn mx comp c1 c2 cents =>
    have h1 := length_flatMap_of_mem (encodePairBe 4) 8 cents (fun p _ => length_encodePairBe 4 p)
    simp +arith only [encodeLegacy, legacySize, length_w8, length_wZeros, length_wBe, List.length_append, h1]

/-- the current-format reader and the reference-format reader never both accept: an image is dispatched
by its first three bytes (all zero = reference format; the current format has serial version ≥ 1 there) -/
theorem formats_disjoint (c : Consts) (hv : c.serVer ≠ 0) (tsz wsz : Nat) (b : Bytes) :
    decodeLegacy c b = none ∨ decode c tsz wsz b = none := by
  cases hl : decodeLegacy c b with
  | none => exact Or.inl rfl
  | some p =>
    refine Or.inr ?_
    obtain ⟨s, r⟩ := p
    simp only [decodeLegacy] at hl
    obtain ⟨z0, r1, e1, k1⟩ := bind_some hl
    obtain ⟨z1, r2, e2, k2⟩ := bind_some k1
    obtain ⟨z2, r3, e3, k3⟩ := bind_some k2
    obtain ⟨_, r4, e4, _⟩ := bind_some k3
    have hz := (guard_some e4).1
    simp only [Bool.and_eq_true, beq_iff_eq] at hz
    obtain ⟨⟨_, hz1⟩, _⟩ := hz
    subst hz1
    cases hd : decode c tsz wsz b with
    | none => rfl
    | some q =>
      obtain ⟨s', r'⟩ := q
      simp only [decode] at hd
      obtain ⟨pre, q1, f1, m1⟩ := bind_some hd
      obtain ⟨ver, q2, f2, m2⟩ := bind_some m1
      obtain ⟨typ, q3, f3, m3⟩ := bind_some m2
      obtain ⟨_, q4, f4, m4⟩ := bind_some m3
      obtain ⟨_, q5, f5, _⟩ := bind_some m4
      have hver := (guard_some f5).1
      simp only [beq_iff_eq] at hver
      rw [e1] at f1
      simp only [Option.some.injEq, Prod.mk.injEq] at f1
      rw [← f1.2, e2] at f2
      simp only [Option.some.injEq, Prod.mk.injEq] at f2
      exact absurd (f2.1.trans hver).symm hv

/-- an `asBytes` image: min 1.0, max 3.0, compression 100.0, centroids (weight 1.0, mean 1.0), (weight 2.0, mean 3.0) -/
def exBig : Legacy := .big 0x3ff0000000000000 0x4008000000000000 0x4059000000000000
  [(0x3ff0000000000000, 0x3ff0000000000000), (0x4000000000000000, 0x4008000000000000)]
/-- an `asSmallBytes` image with float centroids -/
def exSmall : Legacy := .small 0x3ff0000000000000 0x4008000000000000 0x42c80000 210 1050
  [(0x3f800000, 0x3f800000), (0x40000000, 0x40400000)]

example : WFLegacy exBig ∧ WFLegacy exSmall := by decide
example : decodeLegacy genConsts (encodeLegacy genConsts exBig ++ [9]) = some (exBig, [9]) := by decide +kernel
example : (encodeLegacy documented exSmall).take 30 =
    [0, 0, 0, 2,  0x3f, 0xf0, 0, 0, 0, 0, 0, 0,  0x40, 0x08, 0, 0, 0, 0, 0, 0,  0x42, 0xc8, 0, 0,  0, 210, 4, 26,  0, 2] := by decide +kernel
example : encode documented 4 4 { k := 300, reverse := true, body := .single 0x3f800000 } =
    [1, 1, 20, 44, 1, 6, 0, 0, 0, 0, 0x80, 0x3f] := by decide +kernel

end DS.Wire.TDigest
