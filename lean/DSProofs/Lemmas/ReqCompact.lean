/- Single compactors of the REQ model: the compaction range, what `compact` keeps and counts, what `ensure_enough_sections` and
   `merge` leave as it was. -/
import DSProofs.Lemmas.ReqBasic
namespace DS.Req

variable {ρ : Type}

/-- side conditions on the tunables, discharged by `decide` for DSGen's values -/
structure TunOK (T : Tun) : Prop where
  minK2 : 2 ≤ T.minK
  minK256 : T.minK < 256
  sec1 : 1 ≤ T.initSections
  mult2 : 2 ≤ T.multiplier

/-- the compactor at level `h` of a sketch in mode `hra`.  `srt`: level 0 is appended to unsorted and sorted on demand, so its buffer is
ascending only when its flag says so; the levels above only ever receive merged ascending runs.  No field mentions `T`. -/
structure CInv (T : Tun) (hra : Bool) (h : Nat) (c : Compactor ρ) : Prop where
  lg : c.lgWeight = h
  hraEq : c.hra = hra
  ns : 1 ≤ c.numSections
  ss : 2 ≤ c.sectionSize
  srt : (h ≠ 0 ∨ c.sorted = true) → Sorted c.items

theorem cntP_split3 (p : Int → Bool) (l : List Int) (lo hi : Nat) (h : lo ≤ hi) :
    cntP p (l.take lo ++ l.drop hi) + cntP p ((l.take hi).drop lo) = cntP p l := by
  have h1 := cntP_append p (l.take hi) (l.drop hi)
  have h2 := cntP_append p ((l.take hi).take lo) ((l.take hi).drop lo)
  rw [List.take_append_drop] at h1 h2
  rw [List.take_take, Nat.min_eq_left h] at h2
  rw [cntP_append]; omega

theorem kept_sublist (l : List Int) (lo hi : Nat) (h : lo ≤ hi) : (l.take lo ++ l.drop hi).Sublist l := by
  have h1 : (l.drop hi).Sublist (l.drop lo) := by
    have : l.drop hi = (l.drop lo).drop (hi - lo) := by rw [List.drop_drop]; congr 1; omega
    rw [this]; exact List.drop_sublist _ _
  have := List.Sublist.append (List.Sublist.refl (l.take lo)) h1
  rwa [List.take_append_drop] at this

theorem length_take_drop (l : List Int) (lo hi : Nat) (h2 : hi ≤ l.length) :
    ((l.take hi).drop lo).length = hi - lo := by
  simp [List.length_drop, List.length_take, Nat.min_eq_left h2]

theorem length_kept (l : List Int) (lo hi : Nat) (h1 : lo ≤ hi) (h2 : hi ≤ l.length) :
    (l.take lo ++ l.drop hi).length = l.length - (hi - lo) := by
  rw [List.length_append, List.length_take, List.length_drop, Nat.min_eq_left (Nat.le_trans h1 h2)]; omega

/-- the run that `compact` halves -/
def Compactor.range (T : Tun) (c : Compactor ρ) : List Int :=
  (c.items.take (c.compactionRange T).2).drop (c.compactionRange T).1

/-- `nc` items stay behind: half the capacity `X` plus the sections not compacted (`B` items, at least one section of `ss` items fewer
than the `A` of all sections, which fill at most half the capacity), made to have the parity of `len` -/
theorem keep_arith {X A B ss len nc : Nat} (hB : B + ss ≤ A) (hA : 2 * A ≤ X) (hss : 2 ≤ ss) (hfull : X ≤ len)
    (hnc : nc = X / 2 + B + (len + (X / 2 + B)) % 2) : nc + 2 ≤ len ∧ (len - nc) % 2 = 0 ∧ 1 ≤ nc ∧ nc < X := by
  omega

/-- what `compact` needs of the index pair `rg = compactionRange` (not the item run `Compactor.range`) in a buffer of `len` items with
nominal capacity `cap`; `kept1`, `keptLt`: at least one item stays behind, and fewer than `cap` -/
structure RangeOK (rg : Nat × Nat) (len cap : Nat) : Prop where
  ok : rg.1 + 2 ≤ rg.2
  inside : rg.2 ≤ len
  even : (rg.2 - rg.1) % 2 = 0
  kept1 : 1 ≤ len - (rg.2 - rg.1)
  keptLt : len - (rg.2 - rg.1) < cap

theorem RangeOK.le {rg : Nat × Nat} {len cap : Nat} (R : RangeOK rg len cap) : rg.1 ≤ rg.2 := Nat.le_of_add_right_le R.ok

/-- under `TunOK` a nominally full buffer has such a range: `compact` never throws "compaction range error" -/
theorem compactionRange_ok {T : Tun} (hT : TunOK T) (c : Compactor ρ) (hns : 1 ≤ c.numSections) (hss : 2 ≤ c.sectionSize)
    (hfull : c.nomCap T ≤ c.items.length) : RangeOK (c.compactionRange T) c.items.length (c.nomCap T) := by
  have hB : (c.numSections - c.secsToCompact) * c.sectionSize + c.sectionSize ≤ c.numSections * c.sectionSize := by
    rw [← Nat.succ_mul]
    exact Nat.mul_le_mul_right _ (by unfold Compactor.secsToCompact; omega)
  have hX : 2 * (c.numSections * c.sectionSize) ≤ c.nomCap T := by
    rw [Compactor.nomCap, Nat.mul_assoc]; exact Nat.mul_le_mul_right _ hT.mult2
  obtain ⟨h1, h2, h3, h4⟩ := keep_arith hB hX hss hfull (ite_parity _ _)
  have hk := Nat.sub_sub_self (Nat.le_of_add_right_le h1)
  simp only [Compactor.compactionRange]
  cases c.hra <;> simp only [Bool.false_eq_true, if_false, if_true]
  · exact ⟨h1, Nat.le_refl _, h2, by simpa only [hk] using h3, by simpa only [hk] using h4⟩
  · exact ⟨Nat.le_sub_of_add_le' h1, Nat.sub_le _ _, by simpa only [Nat.sub_zero] using h2, by simpa only [Nat.sub_zero, hk] using h3,
      by simpa only [Nat.sub_zero, hk] using h4⟩

structure SameButSections (c c' : Compactor ρ) : Prop where
  items : c'.items = c.items
  lgWeight : c'.lgWeight = c.lgWeight
  hra : c'.hra = c.hra
  sorted : c'.sorted = c.sorted
  coin : c'.coin = c.coin
  state : c'.state = c.state
  entered : c'.entered = c.entered
  rnd : c'.rnd = c.rnd

theorem ensureEnough_same (T : Tun) (F : SecFns ρ) (c : Compactor ρ) : SameButSections c (c.ensureEnough T F).1 := by
  simp only [Compactor.ensureEnough]; split <;> exact ⟨rfl, rfl, rfl, rfl, rfl, rfl, rfl, rfl⟩

theorem ensureEnough_CInv {T : Tun} (hT : TunOK T) (F : SecFns ρ) {hra : Bool} {h : Nat} {c : Compactor ρ}
    (hc : CInv T hra h c) : CInv T hra h (c.ensureEnough T F).1 := by
  simp only [Compactor.ensureEnough]; split
  · rename_i hcond
    exact ⟨hc.lg, hc.hraEq, by show 1 ≤ 2 * c.numSections; have := hc.ns; omega,
           by show 2 ≤ F.ne (F.next c.ssRaw); have := hT.minK2; omega, hc.srt⟩
  · exact hc

theorem ensureLoop_ind {T : Tun} {F : SecFns ρ} {P : Compactor ρ → Prop} (step : ∀ c, P c → P (c.ensureEnough T F).1) (fuel : Nat)
    {c : Compactor ρ} (h : P c) : P (Compactor.ensureLoop T F fuel c) := by
  induction fuel generalizing c with
  | zero => exact h
  | succ n ih =>
    simp only [Compactor.ensureLoop]; split
    · exact ih (step c h)
    · exact h

theorem ensureLoop_CInv {T : Tun} (hT : TunOK T) (F : SecFns ρ) {hra : Bool} {h : Nat} (fuel : Nat) {c : Compactor ρ}
    (hc : CInv T hra h c) : CInv T hra h (Compactor.ensureLoop T F fuel c) :=
  ensureLoop_ind (fun _ => ensureEnough_CInv hT F) fuel hc

theorem ensureLoop_same (T : Tun) (F : SecFns ρ) (fuel : Nat) (c : Compactor ρ) : SameButSections c (Compactor.ensureLoop T F fuel c) :=
  ensureLoop_ind (P := SameButSections c) (fun c1 h1 =>
    have h2 := ensureEnough_same T F c1
    ⟨h2.items.trans h1.items, h2.lgWeight.trans h1.lgWeight, h2.hra.trans h1.hra, h2.sorted.trans h1.sorted,
      h2.coin.trans h1.coin, h2.state.trans h1.state, h2.entered.trans h1.entered, h2.rnd.trans h1.rnd⟩) fuel
    ⟨rfl, rfl, rfl, rfl, rfl, rfl, rfl, rfl⟩

theorem sortedItems_cnt (p : Int → Bool) (c : Compactor ρ) : cntP p c.sortedItems = cntP p c.items := by
  unfold Compactor.sortedItems; split <;> simp [cntP_sortInts]

theorem mergeItems_eq (hra : Bool) (mine theirs : List Int) :
    mergeItems hra mine theirs = if mine.isEmpty then theirs else mergeDir hra theirs mine := rfl

theorem mergeItems_cnt (p : Int → Bool) (hra : Bool) (mine theirs : List Int) :
    cntP p (mergeItems hra mine theirs) = cntP p mine + cntP p theirs := by
  rw [mergeItems_eq]; split
  · rename_i hemp; rw [List.isEmpty_iff.1 hemp, cntP_nil, Nat.zero_add]
  · rw [cntP_mergeDir, Nat.add_comm]

theorem mergeItems_len (hra : Bool) (mine theirs : List Int) : (mergeItems hra mine theirs).length = mine.length + theirs.length := by
  have := mergeItems_cnt (fun _ => true) hra mine theirs; simpa [cntP_true] using this

theorem cmerge_cnt (T : Tun) (F : SecFns ρ) (p : Int → Bool) (c o : Compactor ρ) :
    cntP p (c.merge T F o).items = cntP p c.items + cntP p o.items := by
  show cntP p (mergeItems _ (Compactor.ensureLoop T F _ (c.orState o)).sortedItems o.sortedItems) = _
  rw [mergeItems_cnt, sortedItems_cnt, sortedItems_cnt, (ensureLoop_same T F _ _).items]; rfl

theorem cmerge_fields (T : Tun) (F : SecFns ρ) (c o : Compactor ρ) :
    (c.merge T F o).entered = o.entered ++ c.entered ∧ (c.merge T F o).lgWeight = c.lgWeight := by
  have e := ensureLoop_same T F ((c.orState o).state + 2) (c.orState o)
  exact ⟨congrArg (o.entered ++ ·) e.entered, e.lgWeight⟩

/-- `compact` up to (not including) its final `ensure_enough_sections()` -/
def Compactor.compacted (T : Tun) (c : Compactor ρ) (d : Bool) : Compactor ρ :=
  { c with coin := if c.state % 2 = 1 then !c.coin else d,
           items := c.items.take (c.compactionRange T).1 ++ c.items.drop (c.compactionRange T).2,
           state := c.state + 1, rnd := if c.state % 2 = 1 then c.rnd else true }

theorem compact_cur (T : Tun) (F : SecFns ρ) (c nxt : Compactor ρ) (d : Bool) :
    (c.compact T F nxt d).cur = ((c.compacted T d).ensureEnough T F).1 := rfl

theorem compact_nxt (T : Tun) (F : SecFns ρ) (c nxt : Compactor ρ) (d : Bool) :
    (c.compact T F nxt d).nxt = { nxt with items := mergeDir c.hra (promote (c.range T) (c.compacted T d).coin) nxt.items,
                                           entered := promote (c.range T) (c.compacted T d).coin ++ nxt.entered } := rfl

/-- one compaction `r` of the nominally full, ascending compactor `c` of level `h` into `nxt`: `r.num ≥ 1` items go up and twice as many
leave `c`; `tw`: the two levels together keep their weight -/
structure CompactSpec (T : Tun) (hra : Bool) (h : Nat) (c nxt : Compactor ρ) (r : CompactRes ρ) : Prop where
  ok : r.rangeOk = true
  cur : CInv T hra h r.cur
  nx : CInv T hra (h + 1) r.nxt
  num1 : 1 ≤ r.num
  lenCur : r.cur.items.length + 2 * r.num = c.items.length
  lenNxt : r.nxt.items.length = nxt.items.length + r.num
  curNe : r.cur.items ≠ []
  capOld : r.capOld = c.nomCap T
  capNew : r.capNew = r.cur.nomCap T
  curEntered : r.cur.entered = c.entered
  nxCap : r.nxt.nomCap T = nxt.nomCap T
  tw : r.cur.items.length * 2 ^ h + r.nxt.items.length * 2 ^ (h + 1) = c.items.length * 2 ^ h + nxt.items.length * 2 ^ (h + 1)

/-- `n` items of weight `2P` replace `2n` items of weight `P` -/
theorem weight_step (a n x P : Nat) : a * P + (x + n) * (P * 2) = (a + 2 * n) * P + x * (P * 2) := by
  have : 2 * n * P = n * (P * 2) := by rw [Nat.mul_comm 2 n, Nat.mul_assoc, Nat.mul_comm 2 P]
  rw [Nat.add_mul, Nat.add_mul, this]; omega

theorem halve_arith {w len : Nat} (h2 : 2 ≤ w) (hev : w % 2 = 0) (hk : 1 ≤ len - w) : 1 ≤ w / 2 ∧ len - w + 2 * (w / 2) = len := by
  omega

theorem compact_spec {T : Tun} (hT : TunOK T) (F : SecFns ρ) {hra : Bool} {h : Nat} {c nxt : Compactor ρ} (d : Bool)
    (hc : CInv T hra h c) (hsorted : Sorted c.items) (hn : CInv T hra (h + 1) nxt)
    (hfull : c.nomCap T ≤ c.items.length) :
    CompactSpec T hra h c nxt (c.compact T F nxt d) := by
  have R := compactionRange_ok hT c hc.ns hc.ss hfull
  have hrange : (c.range T).length = (c.compactionRange T).2 - (c.compactionRange T).1 := length_take_drop c.items _ _ R.inside
  obtain ⟨hnum, hlen⟩ := halve_arith (Nat.le_sub_of_add_le' R.ok) R.even R.kept1
  have hprom : ∀ coin, (promote (c.range T) coin).length = (c.compact T F nxt d).num := fun coin => by
    rw [length_promote _ _ (hrange ▸ R.even), hrange]; rfl
  have hpromSorted : ∀ coin, Sorted (promote (c.range T) coin) :=
    fun coin => List.Pairwise.sublist ((promote_sublist _ _).trans ((List.drop_sublist _ _).trans (List.take_sublist _ _))) hsorted
  have hcur : (c.compact T F nxt d).cur.items.length = c.items.length - ((c.compactionRange T).2 - (c.compactionRange T).1) := by
    rw [compact_cur, (ensureEnough_same T F _).items]; exact length_kept c.items _ _ R.le R.inside
  have hlenCur : (c.compact T F nxt d).cur.items.length + 2 * (c.compact T F nxt d).num = c.items.length := hcur ▸ hlen
  have hlenNxt : (c.compact T F nxt d).nxt.items.length = nxt.items.length + (c.compact T F nxt d).num := by
    rw [compact_nxt]; exact (length_mergeDir _ _ _).trans ((Nat.add_comm _ _).trans (congrArg _ (hprom _)))
  refine ⟨decide_eq_true R.ok, ?_, ?_, hnum, hlenCur, hlenNxt, ?_, rfl, rfl, (ensureEnough_same T F _).entered, rfl, ?_⟩
  · apply ensureEnough_CInv hT F
    exact ⟨hc.lg, hc.hraEq, hc.ns, hc.ss, fun _ => List.Pairwise.sublist (kept_sublist _ _ _ R.le) hsorted⟩
  · rw [compact_nxt]
    exact ⟨hn.lg, hn.hraEq, hn.ns, hn.ss, fun _ => sorted_mergeDir _ (hpromSorted _) (hn.srt (Or.inl (Nat.succ_ne_zero h)))⟩
  · intro hnil
    rw [hnil] at hcur; exact Nat.lt_irrefl 0 (Nat.lt_of_lt_of_le R.kept1 (Nat.le_of_eq hcur.symm))
  · rw [hlenNxt, ← hlenCur, Nat.pow_succ]; exact weight_step _ _ _ _

theorem compact_coin (T : Tun) (F : SecFns ρ) (c nxt : Compactor ρ) (d : Bool) :
    (c.compact T F nxt d).cur.coin = if c.state % 2 = 1 then !c.coin else d :=
  (ensureEnough_same T F (c.compacted T d)).coin

theorem compact_cnt (T : Tun) (F : SecFns ρ) (p : Int → Bool) (c nxt : Compactor ρ) (d : Bool)
    (hlo : (c.compactionRange T).1 ≤ (c.compactionRange T).2) :
    cntP p (c.compact T F nxt d).cur.items + cntP p (c.range T) = cntP p c.items ∧
    cntP p (c.compact T F nxt d).nxt.items = cntP p nxt.items + cntP p (promote (c.range T) (c.compact T F nxt d).cur.coin) ∧
    cntP p (c.compact T F nxt d).nxt.entered = cntP p (promote (c.range T) (c.compact T F nxt d).cur.coin) + cntP p nxt.entered ∧
    (c.compact T F nxt d).cur.entered = c.entered ∧ (c.compact T F nxt d).cur.lgWeight = c.lgWeight ∧
    (c.compact T F nxt d).nxt.lgWeight = nxt.lgWeight := by
  have e := ensureEnough_same T F (c.compacted T d)
  refine ⟨?_, ?_, ?_, e.entered, e.lgWeight, rfl⟩
  · rw [compact_cur, e.items]; exact cntP_split3 p _ _ _ hlo
  · rw [compact_coin, compact_nxt]; exact (cntP_mergeDir ..).trans (Nat.add_comm _ _)
  · rw [compact_coin, compact_nxt]; exact cntP_append ..

end DS.Req
