/- Two runs of the REQ model side by side (compactor level): shapes never depend on coin values; below a chosen level `h`
   everything agrees, at level `h` the coins are complementary, and so the two runs promote complementary halves of the same range:
   the balance `headD`/`balD`.  Used for C08. -/
import DSProofs.Lemmas.ReqCompress
namespace DS.Req

variable {ρ : Type}

/-- `hh = none`: only shapes are related (two arbitrary coin supplies).
    `hh = some h` (`h`: "the flipped level"): additionally the compactors of level ≤ h hold the same items, coins of level < h agree
    and a coin of level h is complemented iff it derives from a draw (`rnd`). -/
structure CRel (hh : Option Nat) (c c' : Compactor ρ) : Prop where
  lg : c'.lgWeight = c.lgWeight
  hra : c'.hra = c.hra
  sorted : c'.sorted = c.sorted
  ssRaw : c'.ssRaw = c.ssRaw
  ss : c'.sectionSize = c.sectionSize
  ns : c'.numSections = c.numSections
  state : c'.state = c.state
  rnd : c'.rnd = c.rnd
  len : c'.items.length = c.items.length
  same : ∀ h, hh = some h → c.lgWeight ≤ h → c'.items = c.items ∧ c'.entered = c.entered
  coinLt : ∀ h, hh = some h → c.lgWeight < h → c'.coin = c.coin
  coinEq : ∀ h, hh = some h → c.lgWeight = h → c'.coin = (c.coin != c.rnd)

theorem CRel.refl_none (c : Compactor ρ) : CRel none c c :=
  ⟨rfl, rfl, rfl, rfl, rfl, rfl, rfl, rfl, rfl, fun _ h => by simp at h, fun _ h => by simp at h, fun _ h => by simp at h⟩

theorem CRel.nomCap {hh : Option Nat} {c c' : Compactor ρ} (T : Tun) (r : CRel hh c c') : c'.nomCap T = c.nomCap T := by
  simp [Compactor.nomCap, r.ss, r.ns]

theorem CRel.content {hh : Option Nat} {c c' : Compactor ρ} (r : CRel hh c c') {i i' e e' : List Int} (s : Bool)
    (hlen : i'.length = i.length) (hsame : ∀ h, hh = some h → c.lgWeight ≤ h → i' = i ∧ e' = e) :
    CRel hh { c with items := i, entered := e, sorted := s } { c' with items := i', entered := e', sorted := s } :=
  ⟨r.lg, r.hra, rfl, r.ssRaw, r.ss, r.ns, r.state, r.rnd, hlen, hsame, r.coinLt, r.coinEq⟩

theorem mkC_CRel (T : Tun) (F : SecFns ρ) (hh : Option Nat) (hra : Bool) (lg k : Nat) (d d' : Bool)
    (hd : ∀ h, hh = some h → T.initCoinRandom = true → d' = (d != (lg == h))) :
    CRel hh (Compactor.mkC T F hra lg k d) (Compactor.mkC T F hra lg k d') := by
  rw [mkC_eq, mkC_eq]
  refine ⟨rfl, rfl, rfl, rfl, rfl, rfl, rfl, rfl, rfl, fun _ _ _ => ⟨rfl, rfl⟩, fun h e hl => ?_, fun h e hl => ?_⟩ <;>
    show (T.initCoinRandom && d') = _ <;> cases hf : T.initCoinRandom <;> try rfl
  · rw [hd h e hf, show (lg == h) = false from beq_false_of_ne (Nat.ne_of_lt hl), Bool.bne_false]
  · rw [hd h e hf, show (lg == h) = true from beq_iff_eq.2 hl]; rfl

theorem append_CRel {hh : Option Nat} {c c' : Compactor ρ} (x : Int) (r : CRel hh c c') : CRel hh (c.append x) (c'.append x) := by
  unfold Compactor.append
  rw [r.len, r.sorted]
  refine r.content _ ?_ fun h e hl => ?_
  · rw [r.hra]; split <;> simp [r.len]
  · rw [r.hra, (r.same h e hl).1, (r.same h e hl).2]; exact ⟨rfl, rfl⟩

theorem sort_CRel {hh : Option Nat} {c c' : Compactor ρ} (r : CRel hh c c') : CRel hh c.sort c'.sort := by
  unfold Compactor.sort
  rw [r.sorted]
  split
  · exact r
  · exact r.content true (by rw [length_sortInts, length_sortInts, r.len])
      fun h e hl => ⟨congrArg sortInts (r.same h e hl).1, (r.same h e hl).2⟩

theorem ensureEnough_CRel {hh : Option Nat} (T : Tun) (F : SecFns ρ) {c c' : Compactor ρ} (r : CRel hh c c') :
    CRel hh (c.ensureEnough T F).1 (c'.ensureEnough T F).1 ∧ (c'.ensureEnough T F).2 = (c.ensureEnough T F).2 := by
  simp only [Compactor.ensureEnough, r.ssRaw, r.state, r.ns]
  split
  · refine ⟨⟨r.lg, r.hra, r.sorted, rfl, rfl, rfl, rfl, r.rnd, r.len, r.same, r.coinLt, r.coinEq⟩, rfl⟩
  · exact ⟨r, rfl⟩

theorem ensureLoop_CRel {hh : Option Nat} (T : Tun) (F : SecFns ρ) (fuel : Nat) {c c' : Compactor ρ} (r : CRel hh c c') :
    CRel hh (Compactor.ensureLoop T F fuel c) (Compactor.ensureLoop T F fuel c') := by
  induction fuel generalizing c c' with
  | zero => exact r
  | succ n ih =>
    have e := ensureEnough_CRel T F r
    simp only [Compactor.ensureLoop, e.2]
    split
    · exact ih e.1
    · exact r

theorem sortedItems_CRel {hh : Option Nat} {c c' : Compactor ρ} (r : CRel hh c c') :
    c'.sortedItems.length = c.sortedItems.length ∧ (∀ h, hh = some h → c.lgWeight ≤ h → c'.sortedItems = c.sortedItems) := by
  unfold Compactor.sortedItems; rw [r.sorted]
  refine ⟨?_, ?_⟩
  · split <;> simp [length_sortInts, r.len]
  · intro h e hl; rw [(r.same h e hl).1]

theorem cmerge_CRel {hh : Option Nat} (T : Tun) (F : SecFns ρ) {c c' o o' : Compactor ρ} (r : CRel hh c c') (ro : CRel hh o o')
    (hlg : o.lgWeight = c.lgWeight) : CRel hh (c.merge T F o) (c'.merge T F o') := by
  have r1 : CRel hh (c.orState o) (c'.orState o') :=
    ⟨r.lg, r.hra, r.sorted, r.ssRaw, r.ss, r.ns, by simp [Compactor.orState, r.state, ro.state], r.rnd, r.len, r.same, r.coinLt, r.coinEq⟩
  have hst : (c'.orState o').state = (c.orState o).state := r1.state
  have r2 := ensureLoop_CRel T F ((c.orState o).state + 2) r1
  have hlg2 : (Compactor.ensureLoop T F ((c.orState o).state + 2) (c.orState o)).lgWeight = c.lgWeight := (ensureLoop_same T F _ _).lgWeight
  simp only [Compactor.merge]
  rw [hst]
  generalize Compactor.ensureLoop T F ((c.orState o).state + 2) (c.orState o) = c2 at r2 hlg2
  generalize Compactor.ensureLoop T F ((c.orState o).state + 2) (c'.orState o') = c2' at r2
  have m := sortedItems_CRel r2
  have t := sortedItems_CRel ro
  refine r2.content true ?_ fun h e hl => ?_
  · rw [mergeItems_len, mergeItems_len, m.1, t.1]
  · have hl2 : c2.lgWeight ≤ h := hl
    rw [r2.hra, m.2 h e hl2, t.2 h e (by omega), (ro.same h e (by omega)).2, (r2.same h e hl2).2]; exact ⟨rfl, rfl⟩

theorem compactionRange_CRel {hh : Option Nat} (T : Tun) {c c' : Compactor ρ} (r : CRel hh c c') :
    c'.compactionRange T = c.compactionRange T := by
  unfold Compactor.compactionRange Compactor.secsToCompact
  rw [r.nomCap T, r.ns, r.ss, r.state, r.len, r.hra]

structure CompactRel (hh : Option Nat) (res res' : CompactRes ρ) : Prop where
  cur : CRel hh res.cur res'.cur
  nxt : CRel hh res.nxt res'.nxt
  num : res'.num = res.num
  capOld : res'.capOld = res.capOld
  capNew : res'.capNew = res.capNew
  fresh : res'.fresh = res.fresh
  rangeOk : res'.rangeOk = res.rangeOk
  oddConst : res'.oddConst = res.oddConst

theorem compact_CRel {hh : Option Nat} (T : Tun) (F : SecFns ρ) {c c' nxt nxt' : Compactor ρ} (d d' : Bool)
    (r : CRel hh c c') (rn : CRel hh nxt nxt') (hnl : nxt.lgWeight = c.lgWeight + 1)
    (hd : ∀ h, hh = some h → ¬ c.state % 2 = 1 → d' = (d != (c.lgWeight == h)))
    (hev : (c.range T).length % 2 = 0) :
    CompactRel hh (c.compact T F nxt d) (c'.compact T F nxt' d') := by
  have hrg := compactionRange_CRel T r
  -- the coins the two compactions use: equal below the flipped level, complementary (if drawn) at it
  have hlt : ∀ h, hh = some h → c.lgWeight < h → (c'.compacted T d').coin = (c.compacted T d).coin := by
    intro h e hl
    show (if c'.state % 2 = 1 then !c'.coin else d') = (if c.state % 2 = 1 then !c.coin else d)
    rw [r.state, r.coinLt h e hl]
    split
    · rfl
    · rename_i ho; rw [hd h e ho, show (c.lgWeight == h) = false from beq_false_of_ne (Nat.ne_of_lt hl), Bool.bne_false]
  -- sizes depend on sizes only; contents agree where the buffers do
  have hrl : (c'.range T).length = (c.range T).length := by
    simp only [Compactor.range, hrg, List.length_drop, List.length_take, r.len]
  have hrs : ∀ h, hh = some h → c.lgWeight ≤ h → c'.range T = c.range T := fun h e hl => by
    rw [Compactor.range, hrg, (r.same h e hl).1]; rfl
  have r1 : CRel hh (c.compacted T d) (c'.compacted T d') := by
    refine ⟨r.lg, r.hra, r.sorted, r.ssRaw, r.ss, r.ns, congrArg (· + 1) r.state, ?_, ?_, ?_, hlt, ?_⟩
    · show (if c'.state % 2 = 1 then c'.rnd else true) = (if c.state % 2 = 1 then c.rnd else true)
      rw [r.state, r.rnd]
    · show (c'.items.take _ ++ c'.items.drop _).length = (c.items.take _ ++ c.items.drop _).length
      simp only [hrg, List.length_append, List.length_take, List.length_drop, r.len]
    · intro h e hl
      obtain ⟨a, b⟩ := r.same h e hl
      exact ⟨by show c'.items.take _ ++ c'.items.drop _ = c.items.take _ ++ c.items.drop _; rw [hrg, a], b⟩
    · intro h e hl
      show (if c'.state % 2 = 1 then !c'.coin else d') = ((if c.state % 2 = 1 then !c.coin else d) != (if c.state % 2 = 1 then c.rnd else true))
      rw [r.state, r.coinEq h e hl]
      split
      · cases c.coin <;> cases c.rnd <;> rfl
      · rename_i ho; rw [hd h e ho, show (c.lgWeight == h) = true from beq_iff_eq.2 hl]
  have e1 := ensureEnough_CRel T F r1
  refine ⟨e1.1, ?_, congrArg (fun rg : Nat × Nat => (rg.2 - rg.1) / 2) hrg, r.nomCap T, e1.1.nomCap T,
    congrArg (fun s => !decide (s % 2 = 1)) r.state, congrArg (fun rg : Nat × Nat => decide (rg.1 + 2 ≤ rg.2)) hrg, ?_⟩
  · rw [compact_nxt, compact_nxt]
    refine ⟨rn.lg, rn.hra, rn.sorted, rn.ssRaw, rn.ss, rn.ns, rn.state, rn.rnd, ?_, ?_, rn.coinLt, rn.coinEq⟩
    · show (mergeDir _ _ _).length = (mergeDir _ _ _).length
      rw [length_mergeDir, length_mergeDir, rn.len, length_promote _ _ (hrl ▸ hev), length_promote _ _ hev, hrl]
    · intro h e hl
      have hcl : c.lgWeight < h := Nat.lt_of_succ_le (Nat.le_trans (Nat.le_of_eq hnl.symm) hl)
      obtain ⟨a2, b2⟩ := rn.same h e hl
      exact ⟨by show mergeDir _ _ _ = mergeDir _ _ _; rw [r.hra, hrs h e (Nat.le_of_lt hcl), hlt h e hcl, a2],
        by show _ ++ _ = _ ++ _; rw [hrs h e (Nat.le_of_lt hcl), hlt h e hcl, b2]⟩
  · show (decide (c'.state % 2 = 1) && !c'.rnd) = (decide (c.state % 2 = 1) && !c.rnd)
    rw [r.state, r.rnd]

/-- the share of one pair of levels in the left side of the balance (`balD` below): what entered level `h0 + 1` in either run, and what sits at
level `h0` (in run 1; run 2 holds the same there) -/
def headL (p : Int → Bool) (h0 : Nat) (c c' : Compactor ρ) : Nat :=
  (if c.lgWeight = h0 + 1 then cntP p c.entered + cntP p c'.entered else 0) + (if c.lgWeight = h0 then cntP p c.items else 0)

/-- its share in the right side: what ever entered level `h0` -/
def headR (p : Int → Bool) (h0 : Nat) (c : Compactor ρ) : Nat := if c.lgWeight = h0 then cntP p c.entered else 0

theorem headL_split (p : Int → Bool) (h : Nat) {c c' : Compactor ρ} (hl : c'.lgWeight = c.lgWeight) :
    headL p h c c' = headR p (h + 1) c + headR p (h + 1) c' + (if c.lgWeight = h then cntP p c.items else 0) := by
  unfold headL headR; rw [hl]
  split <;> rfl

def headD (p : Int → Bool) (h0 : Nat) (c c' : Compactor ρ) : Int := headL p h0 c c' - headR p h0 c

/-- the balance of two runs at the flipped level `h0`, left side minus right side, summed over the pairs of levels.  It is 0 for two
runs whose coins differ exactly at level `h0` (what `compact_bal_heads` keeps and `SRelB` in `ReqRelSketch` states): what entered level
`h0 + 1` in the two runs together, plus what still sits at level `h0`, is what ever entered level `h0`, because the two runs promote
complementary halves of every range compacted there. -/
def balD (p : Int → Bool) (h0 : Nat) : List (Compactor ρ) → List (Compactor ρ) → Int
  | c :: t, c' :: t' => headD p h0 c c' + balD p h0 t t'
  | _, _ => 0

theorem balD_cons (p : Int → Bool) (h0 : Nat) (c c' : Compactor ρ) (t t' : List (Compactor ρ)) :
    balD p h0 (c :: t) (c' :: t') = headD p h0 c c' + balD p h0 t t' := rfl

/-- the two conditions exclude each other: a pair of levels counts for the level above `h0`, for `h0`, or not at all -/
theorem headD_eq (p : Int → Bool) (h0 : Nat) (c c' : Compactor ρ) :
    headD p h0 c c' = if c.lgWeight = h0 + 1 then ((cntP p c.entered + cntP p c'.entered : Nat) : Int)
      else if c.lgWeight = h0 then (cntP p c.items : Int) - cntP p c.entered else 0 := by
  unfold headD headL headR
  by_cases h1 : c.lgWeight = h0 + 1
  · rw [if_pos h1, if_pos h1, if_neg (h1 ▸ Nat.succ_ne_self h0), if_neg (h1 ▸ Nat.succ_ne_self h0)]; rfl
  · rw [if_neg h1, if_neg h1, Nat.zero_add]
    by_cases h2 : c.lgWeight = h0
    · rw [if_pos h2, if_pos h2, if_pos h2]
    · rw [if_neg h2, if_neg h2, if_neg h2]; rfl

/-- at the flipped level: the range `R` leaves, its two halves `P`, `P'` enter the next level, one in each run -/
theorem bal_at {I R Ic P P' Ec En En' : Nat} (h1 : I + R = Ic) (h2 : P + P' = R) :
    (I : Int) - Ec + ((P + En + (P' + En') : Nat) : Int) = Ic - Ec + ((En + En' : Nat) : Int) := by omega

/-- below the flipped level: what is promoted both enters and sits at the next level -/
theorem bal_below (In P En : Nat) : ((In + P : Nat) : Int) - ((P + En : Nat) : Int) = In - En := by omega

/-- one compaction in the two runs keeps the balance (if the coin used at level h0 was not the constant one): at level `h0`
the two runs promote complementary halves of the same range -/
theorem compact_bal_heads (T : Tun) (F : SecFns ρ) (p : Int → Bool) (h0 : Nat) {c c' nxt nxt' : Compactor ρ} (d d' : Bool)
    (r : CRel (some h0) c c') (hnl : nxt.lgWeight = c.lgWeight + 1)
    (hd : ¬ c.state % 2 = 1 → d' = (d != (c.lgWeight == h0)))
    (hle : (c.compactionRange T).1 ≤ (c.compactionRange T).2)
    (hoc : (c.compact T F nxt d).oddConst = false) :
    headD p h0 (c.compact T F nxt d).cur (c'.compact T F nxt' d').cur + headD p h0 (c.compact T F nxt d).nxt (c'.compact T F nxt' d').nxt
      = headD p h0 c c' + headD p h0 nxt nxt' := by
  have hrg := compactionRange_CRel T r
  obtain ⟨a1, a2, a3, a4, a5, a6⟩ := compact_cnt T F p c nxt d hle
  obtain ⟨_, _, b3, b4, _, _⟩ := compact_cnt T F p c' nxt' d' (hrg ▸ hle)
  have hkey : c.lgWeight = h0 →
      cntP p (promote (c.range T) (c.compact T F nxt d).cur.coin) + cntP p (promote (c'.range T) (c'.compact T F nxt' d').cur.coin)
      = cntP p (c.range T) := by
    intro hl0
    have hcomp : (c'.compact T F nxt' d').cur.coin = !(c.compact T F nxt d).cur.coin := by
      rw [compact_coin, compact_coin, r.state]
      by_cases hodd : c.state % 2 = 1
      · have hrnd : c.rnd = true := by
          have : (decide (c.state % 2 = 1) && !c.rnd) = false := hoc
          rw [decide_eq_true hodd] at this; simpa using this
        rw [if_pos hodd, if_pos hodd, r.coinEq h0 rfl hl0, hrnd]
        cases c.coin <;> rfl
      · rw [if_neg hodd, if_neg hodd, hd hodd, beq_iff_eq.2 hl0, Bool.bne_true]
    have hr' : c'.range T = c.range T := by unfold Compactor.range; rw [hrg, (r.same h0 rfl (Nat.le_of_eq hl0)).1]
    rw [hr', hcomp]
    exact cntP_promote_both p _ _
  -- level `l` loses its range and promotes half of it to level `l + 1`: three positions of `l` relative to `h0`
  rw [headD_eq, headD_eq, headD_eq, headD_eq, a4, a5, a6, b4, hnl, a2, a3, b3]
  by_cases hl0 : c.lgWeight = h0
  · have := hkey hl0
    simp only [hl0, if_neg (Nat.succ_ne_self h0).symm, if_true]
    exact bal_at a1 this
  · have hl1 : ¬ c.lgWeight + 1 = h0 + 1 := fun e => hl0 (Nat.succ.inj e)
    simp only [if_neg hl0, if_neg hl1]
    by_cases hl2 : c.lgWeight + 1 = h0
    · simp only [if_pos hl2, bal_below]
    · simp only [if_neg hl2]

theorem headD_sort (p : Int → Bool) (h0 : Nat) (h : Nat) (c c' : Compactor ρ) :
    headD p h0 (sortIf0 h c) (sortIf0 h c') = headD p h0 c c' := by
  unfold sortIf0; split
  · simp only [headD, headL, headR, sort_lgWeight, sort_entered, sort_cntP]
  · rfl

theorem heads_empty (p : Int → Bool) (h0 : Nat) (c c' : Compactor ρ) (hi : c.items = []) (he : c.entered = []) (he' : c'.entered = []) :
    headL p h0 c c' = 0 ∧ headR p h0 c = 0 := by
  unfold headL headR; rw [hi, he, he']
  exact ⟨by simp only [cntP_nil, ite_self], ite_self _⟩

theorem heads_mk' (p : Int → Bool) (h0 : Nat) (T : Tun) (F : SecFns ρ) (hra : Bool) (lg k : Nat) :
    headL p h0 (Compactor.mk' T F hra lg k) (Compactor.mk' T F hra lg k) = 0 ∧ headR p h0 (Compactor.mk' T F hra lg k) = 0 :=
  heads_empty p h0 _ _ rfl rfl rfl

theorem headD_empty (p : Int → Bool) (h0 : Nat) (c c' : Compactor ρ) (hi : c.items = []) (he : c.entered = []) (he' : c'.entered = []) :
    headD p h0 c c' = 0 := by
  obtain ⟨hL, hR⟩ := heads_empty p h0 c c' hi he he'
  unfold headD; rw [hL, hR]; rfl

/-- an item appended at level 0 enters and sits there at once -/
theorem headD_append (p : Int → Bool) (h0 : Nat) (c c' : Compactor ρ) (x : Int) (hlg : c.lgWeight = 0) :
    headD p h0 (c.append x) (c'.append x) = headD p h0 c c' := by
  have hi : cntP p (if c.hra then x :: c.items else c.items ++ [x]) = (if p x then 1 else 0) + cntP p c.items := by
    split
    · exact cntP_cons ..
    · rw [cntP_append, cntP_cons, Nat.add_comm]; rfl
  simp only [headD, headL, headR, Compactor.append, hlg, if_neg (Nat.succ_ne_zero h0).symm, Nat.zero_add, hi, cntP_cons]
  split
  · rw [Int.natCast_add, Int.natCast_add, Int.add_sub_add_left]
  · rfl

theorem headD_cmerge (T : Tun) (F : SecFns ρ) (p : Int → Bool) (h0 : Nat) (c c' o o' : Compactor ρ) (hl : o.lgWeight = c.lgWeight) :
    headD p h0 (c.merge T F o) (c'.merge T F o') = headD p h0 c c' + headD p h0 o o' := by
  have ite_add : ∀ (P : Prop) [Decidable P] (a b : Nat), (if P then a + b else 0) = (if P then a else 0) + (if P then b else 0) := by
    intro P _ a b; split <;> rfl
  unfold headD headL headR
  rw [cmerge_cnt, (cmerge_fields T F c o).1, (cmerge_fields T F c o).2, (cmerge_fields T F c' o').1, hl]
  simp only [cntP_append, ite_add]
  omega

end DS.Req
