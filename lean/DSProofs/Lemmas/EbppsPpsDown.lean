/- One-step PPS identity for `downsample` (C18): averaging over the unit draw (region lengths) and over uniform index
draws, every item's inclusion probability is multiplied by `theta`. -/
import DSProofs.Lemmas.EbppsPps
namespace DS.Ebpps

def sumTo : Nat → (Nat → Rat) → Rat
  | 0, _ => 0
  | n + 1, f => sumTo n f + f n

/-- expectation of `f j` for `j` uniform on `[0, n)` (what `random_idx(n)` draws) -/
def avg (n : Nat) (f : Nat → Rat) : Rat := sumTo n f / n

theorem sumTo_congr {n : Nat} {f g : Nat → Rat} (h : ∀ j, j < n → f j = g j) : sumTo n f = sumTo n g := by
  induction n with
  | zero => rfl
  | succ n ih => simp only [sumTo]; rw [ih (fun j hj => h j (by omega)), h n (by omega)]

theorem sumTo_add (n : Nat) (f g : Nat → Rat) : sumTo n (fun j => f j + g j) = sumTo n f + sumTo n g := by
  induction n with
  | zero => simp [sumTo]
  | succ n ih => simp only [sumTo]; rw [ih]; ring

theorem sumTo_mul (n : Nat) (a : Rat) (f : Nat → Rat) : sumTo n (fun j => a * f j) = a * sumTo n f := by
  induction n with
  | zero => simp [sumTo]
  | succ n ih => simp only [sumTo]; rw [ih]; ring

theorem sumTo_const (n : Nat) (a : Rat) : sumTo n (fun _ => a) = n * a := by
  induction n with
  | zero => simp [sumTo]
  | succ n ih => simp only [sumTo]; rw [ih]; push_cast; ring

theorem sumTo_succ' (n : Nat) (f : Nat → Rat) : sumTo (n + 1) f = f 0 + sumTo n (fun j => f (j + 1)) := by
  induction n with
  | zero => simp [sumTo]
  | succ n ih => rw [sumTo, ih]; simp only [sumTo]; ring

theorem avg_congr {n : Nat} {f g : Nat → Rat} (h : ∀ j, j < n → f j = g j) : avg n f = avg n g := by
  unfold avg; rw [sumTo_congr h]

theorem avg_affine (n : Nat) (hn : 0 < n) (a b : Rat) (f : Nat → Rat) : avg n (fun j => a * f j + b) = a * avg n f + b := by
  unfold avg
  rw [sumTo_add, sumTo_mul, sumTo_const]
  have : (n : Rat) ≠ 0 := by positivity
  field_simp

theorem avg_mul (n : Nat) (a : Rat) (f : Nat → Rat) : avg n (fun j => a * f j) = a * avg n f := by
  unfold avg; rw [sumTo_mul, mul_div_assoc]

theorem count_cons_ind (a : Nat) (l : List Nat) (x : Nat) : ((a :: l).count x : Rat) = (l.count x : Rat) + ind (a = x) := by
  rw [List.count_cons]; unfold ind; split <;> simp_all

theorem sumTo_ind_getD (l : List Nat) (x : Nat) : sumTo l.length (fun j => ind (l.getD j 0 = x)) = (l.count x : Rat) := by
  induction l with
  | nil => rfl
  | cons a t ih =>
    rw [List.length_cons, sumTo_succ', count_cons_ind, ← ih]
    exact add_comm _ _

theorem avg_ind_getD (l : List Nat) (x : Nat) : avg l.length (fun j => ind (l.getD j 0 = x)) = (l.count x : Rat) / l.length := by
  unfold avg; rw [sumTo_ind_getD]

theorem count_set_add (l : List Nat) (j p x : Nat) (hj : j < l.length) :
    ((l.set j p).count x : Rat) + ind (l.getD j 0 = x) = (l.count x : Rat) + ind (p = x) := by
  induction l generalizing j with
  | nil => simp at hj
  | cons a t ih =>
    cases j with
    | zero => rw [List.set_cons_zero, count_cons_ind, count_cons_ind, add_right_comm]; rfl
    | succ j =>
      rw [List.set_cons_succ, List.getD_cons_succ, count_cons_ind, count_cons_ind, add_right_comm, ih j (by simpa using hj),
        add_right_comm]

theorem count_pickSwap (l : List Nat) (j x : Nat) (hj : j < l.length) :
    ((pickSwap l j).2.count x : Rat) + ind (l.getD j 0 = x) = (l.count x : Rat) := by
  cases l with
  | nil => simp at hj
  | cons a t =>
    cases j with
    | zero => exact (count_cons_ind a t x).symm
    | succ j => exact (count_set_add t j a x (by simpa using hj)).trans (count_cons_ind a t x).symm

theorem unit_single (u : Rat) (js : List Nat) : (Draws.unit (⟨[u], js⟩ : Draws Rat)) = (u, ⟨[], js⟩) := rfl

theorem below_cons (us : List Rat) (j : Nat) (js : List Nat) (n : Nat) :
    Draws.below (⟨us, j :: js⟩ : Draws Rat) n = (j % n, ⟨us, js⟩) := rfl

theorem swapWith_part (data : List Nat) (part : Option Nat) (d : Draws Rat) :
    (swapWithPartial data part d).2.1 = some (data.getD (d.below data.length).1 0) := by
  cases part <;> rfl

theorem ind_some (a b : Nat) : ind (some a = some b) = ind (a = b) := by simp [ind]

theorem ind_none (x : Nat) : ind ((none : Option Nat) = some x) = 0 := by simp [ind]

theorem count_swapWith (data : List Nat) (part : Option Nat) (d : Draws Rat) (hne : 0 < data.length) (x : Nat) :
    ((swapWithPartial data part d).1.count x : Rat) + ind (data.getD (d.below data.length).1 0 = x) =
      (data.count x : Rat) + ind (part = some x) := by
  have hj := below_lt d hne
  cases part with
  | some p => rw [ind_some]; exact count_set_add data _ p x hj
  | none =>
    show (((data.set (d.below data.length).1 (data.getD (data.length - 1) 0)).dropLast.count x : Nat) : Rat) + _ = _
    generalize (d.below data.length).1 = j at hj ⊢
    obtain ⟨l, b, rfl⟩ : ∃ l b, data = l ++ [b] :=
      ⟨_, _, (List.dropLast_concat_getLast (List.ne_nil_of_length_pos hne)).symm⟩
    -- `move_one_to_partial`: position `j` is overwritten by the last item `b`, which is then dropped
    rw [ind_none, add_zero, show (l ++ [b]).getD ((l ++ [b]).length - 1) 0 = b by simp]
    have hb : ((l ++ [b]).count x : Rat) = (l.count x : Rat) + ind (b = x) := by
      rw [List.count_append, List.count_singleton, Nat.cast_add]; simp [ind]
    rcases Nat.lt_or_eq_of_le (Nat.le_of_lt_succ (by simpa using hj) : j ≤ l.length) with h | rfl
    · rw [List.set_append_left _ _ h, List.dropLast_concat, List.getD_eq_getElem?_getD, List.getElem?_append_left h,
        ← List.getD_eq_getElem?_getD, hb, count_set_add l j b x h]
    · rw [List.set_append_right _ _ (le_refl _), Nat.sub_self, List.set_cons_zero, List.dropLast_concat,
        List.getD_eq_getElem?_getD, List.getElem?_concat_length, Option.getD_some, hb]

/-- inclusion after `partial_item_.reset()`: an integral `c'` has fraction 0, so the reset does not show -/
theorem incl_finish (c' : Rat) (r : List Nat × Option Nat × Draws Rat) (x : Nat) :
    incl (finish c' r) x = (r.1.count x : Rat) + (c' - ↑c'.floor) * ind (r.2.1 = some x) := by
  rw [incl_eq_ind]
  by_cases h : c' = ↑c'.floor
  · show _ + (c' - ↑c'.floor) * _ = _
    rw [sub_eq_zero.2 h, zero_mul, zero_mul]; rfl
  · simp only [finish, intReset, if_neg h]

theorem avg_swapWith (data : List Nat) (part : Option Nat) (x : Nat) (c' : Rat) (hm : 0 < data.length) :
    avg data.length (fun j => incl (finish c' (swapWithPartial data part ⟨[], [j]⟩)) x) =
      (data.count x : Rat) + ind (part = some x) + (c' - ↑c'.floor - 1) * ((data.count x : Rat) / data.length) := by
  have e : ∀ j, j < data.length → incl (finish c' (swapWithPartial data part ⟨[], [j]⟩)) x =
      (c' - ↑c'.floor - 1) * ind (data.getD j 0 = x) + ((data.count x : Rat) + ind (part = some x)) := by
    intro j hj
    have hb : (Draws.below (⟨[], [j]⟩ : Draws Rat) data.length).1 = j := Nat.mod_eq_of_lt hj
    rw [incl_finish, swapWith_part, ind_some, ← count_swapWith data part ⟨[], [j]⟩ hm, hb]
    ring
  rw [avg_congr e, avg_affine _ hm, avg_ind_getD]; ring

/-- expectation of `g [j₀, j₁, …]` for independent `jᵢ` uniform on `[0, bᵢ)` -/
def expIdx : List Nat → (List Nat → Rat) → Rat
  | [], g => g []
  | b :: bs, g => avg b (fun j => expIdx bs (fun js => g (j :: js)))

/-- `js` is a possible outcome of draws with bounds `bs` -/
def InB : List Nat → List Nat → Prop
  | [], js => js = []
  | b :: bs, js => ∃ j rest, js = j :: rest ∧ j < b ∧ InB bs rest

theorem expIdx_nil (g : List Nat → Rat) : expIdx [] g = g [] := rfl

theorem expIdx_single (b : Nat) (g : List Nat → Rat) : expIdx [b] g = avg b (fun j => g [j]) := rfl

theorem expIdx_congr : ∀ (bs : List Nat) {g h : List Nat → Rat}, (∀ js, InB bs js → g js = h js) → expIdx bs g = expIdx bs h
  | [], g, h, e => e [] rfl
  | b :: bs, g, h, e => by
    simp only [expIdx]
    apply avg_congr
    intro j hj
    exact expIdx_congr bs (fun js hjs => e (j :: js) ⟨j, js, rfl, hj, hjs⟩)

theorem expIdx_affine : ∀ (bs : List Nat), (∀ b ∈ bs, 0 < b) → ∀ (a c : Rat) (g : List Nat → Rat),
    expIdx bs (fun js => a * g js + c) = a * expIdx bs g + c
  | [], _, a, c, g => rfl
  | b :: bs, hp, a, c, g => by
    simp only [expIdx]
    rw [avg_congr fun j _ => expIdx_affine bs (fun b' hb' => hp b' (List.mem_cons_of_mem _ hb')) a c fun js => g (j :: js),
      avg_affine _ (hp b List.mem_cons_self)]

theorem expIdx_append : ∀ (bs1 bs2 : List Nat) (g : List Nat → Rat),
    expIdx (bs1 ++ bs2) g = expIdx bs1 (fun js1 => expIdx bs2 (fun js2 => g (js1 ++ js2)))
  | [], bs2, g => rfl
  | b :: bs1, bs2, g => by
    simp only [List.cons_append, expIdx]
    apply avg_congr
    intro j _
    exact expIdx_append bs1 bs2 (fun js => g (j :: js))

/-- bounds of the draws of the partial Fisher–Yates loop: `n, n-1, …` (`m` of them) -/
def subB : Nat → Nat → List Nat
  | 0, _ => []
  | m + 1, n => n :: subB m (n - 1)

theorem subB_pos : ∀ (m n : Nat), m ≤ n → ∀ b ∈ subB m n, 0 < b
  | 0, _, _, b, hb => by simp [subB] at hb
  | m + 1, n, h, b, hb => by
    simp only [subB, List.mem_cons] at hb
    rcases hb with rfl | hb
    · omega
    · exact subB_pos m (n - 1) (by omega) b hb

/-- the loop on explicit indices -/
def subAt : Nat → List Nat → List Nat → List Nat
  | 0, _, _ => []
  | _ + 1, _, [] => []
  | m + 1, l, j :: js => (pickSwap l j).1 :: subAt m (pickSwap l j).2 js

theorem subsampleGo_append : ∀ (m : Nat) (l : List Nat) (us : List Rat) (js1 js2 : List Nat), InB (subB m l.length) js1 →
    subsampleGo m l (⟨us, js1 ++ js2⟩ : Draws Rat) = (subAt m l js1, ⟨us, js2⟩)
  | 0, l, us, js1, js2, h => by
    simp only [subB, InB] at h; subst h; rfl
  | m + 1, l, us, js1, js2, h => by
    simp only [subB, InB] at h
    obtain ⟨j, rest, rfl, hj, hrest⟩ := h
    have hlen : (pickSwap l j).2.length = l.length - 1 := length_pickSwap l j
    have ih := subsampleGo_append m (pickSwap l j).2 us rest js2 (by rw [hlen]; exact hrest)
    simp only [subsampleGo, Draws.below, List.cons_append, Nat.mod_eq_of_lt hj, subAt]
    rw [ih]

theorem length_subAt : ∀ (m : Nat) (l : List Nat) (js : List Nat), InB (subB m l.length) js → (subAt m l js).length = m
  | 0, _, _, _ => rfl
  | m + 1, l, js, h => by
    simp only [subB, InB] at h
    obtain ⟨j, rest, rfl, hj, hrest⟩ := h
    simp only [subAt, List.length_cons]
    rw [length_subAt m _ rest (by rw [length_pickSwap]; exact hrest)]

/-- averaging the first pick of the shuffle over the `L` positions: `c` occurrences among `L` items, `m` further picks -/
theorem fy_step {m L c : Rat} (hL : L ≠ 0) (h : m = 0 ∨ L - 1 ≠ 0) :
    (1 - m / (L - 1)) * (c / L) + m * c / (L - 1) = (m + 1) * c / L := by
  rcases h with rfl | h
  · simp
  · field_simp; ring

/-- uniformity of the partial Fisher–Yates shuffle -/
theorem exp_count_subAt : ∀ (m : Nat) (l : List Nat) (x : Nat), m ≤ l.length →
    expIdx (subB m l.length) (fun js => ((subAt m l js).count x : Rat)) = (m : Rat) * (l.count x : Rat) / l.length
  | 0, l, x, _ => by simp [subB, expIdx, subAt]
  | m + 1, l, x, h => by
    have hn : 0 < l.length := by omega
    simp only [subB, expIdx]
    -- given the first pick `j`: it counts if it is `x`, and `m` picks follow among the other `l.length - 1` items
    have step : ∀ j, j < l.length →
        expIdx (subB m (l.length - 1)) (fun js => ((subAt (m + 1) l (j :: js)).count x : Rat)) =
        (1 - (m : Rat) / ((l.length : Rat) - 1)) * ind (l.getD j 0 = x) + (m : Rat) * (l.count x : Rat) / ((l.length : Rat) - 1) := by
      intro j hj
      have hlen : (pickSwap l j).2.length = l.length - 1 := length_pickSwap l j
      have ih := exp_count_subAt m (pickSwap l j).2 x (by rw [hlen]; omega)
      rw [hlen, Nat.cast_sub hn, Nat.cast_one] at ih
      have e1 : ∀ js, ((subAt (m + 1) l (j :: js)).count x : Rat) =
          1 * ((subAt m (pickSwap l j).2 js).count x : Rat) + ind (l.getD j 0 = x) := by
        intro js
        rw [one_mul]; exact count_cons_ind _ _ x
      rw [expIdx_congr _ (fun js _ => e1 js), expIdx_affine _ (subB_pos m (l.length - 1) (by omega)), ih,
        show ((pickSwap l j).2.count x : Rat) = (l.count x : Rat) - ind (l.getD j 0 = x) from
          eq_sub_of_add_eq (count_pickSwap l j x hj)]
      ring
    rw [avg_congr step, avg_affine _ hn, avg_ind_getD, Nat.cast_add, Nat.cast_one]
    refine fy_step (by positivity) ?_
    rcases Nat.eq_zero_or_pos m with rfl | hm
    · exact Or.inl Nat.cast_zero
    · have : (2 : Rat) ≤ l.length := by exact_mod_cast (by omega : 2 ≤ l.length)
      exact Or.inr (by linarith)

/-! The three averaging identities, on variables: `θ` is `theta`, `N = ⌊c⌋` the number of full items, `f` the fractional part
of `c`, `n` the number of full occurrences of `x`, `a` says whether `x` is the partial item, `φ` is the new fractional part. -/

/-- no full item is retained (`⌊θ·c⌋ = 0`): threshold `f/c`, below it the partial item stays, above it a uniformly chosen
full item takes its place -/
theorem pps_drop {θ c f N n a : Rat} (hc : c ≠ 0) (hcN : c = N + f) (hn : N = 0 → n = 0) :
    f / c * (θ * c * a) + (1 - f / c) * (θ * c * (n / N)) = θ * (n + f * a) := by
  by_cases hN : N = 0
  · rw [hn hN, hN]; field_simp; ring
  · have : N = c - f := by linarith
    subst this
    field_simp; ring

/-- no item is deleted (`⌊θ·c⌋ = N`): threshold `t = (1 - θ·f)/(1 - φ)`, below it nothing moves, above it a uniformly
chosen full item is swapped with the partial item -/
theorem pps_keep {θ f N φ t n a : Rat} (hN : N ≠ 0) (hφ : φ = θ * (N + f) - N) (ht : t * (1 - φ) = 1 - θ * f) :
    t * (n + φ * a) + (1 - t) * (n + a + (φ - 1) * (n / N)) = θ * (n + f * a) := by
  have h2 : (1 - t) * (φ - 1) = N * (θ - 1) := by rw [hφ] at ht ⊢; linarith
  calc _ = n + a * (1 - t * (1 - φ)) + (1 - t) * (φ - 1) * (n / N) := by ring
    _ = n + a * (θ * f) + (θ - 1) * n * (N / N) := by rw [ht, h2]; ring
    _ = _ := by rw [div_self hN]; ring

/-- items are deleted (`1 ≤ m = ⌊θ·c⌋ < N`): threshold `θ·f`; below it `m` uniformly chosen items survive and one of them is
swapped with the partial item, above it `m + 1` survive and one of them becomes the partial item -/
theorem pps_cut {θ f N m φ n a : Rat} (hN : N ≠ 0) (hm : m ≠ 0) (hm1 : m + 1 ≠ 0) (hφ : φ = θ * (N + f) - m) :
    θ * f * ((1 + (φ - 1) / m) * (m * n / N) + a) + (1 - θ * f) * ((1 + (φ - 1) / (m + 1)) * ((m + 1) * n / N)) =
      θ * (n + f * a) := by
  subst hφ
  field_simp
  ring

/-- The unit draw splits `downsample ge s theta` at the threshold `t`: draws below `t` give the outcome `FA js`, draws above it
`FB js`, `js` being the index draws (independent, uniform with bounds `bA` resp. `bB`); averaged over both regions and over the
index draws, every item's inclusion is multiplied by `theta`. -/
def PpsSplit (ge : Bool) (s : Sample Rat) (theta t : Rat) (bA bB : List Nat) (FA FB : List Nat → Sample Rat) : Prop :=
  0 ≤ t ∧ t ≤ 1 ∧
  (∀ u js, u < t → (downsample ge s theta ⟨[u], js⟩).1 = FA js) ∧
  (∀ u js, t < u → (downsample ge s theta ⟨[u], js⟩).1 = FB js) ∧
  ∀ x, t * expIdx bA (fun js => incl (FA js) x) + (1 - t) * expIdx bB (fun js => incl (FB js) x) = theta * incl s x

variable {P : Nat → Prop}

theorem downsample_pps_case1 {ge : Bool} {s : Sample Rat} {theta : Rat} (hs : SInv P s) (hc : 0 < s.c)
    (ht1 : theta < 1) (hni : (theta * s.c).floor = 0) :
    PpsSplit ge s theta ((s.c - ((s.c.floor : Int) : Rat)) / s.c) [] [s.data.length]
      (fun js => finish (theta * s.c) ([], s.part, ⟨[], js⟩))
      (fun js => finish (theta * s.c) ([], (swapWithPartial s.data s.part (⟨[], js⟩ : Draws Rat)).2)) := by
  have hfl : (0 : Rat) ≤ s.c.floor := by exact_mod_cast rat_floor_nonneg (le_of_lt hc)
  have hN : ((s.data.length : Nat) : Rat) = ↑s.c.floor := by exact_mod_cast hs.len
  have hunf := fun u js => (congrArg Prod.fst (downsample_lt_one ge s ht1 ⟨[u], js⟩)).trans
    (congrArg (finish _) ((downsampleCases_nat hs (m := 0) hni ge (unit_single u js)).trans (if_pos rfl)))
  refine ⟨div_nonneg (frac_nonneg _) (le_of_lt hc), (div_le_one hc).2 (sub_le_self _ hfl), fun u js hu => ?_, fun u js hu => ?_, fun x => ?_⟩
  · rw [hunf, if_neg (not_drawAbove_of_lt hu)]
  · rw [hunf, if_pos (drawAbove_of_lt hu)]
  · -- every index draw j < n makes data[j] the partial item
    have hE : expIdx [s.data.length] (fun js =>
          incl (finish (theta * s.c) ([], (swapWithPartial s.data s.part (⟨[], js⟩ : Draws Rat)).2)) x) =
        theta * s.c * ((s.data.count x : Rat) / s.data.length) := by
      rw [← avg_ind_getD, ← avg_mul, expIdx_single]
      exact avg_congr fun j hj => by
        rw [incl_finish, swapWith_part, ind_some, below_cons, Nat.mod_eq_of_lt hj, hni]; simp
    rw [expIdx_nil, hE, incl_finish, incl_eq_ind, hni, hN]
    simp only [List.count_nil, Nat.cast_zero, zero_add, Int.cast_zero, sub_zero]
    refine pps_drop (ne_of_gt hc) (by ring) fun h0 => ?_
    have : s.data = [] := List.length_eq_zero_iff.1 (by exact_mod_cast hN.trans h0)
    rw [this]; rfl

theorem downsample_pps_case2 {ge : Bool} {s : Sample Rat} {theta : Rat} (hs : SInv P s) (hc : 0 < s.c)
    (ht1 : theta < 1) {m : Nat} (hm : (theta * s.c).floor = m) (hm0 : m ≠ 0) (hmn : m = s.data.length) :
    PpsSplit ge s theta
      ((1 - theta * (s.c - ((s.c.floor : Int) : Rat))) / (1 - (theta * s.c - (((theta * s.c).floor : Int) : Rat)))) [] [s.data.length]
      (fun js => finish (theta * s.c) (s.data, s.part, ⟨[], js⟩))
      (fun js => finish (theta * s.c) (swapWithPartial s.data s.part ⟨[], js⟩)) := by
  have n1 := Rat.floor_le (theta * s.c)
  have n2 := lt_fl_add_one (theta * s.c)
  have hN : ((s.data.length : Nat) : Rat) = ↑s.c.floor := by exact_mod_cast hs.len
  have hn' : 0 < s.data.length := by omega
  have hni : (theta * s.c).floor = s.c.floor := by rw [hm, hmn, hs.len]
  have hNpos : (0 : Rat) < ↑s.c.floor := by rw [← hN]; exact_mod_cast hn'
  have hfr : 0 < s.c - ↑s.c.floor := by rw [← hni]; linarith [mul_lt_of_lt_one_left hc ht1]
  have hth : theta * (s.c - ↑s.c.floor) ≤ 1 := mul_le_one₀ (le_of_lt ht1) (le_of_lt hfr) (le_of_lt (frac_lt_one _))
  have hden : 0 < 1 - (theta * s.c - ↑(theta * s.c).floor) := by linarith
  have hunf := fun u js => (congrArg Prod.fst (downsample_lt_one ge s ht1 ⟨[u], js⟩)).trans
    (congrArg (finish _) ((downsampleCases_nat hs hm ge (unit_single u js)).trans ((if_neg hm0).trans (if_pos hmn))))
  refine ⟨div_nonneg (sub_nonneg.2 hth) (le_of_lt hden),
    (div_le_one hden).2 (by rw [hni]; linarith [mul_le_of_le_one_left (le_of_lt hNpos) (le_of_lt ht1)]),
    fun u js hu => ?_, fun u js hu => ?_, fun x => ?_⟩
  · rw [hunf, if_neg (not_lt.2 (le_of_lt hu))]
  · rw [hunf, if_pos hu]
  · rw [expIdx_nil, expIdx_single, avg_swapWith _ _ _ _ hn', incl_finish, incl_eq_ind, hN]
    exact pps_keep (ne_of_gt hNpos) (by rw [hni]; ring) (div_mul_cancel₀ _ (ne_of_gt hden))

/-- Outcome on explicit index draws `js`: the items are cut to `m` of them (nothing to do when `m` is their number), then one
of these changes places with the partial slot; the new `c` is `c'`. -/
def cutSwap (c' : Rat) (m : Nat) (data : List Nat) (part : Option Nat) (js : List Nat) : Sample Rat :=
  finish c' (swapWithPartial (subsample m data (⟨[], js⟩ : Draws Rat)).1 part (subsample m data (⟨[], js⟩ : Draws Rat)).2)

/-- bounds of the index draws of `cutSwap`: the shuffle (none when nothing is cut), then one more among the `m` kept -/
def cutB (m n : Nat) : List Nat := (if m = n then [] else subB m n) ++ [m]

theorem exp_cutSwap (data : List Nat) (part : Option Nat) (x : Nat) (c' : Rat) (m : Nat) (hm1 : 1 ≤ m) (hmn : m ≤ data.length) :
    expIdx (cutB m data.length) (fun js => incl (cutSwap c' m data part js) x)
      = (1 + (c' - ((c'.floor : Int) : Rat) - 1) / m) * ((m : Rat) * (data.count x : Rat) / data.length) + ind (part = some x) := by
  have hmq : (m : Rat) ≠ 0 := Nat.cast_ne_zero.2 (by omega)
  unfold cutB
  by_cases hmeq : m = data.length
  · subst hmeq
    rw [if_pos rfl, List.nil_append, expIdx_single]
    refine Eq.trans (avg_congr fun j _ => ?_) ((avg_swapWith data part x c' (by omega)).trans (by field_simp; ring))
    unfold cutSwap
    rw [subsample_eq_len]
  · rw [if_neg hmeq, expIdx_append]
    have inner : ∀ js1, InB (subB m data.length) js1 →
        expIdx [m] (fun js2 => incl (cutSwap c' m data part (js1 ++ js2)) x)
        = (1 + (c' - ((c'.floor : Int) : Rat) - 1) / m) * ((subAt m data js1).count x : Rat) + ind (part = some x) := by
      intro js1 hjs
      have hlen := length_subAt m data js1 hjs
      have := avg_swapWith (subAt m data js1) part x c' (by rw [hlen]; omega)
      rw [hlen] at this
      rw [expIdx_single]
      refine Eq.trans (avg_congr fun j _ => ?_) (this.trans (by ring))
      unfold cutSwap
      rw [subsample_ne m data _ hmeq, subsampleGo_append m data [] js1 [j] hjs]
    rw [expIdx_congr _ inner, expIdx_affine _ (subB_pos m data.length hmn), exp_count_subAt m data x hmn]

theorem downsample_pps_case3 {ge : Bool} {s : Sample Rat} {theta : Rat} (hs : SInv P s) (ht0 : 0 < theta)
    (ht1 : theta < 1) {m : Nat} (hm : (theta * s.c).floor = m) (hm0 : m ≠ 0) (hmn : m < s.data.length) :
    PpsSplit ge s theta (theta * (s.c - ((s.c.floor : Int) : Rat))) (cutB m s.data.length) (cutB (m + 1) s.data.length)
      (cutSwap (theta * s.c) m s.data s.part) (cutSwap (theta * s.c) (m + 1) s.data none) := by
  have hN : ((s.data.length : Nat) : Rat) = ↑s.c.floor := by exact_mod_cast hs.len
  have hmq : ((m : Nat) : Rat) = ↑(theta * s.c).floor := by rw [hm]; rfl
  have hunf := fun u js => (congrArg Prod.fst (downsample_lt_one ge s ht1 ⟨[u], js⟩)).trans
    (congrArg (finish _) ((downsampleCases_nat hs hm ge (unit_single u js)).trans ((if_neg hm0).trans (if_neg (Nat.ne_of_lt hmn)))))
  refine ⟨mul_nonneg (le_of_lt ht0) (frac_nonneg _), mul_le_one₀ (le_of_lt ht1) (frac_nonneg _) (le_of_lt (frac_lt_one _)),
    fun u js hu => ?_, fun u js hu => ?_, fun x => ?_⟩
  · rw [hunf, if_pos hu]; rfl
  · rw [hunf, if_neg (not_lt.2 (le_of_lt hu))]; rfl
  · have hNne : (s.c.floor : Rat) ≠ 0 := by rw [← hN]; exact Nat.cast_ne_zero.2 (by omega)
    have hmne : ((theta * s.c).floor : Rat) ≠ 0 := by rw [← hmq]; exact_mod_cast hm0
    have hm1ne : ((theta * s.c).floor : Rat) + 1 ≠ 0 := by rw [← hmq]; positivity
    rw [exp_cutSwap _ _ _ _ m (by omega) (le_of_lt hmn), exp_cutSwap _ _ _ _ (m + 1) (by omega) hmn, ind_none, add_zero,
      Nat.cast_add, Nat.cast_one, hmq, hN, incl_eq_ind]
    exact pps_cut hNne hmne hm1ne (by ring)

end DS.Ebpps
