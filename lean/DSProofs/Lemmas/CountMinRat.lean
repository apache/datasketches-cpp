/-
`Rat` as a weight type (what `count_min_sketch<double>` computes in exact arithmetic), and the upper bound
`static_cast<W>(estimate + e/numBuckets * total)` in exact arithmetic for integer and rational weights.
-/
import DSProofs.Lemmas.CountMinThms
import Mathlib.Data.Rat.Floor
import Mathlib.Tactic.Linarith
namespace DS.CountMin

instance : Weight Rat where
  zero := 0
  add := (· + ·)
  absw w := if 0 ≤ w then w else -w
  lt a b := decide (a < b)
  isZero a := decide (a = 0)

instance : WeightLaws Rat where
  le a b := a ≤ b
  le_refl a := _root_.le_refl a
  le_trans := _root_.le_trans
  le_antisymm := _root_.le_antisymm
  le_total := _root_.le_total
  lt_iff a b := by simp [Weight.lt]
  add_assoc := _root_.add_assoc
  add_comm := _root_.add_comm
  zero_add := _root_.zero_add
  add_le_add_left c h := by simpa [Weight.add] using h
  absw_of_nonneg := by intro w h; simp only [Weight.absw, Weight.zero] at *; simp [h]
  absw_of_neg := by
    intro w h
    simp only [Weight.absw, Weight.zero, Weight.add] at *
    simp [h]
  isZero_iff a := by simp [Weight.isZero, Weight.zero]

/-- C++ conversion of a real to an integer type: truncation toward zero -/
def truncQ (q : ℚ) : ℤ := if 0 ≤ q then ⌊q⌋ else ⌈q⌉

theorem le_truncQ_add (e : ℤ) (d : ℚ) (hd : 0 ≤ d) : e ≤ truncQ ((e : ℚ) + d) := by
  have h1 : e ≤ ⌊(e : ℚ) + d⌋ := Int.le_floor.mpr (le_add_of_nonneg_right hd)
  unfold truncQ; split
  · exact h1
  · exact _root_.le_trans h1 (Int.floor_le_ceil _)

/-- `static_cast<int64_t>(est + E/numBuckets * total)` in exact arithmetic, for any non-negative constant `E`
(the code's `exp(1.0)`) -/
def ubExactInt (E : ℚ) (nb : Nat) (est total : Int) : Int := truncQ ((est : ℚ) + E / nb * total)

/-- `est + E/numBuckets * total` for `W = double` in exact arithmetic -/
def ubExactRat (E : ℚ) (nb : Nat) (est total : ℚ) : ℚ := est + E / nb * total

theorem ubExactInt_ge (E : ℚ) (hE : 0 ≤ E) (nb : Nat) (e t : Int) (ht : WeightLaws.le (Weight.zero : Int) t) :
    WeightLaws.le e (ubExactInt E nb e t) :=
  le_truncQ_add e _ (mul_nonneg (div_nonneg hE (Nat.cast_nonneg _)) (Int.cast_nonneg ht))

theorem ubExactRat_ge (E : ℚ) (hE : 0 ≤ E) (nb : Nat) (e t : ℚ) (ht : WeightLaws.le (Weight.zero : ℚ) t) :
    WeightLaws.le e (ubExactRat E nb e t) :=
  le_add_of_nonneg_right (mul_nonneg (div_nonneg hE (Nat.cast_nonneg _)) ht)

end DS.CountMin
