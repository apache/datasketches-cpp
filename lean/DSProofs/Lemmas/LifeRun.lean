/- C19: given the class contracts, every world-level step keeps the world invariant and is never a precondition failure. -/
import DSProofs.Lemmas.LifeStep
namespace DS.Life

/-- which classes may be constructed in a history: those whose contracts are proved.  `coverage` (LifeSpecAll) sets all three; a
    class left out would take `ClassSpec.empty`, whose invariant `False` makes its other contracts hold for want of an object
    (`TripleS.of_false_pre`), while `Allowed` keeps its constructor out of the histories -/
structure Coverage where
  theta : Prop
  kll : Prop
  fi : Prop

def Allowed (cov : Coverage) : Op → Prop
  | .newTable .. => cov.theta
  | .newKll .. => cov.kll
  | .newFi .. => cov.fi
  | _ => True

def Obj.cls : Obj → Nat
  | .table _ => 0
  | .kll _ => 1
  | .fi _ => 2

structure Contracts (C : Cfg) (sp : ObjSpec) (cov : Coverage) : Prop where
  dtor : ∀ o, DtorC sp o o.dtor
  copy : ∀ o, FromC sp o o.copyCtor id
  move : ∀ o, MoveC sp o o.moveCtor
  cassign : ∀ t o, t.cls = o.cls → CAssignC sp t o (t.copyAssign o)
  massign : ∀ t o, t.cls = o.cls → MAssignC sp t o (t.moveAssign C.kll.moveAssignResetsSource o)
  selfmove : ∀ o, MutC sp o o.selfMoveAssign id
  newTable : cov.theta → ∀ lgK rf theta0, C.theta.minLgK ≤ lgK →
    NewC sp (Theta.ctor (Theta.startingSubMultiple (lgK + 1) C.theta.minLgK rf) lgK rf theta0) Obj.table
  tblUpdate : ∀ t a b, MutC sp (.table t) (Theta.update C.theta t a b C.comb) Obj.table
  tblSer : ∀ t, ReadC sp (.table t) (Theta.serializeCompact t)
  tblTrim : ∀ t, MutC sp (.table t) (Theta.trim C.theta t) Obj.table
  tblReset : ∀ t, MutC sp (.table t) (Theta.reset C.theta t) Obj.table
  newKll : cov.kll → ∀ k, NewC sp (Kll.ctor C.kll k) Obj.kll
  kllUpdate : ∀ s a coins, MutC sp (.kll s) (Kll.update s a coins) (fun r => .kll r.1)
  kllMerge : ∀ a b byMove coins, MergeC sp (.kll a) (.kll b) byMove (Kll.mergeChecked a b byMove coins) (fun r => .kll r.1)
  kllQuery : ∀ s, MutC sp (.kll s) (Kll.query s) Obj.kll
  kllSer : ∀ s, ReadC sp (.kll s) (Kll.serialize s)
  kllRound : ∀ s, FromC sp (.kll s) (Kll.roundTrip C.kll s) Obj.kll
  newFi : cov.fi → ∀ lgMax lgStart, NewC sp (Fi.Sketch.ctor C.fi lgMax lgStart) Obj.fi
  fiUpdate : ∀ s a b, MutC sp (.fi s) (Fi.Sketch.update C.fi s (.ext a) b) Obj.fi
  fiMerge : ∀ a b byMove, MergeC sp (.fi a) (.fi b) byMove (Fi.Sketch.merge C.fi a b byMove) Obj.fi
  fiQuery : ∀ s arg, ReadC sp (.fi s) (Fi.get C.fi s.map arg)
  fiSer : ∀ s, ReadC sp (.fi s) (Fi.Sketch.serialize C.fi s)
  fiRound : ∀ s, FromC sp (.fi s) (Fi.Sketch.roundTrip C.fi s) Obj.fi

variable {C : Cfg} {sp : ObjSpec} {cov : Coverage}

theorem StepOK.of_getUsable {β} {w : World} {id : Nat} {f : Entry → Except Err β} {R : β → Prop}
    (k : ∀ e, e ∈ w.objs → e.id = id → e.usable = true → StepOK (f e) R) : StepOK (getUsable w id >>= f) R := by
  unfold getUsable
  cases hl : w.lookup id with
  | none => trivial
  | some e =>
    obtain ⟨hm, hid⟩ := World.lookup_mem hl
    dsimp only
    by_cases hu : e.usable = true
    · rw [if_pos hu]; exact k e hm hid hu
    · rw [if_neg hu]; trivial

theorem StepOK.of_getAny {β} {w : World} {id : Nat} {f : Entry → Except Err β} {R : β → Prop}
    (k : ∀ e, e ∈ w.objs → e.id = id → StepOK (f e) R) : StepOK (getAny w id >>= f) R := by
  unfold getAny
  cases hl : w.lookup id with
  | none => trivial
  | some e => exact k e (World.lookup_mem hl).1 (World.lookup_mem hl).2

theorem StepOK.of_fresh {β} {w : World} {id : Nat} {f : Unit → Except Err β} {R : β → Prop}
    (k : (∀ e, e ∈ w.objs → e.id ≠ id) → StepOK (f ()) R) : StepOK (fresh w id >>= f) R := by
  unfold fresh
  cases hl : w.lookup id with
  | none => exact k (World.lookup_none hl)
  | some e => trivial


theorem step_safe (ct : Contracts C sp cov) {w : World} (hw : WorldInv sp w) (op : Op) (ha : Allowed cov op) :
    StepOK (step C w op) (fun w' => WorldInv sp w') := by
  cases op with
  | newTable id lgK rf theta0 =>
    apply StepOK.of_fresh; intro hf
    by_cases hr : lgK < C.theta.minLgK ∨ lgK > C.thetaMaxLgK ∨ rf > 3
    · rw [if_pos hr]; trivial
    · rw [if_neg hr]
      exact glue_new hw (ct.newTable ha lgK rf theta0 (Nat.le_of_not_lt fun h => hr (.inl h))) id hf
  | newKll id k =>
    apply StepOK.of_fresh; intro hf
    exact glue_new hw (ct.newKll ha k) id hf
  | newFi id lgMax lgStart =>
    apply StepOK.of_fresh; intro hf
    exact glue_new hw (ct.newFi ha lgMax lgStart) id hf
  | update id a b coins =>
    apply StepOK.of_getUsable; intro ⟨eid, eu, o⟩ he hid hu
    cases o with
    | table t =>
      exact glue_mut hw he hu (ct.tblUpdate t a b)
    | kll s =>
      exact glue_mut hw he hu (ct.kllUpdate s a coins)
    | fi s =>
      exact glue_mut hw he hu (ct.fiUpdate s a b)
  | copy src dst =>
    apply StepOK.of_getUsable; intro e he hid hu
    apply StepOK.of_fresh; intro hf
    exact glue_from hw he hu (ct.copy e.obj) dst hf
  | move src dst =>
    apply StepOK.of_getUsable; intro e he hid hu
    apply StepOK.of_fresh; intro hf
    exact glue_move hw he hu (ct.move e.obj) dst hf
  | copyAssign dst src =>
    apply StepOK.of_getAny; intro ⟨did, du, dobj⟩ hd hdid
    apply StepOK.of_getUsable; intro ⟨sid, su, sobj⟩ hs hsid hu
    -- assignment between different classes is rejected as an ill-formed history
    cases dobj with
    | table t =>
      cases sobj with
      | table o => exact glue_cassign hw hd hs hu (ct.cassign _ _ rfl)
      | _ => trivial
    | kll t =>
      cases sobj with
      | kll o => exact glue_cassign hw hd hs hu (ct.cassign _ _ rfl)
      | _ => trivial
    | fi t =>
      cases sobj with
      | fi o => exact glue_cassign hw hd hs hu (ct.cassign _ _ rfl)
      | _ => trivial
  | moveAssign dst src =>
    apply StepOK.of_getAny; intro d hd rfl
    apply StepOK.of_getUsable; intro s hs rfl hu
    by_cases hds : d.id = s.id
    · rw [if_pos hds]
      exact glue_mut hw hd (hw.unique hd hs hds ▸ hu) (ct.selfmove d.obj)
    · rw [if_neg hds]
      obtain ⟨did, du, dobj⟩ := d
      obtain ⟨sid, su, sobj⟩ := s
      cases dobj with
      | table t =>
        cases sobj with
        | table o => exact glue_massign hw hd hs hu hds (ct.massign _ _ rfl)
        | _ => trivial
      | kll t =>
        cases sobj with
        | kll o => exact glue_massign hw hd hs hu hds (ct.massign _ _ rfl)
        | _ => trivial
      | fi t =>
        cases sobj with
        | fi o => exact glue_massign hw hd hs hu hds (ct.massign _ _ rfl)
        | _ => trivial
  | merge dst src byMove coins =>
    apply StepOK.of_getUsable; intro ⟨did, du, dobj⟩ hd rfl hud
    apply StepOK.of_getUsable; intro ⟨sid, su, sobj⟩ hs rfl hus
    by_cases hds : did = sid
    · rw [if_pos hds]; trivial
    · rw [if_neg hds]
      cases dobj with
      | table t => cases sobj <;> trivial
      | kll a =>
        cases sobj with
        | kll b => exact glue_merge hw hd hs hud hus hds byMove (ct.kllMerge a b byMove coins)
        | _ => trivial
      | fi a =>
        cases sobj with
        | fi b => exact glue_merge hw hd hs hud hus hds byMove (ct.fiMerge a b byMove)
        | _ => trivial
  | query id arg =>
    apply StepOK.of_getUsable; intro ⟨eid, eu, o⟩ he hid hu
    cases o with
    | table t => simp only; exact hw
    | kll s =>
      exact glue_mut hw he hu (ct.kllQuery s)
    | fi s =>
      exact glue_read hw he hu (ct.fiQuery s arg)
  | serialize id =>
    apply StepOK.of_getUsable; intro ⟨eid, eu, o⟩ he hid hu
    cases o with
    | table t =>
      exact glue_read hw he hu (ct.tblSer t)
    | kll s =>
      exact glue_read hw he hu (ct.kllSer s)
    | fi s =>
      exact glue_read hw he hu (ct.fiSer s)
  | roundTrip src dst =>
    apply StepOK.of_getUsable; intro ⟨eid, eu, o⟩ he hid hu
    apply StepOK.of_fresh; intro hf
    cases o with
    | table t => trivial
    | kll s =>
      exact glue_from hw he hu (ct.kllRound s) dst hf
    | fi s =>
      exact glue_from hw he hu (ct.fiRound s) dst hf
  | trim id =>
    apply StepOK.of_getUsable; intro ⟨eid, eu, o⟩ he hid hu
    cases o with
    | table t =>
      exact glue_mut hw he hu (ct.tblTrim t)
    | kll s => trivial
    | fi s => trivial
  | reset id =>
    apply StepOK.of_getUsable; intro ⟨eid, eu, o⟩ he hid hu
    cases o with
    | table t =>
      exact glue_mut hw he hu (ct.tblReset t)
    | kll s => trivial
    | fi s => trivial
  | destroy id =>
    apply StepOK.of_getAny; intro e he rfl
    exact glue_dtor hw he (ct.dtor e.obj)

theorem run_safe (ct : Contracts C sp cov) : ∀ (ops : List Op) {w : World}, WorldInv sp w → (∀ op, op ∈ ops → Allowed cov op) →
    StepOK (run C w ops) (fun w' => WorldInv sp w')
  | [], _, hw, _ => hw
  | op :: ops, _, hw, ha =>
    StepOK.bind (step_safe ct hw op (ha op (.head _))) fun _ hw' => run_safe ct ops hw' fun o ho => ha o (.tail _ ho)

end DS.Life
