/- Shared by the KLL / REQ / classic-quantiles wire theorems: `encList`, and lawful item serdes with the instances the library
   uses.  `Serde` here is that of DSModel/Wire/Serde.lean; the count group (WireCount) has a `Serde` and a `Serde.Lawful` of its
   own under the same names, so no module imports both groups.  The field `progress` is `Consuming` of Wire.lean spelled out. -/
import DSModel.Wire.Serde
import DSProofs.Lemmas.Wire
namespace DS.Wire
open Reader

variable {α β : Type}

theorem length_encList_w32 (l : List Nat) : (encList w32 l).length = 4 * l.length :=
  (length_elementwise rfl (fun _ _ => rfl) l fun x _ => length_w32 x).trans (Nat.mul_comm ..)

theorem repeatN_encList {rd : Reader α} {e : α → Bytes} {P : α → Prop} (h : ∀ x, P x → ∀ r, rd (e x ++ r) = some (x, r)) :
    ∀ (l : List α) (r : Bytes), (∀ x ∈ l, P x) → repeatN rd l.length (encList e l ++ r) = some (l, r) :=
  repeatN_enc h rfl (fun _ _ => rfl)

/-- the theta group has a `repeatN_length` of its own (WireThetaBase: with `Consumes`, also the bytes used) -/
theorem repeatN_length (rd : Reader α) :
    ∀ (n : Nat) (b r : Bytes) (l : List α), repeatN rd n b = some (l, r) → l.length = n := by
  intro n
  induction n with
  | zero => intro b r l h; rw [(pure_some h).1]; rfl
  | succ n ih =>
    intro b r l h
    obtain ⟨x, r1, _, h⟩ := bind_some h
    obtain ⟨t, r2, h2, h⟩ := bind_some h
    rw [(pure_some h).1, List.length_cons, ih r1 r2 t h2]

structure Serde.Lawful (sd : Serde) : Prop where
  rt : ∀ x r, sd.wf x = true → sd.dec (sd.enc x ++ r) = some (x, r)
  ps : PS sd.dec
  progress : ∀ b x r, sd.dec b = some (x, r) → r.length < b.length

theorem fixed_lawful (n : Nat) (hn : 0 < n) : (Serde.fixed n).Lawful where
  rt := fun x r hw => by
    obtain rfl : x.length = n := eq_of_beq hw
    exact bytesN_append x r
  ps := PS_bytesN n
  progress := fun b x r h => Nat.lt_of_lt_of_eq (Nat.lt_add_of_pos_right hn) (bytesN_len n b r x h).2

theorem lpString_lawful : Serde.lpString.Lawful where
  rt := fun x r hw => by
    -- unfolding `lpString` first: unifying through the projections is slow
    simp only [Serde.lpString, decide_eq_true_eq] at hw ⊢
    rw [List.append_assoc, bind_u32 _ hw]
    exact bytesN_append x r
  ps := PS_bind _ _ (PS_leNat 4) PS_bytesN
  progress := (leNat_succ_consuming 3).bind PS_bytesN

theorem ItemType.serde_lawful (ty : ItemType) : ty.serde.Lawful := by
  cases ty
  · exact fixed_lawful 4 (by decide)
  · exact fixed_lawful 8 (by decide)
  · exact fixed_lawful 8 (by decide)
  · exact lpString_lawful

theorem allWf_iff (sd : Serde) (l : List Item) : allWf sd l = true ↔ ∀ x ∈ l, sd.wf x = true := List.all_eq_true

theorem repeatN_items (sd : Serde) (h : sd.Lawful) (l : List Item) (r : Bytes) (hw : allWf sd l = true) :
    repeatN sd.dec l.length (encItems sd l ++ r) = some (l, r) :=
  repeatN_encList (fun x hx r => h.rt x r hx) l r ((allWf_iff sd l).1 hw)

theorem length_encItems_fixed (w : Nat) (l : List Item) (h : allWf (Serde.fixed w) l = true) :
    (encItems (Serde.fixed w) l).length = l.length * w :=
  length_elementwise rfl (fun _ _ => rfl) l fun x hx => eq_of_beq ((allWf_iff _ l).1 h x hx)

end DS.Wire
