/- One `Within` term per serial version: the specification reader of theta images is prefix-safe, and no count field can make
   it return more entries than 8 per input byte. -/
import DSProofs.Lemmas.WireThetaV4
namespace DS.Wire.Theta
open DS.Wire Reader DS.Wire.BitPack

def nEntries (s : Image) : Nat := s.entries.length

theorem u64s_within (n : Nat) (g : List Nat → Image) (hg : ∀ l, (g l).entries = l) :
    Within 8 0 (Reader.bind (repeatN u64 n) fun es => Reader.pure (g es)) nEntries :=
  Within_bind (Within_items (Within_leNat 8) (by decide) n) fun l => Within_pure (by simp [nEntries, hg])

theorem decodeV3_within (c : Consts) (exp pre : Nat) : Within 8 0 (decodeV3 c exp pre) nEntries :=
  Within_pass (PS_skip 2) fun _ => Within_pass (PS_leNat 1) fun _ => Within_pass (PS_leNat 2) fun _ =>
  payloadRd_within (Within_leNat 8) (mk := Image.mk) (fun _ _ _ _ _ => Nat.le_refl _) _ _ _ _ _

theorem decodeV1_within (exp : Nat) : Within 8 0 (decodeV1 exp) nEntries :=
  Within_pass (PS_skip 5) fun _ => Within_pass (PS_leNat 4) fun n => Within_pass (PS_skip 4) fun _ =>
  Within_pass (PS_leNat 8) fun _ =>
  Post_ite _ (Within_pure (Nat.le_refl 0)) (u64s_within n _ (fun _ => rfl))

theorem decodeV2_within (exp pre : Nat) : Within 8 0 (decodeV2 exp pre) nEntries :=
  Within_pass (PS_skip 3) fun _ => Within_pass (PS_leNat 2) fun _ => Post_guard fun _ =>
  Post_ite _ (Within_pure (Nat.le_refl 0)) <|
  Post_ite _
    (Within_pass (PS_leNat 4) fun n => Within_pass (PS_skip 4) fun _ =>
     Post_ite _ (Within_pure (Nat.le_refl 0)) (u64s_within n _ (fun _ => rfl))) <|
  Post_ite _
    (Within_pass (PS_leNat 4) fun n => Within_pass (PS_skip 4) fun _ => Within_pass (PS_leNat 8) fun _ =>
     Post_ite _ (Within_pure (Nat.le_refl 0)) (u64s_within n _ (fun _ => rfl)))
    Post_fail

theorem decodeV4_within (exp pre : Nat) : Within 8 0 (decodeV4 exp pre) nEntries := by
  unfold decodeV4
  refine Within_pass (PS_leNat 1) fun eb => Within_pass (PS_leNat 1) fun neb => Within_pass (PS_leNat 1) fun _ =>
    Within_pass (PS_leNat 2) fun sh => Post_guard fun hg => ?_
  have heb : 1 ≤ eb := by
    simp only [Bool.and_eq_true, decide_eq_true_eq] at hg
    exact hg.2.1
  refine Within_pass (PS_ite _ _ _ (PS_leNat 8) (PS_pure _)) fun th => Within_pass (PS_leNat neb) fun n =>
    ⟨PS_bind _ _ (PS_bytesN _) fun _ => PS_pure _, ?_⟩
  -- `n` fields of `eb ≥ 1` bits each: at least `n` bits, and a byte pays for 8 entries
  intro b x r h
  obtain ⟨bs, r1, h1, h⟩ := bind_some h
  obtain ⟨rfl, rfl⟩ := pure_some h
  have hc := (bytesN_len _ b r bs h1).2
  simp only [nEntries, length_undelta, unpackFields, length_splitFields]
  have h8 := eight_bytesForBits (eb * n)
  have hn : n ≤ eb * n := Nat.le_mul_of_pos_left n heb
  omega

theorem decode_within (c : Consts) (exp : Nat) : Within 8 0 (decode c exp) nEntries :=
  Within_pass (PS_leNat 1) fun pre => Within_pass (PS_leNat 1) fun _ => Within_pass (PS_leNat 1) fun _ =>
  Post_guard fun _ =>
  Post_ite _ (decodeV4_within exp pre) <| Post_ite _ (decodeV3_within c exp pre) <|
  Post_ite _ (decodeV1_within exp) <| Post_ite _ (decodeV2_within exp pre) Post_fail

end DS.Wire.Theta
