/-
C10 (Bloom filter part) — the image follows the documented layout.

ONLY property theorems and non-vacuity examples.  `documented` is written by hand from the layout
comment of bloom_filter_impl.hpp ("Preamble_Longs | SerVer | FamID | Flags | Num Hashes | Unused /
Hash Seed / BitArray Length (in longs) | Unused / NumBitsSet; the raw BitArray bits start at byte 32");
`genConsts` and the DSGen offsets are regenerated from the CURRENT headers on every run, so a consistent
writer+reader change of a constant breaks `wire_consts_documented` although round trips still pass.
-/
import DSProofs.Lemmas.WireMiscBloom
import DSModel.Wire.BloomGen
namespace DS.Wire.Bloom
open DS.Wire

/-- the documented contract -/
def documented : Consts :=
  { preEmpty := 3, preStd := 4, serVer := 1, familyId := 21, emptyMask := 4, dirty := 2^64 - 1 }

/-- every wire constant extracted from the current headers equals its documented value -/
theorem wire_consts_documented :
    genConsts = documented ∧
    DSGen.bloom_BIT_ARRAY_LENGTH_OFFSET_BYTES = 16 ∧ DSGen.bloom_NUM_BITS_SET_OFFSET_BYTES = 24 ∧
    DSGen.bloom_BIT_ARRAY_OFFSET_BYTES = 32 ∧ DSGen.bloom_MAX_HEADER_SIZE_BYTES = 32 := by decide

/-- the documented byte offsets are facts about the layout: bytes 0..3 are preamble longs, serial
version, family id, flags; num_hashes at 4, seed at 8, num_longs at 16 -/
theorem header_offsets (c : Consts) (s : Img) :
    (encode c s).take 4 = w8 (if s.body.isNone then c.preEmpty else c.preStd) ++ w8 c.serVer ++ w8 c.familyId ++
                          w8 (if s.body.isNone then c.emptyMask else 0) ∧
    ((encode c s).drop 4).take 2 = w16 s.numHashes ∧ ((encode c s).drop 8).take 8 = w64 s.seed ∧
    ((encode c s).drop 16).take 4 = w32 s.numLongs := ⟨rfl, rfl, rfl, rfl⟩

/-- num_bits_set sits at byte 24 and the bit array starts at byte 32 (what `wrap`/`writable_wrap` rely on) -/
theorem body_offsets (c : Consts) (s : Img) (nbs : Nat) (bits : Bytes) (hb : s.body = some (nbs, bits)) :
    ((encode c s).drop 24).take 8 = w64 nbs ∧ (encode c s).drop 32 = bits := by
  cases s
  cases hb
  exact ⟨rfl, rfl⟩

/-- the dirty marker is the all-ones 64-bit value: eight 0xFF bytes at offset 24 -/
theorem dirty_marker_bytes : w64 documented.dirty = [0xFF, 0xFF, 0xFF, 0xFF, 0xFF, 0xFF, 0xFF, 0xFF] := by decide

example : encode documented { numHashes := 5, seed := 0x0102030405060708, numLongs := 1, body := none } =
    [3, 1, 21, 4, 5, 0, 0, 0, 8, 7, 6, 5, 4, 3, 2, 1, 1, 0, 0, 0, 0, 0, 0, 0] := by decide +kernel

end DS.Wire.Bloom
