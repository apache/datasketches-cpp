/- C06: the indexed reads `at'` / `column` in which the obligations over the generated tables are stated (`at'`: DSProofs/Gen/
   BoundsTables.lean; `column`, `column_eq_rows3`, `all_range_at'`: only DSProofs/Gen/BoundsTablesExtra.lean), and their row-wise forms. -/
import DSModel.Bounds.Num
namespace DS.Bounds.Gen

def zeroL : Lit := (0, 0, 1)
def at' (t : List Lit) (i : Nat) : Lit := t.getD i zeroL

def column (t : List Lit) (c : Nat) (fromRow rows : Nat) : List Lit :=
  (List.range (rows - fromRow)).map fun i => at' t (3 * (i + fromRow) + c)

/-! `List.getD` walks from the head at every call, so a sweep over indices is quadratic in the kernel. The lemmas
    below turn the indexed forms into single passes over the table. -/

def rows3 : List Lit → List (List Lit)
  | a :: b :: c :: t => [a, b, c] :: rows3 t
  | _ => []

theorem at'_rows3 {c : Nat} (hc : c < 3) : ∀ {t : List Lit} {n : Nat} (hn : n < (rows3 t).length),
    at' (rows3 t)[n] c = at' t (3 * n + c) := by
  intro t
  fun_induction rows3 t with
  | case1 a b d t ih =>
    intro n hn
    cases n with
    | zero =>
      obtain rfl | rfl | rfl : c = 0 ∨ c = 1 ∨ c = 2 := by omega
      all_goals rfl
    | succ n => exact (ih (Nat.lt_of_succ_lt_succ hn)).trans (by simp [at', Nat.mul_succ, Nat.add_right_comm])
  | case2 t h => intro n hn; exact absurd hn (Nat.not_lt_zero n)

theorem rows3_all {p : Lit → Lit → Lit → Bool} {t : List Lit}
    (h : ((rows3 t).all fun r => p (at' r 0) (at' r 1) (at' r 2)) = true) {n : Nat} (hn : n < (rows3 t).length) :
    p (at' t (3 * n)) (at' t (3 * n + 1)) (at' t (3 * n + 2)) = true := by
  have := List.all_eq_true.1 h _ (List.getElem_mem hn)
  rwa [at'_rows3 (by decide), at'_rows3 (by decide), at'_rows3 (by decide)] at this

theorem column_eq_rows3 {t : List Lit} {c f r : Nat} (hc : c < 3) (hr : r ≤ (rows3 t).length) :
    column t c f r = (((rows3 t).take r).drop f).map (at' · c) := by
  apply List.ext_getElem
  · simp [column]; omega
  · intro i h1 h2
    simp [column, at'_rows3 hc, Nat.add_comm]

theorem all_range_at' (q : Nat → Lit → Bool) {t : List Lit} {n : Nat} (hl : t.length = n)
    (h : (t.zipIdx.all fun x => q x.2 x.1) = true) : ((List.range n).all fun i => q i (at' t i)) = true := by
  subst hl
  refine List.all_eq_true.2 fun i hi => ?_
  have hi := List.mem_range.1 hi
  have := List.all_eq_true.1 h (t[i], i) (List.mem_zipIdx_iff_getElem?.2 (List.getElem?_eq_getElem hi))
  simpa [at', hi] using this

end DS.Bounds.Gen
