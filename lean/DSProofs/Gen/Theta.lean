/-
Obligations over the constants regenerated from theta_update_sketch_base.hpp / theta_constants.hpp
(lean/DSGen/Theta.lean, rewritten by tools/translate.py on every run): the sizing parameters the code uses
NOW satisfy the sizing condition `CfgOkT` of the table-refinement theorem (Props/C01_Table.lean), for every lg_k
the builder accepts and every resize factor.
-/
import DSGen.Theta
import DSProofs.Lemmas.ThetaTableRun
namespace DS.Theta.L2
open DS.Theta

/-- the configuration the builder produces for (lg_k, resize factor) with the CURRENT header constants -/
def genCfg (lgK lgRf : Nat) : Cfg :=
  { lgNom := lgK, lgRf := lgRf, theta0 := MAX_THETA,
    lgStart := startingSubMultiple (lgK + 1) DSGen.theta_MIN_LG_K lgRf,
    rszNum := DSGen.theta_RESIZE_THRESHOLD_num, rszDen := DSGen.theta_RESIZE_THRESHOLD_den,
    rbdNum := DSGen.theta_REBUILD_THRESHOLD_num, rbdDen := DSGen.theta_REBUILD_THRESHOLD_den }

/-- every (lg_k, rf) the builder accepts is sane under the thresholds in the headers right now -/
theorem gen_theta_cfgs_ok :
    (List.range (DSGen.theta_MAX_LG_K + 1)).all (fun lgK => decide (lgK < DSGen.theta_MIN_LG_K) ||
      (List.range 4).all (fun rf => cfgOkB (genCfg lgK rf))) = true := by
  decide +kernel

theorem gen_theta_cfg_ok (lgK rf : Nat) (h1 : DSGen.theta_MIN_LG_K ≤ lgK) (h2 : lgK ≤ DSGen.theta_MAX_LG_K) (h3 : rf < 4) :
    CfgOkT (genCfg lgK rf) := by
  apply cfgOkB_sound
  have := gen_theta_cfgs_ok
  simp only [List.all_eq_true, List.mem_range, Bool.or_eq_true, decide_eq_true_eq] at this
  rcases this lgK (by omega) with h | h
  · omega
  · exact h rf h3

/-- the model's MAX_THETA is the header's -/
theorem gen_theta_max_theta : DSGen.theta_MAX_THETA = MAX_THETA := by decide

end DS.Theta.L2
