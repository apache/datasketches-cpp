/-
C11 (HLL group) — truncated images are rejected by the specification reader; no count field makes it allocate beyond
the input length.  `decode` is the strict reader (consumes exactly the image), `decodeCore` the reader that does not
insist on the reserved, information-free tail being present (what `deserialize(bytes, n)` implements for the unused
aux area of an updatable HLL_4 image and `deserialize(istream)` for an empty updatable list image).
`isPadding c s n` ⇔ `coreSize c s ≤ n < serializedSize c s`: only zero bytes of reserved area are missing.
The tie to the C++ readers (every prefix length of every generated image, both paths, under ASan/UBSan with an
allocation cap and allocation balance) is in vlib/props/c11_hll.py.
-/
import DSProofs.Lemmas.WireHllPad
import DSModel.Wire.HllGen
import DSProofs.Props.C09_Hll

namespace DS.Wire.Hll
open DS.Wire

/-- Both readers are built from prefix-safe combinators only: a successful read consumed exactly k bytes, every
shorter prefix is rejected, every longer prefix gives the same value. -/
theorem decode_PS (c : Consts) : PS (decode c) := PS_decodeG c false
theorem decodeCore_PS (c : Consts) : PS (decodeCore c) := PS_decodeG c true

/-- Every strict prefix of a well-formed image is rejected by the strict reader. -/
theorem prefix_rejected (c : Consts) (hc : c.ok = true) (s : Img) (hw : s.WF c) (n : Nat) (hn : n < (encode c s).length) :
    decode c ((encode c s).take n) = none :=
  prefix_rejected' (decode c) (decode_PS c) (encode c s) s (decode_encode c hc s hw) n hn

/-- The lenient reader rejects every strict prefix too — except where only reserved zero padding is missing, and
there it yields the very same image state (with only zero bytes left over). -/
theorem prefix_rejected_or_padding (c : Consts) (hc : c.ok = true) (s : Img) (hw : s.WF c) (n : Nat)
    (hn : n < (encode c s).length) :
    (n < coreSize c s ∧ decodeCore c ((encode c s).take n) = none) ∨
    (isPadding c s n = true ∧ ∃ r, decodeCore c ((encode c s).take n) = some (s, r) ∧ ∀ x ∈ r, x = 0) := by
  obtain ⟨pad, hsplit, hzero, hlen⟩ := encode_split c s hw
  have hd := decodeG_enc c hc true s hw
  -- a prefix of the image is a prefix of its core, or the core and a prefix of the padding
  rw [hsplit, List.take_append, hlen]
  by_cases hnk : n < coreSize c s
  · rw [Nat.sub_eq_zero_of_le (Nat.le_of_lt hnk), List.take_zero, List.append_nil]
    exact Or.inl ⟨hnk, prefix_rejected' _ (PS_decodeG c true) _ s hd n (hlen ▸ hnk)⟩
  · have hnk := Nat.le_of_not_lt hnk
    rw [List.take_of_length_le (hlen ▸ hnk)]
    refine Or.inr ⟨?_, _, hd _, fun x hx => hzero x (List.mem_of_mem_take hx)⟩
    rw [isPadding, Bool.and_eq_true, decide_eq_true_eq, decide_eq_true_eq]
    exact ⟨hnk, size_eq_of_WF c s hw ▸ hn⟩

/-- Whatever the strict reader accepts (well-formed or not, e.g. a corrupted image): the tables and registers it
returns are no larger than the input — header bytes plus 4 bytes per table entry plus one byte per register byte
were actually present. -/
theorem decode_bounded (c : Consts) (b : Bytes) (s : Img) (r : Bytes) (hd : decode c b = some (s, r)) :
    dataStart s + footprint s + r.length = b.length := by
  have h := decode_inv c b s r hd
  rw [h, List.length_append, length_encode]

example : (encode genConsts exHll4Upd).length = 64 ∧ coreSize genConsts exHll4Upd = 48 ∧
    isPadding genConsts exHll4Upd 50 = true ∧ isPadding genConsts exHll4Upd 47 = false := by
  refine ⟨?_, by decide, by decide, by decide⟩
  rw [size_eq _ _ (by decide)]; decide
example : decode genConsts ((encode genConsts exHll4).take 55) = none :=
  prefix_rejected genConsts (by decide) exHll4 (by decide) 55 (by rw [size_eq _ _ (by decide)]; decide)
example : coreSize genConsts exListEmptyUpd = 8 ∧ serializedSize genConsts exListEmptyUpd = 40 := by decide

end DS.Wire.Hll
