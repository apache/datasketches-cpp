/- L2 HLL_8 array (`H8`, DSModel/Hll/Array6.lean): one update is `maxUpdate` on the byte array, a stream of updates its fold. -/
import DSModel.Hll.Arrays
import DSProofs.Lemmas.HllRegs
namespace DS.Hll

variable {ν : Type} [HNum ν]

theorem h8_refines (p : Params) (h : H8) (c : Nat) (hsz : h.bytes.size = 2^h.lgK) :
    (h.update p c).regs = maxUpdate p h.lgK h.regs c ∧ (h.update p c).lgK = h.lgK ∧
    (h.update p c).bytes.size = 2^h.lgK ∧
    (h.numAtCurMin = h.regs.count 0 → (h.update p c).numAtCurMin = (h.update p c).regs.count 0) := by
  unfold H8.update maxUpdate H8.regs
  simp only
  by_cases hlt : cValue p c > h.bytes.getD (cSlot p h.lgK c) 0
  · rw [if_pos hlt, if_pos hlt]
    refine ⟨rfl, rfl, by simp [hsz], fun hn => ?_⟩
    have hs : cSlot p h.lgK c < h.bytes.size := by rw [hsz]; exact cSlot_lt p h.lgK c
    show (if h.bytes.getD (cSlot p h.lgK c) 0 = 0 then h.numAtCurMin - 1 else h.numAtCurMin) =
      (h.bytes.setIfInBounds (cSlot p h.lgK c) (cValue p c)).count 0
    rw [count_raise hs (Nat.zero_le _) hlt, hn]
  · rw [if_neg hlt, if_neg hlt]
    exact ⟨rfl, rfl, hsz, fun hn => hn⟩

theorem h8_foldl (p : Params) : ∀ (cs : List Nat) (h : H8) (regs : Array Nat), h.bytes.size = 2^h.lgK → h.regs = regs →
    (cs.foldl (H8.update p) h).regs = cs.foldl (maxUpdate p h.lgK) regs ∧ (cs.foldl (H8.update p) h).lgK = h.lgK
  | [], _, _, _, hr => ⟨hr, rfl⟩
  | c :: cs, h, regs, hsz, hr => by
    obtain ⟨r1, r2, r3, _⟩ := h8_refines p h c hsz
    have ih := h8_foldl p cs (h.update p c) (maxUpdate p h.lgK regs c) (by rw [r3, r2]) (by rw [r1, hr])
    simp only [List.foldl_cons]
    rw [r2] at ih
    exact ⟨ih.1, ih.2⟩

end DS.Hll
