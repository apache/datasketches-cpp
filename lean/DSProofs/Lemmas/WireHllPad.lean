/- The reserved zero padding at the end of HLL images: a well-formed image is its information-carrying part followed by
   zeros (`encode_split`, behind C11 `prefix_rejected_or_padding`). -/
import DSProofs.Lemmas.WireHllSize

namespace DS.Wire.Hll
open DS.Wire DS.Wire.Reader

theorem wU32s_zeros : ∀ n : Nat, ∀ x ∈ wU32s (List.replicate n 0), x = 0
  | n + 1, x, hx => by
    rw [List.replicate_succ, wU32s, List.mem_append] at hx
    rcases hx with h | h
    · simpa [w32, wLe] using h
    · exact wU32s_zeros n x h

theorem encode_split (c : Consts) (s : Img) (hw : s.WF c) :
    ∃ pad, encode c s = encodeG c true s ++ pad ∧ (∀ x ∈ pad, x = 0) ∧ (encodeG c true s).length = coreSize c s := by
  have hsz := size_eq_of_WF c s hw
  cases s with
  | list s =>
    cases hp : listPad c s.h with
    | true =>
      refine ⟨wU32s s.coupons, ?_, ?_, ?_⟩
      · simp only [encode, encodeList, encodeG, encodeListG, hp, Bool.true_and, if_true, List.append_nil]
      · rw [list_pad_zero c s hw hp]; exact wU32s_zeros _
      · simp only [encodeG, encodeListG, hp, Bool.true_and, if_true, List.append_nil, length_encodeHdr, coreSize]
    | false =>
      refine ⟨[], ?_, nofun, ?_⟩
      · simp only [encode, encodeList, encodeG, encodeListG, hp, Bool.and_false, Bool.false_eq_true, if_false, List.append_nil]
      · simp only [encodeG, encodeListG, coreSize, hp, Bool.and_false, Bool.false_eq_true, if_false]; exact hsz
  | set s => exact ⟨[], (List.append_nil _).symm, nofun, hsz⟩
  | hll s =>
    cases hp : hllPad c s.h s.auxCount with
    | true =>
      refine ⟨wU32s s.aux, ?_, ?_, ?_⟩
      · simp only [encode, encodeHll, encodeG, hllBodyG, hp, Bool.true_and, if_true, List.append_nil, List.append_assoc]
      · rw [hll_pad_zero c s hw hp]; exact wU32s_zeros _
      · simp only [encodeG, hllBodyG, hp, Bool.true_and, if_true, List.append_nil, List.length_append, length_encodeHdr,
          length_w64, length_w32, coreSize, hw.2.2.2.2.2.2.2.2.2.1]
        omega
    | false =>
      refine ⟨[], ?_, nofun, ?_⟩
      · simp only [encode, encodeHll, encodeG, hllBodyG, hp, Bool.and_false, Bool.false_eq_true, if_false, List.append_nil]
      · simp only [encodeG, hllBodyG, coreSize, hp, Bool.and_false, Bool.false_eq_true, if_false]; exact hsz

end DS.Wire.Hll
