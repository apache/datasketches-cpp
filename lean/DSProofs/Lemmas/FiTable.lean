/- The purge sample of the reverse-purge table model (DSModel/Fi/Table.lean) when the whole table fits it. -/
import DSModel.Fi.Table
import DSProofs.Lemmas.FiMap
namespace DS.Fi
set_option linter.unusedSectionVars false

theorem Tab.sample_all (T : Tun) (t : Tab) (h1 : t.activeIdx.length = t.numActive) (h2 : t.numActive ≤ T.maxSample) :
    t.sample T = DS.Fi.vals t.entries := by
  -- `DS.Fi.vals` in full: inside `Tab.…` a bare `vals` is the field `Tab.vals`
  unfold Tab.sample Tab.entries DS.Fi.vals
  rw [List.take_of_length_le (by omega)]
  simp [List.map_map, Function.comp_def]

end DS.Fi
