/- C19: `ClassSpec α` is `ObjSpec` over one class's own object type, so that a class file need not know `Obj`.  `ClassSpec.empty`
   is for a class without contracts: its invariant is `False`, so no such object exists in a world satisfying the invariant, and
   its constructor must not be `Allowed`. -/
import DSProofs.Lemmas.LifeRun
namespace DS.Life

structure ClassSpec (α : Type) where
  owned : α → List Nat
  Inv : Heap → α → Prop
  Usable : Heap → α → Prop
  usable_inv : ∀ {h o}, Usable h o → Inv h o
  inv_local : ∀ {h h' o}, (∀ b, b ∈ owned o → h'.find? b = h.find? b) → h.next ≤ h'.next → Inv h o → Inv h' o
  usable_local : ∀ {h h' o}, (∀ b, b ∈ owned o → h'.find? b = h.find? b) → h.next ≤ h'.next → Usable h o → Usable h' o
  owned_ids : ∀ {h o}, Inv h o → ∀ b, b ∈ owned o → b ∈ h.ids ∧ b < h.next

def ClassSpec.empty (α : Type) : ClassSpec α where
  owned := fun _ => []
  Inv := fun _ _ => False
  Usable := fun _ _ => False
  usable_inv := fun u => u
  inv_local := fun _ _ i => i
  usable_local := fun _ _ u => u
  owned_ids := fun i => i.elim

def combine (ts : ClassSpec Theta.Table) (ks : ClassSpec Kll.Sketch) (fs : ClassSpec Fi.Sketch) : ObjSpec where
  owned := fun o => match o with | .table t => ts.owned t | .kll s => ks.owned s | .fi s => fs.owned s
  Inv := fun h o => match o with | .table t => ts.Inv h t | .kll s => ks.Inv h s | .fi s => fs.Inv h s
  Usable := fun h o => match o with | .table t => ts.Usable h t | .kll s => ks.Usable h s | .fi s => fs.Usable h s
  usable_inv := fun {h o} u => by cases o <;> first | exact ts.usable_inv u | exact ks.usable_inv u | exact fs.usable_inv u
  inv_local := fun {h h' o} e n i => by
    cases o <;> first | exact ts.inv_local e n i | exact ks.inv_local e n i | exact fs.inv_local e n i
  usable_local := fun {h h' o} e n u => by
    cases o <;> first | exact ts.usable_local e n u | exact ks.usable_local e n u | exact fs.usable_local e n u
  owned_ids := fun {h o} i => by
    cases o <;> first | exact ts.owned_ids i | exact ks.owned_ids i | exact fs.owned_ids i

end DS.Life
