/- The H-region heap operations of the VarOpt model: every operation permutes the entries, and they keep the
   binary min-heap invariant on weights (so `peek_min` really is the minimum).  Rat instance. -/
import DSModel.VarOpt.Heap
import DSProofs.Lemmas.VarOptNum
import DSProofs.Lemmas.ListAux
namespace DS.VarOpt
open DS

abbrev E := Entry Rat

theorem swap_perm (l : List E) (i j : Nat) : (swap l i j).Perm l := by
  unfold swap
  split
  · rename_i a b ha hb
    obtain ⟨hi, rfl⟩ := List.getElem?_eq_some_iff.mp ha
    obtain ⟨hj, rfl⟩ := List.getElem?_eq_some_iff.mp hb
    exact List.set_set_perm hi hj
  · rfl

theorem swap_length (l : List E) (i j : Nat) : (swap l i j).length = l.length := (swap_perm l i j).length_eq

theorem wtAt_swap_ne {l : List E} {i j x : Nat} (hxi : x ≠ i) (hxj : x ≠ j) : wtAt (swap l i j) x = wtAt l x := by
  unfold swap
  split
  · rw [wtAt, List.getElem?_set_ne hxj.symm, List.getElem?_set_ne hxi.symm]; rfl
  · rfl

theorem wtAt_swap_right {l : List E} {i j : Nat} (hi : i < l.length) (hj : j < l.length) : wtAt (swap l i j) j = wtAt l i := by
  simp [swap, wtAt, hi, hj]

theorem wtAt_swap_left {l : List E} {i j : Nat} (hi : i < l.length) (hj : j < l.length) : wtAt (swap l i j) i = wtAt l j := by
  by_cases h : i = j
  · subst h; exact wtAt_swap_right hi hj
  · simp [swap, wtAt, hi, hj, Ne.symm h]

theorem wtAt_prefix {l₁ l₂ : List E} {i : Nat} (h : l₁ <+: l₂) (hi : i < l₁.length) : wtAt l₁ i = wtAt l₂ i := by
  obtain ⟨t, rfl⟩ := h
  simp [wtAt, List.getElem?_append_left hi]

theorem wtAt_zero_cons (e : E) (t : List E) : wtAt (e :: t) 0 = e.wt := rfl

/-- parent ≤ child for every edge whose parent index is at least `lo` -/
def HeapFrom (lo : Nat) (l : List E) : Prop :=
  ∀ i, 0 < i → i < l.length → lo ≤ (i - 1) / 2 → wtAt l ((i - 1) / 2) ≤ wtAt l i

def IsHeap (l : List E) : Prop := HeapFrom 0 l

theorem isHeap_nil : IsHeap ([] : List E) := fun _ _ hil => absurd hil (Nat.not_lt_zero _)

/-- Slot `d` is one of the two child slots of slot `p` in the array layout of the heap.  `HeapFrom` names the parent of `i` as
`(i - 1) / 2`; read from the parent's side through `Child` (`heapFrom_iff`) the index arithmetic of the sifting proofs is linear. -/
abbrev Child (p d : Nat) : Prop := d = 2 * p + 1 ∨ d = 2 * p + 2

theorem child_iff {p d : Nat} : Child p d ↔ 0 < d ∧ (d - 1) / 2 = p := by omega

theorem Child.lt {p d : Nat} (h : Child p d) : p < d := by omega

theorem Child.inj {p q d : Nat} (h : Child p d) (h' : Child q d) : p = q :=
  (child_iff.1 h).2.symm.trans (child_iff.1 h').2

theorem child_parent {s : Nat} (h : 0 < s) : Child (parent s) s := by unfold parent; omega

theorem heapFrom_iff {lo : Nat} {l : List E} :
    HeapFrom lo l ↔ ∀ p d, lo ≤ p → Child p d → d < l.length → wtAt l p ≤ wtAt l d := by
  constructor
  · intro h p d hp hd hdl
    obtain ⟨hd0, rfl⟩ := child_iff.1 hd
    exact h d hd0 hdl hp
  · intro h i hi0 hil hlo
    exact h _ i hlo (child_iff.2 ⟨hi0, rfl⟩) hil

theorem heapFrom_of_agree {lo : Nat} {l₁ l₂ : List E} (hlen : l₁.length ≤ l₂.length)
    (hw : ∀ i, lo ≤ i → i < l₁.length → wtAt l₁ i = wtAt l₂ i) (h : HeapFrom lo l₂) : HeapFrom lo l₁ := by
  refine heapFrom_iff.2 fun p d hp hd hdl => ?_
  rw [hw p hp (hd.lt.trans hdl), hw d (hp.trans hd.lt.le) hdl]
  exact heapFrom_iff.1 h p d hp hd (hdl.trans_le hlen)

theorem heapFrom_dropLast {lo : Nat} {l : List E} (h : HeapFrom lo l) : HeapFrom lo l.dropLast :=
  heapFrom_of_agree l.dropLast_prefix.length_le (fun _ _ => wtAt_prefix l.dropLast_prefix) h

theorem siftDown_perm (fuel : Nat) (l : List E) (s : Nat) : (siftDown fuel l s).Perm l := by
  fun_induction siftDown fuel l s with
  | case3 _ l s _ _ _ c _ ih => exact ih.trans (swap_perm l s c)
  | _ => rfl

theorem siftDown_length (fuel : Nat) (l : List E) (s : Nat) : (siftDown fuel l s).length = l.length :=
  (siftDown_perm fuel l s).length_eq

/-- the slot `restore_towards_leaves` compares `s` with: a child of `s` of least weight -/
theorem minChild_spec {l : List E} {s : Nat} (hc : 2 * s + 1 < l.length) (c : Nat)
    (hcdef : c = if 2 * s + 1 + 1 < l.length && Num.lt (wtAt l (2 * s + 1 + 1)) (wtAt l (2 * s + 1)) then 2 * s + 1 + 1
      else 2 * s + 1) :
    c < l.length ∧ Child s c ∧ ∀ d, Child s d → d < l.length → wtAt l c ≤ wtAt l d := by
  subst hcdef
  simp only [Bool.and_eq_true, decide_eq_true_eq, Num.lt_rat]
  split
  · rename_i h
    refine ⟨h.1, Or.inr rfl, ?_⟩
    rintro d (rfl | rfl) _
    · exact h.2.le
    · rfl
  · rename_i h
    refine ⟨hc, Or.inl rfl, ?_⟩
    rintro d (rfl | rfl) hd
    · rfl
    · exact not_lt.1 fun hlt => h ⟨hd, hlt⟩

/-- Slot `s` may be above its children; every other slot from `lo` on is not (`h1`), and the children of `s` are not below the
parent of `s` (`h2`), so that a child may move up into `s`.  `hf` is the termination argument: every swap moves `s` down by at
least one slot, so `fuel + s` never drops below the length, and when the fuel is used up `s` has no child left. -/
theorem siftDown_heap (fuel : Nat) (l : List E) (lo s : Nat) (hlo : lo ≤ s) (hf : l.length ≤ fuel + s)
    (h1 : ∀ p d, lo ≤ p → p ≠ s → Child p d → d < l.length → wtAt l p ≤ wtAt l d)
    (h2 : ∀ g d, lo ≤ g → Child g s → Child s d → d < l.length → wtAt l g ≤ wtAt l d) :
    HeapFrom lo (siftDown fuel l s) := by
  fun_induction siftDown fuel l s with
  | case1 | case4 => exact heapFrom_iff.2 fun p d hp hd hdl => h1 p d hp (by omega) hd hdl
  | case2 _ l s _ hc _ c hle =>
    obtain ⟨-, -, hcmin⟩ := minChild_spec hc c rfl
    refine heapFrom_iff.2 fun p d hp hd hdl => ?_
    by_cases hps : p = s
    · subst hps; exact (of_decide_eq_true hle).trans (hcmin d hd hdl)
    · exact h1 p d hp hps hd hdl
  | case3 _ l s _ hc _ c hle ih =>
    obtain ⟨hcl, hcc, hcmin⟩ := minChild_spec hc c rfl
    have hlt : wtAt l c < wtAt l s := not_le.1 fun h => hle (decide_eq_true h)
    have hsc := hcc.lt
    have hs := hsc.trans hcl
    simp only [swap_length] at ih
    refine ih (hlo.trans hsc.le) (by omega) (fun p d hp hpc hd hdl => ?_) fun g d _ hcg hd hdl => ?_
    · by_cases hps : p = s
      · subst hps
        rw [wtAt_swap_left hs hcl]
        by_cases hdc : d = c
        · subst hdc; rw [wtAt_swap_right hs hcl]; exact hlt.le
        · rw [wtAt_swap_ne hd.lt.ne' hdc]; exact hcmin d hd hdl
      · rw [wtAt_swap_ne hps hpc]
        by_cases hds : d = s
        · -- the edge into `s`: its new weight is that of `c`, which is above the parent of `s`
          subst hds; rw [wtAt_swap_left hs hcl]; exact h2 p c hp hd hcc hcl
        · rw [wtAt_swap_ne hds fun hdc : d = c => hps (Child.inj (hdc ▸ hd) hcc)]
          exact h1 p d hp hps hd hdl
    · -- the children of `c` are above `c`, whose weight now sits in `s`
      obtain rfl : g = s := hcg.inj hcc
      rw [wtAt_swap_left hs hcl, wtAt_swap_ne (hsc.trans hd.lt).ne' hd.lt.ne']
      exact h1 c d (hlo.trans hsc.le) hsc.ne' hd hdl

/-- the form in which heapify and pop use it -/
theorem siftDown_heapFrom (fuel : Nat) (l : List E) (s : Nat) (hf : l.length ≤ fuel + s) (h : HeapFrom (s + 1) l) :
    HeapFrom s (siftDown fuel l s) :=
  siftDown_heap fuel l s s (le_refl _) hf (fun p d hp hps => heapFrom_iff.1 h p d (Nat.lt_of_le_of_ne hp (Ne.symm hps)))
    fun _ _ hg hgs => absurd hgs.lt (Nat.not_lt.2 hg)

theorem siftUp_perm (fuel : Nat) (l : List E) (s : Nat) : (siftUp fuel l s).Perm l := by
  fun_induction siftUp fuel l s with
  | case2 _ l s p _ ih => exact ih.trans (swap_perm l s p)
  | _ => rfl

theorem siftUp_length (fuel : Nat) (l : List E) (s : Nat) : (siftUp fuel l s).length = l.length :=
  (siftUp_perm fuel l s).length_eq

/-- Slot `s` may be below its parent; every other slot is not (`h1`), and the children of `s` are not below the parent of `s`
(`h2`), so that the parent may move down into `s`. -/
theorem siftUp_heap (fuel : Nat) (l : List E) (s : Nat) (hs : s < l.length) (hf : s ≤ fuel)
    (h1 : ∀ p d, Child p d → d < l.length → d ≠ s → wtAt l p ≤ wtAt l d)
    (h2 : ∀ g d, Child g s → Child s d → d < l.length → wtAt l g ≤ wtAt l d) : IsHeap (siftUp fuel l s) := by
  fun_induction siftUp fuel l s with
  | case1 => exact heapFrom_iff.2 fun p d _ hd hdl => h1 p d hd hdl (by omega)
  | case2 _ l s g hcond ih =>
    simp only [Bool.and_eq_true, decide_eq_true_eq, Num.lt_rat] at hcond
    obtain ⟨hs0, hlt⟩ := hcond
    have hsg : Child g s := child_parent hs0
    have hgs := hsg.lt
    have hg := hgs.trans hs
    simp only [swap_length] at ih
    refine ih hg (by omega) (fun p d hd hdl hdg => ?_) fun gg d hcg hd hdl => ?_
    · by_cases hds : d = s
      · obtain rfl : p = g := Child.inj (hds ▸ hd) hsg
        rw [hds, wtAt_swap_left hs hg, wtAt_swap_right hs hg]; exact hlt.le
      · rw [wtAt_swap_ne hds hdg]
        by_cases hps : p = s
        · rw [hps, wtAt_swap_left hs hg]; exact h2 g d hsg (hps ▸ hd) hdl
        · by_cases hpg : p = g
          · -- a sibling of `s`
            rw [hpg, wtAt_swap_right hs hg]; exact hlt.le.trans (h1 g d (hpg ▸ hd) hdl hds)
          · rw [wtAt_swap_ne hps hpg]; exact h1 p d hd hdl hds
    · have hgg : wtAt l gg ≤ wtAt l g := h1 gg g hcg hg hgs.ne
      rw [wtAt_swap_ne (hcg.lt.trans hgs).ne hcg.lt.ne]
      by_cases hds : d = s
      · rw [hds, wtAt_swap_left hs hg]; exact hgg
      · rw [wtAt_swap_ne hds hd.lt.ne']; exact hgg.trans (h1 g d hd hdl hds)
  | case3 _ l s g hcond =>
    refine heapFrom_iff.2 fun p d _ hd hdl => ?_
    by_cases hds : d = s
    · subst hds
      have hd0 := Nat.zero_lt_of_lt hd.lt
      obtain rfl : p = g := hd.inj (child_parent hd0)
      exact not_lt.1 fun hh => hcond (by simp [hd0, hh])
    · exact h1 p d hd hdl hds

theorem heap_root_le {l : List E} (h : IsHeap l) (i : Nat) (hil : i < l.length) : wtAt l 0 ≤ wtAt l i := by
  induction i using Nat.strong_induction_on with
  | _ i ih =>
    rcases Nat.eq_zero_or_pos i with rfl | hi0
    · rfl
    · have hc := child_parent hi0
      exact (ih _ hc.lt (hc.lt.trans hil)).trans (heapFrom_iff.1 h _ i (Nat.zero_le _) hc hil)

theorem heap_root_min {l : List E} (h : IsHeap l) {e : E} (he : e ∈ l) : wtAt l 0 ≤ e.wt := by
  obtain ⟨i, hi, rfl⟩ := List.getElem_of_mem he
  exact (heap_root_le h i hi).trans_eq (by simp [wtAt, hi])

theorem heapPush_perm (l : List E) (e : E) : (heapPush l e).Perm (e :: l) :=
  (siftUp_perm _ _ _).trans (List.perm_append_singleton e l)

theorem heapPush_length (l : List E) (e : E) : (heapPush l e).length = l.length + 1 := (heapPush_perm l e).length_eq

theorem heapPush_heap (l : List E) (e : E) (h : IsHeap l) : IsHeap (heapPush l e) := by
  have hlen : (l ++ [e]).length = l.length + 1 := List.length_append
  refine siftUp_heap _ _ _ (hlen ▸ Nat.lt_succ_self _) (Nat.le_succ _) (fun p d hd hdl hds => ?_) fun g d _ hd hdl => ?_
  all_goals rw [hlen] at hdl
  · -- an edge that avoids the new slot is an edge of `l`
    have hdl' : d < l.length := Nat.lt_of_le_of_ne (Nat.le_of_lt_succ hdl) hds
    rw [← wtAt_prefix (List.prefix_append l [e]) hdl', ← wtAt_prefix (List.prefix_append l [e]) (hd.lt.trans hdl')]
    exact heapFrom_iff.1 h p d (Nat.zero_le _) hd hdl'
  · exact absurd hdl (Nat.not_lt.2 hd.lt)

/-- the old root goes to the last slot and is cut off; the old last entry `x` starts at the root -/
theorem heapPopRest_concat (e x : E) (t : List E) : heapPopRest (e :: (t ++ [x])) = siftDown (t.length + 1) (x :: t) 0 := by
  simp [heapPopRest, swap, List.dropLast_cons_of_ne_nil]

theorem heapPopRest_perm (e : E) (t : List E) : (e :: heapPopRest (e :: t)).Perm (e :: t) := by
  rcases t.eq_nil_or_concat' with rfl | ⟨t, x, rfl⟩
  · rfl
  · rw [heapPopRest_concat]
    exact ((siftDown_perm _ _ _).trans (List.perm_append_singleton x t).symm).cons e

theorem heapPopRest_length (l : List E) : (heapPopRest l).length = l.length - 1 := by
  cases l with
  | nil => rfl
  | cons e t => exact Nat.succ.inj (heapPopRest_perm e t).length_eq

theorem heapPopRest_heap (l : List E) (h : IsHeap l) : IsHeap (heapPopRest l) := by
  rcases l with _ | ⟨e, t⟩
  · exact isHeap_nil
  rcases t.eq_nil_or_concat' with rfl | ⟨t, x, rfl⟩
  · exact isHeap_nil
  · rw [heapPopRest_concat]
    -- from slot 1 on, `x :: t` agrees with the old heap `e :: (t ++ [x])`
    refine siftDown_heapFrom _ _ 0 (Nat.le_refl _)
      (heapFrom_of_agree (by simp) (fun i hi hil => ?_) fun i hi0 hil _ => h i hi0 hil (Nat.zero_le _))
    cases i with
    | zero => exact absurd hi (by decide)
    | succ k => exact (wtAt_prefix (List.prefix_append t [x]) (Nat.lt_of_succ_lt_succ hil) : wtAt t k = _)

theorem heapifyFrom_perm (j : Nat) (l : List E) : (heapifyFrom j l).Perm l := by
  induction j generalizing l with
  | zero => exact siftDown_perm _ _ _
  | succ j ih => exact (ih _).trans (siftDown_perm _ _ _)

theorem heapifyFrom_heap (j : Nat) (l : List E) (h : HeapFrom (j + 1) l) : IsHeap (heapifyFrom j l) := by
  induction j generalizing l with
  | zero => exact siftDown_heapFrom _ _ 0 (Nat.le_refl _) h
  | succ j ih => exact ih _ (siftDown_heapFrom _ _ (j + 1) (Nat.le_add_right _ _) h)

theorem convertToHeap_perm (l : List E) : (convertToHeap l).Perm l := by
  unfold convertToHeap; split
  · rfl
  · exact heapifyFrom_perm _ _

theorem convertToHeap_heap (l : List E) : IsHeap (convertToHeap l) := by
  unfold convertToHeap; split
  · intro i hi0 hil _; omega
  · exact heapifyFrom_heap _ _ (heapFrom_iff.2 fun p d hp hd hdl => by omega)

end DS.VarOpt
