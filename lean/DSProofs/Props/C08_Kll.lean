/-
C08, KLL part — KLL ranks are unbiased over the coin flips, and the number of flips does not depend on their outcomes.

Model: DSModel/Kll/Sketch.lean + History.lean (the same model as C07; every `random_bit` is a `flip` node of a coin
tree `CT`, executed by `CT.run` against an explicit coin sequence).  `W p s` is the total weight of the retained items
of sketch `s` satisfying a predicate `p`; with `p = isBelow lt y incl` ("≤ y" resp. "< y") it is the numerator of the
rank the sorted view reports (`view_of_sketch`, C07).  Every theorem is for every parameter set with `ParamsOk`,
every item type and strict weak order, every history of constructions / updates / merges (any tree, shared operands,
unequal k) / copies / view calls over any number of sketches, every sketch index, every predicate.
ONLY property theorems and examples live here (helper lemmas: Lemmas/KllShape.lean, KllFair.lean, KllFairHist.lean).
The generic mechanism theorem `sumAll_unbiased` is in Props/C08_Mechanism.lean; `kll_unbiased` does not rest on it (copies and
merges share state between sketches, so a history is no run of the mechanism): it is proved on the coin trees (`CT.Mean`,
`runT_mean`), and `kll_schedule` links the two for the compaction of one update.

Not decided here (stated in the claim): that the normalized rank error stays within `get_normalized_rank_error`
"at least as often as claimed" — the constants 2.296/k^0.9723, 2.446/k^0.9433 are empirical fits; only the formula
itself is tied to the code (correspondence check, `q err`).
-/
import DSProofs.Lemmas.KllFairHist
import DSProofs.Lemmas.KllShape
import DSProofs.Lemmas.KllReach
import DSProofs.Props.C08_Mechanism
namespace DS.Kll
open DS DS.SortedView DS.Mech

variable {α : Type}

/-! ### the number of flips and all shapes are functions of shapes only -/

/-- one operation: operands of the same shape (k, n, items_size, level sizes — contents and coins arbitrary) give coin
trees of the same structure (so the same number of flips on every path) whose results again have the same shape -/
theorem flips_shape_only_op (P : Params) (c : Cmp α) {s s' o o' : Sketch α} (hs : SS s s') (ho : SS o o') (x : α) :
    CT.Rel SS (updateT P c s x) (updateT P c s' x) ∧ CT.Rel SS (mergeT P c s o) (mergeT P c s' o') :=
  ⟨updateT_SS P c hs x, mergeT_SS P c hs ho⟩

/-- whole histories: every coin outcome consumes the same number `F` of flips, and all reachable states have the same
shapes (number of sketches, and per sketch k, n, capacity and level sizes) -/
theorem flips_shape_only (P : Params) (c : Cmp α) (ops : List (Op α)) :
    CT.Uniform (CT.depthLeft (runT P c ops [])) (runT P c ops []) ∧
    CT.leaves (runT P c ops []) = 2 ^ CT.depthLeft (runT P c ops []) ∧
    (∀ coins coins' : Coins, SSL (reach P c ops coins) (reach P c ops coins')) ∧
    (∀ coins : Coins, ((runT P c ops []).run coins).2.used = coins.used + CT.depthLeft (runT P c ops [])) := by
  have hrel := runT_SS P c ops (PW.refl SS.refl [])
  have hu := CT.Rel.uniform hrel
  refine ⟨hu, CT.Uniform.leaves hu, ?_, ?_⟩
  · intro coins coins'
    have h1 := CT.Rel.all hrel
    have h2 := CT.All.run h1 coins
    exact CT.All.run h2 coins'
  · exact CT.Uniform.run_used hu

/-- `compress_while_updating` / one `general_compress` step: the two coin outcomes together carry exactly twice the
weight below (odd leftover stays; evens and odds of the rest partition it; each half goes up with doubled weight) -/
theorem compaction_balanced_kll (P : Params) (c : Cmp α) (p : α → Bool) (s : Sketch α) (lvl : Nat) (srt : Bool)
    (h : lvl + 1 < s.levels.length) :
    W p (compress P c s false) + W p (compress P c s true) = 2 * W p s ∧
    wb p 0 (compactAt c.lt srt false lvl s.levels) + wb p 0 (compactAt c.lt srt true lvl s.levels) = 2 * wb p 0 s.levels :=
  ⟨W_compress P c p s, by
    rw [compactAt_eq _ _ _ _ _ h, compactAt_eq _ _ _ _ _ h]
    exact compactCore_balanced c.lt p 0 s.levels lvl srt _⟩

/-! ### policy: the compaction of a KLL update on a full sketch is one step of the generic mechanism -/

/-- the compaction done by `compress_while_updating` IS the micro-operation `compact lvl srt up` of the mechanism
(C08_Mechanism), with `lvl`, `srt`, `up` determined by the shape (and the level-0-sorted flag) only -/
theorem kll_schedule (P : Params) (c : Cmp α) (s : Sketch α) (coin : Bool)
    (hl : findLevel P s.k s.levels.length s.levels 0 < s.levels.length) (x : α) :
    let lvl := findLevel P s.k s.levels.length s.levels 0
    let up := ((extTop s.levels lvl).getD (lvl + 1) []).isEmpty
    (push (compress P c s coin) x).levels =
      mrun c.lt s.levels [.compact lvl (lvl == 0 && !s.sorted0) up, .add x] [coin] := by
  intro lvl up
  rw [compress_eq P c s coin rfl hl]
  rfl

/-- Let `F` be the (outcome independent) number of flips of the history.  For every sketch `i` and
every predicate `p`, the weight of the retained items satisfying `p`, summed over ALL 2^F coin vectors, equals 2^F times
the number of accepted items satisfying `p`: the estimated rank numerator is unbiased, for every merge tree. -/
theorem kll_unbiased {P : Params} (ok : ParamsOk P) {c : Cmp α} (sw : StrictWeak c.lt) (p : α → Bool) (ops : List (Op α)) (i : Nat) :
    ((allVecs (CT.depthLeft (runT P c ops []))).map
        (fun v => valAt p i (reach P c ops { bits := v, used := 0 }))).sum
      = 2 ^ CT.depthLeft (runT P c ops []) * cntAt p i (truth P c ops []) := by
  have hu := (flips_shape_only P c ops).1
  rw [cntAt_eq, ← CT.Mean.sum hu (runT_mean ok sw p ops i), CT.Uniform.sum_eq_allVecs (atD (W p) i) hu]
  simp only [valAt_eq]; rfl

/-- the same for ranks: `p` = "≤ y" (inclusive) resp. "< y" (exclusive); the left side is the sum over all coin vectors
of the rank numerator reported by `get_sorted_view` / `get_rank` (C07 `view_of_sketch`) -/
theorem kll_rank_unbiased {P : Params} (ok : ParamsOk P) {c : Cmp α} (sw : StrictWeak c.lt) (ops : List (Op α)) (i : Nat)
    (y : α) (incl : Bool) :
    ((allVecs (CT.depthLeft (runT P c ops []))).map (fun v =>
        match (reach P c ops { bits := v, used := 0 })[i]? with
        | some s => rankNum c.lt (getSortedView c s).2 y incl
        | none => 0)).sum
      = 2 ^ CT.depthLeft (runT P c ops []) * cntAt (isBelow c.lt y incl) i (truth P c ops []) := by
  rw [← kll_unbiased ok sw (isBelow c.lt y incl) ops i]
  congr 1
  apply List.map_congr_left
  intro v _
  unfold valAt
  cases h : (reach P c ops { bits := v, used := 0 })[i]? with
  | none => rfl
  | some s =>
    obtain ⟨hi, _⟩ := reach_get ok sw ops _ h
    exact ((view_props sw hi).2.2 y incl)

/-! ### a concrete instance: two k=8 sketches, 4 and 20 updates, merge (3 flips, 8 coin vectors) -/

def exOps : List (Op Int) :=
  [.new 8, .new 8] ++ (List.range 4).map (fun (i : Nat) => Op.upd 0 (100 - (i : Int))) ++
  (List.range 20).map (fun (i : Nat) => Op.upd 1 (200 - (i : Int))) ++ [.merge 0 1]

example : CT.depthLeft (runT genParams intCmp exOps []) = 3 ∧ CT.leaves (runT genParams intCmp exOps []) = 8 := by
  decide +kernel

/-- the eight outcomes give weights below 190 of 16,16,14,14,14,14,12,12 (in some order): sum 112 = 8 · 14 -/
example : ((allVecs 3).map (fun v => valAt (isBelow intCmp.lt 190 true) 0 (reach genParams intCmp exOps { bits := v, used := 0 }))).sum = 112 ∧
    cntAt (isBelow intCmp.lt 190 true) 0 (truth genParams intCmp exOps []) = 14 := by
  decide +kernel

end DS.Kll
