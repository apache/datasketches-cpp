/- C19, theta table: the specs of `consolidate_non_empty` and `std::nth_element`, the first two steps of `rebuild`. -/
import DSProofs.Lemmas.LifeThetaMigrate
import DSProofs.Lemmas.LifeSort
namespace DS.Life.Theta
open DS.Life

/-- the state `consolidate_non_empty` establishes -/
structure Packed (h : Heap) (b size num : Nat) : Prop where
  cells : HasCells h b size
  le : num ≤ size
  front : ∀ i, i < num → wordAt h b i ≠ 0 ∧ ∃ v, stAt h b i = .live v
  back : ∀ i, num ≤ i → i < size → wordAt h b i = 0 ∧ stAt h b i = .raw
  dist : Distinct h b size

theorem firstEmpty_spec (S : Nat → Bool) (h : Heap) (b size : Nat) (hc : HasCells h b size) :
    ∀ fuel i, fuel + i = size → (∀ j, j < i → wordAt h b j ≠ 0) →
      SafeF S h (firstEmpty b fuel i h)
        (fun r h' => h' = h ∧ r ≤ size ∧ (∀ j, j < r → wordAt h b j ≠ 0) ∧ (r < size → wordAt h b r = 0)) := by
  intro fuel
  induction fuel with
  | zero =>
    intro i hi hnz
    exact SafeF.pure ⟨rfl, Nat.le_of_eq (fuel_zero hi), hnz, fun hlt => absurd (fuel_zero hi) (Nat.ne_of_lt hlt)⟩
  | succ f ih =>
    intro i hi hnz
    unfold firstEmpty
    apply vstep_readWord hc (fuel_lt hi)
    by_cases hw : wordAt h b i = 0
    · rw [if_pos hw]
      exact SafeF.pure ⟨rfl, Nat.le_of_lt (fuel_lt hi), hnz, fun _ => hw⟩
    · rw [if_neg hw]
      exact ih (i + 1) (fuel_succ hi) fun j hj => (Nat.lt_succ_iff_lt_or_eq.mp hj).elim (hnz j) (· ▸ hw)

/-- loop invariant of the second loop of `consolidate_non_empty`; `ids` is carried along only to be returned: the loop does not
    change the list of blocks -/
structure ConsInv (h : Heap) (b size total i j : Nat) (ids : List Nat) : Prop where
  cells : HasCells h b size
  ij : i < j
  js : j ≤ size
  front : ∀ p, p < i → wordAt h b p ≠ 0 ∧ ∃ v, stAt h b p = .live v
  gap : ∀ p, i ≤ p → p < j → wordAt h b p = 0 ∧ stAt h b p = .raw
  rest : ∀ p, j ≤ p → p < size → SlotOK h b p
  dist : Distinct h b size
  count : cnt (nz h b) size = total
  ids : h.ids = ids

theorem ConsInv.packed {h : Heap} {b size total i j : Nat} {ids : List Nat} (inv : ConsInv h b size total i j ids)
    (hstop : j = size ∨ i = total) : Packed h b size total := by
  -- `i` keys in front of the fill position, none in the gap
  have hcj : cnt (nz h b) j = i := by
    rw [cnt_all_false (Nat.le_of_lt inv.ij) fun p h1 h2 => by simp [nz, (inv.gap p h1 h2).1]]
    exact cnt_full fun p hp => by simp [nz, (inv.front p hp).1]
  -- and none from the scan position on: the scan is at the end, or all `total` keys are in front
  have hsj : cnt (nz h b) size = cnt (nz h b) j :=
    hstop.elim (fun hj => congrArg _ hj.symm) fun hi => inv.count.trans (hi.symm.trans hcj.symm)
  obtain rfl : i = total := hcj.symm.trans (hsj.symm.trans inv.count)
  refine ⟨inv.cells, Nat.le_trans (Nat.le_of_lt inv.ij) inv.js, inv.front, fun p h1 h2 => ?_, inv.dist⟩
  by_cases hpj : p < j
  · exact inv.gap p h1 hpj
  · have hw : wordAt h b p = 0 := by simpa [nz] using cnt_eq_imp_false hsj p (Nat.le_of_not_lt hpj) h2
    exact ⟨hw, (inv.rest p (Nat.le_of_not_lt hpj) h2).raw_of_eq hw⟩

theorem ConsInv.skip {h : Heap} {b size total i j : Nat} {ids : List Nat} (inv : ConsInv h b size total i j ids)
    (hjs : j < size) (hk : wordAt h b j = 0) (hr : stAt h b j = .raw) : ConsInv h b size total i (j + 1) ids :=
  ⟨inv.cells, Nat.lt_succ_of_lt inv.ij, hjs, inv.front,
    fun p h1 h2 => (Nat.lt_succ_iff_lt_or_eq.mp h2).elim (inv.gap p h1) fun e => e ▸ ⟨hk, hr⟩,
    fun p h1 h2 => inv.rest p (Nat.le_of_succ_le h1) h2, inv.dist, inv.count, inv.ids⟩

theorem ConsInv.step {h h' : Heap} {b size total i j v : Nat} {ids : List Nat} (inv : ConsInv h b size total i j ids)
    (hjs : j < size) (hk : wordAt h b j ≠ 0) (sb : SameBut h h' (fun b' q => (b' = b ∧ q = j) ∨ (b' = b ∧ q = i)))
    (hwi : wordAt h' b i = wordAt h b j) (hsi : stAt h' b i = .live v) (hwj : wordAt h' b j = 0)
    (hsj : stAt h' b j = .raw) : ConsInv h' b size total (i + 1) (j + 1) ids := by
  have hij : i < j := inv.ij
  have hwo : ∀ q, q ≠ i → q ≠ j → wordAt h' b q = wordAt h b q := fun q h1 h2 => sb.word b q (not_two_cells_of_index h2 h1)
  have hso : ∀ q, q ≠ i → q ≠ j → stAt h' b q = stAt h b q := fun q h1 h2 => sb.st b q (not_two_cells_of_index h2 h1)
  refine ⟨sb.cells _ _ inv.cells, Nat.succ_lt_succ hij, hjs, fun p hp => ?_, fun p h1 h2 => ?_, fun p h1 h2 => ?_,
    fun p q hp hq heq hne => ?_, ?_, sb.ids.trans inv.ids⟩
  · rcases Nat.lt_succ_iff_lt_or_eq.mp hp with hlt | rfl
    · have hpj := Nat.ne_of_lt (Nat.lt_trans hlt hij)
      rw [hwo p (Nat.ne_of_lt hlt) hpj, hso p (Nat.ne_of_lt hlt) hpj]
      exact inv.front p hlt
    · exact ⟨hwi ▸ hk, v, hsi⟩
  · rcases Nat.lt_succ_iff_lt_or_eq.mp h2 with hlt | rfl
    · rw [hwo p (Nat.ne_of_gt h1) (Nat.ne_of_lt hlt), hso p (Nat.ne_of_gt h1) (Nat.ne_of_lt hlt)]
      exact inv.gap p (Nat.le_of_succ_le h1) hlt
    · exact ⟨hwj, hsj⟩
  · have hpi := Nat.ne_of_gt (Nat.lt_trans hij h1)
    exact (inv.rest p (Nat.le_of_succ_le h1) h2).of_views (hwo p hpi (Nat.ne_of_gt h1)) (hso p hpi (Nat.ne_of_gt h1))
  · -- keys: `i` has the old key of `j`, `j` has 0, the others are unchanged
    have hpj : p ≠ j := fun e => hne (e ▸ hwj)
    have hqj : q ≠ j := fun e => hne (heq.trans (e ▸ hwj))
    by_cases hpi : p = i <;> by_cases hqi : q = i
    · rw [hpi, hqi]
    · subst hpi
      rw [hwi, hwo q hqi hqj] at heq
      exact absurd (inv.dist j q hjs hq heq hk).symm hqj
    · subst hqi
      rw [hwi, hwo p hpi hpj] at heq
      exact absurd (inv.dist p j hp hjs heq (heq ▸ hk)) hpj
    · rw [hwo p hpi hpj] at heq hne
      rw [hwo q hqi hqj] at heq
      exact inv.dist p q hp hq heq hne
  · -- the count is unchanged: one index turned non-zero, another zero
    have h1 : cnt (fun q => if q = i then true else nz h b q) size = cnt (nz h b) size + 1 :=
      cnt_set_true (Nat.lt_trans hij hjs) (by simp [nz, (inv.gap i (Nat.le_refl i) hij).1]) (by simp) fun q hq => by simp [hq]
    have h2 : cnt (nz h' b) size + 1 = cnt (fun q => if q = i then true else nz h b q) size := by
      refine cnt_set_false hjs (by simp [Nat.ne_of_gt hij, nz, hk]) (by simp [nz, hwj]) fun q hq => ?_
      by_cases hqi : q = i
      · subst hqi; simp [nz, hwi, hk]
      · simp [hqi, nz, hwo q hqi hq]
    exact Nat.add_right_cancel (h2.trans (h1.trans (congrArg (· + 1) inv.count)))

theorem consolidateLoop_spec (S : Nat → Bool) (b size num : Nat) (ids : List Nat) (hS : S b = true) :
    ∀ fuel j i h, fuel + j = size → ConsInv h b size num i j ids →
      SafeF S h (consolidateLoop b num fuel j i h) (fun _ h' => Packed h' b size num ∧ h'.ids = ids) := by
  intro fuel
  induction fuel with
  | zero => exact fun j i h hj inv => SafeF.pure ⟨inv.packed (Or.inl (fuel_zero hj)), inv.ids⟩
  | succ f ih =>
    intro j i h hj inv
    unfold consolidateLoop
    have hjs : j < size := fuel_lt hj
    refine vstep_ifKey inv.cells hjs (inv.rest j (Nat.le_refl j) hjs) (fun v hk hv => ?_)
      fun hk hr => ih (j + 1) i h (fuel_succ hj) (inv.skip hjs hk hr)
    apply vstep_moveEntry inv.cells hjs hv inv.cells (Nat.lt_trans inv.ij hjs) (inv.gap i (Nat.le_refl i) inv.ij).2 hS hS
    intro h2 sb2 hwd hsd _ hs2
    apply vstep_writeWord 0 (sb2.cells _ _ inv.cells) hjs hS
    intro h3 sb3 hw3 hs3
    have hne : ¬ (b = b ∧ i = j) := fun x => Nat.ne_of_lt inv.ij x.2
    have inv3 := inv.step hjs hk (sb2.trans sb3 (fun _ _ => id) fun _ _ => Or.inl)
      ((sb3.word b i hne).trans hwd) ((sb3.st b i hne).trans hsd) hw3 (hs3.trans hs2)
    by_cases hbreak : i + 1 = num
    · rw [if_pos hbreak]
      exact SafeF.pure ⟨inv3.packed (Or.inr hbreak), inv3.ids⟩
    · rw [if_neg hbreak]
      exact ih (j + 1) (i + 1) h3 (fuel_succ hj) inv3

theorem consolidate_spec (n0 : Nat) (S : Nat → Bool) (b size num : Nat) (ids : List Nat) (hS : S b = true) :
    TripleS n0 S (fun h => SlotsOK h b size ∧ Distinct h b size ∧ cnt (nz h b) size = num ∧ h.ids = ids)
      (consolidate b size num) (fun _ h' => Packed h' b size num ∧ h'.ids = ids) := by
  intro h0 hn ⟨hs, hd, hcnt, hid⟩
  unfold consolidate
  refine SafeF.bind (firstEmpty_spec S h0 b size hs.cells size 0 rfl nofun) ?_
  rintro r h ⟨rfl, hle, hnz, hz⟩ _
  have hlive : ∀ p, p < r → wordAt h b p ≠ 0 ∧ ∃ v, stAt h b p = .live v := fun p hp =>
    ⟨hnz p hp, (hs.ok p (Nat.lt_of_lt_of_le hp hle)).live_of_ne (hnz p hp)⟩
  rcases Nat.lt_or_eq_of_le hle with hrlt | rfl
  · refine consolidateLoop_spec S b size num ids hS (size - (r + 1)) (r + 1) r h (Nat.sub_add_cancel hrlt)
      ⟨hs.cells, Nat.lt_succ_self r, hrlt, hlive, fun p h1 h2 => ?_, fun p _ => hs.ok p, hd, hcnt, hid⟩
    rw [Nat.le_antisymm (Nat.le_of_lt_succ h2) h1]
    exact ⟨hz hrlt, (hs.ok r hrlt).raw_of_eq (hz hrlt)⟩
  · -- no empty slot at all: the table is full and already packed
    obtain rfl : num = r := hcnt.symm.trans (cnt_full fun p hp => by simp [nz, hnz p hp])
    rw [Nat.sub_eq_zero_of_le (Nat.le_succ num)]
    exact SafeF.pure ⟨⟨hs.cells, Nat.le_refl _, hlive, fun i h1 h2 => absurd h2 (Nat.not_lt_of_le h1), hd⟩, hid⟩

theorem vstep_nthElement {β} {S : Nat → Bool} {h : Heap} {b size num : Nat} {f : Unit → M β} {Q : β → Heap → Prop}
    (pk : Packed h b size num) (hS : S b = true)
    (s : ∀ h', Packed h' b size num → SameBut h h' (fun b' _ => b' = b) → SafeF S h' (f () h') Q) :
    SafeF S h ((nthElement b num >>= f) h) Q := by
  obtain ⟨B, hf, hlen⟩ := find?_of_count? pk.cells
  have hle : num ≤ B.cells.length := hlen ▸ pk.le
  -- the range that is sorted, as list elements and as cells of the heap
  have htake : ∀ j (hj : j < (B.cells.take num).length), j < num ∧ h.cell? b j = some (B.cells.take num)[j] := fun j hj =>
    have hjn := Nat.lt_of_lt_of_le hj (List.length_take_le ..)
    ⟨hjn, (cell?_of_find? hf j).trans ((List.getElem?_take_of_lt hjn).symm.trans (List.getElem?_eq_getElem hj))⟩
  have hall : (B.cells.take num).all (fun c => match c.st with | .live _ => true | _ => false) = true := by
    rw [List.all_eq_true]
    intro c hc
    obtain ⟨j, hj, rfl⟩ := List.getElem_of_mem hc
    obtain ⟨_, v, hv⟩ := pk.front j (htake j hj).1
    rw [← stAt_of (htake j hj).2, hv]
  have hrun : nthElement b num h = .ok ((), h.setCells b
      ((B.cells.take num).mergeSort (fun x y => decide (x.word ≤ y.word)) ++ B.cells.drop num)) := by
    unfold nthElement
    simp only [hf]
    rw [if_pos ⟨hle, hall⟩]
  have hperm := List.mergeSort_perm (B.cells.take num) (fun x y => decide (x.word ≤ y.word))
  generalize (B.cells.take num).mergeSort (fun x y => decide (x.word ≤ y.word)) = seg' at hrun hperm
  obtain ⟨sb, src⟩ := setCells_permSeg (lo := 0) (n := num) hf ((Nat.zero_add num).symm ▸ hle) hperm
    (cs := seg' ++ B.cells.drop num) (by rw [Nat.zero_add]; rfl)
  rw [Nat.zero_add] at sb src
  have hback : ∀ i, num ≤ i → wordAt (h.setCells b (seg' ++ B.cells.drop num)) b i = wordAt h b i ∧
      stAt (h.setCells b (seg' ++ B.cells.drop num)) b i = stAt h b i := fun i hi =>
    ⟨sb.word b i fun x => Nat.not_lt_of_le hi x.2.2, sb.st b i fun x => Nat.not_lt_of_le hi x.2.2⟩
  refine SafeF.bind_ok hrun (Frame_setCells S h b _ hS) (s _ ⟨sb.cells _ _ pk.cells, pk.le, fun i hi => ?_, fun i h1' h2 => ?_,
    fun p q hp hq heq hne => ?_⟩ (sb.mono fun _ _ x => x.1))
  · obtain ⟨k, _, hk, e⟩ := src i (Nat.zero_le i) hi
    rw [(views_of_cell?_eq e).1, (views_of_cell?_eq e).2]
    exact pk.front k hk
  · rw [(hback i h1').1, (hback i h1').2]
    exact pk.back i h1' h2
  · -- keys can only meet in the front, whose keys are those of the old front in another order
    have hl : seg'.length = num := hperm.length_eq.trans ((List.length_take ..).trans (Nat.min_eq_left hle))
    have hfront : ∀ r, r < size → wordAt (h.setCells b (seg' ++ B.cells.drop num)) b r ≠ 0 →
        ∃ hr : r < seg'.length, wordAt (h.setCells b (seg' ++ B.cells.drop num)) b r = seg'[r].word := fun r hr hne =>
      have hrn : r < seg'.length := hl ▸ Decidable.by_contra fun hrn =>
        hne ((hback r (Nat.le_of_not_lt hrn)).1.trans (pk.back r (Nat.le_of_not_lt hrn) hr).1)
      ⟨hrn, wordAt_of (by rw [cell?_setCells hf, if_pos rfl, List.getElem?_append_left hrn, List.getElem?_eq_getElem])⟩
    obtain ⟨hpn, ep⟩ := hfront p hp hne
    obtain ⟨hqn, eq⟩ := hfront q hq (heq ▸ hne)
    refine perm_key_inj (fun c : Cell => c.word) hperm (fun i j hi hj e => ?_) hpn hqn (ep.symm.trans (heq.trans eq))
    refine pk.dist i j (Nat.lt_of_lt_of_le (htake i hi).1 pk.le) (Nat.lt_of_lt_of_le (htake j hj).1 pk.le) ?_
      (pk.front i (htake i hi).1).1
    rw [wordAt_of (htake i hi).2, wordAt_of (htake j hj).2]
    exact e

end DS.Life.Theta
