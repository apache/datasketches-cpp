/- C19, theta table: what the table invariant depends on (`TableAt.of_views` and its instances), a new empty table
   (`vstep_newTable`), the insertion of one key (`TableAt.insert`), and the migration of the entries into a new block that
   `resize` and `rebuild` share (`MoveInv`, `vstep_migrate`). -/
import DSProofs.Lemmas.LifeTheta
namespace DS.Life.Theta
open DS.Life

theorem TableAt.copyOf {P : Params} {h h' : Heap} {ob nb lg num : Nat} (ht : TableAt P h ob lg num)
    (hw : ∀ j, j < 2 ^ lg → wordAt h' nb j = wordAt h ob j) (hs : SlotsOK h' nb (2 ^ lg)) : TableAt P h' nb lg num := by
  refine ⟨hs, ?_, ?_⟩
  · intro p hp hne
    rw [hw p hp] at hne ⊢
    obtain ⟨j, ej, hj⟩ := ht.path p hp hne
    refine ⟨j, ej, fun j' hj' => ?_⟩
    rw [hw _ (probe_lt P lg _ j')]
    exact hj j' hj'
  · rw [ht.count]
    apply cnt_congr
    intro i hi
    simp [nz, hw i hi]

/-- the invariant only depends on the keys and on which slots are live -/
theorem TableAt.of_views {P : Params} {h h' : Heap} {b lg num : Nat} (ht : TableAt P h b lg num)
    (hc : HasCells h' b (2 ^ lg)) (hlt : b < h'.next)
    (hw : ∀ j, wordAt h' b j = wordAt h b j)
    (hs : ∀ j, j < 2 ^ lg → stAt h' b j = stAt h b j ∨ ((∃ v, stAt h b j = .live v) ∧ ∃ v', stAt h' b j = .live v')) :
    TableAt P h' b lg num := by
  refine ht.copyOf (fun j _ => hw j) ⟨hc, hlt, fun i hi => ?_⟩
  rcases hs i hi with e | ⟨⟨v, hv⟩, hv'⟩
  · exact (ht.slots.ok i hi).of_views (hw i) e
  · refine Or.inr ⟨hw i ▸ fun hz => ?_, hv'⟩
    rw [(ht.slots.ok i hi).raw_of_eq hz] at hv
    cases hv

theorem TableAt.other {P : Params} {h h' : Heap} {b lg num : Nat} {X : Nat → Nat → Prop}
    (ht : TableAt P h b lg num) (sb : SameBut h h' X) (hx : ∀ j, ¬ X b j) : TableAt P h' b lg num :=
  ht.of_views (sb.cells _ _ ht.slots.cells) (sb.next ▸ ht.slots.lt) (fun j => sb.word b j (hx j))
    (fun j _ => Or.inl (sb.st b j (hx j)))

theorem TableAt.local {P : Params} {h h' : Heap} {b lg num : Nat} (e : h'.find? b = h.find? b) (hn : h.next ≤ h'.next)
    (ht : TableAt P h b lg num) : TableAt P h' b lg num :=
  ht.of_views (HasCells_congr e ht.slots.cells) (Nat.lt_of_lt_of_le ht.slots.lt hn) (wordAt_congr e)
    (fun j _ => Or.inl (stAt_congr e j))

theorem vstep_newTable {β} (P : Params) {S : Nat → Bool} {h : Heap} {lg : Nat} {f : Nat → M β} {Q : β → Heap → Prop}
    (hS : S h.next = true)
    (s : ∀ h', TableAt P h' h.next lg 0 →
          (∀ b j, b ≠ h.next → wordAt h' b j = wordAt h b j ∧ stAt h' b j = stAt h b j) →
          (∀ b m, b ≠ h.next → HasCells h b m → HasCells h' b m) →
          h'.ids = h.next :: h.ids → h'.next = h.next + 1 → SafeF S h' (f h.next h') Q) :
    SafeF S h ((alloc .entry (2 ^ lg) >>= fun nb => zeroKeys nb (2 ^ lg) >>= fun _ => f nb) h) Q := by
  apply astep_alloc _ _ hS
  intro h1 A
  unfold zeroKeys
  refine vloop_cells' (b := h.next) (Post := fun _ w s => s = .raw ∧ w = 0) (Nat.zero_le _) (fun i h2 _ hi sb _ hs => ?_)
    fun h2 sb hz => ?_
  · apply SafeF.last
    apply vstep_writeWord 0 (sb.cells _ _ A.raw.cells) hi hS
    exact fun h3 sb3 hw hs3 => SafeF.pure ⟨sb3, hs3.trans (hs.trans (A.raw.raw i)), hw⟩
  · exact s h2 (.empty P (sb.cells _ _ A.raw.cells) (sb.next ▸ A.next ▸ Nat.lt_succ_self _) fun i hi => hz i (Nat.zero_le i) hi)
      (fun b j hb => ⟨(sb.word b j fun x => hb x.1).trans (wordAt_congr (A.out b hb) j),
        (sb.st b j fun x => hb x.1).trans (stAt_congr (A.out b hb) j)⟩)
      (fun b m hb hc => sb.cells _ _ (HasCells_congr (A.out b hb) hc)) (sb.ids.trans A.ids) (sb.next.trans A.next)

theorem TableAt.insert {P : Params} {h h' : Heap} {b lg num idx key v : Nat}
    {X : Nat → Nat → Prop} (ht : TableAt P h b lg num) (sb : SameBut h h' X) (hX : ∀ j, X b j → j = idx) (hi : idx < 2 ^ lg)
    (h0 : wordAt h b idx = 0) (hk : key ≠ 0) (hpath : PathTo P h b lg key idx)
    (hw : wordAt h' b idx = key) (hst : stAt h' b idx = .live v) : TableAt P h' b lg (num + 1) := by
  have hwo : ∀ j, j ≠ idx → wordAt h' b j = wordAt h b j := fun j hj => sb.word b j fun x => hj (hX j x)
  -- a probe path over non-empty slots does not meet the empty slot `idx`: it is a path of `h'` as well
  have keep : ∀ key' j, (∀ j', j' < j → wordAt h b (probe P lg key' j') ≠ 0 ∧ wordAt h b (probe P lg key' j') ≠ key') →
      ∀ j', j' < j → wordAt h' b (probe P lg key' j') ≠ 0 ∧ wordAt h' b (probe P lg key' j') ≠ key' := by
    intro key' j hj j' hj'
    rw [hwo _ fun e => (hj j' hj').1 ((congrArg _ e).trans h0)]
    exact hj j' hj'
  refine ⟨⟨sb.cells _ _ ht.slots.cells, sb.next ▸ ht.slots.lt, fun i hi' => ?_⟩, fun p hp hne => ?_, ?_⟩
  · by_cases hii : i = idx
    · exact hii ▸ Or.inr ⟨hw ▸ hk, v, hst⟩
    · exact (ht.slots.ok i hi').of_views (hwo i hii) (sb.st b i fun x => hii (hX i x))
  · by_cases hpi : p = idx
    · subst hpi
      rw [hw]
      exact hpath.imp fun j x => ⟨x.1, keep key j x.2⟩
    · rw [hwo p hpi] at hne ⊢
      exact (ht.path p hp hne).imp fun j x => ⟨x.1, keep _ j x.2⟩
  · rw [ht.count]
    exact (cnt_set_true hi (by simp [nz, h0]) (by simp [nz, hw, hk]) fun i hii => by simp [nz, hwo i hii]).symm

/-- the new table `nb` while `resize` / `rebuild` move the entries of the old block over, after the old slots `[0, k)`
    have been dealt with; `w0` are the keys the old block had when the loop started -/
structure MoveInv (P : Params) (w0 : Nat → Nat) (h : Heap) (nb lg k : Nat) : Prop where
  tbl : TableAt P h nb lg (cnt (fun i => w0 i != 0) k)
  src : ∀ p, p < 2 ^ lg → wordAt h nb p ≠ 0 → ∃ q, q < k ∧ w0 q = wordAt h nb p

theorem MoveInv.init {P : Params} {w0 : Nat → Nat} {h : Heap} {nb lg : Nat} (ht : TableAt P h nb lg 0) : MoveInv P w0 h nb lg 0 :=
  ⟨ht, fun p hp hne => absurd (by simpa [nz] using cnt_eq_zero_imp ht.count.symm p hp) hne⟩

theorem MoveInv.skip {P : Params} {w0 : Nat → Nat} {h : Heap} {nb lg k : Nat} (mi : MoveInv P w0 h nb lg k)
    (hk : w0 k = 0) : MoveInv P w0 h nb lg (k + 1) := by
  refine ⟨?_, fun p hp hne => (mi.src p hp hne).imp fun q x => ⟨Nat.lt_succ_of_lt x.1, x.2⟩⟩
  have : cnt (fun i => w0 i != 0) (k + 1) = cnt (fun i => w0 i != 0) k := by simp [cnt, hk]
  rw [this]
  exact mi.tbl

theorem MoveInv.other {P : Params} {w0 : Nat → Nat} {h h' : Heap} {nb lg k : Nat} {X : Nat → Nat → Prop}
    (mi : MoveInv P w0 h nb lg k) (sb : SameBut h h' X) (hx : ∀ j, ¬ X nb j) : MoveInv P w0 h' nb lg k :=
  ⟨mi.tbl.other sb hx, fun p hp hne => by rw [sb.word nb p (hx p)] at hne ⊢; exact mi.src p hp hne⟩

/-- `hd` is `Distinct` of the old block as it was when the loop started (`w0` are its keys then): the key of old slot `i` is not
    in the new table yet, so `find` returns an empty slot -/
theorem vstep_migrate {β} (P : Params) {S : Nat → Bool} {h : Heap} {w0 : Nat → Nat} {b n i nb lg v : Nat}
    {f : Unit → M β} {Q : β → Heap → Prop}
    (mi : MoveInv P w0 h nb lg i) (hd : ∀ p q, p < n → q < n → w0 p = w0 q → w0 p ≠ 0 → p = q)
    (hc : HasCells h b n) (hi : i < n) (hne : nb ≠ b) (hw : wordAt h b i = w0 i) (hk : w0 i ≠ 0)
    (hl : stAt h b i = .live v) (hSb : S b = true) (hSn : S nb = true)
    (s : ∀ h', SameBut h h' (fun b' j => (b' = b ∧ j = i) ∨ b' = nb) → MoveInv P w0 h' nb lg (i + 1) →
          wordAt h' b i = w0 i → stAt h' b i = .raw → SafeF S h' (f () h') Q) :
    SafeF S h ((find P nb lg (wordAt h b i) >>= fun r =>
                 (moveConstructEntry b i nb r.1 >>= fun _ => (destroy b i >>= f))) h) Q := by
  have hnk : ∀ p, p < 2 ^ lg → wordAt h nb p ≠ w0 i := by
    intro p hp e
    obtain ⟨q, hq, eq⟩ := mi.src p hp (e ▸ hk)
    exact Nat.ne_of_lt hq (hd q i (Nat.lt_trans hq hi) hi (eq.trans e) (eq.trans e ▸ hk))
  rw [hw]
  apply vstep_find mi.tbl.slots.cells
  intro r ⟨hlt, hcase⟩
  rcases hcase with ⟨_, hfound⟩ | ⟨_, h0, hpath⟩
  · exact absurd hfound (hnk r.1 hlt)
  · have hraw := (mi.tbl.slots.ok r.1 hlt).raw_of_eq h0
    apply vstep_moveEntry hc hi hl mi.tbl.slots.cells hlt hraw hSb hSn
    intro h3 sb23 hwd hsd hws hs3
    have hwn : wordAt h3 nb r.1 = w0 i := hwd.trans hw
    have ht3 := TableAt.insert mi.tbl sb23 (fun j x => x.elim (fun y => absurd y.1 hne) (·.2)) hlt h0 hk hpath hwn hsd
    refine s h3 (sb23.mono fun _ _ x => x.imp id (·.1)) ⟨?_, ?_⟩ (hws.trans hw) hs3
    · have : cnt (fun i => w0 i != 0) (i + 1) = cnt (fun i => w0 i != 0) i + 1 := by simp [cnt, hk]
      rw [this]
      exact ht3
    · intro p hp hnz
      by_cases hpr : p = r.1
      · exact ⟨i, Nat.lt_succ_self i, by rw [hpr, hwn]⟩
      · have e : wordAt h3 nb p = wordAt h nb p :=
          sb23.word nb p (fun x => x.elim (fun y => hne y.1) (fun y => hpr y.2))
        obtain ⟨q, hq, eq⟩ := mi.src p hp (e ▸ hnz)
        exact ⟨q, Nat.lt_succ_of_lt hq, eq.trans e.symm⟩

end DS.Life.Theta
