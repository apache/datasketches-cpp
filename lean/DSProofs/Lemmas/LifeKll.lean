/- C19, KLL sketch: the module that gathers the KLL lifetime contracts for `LifeSpecAll`. -/
import DSProofs.Lemmas.LifeKllMergeHigher
import DSProofs.Lemmas.LifeKllQuery
namespace DS.Life.Kll

/-- `Params.OK` at DEFAULT_M = 8, MIN_K = 8, MAX_K = 65535 written out; the world-level results rest on
    `life_generated_tunables_ok` (Props/C19) instead, which checks the generated constants of `DSGen/Life.lean` -/
theorem Params.OK_default (rs : Bool) : Params.OK ⟨8, 8, 65535, rs⟩ := by unfold Params.OK; simp only; decide

end DS.Life.Kll
