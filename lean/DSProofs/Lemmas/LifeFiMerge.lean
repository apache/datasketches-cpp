/- C19 / FI: `merge(const&)` and `merge(&&)`; the latter needs the odd stride, otherwise the range-for could visit a
   slot twice and move from a moved-from key. -/
import DSProofs.Lemmas.LifeFiIter
import DSProofs.Lemmas.LifeFiResize
namespace DS.Life.Fi
open DS.Life

theorem merge_copy_spec (P : Params) (hP : P.OK) (n0 : Nat) (S : Nat → Bool) (hS : ∀ b, n0 ≤ b → S b = true) (s o : Sketch)
    (hSo : ∀ b, b ∈ owned s.map → S b = true) (h0 : Heap) :
    TripleS n0 S
      (fun h => h = h0 ∧ Usable P h s.map ∧ Usable P h o.map ∧ (∀ b, b ∈ owned s.map → b ∉ owned o.map) ∧ IdsLt h)
      (Sketch.merge P s o false)
      (fun s' h' => Usable P h' s'.map ∧ Usable P h' o.map ∧ Grown h0 h' (owned s.map) (owned s'.map) []) := by
  intro h hn ⟨he, hus, huo, hdis, hlt⟩
  subst he
  unfold Sketch.merge
  have g0 : Grown h h (owned s.map) (owned s.map) [] :=
    Grown.refl hlt (fun b hb => (hus.inv.owned_ids b hb).1)
  by_cases hz : o.map.numActive = 0
  · rw [if_pos hz]
    exact SafeF.pure ⟨hus, huo, g0⟩
  · rw [if_neg hz]
    obtain ⟨ok, ov, os, hok, hov, hos, hoo, T, hc⟩ := Usable.ptrs huo
    rw [hok, hov]
    apply step_deref
    apply step_deref
    have hoids := huo.inv.owned_ids
    let I : Nat → Sketch → Heap → Prop := fun _ acc hh =>
      Usable P hh acc.map ∧ Grown h hh (owned s.map) (owned acc.map) []
    -- the loop leaves the source's blocks alone
    have hfo : ∀ acc hh, I 0 acc hh → ∀ b, b ∈ owned o.map → hh.find? b = h.find? b := fun acc hh hi b hb =>
      hi.2.out b (fun hm => hdis b hm hb) List.not_mem_nil (hoids b hb).2
    have hosm : os ∈ owned o.map := hoo ▸ .tail _ (.tail _ (.head _))
    have hI : ∀ c acc hh, I c acc hh → HasCells hh os (2 ^ o.map.lgCur) ∧ act hh os = act h os := fun c acc hh hi =>
      ⟨HasCells_congr (hfo acc hh hi os hosm) T.cs, act_congr (hfo acc hh hi os hosm)⟩
    apply SafeF.bind (forEachActive_safe (S := S) P o.map os hos _ (act h os) I hI ?_ s h ⟨hus, g0⟩ hc)
    · intro s' h' hi' _
      apply SafeF.pure
      exact ⟨hi'.1, InvG.local (hfo s' h' hi') hi'.2.next huo, hi'.2⟩
    · intro c acc hh idx _ hi hidx hact
      obtain ⟨T', ea⟩ := T.of_agree (fun b hb => hfo acc hh hi b (hoo ▸ hb)) hi.2.next
      rw [← ea] at hact
      obtain ⟨hua, ga⟩ := hi
      obtain ⟨cv, ecv⟩ := T'.cv.cell hidx
      apply step_readWord ecv
      simp only [Bool.false_eq_true, if_false]
      have hoko : ok ∈ owned o.map := hoo ▸ .head _
      -- the source keys are not among the target's blocks: those are the old ones or newer than the source
      have hoknot : ok ∉ owned acc.map := fun hm =>
        (ga.fresh _ hm).elim (fun e => hdis ok e hoko) (fun e => Nat.lt_irrefl _ (Nat.lt_of_lt_of_le (hoids ok hoko).2 e))
      have hsrc : SrcOK hh (owned acc.map) (.copyOf ok idx) :=
        ⟨hoknot, (T'.slot idx hidx List.not_mem_nil).live_of_pos (act_pos.1 hact)⟩
      have hSa : ∀ b, b ∈ owned acc.map ++ srcBlk (.copyOf ok idx) → S b = true := fun b hb =>
        (ga.fresh b ((List.mem_append.1 hb).elim id (fun e => absurd e List.not_mem_nil))).elim (hSo b)
          (fun e => hS b (Nat.le_trans hn e))
      refine SafeF.mono (update_spec P hP n0 S acc (.copyOf ok idx) cv.word hS hSa hh hh (Nat.le_trans hn ga.next)
        ⟨rfl, hua, hsrc, ga.lt, fun _ hb => nomatch hb⟩) ?_
      intro acc' hh' ⟨hua', g', _⟩
      exact ⟨hua', ga.trans g' hlt⟩

/-- invariant of the range-for of `merge(&&)` at position `t` of the orbit from `i0`: the target `acc` is usable and has grown
    as `Grown` says, the source's keys array `ok` exempt; that array keeps its size, its slots at positions not yet visited are
    as at the start, the others may have become moved-from -/
def MergeMoveInv (P : Params) (h : Heap) (s o : Sketch) (ok str : Nat) (i0 t : Nat) (acc : Sketch) (hh : Heap) : Prop :=
  Usable P hh acc.map ∧ Grown h hh (owned s.map) (owned acc.map) [ok] ∧ hh.count? ok = h.count? ok ∧
  (∀ t', t ≤ t' → t' < 2 ^ o.map.lgCur →
    stAt hh ok (pos i0 str (2 ^ o.map.lgCur) t') = stAt h ok (pos i0 str (2 ^ o.map.lgCur) t')) ∧
  (∀ j, stAt hh ok j = stAt h ok j ∨ (stAt hh ok j = .moved ∧ stAt h ok j ≠ .raw))

theorem merge_move_spec (P : Params) (hP : P.OK) (hodd : ∀ lg, P.strideOf lg % 2 = 1) (n0 : Nat) (S : Nat → Bool)
    (hS : ∀ b, n0 ≤ b → S b = true) (s o : Sketch) (hSo : ∀ b, b ∈ owned s.map ++ owned o.map → S b = true) (h0 : Heap) :
    TripleS n0 S
      (fun h => h = h0 ∧ Usable P h s.map ∧ Usable P h o.map ∧ (∀ b, b ∈ owned s.map → b ∉ owned o.map) ∧ IdsLt h)
      (Sketch.merge P s o true)
      (fun s' h' => Usable P h' s'.map ∧ Inv P h' o.map ∧ Grown h0 h' (owned s.map) (owned s'.map) (owned o.map)) := by
  intro h hn ⟨he, hus, huo, hdis, hlt⟩
  subst he
  unfold Sketch.merge
  have hsids := hus.inv.owned_ids
  have g00 : Grown h h (owned s.map) (owned s.map) (owned o.map) :=
    Grown.refl hlt (fun b hb => (hsids b hb).1)
  by_cases hz : o.map.numActive = 0
  · rw [if_pos hz]
    exact SafeF.pure ⟨hus, huo.inv, g00⟩
  · rw [if_neg hz]
    obtain ⟨ok, ov, os, hok, hov, hos, hoo, T, hc⟩ := Usable.ptrs huo
    rw [hok, hov]
    apply step_deref
    apply step_deref
    have hoids := huo.inv.owned_ids
    have hokm : ok ∈ owned o.map := hoo ▸ .head _
    have hovm : ov ∈ owned o.map := hoo ▸ .tail _ (.head _)
    have hosm : os ∈ owned o.map := hoo ▸ .tail _ (.tail _ (.head _))
    have hnots : ∀ b, b ∈ owned o.map → b ∉ owned s.map := fun b hb hm => hdis b hm hb
    have g0 : Grown h h (owned s.map) (owned s.map) [ok] :=
      Grown.refl hlt (fun b hb => (hsids b hb).1)
    -- the values / states arrays of the source are never touched
    have hfix : ∀ i0 t acc hh, MergeMoveInv P h s o ok (P.strideOf o.map.lgCur) i0 t acc hh →
        hh.find? ov = h.find? ov ∧ hh.find? os = h.find? os := by
      intro i0 t acc hh ⟨_, g, _⟩
      exact ⟨g.out ov (hnots ov hovm) (fun e => T.kv (List.mem_singleton.1 e).symm) (hoids ov hovm).2,
        g.out os (hnots os hosm) (fun e => T.ks (List.mem_singleton.1 e).symm) (hoids os hosm).2⟩
    have hinvo : ∀ i0 t acc hh, MergeMoveInv P h s o ok (P.strideOf o.map.lgCur) i0 t acc hh → Inv P hh o.map := by
      intro i0 t acc hh hmi
      obtain ⟨ev, es⟩ := hfix i0 t acc hh hmi
      obtain ⟨_, g, hcount, _, hmoved⟩ := hmi
      refine InvG.mk_some hok hov hos huo.lg huo.cap ?_ (by rw [act_congr es]; exact hc)
      refine { T with
        ck := by simpa only [HasCells, hcount] using T.ck
        cv := HasCells_congr ev T.cv
        cs := HasCells_congr es T.cs
        ltk := Nat.lt_of_lt_of_le T.ltk g.next
        ltv := Nat.lt_of_lt_of_le T.ltv g.next
        lts := Nat.lt_of_lt_of_le T.lts g.next
        rawv := fun j => (stAt_congr ev j).trans (T.rawv j)
        raws := fun j => (stAt_congr es j).trans (T.raws j)
        slot := fun j hj _ => ?_ }
      have hsl := T.slot j hj List.not_mem_nil
      rcases hmoved j with e | ⟨e, hne⟩
      · exact ((SlotOK_congr (wordAt_congr es j) e).2 hsl).weak
      · rcases hsl with ⟨_, hr⟩ | ⟨hw, _, _⟩
        · exact absurd hr hne
        · exact Or.inr ⟨by rw [wordAt_congr es]; exact hw, by rw [e]; simp, fun x => by cases x⟩
    apply SafeF.bind (forEachActive_walk (S := S) P o.map os hos _ (act h os)
      (MergeMoveInv P h s o ok (P.strideOf o.map.lgCur)) ?_ ?_ ?_ s h
      (fun i0 => ⟨hus, g0, rfl, fun _ _ _ => rfl, fun _ => Or.inl rfl⟩) hc)
    · intro s' h' ⟨i0, t, _, hmi⟩ _
      apply SafeF.pure
      refine ⟨hmi.1, hinvo i0 t s' h' hmi, ?_⟩
      obtain ⟨_, g, _⟩ := hmi
      exact g.weakenX (fun b e _ => List.mem_singleton.1 e ▸ hokm)
    · -- the invariant keeps the states array
      intro i0 t acc hh hmi
      obtain ⟨_, es⟩ := hfix i0 t acc hh hmi
      exact ⟨HasCells_congr es T.cs, act_congr es⟩
    · -- one `update(std::move(key), weight)`
      intro i0 t acc hh hi0 hct hact hmi
      have ht := walk_first_round (hodd _) i0 _ _ (hc ▸ hct)
      obtain ⟨ev, es⟩ := hfix i0 t acc hh hmi
      obtain ⟨hua, ga, hcount, hsame, hmoved⟩ := hmi
      have hidx := pos_lt i0 (P.strideOf o.map.lgCur) (Nat.two_pow_pos o.map.lgCur) t
      obtain ⟨cv, ecv⟩ := (HasCells_congr ev T.cv).cell hidx
      apply step_readWord ecv
      simp only [if_true]
      obtain ⟨x, hx⟩ := (T.slot _ hidx List.not_mem_nil).live_of_pos (act_pos.1 hact)
      have hoknot : ok ∉ owned acc.map := fun hm =>
        (ga.fresh _ hm).elim (fun e => hdis ok e hokm) (fun e => Nat.lt_irrefl _ (Nat.lt_of_lt_of_le (hoids ok hokm).2 e))
      have hsrc : SrcOK hh (owned acc.map) (.moveOf ok (pos i0 (P.strideOf o.map.lgCur) (2 ^ o.map.lgCur) t)) :=
        ⟨hoknot, x, by rw [hsame t (Nat.le_refl _) ht]; exact hx⟩
      have hSa : ∀ b, b ∈ owned acc.map ++ srcBlk (.moveOf ok (pos i0 (P.strideOf o.map.lgCur) (2 ^ o.map.lgCur) t)) →
          S b = true := by
        intro b hb
        rcases List.mem_append.1 hb with hb | hb
        · exact (ga.fresh b hb).elim (fun e => hSo b (List.mem_append_left _ e)) (fun e => hS b (Nat.le_trans hn e))
        · exact hSo b (List.mem_singleton.1 hb ▸ List.mem_append_right _ hokm)
      refine SafeF.mono (update_spec P hP n0 S acc _ cv.word hS hSa hh hh (Nat.le_trans hn ga.next)
        ⟨rfl, hua, hsrc, ga.lt, fun b hb =>
          List.mem_singleton.1 hb ▸ Nat.lt_of_lt_of_le (hoids ok hokm).2 ga.next⟩) ?_
      intro acc' hh' ⟨hua', g', hmv⟩
      have hmv' : MovedAt hh hh' ok (pos i0 (P.strideOf o.map.lgCur) (2 ^ o.map.lgCur) t) := hmv
      refine ⟨hua', ga.trans g' hlt, hmv'.count.trans hcount, ?_, ?_⟩
      · intro t' h1 h2
        have hne := pos_inj (hodd o.map.lgCur) i0 o.map.lgCur (t1 := t) (t2 := t') h1 h2
        rw [hmv'.other _ (Ne.symm hne)]
        exact hsame t' (Nat.le_of_succ_le h1) h2
      · intro j
        by_cases hj : j = pos i0 (P.strideOf o.map.lgCur) (2 ^ o.map.lgCur) t
        · subst hj
          rcases hmv'.cell with e | e
          · rw [e]; exact hmoved _
          · exact Or.inr ⟨e, by rw [hx]; simp⟩
        · rw [hmv'.other j hj]; exact hmoved j
    · -- inactive positions are skipped
      intro i0 t acc hh _ ⟨a1, a2, a3, a4, a5⟩
      exact ⟨a1, a2, a3, fun t' h1 h2 => a4 t' (Nat.le_of_succ_le h1) h2, a5⟩

end DS.Life.Fi
