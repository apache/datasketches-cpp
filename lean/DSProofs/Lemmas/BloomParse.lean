/- The header checks of the readers.  `Accepts P b` says that `parseImage P b` gets past every refusal; then the outcome is
decided by the EMPTY flag, the length and the capacity alone, and conversely each outcome tells what the header holds. -/
import DSProofs.Lemmas.BloomBits
namespace DS.Bloom

/-- the checks of `parseImage` that end in `.refuse`, all passed (the last two lines only for the strict readers) -/
structure Accepts (P : Params) (b : Block) : Prop where
  len8 : 8 ≤ b.len
  preLo : P.preEmpty ≤ getField b.val 0 8
  preHi : getField b.val 0 8 ≤ P.preStd
  serVer : getField b.val 8 8 = P.serVer
  family : getField b.val 16 8 = P.family
  lenPre : getField b.val 0 8 * 8 ≤ b.len
  preFlag : P.strict = true →
    getField b.val 0 8 = if getField b.val 24 8 &&& P.emptyMask != 0 then P.preEmpty else P.preStd
  counts : P.strict = true → getField b.val 32 16 ≠ 0 ∧ getField b.val 128 32 ≠ 0

theorem ite_ne {α : Type} {c : Prop} [Decidable c] {A t x : α} (h : (if c then A else t) = x) (hx : A ≠ x) : ¬ c ∧ t = x := by
  by_cases hc : c
  · rw [if_pos hc] at h; exact absurd h hx
  · rw [if_neg hc] at h; exact ⟨hc, h⟩

theorem accepts_of_ne_refuse {P : Params} {b : Block} {r : Parsed} (h : parseImage P b = r) (hr : Parsed.refuse ≠ r) : Accepts P b := by
  simp only [parseImage] at h
  -- the seven tests of `parseImage` that end in `.refuse`, peeled off in its order
  obtain ⟨h1, h⟩ := ite_ne h hr
  obtain ⟨h2, h⟩ := ite_ne h hr
  obtain ⟨h3, h⟩ := ite_ne h hr
  obtain ⟨h4, h⟩ := ite_ne h hr
  obtain ⟨h5, h⟩ := ite_ne h hr
  obtain ⟨h6, h⟩ := ite_ne h hr
  obtain ⟨h7, -⟩ := ite_ne h hr
  simp only [Bool.or_eq_true, decide_eq_true_eq, not_or, Nat.not_lt] at h2
  exact ⟨Nat.le_of_not_lt h1, h2.1, h2.2, Decidable.of_not_not (mt bne_iff_ne.2 h3), Decidable.of_not_not (mt bne_iff_ne.2 h4),
    Nat.le_of_not_lt h6, fun hs => by simpa [hs] using h5, fun hs => by simpa [hs] using h7⟩

theorem parseImage_of_accepts {P : Params} {b : Block} (h : Accepts P b) :
    parseImage P b =
      if getField b.val 24 8 &&& P.emptyMask != 0 then
        .emptyImg (capOf P (getField b.val 128 32)) (getField b.val 32 16) (getField b.val 64 64)
      else if b.len < 32 then .outside
      else if capOf P (getField b.val 128 32) == 0 then .outside
      else .full (capOf P (getField b.val 128 32)) (getField b.val 32 16) (getField b.val 64 64)
        (getField b.val 192 64) (getField b.val 128 32) := by
  simp only [parseImage]
  rw [if_neg (Nat.not_lt.mpr h.len8), if_neg (by simp [h.preLo, h.preHi]), if_neg (bne_iff_ne.1 · h.serVer),
    if_neg (bne_iff_ne.1 · h.family), if_neg, if_neg (Nat.not_lt.mpr h.lenPre), if_neg]
  · cases hs : P.strict
    · simp
    · simpa using h.counts hs
  · cases hs : P.strict
    · simp
    · simpa using h.preFlag hs

theorem parseImage_full_iff {P : Params} {b : Block} {cap nh seed nbs nl : Nat} :
    parseImage P b = .full cap nh seed nbs nl ↔
      Accepts P b ∧ (getField b.val 24 8 &&& P.emptyMask != 0) = false ∧ 32 ≤ b.len ∧ cap = capOf P nl ∧ cap ≠ 0 ∧
      nh = getField b.val 32 16 ∧ seed = getField b.val 64 64 ∧ nl = getField b.val 128 32 ∧ nbs = getField b.val 192 64 := by
  constructor
  · intro h
    have ha := accepts_of_ne_refuse h nofun
    rw [parseImage_of_accepts ha] at h
    obtain ⟨hflag, h⟩ := ite_ne h nofun
    obtain ⟨hlen, h⟩ := ite_ne h nofun
    obtain ⟨hcap, h⟩ := ite_ne h nofun
    cases h
    exact ⟨ha, Bool.eq_false_iff.2 hflag, Nat.le_of_not_lt hlen, rfl, mt beq_iff_eq.2 hcap, rfl, rfl, rfl, rfl⟩
  · rintro ⟨ha, hflag, hlen, rfl, hcap, rfl, rfl, rfl, rfl⟩
    rw [parseImage_of_accepts ha, if_neg (Bool.eq_false_iff.1 hflag), if_neg (Nat.not_lt.2 hlen), if_neg (mt beq_iff_eq.1 hcap)]

theorem parseImage_empty_iff {P : Params} {b : Block} {nb nh seed : Nat} :
    parseImage P b = .emptyImg nb nh seed ↔
      Accepts P b ∧ (getField b.val 24 8 &&& P.emptyMask != 0) = true ∧ nb = capOf P (getField b.val 128 32) ∧
      nh = getField b.val 32 16 ∧ seed = getField b.val 64 64 := by
  constructor
  · intro h
    have ha := accepts_of_ne_refuse h nofun
    rw [parseImage_of_accepts ha] at h
    by_cases hflag : (getField b.val 24 8 &&& P.emptyMask != 0) = true
    · rw [if_pos hflag] at h; cases h
      exact ⟨ha, hflag, rfl, rfl, rfl⟩
    · rw [if_neg hflag] at h
      cases (ite_ne (ite_ne h nofun).2 nofun).2
  · rintro ⟨ha, hflag, rfl, rfl, rfl⟩
    rw [parseImage_of_accepts ha, if_pos hflag]

theorem parseImage_outside {P : Params} {b : Block} (h : parseImage P b = .outside) :
    Accepts P b ∧ (getField b.val 24 8 &&& P.emptyMask != 0) = false ∧ (b.len < 32 ∨ capOf P (getField b.val 128 32) = 0) := by
  have ha := accepts_of_ne_refuse h nofun
  rw [parseImage_of_accepts ha] at h
  obtain ⟨hflag, h⟩ := ite_ne h nofun
  refine ⟨ha, Bool.eq_false_iff.2 hflag, ?_⟩
  by_cases hlen : b.len < 32
  · exact Or.inl hlen
  by_cases hcap : capOf P (getField b.val 128 32) = 0
  · exact Or.inr hcap
  · rw [if_neg hlen, if_neg (mt beq_iff_eq.1 hcap)] at h; cases h

theorem Accepts.of_low {P : Params} {b b' : Block} (h : Accepts P b) (hl : b'.len = b.len)
    (hlow : ∀ j, j < 160 → b'.val.testBit j = b.val.testBit j) : Accepts P b' := by
  have e : ∀ off w, off + w ≤ 160 → getField b'.val off w = getField b.val off w :=
    fun off w hw => getField_congr _ _ _ _ (fun i hi => hlow _ (Nat.lt_of_lt_of_le (Nat.add_lt_add_left hi off) hw))
  have e0 := e 0 8 (by decide)
  exact ⟨hl ▸ h.len8, e0 ▸ h.preLo, e0 ▸ h.preHi, (e 8 8 (by decide)).trans h.serVer, (e 16 8 (by decide)).trans h.family,
    by rw [e0, hl]; exact h.lenPre, by rw [e0, e 24 8 (by decide)]; exact h.preFlag,
    by rw [e 32 16 (by decide), e 128 32 (by decide)]; exact h.counts⟩

theorem capOf_mod64 (P : Params) (nl : Nat) : capOf P nl % 64 = 0 := by
  unfold capOf; split
  · exact Nat.mul_mod_left _ _
  · rw [Nat.mod_mod_of_dvd _ (show 64 ∣ 2 ^ 32 from ⟨2 ^ 26, rfl⟩)]; exact Nat.mul_mod_left _ _

/-- for the readers of the pinned tree (`strict = false`, 32-bit shifts): `(8 y) mod 2^32 = 8 (y mod 2^29) ≤ 8 (y mod 2^32)` -/
theorem capOf_le_nbytes (P : Params) (nl : Nat) : capOf P nl ≤ 8 * nbytesOf P nl := by
  have e : nl * 64 = 8 * (nl * 8) := by rw [Nat.mul_comm 8, Nat.mul_assoc]
  unfold capOf nbytesOf; split
  · exact Nat.le_of_eq e
  · rw [e, show (2 : Nat) ^ 32 = 8 * 2 ^ 29 from rfl, Nat.mul_mod_mul_left]
    refine Nat.mul_le_mul_left 8 ?_
    rw [← Nat.mod_mod_of_dvd (nl * 8) (show 2 ^ 29 ∣ 2 ^ 32 from ⟨8, rfl⟩)]
    exact Nat.mod_le _ _

theorem capOf_le (P : Params) (nl : Nat) : capOf P nl ≤ nl * 64 := by
  unfold capOf; split
  · exact Nat.le_refl _
  · exact Nat.mod_le _ _

theorem capOf_strict {P : Params} (hs : P.strict = true) (nl : Nat) : capOf P nl = nl * 64 := if_pos hs

theorem deser_bit {P : Params} {b : Block} {cap nh seed nbs nl : Nat} (hp : parseImage P b = .full cap nh seed nbs nl) (j : Nat)
    (hj : j < cap) : (getField b.val 256 (8 * nbytesOf P nl)).testBit (0 + j) = b.val.testBit (256 + j) := by
  obtain ⟨-, -, -, hcapeq, -⟩ := parseImage_full_iff.mp hp
  have h8 : cap ≤ 8 * nbytesOf P nl := by rw [hcapeq]; exact capOf_le_nbytes P nl
  rw [Nat.zero_add, testBit_getField, decide_eq_true (Nat.lt_of_lt_of_le hj h8), Bool.true_and]

theorem cap_of_full {P : Params} {b : Block} {cap nh seed nbs nl : Nat} (hp : parseImage P b = .full cap nh seed nbs nl) :
    0 < cap ∧ cap % 64 = 0 := by
  obtain ⟨-, -, -, hcapeq, hcap0, -⟩ := parseImage_full_iff.mp hp
  exact ⟨Nat.pos_of_ne_zero hcap0, by rw [hcapeq]; exact capOf_mod64 P nl⟩

/-- a capacity below 2^32 bits survives the 32-bit shift of the readers of the pinned tree -/
theorem capOf_div64 (P : Params) {cap : Nat} (h64 : cap % 64 = 0) (hlt : cap < 2 ^ 32) : capOf P (cap / 64) = cap := by
  unfold capOf
  rw [Nat.div_mul_cancel (Nat.dvd_of_mod_eq_zero h64), Nat.mod_eq_of_lt hlt, ite_self]

/-- below 2^32 bits the capacity is what the specification's `hdrCfg` (Spec.lean) computes from the header -/
theorem capOf_eq_mod {P : Params} {nl : Nat} (hlt : capOf P nl < 2 ^ 32) : nl * 64 % 2 ^ 32 = capOf P nl := by
  unfold capOf at hlt ⊢
  by_cases hs : P.strict = true
  · rw [if_pos hs] at hlt ⊢; exact Nat.mod_eq_of_lt hlt
  · rw [if_neg hs]

end DS.Bloom
