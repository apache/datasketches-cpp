/- C19, KLL sketch, first half of `merge_higher_levels`: the three-buffer `merge_sorted_arrays` and `populate_work_arrays`. -/
import DSProofs.Lemmas.LifeKllUpdate
namespace DS.Life.Kll
open DS.Life

/-- what is done (`[a0, a)` of `ba` emptied, `[c0, c)` of `bc` filled) is carried along, so that every fact is framed forwards only -/
theorem vstep_mergeIntoLoop {β} {S : Nat → Bool} {ba na bb nb bc nc a0 limA limB c0 endC : Nat} {f : Nat × Nat → M β}
    {Q : β → Heap → Prop} (hSa : S ba = true) (hSc : S bc = true) (hab : ba ≠ bb) (hac : ba ≠ bc) (hbc : bb ≠ bc)
    (hla : limA ≤ na) (hlb : limB ≤ nb) (hlc : endC ≤ nc) :
    ∀ fuel a b c h, HasCells h ba na → HasCells h bb nb → HasCells h bc nc → a0 ≤ a → a ≤ limA → b ≤ limB → c0 ≤ c →
      fuel + a + b = limA + limB → c + fuel = endC →
      On .raw h ba a0 a → LiveOn h ba a limA → LiveOn h bb b limB → LiveOn h bc c0 c → On .raw h bc c endC →
      (∀ h', SameBut h h' (fun b' j => (b' = ba ∧ a0 ≤ j ∧ j < limA) ∨ (b' = bc ∧ c0 ≤ j ∧ j < endC)) →
          On .raw h' ba a0 limA → LiveOn h' bc c0 endC → SafeF S h' (f (limA, limB) h') Q) →
      SafeF S h ((mergeIntoLoop ba limA bb limB bc fuel a b c >>= f) h) Q := by
  intro fuel
  induction fuel with
  | zero =>
    intro a b c h _ _ _ _ ha hb _ hf hce ra _ _ lc _ s
    obtain ⟨rfl, rfl, rfl⟩ : a = limA ∧ b = limB ∧ c = endC := by omega
    exact s h (SameBut.refl _ _) ra lc
  | succ fuel ih =>
    intro a b c h hca hcb hcc ha0 ha hb hc0 hf hce ra la lb lc rc s
    unfold mergeIntoLoop
    have hclt : c < endC := by omega
    have hcc' := Nat.lt_of_lt_of_le hclt hlc
    -- after a step that has filled `bc[c]` and, where `a' = a + 1`, emptied `ba[a]`
    have next : ∀ {X : Nat → Nat → Prop} (h1 : Heap) (a' b' : Nat), SameBut h h1 X →
        (∀ p j, X p j → (p = ba ∧ j = a ∧ a < a') ∨ (p = bc ∧ j = c)) → (∃ v, stAt h1 bc c = .live v) →
        On .raw h1 ba a a' → a ≤ a' → a' ≤ limA → b ≤ b' → b' ≤ limB → a' + b' = a + b + 1 →
        SafeF S h1 ((mergeIntoLoop ba limA bb limB bc fuel a' b' (c + 1) >>= f) h1) Q := by
      intro X h1 a' b' sb1 hX hst hra haa ha' hbb hb' hsum
      apply ih a' b' (c + 1) h1 (sb1.cells _ _ hca) (sb1.cells _ _ hcb) (sb1.cells _ _ hcc) (Nat.le_trans ha0 haa) ha' hb'
        (Nat.le_succ_of_le hc0) (by omega) (by omega)
        ((ra.frame_of sb1 fun j _ d x => (hX _ _ x).elim (fun y => Nat.ne_of_lt d y.2.1) (fun y => hac y.1)).append hra)
        ((la.mono haa (Nat.le_refl _)).frame_of sb1 fun j d _ x =>
          (hX _ _ x).elim (fun y => Nat.not_le_of_lt y.2.2 (y.2.1 ▸ d)) (fun y => hac y.1))
        ((lb.mono hbb (Nat.le_refl _)).frame_of sb1 fun j _ _ x => (hX _ _ x).elim (fun y => hab y.1.symm) (fun y => hbc y.1))
        ((lc.frame_of sb1 fun j _ d x => (hX _ _ x).elim (fun y => hac y.1.symm) (fun y => Nat.ne_of_lt d y.2)).append
          (LiveOn.single hst))
        ((rc.mono (Nat.le_succ c) (Nat.le_refl _)).frame_of sb1 fun j d _ x =>
          (hX _ _ x).elim (fun y => hac y.1.symm) (fun y => Nat.ne_of_gt d y.2))
      intro h' sb'
      exact s h' (sb1.trans sb' (fun _ _ x => (hX _ _ x).elim
          (fun y => .inl ⟨y.1, y.2.1 ▸ ha0, y.2.1 ▸ Nat.lt_of_lt_of_le y.2.2 ha'⟩) (fun y => .inr ⟨y.1, y.2 ▸ hc0, y.2 ▸ hclt⟩))
        (fun _ _ x => x))
    -- copy `b[b]` to `c[c]`
    have fromB : b < limB → SafeF S h ((copyConstruct bb b bc c >>= fun _ =>
        mergeIntoLoop ba limA bb limB bc fuel a (b + 1) (c + 1) >>= f) h) Q := by
      intro hbl
      obtain ⟨v, hv⟩ := lb b (Nat.le_refl _) hbl
      apply vstep_copyConstruct hcb (Nat.lt_of_lt_of_le hbl hlb) hv hcc hcc' (rc c (Nat.le_refl _) hclt) hSc
      intro h1 sb1 hst
      exact next h1 a (b + 1) sb1 (fun _ _ x => Or.inr x) ⟨v, hst⟩ (On.nil (Nat.le_refl _)) (Nat.le_refl _) ha (Nat.le_succ _)
        hbl rfl
    -- transfer `a[a]` to `c[c]`
    have fromA : a < limA → SafeF S h ((copyConstruct ba a bc c >>= fun _ => destroy ba a >>= fun _ =>
        mergeIntoLoop ba limA bb limB bc fuel (a + 1) b (c + 1) >>= f) h) Q := by
      intro hal
      obtain ⟨v, hv⟩ := la a (Nat.le_refl _) hal
      apply vstep_copyConstruct hca (Nat.lt_of_lt_of_le hal hla) hv hcc hcc' (rc c (Nat.le_refl _) hclt) hSc
      intro h1 sb1 hst
      apply vstep_destroy (sb1.cells _ _ hca) (Nat.lt_of_lt_of_le hal hla)
        (by rw [sb1.st _ _ (fun x => hac x.1), hv]; exact nofun) hSa
      intro h2 sb2 _ hr2
      exact next h2 (a + 1) b (sb1.trans sb2 (fun _ _ x => Or.inr x) (fun _ _ x => Or.inl x))
        (fun _ _ x => x.imp (fun y => ⟨y.1, y.2, Nat.lt_succ_self a⟩) id)
        ⟨v, by rw [sb2.st _ _ (fun x => hac x.1.symm)]; exact hst⟩ (On.single hr2) (Nat.le_succ _) hal (Nat.le_refl _) hb
        (Nat.add_right_comm a 1 b)
    by_cases hA : a = limA
    · rw [if_pos hA, M.bind_assoc]
      exact fromB (by omega)
    · rw [if_neg hA]
      have hal := Nat.lt_of_le_of_ne ha hA
      by_cases hB : b = limB
      · rw [if_pos hB]
        simp only [M.bind_assoc]
        exact fromA hal
      · rw [if_neg hB]
        have hbl := Nat.lt_of_le_of_ne hb hB
        obtain ⟨va, hva⟩ := la a (Nat.le_refl _) hal
        obtain ⟨vb, hvb⟩ := lb b (Nat.le_refl _) hbl
        simp only [M.bind_assoc]
        apply vstep_read hca (Nat.lt_of_lt_of_le hal hla) hva
        apply vstep_read hcb (Nat.lt_of_lt_of_le hbl hlb) hvb
        by_cases hlt : va < vb
        · rw [if_pos hlt]
          simp only [M.bind_assoc]
          exact fromA hal
        · rw [if_neg hlt, M.bind_assoc]
          exact fromB hbl

theorem vstep_mergeInto {β} {S} {h : Heap} {ba na bb nb bc nc startA lenA startB lenB startC : Nat} {f : Unit → M β}
    {Q : β → Heap → Prop}
    (hca : HasCells h ba na) (hcb : HasCells h bb nb) (hcc : HasCells h bc nc) (hab : ba ≠ bb) (hac : ba ≠ bc)
    (hbc : bb ≠ bc) (hla : startA + lenA ≤ na) (hlb : startB + lenB ≤ nb) (hlc : startC + (lenA + lenB) ≤ nc)
    (la : LiveOn h ba startA (startA + lenA)) (lb : LiveOn h bb startB (startB + lenB))
    (rc : On .raw h bc startC (startC + (lenA + lenB))) (hSa : S ba = true) (hSc : S bc = true)
    (s : ∀ h', SameBut h h' (fun b' j => (b' = ba ∧ startA ≤ j ∧ j < startA + lenA) ∨
                                        (b' = bc ∧ startC ≤ j ∧ j < startC + (lenA + lenB))) →
          On .raw h' ba startA (startA + lenA) →
          LiveOn h' bc startC (startC + (lenA + lenB)) → SafeF S h' (f () h') Q) :
    SafeF S h ((mergeInto ba startA lenA bb startB lenB bc startC >>= f) h) Q := by
  unfold mergeInto
  rw [M.bind_assoc]
  apply vstep_mergeIntoLoop hSa hSc hab hac hbc hla hlb hlc _ _ _ _ h hca hcb hcc (Nat.le_refl _) (Nat.le_add_right _ _)
    (Nat.le_add_right _ _) (Nat.le_refl _) (by omega) rfl (On.nil (Nat.le_refl _)) la lb (On.nil (c := .live) (Nat.le_refl _)) rc
  intro h' sb ra lc
  rw [if_neg (by simp)]
  exact s h' sb ra lc

/-- the position (in `levels_`) where level `l` starts; a level that does not exist reads the top entry, so it is empty -/
def psOf (ls : List Nat) (nl l : Nat) : Nat := ls.getD (min l nl) 0

theorem psOf_mono {k m nl : Nat} {ls : List Nat} {sz : Nat} (lok : LevelsOK k m nl ls sz) {i j : Nat} (hij : i ≤ j) :
    psOf ls nl i ≤ psOf ls nl j := by
  unfold psOf
  exact lok.le_of_le _ _ (by omega) (by omega)

theorem psOf_top {k m nl : Nat} {ls : List Nat} {sz : Nat} (lok : LevelsOK k m nl ls sz) {i : Nat} (hi : nl ≤ i) :
    psOf ls nl i = sz := by
  unfold psOf
  rw [Nat.min_eq_right hi]; exact lok.top

theorem psOf_le_top {k m nl : Nat} {ls : List Nat} {sz : Nat} (lok : LevelsOK k m nl ls sz) (i : Nat) :
    psOf ls nl i ≤ sz := by
  unfold psOf
  exact lok.le_top _ (Nat.min_le_right _ _)

theorem psOf_of_le {ls : List Nat} {nl i : Nat} (hi : i ≤ nl) : psOf ls nl i = ls.getD i 0 := by
  unfold psOf
  rw [Nat.min_eq_left hi]

theorem psOf_pop (ls : List Nat) (nl l : Nat) : psOf ls nl (l + 1) - psOf ls nl l = if l < nl then pop ls l else 0 := by
  unfold psOf pop
  by_cases h : l < nl
  · rw [if_pos h, Nat.min_eq_left h, Nat.min_eq_left (Nat.le_of_lt h)]
  · rw [if_neg h, Nat.min_eq_right (Nat.le_of_not_lt h), Nat.min_eq_right (Nat.le_succ_of_le (Nat.le_of_not_lt h)),
      Nat.sub_self]

theorem safeLevelSize_eq (s : Sketch) (l : Nat) (hlen : s.levels.length = s.numLevels + 1) :
    safeLevelSize s l =
      (Pure.pure (psOf s.levels s.numLevels (l + 1) - psOf s.levels s.numLevels l) : M Nat) := by
  unfold safeLevelSize
  by_cases h : l ≥ s.numLevels
  · rw [if_pos h]
    unfold psOf
    rw [Nat.min_eq_right h, Nat.min_eq_right (by omega)]
    simp
  · rw [if_neg h, lv_ok (by omega), lv_ok (by omega), psOf_of_le (by omega), psOf_of_le (by omega)]
    rfl

theorem step_safeLevelSize {β} {S} {h : Heap} {s : Sketch} {l : Nat} {f : Nat → M β} {Q : β → Heap → Prop}
    (hlen : s.levels.length = s.numLevels + 1)
    (k : SafeF S h (f (psOf s.levels s.numLevels (l + 1) - psOf s.levels s.numLevels l) h) Q) :
    SafeF S h ((safeLevelSize s l >>= f) h) Q := by
  rw [safeLevelSize_eq s l hlen, pure_bind_apply]; exact k

theorem psOf_lt {k m nl : Nat} {ls : List Nat} {sz : Nat} (lok : LevelsOK k m nl ls sz) {l : Nat}
    (h : psOf ls nl l < psOf ls nl (l + 1)) : l < nl :=
  Nat.lt_of_not_le fun hge => Nat.lt_irrefl sz (by rwa [psOf_top lok hge, psOf_top lok (Nat.le_succ_of_le hge)] at h)

theorem step_lvPs {β} {S} {h : Heap} {ls : List Nat} {nl l : Nat} {f : Nat → M β} {Q : β → Heap → Prop}
    (hlen : ls.length = nl + 1) (hl : l ≤ nl) (s : SafeF S h (f (psOf ls nl l) h) Q) : SafeF S h ((lv ls l >>= f) h) Q := by
  rw [psOf_of_le hl] at s
  exact step_lv (hlen ▸ Nat.lt_succ_of_le hl) s

theorem vstep_copyFrom {β} {S} {h : Heap} {sb sn db dn a cnt d0 : Nat} {f : Unit → M β} {Q : β → Heap → Prop}
    (hcs : HasCells h sb sn) (hcd : HasCells h db dn) (hne : sb ≠ db) (hls : a + cnt ≤ sn) (hld : d0 + cnt ≤ dn)
    (hsrc : LiveOn h sb a (a + cnt)) (hraw : On .raw h db d0 (d0 + cnt)) (hS : S db = true)
    (s : ∀ h', SameBut h h' (fun b' j => b' = db ∧ d0 ≤ j ∧ j < d0 + cnt) → LiveOn h' db d0 (d0 + cnt) →
          SafeF S h' (f () h') Q) :
    SafeF S h ((loopUp (fun i => fwdConstruct false sb i db (d0 + (i - a))) cnt a >>= f) h) Q := by
  have loop := TripleS.loopUp' (n0 := 0) (S := S)
    (fun k h' => SameBut h h' (fun b' j => b' = db ∧ d0 ≤ j ∧ j < d0 + k) ∧ LiveOn h' db d0 (d0 + k))
    (fun i => fwdConstruct false sb i db (d0 + (i - a))) cnt a ?_
  · exact SafeF.bind_triple loop (Nat.zero_le _) ⟨SameBut.refl _ _, On.nil (c := .live) (Nat.le_refl _)⟩
      fun _ h1 ⟨sb1, l1⟩ _ => s h1 sb1 l1
  · intro k hk h' _ ⟨sb1, l1⟩
    apply SafeF.last
    rw [Nat.add_sub_cancel_left]
    obtain ⟨v, hv⟩ := hsrc (a + k) (Nat.le_add_right _ _) (Nat.add_lt_add_left hk _)
    have hdk := Nat.add_lt_add_left hk d0
    apply vstep_copyConstruct (sb1.cells _ _ hcs) (Nat.lt_of_lt_of_le (Nat.add_lt_add_left hk a) hls)
      (by rw [sb1.st _ _ (fun x => hne x.1)]; exact hv) (sb1.cells _ _ hcd) (Nat.lt_of_lt_of_le hdk hld)
      (by rw [sb1.st _ _ (fun x => Nat.lt_irrefl _ x.2.2)]; exact hraw _ (Nat.le_add_right _ _) hdk) hS
    intro h2 sb2 hst
    exact SafeF.pure ⟨sb1.trans sb2 (fun _ _ x => ⟨x.1, x.2.1, Nat.lt_succ_of_lt x.2.2⟩)
        (fun _ _ x => ⟨x.1, x.2 ▸ Nat.le_add_right _ _, x.2 ▸ Nat.lt_succ_self _⟩),
      (l1.frame_of sb2 fun j _ d x => Nat.ne_of_lt d x.2).append (LiveOn.single ⟨v, hst⟩)⟩

/-- work level first: where work level `j` starts in the work buffer: below it lie the levels `< j` of this sketch and the levels `1 .. j - 1`
    of the other (whose level zero goes through `update`) -/
def wlf (sa o : Sketch) : Nat → Nat
  | 0 => 0
  | l + 1 => wlf sa o l + (psOf sa.levels sa.numLevels (l + 1) - psOf sa.levels sa.numLevels l) +
      (if l = 0 then 0 else psOf o.levels o.numLevels (l + 1) - psOf o.levels o.numLevels l)

theorem wlf_succ {sa o : Sketch} {l : Nat} (hl : 1 ≤ l) : wlf sa o (l + 1) = wlf sa o l +
    (psOf sa.levels sa.numLevels (l + 1) - psOf sa.levels sa.numLevels l) +
    (psOf o.levels o.numLevels (l + 1) - psOf o.levels o.numLevels l) := by
  rw [wlf, if_neg (Nat.ne_of_gt hl)]

theorem wlf_mono {sa o : Sketch} {i j : Nat} (hij : i ≤ j) : wlf sa o i ≤ wlf sa o j :=
  mono_chain (f := wlf sa o) (a := 0) (b := j)
    (fun _ _ _ => Nat.le_trans (Nat.le_add_right _ _) (Nat.le_add_right _ _)) j i (Nat.zero_le _) hij (Nat.le_refl _)

theorem wlf_one {sa o : Sketch} (h : 1 ≤ sa.numLevels) : wlf sa o 1 = sa.levels.getD 1 0 - sa.levels.getD 0 0 := by
  show 0 + _ + 0 = _
  rw [Nat.zero_add, Nat.add_zero, psOf_of_le h, psOf_of_le (Nat.zero_le _)]

/-- what stays as it is while the work arrays are filled: the two sketches' items blocks and levels, the size `tmp` of the work
    buffer `wb`, and the bound `ub` on the number of work levels (the work level arrays have `ub + 2` entries) -/
structure PCtx (h0 : Heap) (sa o : Sketch) (ba ob wb tmp ub : Nat) : Prop where
  hba : sa.items = some ba
  hob : o.items = some ob
  loks : LevelsOK sa.k sa.m sa.numLevels sa.levels sa.itemsSize
  loko : LevelsOK o.k o.m o.numLevels o.levels o.itemsSize
  honl : 2 ≤ o.numLevels
  hco : HasCells h0 ob o.itemsSize
  hlo : LiveOn h0 ob (o.levels.getD 1 0) o.itemsSize
  htmp : tmp = (sa.itemsSize - sa.levels.getD 0 0) + (o.itemsSize - o.levels.getD 1 0)
  ne1 : ba ≠ ob
  ne2 : ba ≠ wb
  ne3 : ob ≠ wb
  hprov : max sa.numLevels o.numLevels ≤ ub

/-- the state after work levels `< lvl` have been filled -/
structure PInv (h0 h' : Heap) (sa o : Sketch) (ba wb tmp ub : Nat) (lvl : Nat) (WL : List Nat) : Prop where
  len : WL.length = ub + 2
  wl : ∀ j, j ≤ lvl → WL.getD j 0 = wlf sa o j
  sb : SameBut h0 h' (fun b' _ => b' = ba ∨ b' = wb)
  ca : HasCells h' ba sa.itemsSize
  cw : HasCells h' wb tmp
  araw : On .raw h' ba 0 (psOf sa.levels sa.numLevels lvl)
  alive : LiveOn h' ba (psOf sa.levels sa.numLevels lvl) sa.itemsSize
  wlive : LiveOn h' wb 0 (wlf sa o lvl)
  wraw : On .raw h' wb (wlf sa o lvl) tmp

/-- `wlf` telescopes -/
theorem wlf_add {h0 : Heap} {sa o : Sketch} {ba ob wb tmp ub : Nat} (c : PCtx h0 sa o ba ob wb tmp ub) : ∀ j,
    wlf sa o (j + 1) + sa.levels.getD 0 0 + o.levels.getD 1 0 =
      psOf sa.levels sa.numLevels (j + 1) + psOf o.levels o.numLevels (j + 1)
  | 0 => by
    have hs := psOf_mono c.loks (Nat.le_succ 0)
    rw [wlf_one c.loks.nl, psOf_of_le c.loks.nl, psOf_of_le (Nat.le_of_succ_le c.honl)]
    rw [psOf_of_le (Nat.zero_le _), psOf_of_le c.loks.nl] at hs
    rw [Nat.sub_add_cancel hs]
  | j + 1 => by
    have ih := wlf_add c j
    have hs := psOf_mono c.loks (Nat.le_add_right (j + 1) 1)
    have ho := psOf_mono c.loko (Nat.le_add_right (j + 1) 1)
    rw [wlf_succ (Nat.le_add_left 1 j)]
    omega

theorem wlf_top {h0 : Heap} {sa o : Sketch} {ba ob wb tmp ub : Nat} (c : PCtx h0 sa o ba ob wb tmp ub) :
    wlf sa o (max sa.numLevels o.numLevels) = tmp := by
  obtain ⟨j, hj⟩ := Nat.exists_eq_add_of_le' (Nat.le_trans c.loks.nl (Nat.le_max_left sa.numLevels o.numLevels))
  have e := wlf_add c j
  rw [← hj] at e
  rw [psOf_top c.loks (Nat.le_max_left _ _), psOf_top c.loko (Nat.le_max_right _ _)] at e
  have h0 := c.loks.le_top 0 (Nat.zero_le _)
  have h1 := c.loko.le_top 1 (Nat.le_of_succ_le c.honl)
  rw [c.htmp]
  omega

theorem wlf_le_tmp {h0 : Heap} {sa o : Sketch} {ba ob wb tmp ub : Nat} (c : PCtx h0 sa o ba ob wb tmp ub) {j : Nat}
    (hj : j ≤ max sa.numLevels o.numLevels) : wlf sa o j ≤ tmp := wlf_top c ▸ wlf_mono hj

theorem PInv.step {h0 h' h2 : Heap} {sa o : Sketch} {ba ob wb tmp ub lvl selfPop otherPop : Nat} {WL : List Nat}
    (c : PCtx h0 sa o ba ob wb tmp ub) (i : PInv h0 h' sa o ba wb tmp ub lvl WL) (hlu : lvl + 1 < ub + 2)
    (hsp : psOf sa.levels sa.numLevels (lvl + 1) = psOf sa.levels sa.numLevels lvl + selfPop)
    (hw : wlf sa o (lvl + 1) = wlf sa o lvl + selfPop + otherPop)
    (sb2 : SameBut h' h2 (fun b' j =>
        (b' = ba ∧ psOf sa.levels sa.numLevels lvl ≤ j ∧ j < psOf sa.levels sa.numLevels lvl + selfPop) ∨
        (b' = wb ∧ wlf sa o lvl ≤ j ∧ j < wlf sa o lvl + selfPop + otherPop)))
    (hr2 : On .raw h2 ba (psOf sa.levels sa.numLevels lvl) (psOf sa.levels sa.numLevels lvl + selfPop))
    (hl2 : LiveOn h2 wb (wlf sa o lvl) (wlf sa o lvl + selfPop + otherPop)) :
    PInv h0 h2 sa o ba wb tmp ub (lvl + 1) (WL.set (lvl + 1) (wlf sa o lvl + selfPop + otherPop)) := by
  refine ⟨by rw [List.length_set]; exact i.len, fun j hj => ?_,
    i.sb.trans (sb2.mono (fun _ _ x => x.elim (fun x => Or.inl x.1) (fun x => Or.inr x.1))) (fun _ _ x => x)
      (fun _ _ x => x), sb2.cells _ _ i.ca, sb2.cells _ _ i.cw, ?_, ?_, ?_, ?_⟩
  · by_cases e : j = lvl + 1
    · rw [e, getD_set_eq _ _ _ (i.len ▸ hlu), hw]
    · rw [getD_set_ne _ _ _ _ e]; exact i.wl j (Nat.le_of_lt_succ (Nat.lt_of_le_of_ne hj e))
  · rw [hsp]
    exact (i.araw.frame_of sb2 fun j _ d x => x.elim (fun x => Nat.not_lt_of_le x.2.1 d) (fun x => c.ne2 x.1)).append hr2
  · rw [hsp]
    exact (i.alive.mono (Nat.le_add_right _ _) (Nat.le_refl _)).frame_of sb2
      fun j d _ x => x.elim (fun x => Nat.not_lt_of_le d x.2.2) (fun x => c.ne2 x.1)
  · rw [hw]
    exact (i.wlive.frame_of sb2
      fun j _ d x => x.elim (fun x => c.ne2 x.1.symm) (fun x => Nat.not_lt_of_le x.2.1 d)).append hl2
  · rw [hw]
    exact (i.wraw.mono (Nat.le_trans (Nat.le_add_right _ _) (Nat.le_add_right _ _)) (Nat.le_refl _)).frame_of sb2
      fun j d _ x => x.elim (fun x => c.ne2 x.1.symm) (fun x => Nat.not_lt_of_le d x.2.2)

theorem populateWorkArrays_spec {S : Nat → Bool} {h0 : Heap} {sa o : Sketch} {ba ob wb tmp ub : Nat}
    (c : PCtx h0 sa o ba ob wb tmp ub) (hSa : S ba = true) (hSw : S wb = true)
    (ils : ItemsLive h0 ba (sa.levels.getD 0 0) sa.itemsSize) (hcw : HasCells h0 wb tmp)
    (hrw : ∀ j, j < tmp → stAt h0 wb j = .raw) :
    SafeF S h0 (populateWorkArrays sa o false wb (List.replicate (ub + 2) 0) (max sa.numLevels o.numLevels) h0)
      (fun WL h' => WL.length = ub + 2 ∧ (∀ j, j ≤ max sa.numLevels o.numLevels → WL.getD j 0 = wlf sa o j) ∧
        SameBut h0 h' (fun b' _ => b' = ba ∨ b' = wb) ∧ (∀ j, j < sa.itemsSize → stAt h' ba j = .raw) ∧
        LiveOn h' wb 0 tmp) := by
  have hlens := c.loks.len
  have hleno := c.loko.len
  have hmax : 1 ≤ max sa.numLevels o.numLevels := Nat.le_trans c.loks.nl (Nat.le_max_left _ _)
  have hpop : ∀ {k m nl ls sz} (lok : LevelsOK k m nl ls sz) (l : Nat), ∃ p, psOf ls nl (l + 1) = psOf ls nl l + p :=
    fun lok l => ⟨_, (Nat.add_sub_cancel' (psOf_mono lok (Nat.le_succ l))).symm⟩
  unfold populateWorkArrays
  apply step_deref_eq c.hba
  apply step_setLv _ (by simp)
  apply step_lvPs hlens (Nat.zero_le _)
  apply step_lvPs hlens c.loks.nl
  -- level zero of this sketch alone
  obtain ⟨sp, hsp⟩ := hpop c.loks 0
  have hw : wlf sa o (0 + 1) = wlf sa o 0 + sp + 0 := by
    show 0 + _ + 0 = _
    rw [hsp, Nat.add_sub_cancel_left]; rfl
  have inv0 : PInv h0 h0 sa o ba wb tmp ub 0 ((List.replicate (ub + 2) 0).set 0 0) :=
    ⟨by simp, fun j hj => by rw [Nat.le_zero.1 hj, getD_set_eq _ _ _ (by simp)]; rfl, SameBut.refl _ _, ils.cells, hcw,
      psOf_of_le (Nat.zero_le _) ▸ fun j _ d => ils.raw j d, psOf_of_le (Nat.zero_le _) ▸ ils.live,
      On.nil (c := .live) (Nat.le_refl _), fun j _ d => hrw j d⟩
  have hle : wlf sa o 0 + sp + 0 ≤ tmp := hw ▸ wlf_le_tmp c hmax
  have hpt := hsp ▸ psOf_le_top c.loks 1
  rw [hsp]
  apply vstep_moveConstructRange ils.cells hcw c.ne2 (Nat.le_add_right _ _) hpt (by rw [Nat.add_sub_cancel_left]; exact hle)
    (inv0.alive.mono (Nat.le_refl _) hpt) (by rw [Nat.add_sub_cancel_left]; exact inv0.wraw.mono (Nat.le_refl _) hle) hSa hSw
  intro h1 sb1 hr1 hl1
  rw [Nat.add_sub_cancel_left] at sb1 hl1
  have inv1 := inv0.step c (Nat.succ_lt_succ (Nat.succ_pos _)) hsp hw sb1 hr1 hl1
  apply step_safeLevelSize hlens
  apply step_setLv _ (by simp)
  rw [hsp, Nat.add_sub_cancel_left]
  rw [show wlf sa o 0 + sp + 0 = sp from Nat.zero_add sp] at inv1
  clear inv0 hw hle hpt sb1 hr1 hl1 hsp
  apply SafeF.last
  refine SafeF.bind_triple (TripleS.foldUp (n0 := 0) (S := S)
    (fun lvl (WL : List Nat) h' => PInv h0 h' sa o ba wb tmp ub lvl WL) _ _ 1 _ ?_) (Nat.zero_le _) inv1 ?fin
  case fin =>
    intro WL h2 inv2 _
    rw [Nat.add_sub_cancel' hmax] at inv2
    exact SafeF.pure ⟨inv2.len, inv2.wl, inv2.sb,
      fun j hj => inv2.araw j (Nat.zero_le _) (psOf_top c.loks (Nat.le_max_left _ _) ▸ hj), wlf_top c ▸ inv2.wlive⟩
  -- work level `lvl ≥ 1`: `sp` items of this sketch, `op` items of the other
  intro lvl WL h1l hlp h' _ inv
  rw [Nat.add_sub_cancel' hmax] at hlp
  have hlu : lvl + 1 < ub + 2 := Nat.succ_lt_succ (Nat.lt_succ_of_le (Nat.le_trans (Nat.le_of_lt hlp) c.hprov))
  apply step_safeLevelSize hlens
  apply step_safeLevelSize hleno
  apply step_lv (inv.len ▸ Nat.lt_of_succ_lt hlu)
  apply step_setLv _ (inv.len ▸ hlu)
  rw [inv.wl lvl (Nat.le_refl _)]
  obtain ⟨sp, hsp⟩ := hpop c.loks lvl
  obtain ⟨op, hop⟩ := hpop c.loko lvl
  rw [hsp, hop, Nat.add_sub_cancel_left, Nat.add_sub_cancel_left]
  have hw : wlf sa o (lvl + 1) = wlf sa o lvl + sp + op := by
    rw [wlf_succ h1l, hsp, hop, Nat.add_sub_cancel_left, Nat.add_sub_cancel_left]
  have step := fun h2 => inv.step (h2 := h2) c hlu hsp hw
  have hle : wlf sa o lvl + sp + op ≤ tmp := hw ▸ wlf_le_tmp c (Nat.succ_le_of_lt hlp)
  have hpt : psOf sa.levels sa.numLevels lvl + sp ≤ sa.itemsSize := hsp ▸ psOf_le_top c.loks _
  have hpo : psOf o.levels o.numLevels lvl + op ≤ o.itemsSize := hop ▸ psOf_le_top c.loko _
  have hlts : 0 < sp → lvl ≤ sa.numLevels := fun hpos =>
    Nat.le_of_lt (psOf_lt c.loks (hsp ▸ Nat.lt_add_of_pos_right hpos))
  have hlto : 0 < op → lvl ≤ o.numLevels := fun hpos => Nat.le_of_lt (psOf_lt c.loko (hop ▸ Nat.lt_add_of_pos_right hpos))
  have sob : SameOn h0 h' ob := inv.sb.sameOn (fun j x => x.elim (fun x => c.ne1 x.symm) c.ne3)
  have hco' := sob.cells _ c.hco
  have hlo' : LiveOn h' ob (psOf o.levels o.numLevels lvl) (psOf o.levels o.numLevels lvl + op) := fun j a d => by
    rw [sob.st]
    exact c.hlo j (Nat.le_trans (psOf_of_le (Nat.le_of_succ_le c.honl) ▸ psOf_mono c.loko h1l) a) (Nat.lt_of_lt_of_le d hpo)
  have hla' := inv.alive.mono (Nat.le_refl _) hpt
  have hwraw := inv.wraw.mono (Nat.le_refl _) hle
  by_cases c1 : sp > 0 ∧ op = 0
  · rw [if_pos c1]
    have hlt := hlts c1.1
    obtain ⟨_, rfl⟩ := c1
    apply step_lvPs hlens hlt
    apply vstep_moveConstructRange inv.ca inv.cw c.ne2 (Nat.le_add_right _ _) hpt
      (by rw [Nat.add_sub_cancel_left]; exact hle) hla' (by rw [Nat.add_sub_cancel_left]; exact hwraw) hSa hSw
    intro h2 sb2 hr2 hl2
    rw [Nat.add_sub_cancel_left] at sb2 hl2
    exact SafeF.pure (step h2 sb2 hr2 hl2)
  · rw [if_neg c1]
    by_cases c2 : sp = 0 ∧ op > 0
    · rw [if_pos c2]
      have hlt := hlto c2.2
      obtain ⟨rfl, _⟩ := c2
      apply step_deref_eq c.hob
      apply step_lvPs hleno hlt
      apply vstep_copyFrom hco' inv.cw c.ne3 hpo hle hlo' hwraw hSw
      intro h2 sb2 hl2
      exact SafeF.pure (step h2 (sb2.mono (fun _ _ x => Or.inr x)) (On.nil (Nat.le_refl _)) hl2)
    · rw [if_neg c2]
      by_cases c3 : sp > 0 ∧ op > 0
      · rw [if_pos c3]
        apply step_deref_eq c.hob
        apply step_lvPs hlens (hlts c3.1)
        apply step_lvPs hleno (hlto c3.2)
        rw [Nat.add_assoc] at hle hwraw
        apply vstep_mergeInto inv.ca hco' inv.cw c.ne1 c.ne2 c.ne3 hpt hpo hle hla' hlo' hwraw hSa hSw
        intro h2 sb2 hr2 hl2
        rw [← Nat.add_assoc] at sb2 hl2
        exact SafeF.pure (step h2 sb2 hr2 hl2)
      · rw [if_neg c3]
        obtain ⟨rfl, rfl⟩ : sp = 0 ∧ op = 0 := by omega
        exact SafeF.pure (step h' (SameBut.refl _ _) (On.nil (Nat.le_refl _)) (On.nil (c := .live) (Nat.le_refl _)))

theorem wlf_weight {h0 : Heap} {sa o : Sketch} {ba ob wb tmp ub : Nat} (c : PCtx h0 sa o ba ob wb tmp ub)
    {WL : List Nat} (hwl : ∀ j, j ≤ max sa.numLevels o.numLevels → WL.getD j 0 = wlf sa o j) :
    wsum (pop WL) (max sa.numLevels o.numLevels) + pop o.levels 0 = W sa + W o := by
  unfold W
  rw [sumSampleWeights_eq, sumSampleWeights_eq,
    ← wsum_ext_zero (pop sa.levels) (Nat.le_max_left sa.numLevels o.numLevels),
    ← wsum_ext_zero (pop o.levels) (Nat.le_max_right sa.numLevels o.numLevels),
    ← wsum_drop0 (fun l => if l < o.numLevels then pop o.levels l else 0)
      (Nat.le_trans c.loks.nl (Nat.le_max_left sa.numLevels o.numLevels)),
    if_pos (Nat.lt_of_lt_of_le Nat.zero_lt_two c.honl), ← Nat.add_assoc, ← wsum_add]
  congr 1
  apply wsum_congr
  intro l hl
  show WL.getD (l + 1) 0 - WL.getD l 0 = _
  rw [hwl l (Nat.le_of_lt hl), hwl (l + 1) hl, wlf, Nat.add_assoc, Nat.add_sub_cancel_left, psOf_pop, psOf_pop]

end DS.Life.Kll
