/- Lemmas on choice trees (DSModel/Quantiles/Tree.lean); `IsLeaf`, `sumOver`, `prodAr` are what the C07/C08 statements say of trees. -/
import DSModel.Quantiles.Tree
namespace DS.Quantiles.Tree

variable {β γ : Type}

theorem sumRange_congr {n : Nat} {f g : Nat → Nat} (h : ∀ c, c < n → f c = g c) : sumRange n f = sumRange n g := by
  induction n with
  | zero => rfl
  | succ n ih =>
    simp only [sumRange]
    rw [ih (fun c hc => h c (by omega)), h n (by omega)]

theorem sumRange_add (n : Nat) (f g : Nat → Nat) : sumRange n (fun c => f c + g c) = sumRange n f + sumRange n g := by
  induction n with
  | zero => rfl
  | succ n ih => simp only [sumRange, ih]; omega

theorem sumRange_mul (n a : Nat) (f : Nat → Nat) : sumRange n (fun c => a * f c) = a * sumRange n f := by
  induction n with
  | zero => simp [sumRange]
  | succ n ih => simp only [sumRange, ih, Nat.mul_add]

theorem sumRange_const (n a : Nat) : sumRange n (fun _ => a) = n * a := by
  induction n with
  | zero => simp [sumRange]
  | succ n ih => simp only [sumRange, ih, Nat.add_mul, Nat.one_mul]

theorem sumRange_succ' (n : Nat) (f : Nat → Nat) :
    sumRange (n + 1) f = f 0 + sumRange n (fun c => f (c + 1)) := by
  induction n with
  | zero => simp [sumRange]
  | succ n ih =>
    rw [sumRange, ih, sumRange]
    omega

theorem sum_bind (W : γ → Nat) (t : Tree β) (f : β → Tree γ) : (t.bind f).sum W = t.sum (fun b => (f b).sum W) := by
  induction t with
  | done b => rfl
  | choose ar k ih => simp only [bind, sum]; exact sumRange_congr (fun c _ => ih c)

theorem sum_map (W : γ → Nat) (t : Tree β) (f : β → γ) : (t.map f).sum W = t.sum (fun b => W (f b)) := by
  unfold map; rw [sum_bind]; rfl

theorem sum_add (t : Tree β) (f g : β → Nat) : t.sum (fun b => f b + g b) = t.sum f + t.sum g := by
  induction t with
  | done b => rfl
  | choose ar k ih =>
    simp only [sum]
    rw [← sumRange_add]; exact sumRange_congr (fun c _ => ih c)

theorem sum_mul (t : Tree β) (a : Nat) (f : β → Nat) : t.sum (fun b => a * f b) = a * t.sum f := by
  induction t with
  | done b => rfl
  | choose ar k ih =>
    simp only [sum]
    rw [← sumRange_mul]; exact sumRange_congr (fun c _ => ih c)

theorem sum_const (t : Tree β) (a : Nat) : t.sum (fun _ => a) = t.leafCount * a := by
  have := sum_mul t a (fun _ => 1)
  simp only [Nat.mul_one] at this
  rw [this, leafCount, Nat.mul_comm]

theorem sum_congr_all {P : β → Prop} {t : Tree β} {f g : β → Nat} (hP : t.All P) (h : ∀ b, P b → f b = g b) :
    t.sum f = t.sum g := by
  induction t with
  | done b => exact h b hP
  | choose ar k ih => simp only [sum]; exact sumRange_congr (fun c hc => ih c (hP.2 c hc))

theorem All.mono {P Q : β → Prop} {t : Tree β} (h : t.All P) (hpq : ∀ b, P b → Q b) : t.All Q := by
  induction t with
  | done b => exact hpq b h
  | choose ar k ih => exact ⟨h.1, fun c hc => ih c (h.2 c hc)⟩

theorem All.and {P Q : β → Prop} {t : Tree β} (h1 : t.All P) (h2 : t.All Q) : t.All (fun b => P b ∧ Q b) := by
  induction t with
  | done b => exact ⟨h1, h2⟩
  | choose ar k ih => exact ⟨h1.1, fun c hc => ih c (h1.2 c hc) (h2.2 c hc)⟩

theorem All.bind {P : β → Prop} {Q : γ → Prop} {t : Tree β} {f : β → Tree γ} (h : t.All P)
    (hf : ∀ b, P b → (f b).All Q) : (t.bind f).All Q := by
  induction t with
  | done b => exact hf b h
  | choose ar k ih => exact ⟨h.1, fun c hc => ih c (h.2 c hc)⟩

theorem All.map {P : β → Prop} {Q : γ → Prop} {t : Tree β} {f : β → γ} (h : t.All P)
    (hf : ∀ b, P b → Q (f b)) : (t.map f).All Q :=
  All.bind h (fun b hb => hf b hb)

theorem all_done {P : β → Prop} {b : β} (h : P b) : (Tree.done b).All P := h

theorem Uniform.bind {P : β → Prop} {a1 a2 : List Nat} {t : Tree β} {f : β → Tree γ}
    (hu : t.Uniform a1) (hP : t.All P) (hf : ∀ b, P b → (f b).Uniform a2) : (t.bind f).Uniform (a1 ++ a2) := by
  fun_induction Uniform a1 t with
  | case1 b => exact hf b hP
  | case2 a ar a' k ih => exact ⟨hu.1, hu.2.1, fun c hc => ih c (hu.2.2 c hc) (hP.2 c (hu.1 ▸ hc))⟩
  | case3 => exact hu.elim

theorem Uniform.map {a : List Nat} {t : Tree β} (f : β → γ) (hu : t.Uniform a) : (t.map f).Uniform a := by
  fun_induction Uniform a t with
  | case1 b => trivial
  | case2 a ar a' k ih => exact ⟨hu.1, hu.2.1, fun c hc => ih c (hu.2.2 c hc)⟩
  | case3 => exact hu.elim

theorem uniform_done (b : β) : (Tree.done b).Uniform [] := trivial

theorem uniform_choose {a : Nat} {ar : List Nat} {k : Nat → Tree β} (ha : 0 < a) (h : ∀ c, c < a → (k c).Uniform ar) :
    (Tree.choose a k).Uniform (a :: ar) := ⟨rfl, ha, h⟩

theorem all_choose {P : β → Prop} {a : Nat} {k : Nat → Tree β} (ha : 0 < a) (h : ∀ c, c < a → (k c).All P) :
    (Tree.choose a k).All P := ⟨ha, h⟩

end Tree

/-- the product of the arities: the number of leaves of a tree that is `Uniform ar` (`Uniform.leafCount`) -/
def prodAr (ar : List Nat) : Nat := ar.foldr (· * ·) 1

@[simp] theorem prodAr_nil : prodAr [] = 1 := rfl
@[simp] theorem prodAr_cons (a : Nat) (ar : List Nat) : prodAr (a :: ar) = a * prodAr ar := rfl
theorem prodAr_append (a b : List Nat) : prodAr (a ++ b) = prodAr a * prodAr b := by
  induction a with
  | nil => simp
  | cons x t ih => simp [ih, Nat.mul_assoc]

namespace Tree

theorem Uniform.leafCount {a : List Nat} {t : Tree β} (hu : t.Uniform a) : t.leafCount = prodAr a := by
  fun_induction Uniform a t with
  | case1 b => rfl
  | case2 a ar a' k ih =>
    obtain ⟨rfl, _, hk⟩ := hu
    exact (sumRange_congr fun c hc => ih c (hk c hc)).trans (sumRange_const a (prodAr ar))
  | case3 => exact hu.elim

theorem Src.next_lt (s : Src) {ar : Nat} (h : 0 < ar) : (s.next ar).1 < ar := by
  unfold Src.next
  split
  · exact h
  · exact Nat.mod_lt _ h

theorem Uniform.run_log {a : List Nat} {t : Tree β} (hu : t.Uniform a) (s : Src) :
    (t.run s).2.log = a.reverse ++ s.log ∧ (t.run s).2.q = s.q.drop a.length := by
  fun_induction Uniform a t generalizing s with
  | case1 b => exact ⟨rfl, rfl⟩
  | case2 a ar a' k ih =>
    obtain ⟨rfl, hpos, hk⟩ := hu
    have := ih _ (hk _ (s.next_lt hpos)) (s.next a).2
    rw [Tree.run, this.1, this.2]
    unfold Src.next
    split <;> rename_i hq <;> simp [hq]
  | case3 => exact hu.elim

/-- `b` is one of the possible results -/
def IsLeaf (b : β) : Tree β → Prop
  | .done b' => b = b'
  | .choose ar k => ∃ c, c < ar ∧ IsLeaf b (k c)

theorem All.of_leaf {P : β → Prop} {t : Tree β} {b : β} (h : t.All P) (hl : IsLeaf b t) : P b := by
  induction t with
  | done b' => simp only [IsLeaf] at hl; subst hl; exact h
  | choose ar k ih =>
    obtain ⟨c, hc, hl'⟩ := hl
    exact ih c (h.2 c hc) hl'

theorem run_isLeaf {P : β → Prop} {t : Tree β} (h : t.All P) (s : Src) : IsLeaf (t.run s).1 t := by
  induction t generalizing s with
  | done b => rfl
  | choose ar k ih =>
    simp only [Tree.run, IsLeaf]
    exact ⟨_, s.next_lt h.1, ih _ (h.2 _ (s.next_lt h.1)) _⟩

theorem All.run {P : β → Prop} {t : Tree β} (h : t.All P) (s : Src) : P (t.run s).1 :=
  h.of_leaf (run_isLeaf h s)

/-- `sumOver [a₁,…,aₘ] F = Σ_{v₁<a₁} … Σ_{vₘ<aₘ} F [v₁,…,vₘ]`: the sum over all choice vectors -/
def sumOver : List Nat → (List Nat → Nat) → Nat
  | [], F => F []
  | a :: ar, F => sumRange a (fun c => sumOver ar (fun v => F (c :: v)))

theorem Uniform.sum_eq_sumOver {a : List Nat} {t : Tree β} (hu : t.Uniform a) (W : β → Nat) (lg : List Nat) :
    t.sum W = sumOver a (fun v => W (t.run { q := v, log := lg }).1) := by
  fun_induction Uniform a t generalizing lg with
  | case1 b => rfl
  | case2 a ar a' k ih =>
    obtain ⟨rfl, hpos, hk⟩ := hu
    refine sumRange_congr fun c hc => ?_
    rw [ih c (hk c hc) (a :: lg)]
    simp [Tree.run, Src.next, Nat.mod_eq_of_lt hc]
  | case3 => exact hu.elim

end DS.Quantiles.Tree
