/-
C11 (count-min part) — truncated images are rejected; no count field can make the specification reader
allocate beyond the input length.

ONLY property theorems + non-vacuity examples.  Model: DSModel/Wire/CountMin.lean.  `decode` is built only
from the bounded combinators, which cannot read out of bounds by construction; `decode_within` (one line per
combinator, Lemmas/WireCount.lean) gives prefix safety and the bound, and with C09's round trip every strict prefix of every valid image is
rejected (count-min images have no information-free padding, so there is no `isPadding` disjunct).
The real readers are held to this verdict by the exhaustive-prefix runs of `./check c11_count`.
-/
import DSProofs.Props.C09_CountMin
namespace DS.Wire.CountMin
open DS.Wire

theorem decodeBody_PS (n : Nat) (e : Bool) : PS (decodeBody n e) := (decodeBody_within n e).ps

/-- the documented reader is prefix-safe (for every constant set) -/
theorem decode_PS (c : CmConsts) : PS (decode c) := (decode_within c).ps

/-- **every strict prefix of every valid image is rejected** -/
theorem prefix_rejected (c : CmConsts) (hc : c.ok) (s : Image) (hs : WF c s) (n : Nat) (hn : n < (encode c s).length) :
    decode c ((encode c s).take n) = none :=
  prefix_rejected' (decode c) (decode_PS c) (encode c s) s (decode_encode c hc s hs) n hn

/-- **bounded**: whatever bytes are accepted, the number of cells of the result is at most the input length
(the product `num_hashes · num_buckets` read from the image cannot make the reader materialise more than it was given) -/
theorem decode_bounded (c : CmConsts) (b r : Bytes) (s : Image) (h : decode c b = some (s, r)) :
    count s ≤ b.length :=
  (decode_within c).le h

/-- non-vacuity: a 48-byte image; its 47-byte prefix is rejected by the executable reader -/
example : (encode generated { numBuckets := 3, numHashes := 1, seedHash := 37836, body := some (5, [1, 0, 4]) }).length = 48 := by decide +kernel
example : decode generated ((encode generated { numBuckets := 3, numHashes := 1, seedHash := 37836, body := some (5, [1, 0, 4]) }).take 47) = none := by
  decide +kernel

end DS.Wire.CountMin
