/-
Soundness of the symbolic evaluator of DSModel/Wire/BitPack.lean, the part that both directions share: the relations between
symbolic and concrete bits, words and memories (`Interp`, `WordRel`, `MemRel`), with one lemma for each thing a statement does.
-/
import DSProofs.Lemmas.BitPack
import DSProofs.Lemmas.ListAux
import DSProofs.Lemmas.BitPackSym
namespace DS.Wire.BitPack

/-- a concrete bit agrees with a symbolic one (`bad` says nothing) -/
def Interp (src : Nat → Nat → Bool) : SBit → Bool → Prop
  | .zero, b => b = false
  | .src i p, b => b = src i p
  | .bad, _ => True

/-- `l`: the 8 values of a pack routine, the bytes of an unpack routine -/
def srcVals (l : List Nat) : Nat → Nat → Bool := fun i p => (l.getD i 0).testBit p

theorem Interp.or {src : Nat → Nat → Bool} {a b : SBit} {x y : Bool} (ha : Interp src a x) (hb : Interp src b y) :
    Interp src (a.or b) (x || y) := by
  cases a <;> cases b <;> simp_all [SBit.or, Interp]

structure WordRel (src : Nat → Nat → Bool) (w : Nat) (sb : List SBit) (x : Nat) : Prop where
  len : sb.length = w
  lt : x < 2 ^ w
  bits : ∀ b, b < w → Interp src (sb.getD b .bad) (x.testBit b)

theorem length_orBits (a b : List SBit) (h : a.length = b.length) : (orBits a b).length = a.length := by
  rw [orBits_eq_zipWith, List.length_zipWith, h, Nat.min_self]

theorem getD_orBits (a b : List SBit) (h : a.length = b.length) (j : Nat) (hj : j < a.length) :
    (orBits a b).getD j .bad = (a.getD j .bad).or (b.getD j .bad) := by
  simp [orBits_eq_zipWith, List.getD_eq_getElem?_getD, List.getElem?_zipWith, hj, h ▸ hj]

theorem WordRel.or {src : Nat → Nat → Bool} {w : Nat} {sa sb : List SBit} {x y : Nat} (ha : WordRel src w sa x)
    (hb : WordRel src w sb y) : WordRel src w (orBits sa sb) (x ||| y) where
  len := by rw [length_orBits sa sb (ha.len.trans hb.len.symm), ha.len]
  lt := Nat.or_lt_two_pow ha.lt hb.lt
  bits := fun b hbw => by
    rw [getD_orBits sa sb (ha.len.trans hb.len.symm) b (ha.len ▸ hbw), Nat.testBit_or]
    exact (ha.bits b hbw).or (hb.bits b hbw)

def shNat (sh : Sh) (x : Nat) : Nat :=
  match sh with
  | .none => x
  | .shl k => x <<< k
  | .shr k => x >>> k

theorem interp_shBit {src : Nat → Nat → Bool} (sh : Sh) {f : Nat → SBit} {x : Nat} (h : ∀ p, Interp src (f p) (x.testBit p))
    (p : Nat) : Interp src (shBit sh f p) ((shNat sh x).testBit p) := by
  cases sh with
  | none => exact h p
  | shl k =>
    rw [shBit, shNat, Nat.testBit_shiftLeft]
    split
    · rename_i hk; rw [decide_eq_false (Nat.not_le.2 hk)]; rfl
    · rename_i hk; rw [decide_eq_true (Nat.le_of_not_lt hk)]; exact h (p - k)
  | shr k => rw [shBit, shNat, Nat.testBit_shiftRight, Nat.add_comm k p]; exact h (p + k)

theorem wordRel_sh {src : Nat → Nat → Bool} (w : Nat) (sh : Sh) {f : Nat → SBit} {x : Nat}
    (h : ∀ p, Interp src (f p) (x.testBit p)) : WordRel src w ((List.range w).map (shBit sh f)) (shNat sh x % 2 ^ w) where
  len := by rw [List.length_map, List.length_range]
  lt := Nat.mod_lt _ (Nat.two_pow_pos w)
  bits := fun b hb => by
    rw [getD_map_range _ w b SBit.bad hb, Nat.testBit_mod_two_pow, decide_eq_true hb, Bool.true_and]
    exact interp_shBit sh h b

structure MemRel (src : Nat → Nat → Bool) (w : Nat) (sm : List (List SBit)) (cm : List Nat) : Prop where
  len : sm.length = cm.length
  words : ∀ j, j < cm.length → WordRel src w (sm.getD j []) (cm.getD j 0)

theorem MemRel.update {src : Nat → Nat → Bool} {w : Nat} {sm : List (List SBit)} {cm : List Nat} (h : MemRel src w sm cm)
    {i : Nat} (hi : i < cm.length) (isOr : Bool) {sb : List SBit} {x : Nat} (hw : WordRel src w sb x) :
    MemRel src w (sm.set i (if isOr then orBits (sm.getD i []) sb else sb)) (cm.set i (if isOr then cm.getD i 0 ||| x else x)) where
  len := by rw [List.length_set, List.length_set, h.len]
  words := fun j hj => by
    rw [List.length_set] at hj
    by_cases hij : j = i
    · subst hij
      rw [getD_set_eq _ _ _ (h.len ▸ hj), getD_set_eq _ _ _ hj]
      cases isOr
      · exact hw
      · exact (h.words j hi).or hw
    · rw [getD_set_ne _ _ _ _ hij, getD_set_ne _ _ _ _ hij]
      exact h.words j hj

theorem memRel_init (src : Nat → Nat → Bool) (w : Nat) {init : SBit} {n : Nat} {mem0 : List Nat} (hm : mem0.length = n)
    (hb : ∀ x ∈ mem0, x < 2 ^ w) (hinit : init = .bad ∨ (init = .zero ∧ ∀ x ∈ mem0, x = 0)) :
    MemRel src w (List.replicate n (List.replicate w init)) mem0 where
  len := by rw [List.length_replicate, hm]
  words := fun j hj => by
    have hmem := getD_mem mem0 j 0 hj
    rw [getD_replicate n _ _ j (hm ▸ hj)]
    refine ⟨List.length_replicate, hb _ hmem, fun b hbw => ?_⟩
    rw [getD_replicate w init .bad b hbw]
    rcases hinit with h | ⟨h, hz⟩
    · rw [h]; trivial
    · rw [h, hz _ hmem]; exact Nat.zero_testBit b

/-- the layout has no `bad`, so every bit of the memory is told: it is the bit of the field (`testBit_splitFields_get`,
`testBit_joinFields`) -/
theorem regroup_of_memRel {a la b lb wb : Nat} (hab : a * la = b * lb) (hbw : b ≤ wb) (l : List Nat) (hl : l.length = la)
    (hv : ∀ v ∈ l, v < 2 ^ a) (cm : List Nat) (h : MemRel (srcVals l) wb (regroupLayout a la b lb wb) cm) :
    cm = splitFields b lb (joinFields a l) := by
  have hlen : cm.length = lb := by rw [← h.len, regroupLayout, List.length_map, List.length_range]
  refine ext_getD cm _ 0 (by rw [length_splitFields, hlen]) fun j hj => Nat.eq_of_testBit_eq fun p => ?_
  have hw := h.words j hj
  rw [hlen] at hj
  rw [testBit_splitFields_get b lb _ j p hj]
  by_cases hp : p < wb
  · have hbit := hw.bits p hp
    rw [regroupLayout, getD_map_range _ lb j [] hj, getD_map_range _ wb p SBit.bad hp] at hbit
    by_cases hpb : p < b
    · rw [if_pos hpb] at hbit
      rw [decide_eq_true hpb, Bool.true_and, testBit_joinFields a l hv _ (hl ▸ regroup_pos_lt hab hj hpb), hl]
      exact hbit
    · rw [if_neg hpb] at hbit
      rw [decide_eq_false hpb, Bool.false_and]
      exact hbit
  · rw [Nat.testBit_lt_two_pow (Nat.lt_of_lt_of_le hw.lt (Nat.pow_le_pow_right (by decide) (Nat.le_of_not_lt hp))),
      decide_eq_false fun hpb => hp (Nat.lt_of_lt_of_le hpb hbw), Bool.false_and]

end DS.Wire.BitPack
