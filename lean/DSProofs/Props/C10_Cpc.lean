/-
C10 (CPC part) — the documented cross-language layout.

ONLY property theorems + non-vacuity examples.  `DSModel/Wire/Cpc.lean` `encode` / `decode` ARE the documented layout
(field order and widths transcribed from cpc_sketch_impl.hpp `serialize` / `deserialize` and the Java/C++ format
description: family 16, serial version 1, flags byte, preamble ints per flavor).  Every wire constant the translator
(tools/trules/wire_cpc.py) re-extracts from the CURRENT headers must equal the documented value written here by hand:
a consistent writer+reader change (another family id, another flag bit, another field order) still round-trips, and
is caught here.  CPC has one serial version and no legacy formats.
-/
import DSModel.Wire.CpcGen
import DSGen.Cpc
namespace DS.Wire.Cpc
open DS.Wire

/-- field codes of the documented order: 0 preamble ints · 1 serial version · 2 family · 3 lg_k · 4 first interesting column ·
5 flags · 6 seed hash · 7 num coupons · 8 table num entries · 9 HIP registers (kxp, hip accumulator) · 10 table data words ·
11 window data words · (9 HIP registers in their second position) · 12 window data · 13 table data -/
def documentedOrder : List Nat := [0, 1, 2, 3, 4, 5, 6, 7, 8, 9, 10, 11, 9, 12, 13]

/-- widths of the seven fixed header fields, hence the documented byte offsets 0,1,2,3,4,5,6 and the 8-byte fixed part -/
def documentedHeaderWidths : List Nat := [1, 1, 1, 1, 1, 1, 2]

def offsetsOf (ws : List Nat) : List Nat := (ws.foldl (fun (acc : List Nat × Nat) w => (acc.1 ++ [acc.2], acc.2 + w)) ([], 0)).1

/-- **every wire constant of the current headers equals the documented value** -/
theorem wire_consts_documented :
    generated = documented ∧
    DSGen.wirecpc_ORDER_SER_STREAM = documentedOrder ∧ DSGen.wirecpc_ORDER_SER_BYTES = documentedOrder ∧
    DSGen.wirecpc_ORDER_DES_STREAM = documentedOrder ∧ DSGen.wirecpc_ORDER_DES_BYTES = documentedOrder ∧
    DSGen.wirecpc_HEADER_WIDTHS = documentedHeaderWidths ∧
    offsetsOf DSGen.wirecpc_HEADER_WIDTHS = [0, 1, 2, 3, 4, 5, 6] ∧ DSGen.wirecpc_HEADER_WIDTHS.sum = 8 := by
  decide

/-- preamble ints per flavor under the documented constants: empty 2; sparse/hybrid (table only) 4 merged, 8 with HIP;
pinned/sliding without surprising values (window only) 4 / 8; with both 6 / 10 -/
theorem preamble_ints_documented :
    preInts documented 0 true false false = 2 ∧ preInts documented 0 false false false = 2 ∧
    preInts documented 1 false true false = 4 ∧ preInts documented 1 true true false = 8 ∧
    preInts documented 1 false false true = 4 ∧ preInts documented 1 true false true = 8 ∧
    preInts documented 1 false true true = 6 ∧ preInts documented 1 true true true = 10 := by
  decide

/-- the flags byte per combination under the documented constants (compressed bit always set, big-endian bit never) -/
theorem flags_documented :
    flagsByte documented false false false = 0x02 ∧ flagsByte documented true false false = 0x06 ∧
    flagsByte documented true true false = 0x0e ∧ flagsByte documented false true false = 0x0a ∧
    flagsByte documented true false true = 0x16 ∧ flagsByte documented true true true = 0x1e ∧
    flagsByte documented false true true = 0x1a ∧ flagsByte documented false false true = 0x12 := by
  decide

/-- order-sensitive digest of a table (polynomial hash modulo 2^61 - 1) -/
def digest (l : List Nat) : Nat := l.foldl (fun a x => (a * 1000003 + x + 1) % 2305843009213693951) 7

/-- **the compression tables are part of the cross-language format**: the 22 Huffman tables, the 65-symbol x-delta table and the
16 column permutations regenerated from compression_data.hpp have the documented digests (a consistent change of a table
keeps every round trip and is caught here) -/
theorem compression_tables_documented :
    digest DSGen.cpc_ENC_TABLES.flatten = 410311389540784090 ∧ digest DSGen.cpc_UNARY65 = 2069375777614789736 ∧
    digest DSGen.cpc_COL_PERMS.flatten = 500374105028208345 := by
  -- folded row by row: building the flattened list is what is dear to evaluate
  simp only [digest, List.foldl_flatten]
  decide +kernel

/-! Non-vacuity: the first bytes of an empty lg_k = 11 image with the default seed are the documented ones. -/
def exEmpty : Image :=
  { lgK := 11, fic := 0, seedHash := 37836, hasHip := true, hasTable := false, hasWindow := false,
    coupons := 0, numEntries := 0, kxp := 0, hip := 0, windowWords := [], tableWords := [] }
example : encode documented exEmpty = [2, 1, 16, 11, 0, 6, 0xcc, 0x93] := by decide

end DS.Wire.Cpc
