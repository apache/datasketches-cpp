/- `merge` keeps the structural invariant `InvS`, part by part: level-0 replay, populate_work_arrays (`zipLevels`),
general_compress (its loop opened once, `gcLoop_ind`, under the counters' invariant `GcInv`), merge_higher_levels. -/
import DSProofs.Lemmas.KllInv
namespace DS.Kll
open DS DS.SortedView DS.Mech

variable {α : Type}

theorem replayT_inv {P : Params} (ok : ParamsOk P) {c : Cmp α} (sw : StrictWeak c.lt) :
    ∀ (xs : List α) {s : Sketch α}, InvS P c.lt s →
    CT.All (fun s' => InvS P c.lt s' ∧ s'.n = s.n + xs.length ∧ s'.k = s.k) (replayT P c s xs)
  | [], s, h => ⟨h, rfl, rfl⟩
  | x :: t, s, h => by
    refine CT.All_bind (internalUpdateT_inv ok sw h x) fun s1 ⟨h1, hn1, hk1, _⟩ => ?_
    refine CT.All.imp (fun s2 ⟨h2, hn2, hk2⟩ => ⟨h2, ?_, hk2.trans hk1⟩) (replayT_inv ok sw t h1)
    rw [hn2, hn1, List.length_cons, Nat.add_assoc, Nat.add_comm 1]

theorem zipLevels_nil_right (lt : α → α → Bool) : ∀ a : List (List α), zipLevels lt a [] = a
  | [] => rfl
  | _ :: _ => rfl

theorem zipLevels_getD (lt : α → α → Bool) : ∀ (a b : List (List α)) (i : Nat),
    (zipLevels lt a b).getD i [] = mergeUp lt (a.getD i []) (b.getD i [])
  | [], b, i => by simp [zipLevels]
  | x :: a, [], i => by simp [zipLevels]
  | x :: a, y :: b, 0 => by simp [zipLevels]
  | x :: a, y :: b, i + 1 => by simp only [zipLevels, List.getD_cons_succ]; exact zipLevels_getD lt a b i

theorem zipLevels_length (lt : α → α → Bool) : ∀ (a b : List (List α)), (zipLevels lt a b).length = max a.length b.length
  | [], b => by simp [zipLevels]
  | x :: a, [] => by simp [zipLevels]
  | x :: a, y :: b => by simp only [zipLevels, List.length_cons, zipLevels_length lt a b]; omega

/-- the top-level clause of `InvS` read on the levels above 0 -/
theorem top_tail : ∀ {L : List (List α)}, L.length = 1 ∨ L.getD (L.length - 1) [] ≠ [] →
    L.tail = [] ∨ L.tail.getD (L.tail.length - 1) [] ≠ []
  | [], _ => Or.inl rfl
  | [_], _ => Or.inl rfl
  | l :: x :: t, h => Or.inr (getD_cons_top [] l (List.cons_ne_nil x t) ▸ h.resolve_left (fun e => nomatch e))

/-- the top level of the zip is the top level of the taller operand, merged with the other's level of that height if it has one -/
theorem zipLevels_top (lt : α → α → Bool) {a b : List (List α)} (ha : a = [] ∨ a.getD (a.length - 1) [] ≠ [])
    (hb : b = [] ∨ b.getD (b.length - 1) [] ≠ []) (hne : b ≠ []) :
    (zipLevels lt a b).getD ((zipLevels lt a b).length - 1) [] ≠ [] := by
  rw [zipLevels_length, zipLevels_getD]
  intro hnil
  obtain ⟨h1, h2⟩ := mergeUp_eq_nil hnil
  rcases Nat.le_total a.length b.length with h | h
  · rw [Nat.max_eq_right h] at h2; exact hb.elim hne (fun hb => hb h2)
  · rw [Nat.max_eq_left h] at h1
    rcases ha with rfl | ha
    · exact hne (List.eq_nil_of_length_eq_zero (Nat.le_zero.mp h))
    · exact ha h1

theorem zipLevels_ne_nil (lt : α → α → Bool) : ∀ (a : List (List α)) {b : List (List α)}, b ≠ [] → zipLevels lt a b ≠ []
  | _, [], h => absurd rfl h
  | [], _ :: _, _ => List.cons_ne_nil _ _
  | _ :: _, _ :: _, _ => List.cons_ne_nil _ _

theorem lt_length_reverse_append (below : List (List α)) (cur : List α) (rest : List (List α)) :
    below.length < (below.reverse ++ cur :: rest).length := by
  rw [List.length_append, List.length_reverse]; exact Nat.lt_add_of_pos_right (Nat.succ_pos _)

theorem getD_reverse_append (below : List (List α)) (cur : List α) (rest : List (List α)) :
    (below.reverse ++ cur :: rest).getD below.length [] = cur := by
  have := getD_append_add [] below.reverse (cur :: rest) 0
  rwa [List.length_reverse] at this

/-- `n` levels are above the level in hand -/
theorem levelCapacity_cur (P : Params) (k b n : Nat) : levelCapacity P k (b + 1 + n) b = capAtDepth P k n := by
  rw [levelCapacity_eq]; congr 1; omega

/-- without a `match` on `rest`, so that a proof about two runs (`gcLoop_GS`) need not take both lists apart -/
theorem gcLoop_succ (P : Params) (lt : α → α → Bool) (k : Nat) (sorted0 : Bool) (fuel : Nat) (below : List (List α))
    (cur : List α) (rest : List (List α)) (cnt tgt : Nat) :
    gcLoop P lt k sorted0 (fuel + 1) below cur rest cnt tgt =
      if cnt < tgt ∨ cur.length < capAtDepth P k rest.length then
        if rest.isEmpty then CT.ret (below.reverse ++ [cur], tgt)
        else gcLoop P lt k sorted0 fuel (cur :: below) (rest.headD []) rest.tail cnt tgt
      else CT.flip fun coin => gcLoop P lt k sorted0 fuel (leftoverOf cur :: below)
        (newAbove lt (below.length == 0 && !sorted0) coin cur (rest.headD [])) rest.tail (cnt - cur.length / 2)
        (if rest.isEmpty then tgt + levelCapacity P k (below.length + 2) 0 else tgt) := by
  cases rest <;> simp only [gcLoop, levelCapacity_cur, Bool.or_eq_true, decide_eq_true_eq] <;> rfl

theorem gcLoop_levels (lt : α → α → Bool) (srt coin : Bool) (below : List (List α)) (cur : List α) (rest : List (List α)) :
    (leftoverOf cur :: below).reverse ++ newAbove lt srt coin cur (rest.headD []) :: rest.tail
      = compactCore lt (below.reverse ++ cur :: rest) below.length srt (rest.headD []).isEmpty coin := by
  rw [List.reverse_cons, List.append_assoc, List.singleton_append, newAbove_eq,
    ← compactCore_append lt srt _ coin cur rest below.reverse, List.length_reverse]

theorem gcLoop_full {P : Params} (ok : ParamsOk P) {cap cnt tgt len : Nat} (hcap : P.m ≤ cap)
    (hc : ¬ (cnt < tgt ∨ len < cap)) : tgt ≤ cnt ∧ 2 ≤ len := by
  have := ok.m_ge
  omega

/-- The counters of `general_compress` at the head of its loop.  `room`: either the items fit already, or the levels done
so far are below their capacities, so that what they hold and the capacities of the levels still to come are within `tgt`. -/
structure GcInv (P : Params) (k : Nat) (below : List (List α)) (cur : List α) (rest : List (List α)) (cnt tgt fuel : Nat) :
    Prop where
  cnt_eq : cnt = sizeSum (below.reverse ++ cur :: rest)
  tgt_eq : tgt = totalCapD P k (below.length + 1 + rest.length)
  room : cnt < tgt ∨ sizeSum below + totalCapD P k (rest.length + 1) ≤ tgt
  fuel_gt : cur.length + sizeSum rest + rest.length < fuel

theorem GcInv.init (P : Params) (k : Nat) (cur : List α) (rest : List (List α)) :
    GcInv P k [] cur rest (sizeSum (cur :: rest)) (computeTotalCapacity P k (cur :: rest).length) (gcFuel (cur :: rest)) :=
  ⟨rfl, by rw [computeTotalCapacity_eq, List.length_cons, List.length_nil, Nat.zero_add, Nat.add_comm],
    Or.inr (by rw [computeTotalCapacity_eq]; exact Nat.le_of_eq (Nat.zero_add _)),
    Nat.lt_succ_of_le (Nat.le_succ _)⟩

/-- a level holding no more than its capacity `C` joins the levels done so far -/
theorem GcInv.room_step {B T C x tgt : Nat} (h : B + (T + C) ≤ tgt) (hx : x ≤ C) : x + B + T ≤ tgt :=
  Nat.le_trans (by rw [Nat.add_comm x, Nat.add_assoc, Nat.add_comm x]; exact Nat.add_le_add_left (Nat.add_le_add_left hx T) B) h

theorem GcInv.done {P : Params} {k : Nat} {below : List (List α)} {cur : List α} {cnt tgt fuel : Nat}
    (h : GcInv P k below cur [] cnt tgt fuel) (hc : cnt < tgt ∨ cur.length < capAtDepth P k 0) :
    tgt = computeTotalCapacity P k (below.reverse ++ [cur]).length ∧ sizeSum (below.reverse ++ [cur]) ≤ tgt := by
  refine ⟨by rw [computeTotalCapacity_eq, List.length_append, List.length_reverse]; exact h.tgt_eq, ?_⟩
  rcases hc with hc | hc
  · exact h.cnt_eq ▸ Nat.le_of_lt hc
  · rcases h.room with h3 | h3
    · exact h.cnt_eq ▸ Nat.le_of_lt h3
    · rw [sizeSum_append, sizeSum_reverse, Nat.add_comm]
      exact GcInv.room_step (B := sizeSum below) (T := 0) (x := cur.length) h3 (Nat.le_of_lt hc)

theorem GcInv.advance {P : Params} {k : Nat} {below : List (List α)} {cur r : List α} {rs : List (List α)}
    {cnt tgt fuel : Nat} (h : GcInv P k below cur (r :: rs) cnt tgt (fuel + 1))
    (hc : cnt < tgt ∨ cur.length < capAtDepth P k (rs.length + 1)) : GcInv P k (cur :: below) r rs cnt tgt fuel := by
  obtain ⟨h1, h2, h3, h4⟩ := h
  refine ⟨by rw [h1, List.reverse_cons, List.append_assoc]; rfl,
    by rw [h2, List.length_cons, List.length_cons, Nat.add_assoc (below.length + 1), Nat.add_comm 1], ?_,
    Nat.lt_of_lt_of_le ?_ (Nat.le_of_lt_succ h4)⟩
  · rcases hc with hc | hc
    · exact Or.inl hc
    · exact h3.imp_right fun h3 => GcInv.room_step h3 (Nat.le_of_lt hc)
  · exact Nat.add_le_add_right (Nat.le_add_left (r.length + sizeSum rs) cur.length) (rs.length + 1)

theorem GcInv.compact {P : Params} (ok : ParamsOk P) (lt : α → α → Bool) (srt coin : Bool) {k : Nat}
    {below : List (List α)} {cur : List α} {rest : List (List α)} {cnt tgt fuel : Nat}
    (h : GcInv P k below cur rest cnt tgt (fuel + 1)) (hfull : tgt ≤ cnt ∧ 2 ≤ cur.length) :
    GcInv P k (leftoverOf cur :: below) (newAbove lt srt coin cur (rest.headD [])) rest.tail (cnt - cur.length / 2)
      (if rest.isEmpty then tgt + levelCapacity P k (below.length + 2) 0 else tgt) fuel := by
  obtain ⟨h1, h2, h3, h4⟩ := h
  have h3 := h3.resolve_left (Nat.not_lt.mpr hfull.1)
  -- the leftover is one item at most, less than any capacity
  have hlo : ∀ d, (leftoverOf cur).length ≤ capAtDepth P k d := fun d => by
    rw [leftoverOf_length]
    exact Nat.le_trans (Nat.le_of_lt (Nat.mod_lt _ Nat.zero_lt_two)) (Nat.le_trans ok.m_ge (capAtDepth_ge P k d))
  have hcnt : cnt - cur.length / 2
      = sizeSum ((leftoverOf cur :: below).reverse ++ newAbove lt srt coin cur (rest.headD []) :: rest.tail) := by
    have := sizeSum_compactCore lt srt (rest.headD []).isEmpty coin (below.reverse ++ cur :: rest) below.length
    rw [getD_reverse_append, ← h1] at this
    rw [gcLoop_levels]; exact Nat.sub_eq_of_eq_add this.symm
  cases rest with
  | nil =>
    refine ⟨hcnt, by rw [h2]; rfl, Or.inr ?_, Nat.lt_of_lt_of_le ?_ (Nat.le_of_lt_succ h4)⟩
    · exact GcInv.room_step (T := totalCapD P k 1) (Nat.add_assoc .. ▸ Nat.add_le_add_right h3 _) (hlo _)
    · rw [newAbove_length]; exact Nat.div_lt_self (Nat.lt_of_lt_of_le Nat.zero_lt_two hfull.2) (Nat.lt_succ_self 1)
  | cons r rs =>
    refine ⟨hcnt, ?_, Or.inr (GcInv.room_step h3 (hlo _)), Nat.lt_of_lt_of_le ?_ (Nat.le_of_lt_succ h4)⟩
    · rw [h2, List.length_cons, List.length_cons, Nat.add_assoc (below.length + 1), Nat.add_comm 1]; rfl
    · -- `newAbove` holds `cur.length / 2 + r.length` items, at most `cur.length + r.length`
      rw [newAbove_length]
      exact Nat.add_le_add_right (Nat.le_trans (Nat.add_le_add_right (Nat.add_le_add_right (Nat.div_le_self ..) _) _)
        (Nat.le_of_eq (Nat.add_assoc ..))) (rs.length + 1)

/-- `general_compress` is a tree of compactions, each of a level of at least two items and sorting exactly an unsorted
level 0; at its leaves the target is the capacity of the number of levels and the levels are within it.  `M L t`: what is
claimed of a tree `t` grown from the levels `L`. -/
theorem gcLoop_ind {P : Params} (ok : ParamsOk P) (lt : α → α → Bool) (k : Nat) (sorted0 : Bool)
    {M : List (List α) → CT (List (List α) × Nat) → Prop}
    (ret : ∀ L tgt, tgt = computeTotalCapacity P k L.length → sizeSum L ≤ tgt → M L (CT.ret (L, tgt)))
    (flip : ∀ (L : List (List α)) (i : Nat) (up : Bool) (f : Bool → CT (List (List α) × Nat)), i < L.length →
      2 ≤ (L.getD i []).length → (∀ c, M (compactCore lt L i (i == 0 && !sorted0) up c) (f c)) → M L (CT.flip f)) :
    ∀ (fuel : Nat) (below : List (List α)) (cur : List α) (rest : List (List α)) (cnt tgt : Nat),
    GcInv P k below cur rest cnt tgt fuel →
    M (below.reverse ++ cur :: rest) (gcLoop P lt k sorted0 fuel below cur rest cnt tgt)
  | 0, _, _, _, _, _, h => absurd h.fuel_gt (Nat.not_lt_zero _)
  | fuel + 1, below, cur, rest, cnt, tgt, h => by
    rw [gcLoop_succ]
    by_cases hc : cnt < tgt ∨ cur.length < capAtDepth P k rest.length
    · rw [if_pos hc]
      cases rest with
      | nil => exact ret _ _ (h.done hc).1 (h.done hc).2
      | cons r rs =>
        have := gcLoop_ind ok lt k sorted0 ret flip fuel (cur :: below) r rs cnt tgt (h.advance hc)
        rwa [List.reverse_cons, List.append_assoc] at this
    · rw [if_neg hc]
      have hfull := gcLoop_full ok (capAtDepth_ge P k _) hc
      refine flip _ below.length (rest.headD []).isEmpty _ (lt_length_reverse_append ..) ?_ fun coin => ?_
      · rw [getD_reverse_append]; exact hfull.2
      · rw [← gcLoop_levels]; exact gcLoop_ind ok lt k sorted0 ret flip fuel _ _ _ _ _ (h.compact ok lt _ coin hfull)

theorem gcLoop_All {P : Params} (ok : ParamsOk P) (lt : α → α → Bool) (k : Nat) (sorted0 : Bool) {Q : List (List α) → Prop}
    (hQ : ∀ (L : List (List α)) (i : Nat) (up c : Bool), i < L.length → 2 ≤ (L.getD i []).length → Q L →
      Q (compactCore lt L i (i == 0 && !sorted0) up c))
    (fuel : Nat) (below : List (List α)) (cur : List α) (rest : List (List α)) (cnt tgt : Nat)
    (h : GcInv P k below cur rest cnt tgt fuel) :
    Q (below.reverse ++ cur :: rest) → CT.All (fun r => Q r.1) (gcLoop P lt k sorted0 fuel below cur rest cnt tgt) :=
  gcLoop_ind ok lt k sorted0 (M := fun L t => Q L → CT.All (fun r : List (List α) × Nat => Q r.1) t) (fun _ _ _ _ h => h)
    (fun L i up _ hi h2 ih h c => ih c (hQ L i up c hi h2 h)) fuel below cur rest cnt tgt h

/-- what every leaf `r` of `gcLoop` started on the levels `L` satisfies: the clauses of `InvS` but `ne`, with the weight of `L` -/
structure GcPost (P : Params) (lt : α → α → Bool) (k : Nat) (sorted0 : Bool) (L : List (List α)) (r : List (List α) × Nat) : Prop where
  weight : weightSum 0 r.1 = weightSum 0 L
  cap : r.2 = computeTotalCapacity P k r.1.length
  ret_le : sizeSum r.1 ≤ r.2
  sorted : LevelsSorted lt r.1
  sorted0 : sorted0 = true → Sorted lt (r.1.getD 0 [])
  top : r.1.getD (r.1.length - 1) [] ≠ []
  len : L.length ≤ r.1.length

theorem gcLoop_inv {P : Params} (ok : ParamsOk P) {lt : α → α → Bool} (sw : StrictWeak lt) (k : Nat) (sorted0 : Bool)
    (fuel : Nat) (below : List (List α)) (cur : List α) (rest : List (List α)) (cnt tgt : Nat)
    (hcnt : GcInv P k below cur rest cnt tgt fuel)
    (hord : LevelsOrd lt sorted0 (below.reverse ++ cur :: rest))
    (htop : (below.reverse ++ cur :: rest).getD ((below.reverse ++ cur :: rest).length - 1) [] ≠ []) :
    CT.All (GcPost P lt k sorted0 (below.reverse ++ cur :: rest)) (gcLoop P lt k sorted0 fuel below cur rest cnt tgt) :=
  gcLoop_ind ok lt k sorted0 (M := fun L t => weightSum 0 L = weightSum 0 (below.reverse ++ cur :: rest) →
      LevelsOrd lt sorted0 L → L.getD (L.length - 1) [] ≠ [] → (below.reverse ++ cur :: rest).length ≤ L.length →
      CT.All (GcPost P lt k sorted0 (below.reverse ++ cur :: rest)) t)
    (fun _ _ hc hr hw ho ht hl => ⟨hw, hc, hr, ho.1, ho.2, ht, hl⟩)
    (fun L i up _ hi h2 ih hw ho ht hl c => ih c ((weightSum_compactCore lt 0 L i _ up c hi).trans hw)
      (ho.compactCore sw up c hi) (top_compactCore lt _ up c hi h2 (Or.inr ht))
      (Nat.le_trans hl (le_compactCore_length lt L i _ up c)))
    fuel below cur rest cnt tgt hcnt rfl hord htop (Nat.le_refl _)

theorem tail_eq_nil_of_numLevels_lt {s : Sketch α} (h : ¬ s.numLevels ≥ 2) : s.levels.tail = [] :=
  List.eq_nil_of_length_eq_zero
    (by rw [List.length_tail]; exact Nat.sub_eq_zero_of_le (Nat.le_of_lt_succ (Nat.not_le.mp h)))

theorem mergeHigherT_inv {P : Params} (ok : ParamsOk P) {c : Cmp α} (sw : StrictWeak c.lt) {s o : Sketch α}
    (hs : InvS P c.lt s) (ho : InvS P c.lt o) (ho2 : 2 ≤ o.levels.length) :
    CT.All (fun s' => InvS P c.lt { s' with n := s.n + weightSum 1 o.levels.tail } ∧ s'.k = s.k ∧ s'.minK = s.minK ∧
              2 ≤ s'.levels.length) (mergeHigherT P c s o) := by
  unfold mergeHigherT
  have hww : weightSum 0 (s.levels.headD [] :: zipLevels c.lt s.levels.tail o.levels.tail)
      = s.n + weightSum 1 o.levels.tail := by
    rw [weightSum_zero_cons, weightSum_zipLevels, ← hs.weight]
    conv => rhs; rw [levels_eq_cons hs, weightSum_zero_cons]
    omega
  have hot : o.levels.tail ≠ [] := fun h => by
    have := congrArg List.length h
    rw [List.length_tail] at this
    exact absurd ho2 (Nat.not_le.mpr (Nat.lt_succ_of_le (Nat.le_of_sub_eq_zero this)))
  have hZne := zipLevels_ne_nil c.lt s.levels.tail hot
  have hZtop := zipLevels_top c.lt (top_tail hs.top) (top_tail ho.top) hot
  have hZget : ∀ i, (zipLevels c.lt s.levels.tail o.levels.tail).getD i []
      = mergeUp c.lt (s.levels.getD (i + 1) []) (o.levels.getD (i + 1) []) := by
    intro i; rw [zipLevels_getD, getD_tail, getD_tail]
  generalize zipLevels c.lt s.levels.tail o.levels.tail = Z at hww hZne hZtop hZget ⊢
  refine CT.All_bind (gcLoop_inv ok sw s.k s.sorted0 _ [] (s.levels.headD []) Z _ _ (GcInv.init P s.k _ Z) ⟨?_, ?_⟩
    (getD_cons_top [] _ hZne ▸ hZtop)) ?_
  · intro i hi
    cases i with
    | zero => exact absurd hi (Nat.lt_irrefl 0)
    | succ j =>
      show Sorted c.lt (Z.getD j [])
      rw [hZget]
      exact sorted_mergeUp sw _ _ (hs.sorted _ (Nat.succ_pos j)) (ho.sorted _ (Nat.succ_pos j))
  · intro h0; have := hs.sorted0 h0; rwa [getD_zero] at this
  · intro r hr
    have hrl : 2 ≤ r.1.length :=
      Nat.le_trans (Nat.succ_le_succ (List.length_pos_iff.mpr hZne)) hr.len
    exact ⟨{ ne := List.length_pos_iff.mp (Nat.lt_of_lt_of_le Nat.zero_lt_two hrl), weight := hr.weight.trans hww,
             cap := hr.cap, ret_le := hr.ret_le, sorted := hr.sorted, sorted0 := hr.sorted0, top := Or.inr hr.top },
      rfl, rfl, hrl⟩

theorem mergeMinMax_inv {P : Params} {c : Cmp α} {s : Sketch α} (h : InvS P c.lt s) (o : Sketch α) :
    InvS P c.lt (mergeMinMax c s o) := by
  unfold mergeMinMax
  split <;> exact { h with }

theorem mergeMinMax_fields (c : Cmp α) (s o : Sketch α) :
    (mergeMinMax c s o).n = s.n ∧ (mergeMinMax c s o).k = s.k ∧ (mergeMinMax c s o).levels = s.levels ∧
    (mergeMinMax c s o).itemsSize = s.itemsSize ∧ (mergeMinMax c s o).sorted0 = s.sorted0 ∧
    (mergeMinMax c s o).minK = s.minK := by
  unfold mergeMinMax; split <;> simp

/-- `n` is the sum: `assert_correct_total_weight` holds -/
theorem mergeT_inv {P : Params} (ok : ParamsOk P) {c : Cmp α} (sw : StrictWeak c.lt) {s o : Sketch α}
    (hs : InvS P c.lt s) (ho : InvS P c.lt o) :
    CT.All (fun s' => InvS P c.lt s' ∧ s'.n = s.n + o.n ∧ s'.k = s.k) (mergeT P c s o) := by
  unfold mergeT
  by_cases h0 : (o.n == 0) = true
  · rw [if_pos h0, eq_of_beq h0]
    exact ⟨hs, rfl, rfl⟩
  · rw [if_neg h0]
    have hf := mergeMinMax_fields c s o
    have hon : o.n = (o.levels.headD []).length + weightSum 1 o.levels.tail := by
      rw [← ho.weight]; conv => lhs; rw [levels_eq_cons ho, weightSum_zero_cons]
    refine CT.All_bind (replayT_inv ok sw (o.levels.headD []) (mergeMinMax_inv hs o)) ?_
    intro s2 ⟨h2, hn2, hk2⟩
    -- with or without levels above 0 in `o`, their weight is added to `n`
    have hmid : CT.All (fun s3 => InvS P c.lt { s3 with n := s2.n + weightSum 1 o.levels.tail } ∧ s3.k = s2.k)
        (if o.numLevels ≥ 2 then mergeHigherT P c s2 o else CT.ret s2) := by
      by_cases ho2 : o.numLevels ≥ 2
      · rw [if_pos ho2]; exact CT.All.imp (fun _ h => ⟨h.1, h.2.1⟩) (mergeHigherT_inv ok sw h2 ho ho2)
      · rw [if_neg ho2, tail_eq_nil_of_numLevels_lt ho2]; exact ⟨h2, rfl⟩
    refine CT.All_bind hmid ?_
    intro s3 ⟨h3, hk3⟩
    have hn : s2.n + weightSum 1 o.levels.tail = s.n + o.n := by rw [hn2, hf.1, hon, Nat.add_assoc]
    exact ⟨⟨h3.ne, h3.weight.trans hn, h3.cap, h3.ret_le, h3.sorted, h3.sorted0, h3.top⟩, rfl,
      hk3.trans (hk2.trans hf.2.1)⟩

end DS.Kll
