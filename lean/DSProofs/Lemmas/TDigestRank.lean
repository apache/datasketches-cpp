/-
t-digest (C17), exact arithmetic: the centre part of `get_rank` (`rankMid`) on a sorted centroid list.  Times the total
weight it is `rankW cs x = w_first / 2 + Σ over neighbours (a, b) of (w_a + w_b) / 2 · ramp a.mean b.mean x` (the centre of a
centroid lies (w_a + w_b) / 2 above that of its predecessor); every term is non-decreasing in `x` and bounded by its step.
-/
import DSProofs.Lemmas.TDigestSort
namespace DS.TDigest
open Num Conv

/-- used with `R` = `≤` and with `R` = `<` -/
theorem dropWhile_above {l : List C} (hs : Sorted l) (p : C → Bool) {R : Rat → Rat → Prop} {y : Rat}
    (hR : ∀ a b, R y a → a ≤ b → R y b) (hp : ∀ c, p c = false → R y c.mean) : ∀ c ∈ l.dropWhile p, R y c.mean := by
  have h := List.head?_dropWhile_not p l
  have hs' : Sorted (l.dropWhile p) := hs.sublist (List.dropWhile_sublist p)
  match hd : l.dropWhile p with
  | [] => exact fun _ hc => nomatch hc
  | r0 :: t =>
    rw [hd] at h hs'
    exact fun c hc => hR _ _ (hp r0 h) (head_le_of_sorted hs' c hc)

theorem sumW_eq (l : List C) (acc : Rat) : sumW l acc = acc + (sumWeights l : Rat) := by
  induction l generalizing acc with
  | nil => simp [sumW]
  | cons c t ih =>
    simp only [sumW, List.foldl_cons] at ih ⊢
    rw [ih]; simp; ring

/-- what the two scans of `rankMid` leave on a sorted list: the centroids below `x`, at `x` and above `x` -/
structure Split (cs : List C) (x : Rat) (lt eq gt : List C) : Prop where
  lt_rest : cs.takeWhile (fun c => c.mean <. x) = lt ∧ cs.dropWhile (fun c => c.mean <. x) = eq ++ gt
  eq_gt : (eq ++ gt).takeWhile (fun c => !(x <. c.mean)) = eq ∧ (eq ++ gt).dropWhile (fun c => !(x <. c.mean)) = gt
  hlt : ∀ c ∈ lt, c.mean < x
  heq : ∀ c ∈ eq, c.mean = x
  hgt : ∀ c ∈ gt, x < c.mean

theorem split_exists {cs : List C} (hs : Sorted cs) (x : Rat) : ∃ lt eq gt, Split cs x lt eq gt := by
  let p : C → Bool := fun c => c.mean <. x
  let q : C → Bool := fun c => !(x <. c.mean)
  have hp : ∀ c ∈ cs.dropWhile p, x ≤ c.mean :=
    dropWhile_above hs p (fun _ _ => le_trans) fun c hc => by simpa [p] using hc
  have hq : ∀ c ∈ (cs.dropWhile p).dropWhile q, x < c.mean :=
    dropWhile_above (hs.sublist (List.dropWhile_sublist p)) q (fun _ _ => lt_of_lt_of_le) fun c hc => by simpa [q] using hc
  refine ⟨cs.takeWhile p, (cs.dropWhile p).takeWhile q, (cs.dropWhile p).dropWhile q,
    ⟨rfl, List.takeWhile_append_dropWhile.symm⟩, ?_, ?_, ?_, hq⟩
  · rw [List.takeWhile_append_dropWhile]; exact ⟨rfl, rfl⟩
  · exact fun c hc => by simpa [p] using List.all_eq_true.1 List.all_takeWhile c hc
  · exact fun c hc => le_antisymm (by simpa [q] using List.all_eq_true.1 List.all_takeWhile c hc)
      (hp c ((List.takeWhile_sublist q).subset hc))

variable {cs lt eq gt : List C} {x : Rat}

theorem Split.eqn (h : Split cs x lt eq gt) : cs = lt ++ eq ++ gt := by
  rw [List.append_assoc, ← h.lt_rest.1, ← h.lt_rest.2, List.takeWhile_append_dropWhile]

/-- the share of the step from `p` to `q` that `x` has covered; on a degenerate step (`p = q = x`) one half -/
def ramp (p q x : Rat) : Rat :=
  if x < p then 0 else if q < x then 1 else if p = q then 1 / 2 else (x - p) / (q - p)

variable {p q y : Rat}

theorem ramp_eq_zero (h1 : x ≤ p) (h2 : x < q) : ramp p q x = 0 := by
  rcases h1.lt_or_eq with h | rfl
  · exact if_pos h
  · rw [ramp, if_neg (lt_irrefl _), if_neg h2.not_gt, if_neg h2.ne, sub_self, zero_div]

theorem ramp_eq_one (h1 : p < x) (h2 : q ≤ x) : ramp p q x = 1 := by
  rw [ramp, if_neg h1.not_gt]
  rcases h2.lt_or_eq with h | rfl
  · exact if_pos h
  · rw [if_neg (lt_irrefl _), if_neg h1.ne, div_self (sub_ne_zero.2 h1.ne')]

theorem ramp_half : ramp x x x = 1 / 2 := by
  unfold ramp; rw [if_neg (lt_irrefl x), if_neg (lt_irrefl x), if_pos rfl]

theorem ramp_inside (h1 : p < x) (h2 : x < q) : ramp p q x = (x - p) / (q - p) := by
  unfold ramp; rw [if_neg h1.not_gt, if_neg h2.not_gt, if_neg (h1.trans h2).ne]

theorem ramp_mem (p q x : Rat) : 0 ≤ ramp p q x ∧ ramp p q x ≤ 1 := by
  unfold ramp
  split_ifs with a b c
  · exact ⟨le_rfl, zero_le_one⟩
  · exact ⟨zero_le_one, le_rfl⟩
  · norm_num
  · exact div_mem_unit (sub_nonneg.2 (not_lt.1 a)) (sub_le_sub_right (not_lt.1 b) p)

theorem ramp_mono (hpq : p ≤ q) (hxy : x ≤ y) : ramp p q x ≤ ramp p q y := by
  by_cases a : x < p
  · rw [ramp, if_pos a]; exact (ramp_mem p q y).1
  by_cases b : q < y
  · rw [ramp.eq_def p q y, if_neg (fun h => a (hxy.trans_lt h)), if_pos b]; exact (ramp_mem p q x).2
  -- both inside `[p, q]`
  unfold ramp
  rw [if_neg a, if_neg fun h => b (h.trans_le hxy), if_neg fun h => a (hxy.trans_lt h), if_neg b]
  split_ifs with c
  · exact le_rfl
  · exact div_le_div_of_nonneg_right (sub_le_sub_right hxy p) (sub_nonneg.2 hpq)

def rampSum : List C → Rat → Rat
  | a :: b :: rest, x => ((a.weight : Rat) + b.weight) / 2 * ramp a.mean b.mean x + rampSum (b :: rest) x
  | _, _ => 0

/-- rank × total weight of `x` inside `[first mean, last mean]` -/
def rankW : List C → Rat → Rat
  | [], _ => 0
  | f :: t, x => (f.weight : Rat) / 2 + rampSum (f :: t) x

theorem rampSum_mono {cs : List C} (hs : Sorted cs) (hxy : x ≤ y) : rampSum cs x ≤ rampSum cs y := by
  induction cs with
  | nil => exact le_rfl
  | cons a t ih =>
    cases t with
    | nil => exact le_rfl
    | cons b rest =>
      have hab : a.mean ≤ b.mean := List.rel_of_pairwise_cons hs (List.mem_cons_self ..)
      exact add_le_add (mul_le_mul_of_nonneg_left (ramp_mono hab hxy) (by positivity)) (ih (List.Pairwise.of_cons hs))

theorem rankW_mono {cs : List C} (hs : Sorted cs) (hxy : x ≤ y) : rankW cs x ≤ rankW cs y := by
  cases cs with
  | nil => exact le_rfl
  | cons f t => exact add_le_add le_rfl (rampSum_mono hs hxy)

theorem rampSum_nonneg (cs : List C) (x : Rat) : 0 ≤ rampSum cs x := by
  induction cs with
  | nil => exact le_rfl
  | cons a t ih =>
    cases t with
    | nil => exact le_rfl
    | cons b rest => exact add_nonneg (mul_nonneg (by positivity) (ramp_mem a.mean b.mean x).1) ih

theorem rankW_nonneg (cs : List C) (x : Rat) : 0 ≤ rankW cs x := by
  cases cs with
  | nil => exact le_rfl
  | cons f t => exact add_nonneg (by positivity) (rampSum_nonneg _ x)

theorem rankW_le (cs : List C) (x : Rat) : rankW cs x ≤ (sumWeights cs : Rat) := by
  induction cs with
  | nil => exact le_of_eq (Nat.cast_zero (R := Rat)).symm
  | cons a t ih =>
    cases t with
    | nil =>
      rw [sumWeights_cons, sumWeights_nil, Nat.add_zero]
      exact (add_zero ((a.weight : Rat) / 2)).trans_le (half_le_self (Nat.cast_nonneg _))
    | cons b rest =>
      -- the step from `a` to `b` is at most complete, and then `a` counts in full
      have h1 := mul_le_of_le_one_right (by positivity : (0 : Rat) ≤ ((a.weight : Rat) + b.weight) / 2)
        (ramp_mem a.mean b.mean x).2
      rw [sumWeights_cons, Nat.cast_add]
      simp only [rankW, rampSum] at ih ⊢
      refine (add_le_add le_rfl (add_le_add h1 le_rfl)).trans (le_of_eq_of_le ?_ (add_le_add le_rfl ih))
      ring

theorem rankW_cons_below {a c : C} (t : List C) (ha : a.mean < x) (hc : c.mean ≤ x) :
    rankW (a :: c :: t) x = (a.weight : Rat) + rankW (c :: t) x := by
  simp only [rankW, rampSum, ramp_eq_one ha hc]; ring

theorem rankW_below (l : List C) (b : C) (rest : List C) (hl : ∀ c ∈ l, c.mean < x) (hb : b.mean ≤ x) :
    rankW (l ++ b :: rest) x = (sumWeights l : Rat) + (b.weight : Rat) / 2 + rampSum (b :: rest) x := by
  induction l with
  | nil => simp [rankW]
  | cons a l ih =>
    obtain ⟨ha, hl'⟩ := List.forall_mem_cons.1 hl
    rw [sumWeights_cons, Nat.cast_add, add_assoc, add_assoc, ← add_assoc _ _ (rampSum _ _), ← ih hl']
    cases l with
    | nil => exact rankW_cons_below rest ha hb
    | cons c l' => exact rankW_cons_below _ ha (hl' c (List.mem_cons_self ..)).le

theorem rampSum_above (l : List C) : ∀ (a : C), x ≤ a.mean → (∀ c ∈ l, x < c.mean) → rampSum (a :: l) x = 0 := by
  induction l with
  | nil => intro a _ _; rfl
  | cons b l ih =>
    intro a ha hl
    obtain ⟨hb, hl'⟩ := List.forall_mem_cons.1 hl
    rw [rampSum, ramp_eq_zero ha hb, mul_zero, zero_add, ih b hb.le hl']

/-- along a run of centroids with mean `x` every step counts half: half the distance between the centres of its first and
its last centroid -/
theorem rampSum_ties (t gt : List C) (hgt : ∀ c ∈ gt, x < c.mean) (e1 : C) : ∀ (e0 : C), (∀ c ∈ e0 :: t, c.mean = x) →
    (e0 :: t).getLast? = some e1 →
    rampSum (e0 :: t ++ gt) x = ((sumWeights (e0 :: t) : Rat) - (e0.weight : Rat) / 2 - (e1.weight : Rat) / 2) / 2 := by
  induction t with
  | nil =>
    intro e0 h hl
    obtain rfl : e0 = e1 := Option.some.inj hl
    rw [List.singleton_append, rampSum_above gt e0 (h e0 (List.mem_cons_self ..)).ge hgt, sumWeights_cons, sumWeights_nil]
    push_cast; ring
  | cons e t ih =>
    intro e0 h hl
    obtain ⟨h0, ht⟩ := List.forall_mem_cons.1 h
    rw [List.cons_append, List.cons_append, rampSum, h0, ht e (List.mem_cons_self ..), ramp_half, ← List.cons_append,
      ih e ht (List.getLast?_cons_cons.symm.trans hl), sumWeights_cons (c := e0)]
    push_cast; ring

theorem rankMid_tie (h : Split cs x lt eq gt) (cwD : Rat) {e0 e1 : C} {t i : List C}
    (h0 : eq = e0 :: t) (h1 : eq = i ++ [e1]) : rankMid cs cwD x = some (rankW cs x / cwD) := by
  have he : ∀ c ∈ e0 :: t, c.mean = x := h0 ▸ h.heq
  have hx0 : e0.mean = x := he e0 (List.mem_cons_self ..)
  have hx1 : e1.mean = x := h.heq e1 (by rw [h1]; simp)
  have hlast : eq.getLast? = some e1 := by rw [h1]; simp
  have hdrop : eq.dropLast = i := by rw [h1]; simp
  have hsum : sumWeights (e0 :: t) = sumWeights i + e1.weight := by
    rw [← h0, h1, sumWeights_append, sumWeights_cons, sumWeights_nil, Nat.add_zero]
  have hW : rankW cs x = (sumWeights lt : Rat) + (e0.weight : Rat) / 2 +
      ((sumWeights (e0 :: t) : Rat) - (e0.weight : Rat) / 2 - (e1.weight : Rat) / 2) / 2 := by
    rw [h.eqn, h0, List.append_assoc, List.cons_append, rankW_below lt e0 (t ++ gt) h.hlt hx0.le, ← List.cons_append,
      rampSum_ties t gt h.hgt e1 e0 he (h0 ▸ hlast)]
  unfold rankMid
  simp only [h.lt_rest.1, h.lt_rest.2]
  -- show the head `e0` of `rest` so that the `match rest` reduces, then fold `rest` back to `eq ++ gt`
  rw [show eq ++ gt = e0 :: (t ++ gt) by rw [h0]; rfl]
  simp only []
  rw [show e0 :: (t ++ gt) = eq ++ gt by rw [h0]; rfl, h.eq_gt.1, h.eq_gt.2, hlast]
  have hnlt : (x <. e0.mean) = false := by simp [hx0]
  have hstep : (gt.isEmpty || !(e1.mean <. x)) = true := by simp [hx1]
  have hd : ((Num.ofNat 0 : Rat) <. (e1.mean -. e0.mean)) = false := by simp [hx0, hx1]
  simp only [hnlt, hstep, hd, hdrop, Bool.false_eq_true, if_false, if_true]
  simp only [sumW_eq, rat_add, rat_sub, rat_div, rat_ofNat, hW, hsum]
  congr 2
  push_cast
  ring

theorem rankMid_between (h : Split cs x lt [] gt) (cwD : Rat) {lo r0 : C} {i t : List C}
    (hl : lt = i ++ [lo]) (hg : gt = r0 :: t) : rankMid cs cwD x = some (rankW cs x / cwD) := by
  subst hl hg
  have hx0 : x < r0.mean := h.hgt r0 (List.mem_cons_self ..)
  have hlo : lo.mean < x := h.hlt lo (by simp)
  have hW : rankW cs x = (sumWeights i : Rat) + (lo.weight : Rat) / 2 +
      ((lo.weight : Rat) + r0.weight) / 2 * ((x - lo.mean) / (r0.mean - lo.mean)) := by
    rw [h.eqn, List.append_nil, List.append_assoc, List.singleton_append,
      rankW_below i lo (r0 :: t) (fun c hc => h.hlt c (List.mem_append_left _ hc)) hlo.le, rampSum,
      rampSum_above t r0 hx0.le fun c hc => h.hgt c (List.mem_cons_of_mem _ hc), ramp_inside hlo hx0, add_zero]
  unfold rankMid
  simp only [h.lt_rest.1, h.lt_rest.2, List.nil_append]
  have hlt' : (x <. r0.mean) = true := by simpa using hx0
  have hd : ((Num.ofNat 0 : Rat) <. (r0.mean -. lo.mean)) = true := by simpa using hlo.trans hx0
  simp only [hlt', hd, List.getLast?_concat, List.dropLast_concat, if_true]
  simp only [sumW_eq, rat_add, rat_sub, rat_div, rat_mul, rat_ofNat, rat_up, hW]
  congr 2
  push_cast
  ring

theorem rankMid_eq_rankW (hs : Sorted cs) {f l : C} (hf : cs.head? = some f) (hl : cs.getLast? = some l)
    (x : Rat) (h1 : f.mean ≤ x) (h2 : x ≤ l.mean) (cwD : Rat) : rankMid cs cwD x = some (rankW cs x / cwD) := by
  obtain ⟨lt, eq, gt, hsp⟩ := split_exists hs x
  rcases List.eq_nil_or_concat eq with heq | ⟨i, e1, heq⟩
  · -- strictly between two means: some centroid lies below `x` (else the first would lie above it), and some above
    subst heq
    rcases List.eq_nil_or_concat lt with rfl | ⟨i, lo, rfl⟩
    · exact absurd (hsp.hgt f (List.mem_of_head? (by rwa [hsp.eqn] at hf))) (not_lt.2 h1)
    cases gt with
    | nil =>
      exact absurd (hsp.hlt l (List.mem_of_getLast? (by rwa [hsp.eqn, List.append_nil, List.append_nil] at hl))) (not_lt.2 h2)
    | cons r0 t => exact rankMid_between hsp cwD (List.concat_eq_append ..) rfl
  · rw [List.concat_eq_append] at heq
    obtain ⟨e0, t, h0⟩ : ∃ e0 t, eq = e0 :: t := List.exists_cons_of_ne_nil (by rw [heq]; simp)
    exact rankMid_tie hsp cwD h0 heq

end DS.TDigest
