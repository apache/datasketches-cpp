/- Repaired model: `Good` holds after every history of small operations. -/
import DSProofs.Lemmas.BloomGoodWrap
import DSProofs.Lemmas.BloomGoodSetops
import DSProofs.Lemmas.BloomGoodInsert
namespace DS.Bloom

variable {ι : Type} [DecidableEq ι] (P : Params) (hf : ι → Nat → Option (Nat × Nat))

/-- `new` and `initialize` are asked for fewer than 2^32 bits: above that the 32-bit `num_longs << 6` of the readers of the pinned tree
and `hdrCfg` of the specification reduce the capacity mod 2^32 (MAX_FILTER_SIZE_BITS of the code is larger).  A wrap or deserialize
of a raw block can still bind a larger filter; it carries no promise. -/
def Op.small : Op ι → Prop
  | .new _ nb _ _ => nb % 2 ^ 64 ≤ 2 ^ 32 - 64
  | .init _ _ nb _ _ => nb % 2 ^ 64 ≤ 2 ^ 32 - 64
  | _ => True

theorem good_step (hP : P.Wire) (w : World) (p : PGhost ι) (hg : Good P hf w p) (op : Op ι) (hs : Op.small op) :
    Good P hf (step P Fix.fixed hf w op).1 (pstep hf p w (step P Fix.fixed hf w op).1 (step P Fix.fixed hf w op).2 op) := by
  cases op with
  | new v nb nh seed => exact good_new P hf w p hg v nb nh seed hs
  | blk m len val => exact good_blk P hf w p hg m len val
  | init v m nb nh seed =>
    exact good_init P hf hP w p hg v m _ _ _ hs (Nat.mod_lt _ (by decide)) (Nat.mod_lt _ (by decide))
  | upd v x => exact good_upd P hf hP w p hg v x
  | qau v x => exact good_qau P hf hP w p hg v x
  | bits v => exact good_bits P hf w p hg v
  | reset v => exact good_reset P hf hP w p hg v
  | setop op v u => exact good_setop P hf hP w p hg op v u
  | copy v v' => exact good_copy P hf w p hg v v'
  | ser v m => exact good_ser P hf hP w p hg v m
  | wrap k m v => exact good_wrap P hf hP w p hg k m v

theorem good_prun (hP : P.Wire) (s : PWorld ι) (hg : Good P hf s.w s.p) (ops : List (Op ι)) (hs : ∀ op, op ∈ ops → Op.small op) :
    Good P hf (prun P Fix.fixed hf s ops).w (prun P Fix.fixed hf s ops).p := by
  induction ops generalizing s with
  | nil => exact hg
  | cons op t ih =>
    simp only [prun, List.foldl_cons]
    exact ih _ (good_step P hf hP s.w s.p hg op (hs op List.mem_cons_self)) (fun o ho => hs o (List.mem_cons_of_mem _ ho))

end DS.Bloom
