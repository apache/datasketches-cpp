/- C19, KLL sketch: the in-place helpers of one items block.  `randomly_halve_down` and `std::move` to the left are forward
   passes of moves (`vstep_packDown`), `randomly_halve_up` and `std::move_backward` backward passes (`vstep_packUp`); then the
   in-place `merge_sorted_arrays` and the compaction of a level (`vstep_halveMerge`). -/
import DSProofs.Lemmas.LifeKllInv
import DSProofs.Lemmas.LifeKllLayout
namespace DS.Life.Kll
open DS.Life

/-- `if (i != j) buf[i] = std::move(buf[j]);` in the shape do-notation gives it in front of further statements -/
theorem vstep_moveIfNe {β} {S} {h : Heap} {b n j i : Nat} {f : Unit → M β} {Q : β → Heap → Prop}
    (hc : HasCells h b n) (hj : j < n) (hi : i < n) (hl : ∃ v, stAt h b j = .live v) (hr : stAt h b i ≠ .raw)
    (hS : S b = true)
    (s : ∀ h', SameBut h h' (fun b' q => b' = b ∧ (q = i ∨ q = j)) → (∃ w, stAt h' b i = .live w) →
          stAt h' b j ≠ .raw → SafeF S h' (f () h') Q) :
    SafeF S h ((if i ≠ j then moveAssignSlot b j b i >>= f else f ()) h) Q := by
  by_cases e : i = j
  · rw [if_neg (not_not_intro e)]
    subst e
    exact s h (SameBut.refl _ _) hl hr
  · rw [if_pos e]
    obtain ⟨v, hv⟩ := hl
    apply vstep_moveAssignSlot hc hj hv hc hi hr (fun x => e x.2) hS hS
    intro h1 sb1 hd hs
    apply s h1 (sb1.mono fun _ _ x => x.elim (fun x => ⟨x.1, Or.inr x.2⟩) (fun x => ⟨x.1, Or.inl x.2⟩)) ⟨v, hd⟩
    rw [hs]; exact Slot.noConfusion

theorem moveAssignNe_bind {β} (b j i : Nat) (f : Unit → M β) :
    moveAssignNe b j i >>= f = if i ≠ j then moveAssignSlot b j b i >>= f else f () := by
  unfold moveAssignNe
  rw [ite_not]
  split <;> rfl

theorem _root_.DS.Life.SameBut.within {h h' : Heap} {b i j lo hi : Nat} (sb : SameBut h h' (fun b' q => b' = b ∧ (q = i ∨ q = j)))
    (hi' : lo ≤ i ∧ i < hi) (hj : lo ≤ j ∧ j < hi) : SameBut h h' (fun b' q => b' = b ∧ lo ≤ q ∧ q < hi) :=
  sb.mono fun _ _ x => ⟨x.1, x.2.elim (· ▸ hi') (· ▸ hj)⟩

theorem LiveOn.after_move {h h1 : Heap} {bf src dst lo hi : Nat}
    (sb : SameBut h h1 (fun b' q => b' = bf ∧ (q = dst ∨ q = src))) (hd : ∃ w, stAt h1 bf dst = .live w)
    (hl : LiveOn h bf lo hi) (hsrc : src < lo ∨ hi ≤ src ∨ src = dst) : LiveOn h1 bf lo hi := by
  intro j h1' h2'
  by_cases e : j = dst
  · subst e; exact hd
  · rw [sb.st bf j fun x => x.2.elim e fun x => hsrc.elim (fun y => Nat.not_le_of_lt y (x ▸ h1'))
      fun y => y.elim (fun y => Nat.not_le_of_lt h2' (x ▸ y)) fun y => e (x.trans y)]
    exact hl j h1' h2'

/-- not `LiveOn.after_move` at another class: a moved-from cell is still an object, so the source may lie anywhere; what is
    needed instead is that it is one afterwards (`hs`) -/
theorem On.after_move {h h1 : Heap} {bf src dst lo hi : Nat}
    (sb : SameBut h h1 (fun b' q => b' = bf ∧ (q = dst ∨ q = src))) (hd : ∃ w, stAt h1 bf dst = .live w)
    (hs : stAt h1 bf src ≠ .raw) (hn : On .obj h bf lo hi) : On .obj h1 bf lo hi := by
  intro j h1' h2'
  by_cases e : j = dst
  · subst e; obtain ⟨w, hw⟩ := hd; rw [hw]; exact nofun
  · by_cases e2 : j = src
    · subst e2; exact hs
    · rw [sb.st bf j (fun x => x.2.elim e e2)]
      exact hn j h1' h2'

/-- a forward pass of moves inside `[d0, hi)` of one block: iteration `k` moves the item at `src k` to the next free
    place `d0 + k`; the sources ascend and are never behind their destination, so none is read after it was
    moved from or overwritten -/
theorem vstep_packDown {β} {S} {h : Heap} {b n start cnt d0 hi : Nat} {body : Nat → M Unit} {src : Nat → Nat}
    {f : Unit → M β} {Q : β → Heap → Prop}
    (hb : ∀ k, k < cnt → body (start + k) = moveAssignNe b (src k) (d0 + k)) (hc : HasCells h b n) (hhi : hi ≤ n)
    (hs : ∀ k, k < cnt → d0 + k ≤ src k ∧ src k < hi) (hmono : ∀ k k', k < k' → k' < cnt → src k < src k')
    (hl : ∀ k, k < cnt → ∃ v, stAt h b (src k) = .live v) (nr : On .obj h b d0 hi) (hS : S b = true)
    (s : ∀ h', SameBut h h' (fun b' j => b' = b ∧ d0 ≤ j ∧ j < hi) → LiveOn h' b d0 (d0 + cnt) →
          On .obj h' b (d0 + cnt) hi → SafeF S h' (f () h') Q) :
    SafeF S h ((loopUp body cnt start >>= f) h) Q := by
  -- after `k` iterations the sources still to be read are live
  have loop := TripleS.loopUp' (n0 := 0) (S := S)
    (fun k h' => SameBut h h' (fun b' j => b' = b ∧ d0 ≤ j ∧ j < hi) ∧ LiveOn h' b d0 (d0 + k) ∧ On .obj h' b d0 hi ∧
      ∀ k', k ≤ k' → k' < cnt → ∃ v, stAt h' b (src k') = .live v) body cnt start ?_
  · apply SafeF.bind_triple loop (Nat.zero_le _)
      ⟨SameBut.refl _ _, On.nil (c := .live) (Nat.le_refl _), nr, fun k' _ => hl k'⟩
    intro _ h1 ⟨sb, a, c, _⟩ _
    exact s h1 sb a (c.mono (Nat.le_add_right _ _) (Nat.le_refl _))
  · intro k hk h' _ ⟨sb, a, c, d⟩
    rw [hb k hk]
    apply SafeF.last
    rw [moveAssignNe_bind]
    obtain ⟨g1, g2⟩ := hs k hk
    have g3 : d0 + k < hi := Nat.lt_of_le_of_lt g1 g2
    apply vstep_moveIfNe (sb.cells _ _ hc) (Nat.lt_of_lt_of_le g2 hhi) (Nat.lt_of_lt_of_le g3 hhi)
      (d k (Nat.le_refl _) hk) (c _ (Nat.le_add_right _ _) g3) hS
    intro h2 sb2 hd hs'
    apply SafeF.pure
    refine ⟨sb.trans (sb2.within ⟨Nat.le_add_right _ _, g3⟩ ⟨Nat.le_trans (Nat.le_add_right _ _) g1, g2⟩) (fun _ _ x => x)
        (fun _ _ x => x),
      (a.after_move sb2 hd (.inr (.inl g1))).append (LiveOn.single hd), c.after_move sb2 hd hs', fun k' a1 a2 => ?_⟩
    have lt := hmono k k' a1 a2
    rw [sb2.st b (src k') fun x => x.2.elim (fun e => Nat.not_le_of_lt lt (e ▸ g1)) (fun e => Nat.lt_irrefl _ (e ▸ lt))]
    exact d k' (Nat.le_of_succ_le a1) a2

/-- the mirror image, a backward pass inside `[lo, d0 + cnt)`: the sources descend and are never ahead of their destination -/
theorem vstep_packUp {β} {S} {h : Heap} {b n start cnt d0 lo : Nat} {body : Nat → M Unit} {src : Nat → Nat}
    {f : Unit → M β} {Q : β → Heap → Prop}
    (hb : ∀ k, k < cnt → body (start + k) = moveAssignNe b (src k) (d0 + k)) (hc : HasCells h b n) (hhi : d0 + cnt ≤ n)
    (hs : ∀ k, k < cnt → lo ≤ src k ∧ src k ≤ d0 + k) (hmono : ∀ k k', k < k' → k' < cnt → src k < src k')
    (hl : ∀ k, k < cnt → ∃ v, stAt h b (src k) = .live v) (nr : On .obj h b lo (d0 + cnt)) (hS : S b = true)
    (s : ∀ h', SameBut h h' (fun b' j => b' = b ∧ lo ≤ j ∧ j < d0 + cnt) → LiveOn h' b d0 (d0 + cnt) →
          On .obj h' b lo d0 → SafeF S h' (f () h') Q) :
    SafeF S h ((loopDown body cnt start >>= f) h) Q := by
  -- while `k` iterations remain their sources are live
  have loop := TripleS.loopDown (n0 := 0) (S := S)
    (fun k h' => SameBut h h' (fun b' j => b' = b ∧ lo ≤ j ∧ j < d0 + cnt) ∧ LiveOn h' b (d0 + k) (d0 + cnt) ∧
      On .obj h' b lo (d0 + cnt) ∧ ∀ k', k' < k → ∃ v, stAt h' b (src k') = .live v) body cnt start ?_
  · apply SafeF.bind_triple loop (Nat.zero_le _) ⟨SameBut.refl _ _, On.nil (c := .live) (Nat.le_refl _), nr, hl⟩
    intro _ h1 ⟨sb, a, c, _⟩ _
    exact s h1 sb a (c.mono (Nat.le_refl _) (Nat.le_add_right _ _))
  · intro k hk h' _ ⟨sb, a, c, d⟩
    rw [hb k hk]
    apply SafeF.last
    rw [moveAssignNe_bind]
    obtain ⟨g1, g2⟩ := hs k hk
    have g3 : d0 + k < d0 + cnt := Nat.add_lt_add_left hk _
    apply vstep_moveIfNe (sb.cells _ _ hc) (Nat.lt_of_lt_of_le (Nat.lt_of_le_of_lt g2 g3) hhi)
      (Nat.lt_of_lt_of_le g3 hhi) (d k (Nat.lt_succ_self k)) (c _ (Nat.le_trans g1 g2) g3) hS
    intro h2 sb2 hd hs'
    apply SafeF.pure
    refine ⟨sb.trans (sb2.within ⟨Nat.le_trans g1 g2, g3⟩ ⟨g1, Nat.lt_of_le_of_lt g2 g3⟩) (fun _ _ x => x) (fun _ _ x => x),
      (LiveOn.single hd).append (a.after_move sb2 hd (.inl (Nat.lt_succ_of_le g2))), c.after_move sb2 hd hs', fun k' a1 => ?_⟩
    have lt := hmono k' k a1 hk
    rw [sb2.st b (src k') fun x => x.2.elim (fun e => Nat.not_le_of_lt lt (e ▸ g2)) (fun e => Nat.lt_irrefl _ (e ▸ lt))]
    exact d k' (Nat.lt_succ_of_lt a1)

theorem vstep_halveDown {β} {S} {h : Heap} {b n start half offset : Nat} {f : Unit → M β} {Q : β → Heap → Prop}
    (hc : HasCells h b n) (hle : start + 2 * half ≤ n) (hl : LiveOn h b start (start + 2 * half)) (ho : offset ≤ 1)
    (hS : S b = true)
    (s : ∀ h', SameBut h h' (fun b' j => b' = b ∧ start ≤ j ∧ j < start + 2 * half) →
          LiveOn h' b start (start + half) → On .obj h' b (start + half) (start + 2 * half) →
          SafeF S h' (f () h') Q) :
    SafeF S h ((halveDown b start (2 * half) offset >>= f) h) Q := by
  unfold halveDown
  rw [if_neg (by rw [Nat.mul_mod_right]; exact fun x => x rfl), Nat.mul_div_cancel_left half (by decide)]
  have hs : ∀ k, k < half → start + k ≤ start + offset + 2 * k ∧ start + offset + 2 * k < start + 2 * half :=
    fun k hk => by omega
  exact vstep_packDown (src := fun k => start + offset + 2 * k) (fun k _ => by simp only [Nat.add_sub_cancel_left]) hc hle hs
    (fun k k' h1 _ => Nat.add_lt_add_left (Nat.mul_lt_mul_of_pos_left h1 Nat.zero_lt_two) _)
    (fun k hk => hl _ (Nat.le_trans (Nat.le_add_right _ _) (hs k hk).1) (hs k hk).2) hl.toObj hS s

/-- where `randomly_halve_up` reads in the iteration that writes `start + half + k` -/
theorem halveUp_src {start half offset k : Nat} (ho : offset ≤ 1) (hk : k < half) :
    start + 2 * half - 1 - offset - 2 * (start + 2 * half - 1 - (start + half + k)) = start + (1 - offset) + 2 * k := by
  omega

theorem vstep_halveUp {β} {S} {h : Heap} {b n start half offset : Nat} {f : Unit → M β} {Q : β → Heap → Prop}
    (hc : HasCells h b n) (hle : start + 2 * half ≤ n) (hl : LiveOn h b start (start + 2 * half)) (ho : offset ≤ 1)
    (hS : S b = true)
    (s : ∀ h', SameBut h h' (fun b' j => b' = b ∧ start ≤ j ∧ j < start + 2 * half) →
          LiveOn h' b (start + half) (start + 2 * half) → On .obj h' b start (start + half) →
          SafeF S h' (f () h') Q) :
    SafeF S h ((halveUp b start (2 * half) offset >>= f) h) Q := by
  unfold halveUp
  rw [if_neg (by rw [Nat.mul_mod_right]; exact fun x => x rfl), Nat.mul_div_cancel_left half (by decide)]
  have e : start + half + half = start + 2 * half := by rw [Nat.add_assoc, ← Nat.two_mul]
  have hs : ∀ k, k < half → start ≤ start + (1 - offset) + 2 * k ∧ start + (1 - offset) + 2 * k ≤ start + half + k :=
    fun k hk => by omega
  exact vstep_packUp (src := fun k => start + (1 - offset) + 2 * k) (lo := start)
    (fun k hk => congrArg (moveAssignNe b · _) (halveUp_src ho hk)) hc (e ▸ hle) hs
    (fun k k' h1 _ => Nat.add_lt_add_left (Nat.mul_lt_mul_of_pos_left h1 Nat.zero_lt_two) _)
    (fun k hk => hl _ (hs k hk).1 (Nat.lt_of_le_of_lt (hs k hk).2 (e ▸ Nat.add_lt_add_left hk _))) (e ▸ hl.toObj) hS (e ▸ s)

/-- in-place `merge_sorted_arrays`: the `a`-range `[a, limA)` and the output `[limA, c)` behind it are one live range, into
    whose end the next item goes, from its front or from the `b`-range `[b, limB)`.  `ra`, `rb` items are left of the two
    ranges (the fuel is their sum) and the gap `[c, b)` is as long as what is left of the `a`-range, so all the index
    arithmetic is additive -/
theorem vstep_mergeInPlaceLoop {β} {S : Nat → Bool} {bf n startA limA limB : Nat} {f : Nat × Nat → M β}
    {Q : β → Heap → Prop} (hS : S bf = true) (hlim : limB ≤ n) :
    ∀ fuel ra rb a b c h, ra + rb = fuel → HasCells h bf n → startA ≤ a → a + ra = limA → limA ≤ c → b + rb = limB →
      c + ra = b → LiveOn h bf a c → LiveOn h bf b limB → On .obj h bf startA limB →
      (∀ h', SameBut h h' (fun b' j => b' = bf ∧ startA ≤ j ∧ j < limB) → LiveOn h' bf limA limB →
        On .obj h' bf startA limA → SafeF S h' (f (limA, limB) h') Q) →
      SafeF S h ((mergeInPlaceLoop bf limA limB fuel a b c >>= f) h) Q := by
  intro fuel
  induction fuel with
  | zero =>
    intro ra rb a b c h hfu hc ha1 hra hc1 hrb hcb la lb nr s
    obtain ⟨rfl, rfl⟩ := Nat.add_eq_zero_iff.1 hfu
    cases hra; cases hrb; cases hcb
    exact s h (SameBut.refl _ _) la (nr.mono (Nat.le_refl _) hc1)
  | succ fuel ih =>
    intro ra rb a b c h hfu hc ha1 hra hc1 hrb hcb la lb nr s
    unfold mergeInPlaceLoop
    have hb1 : b ≤ limB := Nat.le.intro hrb
    have hcb' : c ≤ b := Nat.le.intro hcb
    have hcs := Nat.le_trans ha1 (Nat.le_trans (Nat.le.intro hra) hc1)
    -- moving `src` to `c` and continuing with `(a', b')`, one of which has advanced by one
    have mv : ∀ (src a' b' ra' rb' : Nat), c < limB → ra' + rb' = fuel → a' + ra' = limA → b' + rb' = limB → c + 1 + ra' = b' →
        (∃ v, stAt h bf src = .live v) → a ≤ a' → b ≤ b' → startA ≤ src → src < limB →
        (src < a' ∨ c ≤ src ∨ src = c) → src < b' ∨ limB ≤ src ∨ src = c →
        SafeF S h (((moveAssignNe bf src c >>= fun _ => mergeInPlaceLoop bf limA limB fuel a' b' (c + 1)) >>= f) h) Q := by
      intro src a' b' ra' rb' hclt hfu' hra' hrb' hcb'' hsl haa hbb hs1 hs2 x1 x2
      rw [M.bind_assoc, moveAssignNe_bind]
      apply vstep_moveIfNe hc (Nat.lt_of_lt_of_le hs2 hlim) (Nat.lt_of_lt_of_le hclt hlim) hsl (nr c hcs hclt) hS
      intro h1 sb1 hd hsn
      apply ih ra' rb' a' b' (c + 1) h1 hfu' (sb1.cells _ _ hc) (Nat.le_trans ha1 haa) hra' (Nat.le_succ_of_le hc1) hrb' hcb''
        (((la.mono haa (Nat.le_refl _)).after_move sb1 hd x1).append (LiveOn.single hd))
        ((lb.mono hbb (Nat.le_refl _)).after_move sb1 hd x2) (nr.after_move sb1 hd hsn)
      intro h' sb' l' n'
      exact s h' ((sb1.within ⟨hcs, hclt⟩ ⟨hs1, hs2⟩).trans sb' (fun _ _ x => x) (fun _ _ x => x)) l' n'
    -- the next item of the `b`-range, when `rb' + 1` are left of it
    have fromB := fun rb' (hrb : b + (rb' + 1) = limB) (hfu' : ra + rb' = fuel) =>
      have hbl : b < limB := hrb ▸ Nat.lt_add_of_pos_right (Nat.succ_pos _)
      mv b a (b + 1) ra rb' (Nat.lt_of_le_of_lt hcb' hbl) hfu' hra (by rw [← hrb, Nat.add_assoc, Nat.add_comm 1])
        (by rw [← hcb, Nat.add_right_comm]) (lb b (Nat.le_refl _) hbl) (Nat.le_refl _) (Nat.le_succ _)
        (Nat.le_trans hcs hcb') hbl (.inr (.inl hcb')) (.inl (Nat.lt_succ_self _))
    cases ra with
    | zero =>
      obtain rfl : rb = fuel + 1 := (Nat.zero_add rb).symm.trans hfu
      rw [if_pos (show a = limA from hra)]
      exact fromB fuel hrb (Nat.zero_add fuel)
    | succ ra' =>
      have hal : a < limA := hra ▸ Nat.lt_add_of_pos_right (Nat.succ_pos _)
      rw [if_neg (Nat.ne_of_lt hal)]
      have hfu' : ra' + rb = fuel := Nat.succ.inj ((Nat.succ_add ra' rb).symm.trans hfu)
      have hcb2 : c < b := hcb ▸ Nat.lt_add_of_pos_right (Nat.succ_pos _)
      have hac : a < c := Nat.lt_of_lt_of_le hal hc1
      -- the next item of the `a`-range
      have fromA := mv a (a + 1) b ra' rb (Nat.lt_of_lt_of_le hcb2 hb1) hfu' (by rw [← hra, Nat.add_assoc, Nat.add_comm 1])
        hrb (by rw [← hcb, Nat.add_assoc, Nat.add_comm 1]) (la a (Nat.le_refl _) hac) (Nat.le_succ _) (Nat.le_refl _) ha1
        (Nat.lt_trans hac (Nat.lt_of_lt_of_le hcb2 hb1)) (.inl (Nat.lt_succ_self _)) (.inl (Nat.lt_trans hac hcb2))
      cases rb with
      | zero =>
        rw [if_pos (show b = limB from hrb)]
        exact fromA
      | succ rb' =>
        have hbl : b < limB := hrb ▸ Nat.lt_add_of_pos_right (Nat.succ_pos _)
        rw [if_neg (Nat.ne_of_lt hbl)]
        obtain ⟨va, hva⟩ := la a (Nat.le_refl _) hac
        obtain ⟨vb, hvb⟩ := lb b (Nat.le_refl _) hbl
        simp only [M.bind_assoc]
        apply vstep_read hc (Nat.lt_of_lt_of_le (Nat.lt_trans hac (Nat.lt_trans hcb2 hbl)) hlim) hva
        apply vstep_read hc (Nat.lt_of_lt_of_le hbl hlim) hvb
        by_cases hlt : va < vb
        · rw [if_pos hlt]
          exact fromA
        · rw [if_neg hlt]
          exact fromB rb' hrb (Nat.succ.inj hfu)

theorem vstep_mergeInPlace {β} {S} {h : Heap} {bf n startA lenA lenB : Nat} {f : Unit → M β} {Q : β → Heap → Prop}
    (hc : HasCells h bf n) (hle : startA + 2 * lenA + lenB ≤ n)
    (la : LiveOn h bf startA (startA + lenA)) (lb : LiveOn h bf (startA + 2 * lenA) (startA + 2 * lenA + lenB))
    (nr : On .obj h bf (startA + lenA) (startA + 2 * lenA)) (hS : S bf = true)
    (s : ∀ h', SameBut h h' (fun b' j => b' = bf ∧ startA ≤ j ∧ j < startA + 2 * lenA + lenB) →
          LiveOn h' bf (startA + lenA) (startA + 2 * lenA + lenB) → On .obj h' bf startA (startA + lenA) →
          SafeF S h' (f () h') Q) :
    SafeF S h ((mergeInPlace bf startA lenA (startA + 2 * lenA) lenB (startA + lenA) >>= f) h) Q := by
  unfold mergeInPlace
  rw [M.bind_assoc]
  apply vstep_mergeInPlaceLoop (startA := startA) hS hle _ lenA lenB _ _ _ h rfl hc (Nat.le_refl _) rfl (Nat.le_refl _) rfl
    (by rw [Nat.add_assoc, ← Nat.two_mul]) la lb (la.toObj.append (nr.append lb.toObj))
  intro h' sb l' n'
  rw [if_neg (by simp)]
  exact s h' sb l' n'

/-- the compaction of a level as `compress_while_updating` and `general_compress` both do it -/
theorem vstep_halveMerge {β} {S} {h : Heap} {b n adjBeg half rawLim top coin : Nat} {f : Unit → M β}
    {Q : β → Heap → Prop}
    (hc : HasCells h b n) (hadj : adjBeg + 2 * half = rawLim) (htn : top ≤ n)
    (l : Lay h b adjBeg [(.live, rawLim), (.live, top)]) (hcoin : coin ≤ 1) (hS : S b = true)
    (s : ∀ h', SameBut h h' (fun b' j => b' = b ∧ adjBeg ≤ j ∧ j < top) →
          Lay h' b adjBeg [(.obj, adjBeg + half), (.live, top)] → SafeF S h' (f () h') Q) :
    SafeF S h ((if top - rawLim = 0 then halveUp b adjBeg (2 * half) coin >>= f
      else halveDown b adjBeg (2 * half) coin >>= fun _ =>
        mergeInPlace b adjBeg half rawLim (top - rawLim) (adjBeg + half) >>= f) h) Q := by
  subst hadj
  have hlt : adjBeg + 2 * half ≤ top := l.2.2.1
  have hlseg : LiveOn h b adjBeg (adjBeg + 2 * half) := l.2.1
  have hl := hlseg.append l.2.2.2.1
  have hht : adjBeg + half ≤ top :=
    Nat.le_trans (Nat.add_le_add_left (Nat.le_mul_of_pos_left half Nat.zero_lt_two) adjBeg) hlt
  replace s := fun h' sb (l : LiveOn h' b (adjBeg + half) top) (n : On .obj h' b adjBeg (adjBeg + half)) =>
    s h' sb ⟨Nat.le_add_right _ _, n, hht, l, trivial⟩
  by_cases hpa : top - (adjBeg + 2 * half) = 0
  · rw [if_pos hpa]
    obtain rfl : top = adjBeg + 2 * half := Nat.le_antisymm (Nat.le_of_sub_eq_zero hpa) hlt
    exact vstep_halveUp hc htn hlseg hcoin hS s
  · rw [if_neg hpa]
    apply vstep_halveDown hc (Nat.le_trans hlt htn) hlseg hcoin hS
    intro h2 sb2 l2 n2
    obtain ⟨lenB, rfl⟩ : ∃ lenB, top = adjBeg + 2 * half + lenB := ⟨_, (Nat.add_sub_cancel' hlt).symm⟩
    rw [Nat.add_sub_cancel_left]
    apply vstep_mergeInPlace (sb2.cells _ _ hc) htn l2
      ((hl.mono (Nat.le_add_right _ _) (Nat.le_refl _)).frame sb2 (.inr (Nat.le_refl _))) n2 hS
    intro h3 sb3
    exact s h3 ((sb2.mono (fun _ _ x => ⟨x.1, x.2.1, Nat.lt_of_lt_of_le x.2.2 hlt⟩)).trans sb3 (fun _ _ x => x)
      (fun _ _ x => x))

/-- `std::move_backward(buf + l0, buf + l0 + amount, buf + l0 + amount + d)` -/
theorem vstep_shiftUp {β} {S} {h : Heap} {b n l0 amount d : Nat} {f : Unit → M β} {Q : β → Heap → Prop}
    (hc : HasCells h b n) (hle : l0 + amount + d ≤ n) (hd : 1 ≤ d)
    (l : Lay h b l0 [(.live, l0 + amount), (.obj, l0 + amount + d)]) (hS : S b = true)
    (s : ∀ h', SameBut h h' (fun b' j => b' = b ∧ l0 ≤ j ∧ j < l0 + amount + d) →
          Lay h' b l0 [(.obj, l0 + d), (.live, l0 + amount + d)] → SafeF S h' (f () h') Q) :
    SafeF S h ((loopDown (fun i => moveAssignSlot b i b (i + d)) amount l0 >>= f) h) Q := by
  have hl : LiveOn h b l0 (l0 + amount) := l.2.1
  have e := Nat.add_right_comm l0 d amount
  refine vstep_packUp (src := fun k => l0 + k) (d0 := l0 + d) (lo := l0)
    (fun k _ => by
      rw [Nat.add_right_comm l0 k d]
      exact (if_neg (Nat.ne_of_gt (Nat.add_lt_add_right (Nat.lt_add_of_pos_right hd) k))).symm) hc (e ▸ hle)
    (fun k _ => ⟨Nat.le_add_right _ _, Nat.add_le_add_right (Nat.le_add_right _ _) _⟩)
    (fun _ _ h1 _ => Nat.add_lt_add_left h1 _) (fun k hk => hl _ (Nat.le_add_right _ _) (Nat.add_lt_add_left hk _))
    (e ▸ hl.toObj.append l.2.2.2.1) hS ?_
  rw [e]
  exact fun h' sb lv nr => s h' sb ⟨Nat.le_add_right _ _, nr, Nat.add_le_add_right (Nat.le_add_right _ _) d, lv, trivial⟩

/-- `if (src != dst) std::move(first, last, d_first)` to the left, in front of a continuation -/
theorem vstep_shiftDown {β} {S} {h : Heap} {b n src dst cnt : Nat} {f : Unit → M β} {Q : β → Heap → Prop}
    (hc : HasCells h b n) (hle : src + cnt ≤ n) (hd : dst ≤ src) (hl : LiveOn h b src (src + cnt))
    (nr : On .obj h b dst src) (hS : S b = true)
    (s : ∀ h', SameBut h h' (fun b' j => b' = b ∧ dst ≤ j ∧ j < src + cnt) →
          LiveOn h' b dst (dst + cnt) → On .obj h' b (dst + cnt) (src + cnt) → SafeF S h' (f () h') Q) :
    SafeF S h ((if src ≠ dst then loopUp (fun i => moveAssignSlot b i b (dst + (i - src))) cnt src >>= f else f ()) h) Q := by
  by_cases e : src = dst
  · rw [if_neg (not_not_intro e)]
    subst e
    exact s h (SameBut.refl _ _) hl (On.nil (Nat.le_refl _))
  · rw [if_pos e]
    have hlt := Nat.lt_of_le_of_ne hd (Ne.symm e)
    exact vstep_packDown (src := fun k => src + k)
      (fun k _ => by
        rw [Nat.add_sub_cancel_left]
        exact (if_neg (Nat.ne_of_lt (Nat.add_lt_add_right hlt k))).symm) hc hle
      (fun k hk => ⟨Nat.add_le_add_right hd _, Nat.add_lt_add_left hk _⟩)
      (fun _ _ h1 _ => Nat.add_lt_add_left h1 _) (fun k hk => hl _ (Nat.le_add_right _ _) (Nat.add_lt_add_left hk _))
      (nr.append hl.toObj) hS s

end DS.Life.Kll
