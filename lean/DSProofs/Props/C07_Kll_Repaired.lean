/-
C07 (KLL part), the statements that become true with the two repairs of the KLL code:
  * the const_iterator constructor skips empty levels (proposed_fixes/C07-kll-iterator-level0-empty.patch),
  * get_quantile rejects a NaN rank (proposed_fixes/C07-nan-rank-answered-kll.patch).
The source shapes are read from the CURRENT headers by tools/trules/kll.py into `DSGen.kll_ITER_SKIPS_EMPTY_LEVELS` /
`DSGen.kll_NAN_RANK_REJECTED` (`genFlags`; any third shape is a translation failure); the executed model (`Sketch.iterF`,
`getQuantileF`, used by the driver) follows these flags.  `C07_Kll.lean` keeps the statements about the pinned shapes
(`weight_conserved_full_false` is about the pinned iterator `Sketch.iter`).  The `…_current` theorems hold for whichever shape
the headers have: they select the repaired statement when the flag is true and the pinned witness when it is false.
Quantification as in C07_Kll.lean: every `ParamsOk` parameter set, item type, strict weak order, history, coin sequence, sketch.
-/
import DSProofs.Props.C07_Kll
namespace DS.Kll
open DS DS.SortedView

variable {α : Type}

/-- with the flag off, the flag-following iterator is the pinned one of C07_Kll.lean -/
theorem kll_iterF_pinned (fl : Flags) (hfl : fl.iterSkipsEmpty = false) (s : Sketch α) : s.iterF fl = s.iter :=
  iterF_pinned fl hfl s

/-- weight_conserved, FULL statement, repaired iterator: for EVERY sketch of every history (level 0 empty after a merge included,
the empty sketch included) the iteration yields exactly `num_retained` pairs, level by level with weight 2^level, and the
weights sum to n -/
theorem weight_conserved_repaired {P : Params} (ok : ParamsOk P) {c : Cmp α} (sw : StrictWeak c.lt) (ops : List (Op α))
    (coins : Coins) {i : Nat} {s : Sketch α} (h : (reach P c ops coins)[i]? = some s) (fl : Flags) (hfl : fl.iterSkipsEmpty = true) :
    (s.iterF fl).length = s.retained ∧ ((s.iterF fl).map Prod.snd).sum = s.n ∧ s.iterF fl = weightedW 1 s.levels := by
  obtain ⟨hi, _⟩ := reach_get ok sw ops coins h
  have e := iterF_repaired fl hfl s
  refine ⟨by rw [e, weightedW_length]; rfl, ?_, e⟩
  rw [e, weightedW_sum, hi.weight]; omega

/-- the FULL statement for the iterator the current headers have -/
def weight_conserved_current_full : Prop :=
  ∀ (α : Type) (P : Params), ParamsOk P → ∀ (c : Cmp α), StrictWeak c.lt → ∀ (ops : List (Op α)) (coins : Coins) (i : Nat) (s : Sketch α),
    (reach P c ops coins)[i]? = some s → (s.iterF genFlags).length = s.retained ∧ ((s.iterF genFlags).map Prod.snd).sum = s.n

/-- … it holds exactly when the headers have the repaired constructor: with the flag true by `weight_conserved_repaired`, with the
flag false it is refuted by the witness of `weight_conserved_full_false` -/
theorem weight_conserved_current : weight_conserved_current_full ↔ DSGen.kll_ITER_SKIPS_EMPTY_LEVELS = true := by
  constructor
  · intro h
    cases hf : DSGen.kll_ITER_SKIPS_EMPTY_LEVELS with
    | true => rfl
    | false =>
      exfalso
      apply weight_conserved_full_false
      intro α P ok c sw ops coins i s hs
      have := h α P ok c sw ops coins i s hs
      rw [iterF_pinned genFlags (by simp [genFlags, hf]) s] at this
      exact this
  · intro hf α P ok c sw ops coins i s hs
    have := weight_conserved_repaired ok sw ops coins hs genFlags (by simp [genFlags, hf])
    exact ⟨this.1, this.2.1⟩

/-- the witness of `weight_conserved_full_false` under the repaired constructor: 12 items of weight 2, sum 24 = n -/
example : ((reach genParams intCmp exOps noCoins)[0]?.map (fun s => (((s.iterF ⟨true, true⟩).map Prod.snd).sum, s.n, (s.iterF ⟨true, true⟩).length))) =
    some (24, 24, 12) := by decide +kernel

/-- … and an empty sketch iterates to nothing -/
example : (init 8 : Sketch Int).iterF ⟨true, true⟩ = [] := by decide

/-- invalid_rejected (`get_quantile`), repaired range check: a query is answered only for a non-empty sketch and a rank with
`rank >= 0 && rank <= 1` — both IEEE comparisons are false for NaN, so a NaN rank is rejected (the model executes the check with
Lean `Float`; that `NaN >= 0` is false is IEEE semantics, exercised on the real code and on the model by every run, not a kernel
fact) — and an empty sketch rejects every query -/
theorem invalid_rank_rejected_repaired (fl : Flags) (hfl : fl.nanRankRejected = true) (c : Cmp α) (s : Sketch α) (rank : Float) (incl : Bool) :
    (∀ q, getQuantileF fl c s rank incl = some q → s.n ≠ 0 ∧ rank ≥ 0.0 ∧ rank ≤ 1.0) ∧
    (s.n = 0 → getQuantileF fl c s rank incl = none) := by
  refine ⟨?_, fun hn => by simp [getQuantileF, hn]⟩
  intro q hq
  simp only [getQuantileF, rankAccepted, hfl, if_true] at hq
  split at hq
  · exact absurd hq (by simp)
  · rename_i hn
    split at hq
    · exact absurd hq (by simp)
    · rename_i hr
      simp only [Bool.not_eq_true', Bool.not_eq_false, Bool.and_eq_true, decide_eq_true_eq] at hr
      exact ⟨by simpa using hn, hr.1, hr.2⟩

/-- with the flag off the flag-following `get_quantile` is the pinned one -/
theorem kll_getQuantileF_pinned (fl : Flags) (hfl : fl.nanRankRejected = false) (c : Cmp α) (s : Sketch α) (rank : Float) (incl : Bool) :
    getQuantileF fl c s rank incl = getQuantile c s rank incl := by
  simp only [getQuantileF, getQuantile, rankAccepted, hfl, Bool.false_eq_true, if_false, Bool.not_not]

/-- … for the check the current headers have: whenever the header has the repaired shape, an answered query had
`rank >= 0 && rank <= 1` -/
theorem invalid_rank_rejected_current (hf : DSGen.kll_NAN_RANK_REJECTED = true) (c : Cmp α) (s : Sketch α) (rank : Float) (incl : Bool) (q : α)
    (h : getQuantileF genFlags c s rank incl = some q) : s.n ≠ 0 ∧ rank ≥ 0.0 ∧ rank ≤ 1.0 :=
  (invalid_rank_rejected_repaired genFlags (by simp [genFlags, hf]) c s rank incl).1 q h

end DS.Kll
