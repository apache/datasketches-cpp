/- C20: `n_` counts the accepted inputs unless a merge skipped an emptied operand (`run_n`); a sketch that has lost no point holds
   its inputs in order (`run_exact`); the estimate over `Rat` as a sum of kernel values. -/
import DSProofs.Lemmas.DensityRun
import Mathlib.Algebra.Order.Field.Rat
import Mathlib.Tactic.Ring
namespace DS.Density

variable {α ρ : Type}

theorem run_n (c : Cfg) (P : Picker ρ α) (minK : Nat) (hist : Hist α) (hv : hist.valid minK) (r : ρ)
    (hne : hist.noEmptiedOperand c P r) : (run c P hist r).1.n = hist.inputs.length := by
  induction hist generalizing r with
  | new k d => rfl
  | upd h p ih =>
    simp only [run, Hist.inputs]
    by_cases hp : p.length = h.dim
    · rw [update_n _ _ _ _ _ (by rw [run_dim]; exact hp), ih hv r hne]; simp [hp]
    · rw [update_refused _ _ _ _ _ (by rw [run_dim]; exact hp), ih hv r hne]; simp [hp]
  | merge h o ih1 ih2 =>
    obtain ⟨h1, h2, h3⟩ := hne
    have e1 := ih1 hv.1 r h1
    have e2 := ih2 hv.2 _ h2
    simp only [run, Hist.inputs]
    by_cases h0 : mergeSkips c (run c P o (run c P h r).2).1 = true
    · rw [merge_skipped _ _ _ _ _ h0, e1]
      have : o.inputs.length = 0 := by rw [← e2]; exact h3 h0
      split <;> simp [this]
    · by_cases hd : o.dim = h.dim
      · rw [merge_accepted _ _ _ _ _ (by simpa using h0) (by rw [run_dim, run_dim]; exact hd), (compactLoop_compacted c P _ _).n]
        simp only [merged, hd, if_true, List.length_append]; omega
      · rw [merge_refused _ _ _ _ _ (by rw [run_dim, run_dim]; exact hd), e1]; simp [hd]

theorem noEmptiedOperand_of_skipOnN (c : Cfg) (hc : c.mergeSkipOnN = true) (P : Picker ρ α) (hist : Hist α) (r : ρ) :
    hist.noEmptiedOperand c P r := by
  induction hist generalizing r with
  | new k d => trivial
  | upd h p ih => exact ih r
  | merge h o ih1 ih2 =>
    refine ⟨ih1 r, ih2 _, ?_⟩
    intro hs
    simpa [mergeSkips, hc] using hs

theorem skipped_exact_nil (c : Cfg) {o : Sketch α} {pts : List (Point α)} (hi : Inv o) (hl : o.levels = [pts])
    (hn : o.n = pts.length) (hs : mergeSkips c o = true) : pts = [] := by
  unfold mergeSkips at hs
  split at hs
  · have : o.n = 0 := by simpa using hs
    exact List.eq_nil_of_length_eq_zero (by omega)
  · have h0 : o.numRetained = 0 := by simpa using hs
    have := hi.cnt
    rw [h0, hl] at this
    exact List.eq_nil_of_length_eq_zero this.symm

theorem run_exact (c : Cfg) (P : Picker ρ α) (minK : Nat) (hm : 1 ≤ minK) (hist : Hist α) (hv : hist.valid minK) (r : ρ)
    (hop : hist.operandsExact c P r) (h1 : (run c P hist r).1.levels.length = 1)
    (hn : (run c P hist r).1.numRetained = (run c P hist r).1.n) :
    (run c P hist r).1.levels = [hist.inputs] ∧ (run c P hist r).1.n = hist.inputs.length := by
  induction hist generalizing r with
  | new k d => exact ⟨rfl, rfl⟩
  | upd h p ih =>
    have hs := run_rinv c P minK hm h hv r
    have hd := run_dim c P h r
    replace ih := ih hv r hop
    simp only [run, Hist.inputs] at h1 hn ⊢
    generalize run c P h r = x at *
    by_cases hp : p.length = h.dim
    · rw [update_accepted _ _ _ _ _ (hd ▸ hp)] at h1 hn ⊢
      simp only at h1 hn ⊢
      rw [length_pushLevel0 _ _ ((compactLoop_compacted c P _ _).inv hs.inv).ne] at h1
      -- the loop before the push did nothing
      have hnc := compactLoop_noop c P _ hs.toPre h1 (by omega)
      rw [hnc] at h1 hn ⊢
      obtain ⟨e1, e2⟩ := ih h1 (by simp only at hn; omega)
      simp [hp, e1, e2, pushLevel0]
    · rw [update_refused _ _ _ _ _ (hd ▸ hp)] at h1 hn ⊢
      rw [if_neg hp]
      exact ih h1 hn
  | merge h o ih1 ih2 =>
    obtain ⟨o1, o2, o3, o4⟩ := hop
    have hs := run_rinv c P minK hm h hv.1 r
    have hso := run_rinv c P minK hm o hv.2 (run c P h r).2
    have hd := run_dim c P h r
    have hdo := run_dim c P o (run c P h r).2
    obtain ⟨b1, b2⟩ := ih2 hv.2 _ o2 o3 o4
    replace ih1 := ih1 hv.1 r o1
    simp only [run, Hist.inputs] at h1 hn ⊢
    generalize run c P o (run c P h r).2 = y at *
    generalize run c P h r = x at *
    by_cases h0 : mergeSkips c y.1 = true
    · rw [merge_skipped _ _ _ _ _ h0] at h1 hn ⊢
      obtain ⟨a1, a2⟩ := ih1 h1 hn
      rw [skipped_exact_nil c hso.inv b1 b2 h0]
      split <;> simp [a1, a2]
    · by_cases hdim : o.dim = h.dim
      · rw [merge_accepted _ _ _ _ _ (by simpa using h0) (by rw [hd, hdo]; exact hdim)] at h1 hn ⊢
        have := hs.nge
        have := hso.nge
        -- the loop after joining the levels did nothing
        have hnc := compactLoop_noop c P _ (merged_pre hs hso) h1 hn
        rw [hnc] at h1 hn ⊢
        obtain ⟨a1, a2⟩ := ih1 (merged_one_level hs.inv hso.inv h1).1 (by simp only [merged] at hn; omega)
        simp [merged, hdim, a1, b1, a2, b2, mergeLevels]
      · rw [merge_refused _ _ _ _ _ (by rw [hd, hdo]; exact hdim)] at h1 hn ⊢
        rw [if_neg hdim]
        exact ih1 h1 hn

def kernelSum (K : Point Rat → Point Rat → Rat) (q : Point Rat) (pts : List (Point Rat)) : Rat :=
  (pts.map (fun p => K p q)).sum

theorem estWeight_rat (c : Cfg) (h : Nat) : (estWeight c h : Rat) =
    if c.weight64 then ((2 ^ h : Nat) : Rat) else if h < 31 then ((2 ^ h : Nat) : Rat) else -((2 ^ 31 : Nat) : Rat) := rfl

theorem estLevel_rat (c : Cfg) (K : Point Rat → Point Rat → Rat) (q : Point Rat) (n h : Nat) (acc : Rat) (lvl : Level Rat) :
    estLevel c K q n h acc lvl = acc + (estWeight c h : Rat) * kernelSum K q lvl / (n : Rat) := by
  induction lvl generalizing acc with
  | nil => simp [estLevel, kernelSum]
  | cons p l ih =>
    have : estLevel c K q n h acc (p :: l) =
        estLevel c K q n h (acc + (estWeight c h : Rat) * K p q / (n : Rat)) l := rfl
    rw [this, ih]
    simp only [kernelSum, List.map_cons, List.sum_cons]
    ring

theorem kernelSum_nonneg (K : Point Rat → Point Rat → Rat) (hK : ∀ p q, 0 ≤ K p q) (q : Point Rat) (pts : List (Point Rat)) :
    0 ≤ kernelSum K q pts := by
  induction pts with
  | nil => simp [kernelSum]
  | cons p l ih =>
    simp only [kernelSum, List.map_cons, List.sum_cons]
    exact add_nonneg (hK p q) ih

theorem estWeight_nonneg (c : Cfg) (h : Nat) (hh : c.weight64 = true ∨ h < 31) : 0 ≤ (estWeight c h : Rat) := by
  rw [estWeight_rat]
  rcases hh with hh | hh
  · rw [if_pos hh]; exact Nat.cast_nonneg _
  · rw [if_pos hh, ite_self]; exact Nat.cast_nonneg _

theorem estFrom_nonneg (c : Cfg) (K : Point Rat → Point Rat → Rat) (hK : ∀ p q, 0 ≤ K p q) (q : Point Rat) (n h : Nat) (acc : Rat)
    (ha : 0 ≤ acc) (ls : List (Level Rat)) (hw : ∀ i, i < h + ls.length → 0 ≤ (estWeight c i : Rat)) :
    0 ≤ estFrom c K q n h acc ls := by
  induction ls generalizing h acc with
  | nil => exact ha
  | cons l r ih =>
    rw [List.length_cons] at hw
    refine ih _ _ ?_ fun i hi => hw i (by omega)
    rw [estLevel_rat]
    exact add_nonneg ha (div_nonneg (mul_nonneg (hw h (by omega)) (kernelSum_nonneg K hK q l)) (Nat.cast_nonneg _))

end DS.Density
