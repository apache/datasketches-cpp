/- Arithmetic of the CPC model: `row * 64 + col` codes, `determine_flavor` by cases, `determine_correct_offset` by the two
   inequalities `(19 + 8 off) K ≤ 8 C < (27 + 8 off) K` of an offset's range of coupon counts; for compression, the pseudo-phase
   and the column rotation of SLIDING. -/
import DSModel.Cpc.Union
import DSModel.Cpc.Compress
import DSProofs.Lemmas.ListAux
namespace DS.Cpc

theorem rc_div (r c : Nat) (hc : c < 64) : (r * 64 + c) / 64 = r := by
  rw [Nat.add_comm, Nat.add_mul_div_right _ _ (by decide), Nat.div_eq_of_lt hc, Nat.zero_add]
theorem rc_mod (r c : Nat) (hc : c < 64) : (r * 64 + c) % 64 = c := Nat.mul_add_mod_of_lt hc
theorem rc_eq_iff (r c rc : Nat) (hc : c < 64) : r * 64 + c = rc ↔ (rc / 64 = r ∧ rc % 64 = c) :=
  ⟨fun h => h ▸ ⟨rc_div r c hc, rc_mod r c hc⟩, fun ⟨h1, h2⟩ => h1 ▸ h2 ▸ Nat.div_add_mod' rc 64⟩
theorem rc_inj (r c r' c' : Nat) (hc : c < 64) (hc' : c' < 64) : r' * 64 + c' = r * 64 + c ↔ (r' = r ∧ c' = c) := by
  rw [rc_eq_iff r' c' _ hc', rc_div r c hc, rc_mod r c hc, eq_comm, @eq_comm _ c]

theorem flavor_cases (lgK c : Nat) :
    (c = 0 ∧ determineFlavor lgK c = .empty) ∨
    (c ≠ 0 ∧ 32 * c < 3 * 2^lgK ∧ determineFlavor lgK c = .sparse) ∨
    (c ≠ 0 ∧ 3 * 2^lgK ≤ 32 * c ∧ 2 * c < 2^lgK ∧ determineFlavor lgK c = .hybrid) ∨
    (c ≠ 0 ∧ 3 * 2^lgK ≤ 32 * c ∧ 2^lgK ≤ 2 * c ∧ 8 * c < 27 * 2^lgK ∧ determineFlavor lgK c = .pinned) ∨
    (c ≠ 0 ∧ 3 * 2^lgK ≤ 32 * c ∧ 2^lgK ≤ 2 * c ∧ 27 * 2^lgK ≤ 8 * c ∧ determineFlavor lgK c = .sliding) := by
  unfold determineFlavor
  by_cases h0 : c = 0
  · simp [h0]
  · by_cases h1 : 32 * c < 3 * 2^lgK
    · simp [h0, h1]
    · by_cases h2 : 2 * c < 2^lgK
      · simp [h0, h1, h2, Nat.le_of_not_lt h1]
      · by_cases h3 : 8 * c < 27 * 2^lgK
        · simp [h0, h1, h2, h3, Nat.le_of_not_lt h1, Nat.le_of_not_lt h2]
        · simp [h0, h1, h2, h3, Nat.le_of_not_lt h1, Nat.le_of_not_lt h2, Nat.le_of_not_lt h3]

theorem flavor_sparse_iff (lgK c : Nat) : determineFlavor lgK c = .sparse ↔ (c ≠ 0 ∧ 32 * c < 3 * 2^lgK) := by
  rcases flavor_cases lgK c with ⟨h0, hf⟩ | ⟨h0, h1, hf⟩ | ⟨h0, h1, h2, hf⟩ | ⟨h0, h1, h2, h3, hf⟩ | ⟨h0, h1, h2, h3, hf⟩ <;>
    rw [hf] <;> simp <;> omega

theorem flavor_empty_iff (lgK c : Nat) : determineFlavor lgK c = .empty ↔ c = 0 := by
  rcases flavor_cases lgK c with ⟨h0, hf⟩ | ⟨h0, h1, hf⟩ | ⟨h0, h1, h2, hf⟩ | ⟨h0, h1, h2, h3, hf⟩ | ⟨h0, h1, h2, h3, hf⟩ <;>
    rw [hf] <;> simp <;> omega

theorem flavor_hp_lt27 (lgK c : Nat) (h : determineFlavor lgK c = .hybrid ∨ determineFlavor lgK c = .pinned) :
    8 * c < 27 * 2^lgK := by
  rcases flavor_cases lgK c with ⟨h0, hf⟩ | ⟨h0, h1, hf⟩ | ⟨h0, h1, h2, hf⟩ | ⟨h0, h1, h2, h3, hf⟩ | ⟨h0, h1, h2, h3, hf⟩ <;>
    rw [hf] at h <;> simp at h <;> omega

theorem beyondSparse_iff (lgK c : Nat) : beyondSparse lgK c = true ↔ 3 * 2^lgK ≤ 32 * c := by
  have hk := Nat.two_pow_pos lgK
  unfold beyondSparse
  rcases flavor_cases lgK c with ⟨h0, hf⟩ | ⟨h0, h1, hf⟩ | ⟨h0, h1, h2, hf⟩ | ⟨h0, h1, h2, h3, hf⟩ | ⟨h0, h1, h2, h3, hf⟩ <;>
    rw [hf] <;> simp <;> omega

/-- `q = ⌊(8c − 19K) / 8K⌋` is the offset whose range of coupon counts contains `c` -/
theorem div_bounds (K c : Nat) (hk : 0 < K) (h : 19 * K ≤ 8 * c) :
    8 * c < (27 + 8 * ((8 * c - 19 * K) / (8 * K))) * K ∧ (19 + 8 * ((8 * c - 19 * K) / (8 * K))) * K ≤ 8 * c := by
  have hd := Nat.div_add_mod (8 * c - 19 * K) (8 * K)
  have hm := Nat.mod_lt (8 * c - 19 * K) (show 0 < 8 * K by omega)
  generalize (8 * c - 19 * K) / (8 * K) = q at *
  rw [Nat.add_mul, Nat.add_mul, Nat.mul_assoc, Nat.mul_comm q, ← Nat.mul_assoc]
  omega

theorem dco_bounds (lgK c : Nat) :
    8 * c < (27 + 8 * determineCorrectOffset lgK c) * 2^lgK ∧
    (1 ≤ determineCorrectOffset lgK c → (19 + 8 * determineCorrectOffset lgK c) * 2^lgK ≤ 8 * c) := by
  unfold determineCorrectOffset
  split
  · rename_i h
    exact ⟨by omega, fun h1 => absurd h1 (by decide)⟩
  · rename_i h
    have := div_bounds (2^lgK) c (Nat.two_pow_pos lgK) (Nat.le_of_not_lt h)
    exact ⟨this.1, fun _ => this.2⟩

theorem dco_le (lgK c off : Nat) (hhi : 8 * c < (27 + 8 * off) * 2^lgK) : determineCorrectOffset lgK c ≤ off := by
  apply Nat.le_of_not_lt
  intro hlt
  have := Nat.lt_of_mul_lt_mul_right (Nat.lt_of_le_of_lt ((dco_bounds lgK c).2 (by omega)) hhi)
  omega

theorem le_dco (lgK c off : Nat) (hlo : (19 + 8 * off) * 2^lgK ≤ 8 * c) : off ≤ determineCorrectOffset lgK c := by
  have := Nat.lt_of_mul_lt_mul_right (Nat.lt_of_le_of_lt hlo (dco_bounds lgK c).1)
  omega

theorem dco_eq (lgK c off : Nat) (hhi : 8 * c < (27 + 8 * off) * 2^lgK)
    (hlo : 1 ≤ off → (19 + 8 * off) * 2^lgK ≤ 8 * c) : determineCorrectOffset lgK c = off :=
  Nat.le_antisymm (dco_le lgK c off hhi) (by
    cases off with
    | zero => exact Nat.zero_le _
    | succ n => exact le_dco lgK c _ (hlo (Nat.succ_pos n)))

/-- the two ends of an offset's range of coupon counts (header) when the window moves up by one column -/
theorem offHi_succ (K C o : Nat) (hK : 0 < K) (h : 8 * C < (27 + 8 * o) * K) : 8 * (C + 1) < (27 + 8 * (o + 1)) * K := by
  show 8 * C + 8 < (27 + 8 * o + 8) * K
  rw [Nat.add_mul]; exact Nat.add_lt_add_of_lt_of_le h (Nat.le_mul_of_pos_right 8 hK)

theorem offLo_succ (K o : Nat) : (19 + 8 * (o + 1)) * K = (27 + 8 * o) * K := by
  rw [show 19 + 8 * (o + 1) = 27 + 8 * o by omega]

theorem pseudoPhase_lt (lgK c : Nat) : pseudoPhase lgK c < 22 := by
  unfold pseudoPhase
  refine ite_lt ?_ (Nat.lt_trans (Nat.mod_lt _ (by decide)) (by decide))
  repeat' apply ite_lt
  all_goals decide

theorem pseudoPhase_sliding (lgK c : Nat) (h : ¬ 8 * c < 27 * 2^lgK) : pseudoPhase lgK c < 16 := by
  unfold pseudoPhase
  simp only
  have hk := Nat.two_pow_pos lgK
  have : ¬ 1000 * c < 2375 * 2^lgK := by omega
  rw [if_neg this]
  exact Nat.mod_lt _ (by decide)

/-- rotating a column off the window by `56 - off` lands below 56, and rotating on by `off + 8` undoes it -/
theorem rotate_col (c off : Nat) (hc : c < 64) (ho : off ≤ 56) (hz : c < off ∨ off + 8 ≤ c) :
    (c + 56 - off) % 64 < 56 ∧ ((c + 56 - off) % 64 + (off + 8)) % 64 = c := by omega

end DS.Cpc
