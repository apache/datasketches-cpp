/- Bloom filter image: the header step of the round trip, and the `Sized` term behind C11. -/
import DSProofs.Lemmas.Wire
import DSModel.Wire.Bloom
namespace DS.Wire.Bloom
open DS.Wire

theorem land_self_ne (m : Nat) (h : m ≠ 0) : ((m &&& m) != 0) = true := by
  simp [h]

theorem flag_roundtrip (m : Nat) (h : m ≠ 0) (e : Bool) : (((if e then m else 0) &&& m) != 0) = e := by
  cases e
  · simp
  · exact land_self_ne m h

theorem decode_header (c : Consts) (hc : c.Valid) (s : Img) (hs : WF s) (tail : Bytes) :
    decode c (encode c s ++ tail) =
      decodeBody s.numHashes s.seed s.numLongs s.body.isNone (encodeBody s.body ++ tail) := by
  obtain ⟨h1, h2, h3, h4, h5, h6, _⟩ := hc
  obtain ⟨g1, g2, g3, _⟩ := hs
  have hp : (if s.body.isNone then c.preEmpty else c.preStd) < 256 := by split <;> assumption
  have hf : (if s.body.isNone then c.emptyMask else 0) < 256 := by split <;> omega
  simp only [encode, decode, List.append_assoc]
  rw [bind_u8 _ hp, bind_u8 _ h3, bind_u8 _ h4, bind_u8 _ hf, flag_roundtrip _ h6,
    bind_guard _ (beq_self_eq_true _), bind_guard _ (beq_self_eq_true _), bind_guard _ (beq_self_eq_true _),
    bind_u16 _ g1, bind_skip, bind_u64 _ g2, bind_u32 _ g3, bind_skip]

theorem decodeBody_sized (nh seed nl : Nat) (hnh : nh < 2 ^ 16) (hseed : seed < 2 ^ 64) (hnl : nl < 2 ^ 32) (e : Bool) :
    Sized (decodeBody nh seed nl e) 24 serializedSize WF := by
  unfold decodeBody
  exact Post_ite _ (Sized_pure _ rfl ⟨hnh, hseed, hnl, trivial⟩)
    (Sized_bind (Sized_leNat 8) fun _ hnbs => Sized_bind (Sized_bytesN _) fun _ hbits =>
     Sized_pure _ rfl ⟨hnh, hseed, hnl, hnbs, hbits⟩)

theorem decode_sized (c : Consts) : Sized (decode c) 0 serializedSize WF :=
  Sized_bind (Sized_leNat 1) fun _ _ => Sized_bind (Sized_leNat 1) fun _ _ => Sized_bind (Sized_leNat 1) fun _ _ =>
  Sized_bind (Sized_leNat 1) fun _ _ => Post_guard fun _ => Post_guard fun _ => Post_guard fun _ =>
  Sized_bind (Sized_leNat 2) fun _ hnh => Sized_bind (Sized_skip 2) fun _ _ =>
  Sized_bind (Sized_leNat 8) fun _ hseed => Sized_bind (Sized_leNat 4) fun _ hnl => Sized_bind (Sized_skip 4) fun _ _ =>
  decodeBody_sized _ _ _ hnh hseed hnl _

end DS.Wire.Bloom
