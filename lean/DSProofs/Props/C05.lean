/-
C05 — CPC sketch is an exact coupon bit-matrix; union ORs row-folded matrices.

The property theorems, the predicates defined for their statements here (`ValidInput`, `SizesOK`, `RegsOK`,
`cpc_image_lossless_full`; `Inv`,
`sameContent`, `TablesOK`, `CodeOK`, `genComp`, `wireOf` and its instances are defined in Lemmas/Cpc*.lean with the helper
lemmas) and non-vacuity examples.
Models: DSModel/Cpc/Sketch.lean, Input.lean, Estimator.lean, Union.lean, Compress.lean, Wire.lean (tied to
cpc_sketch_impl.hpp, icon_estimator.hpp, cpc_confidence.hpp, cpc_union_impl.hpp, cpc_compressor_impl.hpp by the
correspondence check `./check C05`).  All statements are for every lg_k (the input-level one for lg_k ≤ 26, the library's maximum), every contents of the
numeric tables `T`/`E` (they only drive the floating-point HIP/ICON numbers) and every finite stream.

A coupon is the code `row * 64 + col` (`row_col` in the code).  `rowCol` is the code's
`row_col_from_two_hashes`: row = low lg_k bits of the first MurmurHash3 word, col = min(clz(second word), 63).

Literal-statement carve-outs, stated here:
* for lg_k = 26 the code maps the pair (row 2^26-1, col 63) to row 2^26-2 (it would collide with the hash
  table's empty marker); `rowCol` models this, so "distinct (row, col) pairs" means distinct `rowCol` values;
* `move_window` past offset 56 is an internal `logic_error` in the code; it needs more than 59.375·K distinct
  coupons (coupons in columns 57..63: probability below 2^-57 per update).  The model keeps the window at 56 there;
  `cpc_offset_inv` therefore says `min 56 …`, and `cpc_no_saturation` gives the exact form below that bound.
-/
import DSProofs.Lemmas.CpcCount
import DSProofs.Lemmas.CpcUnion
import DSProofs.Lemmas.CpcCompress
import DSProofs.Lemmas.CpcTablesOK
import DSProofs.Lemmas.CpcImage
import DSModel.Cpc.Wire
import DSModel.Cpc.Input
import DSModel.Cpc.Estimator
namespace DS.Cpc

/-- **Exact coupon matrix, every flavor.**  After any stream of coupons the matrix rebuilt from the
representation (`build_bit_matrix`: window + surprising values, sparse / hybrid / pinned / sliding alike)
has bit (r, c) set iff coupon (r, c) occurred, no bits at positions ≥ 64, `num_coupons` is the number of
distinct coupons, and `validate()` holds. -/
theorem cpc_matrix_exact (T : HipTables) (lgK : Nat) (rcs : List Nat) (h : ∀ rc ∈ rcs, rc < 64 * 2^lgK) :
    let s := run T lgK rcs
    (∀ r c, r < 2^lgK → c < 64 → (((buildBitMatrix s).getD r 0).testBit c = true ↔ r * 64 + c ∈ rcs)) ∧
    (∀ r c, r < 2^lgK → 64 ≤ c → ((buildBitMatrix s).getD r 0).testBit c = false) ∧
    s.numCoupons = (distinct rcs).length ∧
    validate s = true := by
  intro s
  have hi : Inv s rcs := inv_run T lgK rcs h
  have hl : s.lgK = lgK := run_lgK T lgK rcs
  have hm := hl ▸ mbits_buildBitMatrix s rcs hi
  exact ⟨hm.bits, hm.high, hi.count, by simp [validate, validate_of_inv s rcs hi (hl.symm ▸ h)]⟩

/-- `row_col_from_two_hashes` always yields a valid code for lg_k ≤ 26 -/
theorem rowCol_lt (h0 h1 : UInt64) (lgK : Nat) (hk : lgK ≤ 26) : rowCol h0 h1 lgK < 64 * 2^lgK := by
  unfold rowCol
  have hrow : h0.toNat % 2^lgK < 2^lgK := Nat.mod_lt _ (Nat.two_pow_pos lgK)
  have hcol : min (clz64 h1) 63 ≤ 63 := Nat.min_le_right _ _
  have hpow : 2^lgK ≤ 2^26 := Nat.pow_le_pow_right (by decide) hk
  simp only
  split
  · rename_i he
    -- row * 64 + col = 2^32 - 1 forces K = 2^26
    omega
  · omega

/-- **The property at input level**: for any inputs of any of the twelve update types, any seed and any
lg_k ≤ 26, the sketch holds exactly the distinct `rowCol` codes of the MurmurHash3 words of the inputs. -/
theorem cpc_matrix_exact_inputs (T : HipTables) (lgK : Nat) (hk : lgK ≤ 26) (seed : UInt64) (inputs : List Input) :
    let s := runInputs T lgK seed inputs
    let rcs := inputs.filterMap (rowColOfInput lgK seed)
    (∀ r c, r < 2^lgK → c < 64 → (((buildBitMatrix s).getD r 0).testBit c = true ↔ r * 64 + c ∈ rcs)) ∧
    s.numCoupons = (distinct rcs).length ∧ validate s = true := by
  intro s rcs
  have hrun : s = run T lgK rcs := by
    show runInputs T lgK seed inputs = run T lgK (inputs.filterMap (rowColOfInput lgK seed))
    unfold runInputs run
    have : ∀ (l : List Input) (s0 : Sketch), s0.lgK = lgK →
        l.foldl (updateInput T seed) s0 = (l.filterMap (rowColOfInput lgK seed)).foldl (rowColUpdate T) s0 := by
      intro l
      induction l with
      | nil => intro s0 _; rfl
      | cons x t ih =>
        intro s0 hs0
        simp only [List.foldl_cons, List.filterMap_cons]
        unfold updateInput
        rw [hs0]
        cases hx : rowColOfInput lgK seed x with
        | none => simp only; exact ih s0 hs0
        | some rc => simp only [List.foldl_cons]; exact ih _ (by rw [rowColUpdate_lgK]; exact hs0)
    exact this inputs (fresh lgK) rfl
  have hvalid : ∀ rc ∈ rcs, rc < 64 * 2^lgK := by
    intro rc hrc
    obtain ⟨i, _, hi⟩ := List.mem_filterMap.1 hrc
    unfold rowColOfInput at hi
    cases hh : hashInput i seed with
    | none => simp [hh] at hi
    | some p => simp [hh] at hi; rw [← hi]; exact rowCol_lt _ _ _ hk
  have := cpc_matrix_exact T lgK rcs hvalid
  rw [← hrun] at this
  exact ⟨this.1, this.2.2.1, this.2.2.2⟩

/-- **Window / offset invariant**: the sliding window exists iff `32·C ≥ 3·K` (flavor beyond SPARSE), has K
bytes, and its offset is `determine_correct_offset(lg_k, C)` (capped at 56, see the header), so flavor and
offset are functions of `(lg_k, C)` only. -/
theorem cpc_offset_inv (T : HipTables) (lgK : Nat) (rcs : List Nat) (h : ∀ rc ∈ rcs, rc < 64 * 2^lgK) :
    let s := run T lgK rcs
    (s.window ≠ [] ↔ 3 * 2^lgK ≤ 32 * s.numCoupons) ∧
    (s.window ≠ [] → s.window.length = 2^lgK) ∧
    s.offset = min 56 (determineCorrectOffset lgK s.numCoupons) ∧
    s.fic ≤ s.offset := by
  intro s
  have hi : Inv s rcs := inv_run T lgK rcs h
  have hl : s.lgK = lgK := run_lgK T lgK rcs
  exact ⟨⟨fun hw => hl ▸ hi.winC hw, fun hge => hi.window_ne (hl.symm ▸ hge)⟩, fun hw => hl ▸ hi.rep.win_len hw,
    hl ▸ hi.offset_eq, hi.ficLe⟩

/-- below the saturation bound the offset is exactly `determine_correct_offset` (which is at most 56 there, `dco_le`), i.e. the
code's `logic_error` guards on the offset are not reached -/
theorem cpc_no_saturation (T : HipTables) (lgK : Nat) (rcs : List Nat) (h : ∀ rc ∈ rcs, rc < 64 * 2^lgK)
    (hb : 8 * (run T lgK rcs).numCoupons < 475 * 2^lgK) :
    (run T lgK rcs).offset = determineCorrectOffset lgK (run T lgK rcs).numCoupons := by
  rw [(cpc_offset_inv T lgK rcs h).2.2.1]
  exact Nat.min_eq_right (dco_le lgK _ 56 hb)

/-- **The merged-form estimate is a function of (lg_k, C) only** (definitional for the model; the correspondence check
ties `estimate` to `get_estimate`, so a dependency of the code on other state would show there), and so are
the confidence bounds. -/
theorem icon_fun_of_lgk_c (E : EstTables) (s₁ s₂ : Sketch) (h₁ : s₁.merged = true) (h₂ : s₂.merged = true)
    (hk : s₁.lgK = s₂.lgK) (hc : s₁.numCoupons = s₂.numCoupons) :
    estimate E s₁ = iconEstimate E s₁.lgK s₁.numCoupons ∧
    estimate E s₁ = estimate E s₂ ∧
    (∀ kappa, lowerBound E s₁ kappa = lowerBound E s₂ kappa ∧ upperBound E s₁ kappa = upperBound E s₂ kappa) := by
  refine ⟨by simp [estimate, h₁], by simp [estimate, h₁, h₂, hk, hc], ?_⟩
  intro kappa
  simp [lowerBound, upperBound, estimate, h₁, h₂, hk, hc]

/-! ## Union

Inputs of a union are *valid sketches*: `ValidInput (s, xs)` says `s` is a correct representation (`Inv`) of the
coupon stream `xs` of codes on `2^s.lgK` rows.  Every sketch reachable by updates is one (`valid_of_run`), and so is
every result of `get_result` whose offset is at most 56 (`cpc_union_spec` gives its `Inv`; its codes are folded, hence below
`64 * 2^L`, see the docstring there), so unions of unions are covered. -/

def ValidInput (p : Sketch × List Nat) : Prop := Inv p.1 p.2 ∧ ∀ x ∈ p.2, x < 64 * 2^p.1.lgK

theorem valid_of_run (T : HipTables) (lgK : Nat) (rcs : List Nat) (h : ∀ rc ∈ rcs, rc < 64 * 2^lgK) :
    ValidInput (run T lgK rcs, rcs) :=
  ⟨inv_run T lgK rcs h, by rw [run_lgK]; exact h⟩

/-- **Union specification.**  For any initial lg_k and any list of valid input sketches with any lg_k values:
(1) the union's lg_k is `unionLgK` = the minimum over the initial lg_k and the lg_k of the non-empty inputs;
(2) provided the result's offset is at most 56 (see header), `get_result` is a valid sketch (`Inv`: exact matrix,
exact count, window/offset/fic consistent with its coupon count) of the concatenation of the inputs' streams with rows
folded to that lg_k (`row &&& (k-1)`), and has that lg_k.  `Inv` alone does not confine a stream to the matrix; the
codes of this one are below `64 * 2^L` because they are folded (`foldRc_lt`), which with `Inv` makes the result a
`ValidInput` again and gives `validate()` (`validate_of_inv`); neither is part of the conclusion. -/
theorem cpc_union_spec (T : HipTables) (lgK0 : Nat) (inputs : List (Sketch × List Nat)) (hin : ∀ p ∈ inputs, ValidInput p) :
    let u := unionRun T lgK0 (inputs.map Prod.fst)
    let L := unionLgK lgK0 (inputs.map Prod.fst)
    let ys := inputs.flatMap (fun p => p.2.map (foldRc L))
    u.lgK = L ∧
    (L ≤ lgK0 ∧ (∀ p ∈ inputs, p.1.numCoupons ≠ 0 → L ≤ p.1.lgK) ∧
      (L = lgK0 ∨ ∃ p ∈ inputs, p.1.numCoupons ≠ 0 ∧ L = p.1.lgK)) ∧
    (determineCorrectOffset L (distinct ys).length ≤ 56 → Inv (getResult u) ys ∧ (getResult u).lgK = L) := by
  intro u L ys
  obtain ⟨hl, hu⟩ := uinv_unionRun T lgK0 inputs hin
  have hspec := foldl_lgKAfter_spec lgK0 (inputs.map Prod.fst)
  refine ⟨hl, ⟨foldl_lgKAfter_le _ _, fun p hp hne => hspec.1 p.1 (List.mem_map_of_mem hp) hne, ?_⟩, fun h56 => ?_⟩
  · exact hspec.2.imp id fun ⟨s, hs, hne, he⟩ => by obtain ⟨p, hp, rfl⟩ := List.mem_map.1 hs; exact ⟨p, hp, hne, he⟩
  · have := inv_getResult u ys hu (hl ▸ h56)
    exact ⟨this.1, this.2.trans hl⟩

/-- **The result matrix is the OR of the row-folded input matrices**: bit (r, c) of the result is set iff some
input has bit (r', c) set in a row r' that folds onto r. -/
theorem cpc_union_matrix_or (T : HipTables) (lgK0 : Nat) (inputs : List (Sketch × List Nat)) (hin : ∀ p ∈ inputs, ValidInput p)
    (h56 : determineCorrectOffset (unionLgK lgK0 (inputs.map Prod.fst))
      (distinct (inputs.flatMap (fun p => p.2.map (foldRc (unionLgK lgK0 (inputs.map Prod.fst)))))).length ≤ 56)
    (r c : Nat) (hr : r < 2^(unionLgK lgK0 (inputs.map Prod.fst))) (hc : c < 64) :
    ((buildBitMatrix (getResult (unionRun T lgK0 (inputs.map Prod.fst)))).getD r 0).testBit c = true ↔
      ∃ p ∈ inputs, ∃ r', r' < 2^p.1.lgK ∧ r' % 2^(unionLgK lgK0 (inputs.map Prod.fst)) = r ∧
        ((buildBitMatrix p.1).getD r' 0).testBit c = true := by
  obtain ⟨_, _, hres⟩ := cpc_union_spec T lgK0 inputs hin
  obtain ⟨hinv, hlg⟩ := hres h56
  have hin' := fun p hp => mbits_buildBitMatrix p.1 p.2 (hin p hp).1
  rw [(mbits_buildBitMatrix _ _ hinv).bits r c (hlg ▸ hr) hc, List.mem_flatMap]
  constructor
  · rintro ⟨p, hp, hm⟩
    obtain ⟨x, hx, h1, h2⟩ := (mem_map_foldRc _ _ r c hc).1 hm
    have hv : x / 64 < 2^p.1.lgK := Nat.div_lt_of_lt_mul ((hin p hp).2 x hx)
    exact ⟨p, hp, x / 64, hv, h1, ((hin' p hp).bits _ c hv hc).2 (by rw [← h2, Nat.div_add_mod']; exact hx)⟩
  · rintro ⟨p, hp, r', hr', hmod, hb⟩
    exact ⟨p, hp, (mem_map_foldRc _ _ r c hc).2 ⟨r' * 64 + c, ((hin' p hp).bits r' c hr' hc).1 hb, by rw [rc_div r' c hc]; exact hmod,
      rc_mod r' c hc⟩⟩

/-- **Order independence**: any permutation of the inputs gives a result with the same lg_k, coupon count, table,
window, offset, first interesting column and merged flag (everything but the unobserved HIP registers). -/
theorem cpc_union_perm_invariant (T : HipTables) (lgK0 : Nat) (inputs inputs' : List (Sketch × List Nat))
    (hp : inputs.Perm inputs') (hin : ∀ p ∈ inputs, ValidInput p) :
    sameContent (getResult (unionRun T lgK0 (inputs.map Prod.fst))) (getResult (unionRun T lgK0 (inputs'.map Prod.fst))) := by
  obtain ⟨hl, hu⟩ := uinv_unionRun T lgK0 inputs hin
  obtain ⟨hl', hu'⟩ := uinv_unionRun T lgK0 inputs' fun p hp' => hin p (hp.mem_iff.2 hp')
  have hL : unionLgK lgK0 (inputs.map Prod.fst) = unionLgK lgK0 (inputs'.map Prod.fst) :=
    List.Perm.foldl_eq' (hp.map Prod.fst) (fun x _ y _ z => lgKAfter_right_comm z x y) _
  exact getResult_congr _ _ _ _ hu hu' (hl.trans (hL.trans hl'.symm)) fun a => by rw [hL]; exact (hp.flatMap_right _).mem_iff

/-! ## Compression

`compress` / `uncompress` are the code's `cpc_compressor::compress` / `uncompress` (window bytes by 22 Huffman
tables with 12-bit look-ahead; surprising values as sorted pairs: x-delta by the 65-symbol code, y-delta by Golomb
coding; SLIDING rotates and permutes columns; HYBRID merges window bits into the pair list).  `TablesOK` is what the
tables must satisfy; `gen_tables_ok` (Lemmas/CpcTablesOK.lean) discharges it for the tables generated from the
current `compression_data.hpp` by kernel evaluation. -/

/-- **Huffman byte code round trip** for any table that is a prefix code with lengths 1..12: decoding `n` symbols
from the encoded stream followed by arbitrary bits returns the bytes. -/
theorem cpc_byte_code_roundtrip (enc : Nat → Nat) (h : CodeOK enc 256) (bytes : List Nat) (hb : ∀ b ∈ bytes, b < 256)
    (rest : Bits) :
    decBytes (fun x => (decTable enc 256).getD x 0) bytes.length (encBytes enc bytes ++ rest) = bytes :=
  decBytes_encBytes enc _ h (fun x hx => decTable_getD enc 256 x hx) bytes hb rest

/-- **Pair code round trip** (x-delta symbol + unary/Golomb y-delta with any number of base bits) for every strictly
increasing pair array, followed by arbitrary bits. -/
theorem cpc_pair_code_roundtrip (enc65 : Nat → Nat) (h : CodeOK enc65 65) (B : Nat) (pairs : List Nat)
    (hs : pairs.Pairwise (· < ·)) (rest : Bits) :
    decPairs (fun x => (decTable enc65 65).getD x 0) B pairs.length 0 0 (encPairs enc65 B 0 0 pairs ++ rest) = pairs :=
  decPairs_encPairs enc65 _ B h (fun x hx => decTable_getD enc65 65 x hx) pairs 0 0 (pairsOK_sorted pairs hs) rest

/-- **Compression is lossless** (all four flavors and the empty sketch): for every valid sketch (`Inv`, e.g. any
`run`, any union result) whose offset is `determine_correct_offset` (always, below the saturation bound of the
header), `uncompress (compress s)` returns exactly the surprising-value table and the window; together with
`lg_k`, `C`, `first_interesting_column` and the HIP registers, which the image stores verbatim, and the offset,
which `deserialize` recomputes as `determine_correct_offset(lg_k, C)`, this is the whole state. -/
theorem cpc_compress_lossless (C : CompTables) (hC : TablesOK C) (s : Sketch) (xs : List Nat) (h : Inv s xs)
    (hv : ∀ x ∈ xs, x < 64 * 2^s.lgK) (hoff : s.offset = determineCorrectOffset s.lgK s.numCoupons) :
    uncompress C (compress C s) s.lgK s.numCoupons = (s.table, s.window) :=
  compress_lossless C hC s xs h hv hoff

/-- the same for the tables of the current headers and every update history, unconditionally below saturation -/
theorem cpc_compress_lossless_run (T : HipTables) (lgK : Nat) (rcs : List Nat) (h : ∀ rc ∈ rcs, rc < 64 * 2^lgK)
    (hb : 8 * (run T lgK rcs).numCoupons < 475 * 2^lgK) :
    uncompress genComp (compress genComp (run T lgK rcs)) lgK (run T lgK rcs).numCoupons
      = ((run T lgK rcs).table, (run T lgK rcs).window) := by
  have hi := inv_run T lgK rcs h
  have hl := run_lgK T lgK rcs
  have := cpc_compress_lossless genComp gen_tables_ok (run T lgK rcs) rcs hi (by rw [hl]; exact h)
    (by rw [hl]; exact cpc_no_saturation T lgK rcs h hb)
  rwa [hl] at this

/-! ### The serialized image

`serializeCore` / `deserializeCore` (DSModel/Cpc/Wire.lean) put the preamble around `compress` / `uncompress`; the two
HIP registers travel as their 64-bit patterns.  `wireOf r` = the wire constants generated from cpc_sketch.hpp together
with the SHAPE of `deserialize` on an empty image, which the translator reads from the current source
(`DSGen.cpc_DESER_EMPTY_KXP_IS_K`): `pinnedWire` (r = false) is the code at the pinned commit of /repo, before fix de90ce5
("pinned" in this section is that commit, not the PINNED flavor) — the rebuilt empty sketch keeps the declaration value `kxp = 0`; `repairedWire` (r = true) starts it with `kxp = 2^lg_k` like a new sketch;
`genWire` is whatever the headers say now.

`cpc_image_lossless_full W`: for every valid sketch — whose registers, when it is EMPTY, are those of every reachable
empty sketch (`kxp = 2^lg_k`, `hip = 0`: new, empty union result, or deserialized by the repaired code) — the image gives
back lg_k, C, table, window, offset, first interesting column, merged flag and, if not merged, both HIP registers.
* `cpc_image_lossless_full_false`: FALSE for the shape of the pinned commit (the finding `deserialized-empty-sketch-estimator-state-lost`);
* `cpc_image_lossless_partial`: true for every NON-EMPTY sketch in either shape;
* `cpc_image_lossless_repaired`: TRUE in full for the repaired shape, and
* `cpc_image_lossless_current`: hence for the current source, whose shape is the repaired one (`cpc_source_is_repaired`). -/

/-- sizes that fit the 32/64-bit fields of the image (the registers are 64-bit patterns; the counts stay below 2^32 for the
library's lg_k ≤ 26, which is not proved here) -/
def SizesOK (s : Sketch) (hb : HipBits) : Prop :=
  s.numCoupons < 256^4 ∧ hb.kxp < 256^8 ∧ hb.hip < 256^8 ∧ s.table.length < 256^4 ∧
  (compress genComp s).tableWords.length < 256^4 ∧ (compress genComp s).windowWords.length < 256^4

/-- the registers of an empty sketch are those of a new one -/
def RegsOK (s : Sketch) (hb : HipBits) : Prop := s.numCoupons = 0 → hb = ⟨pow2Bits s.lgK, 0⟩

def cpc_image_lossless_full (W : WireConsts) : Prop :=
  ∀ (seedHash : Nat) (s : Sketch) (xs : List Nat) (hb : HipBits) (ofBits : Nat → Float),
    seedHash < 65536 → Inv s xs → (∀ x ∈ xs, x < 64 * 2^s.lgK) →
    s.offset = determineCorrectOffset s.lgK s.numCoupons → SizesOK s hb → RegsOK s hb →
    ∃ s' hb', deserializeCore W genComp seedHash (serializeCore W genComp seedHash s hb) ofBits = some (s', hb') ∧
      sameContent s' s ∧ (s.merged = false → hb' = hb)

/-- the shape of the pinned commit: the image of a new (empty, not merged) lg_k = 4 sketch with `kxp = 16.0` comes back with `kxp = 0` -/
theorem cpc_image_lossless_full_false : ¬ cpc_image_lossless_full pinnedWire := by
  intro h
  -- 37836 = 0x93cc is the seed hash of the library's default seed 9001 (`DS.seedHash DS.DEFAULT_SEED`); any value below 65536 would do
  obtain ⟨s', hb', h1, _, h3⟩ := h 37836 (fresh 4) [] ⟨0x4030000000000000, 0⟩ (fun _ => 0.0) (by decide) (inv_fresh 4) (by simp)
    rfl (by unfold SizesOK; decide +kernel) (by intro _; decide)
  have h2 : (deserializeCore pinnedWire genComp 37836 (serializeCore pinnedWire genComp 37836 (fresh 4) ⟨0x4030000000000000, 0⟩)
      (fun _ => 0.0)).map Prod.snd = some ⟨0, 0⟩ := by decide +kernel
  rw [h1] at h2
  have := h3 rfl
  rw [this] at h2
  simp at h2

/-- every NON-EMPTY valid sketch is reproduced by its image, in either shape -/
theorem cpc_image_lossless_partial (r : Bool) (seedHash : Nat) (s : Sketch) (xs : List Nat) (hb : HipBits) (ofBits : Nat → Float)
    (hsh : seedHash < 65536) (h : Inv s xs) (hv : ∀ x ∈ xs, x < 64 * 2^s.lgK)
    (hoff : s.offset = determineCorrectOffset s.lgK s.numCoupons) (hsz : SizesOK s hb) (hne : s.numCoupons ≠ 0) :
    ∃ s', deserializeCore (wireOf r) genComp seedHash (serializeCore (wireOf r) genComp seedHash s hb) ofBits
        = some (s', if s.merged then ⟨0, 0⟩ else hb) ∧ sameContent s' s := by
  obtain ⟨h1, h2, h3, h4, h5, h6⟩ := hsz
  obtain ⟨e1, e2⟩ := DS.Wire.Cpc.expand_imageOf genComp gen_tables_ok r seedHash s xs hb ofBits h hv hoff
  rw [if_neg hne] at e2
  exact ⟨_, (DS.Wire.Cpc.deserialize_serialize (wireOf r) (gen_flags_bits r) genComp seedHash s xs hb ofBits hsh h hv h1 h2 h3 h4 h5 h6).trans
    (congrArg some (Prod.ext rfl e2)), e1⟩

/-- **the full statement holds for the repaired shape**, the empty sketch included -/
theorem cpc_image_lossless_repaired : cpc_image_lossless_full repairedWire := by
  intro seedHash s xs hb ofBits hsh h hv hoff ⟨h1, h2, h3, h4, h5, h6⟩ hregs
  obtain ⟨e1, e2⟩ := DS.Wire.Cpc.expand_imageOf genComp gen_tables_ok true seedHash s xs hb ofBits h hv hoff
  refine ⟨_, _, DS.Wire.Cpc.deserialize_serialize repairedWire (gen_flags_bits true) genComp seedHash s xs hb ofBits hsh h hv h1 h2 h3 h4 h5 h6,
    e1, fun hm => e2.trans ?_⟩
  by_cases h0 : s.numCoupons = 0
  · rw [if_pos h0]; exact (hregs h0).symm
  · rw [if_neg h0, if_neg (by rw [hm]; exact Bool.false_ne_true)]

/-- the current source has the repaired shape (`DSGen.cpc_DESER_EMPTY_KXP_IS_K`, which the translator reads from cpc_sketch_impl.hpp) -/
theorem cpc_source_is_repaired : genWire = repairedWire := by
  have h : DSGen.cpc_DESER_EMPTY_KXP_IS_K = true := by decide
  unfold genWire repairedWire; rw [h]

/-- **the full image statement for the CURRENT source** -/
theorem cpc_image_lossless_current : cpc_image_lossless_full genWire := by
  rw [cpc_source_is_repaired]; exact cpc_image_lossless_repaired

/-! Non-vacuity: a concrete stream on lg_k = 4 that passes through SPARSE → HYBRID (promotion at C = 2) with
duplicates and coupons inside and above the window (which stays at offset 0). -/
def exT : HipTables := { invPow2 := fun _ => 0.0, kxpByte := fun _ => 0.0 }
def exStream : List Nat := [5 * 64 + 0, 5 * 64 + 0, 3 * 64 + 9, 15 * 64 + 1, 3 * 64 + 9, 0 * 64 + 20, 5 * 64 + 7]
example : ∀ rc ∈ exStream, rc < 64 * 2^4 := by decide
example : (run exT 4 exStream).numCoupons = 5 ∧ (run exT 4 exStream).window ≠ [] ∧ (run exT 4 exStream).offset = 0
    ∧ (run exT 4 exStream).table = [0 * 64 + 20, 3 * 64 + 9] := by decide
example : (run exT 4 (exStream.take 2)).numCoupons = 1 ∧ (run exT 4 (exStream.take 2)).window = [] := by decide

/-! Non-vacuity for the union: three inputs of lg_k 6, 5, 4 (a sparse, an empty and a hybrid one), union lg_k 7. -/
def exIn1 : List Nat := [40 * 64 + 3, 41 * 64 + 9, 63 * 64 + 0]       -- lg_k 6
def exIn2 : List Nat := [2 * 64 + 1, 2 * 64 + 1, 9 * 64 + 12, 8 * 64 + 3]  -- lg_k 4: 3 coupons -> HYBRID; (8,3) also is the fold of (40,3)
def exInputs : List (Sketch × List Nat) := [(run exT 6 exIn1, exIn1), (run exT 5 [], []), (run exT 4 exIn2, exIn2)]
example : ∀ p ∈ exInputs, ValidInput p := by
  intro p hp
  simp only [exInputs, List.mem_cons, List.mem_nil_iff, or_false] at hp
  rcases hp with rfl | rfl | rfl
  · exact valid_of_run exT 6 exIn1 (by decide)
  · exact valid_of_run exT 5 [] (by decide)
  · exact valid_of_run exT 4 exIn2 (by decide)
example : unionLgK 7 (exInputs.map Prod.fst) = 4 ∧
    (getResult (unionRun exT 7 (exInputs.map Prod.fst))).numCoupons = 5 ∧
    (getResult (unionRun exT 7 (exInputs.map Prod.fst))).window ≠ [] ∧
    (getResult (unionRun exT 7 (exInputs.reverse.map Prod.fst))).table = (getResult (unionRun exT 7 (exInputs.map Prod.fst))).table := by
  -- In either order the union ends as the same bit matrix, given here as a literal.  `getResult` is first rewritten to
  -- `resultFromMatrix` of that literal: evaluated on the union as it stands, `tableOfMatrix` would recompute a matrix row for
  -- each of its 1024 candidate codes.  After the rewriting the two tables are the same term.
  have hr : ∀ u : Union, u.acc.isNone = true → u.lgK = 4 → u.matrix = [0, 0, 2, 0, 0, 0, 0, 0, 8, 4608, 0, 0, 0, 0, 0, 1] →
      getResult u = resultFromMatrix 4 [0, 0, 2, 0, 0, 0, 0, 0, 8, 4608, 0, 0, 0, 0, 0, 1] := by
    rintro ⟨_, _ | a, _⟩ h1 h2 h3
    · cases h2; cases h3; rfl
    · cases h1
  rw [hr _ (by decide +kernel) (by decide +kernel) (by decide +kernel), hr _ (by decide +kernel) (by decide +kernel) (by decide +kernel)]
  exact ⟨by decide +kernel, by decide +kernel, by decide +kernel, rfl⟩

/-! Non-vacuity for compression: the HYBRID example sketch above, and a SLIDING sketch (66 coupons on lg_k 4:
columns 0..3 of every row plus two surprising values, offset 1) meet the hypotheses of `cpc_compress_lossless_run`. -/
def exSliding : List Nat := (List.range 64).map (fun i => (i / 4) * 64 + i % 4) ++ [5 * 64 + 17, 9 * 64 + 40]
example : determineFlavor 4 (run exT 4 exStream).numCoupons = .hybrid ∧ 8 * (run exT 4 exStream).numCoupons < 475 * 2^4 := by
  decide +kernel
example : (∀ rc ∈ exSliding, rc < 64 * 2^4) ∧ determineFlavor 4 (run exT 4 exSliding).numCoupons = .sliding ∧
    (run exT 4 exSliding).offset = 1 ∧ (run exT 4 exSliding).table = [5 * 64 + 17, 9 * 64 + 40] ∧
    8 * (run exT 4 exSliding).numCoupons < 475 * 2^4 := by
  decide +kernel
example : uncompress genComp (compress genComp (run exT 4 exSliding)) 4 (run exT 4 exSliding).numCoupons
    = ((run exT 4 exSliding).table, (run exT 4 exSliding).window) :=
  cpc_compress_lossless_run exT 4 exSliding (by decide +kernel)
    (by rw [(inv_run exT 4 exSliding (by decide +kernel)).count]; decide +kernel)

/-! Non-vacuity for the image theorem: a SPARSE sketch (one coupon, fed twice) with arbitrary register patterns meets
`SizesOK` and the other hypotheses (`Inv` and validity by `valid_of_run`). -/
def exSparse : List Nat := [5 * 64 + 0, 5 * 64 + 0]
example : SizesOK (run exT 4 exSparse) ⟨0x4030000000000000, 0x3ff0000000000000⟩ := by
  have hf : determineFlavor (run exT 4 exSparse).lgK (run exT 4 exSparse).numCoupons = .sparse := by decide +kernel
  refine ⟨by decide +kernel, by decide, by decide, by decide +kernel, ?_, ?_⟩
  · unfold compress
    simp only [hf]
    unfold compressPairs
    exact Nat.lt_of_le_of_lt (length_packWords_le _) (by decide +kernel)
  · unfold compress
    simp only [hf]
    decide
example : (run exT 4 exSparse).numCoupons ≠ 0 ∧ (run exT 4 exSparse).merged = false ∧
    (run exT 4 exSparse).offset = determineCorrectOffset (run exT 4 exSparse).lgK (run exT 4 exSparse).numCoupons := by
  decide +kernel

end DS.Cpc
