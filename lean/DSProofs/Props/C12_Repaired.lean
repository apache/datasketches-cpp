/-
C12 (repaired source shape) — with `is_empty() = (total_weight == 0)`, which the translator reads from the header on every run
(`DSGen.fi_EMPTY_BY_TOTAL`), the bracketing and exact-total statements hold for EVERY history, without the exclusion `strict` of
Props/C12.lean (merging / round-tripping a fully purged sketch).
`ReachF T s f N` ranges over all constructor arguments, weighted streams (zero weights included), merge trees with any
replay order, round trips and every purge amount; `f` is the true per-item weight, `N` the true total.
-/
import DSProofs.Lemmas.FiRepaired
import DSGen.Fi
namespace DS.Fi
set_option linter.unusedSectionVars false

variable {ι : Type} [DecidableEq ι]

/-- every item (tracked or not): lb ≤ true weight ≤ ub, estimate ≤ ub, ub − lb = offset, total exact; of the lower side only
`lb ≤ estimate + offset` for an untracked item (`lb ≤ estimate` for a tracked one) is stated, although `getters_order` gives
`lb ≤ estimate` for every item, as `fi_bracket` has it -/
theorem fi_bracket_all_histories (T : Tun) (hT : T.emptyByTotal = true) {s : St ι} {f : ι → Nat} {N : Nat}
    (h : ReachF T s f N) (x : ι) :
    lowerBound s x ≤ f x ∧ f x ≤ upperBound s x ∧
    lowerBound s x ≤ estimate s x + (if cnt s.map x > 0 then 0 else s.offset) ∧ estimate s x ≤ upperBound s x ∧
    upperBound s x - lowerBound s x = s.offset ∧ s.total = N := by
  obtain ⟨hb, ht, _⟩ := reachF_inv T hT h
  obtain ⟨g1, g2, g3, _⟩ := getters_order s x
  exact ⟨(hb.2 x).1, (hb.2 x).2, Nat.le_add_right_of_le g1, g2, g3, ht⟩

/-- the source shape in the headers is the repaired one -/
theorem fi_empty_by_total_current : DSGen.fi_EMPTY_BY_TOTAL = true := by decide

/-! non-vacuity: a sketch whose seven unit-weight counters were all purged (lg_max 3: capacity 6, the 7th insert
purges with median 1) merged into another one keeps total weight and offset -/
def tRep : Tun := { emptyByTotal := true }
def purgedB : St Nat := replay tRep (init tRep 3 3) [(1, 1, 1), (2, 1, 1), (3, 1, 1), (4, 1, 1), (5, 1, 1), (6, 1, 1), (7, 1, 1)]
def otherA : St Nat := update tRep (init tRep 3 3) 100 5 0
example : (purgedB.map, purgedB.total, purgedB.offset) = ([], 7, 1) := by decide +kernel
example : ((mergeF tRep otherA purgedB []).total, (mergeF tRep otherA purgedB []).offset, upperBound (mergeF tRep otherA purgedB []) 1) = (12, 1, 1) := by decide +kernel
example : ((merge tRep otherA purgedB []).total, upperBound (merge tRep otherA purgedB []) 1) = (5, 0) := by decide +kernel  -- the early return of `merge`
example : (roundtripF tRep purgedB).total = 7 ∧ (roundtrip tRep purgedB).total = 0 := by decide +kernel

end DS.Fi
