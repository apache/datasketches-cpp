/- Repaired model: `Good` is local to bit states.  It is a conjunction over the views and over the blocks (`good_iff`), and a
conjunct reads the world and the ghost through a few things only.  Hence the three ways a step changes the world (`Good.setFilter`,
`Good.newBlock`, `Good.setBlock_setFilter`), each leaving only the touched bit state to show. -/
import DSProofs.Lemmas.BloomGood
namespace DS.Bloom

variable {ι : Type} {P : Params} {hf : ι → Nat → Option (Nat × Nat)}

/-- the clause `Good.memfull`, for one view and one block -/
def Sees (P : Params) (b : Block) (s : SInfo ι) (f : Filter) (i : VInfo ι) : Prop :=
  i.promised = true → insync s f i = true → ∃ nbs nl, parseImage P b = .full f.capBits f.numHashes f.seed nbs nl

/-- all that `Good` says about view `v` -/
def ViewGood (P : Params) (hf : ι → Nat → Option (Nat × Nat)) (w : World) (p : PGhost ι) (v : Nat) (f : Filter) : Prop :=
  FWF f ∧ ∃ i, p.vi v = some i ∧ ViewOK P hf (w.val f) (p.si (keyOf v f)) f i ∧
    ∀ m, f.ref = .mem m → ∃ b, w.blocks m = some b ∧ Sees P b (p.si (.mem m)) f i

/-- all that `Good` says about block `m` -/
def BlockGood (P : Params) (hf : ι → Nat → Option (Nat × Nat)) (w : World) (p : PGhost ι) (m : Nat) : Prop :=
  ((p.si (.mem m)).tainted = true → (p.si (.mem m)).S = []) ∧
  ∀ b, w.blocks m = some b → (p.si (.mem m)).tainted = false → BlockOK P hf b (p.si (.mem m)).S

theorem good_iff {w : World} {p : PGhost ι} :
    Good P hf w p ↔ (∀ v f, w.filters v = some f → ViewGood P hf w p v f) ∧ ∀ m, BlockGood P hf w p m := by
  constructor
  · intro hg
    refine ⟨fun v f hv => ?_, fun m => ⟨hg.taintS m, hg.blk m⟩⟩
    obtain ⟨i, hi⟩ := hg.tracked v f hv
    refine ⟨hg.fwf v f hv, i, hi, val_eq_keyVal w v f hv ▸ hg.view v f i hv hi, fun m hr => ?_⟩
    obtain ⟨b, hb⟩ := hg.memref v f m hv hr
    exact ⟨b, hb, hg.memfull v f i m b hv hi hr hb⟩
  · rintro ⟨hV, hB⟩
    refine ⟨fun v f hv => ?_, fun v f hv => (hV v f hv).1, fun v f i hv hi => ?_, fun m => (hB m).2, fun m => (hB m).1,
      fun v f m hv hr => ?_, fun v f i m b hv hi hr hb => ?_⟩
    · obtain ⟨-, i, hi, -⟩ := hV v f hv; exact ⟨i, hi⟩
    · obtain ⟨-, i', hi', hok, -⟩ := hV v f hv
      cases hi.symm.trans hi'
      exact val_eq_keyVal w v f hv ▸ hok
    · obtain ⟨-, i, -, -, hmem⟩ := hV v f hv
      obtain ⟨b, hb, -⟩ := hmem m hr; exact ⟨b, hb⟩
    · obtain ⟨-, i', hi', -, hmem⟩ := hV v f hv
      cases hi.symm.trans hi'
      obtain ⟨b', hb', hsees⟩ := hmem m hr
      cases hb.symm.trans hb'
      exact hsees

theorem World.val_congr {w w' : World} {f : Filter} (hblk : ∀ m, f.ref = .mem m → w'.blocks m = w.blocks m) : w'.val f = w.val f := by
  unfold World.val World.blockVal
  cases hr : f.ref with
  | owned b => rfl
  | mem m => simp only [hblk m hr]

theorem ViewGood.congr {w w' : World} {p p' : PGhost ι} {v : Nat} {f : Filter} (h : ViewGood P hf w p v f) (hvi : p'.vi v = p.vi v)
    (hsi : p'.si (keyOf v f) = p.si (keyOf v f)) (hblk : ∀ m, f.ref = .mem m → w'.blocks m = w.blocks m) : ViewGood P hf w' p' v f := by
  obtain ⟨hfw, i, hi, hok, hmem⟩ := h
  refine ⟨hfw, i, hvi ▸ hi, by rw [World.val_congr hblk, hsi]; exact hok, fun m hr => ?_⟩
  rw [hblk m hr, ← keyOf_of_mem hr v, hsi, keyOf_of_mem hr v]; exact hmem m hr

theorem BlockGood.congr {w w' : World} {p p' : PGhost ι} {m : Nat} (h : BlockGood P hf w p m) (hsi : p'.si (.mem m) = p.si (.mem m))
    (hblk : w'.blocks m = w.blocks m) : BlockGood P hf w' p' m := by
  unfold BlockGood; rw [hsi, hblk]; exact h

theorem ViewGood.mem {w : World} {p : PGhost ι} {v m : Nat} {f : Filter} {b : Block} {i : VInfo ι} (hr : f.ref = .mem m) (hfw : FWF f)
    (hb : w.blocks m = some b) (hvi : p.vi v = some i) (hok : ViewOK P hf b.val (p.si (.mem m)) f i) (hs : Sees P b (p.si (.mem m)) f i) :
    ViewGood P hf w p v f := by
  refine ⟨hfw, i, hvi, ?_, fun m' hr' => ?_⟩
  · rw [keyOf_of_mem hr, show w.val f = b.val by simp [World.val, World.blockVal, hr, hb]]; exact hok
  · cases hr.symm.trans hr'; exact ⟨b, hb, hs⟩

/-- `f`: a new owned filter, a new view of an existing block, or the old filter with other cached fields -/
theorem Good.setFilter {w : World} {p p' : PGhost ι} (hg : Good P hf w p) (v : Nat) (f : Filter) (i : VInfo ι)
    (hvi : p'.vi v = some i) (hvi_ne : ∀ u fu, u ≠ v → w.filters u = some fu → p'.vi u = p.vi u)
    (hsi_ne : ∀ k, k ≠ .own v → p'.si k = p.si k)
    (hfw : FWF f) (hok : ViewOK P hf (keyVal (w.setFilter v f) (keyOf v f)) (p'.si (keyOf v f)) f i)
    (hmem : ∀ m, f.ref = .mem m → ∃ b, w.blocks m = some b ∧ Sees P b (p.si (.mem m)) f i) :
    Good P hf (w.setFilter v f) p' := by
  obtain ⟨hV, hB⟩ := good_iff.mp hg
  refine good_iff.mpr ⟨fun u fu hfu => ?_, fun m => (hB m).congr (hsi_ne _ (fun e => by cases e)) rfl⟩
  by_cases e : u = v
  · subst e
    rw [setFilter_filters_same] at hfu; cases hfu
    refine ⟨hfw, i, hvi, val_eq_keyVal _ u f (setFilter_filters_same w u f) ▸ hok, fun m hr => ?_⟩
    rw [hsi_ne _ (fun e => by cases e)]; exact hmem m hr
  · have h0 : w.filters u = some fu := by simpa only [World.setFilter, e, if_false] using hfu
    exact (hV u fu h0).congr (hvi_ne u fu e h0) (hsi_ne _ (mt keyOf_eq_own_iff e)) (fun _ _ => rfl)

theorem Good.newBlock {w : World} {p : PGhost ι} (hg : Good P hf w p) (m : Nat) (b : Block) (s : SInfo ι) (hm : w.blocks m = none)
    (hblk : s.tainted = false → BlockOK P hf b s.S) (htaint : s.tainted = true → s.S = []) :
    Good P hf (w.setBlock m b) (p.setS (.mem m) s) := by
  obtain ⟨hV, hB⟩ := good_iff.mp hg
  refine good_iff.mpr ⟨fun u fu hfu => ?_, fun m' => ?_⟩
  · -- no view reads the new block
    have hne : ∀ m', fu.ref = .mem m' → m' ≠ m := by
      intro m' hr e
      obtain ⟨-, i, -, -, hmem⟩ := hV u fu hfu
      obtain ⟨b0, hb0, -⟩ := hmem m' hr
      rw [e, hm] at hb0; cases hb0
    refine (hV u fu hfu).congr rfl (setS_si_ne fun e => ?_) (fun m' hr => by simp [World.setBlock, hne m' hr])
    exact hne m (keyOf_mem_of_eq e).1 rfl
  · by_cases e : m' = m
    · subst e
      unfold BlockGood; rw [setS_si_same]
      refine ⟨htaint, fun b' hb' ht => ?_⟩
      have : b' = b := by simpa [World.setBlock] using hb'.symm
      rw [this]; exact hblk ht
    · exact (hB m').congr (setS_si_ne (mt Key.mem.inj e)) (by simp [World.setBlock, e])

/-- `f'`: the view of `m` that wrote, or a view initialised on the block.  Left to show: `ViewOK` and the header clause for `v`
(`hact`) and for the other views of `m` (`hoth`), and the block clauses for `b'`. -/
theorem Good.setBlock_setFilter {w : World} {p p' : PGhost ι} (hg : Good P hf w p) (v m : Nat) (b' : Block) (f' : Filter) (i' : VInfo ι)
    (hr : f'.ref = .mem m) (hfw : FWF f')
    (hsi_ne : ∀ k, k ≠ .mem m → p'.si k = p.si k)
    (hvi_ne : ∀ u fu, u ≠ v → w.filters u = some fu → keyOf u fu ≠ .mem m → p'.vi u = p.vi u)
    (hvi : p'.vi v = some i')
    (hact : ViewOK P hf b'.val (p'.si (.mem m)) f' i' ∧ Sees P b' (p'.si (.mem m)) f' i')
    (hoth : ∀ u fu iu, u ≠ v → w.filters u = some fu → p.vi u = some iu → keyOf u fu = .mem m →
        ∃ iu', p'.vi u = some iu' ∧ ViewOK P hf b'.val (p'.si (.mem m)) fu iu' ∧ Sees P b' (p'.si (.mem m)) fu iu')
    (hblk : (p'.si (.mem m)).tainted = false → BlockOK P hf b' (p'.si (.mem m)).S)
    (htaint : (p'.si (.mem m)).tainted = true → (p'.si (.mem m)).S = []) :
    Good P hf ((w.setBlock m b').setFilter v f') p' := by
  obtain ⟨hV, hB⟩ := good_iff.mp hg
  have hbm : ((w.setBlock m b').setFilter v f').blocks m = some b' := by simp [World.setFilter, World.setBlock]
  have hbne : ∀ m', m' ≠ m → ((w.setBlock m b').setFilter v f').blocks m' = w.blocks m' := by
    intro m' e; simp [World.setFilter, World.setBlock, e]
  refine good_iff.mpr ⟨fun u fu hfu => ?_, fun m' => ?_⟩
  · by_cases e : u = v
    · subst e
      rw [setFilter_filters_same] at hfu; cases hfu
      exact ViewGood.mem hr hfw hbm hvi hact.1 hact.2
    · have h0 : w.filters u = some fu := by simpa only [World.setFilter, World.setBlock, e, if_false] using hfu
      by_cases hk : keyOf u fu = .mem m
      · obtain ⟨-, iu, hiu, -⟩ := hV u fu h0
        obtain ⟨iu', hiu', hok', hfull⟩ := hoth u fu iu e h0 hiu hk
        exact ViewGood.mem (keyOf_mem_of_eq hk).1 (hV u fu h0).1 hbm hiu' hok' hfull
      · exact (hV u fu h0).congr (hvi_ne u fu e h0 hk) (hsi_ne _ hk)
          (fun m' hr' => hbne m' (fun e' => hk (e' ▸ keyOf_of_mem hr' u)))
  · by_cases e : m' = m
    · subst e
      refine ⟨htaint, fun b hb ht => ?_⟩
      cases hbm.symm.trans hb; exact hblk ht
    · exact (hB m').congr (hsi_ne _ (mt Key.mem.inj e)) (hbne m' e)

end DS.Bloom
