/- The KLL model against the ground truth of a history: the invariant `InvT`, with provenance as a property `Prov` of the level
list.  The preservation of `InvT` by the operations is in KllTruth2. -/
import DSProofs.Lemmas.KllHist
namespace DS.Kll
open DS DS.SortedView DS.Mech

variable {α : Type}

/-- `m` as `min_item_` of a sketch that has accepted `inp`: absent exactly for no item, else a member that no item precedes -/
def IsMin (lt : α → α → Bool) (m : Option α) (inp : List α) : Prop :=
  match m with
  | none => inp = []
  | some a => a ∈ inp ∧ ∀ x ∈ inp, lt x a = false

/-- the same for `max_item_` -/
def IsMax (lt : α → α → Bool) (m : Option α) (inp : List α) : Prop :=
  match m with
  | none => inp = []
  | some a => a ∈ inp ∧ ∀ x ∈ inp, lt a x = false

/-- `inp`: the items the sketch has accepted, its own updates and those of the sketches merged into it.  A single level: no
compaction yet. -/
structure InvT (c : Cmp α) (s : Sketch α) (inp : List α) : Prop where
  n_eq : s.n = inp.length
  mem : ∀ x ∈ s.levels.flatten, x ∈ inp
  min_ok : IsMin c.lt s.minItem inp
  max_ok : IsMax c.lt s.maxItem inp
  exact : s.levels.length = 1 → (s.levels.headD []).Perm inp

theorem init_invT (c : Cmp α) (k : Nat) : InvT c (init k : Sketch α) [] :=
  ⟨rfl, by simp [init], rfl, rfl, by simp [init]⟩

theorem mem_compactCore {lt : α → α → Bool} {srt up c : Bool} {i : Nat} {L : List (List α)} (hi : i < L.length)
    {y : α} (h : y ∈ (compactCore lt L i srt up c).flatten) : y ∈ L.flatten := by
  obtain ⟨j, hj⟩ := mem_flatten_iff_getD.mp h
  by_cases h1 : j = i
  · rw [h1, getD_compactCore_self lt srt up c hi] at hj
    exact mem_flatten_iff_getD.mpr ⟨i, (leftoverOf_sublist _).subset hj⟩
  · by_cases h2 : j = i + 1
    · rw [h2, getD_compactCore_succ lt srt up c hi] at hj
      rcases mem_mergeUp.mp hj with h3 | h3
      · exact mem_flatten_iff_getD.mpr ⟨i, (mem_leftoverOf_or_adjOf (lt := lt) (srt := srt)).mpr
          (Or.inr ((halfUpDown_sublist _ up c).subset h3))⟩
      · exact mem_flatten_iff_getD.mpr ⟨i + 1, h3⟩
    · rw [getD_compactCore_ne lt srt up c L h1 h2] at hj
      exact mem_flatten_iff_getD.mpr ⟨j, hj⟩

/-- what is retained was accepted, and a single level (nothing compacted yet) holds exactly what was accepted: the two clauses
`mem` and `exact` of `InvT`, for a level list -/
def Prov (L : List (List α)) (inp : List α) : Prop :=
  (∀ x ∈ L.flatten, x ∈ inp) ∧ (L.length = 1 → (L.headD []).Perm inp)

theorem InvT.prov {c : Cmp α} {s : Sketch α} {inp : List α} (h : InvT c s inp) : Prov s.levels inp := ⟨h.mem, h.exact⟩

theorem Prov.of_two {L : List (List α)} {inp : List α} (h2 : 2 ≤ L.length) (h : ∀ x ∈ L.flatten, x ∈ inp) : Prov L inp :=
  ⟨h, fun h1 => absurd (h1 ▸ h2) (by decide)⟩

theorem Prov.compactCore {lt : α → α → Bool} {srt up c : Bool} {i : Nat} {L : List (List α)} {inp : List α}
    (hi : i < L.length) (h : Prov L inp) : Prov (compactCore lt L i srt up c) inp :=
  Prov.of_two (by rw [compactCore_length]; simp only [lenAfter, beq_iff_eq]; split <;> omega)
    fun x hx => h.1 x (mem_compactCore hi hx)

theorem Prov.push {L : List (List α)} {inp : List α} (hne : L ≠ []) (h : Prov L inp) (x : α) :
    Prov ((x :: L.headD []) :: L.tail) (x :: inp) := by
  obtain ⟨l0, t, rfl⟩ := List.exists_cons_of_ne_nil hne
  refine ⟨fun y hy => ?_, fun h1 => List.Perm.cons x (h.2 h1)⟩
  rw [List.headD_cons, List.tail_cons, List.flatten_cons, List.cons_append, List.mem_cons] at hy
  exact List.mem_cons.mpr (hy.imp_right fun hy => h.1 y (List.flatten_cons ▸ hy))

theorem Prov.sortHead {L : List (List α)} {inp : List α} (lt : α → α → Bool) (h : Prov L inp) : Prov (sortHead lt L) inp := by
  cases L with
  | nil => exact h
  | cons l0 t =>
    refine ⟨fun y hy => h.1 y ?_, fun h1 => (sortBy_perm lt l0).trans (h.2 h1)⟩
    rw [Kll.sortHead, List.flatten_cons, List.mem_append, mem_sortBy] at hy
    exact List.flatten_cons ▸ List.mem_append.mpr hy

theorem Prov.mono {L : List (List α)} {inp inp' : List α} (h : Prov L inp) (hsub : ∀ x ∈ inp, x ∈ inp')
    (hp : L.length = 1 → inp.Perm inp') : Prov L inp' :=
  ⟨fun x hx => hsub x (h.1 x hx), fun h1 => (h.2 h1).trans (hp h1)⟩

theorem Prov.compress (P : Params) (c : Cmp α) {s : Sketch α} {inp : List α} (h : Prov s.levels inp) (coin : Bool) :
    Prov (compress P c s coin).levels inp ∧ (compress P c s coin).minItem = s.minItem ∧ (compress P c s coin).maxItem = s.maxItem := by
  rcases Nat.lt_or_ge (findLevel P s.k s.levels.length s.levels 0) s.levels.length with hl | hl
  · rw [compress_eq P c s coin rfl hl]; exact ⟨h.compactCore hl, rfl, rfl⟩
  · rw [compress_of_ge P c s coin hl]; exact ⟨h, rfl, rfl⟩

theorem internalUpdateT_prov {P : Params} (ok : ParamsOk P) {c : Cmp α} (sw : StrictWeak c.lt) {s : Sketch α} {inp : List α}
    (h : InvS P c.lt s) (hp : Prov s.levels inp) (x : α) :
    CT.All (fun s' => Prov s'.levels (x :: inp) ∧ s'.minItem = s.minItem ∧ s'.maxItem = s.maxItem) (internalUpdateT P c s x) := by
  refine internalUpdateT_All (fun hfull coin => ?_) (fun _ => ⟨hp.push h.ne x, rfl, rfl⟩)
  obtain ⟨hc, hm⟩ := hp.compress P c coin
  exact ⟨hc.push (compress_inv ok sw h hfull coin).1.ne x, hm⟩

theorem isMin_append {c : Cmp α} (sw : StrictWeak c.lt) {a : α} {m : Option α} {ia ib : List α}
    (ha : IsMin c.lt (some a) ia) (hb : IsMin c.lt m ib) : IsMin c.lt (updMin c m a) (ia ++ ib) := by
  obtain ⟨hai, haall⟩ := ha
  cases m with
  | none => rw [show ib = [] from hb, List.append_nil]; exact ⟨hai, haall⟩
  | some b =>
    obtain ⟨hbi, hball⟩ := hb
    show IsMin c.lt (if c.lt a b then some a else some b) (ia ++ ib)
    split
    · rename_i hx
      refine ⟨List.mem_append_left _ hai, fun y hy => ?_⟩
      rcases List.mem_append.mp hy with hy | hy
      · exact haall y hy
      · exact Bool.eq_false_iff.mpr fun hya => Bool.eq_false_iff.mp (hball y hy) (sw.trans hya hx)
    · rename_i hx
      refine ⟨List.mem_append_right _ hbi, fun y hy => ?_⟩
      rcases List.mem_append.mp hy with hy | hy
      · exact sw.negTrans y a b (haall y hy) (Bool.eq_false_iff.mpr hx)
      · exact hball y hy

theorem updMin_isMin {c : Cmp α} (sw : StrictWeak c.lt) {m : Option α} {inp : List α} (x : α)
    (h : IsMin c.lt m inp) : IsMin c.lt (updMin c m x) (x :: inp) :=
  isMin_append sw (ia := [x]) ⟨List.mem_singleton.mpr rfl, fun _ hy => List.mem_singleton.mp hy ▸ sw.irrefl x⟩ h

/-- a maximum is a minimum for it -/
def Cmp.flip (c : Cmp α) : Cmp α := ⟨fun a b => c.lt b a, c.isNaN⟩

theorem updMax_isMax {c : Cmp α} (sw : StrictWeak c.lt) {m : Option α} {inp : List α} (x : α)
    (h : IsMax c.lt m inp) : IsMax c.lt (updMax c m x) (x :: inp) := by
  have := updMin_isMin (c := c.flip) sw.flip x (m := m) (inp := inp) h
  cases m <;> exact this

theorem isMax_append {c : Cmp α} (sw : StrictWeak c.lt) {a : α} {m : Option α} {ia ib : List α}
    (ha : IsMax c.lt (some a) ia) (hb : IsMax c.lt m ib) : IsMax c.lt (updMax c m a) (ia ++ ib) := by
  have := isMin_append (c := c.flip) sw.flip (m := m) ha hb
  cases m <;> exact this

theorem updateMinMax_minmax {c : Cmp α} (sw : StrictWeak c.lt) {s : Sketch α} {inp : List α} (ht : InvT c s inp) (x : α) :
    IsMin c.lt (updateMinMax c s x).minItem (x :: inp) ∧ IsMax c.lt (updateMinMax c s x).maxItem (x :: inp) := by
  unfold updateMinMax
  split
  · rename_i h0
    rw [show inp = [] from List.eq_nil_of_length_eq_zero (ht.n_eq ▸ eq_of_beq h0)]
    exact ⟨updMin_isMin sw x (m := none) rfl, updMax_isMax sw x (m := none) rfl⟩
  · exact ⟨updMin_isMin sw x ht.min_ok, updMax_isMax sw x ht.max_ok⟩

theorem mergeMinMax_minmax {c : Cmp α} (sw : StrictWeak c.lt) {s o : Sketch α} {is io : List α} (hts : InvT c s is)
    (hto : InvT c o io) (hio : io ≠ []) :
    IsMin c.lt (mergeMinMax c s o).minItem (io ++ is) ∧ IsMax c.lt (mergeMinMax c s o).maxItem (io ++ is) := by
  have hmin := hto.min_ok
  have hmax := hto.max_ok
  unfold mergeMinMax
  split
  · rename_i h0
    rw [show is = [] from List.eq_nil_of_length_eq_zero (hts.n_eq ▸ eq_of_beq h0), List.append_nil]
    exact ⟨hmin, hmax⟩
  · cases hom : o.minItem with
    | none => rw [hom] at hmin; exact absurd hmin hio
    | some a =>
      cases hoM : o.maxItem with
      | none => rw [hoM] at hmax; exact absurd hmax hio
      | some b =>
        rw [hom] at hmin; rw [hoM] at hmax
        exact ⟨isMin_append sw hmin hts.min_ok, isMax_append sw hmax hts.max_ok⟩

end DS.Kll
