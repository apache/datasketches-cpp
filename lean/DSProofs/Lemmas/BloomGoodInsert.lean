/- Repaired model: update and query_and_update preserve `Good`. -/
import DSProofs.Lemmas.BloomGoodWrite
namespace DS.Bloom

variable {ι : Type} (P : Params) (hf : ι → Nat → Option (Nat × Nat))

variable [DecidableEq ι]

/-- the common part of `update` and `query_and_update` (the ghost step of `.qau v x` is that of `.upd v x`).  `pstep` reads neither
`w'` nor `out` for these operations; they are parameters so that the conclusion matches the goal of each caller as it stands -/
theorem good_insert (hP : P.Wire) (w w' : World) (out : Out) (p : PGhost ι) (hg : Good P hf w p) (v : Nat) (f : Filter) (i : VInfo ι)
    (hv : w.filters v = some f) (hi : p.vi v = some i) (hro : f.readOnly = false)
    (x0 : ι) (h : Nat × Nat) (hh : hf x0 f.seed = some h) (nbs' : Nat) (d' : Bool) (hdr : Option Nat)
    (hd : i.promised = true → insync (p.si (keyOf v f)) f i = true →
        d' = true ∨ nbs' = popCount (setBits (w.val f) (f.off P) (indices h.1 h.2 f.capBits f.numHashes)) (f.off P) f.capBits)
    (hc : isMem f = true → i.promised = true → insync (p.si (keyOf v f)) f i = true →
        (d' = true → getField (commitVal P f (setBits (w.val f) (f.off P) (indices h.1 h.2 f.capBits f.numHashes)) hdr) 192 64 = P.dirty) ∧
        (d' = false → getField (commitVal P f (setBits (w.val f) (f.off P) (indices h.1 h.2 f.capBits f.numHashes)) hdr) 192 64
            = popCount (setBits (w.val f) (f.off P) (indices h.1 h.2 f.capBits f.numHashes)) 256 f.capBits)) :
    Good P hf (commit P w v f (setBits (w.val f) (f.off P) (indices h.1 h.2 f.capBits f.numHashes)) nbs' d' hdr)
      (pstep hf p w w' out (.upd v x0)) := by
  unfold pstep
  simp only [hv, hi, hro, hh, Option.isNone_some, Bool.or_self, Bool.false_eq_true, if_false]
  have hok := hg.viewOK hv hi
  have hw := hg.fwf v f hv
  have hcapc : 0 < f.cfg.cap := hw.capPos
  cases hkeep : (p.write w v f i).2 with
  | false =>
    simp only [Bool.false_eq_true, if_false]
    exact (good_write_lost P hf w p hg v f i hv hi hkeep _ _ _ _).1
  | true =>
    obtain ⟨hp, hin, hS1, ⟨i1, hi1, hM1⟩, -⟩ := write_kept p w v f i hi hkeep
    obtain ⟨hcovS, hhsS⟩ := covers_recorded P hf hP.layout w p hg v f hv (agrees_of_insync P hf w p hg v f i hv hi hp hin)
    simp only [if_true, setS_vi, hi1]
    rw [hS1, hM1]
    apply good_write_kept P hf hP.layout hg hv hi hkeep
      (Kept.add hi1 fun _ _ _ _ j hb => testBit_setBits_mono _ _ _ _ hb)
    case hxlow => intro hm j hj; rw [off_mem P hP.layout hm]; exact testBit_setBits_low _ _ _ _ hj
    case hM => exact ⟨Covers.cons_setBits hok.cov hcapc hh, Hashed.cons hf hh hok.hs⟩
    case hS => exact ⟨Covers.cons_setBits hcovS hcapc hh, Hashed.cons hf hh hhsS⟩
    case hex =>
      intro hdf
      rcases hd hp hin with h1 | h1
      · rw [h1] at hdf; cases hdf
      · exact h1
    case hcnt => exact fun hm => hc hm hp hin

/-- the arithmetic of the count that `query_and_update` keeps -/
theorem qauCount_exact {old new cap c qn : Nat} (hle : old ≤ new) (hub : new ≤ cap) (hcl : cap < 2 ^ 38) (hc : c = old)
    (hq : c < 2 ^ 64 → qn = (c + (new - old)) % 2 ^ 64) : qn = new := by
  have hnew : new < 2 ^ 64 := Nat.lt_of_le_of_lt hub (Nat.lt_trans hcl (by decide))
  rw [hq (hc ▸ Nat.lt_of_le_of_lt hle hnew), hc, Nat.add_sub_cancel' hle, Nat.mod_eq_of_lt hnew]

theorem pstep_qau (p : PGhost ι) (w w' : World) (out : Out) (v : Nat) (x : ι) :
    pstep hf p w w' out (.qau v x) = pstep hf p w w' out (.upd v x) := rfl

theorem good_upd (hP : P.Wire) (w : World) (p : PGhost ι) (hg : Good P hf w p) (v : Nat) (x : ι) :
    Good P hf (step P Fix.fixed hf w (.upd v x)).1
      (pstep hf p w (step P Fix.fixed hf w (.upd v x)).1 (step P Fix.fixed hf w (.upd v x)).2 (.upd v x)) := by
  cases hv : w.filters v with
  | none => unfold pstep; simp only [step, opUpdate, hv]; exact hg
  | some f =>
    obtain ⟨i, hi⟩ := hg.tracked v f hv
    cases hh : hf x f.seed with
    | none => unfold pstep; simp only [step, opUpdate, hashFor, hv, hi, hh, Option.isNone_none, Bool.or_true, if_true]; exact hg
    | some h =>
      by_cases hro : f.readOnly = true
      · unfold pstep; simp only [step, opUpdate, hashFor, hv, hi, hh, hro, Bool.true_or, if_true]; exact hg
      · have hro' : f.readOnly = false := by simpa using hro
        simp only [step, opUpdate, hashFor, hv, hh, hro', Bool.false_eq_true, if_false, Fix.fixed, if_true]
        apply good_insert P hf hP w _ _ p hg v f i hv hi hro' x h hh
        · intro _ _; exact Or.inl rfl
        · intro hm _ _
          refine ⟨fun _ => ?_, (fun hd => by cases hd)⟩
          rw [commitVal_count P hP.layout f hm hro', hP.dirty]

theorem good_qau (hP : P.Wire) (w : World) (p : PGhost ι) (hg : Good P hf w p) (v : Nat) (x : ι) :
    Good P hf (step P Fix.fixed hf w (.qau v x)).1
      (pstep hf p w (step P Fix.fixed hf w (.qau v x)).1 (step P Fix.fixed hf w (.qau v x)).2 (.qau v x)) := by
  cases hv : w.filters v with
  | none => unfold pstep; simp only [step, opQau, hv]; exact hg
  | some f =>
    obtain ⟨i, hi⟩ := hg.tracked v f hv
    have hok := hg.viewOK hv hi
    have hw := hg.fwf v f hv
    cases hh : hf x f.seed with
    | none => unfold pstep; simp only [step, opQau, hashFor, hv, hi, hh, Option.isNone_none, Bool.or_true, if_true]; exact hg
    | some h =>
      by_cases hro : f.readOnly = true
      · unfold pstep; simp only [step, opQau, hashFor, hv, hi, hh, hro, Bool.true_or, if_true]; exact hg
      · have hro' : f.readOnly = false := by simpa using hro
        rw [pstep_qau]
        simp only [step, hashFor, hv, hh, opQau_eq P Fix.fixed w v f hv hro' h]
        have hcnt := qauLoop_count (f.off P) f.capBits (indices h.1 h.2 f.capBits f.numHashes)
          (fun j hj => mem_indices_lt _ _ _ _ _ hw.capPos hj) (w.val f) f.nbs true
        generalize (qauLoop (f.off P) (indices h.1 h.2 f.capBits f.numHashes) (w.val f, f.nbs, true)).2.1 = qn at hcnt ⊢
        by_cases hk0 : f.numHashes = 0
        · -- no hash functions: nothing is written; only unpromised views can be here
          rw [if_pos hk0]
          have hnoop : commit P w v f (setBits (w.val f) (f.off P) (indices h.1 h.2 f.capBits f.numHashes)) f.nbs f.dirty none = w := by
            have : indices h.1 h.2 f.capBits f.numHashes = [] := by simp [indices, hk0]
            rw [this]
            simp only [setBits, List.foldl_nil]
            exact commit_noop P w v f hv (fun m hr => hg.memref v f m hv hr)
          have hgood := good_insert P hf hP w w (.bool (allSet (w.val f) (f.off P) (indices h.1 h.2 f.capBits f.numHashes))) p hg v f i hv hi hro' x h hh f.nbs f.dirty none
            (fun hp _ => absurd hk0 (Nat.ne_of_gt (hok.k1 hp).1)) (fun _ hp _ => absurd hk0 (Nat.ne_of_gt (hok.k1 hp).1))
          rw [hnoop] at hgood
          exact hgood
        · rw [if_neg hk0]
          by_cases hd : f.dirty = true
          · rw [if_pos (by rw [hd]; rfl)]
            apply good_insert P hf hP w _ _ p hg v f i hv hi hro' x h hh
            · intro _ _; exact Or.inl rfl
            · intro hm hp hin
              refine ⟨fun _ => ?_, (fun hd' => by cases hd')⟩
              rw [commitVal_none, off_mem P hP.layout hm,
                getField_congr _ (w.val f) 192 64 fun i hi => testBit_setBits_low _ _ _ _ (Nat.add_lt_add_left hi 192)]
              exact hok.dh hp hin hm hro' hd
          · have hd' : f.dirty = false := by simpa using hd
            rw [if_neg (by rw [hd']; simp)]
            -- the loop's count is exact for a promised in-sync view
            have hexact : i.promised = true → insync (p.si (keyOf v f)) f i = true →
                qn = popCount (setBits (w.val f) (f.off P) (indices h.1 h.2 f.capBits f.numHashes)) (f.off P) f.capBits := by
              exact fun hp hin => qauCount_exact (popCount_mono _ _ _ _ _ (fun j _ hb => testBit_setBits_mono _ _ _ _ hb))
                (popCount_le _ _ _) hw.capLt (hok.ex hp hin hd') hcnt
            apply good_insert P hf hP w _ _ p hg v f i hv hi hro' x h hh
            · intro hp hin; exact Or.inr (hexact hp hin)
            · intro hm hp hin
              refine ⟨(fun hd'' => by cases hd''), fun _ => ?_⟩
              rw [commitVal_count P hP.layout f hm hro', hexact hp hin, off_mem P hP.layout hm]
              exact hw.popCount_mod _ _

end DS.Bloom
