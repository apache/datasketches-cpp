/- C19, KLL sketch: `merge` and its contract given a specification of `merge_higher_levels` (`merge_gen`; `merge_contract` itself
   is in LifeKllMergeHigher, after `mergeHigherLevels_spec`).  `mergeStep`, `mergeTail` and `mergeMax` name pieces of the model's text,
   so that each gets a specification of its own: `mergeStep` is the body handed to `TripleS.foldUp`, the other two are what follows
   the update of the minimum and of the maximum, which do-notation repeats under nested join points; `merge_eq := rfl` says that
   `merge` consists of them. -/
import DSProofs.Lemmas.LifeKllUpdate
namespace DS.Life.Kll
open DS.Life

/-- one iteration of the level-zero loop of `merge` -/
def mergeStep (byMove : Bool) (oi : Nat) (i : Nat) (acc : Sketch × List Bool) : M (Sketch × List Bool) := do
  let (s', index, coins') ← internalUpdate acc.1 acc.2
  let items ← deref s'.items
  fwdConstruct byMove oi i items index
  pure (s', coins')

/-- `merge` after the min/max update -/
def mergeTail (s o : Sketch) (byMove : Bool) (coins : List Bool) : M (Sketch × List Bool) := do
  let finalN := s.n + o.n
  let ol0 ← lv o.levels 0
  let ol1 ← lv o.levels 1
  let oi ← deref o.items
  let (s, coins) ← foldUp (mergeStep byMove oi) (ol1 - ol0) ol0 (s, coins)
  let (s, coins) ← if o.numLevels ≥ 2 then mergeHigherLevels s o false finalN coins else pure (s, coins)
  let s := { s with n := finalN, minK := if o.numLevels > 1 then min s.minK o.minK else s.minK }
  if sumSampleWeights s.numLevels s.levels ≠ s.n then throwExc "Total weight does not match N" else
  let s ← resetSortedView s
  pure (s, coins)

/-- `merge` after the minimum was updated -/
def mergeMax (s o : Sketch) (byMove : Bool) (coins : List Bool) : M (Sketch × List Bool) := do
  let mx ← read s.self 1
  let omx ← read o.self 1
  if mx < omx then do
    let _ ← (if byMove then moveAssignSlot o.self 1 s.self 1 else copyAssignSlot o.self 1 s.self 1)
    mergeTail s o byMove coins
  else mergeTail s o byMove coins

theorem merge_eq (s o : Sketch) (byMove : Bool) (coins : List Bool) : merge s o byMove coins =
    (if o.n = 0 then pure (s, coins) else
     if s.m ≠ o.m then throwExc "incompatible M" else
     if s.n = 0 then do
       fwdConstruct byMove o.self 0 s.self 0
       let _ ← fwdConstruct byMove o.self 1 s.self 1
       mergeTail s o byMove coins
     else do
       let omn ← read o.self 0
       let mn ← read s.self 0
       if omn < mn then do
         let _ ← (if byMove then moveAssignSlot o.self 0 s.self 0 else copyAssignSlot o.self 0 s.self 0)
         mergeMax s o byMove coins
       else mergeMax s o byMove coins) := rfl


/-- the fixed facts of a merge: the two operands in the initial heap -/
structure MCtx (P : Params) (n0 : Nat) (ids0 : List Nat) (s o : Sketch) (b : Nat) (h : Heap) : Prop where
  us : Usable P h s
  uo : Usable P h o
  dj : ∀ x, x ∈ owned s → x ∉ owned o
  hid : h.ids = ids0
  hnx : h.next = n0
  hwf : ∀ x, x ∈ ids0 → x < n0
  hb : s.items = some b

/-- the target side during a merge (`hA` = the heap the reallocation bookkeeping starts from) -/
structure SSide (S : Nat → Bool) (hA h' : Heap) (s sa : Sketch) (b ba : Nat) : Prop where
  io : ItemsOK h' sa ba
  sm : SameMeta s sa
  re : ReallocIds hA h' b ba
  selfc : HasCells h' s.self 2
  mm : (∃ w, stAt h' s.self 0 = .live w) ∧ (∃ w, stAt h' s.self 1 = .live w)
  view : ∀ v, s.view = some v → HasCells h' v 1 ∧ stAt h' v 0 = .raw
  foot : S ba = true

theorem MCtx.static {P : Params} {n0 : Nat} {ids0 : List Nat} {s o : Sketch} {b : Nat} {h : Heap}
    (c : MCtx P n0 ids0 s o b h) :
    s.self < n0 ∧ b < n0 ∧ b ≠ s.self ∧ b ∈ ids0 ∧ (∀ w, s.view = some w → w < n0 ∧ w ≠ b ∧ w ≠ s.self) ∧
    (∀ x, x ∈ owned o → x < n0 ∧ x ≠ s.self ∧ x ≠ b ∧ s.view ≠ some x) := by
  have inv := c.us.toInv
  obtain ⟨_, _, hblt, hbself, hbview⟩ := inv.items_ok b c.hb
  have hbo : b ∈ owned s := mem_owned.2 (Or.inr (Or.inl c.hb))
  refine ⟨c.hnx ▸ inv.self_lt, c.hnx ▸ hblt, hbself, c.hid ▸ (inv.owned_ids b hbo).1, fun w hw => ?_, fun x hx => ?_⟩
  · obtain ⟨_, _, c', d⟩ := inv.view_ok w hw
    exact ⟨c.hnx ▸ c', fun e => hbview (e ▸ hw), d⟩
  · refine ⟨c.hnx ▸ (c.uo.toInv.owned_ids x hx).2, fun e => ?_, fun e => ?_, fun e => ?_⟩
    · exact c.dj _ (mem_owned.2 (Or.inl rfl)) (e ▸ hx)
    · exact c.dj _ hbo (e ▸ hx)
    · exact c.dj _ (mem_owned.2 (Or.inr (Or.inr e))) hx

/-- the source side during a merge: level zero consumed up to `i` -/
structure OSide (P : Params) (h' : Heap) (o : Sketch) (ob : Nat) (byMove : Bool) (i : Nat) : Prop where
  inv : Inv P h' o
  usable : byMove = false → Usable P h' o
  live : LiveOn h' ob i o.itemsSize

theorem OSide.transfer {P : Params} {h h' : Heap} {o : Sketch} {ob : Nat} {byMove : Bool} {i : Nat}
    (os : OSide P h o ob byMove i) (hob : o.items = some ob) (so : ∀ x, x ∈ owned o → SameOn h h' x)
    (hn : h.next ≤ h'.next) : OSide P h' o ob byMove i :=
  ⟨os.inv.transfer so hn, fun e => (os.usable e).transfer so hn, fun j h1 h2 => by
    rw [(so ob (mem_owned.2 (Or.inr (Or.inl hob)))).st]; exact os.live j h1 h2⟩

/-- `conditional_forward` into raw storage: the source is touched only when moving -/
theorem vstep_fwdConstruct {β} {S} {h : Heap} {byMove : Bool} {sb si sn db di dn v : Nat} {f : Unit → M β}
    {Q : β → Heap → Prop}
    (hcs : HasCells h sb sn) (hsi : si < sn) (hl : stAt h sb si = .live v)
    (hcd : HasCells h db dn) (hdi : di < dn) (hr : stAt h db di = .raw) (hSs : S sb = true) (hSd : S db = true)
    (k : ∀ h', SameBut h h' (fun b' j => (byMove = true ∧ b' = sb ∧ j = si) ∨ (b' = db ∧ j = di)) →
          stAt h' db di = .live v → stAt h' sb si ≠ .raw → SafeF S h' (f () h') Q) :
    SafeF S h ((fwdConstruct byMove sb si db di >>= f) h) Q := by
  unfold fwdConstruct
  cases byMove with
  | false =>
    simp only [Bool.false_eq_true, if_false]
    apply vstep_copyConstruct hcs hsi hl hcd hdi hr hSd
    intro h1 sb1 hst
    have hne : ¬ (sb = db ∧ si = di) := by
      rintro ⟨rfl, rfl⟩; rw [hl] at hr; cases hr
    exact k h1 (sb1.mono (fun _ _ x => Or.inr x)) hst (by rw [sb1.st _ _ hne, hl]; exact nofun)
  | true =>
    simp only [if_true]
    apply vstep_moveConstruct hcs hsi hl hcd hdi hr hSs hSd
    intro h1 sb1 hst hsm
    exact k h1 (sb1.mono fun _ _ x => x.imp_left fun y => ⟨rfl, y⟩) hst (by rw [hsm]; exact nofun)

/-- `conditional_forward` assigned to an object of another block -/
theorem vstep_fwdAssign {β} {S} {h : Heap} {byMove : Bool} {sb si sn db di dn v : Nat} {f : Unit → M β}
    {Q : β → Heap → Prop}
    (hcs : HasCells h sb sn) (hsi : si < sn) (hl : stAt h sb si = .live v)
    (hcd : HasCells h db dn) (hdi : di < dn) (hr : stAt h db di ≠ .raw) (hne : sb ≠ db) (hSs : S sb = true)
    (hSd : S db = true)
    (k : ∀ h', SameBut h h' (fun b' j => (byMove = true ∧ b' = sb ∧ j = si) ∨ (b' = db ∧ j = di)) →
          stAt h' db di = .live v → SafeF S h' (f () h') Q) :
    SafeF S h (((if byMove = true then moveAssignSlot sb si db di else copyAssignSlot sb si db di) >>= f) h) Q := by
  cases byMove with
  | false =>
    simp only [Bool.false_eq_true, if_false]
    apply vstep_copyAssignSlot hcs hsi hl hcd hdi hr hSd
    exact fun h1 sb1 hst => k h1 (sb1.mono (fun _ _ x => Or.inr x)) hst
  | true =>
    simp only [if_true]
    apply vstep_moveAssignSlot hcs hsi hl hcd hdi hr (fun x => hne x.1.symm) hSs hSd
    exact fun h1 sb1 hst _ => k h1 (sb1.mono fun _ _ x => x.imp_left fun y => ⟨rfl, y⟩) hst

/-- the level-zero loop of `merge` when item `i` of the other sketch is next (`w0`: the item it began with) -/
def MLoop (P : Params) (n0 : Nat) (s o : Sketch) (b ob : Nat) (byMove : Bool) (hA : Heap) (w0 i : Nat)
    (acc : Sketch × List Bool) (h' : Heap) : Prop :=
  ∃ ba, SSide (foot (owned s ++ owned o) n0) hA h' s acc.1 b ba ∧ OSide P h' o ob byMove i ∧ PW acc.1 ∧
    W acc.1 + w0 = W s + i

theorem mergeStep_spec (P : Params) (hP : P.OK) (n0 : Nat) (ids0 : List Nat) (s o : Sketch) (b : Nat) (h : Heap)
    (ctx : MCtx P n0 ids0 s o b h) (ob : Nat) (hob : o.items = some ob) (byMove : Bool) (hA : Heap)
    (hAnx : hA.next = n0) (w0 i : Nat) (acc : Sketch × List Bool) (hi : i < o.itemsSize) :
    TripleS 0 (foot (owned s ++ owned o) n0) (MLoop P n0 s o b ob byMove hA w0 i acc) (mergeStep byMove ob i acc)
      (MLoop P n0 s o b ob byMove hA w0 (i + 1)) := by
  intro h1 _ ⟨ba, ss, os, hpw, hw⟩
  obtain ⟨hself_lt, hblt, hbself, hbi, hviewf, hof⟩ := ctx.static
  obtain ⟨sa, ca⟩ := acc
  obtain ⟨io, sm, re, selfc, mm, view, hSba⟩ := ss
  have hobo : ob ∈ owned o := mem_owned.2 (Or.inr (Or.inl hob))
  have hn1 : n0 ≤ h1.next := hAnx ▸ re.next
  have old : ∀ {x}, x < n0 → x < hA.next := fun hx => hAnx ▸ hx
  have hbalt : ba < h1.next := re.lt_next (old hblt)
  have hoba : ∀ x, x ∈ owned o → x ≠ ba := fun x hx => re.ne_new (old (hof x hx).1) (hof x hx).2.2.1
  have hselfba : s.self ≠ ba := re.ne_new (old hself_lt) hbself.symm
  have hm2 : 2 ≤ sa.m := by rw [sm.m, ctx.us.toInv.m_eq]; exact hP.1
  unfold mergeStep
  apply SafeF.bind (internalUpdate_spec (S := foot (owned s ++ owned o) n0) sa ca h1 hSba
    (fun x hx => foot_new (Nat.le_trans hn1 hx)) io hm2 hbalt (re.wf (old hblt)))
  intro r h2 ⟨b1, hb1, lok1, e0, il2, hidx, re12, sm12, _, hSb1, hw12, hg12⟩ _
  obtain ⟨s1, index, c1⟩ := r
  simp only at hb1 lok1 e0 il2 hidx sm12 hw12 hg12 ⊢
  apply step_deref_eq hb1
  have old1 : ∀ {x}, x < n0 → x < h1.next := fun hx => Nat.lt_of_lt_of_le hx hn1
  have hob1 : ∀ x, x ∈ owned o → x ≠ b1 := fun x hx => re12.toIds.ne_new (old1 (hof x hx).1) (hoba x hx)
  have hselfb1 : s.self ≠ b1 := re12.toIds.ne_new (old1 hself_lt) hselfba
  have os2 := os.transfer hob (fun x hx => re12.others x (old1 (hof x hx).1) (hoba x hx)) re12.next
  have self12 : SameOn h1 h2 s.self := re12.others _ (old1 hself_lt) hselfba
  obtain ⟨_, iato, _⟩ := os2.inv.items_ok ob hob
  obtain ⟨vi, hvi⟩ := os2.live i (Nat.le_refl _) hi
  apply vstep_fwdConstruct iato.cells hi hvi il2.cells hidx (il2.raw index (Nat.lt_succ_self _))
    (foot_own (List.mem_append_right _ hobo)) hSb1
  intro h3 sb3 hl3 hnr3
  apply SafeF.pure
  have hn3 : h2.next ≤ h3.next := Nat.le_of_eq sb3.next.symm
  have oth3 : ∀ x, x ≠ ob → x ≠ b1 → SameOn h2 h3 x := fun x a c =>
    sb3.sameOn fun j e => e.elim (fun y => a y.2.1) (fun y => c y.1)
  have hb1ob : ¬ (b1 = ob) := fun e => hob1 _ hobo e.symm
  refine ⟨b1, ⟨⟨hb1, lok1, ?_⟩, sm.trans sm12, (re.trans re12.toIds).congr sb3.ids sb3.next,
      sb3.cells _ _ (self12.cells _ selfc), ?_, fun w hw => ?_, hSb1⟩,
    ⟨Inv.of_nonraw os2.inv hob (fun x hx hxo => oth3 x hxo (hob1 x hx)) hn3 (fun m hc => sb3.cells _ _ hc) fun j => ?_,
      fun e => (os2.usable e).transfer (fun x hx => sb3.sameOn fun j y =>
        y.elim (fun z => Bool.noConfusion (e.symm.trans z.1)) (fun z => hob1 x hx z.1)) hn3, fun j a d => ?_⟩,
    PW.step hw12 hg12 hpw, by rw [hw12, Nat.add_right_comm, hw, Nat.add_assoc]⟩
  · rw [e0]
    refine ⟨sb3.cells _ _ il2.cells, fun j hj => ?_, fun j a d => ?_⟩
    · rw [sb3.st _ _ fun x => x.elim (fun y => hb1ob y.2.1) (fun y => Nat.ne_of_lt hj y.2)]
      exact il2.raw j (Nat.lt_succ_of_lt hj)
    · by_cases e : j = index
      · exact e ▸ ⟨vi, hl3⟩
      · rw [sb3.st _ _ fun x => x.elim (fun y => hb1ob y.2.1) (fun y => e y.2)]
        exact il2.live j (Nat.lt_of_le_of_ne a (Ne.symm e)) d
  · have e : ∀ j, stAt h3 s.self j = stAt h1 s.self j := fun j =>
      ((oth3 _ (hof _ hobo).2.1.symm hselfb1).st j).trans (self12.st j)
    exact ⟨mm.1.imp fun w hw => (e 0).trans hw, mm.2.imp fun w hw => (e 1).trans hw⟩
  · obtain ⟨x1, x2, x3⟩ := hviewf w hw
    have hwba : w ≠ ba := re.ne_new (old x1) x2
    have sw : SameOn h1 h3 w := (re12.others w (old1 x1) hwba).trans
      (oth3 w (fun e => (hof _ hobo).2.2.2 (e ▸ hw)) (re12.toIds.ne_new (old1 x1) hwba))
    exact ⟨sw.cells _ (view w hw).1, (sw.st 0).trans (view w hw).2⟩
  · by_cases e : j = i
    · exact .inr ⟨by rw [e, hvi]; exact nofun, e ▸ hnr3⟩
    · exact .inl (sb3.st _ _ fun x => x.elim (fun y => e y.2.2) (fun y => hob1 _ hobo y.1))
  · rw [sb3.st _ _ fun x => x.elim (fun y => Nat.ne_of_gt a y.2.2) (fun y => hob1 _ hobo y.1)]
    exact os2.live j (Nat.le_of_succ_le a) d


/-- what `merge_higher_levels` has to deliver; `mergeHigherLevels_spec` proves it.  It is a hypothesis of `merge_gen` only because
    this module does not import LifeKllPopulate and LifeKllCompress, on which that proof rests -/
def MHLSpec (P : Params) (n0 : Nat) (s o : Sketch) (b : Nat) (byMove : Bool) (hA : Heap) : Prop :=
  ∀ (sa : Sketch) (ca : List Bool) (ba : Nat) (h1 : Heap) (finalN : Nat),
    SSide (foot (owned s ++ owned o) n0) hA h1 s sa b ba → Inv P h1 o → (byMove = false → Usable P h1 o) →
    (∀ ob, o.items = some ob → LiveOn h1 ob (o.levels.getD 1 0) o.itemsSize) →
    W sa = s.n + pop o.levels 0 → finalN = s.n + o.n → PW sa → finalN < 2 ^ 64 →
    SafeF (foot (owned s ++ owned o) n0) h1 (mergeHigherLevels sa o false finalN ca h1)
      (fun r h' => (∃ ba', SSide (foot (owned s ++ owned o) n0) hA h' s r.1 b ba') ∧ Inv P h' o ∧
        (byMove = false → Usable P h' o) ∧ (r.1.numLevels = 1 ∨ 2 ^ (r.1.numLevels - 1) ≤ finalN))

/-- `hA` is the heap after the min/max update of `merge` begun in `h`: only the two object storages may differ (the other sketch's
    only when moving), and the target's min/max are engaged -/
structure AfterMM (h hA : Heap) (s o : Sketch) (byMove : Bool) : Prop where
  sb : SameBut h hA (fun b' _ => b' = s.self ∨ (byMove = true ∧ b' = o.self))
  smm : (∃ w, stAt hA s.self 0 = .live w) ∧ (∃ w, stAt hA s.self 1 = .live w)

theorem mergeTail_spec (P : Params) (hP : P.OK) (n0 : Nat) (ids0 : List Nat) (s o : Sketch) (b : Nat) (h : Heap)
    (ctx : MCtx P n0 ids0 s o b h) (byMove : Bool) (coins : List Bool) (hon : o.n ≠ 0) (hA : Heap)
    (amm : AfterMM h hA s o byMove) (hml : o.numLevels ≥ 2 → MHLSpec P n0 s o b byMove hA)
    (h64 : o.numLevels ≥ 2 → s.n + o.n < 2 ^ 64) :
    SafeF (foot (owned s ++ owned o) n0) hA (mergeTail s o byMove coins hA)
      (fun r h'' => Usable P h'' r.1 ∧ Inv P h'' o ∧ (byMove = false → Usable P h'' o) ∧
        (∀ x, x ∈ owned r.1 → x ∉ owned o) ∧ Owns h'' ids0 (owned s ++ owned o) (owned r.1 ++ owned o) n0) := by
  obtain ⟨hself_lt, hblt, hbself, hbi, hviewf, hof⟩ := ctx.static
  have invs := ctx.us.toInv
  have invo := ctx.uo.toInv
  obtain ⟨ob, hob, _⟩ := ctx.uo.items
  have hobo : ob ∈ owned o := mem_owned.2 (Or.inr (Or.inl hob))
  obtain ⟨loko, _, _, hobself, _⟩ := invo.items_ok ob hob
  have ilo := ctx.uo.itemsLive hob
  have hAid : hA.ids = ids0 := by rw [amm.sb.ids, ctx.hid]
  have hAnx : hA.next = n0 := by rw [amm.sb.next, ctx.hnx]
  have hoself : o.self ∈ owned o := mem_owned.2 (Or.inl rfl)
  have hso : s.self ≠ o.self := fun e => (hof _ hoself).2.1 e.symm
  -- blocks other than the two object storages are unchanged
  have oth : ∀ x, x ≠ s.self → x ≠ o.self → SameOn h hA x := fun x h1 h2 =>
    amm.sb.sameOn fun j e => e.elim h1 (fun y => h2 y.2)
  have sb0 : SameOn h hA b := oth b hbself (fun e => (hof _ hoself).2.2.1 e.symm)
  have ss0 : SSide (foot (owned s ++ owned o) n0) hA hA s s b b := by
    refine ⟨⟨ctx.hb, invs.items_lok ctx.hb, (ctx.us.itemsLive ctx.hb).transfer sb0⟩, SameMeta.refl s,
      ReallocIds.of_mem (fun _ => Iff.rfl) (Nat.le_refl _) (fun x hx => by rw [hAid] at hx; rw [hAnx]; exact ctx.hwf x hx)
        (by rw [hAid]; exact hbi),
      amm.sb.cells _ _ invs.self_cells, amm.smm, fun w hw => ?_, foot_own (by simp [mem_owned, ctx.hb])⟩
    obtain ⟨x1, x2, x3⟩ := hviewf w hw
    have sw := oth w x3 (fun e => (hof _ hoself).2.2.2 (e ▸ hw))
    exact ⟨sw.cells _ (invs.view_cells hw), by rw [sw.st]; exact invs.view_raw hw⟩
  have os0 : OSide P hA o ob byMove (o.levels.getD 0 0) := by
    have soth : ∀ x, x ∈ owned o → x ≠ o.self → SameOn h hA x := fun x hx hne => oth x (hof x hx).2.1 hne
    refine ⟨invo.transfer_but_self soth (amm.sb.cells _ _ invo.self_cells) (by rw [amm.sb.next]; exact Nat.le_refl _),
      fun e => ctx.uo.transfer (fun x hx => amm.sb.sameOn fun j y =>
        y.elim (hof x hx).2.1 (fun z => Bool.noConfusion (e.symm.trans z.1))) (by rw [amm.sb.next]; exact Nat.le_refl _),
      fun j h1 h2 => ?_⟩
    rw [(soth ob hobo hobself).st]; exact ilo.live j h1 h2
  unfold mergeTail
  have hnl := loko.nl
  apply step_lv (loko.len ▸ Nat.succ_pos _)
  apply step_lv (loko.len ▸ Nat.succ_lt_succ hnl)
  apply step_deref_eq hob
  have h01 : o.levels.getD 0 0 ≤ o.levels.getD 1 0 := loko.mono 0 hnl
  have h1t : o.levels.getD 1 0 ≤ o.itemsSize := loko.le_top 1 hnl
  have e01 := Nat.add_sub_cancel' h01
  have loop := TripleS.foldUp (n0 := 0) (MLoop P n0 s o b ob byMove hA (o.levels.getD 0 0)) (mergeStep byMove ob)
    (o.levels.getD 1 0 - o.levels.getD 0 0) (o.levels.getD 0 0) (s, coins) fun i acc _ hi2 =>
      mergeStep_spec P hP n0 ids0 s o b h ctx ob hob byMove hA hAnx _ i acc (Nat.lt_of_lt_of_le (e01 ▸ hi2) h1t)
  have hpw0 : PW s := by
    unfold PW W; rw [ctx.us.wt]; exact ctx.us.pw
  apply SafeF.bind_triple loop (Nat.zero_le _) ⟨b, ss0, os0, hpw0, rfl⟩
  intro acc h1 ⟨ba, ss1, os1, hpw1, hw1⟩ _
  obtain ⟨sa, ca⟩ := acc
  simp only at ss1 hpw1 hw1 ⊢
  have hfn : s.n + o.n ≠ 0 := fun e => hon (Nat.eq_zero_of_add_eq_zero_left e)
  rw [e01] at hw1 os1
  have hWs : W s = s.n := ctx.us.wt
  have hWo : W o = o.n := ctx.uo.wt
  -- with or without `merge_higher_levels`: the sketch's side, the other sketch, and the bound on the number of levels
  apply SafeF.bind_ite (Q1 := fun r h2 => (∃ ba', SSide (foot (owned s ++ owned o) n0) hA h2 s r.1 b ba') ∧ Inv P h2 o ∧
    (byMove = false → Usable P h2 o) ∧
    (sumSampleWeights r.1.numLevels r.1.levels = s.n + o.n → r.1.numLevels = 1 ∨ 2 ^ (r.1.numLevels - 1) ≤ s.n + o.n))
  · by_cases hlv : o.numLevels ≥ 2
    · rw [if_pos hlv]
      exact (hml hlv sa ca ba h1 (s.n + o.n) ss1 os1.inv os1.usable
        (fun ob' hob' => Option.some.inj (hob.symm.trans hob') ▸ os1.live)
        ((Nat.eq_sub_of_add_eq hw1).trans (hWs ▸ Nat.add_sub_assoc h01 _)) rfl hpw1 (h64 hlv)).mono
        fun _ _ x => ⟨x.1, x.2.1, x.2.2.1, fun _ => x.2.2.2⟩
    · rw [if_neg hlv]
      exact SafeF.pure ⟨⟨ba, ss1⟩, os1.inv, os1.usable, fun e => by unfold PW W at hpw1; rwa [e] at hpw1⟩
  -- the end: `n_`, `min_k_`, the weight check, `reset_sorted_view`
  intro ⟨s2, c2⟩ h' ⟨⟨ba2, ⟨hba, lok, il⟩, sm, re, selfc, mm, view, _⟩, io', uo', hpw⟩ _
  dsimp only at hba sm ⊢
  have old : ∀ {x}, x < n0 → x < hA.next := fun hx => hAnx ▸ hx
  have hbaself : ba2 ≠ s.self := (re.ne_new (old hself_lt) hbself.symm).symm
  have hbaview : ∀ w, s.view = some w → w ≠ ba2 := fun w hw => re.ne_new (old (hviewf w hw).1) (hviewf w hw).2.1
  have hbao : ba2 ∉ owned o := fun hx => re.ne_new (old (hof _ hx).1) (hof _ hx).2.2.1 rfl
  by_cases hw : sumSampleWeights s2.numLevels s2.levels ≠ s.n + o.n
  · rw [if_pos hw]; exact SafeF.exc _
  rw [if_neg hw]
  have hwt : sumSampleWeights s2.numLevels s2.levels = s.n + o.n := Decidable.not_not.1 hw
  apply vstep_resetSortedView
    (s := { s2 with n := s.n + o.n, minK := if o.numLevels > 1 then min s2.minK o.minK else s2.minK })
  · intro w hw'
    have hw'' : s.view = some w := sm.view ▸ hw'
    exact ⟨(view w hw'').1, (view w hw'').2, foot_own (by simp [mem_owned, hw''])⟩
  intro h4 so4 hid4 hnx4
  apply SafeF.pure
  have hnv : ∀ x, (∀ w, s.view = some w → w ≠ x) → s2.view ≠ some x := fun x hx e => hx x (sm.view ▸ e) rfl
  have self4 : SameOn h' h4 s.self := so4 _ (hnv _ (fun w hw' => (hviewf w hw').2.2))
  have ba4 : SameOn h' h4 ba2 := so4 _ (hnv _ (fun w hw' => hbaview w hw'))
  have o4 : ∀ x, x ∈ owned o → SameOn h' h4 x := fun x hx => so4 x (sm.view ▸ (hof x hx).2.2.2)
  have hn4 : n0 ≤ h4.next := hnx4 ▸ hAnx ▸ re.next
  have hn4' : h'.next ≤ h4.next := Nat.le_of_eq hnx4.symm
  have e4 : ∀ j, stAt h4 s2.self j = stAt h' s.self j := fun j => sm.self ▸ self4.st j
  refine ⟨Usable.build (b := ba2)
      (s := { s2 with n := s.n + o.n, minK := if o.numLevels > 1 then min s2.minK o.minK else s2.minK, view := none })
      (sm.m.trans invs.m_eq) (sm.self ▸ self4.cells _ selfc) (sm.self ▸ Nat.lt_of_lt_of_le hself_lt hn4)
      (fun _ (hv : none = some _) => nomatch hv) hba lok (il.transfer ba4) (hnx4 ▸ re.lt_next (old hblt)) (sm.self ▸ hbaself)
      (fun (hv : none = some _) => nomatch hv) (fun e => absurd e hfn)
      (fun _ => ⟨mm.1.imp fun _ x => (e4 0).trans x, mm.2.imp fun _ x => (e4 1).trans x⟩)
      (fun _ => ret_of_weight lok (hwt ▸ hfn)) hwt (hpw hwt),
    io'.transfer o4 hn4', fun e => (uo' e).transfer o4 hn4', fun x hx hxo => ?_, ?_⟩
  · simp only [mem_owned, reduceCtorEq, or_false] at hx
    rw [sm.self, hba] at hx
    simp only [Option.some.injEq] at hx
    exact hx.elim (hof x hxo).2.1 fun e => hbao (e ▸ hxo)
  · refine Owns.append ?_ (owned o) fun y hy => ⟨ctx.hid ▸ (invo.owned_ids y hy).1, fun hs => ctx.dj y hs hy⟩
    exact owns_realloc_reset invs ctx.hb ctx.hid ctx.hnx hAid hAnx ctx.hwf re (by rw [hid4, sm.view]) sm.self hba rfl

theorem merge_gen (P : Params) (hP : P.OK) (n0 : Nat) (s o : Sketch) (byMove : Bool) (coins : List Bool)
    (ids0 : List Nat)
    (hml : ∀ b h hA, MCtx P n0 ids0 s o b h → hA.next = n0 → o.numLevels ≥ 2 → MHLSpec P n0 s o b byMove hA)
    (h64 : o.numLevels ≥ 2 → s.n + o.n < 2 ^ 64) :
    TripleS n0 (foot (owned s ++ owned o) n0)
      (fun h => Usable P h s ∧ Usable P h o ∧ (∀ b, b ∈ owned s → b ∉ owned o) ∧ h.ids = ids0 ∧ h.next = n0 ∧
         (∀ b, b ∈ owned s → b < n0) ∧ (∀ b, b ∈ owned o → b < n0) ∧ (∀ x, x ∈ ids0 → x < n0))
      (merge s o byMove coins)
      (fun r h' => Usable P h' r.1 ∧ Inv P h' o ∧ (byMove = false → Usable P h' o) ∧ (∀ b, b ∈ owned r.1 → b ∉ owned o) ∧
         Owns h' ids0 (owned s ++ owned o) (owned r.1 ++ owned o) n0) := by
  intro h hn ⟨us, uo, dj, hid, hnx, _, _, hwf⟩
  obtain ⟨b, hb, _⟩ := us.items
  have ctx : MCtx P n0 ids0 s o b h := ⟨us, uo, dj, hid, hnx, hwf, hb⟩
  obtain ⟨hself_lt, hblt, hbself, hbi, hviewf, hof⟩ := ctx.static
  have invs := us.toInv
  have invo := uo.toInv
  have hoself : o.self ∈ owned o := mem_owned.2 (Or.inl rfl)
  have hos : o.self ≠ s.self := (hof _ hoself).2.1
  have hSs : foot (owned s ++ owned o) n0 s.self = true := foot_own (by simp [mem_owned])
  have hSo : foot (owned s ++ owned o) n0 o.self = true := foot_own (by simp [mem_owned])
  rw [merge_eq]
  by_cases hon : o.n = 0
  · rw [if_pos hon]
    apply SafeF.pure
    refine ⟨us, invo, fun _ => uo, dj, Owns.same hid (fun x hx => ?_) (fun _ => Iff.rfl)⟩
    rw [List.mem_append] at hx
    rcases hx with hx | hx
    · exact hid ▸ (invs.owned_ids x hx).1
    · exact hid ▸ (invo.owned_ids x hx).1
  rw [if_neg hon]
  by_cases hm : s.m ≠ o.m
  · rw [if_pos hm]; exact SafeF.exc _
  rw [if_neg hm]
  obtain ⟨⟨w0, hw0⟩, ⟨w1, hw1⟩⟩ := uo.mm1 hon
  have tail := fun hA (amm : AfterMM h hA s o byMove) => mergeTail_spec P hP n0 ids0 s o b h ctx byMove coins hon hA amm
    (hml b h hA ctx (by rw [amm.sb.next, hnx])) h64
  -- a step of the min/max update touches slot `i` of the two object storages, the other sketch's only when moving
  have cv : ∀ {i : Nat} (p j : Nat), (byMove = true ∧ p = o.self ∧ j = i) ∨ (p = s.self ∧ j = i) →
      p = s.self ∨ (byMove = true ∧ p = o.self) := fun _ _ x => x.elim (fun y => .inr ⟨y.1, y.2.1⟩) (fun y => .inl y.1)
  have keep : ∀ {h1 h2 : Heap} {i j : Nat} (p : Nat),
      SameBut h1 h2 (fun b' j' => (byMove = true ∧ b' = o.self ∧ j' = i) ∨ (b' = s.self ∧ j' = i)) → j ≠ i →
      stAt h2 p j = stAt h1 p j := fun p sb hne => sb.st _ _ fun x => x.elim (fun y => hne y.2.2) (fun y => hne y.2)
  by_cases hsn : s.n = 0
  · rw [if_pos hsn]
    obtain ⟨r0, r1⟩ := us.mm0 hsn
    apply vstep_fwdConstruct invo.self_cells Nat.zero_lt_two hw0 invs.self_cells Nat.zero_lt_two r0 hSo hSs
    intro h1 sb1 hd1 _
    apply vstep_fwdConstruct (sb1.cells _ _ invo.self_cells) Nat.one_lt_two ((keep _ sb1 Nat.one_ne_zero).trans hw1)
      (sb1.cells _ _ invs.self_cells) Nat.one_lt_two ((keep _ sb1 Nat.one_ne_zero).trans r1) hSo hSs
    intro h2 sb2 hd2 _
    exact tail h2 ⟨sb1.trans sb2 cv cv, ⟨w0, (keep _ sb2 Nat.zero_ne_one).trans hd1⟩, ⟨w1, hd2⟩⟩
  · rw [if_neg hsn]
    obtain ⟨⟨v0, hv0⟩, ⟨v1, hv1⟩⟩ := us.mm1 hsn
    apply vstep_read invo.self_cells Nat.zero_lt_two hw0
    apply vstep_read invs.self_cells Nat.zero_lt_two hv0
    -- after the minimum
    have jp : ∀ h1, SameBut h h1 (fun b' j => (byMove = true ∧ b' = o.self ∧ j = 0) ∨ (b' = s.self ∧ j = 0)) →
        (∃ w, stAt h1 s.self 0 = .live w) →
        SafeF (foot (owned s ++ owned o) n0) h1 (mergeMax s o byMove coins h1)
          (fun r h' => Usable P h' r.1 ∧ Inv P h' o ∧ (byMove = false → Usable P h' o) ∧
            (∀ b, b ∈ owned r.1 → b ∉ owned o) ∧ Owns h' ids0 (owned s ++ owned o) (owned r.1 ++ owned o) n0) := by
      intro h1 sb1 hl0
      have hv1' := (keep _ sb1 Nat.one_ne_zero).trans hv1
      have hw1' := (keep _ sb1 Nat.one_ne_zero).trans hw1
      unfold mergeMax
      apply vstep_read (sb1.cells _ _ invs.self_cells) Nat.one_lt_two hv1'
      apply vstep_read (sb1.cells _ _ invo.self_cells) Nat.one_lt_two hw1'
      by_cases hc : v1 < w1
      · rw [if_pos hc]
        apply vstep_fwdAssign (sb1.cells _ _ invo.self_cells) Nat.one_lt_two hw1' (sb1.cells _ _ invs.self_cells)
          Nat.one_lt_two (by rw [hv1']; exact nofun) hos hSo hSs
        intro h2 sb2 hd2
        exact tail h2 ⟨sb1.trans sb2 cv cv, hl0.imp fun w hw => (keep _ sb2 Nat.zero_ne_one).trans hw, ⟨w1, hd2⟩⟩
      · rw [if_neg hc]
        exact tail h1 ⟨sb1.mono cv, hl0, ⟨v1, hv1'⟩⟩
    by_cases hc : w0 < v0
    · rw [if_pos hc]
      apply vstep_fwdAssign invo.self_cells Nat.zero_lt_two hw0 invs.self_cells Nat.zero_lt_two
        (by rw [hv0]; exact nofun) hos hSo hSs
      intro h1 sb1 hd1
      exact jp h1 sb1 ⟨w0, hd1⟩
    · rw [if_neg hc]
      exact jp h (SameBut.refl _ _) ⟨v0, hv0⟩


/-- `merge` when the other sketch has a single level, so that `merge_higher_levels` is not called: the instance of
    `merge_gen` that needs no specification of `merge_higher_levels` (a special case of `merge_contract`). -/
theorem merge_contract_lvl1 (P : Params) (hP : P.OK) (n0 : Nat) (s o : Sketch) (byMove : Bool) (coins : List Bool)
    (ids0 : List Nat) (hlv : o.numLevels = 1) :
    TripleS n0 (foot (owned s ++ owned o) n0)
      (fun h => Usable P h s ∧ Usable P h o ∧ (∀ b, b ∈ owned s → b ∉ owned o) ∧ h.ids = ids0 ∧ h.next = n0 ∧
         (∀ b, b ∈ owned s → b < n0) ∧ (∀ b, b ∈ owned o → b < n0) ∧ (∀ x, x ∈ ids0 → x < n0))
      (merge s o byMove coins)
      (fun r h' => Usable P h' r.1 ∧ Inv P h' o ∧ (byMove = false → Usable P h' o) ∧ (∀ b, b ∈ owned r.1 → b ∉ owned o) ∧
         Owns h' ids0 (owned s ++ owned o) (owned r.1 ++ owned o) n0) :=
  merge_gen P hP n0 s o byMove coins ids0 (fun _ _ _ _ _ hge => by omega) (fun hge => by omega)

end DS.Life.Kll
