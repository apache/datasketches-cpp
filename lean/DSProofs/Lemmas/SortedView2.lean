/- Sorted view in exact arithmetic (`Rat`): the weight threshold of a quantile query, CDF and PMF. -/
import DSProofs.Lemmas.SortedView
import Mathlib.Data.Rat.Floor
import Mathlib.Algebra.Order.Field.Rat
namespace DS.SortedView

variable {α : Type}

/-- `⌈r·N⌉` (inclusive) resp. `⌊r·N⌋` (exclusive) as the code intends it -/
def quantileWeightQ (total : Nat) (r : Rat) (incl : Bool) : Nat :=
  if incl then (Int.ceil (r * total)).toNat else (Int.floor (r * total)).toNat

theorem quantileWeightQ_mono (total : Nat) {r1 r2 : Rat} (h : r1 ≤ r2) (incl : Bool) :
    quantileWeightQ total r1 incl ≤ quantileWeightQ total r2 incl := by
  have hm : r1 * total ≤ r2 * total := mul_le_mul_of_nonneg_right h (Nat.cast_nonneg total)
  cases incl
  · exact Int.toNat_le_toNat (Int.floor_le_floor hm)
  · exact Int.toNat_le_toNat (Int.ceil_le_ceil hm)

theorem quantileWeightQ_le_total (total : Nat) {r : Rat} (h1 : r ≤ 1) (incl : Bool) :
    quantileWeightQ total r incl ≤ total := by
  refine Nat.le_trans (quantileWeightQ_mono total h1 incl) (Nat.le_of_eq ?_)
  unfold quantileWeightQ
  rw [one_mul, Int.ceil_natCast, Int.floor_natCast, Int.toNat_natCast, ite_self]

theorem ratio_mono {a b t : Nat} (h : a ≤ b) : ratOps.ratio a t ≤ ratOps.ratio b t :=
  div_le_div_of_nonneg_right (Nat.cast_le.2 h) (Nat.cast_nonneg t)

theorem ratio_le_one {a t : Nat} (h : a ≤ t) : ratOps.ratio a t ≤ 1 :=
  div_le_one_of_le₀ (Nat.cast_le.2 h) (Nat.cast_nonneg t)

theorem ratio_nonneg (a t : Nat) : 0 ≤ ratOps.ratio a t := div_nonneg (Nat.cast_nonneg a) (Nat.cast_nonneg t)

theorem diffs_sum : ∀ (p : Rat) (l : List Rat), (diffs ratOps p l).sum = (l.getLast?.getD p) - p
  | p, [] => (sub_self p).symm
  | p, x :: t => by
    rw [diffs, List.sum_cons, diffs_sum x t]
    cases t with
    | nil => simp [ratOps]
    | cons y t =>
      obtain ⟨v, hv⟩ := exists_getLast? (List.cons_ne_nil y t)
      rw [List.getLast?_cons_cons, hv]
      exact sub_add_sub_cancel' x p v

theorem diffs_nonneg : ∀ (p : Rat) (l : List Rat), (p :: l).Pairwise (· ≤ ·) → ∀ d ∈ diffs ratOps p l, 0 ≤ d
  | _, [], _, _, hd => nomatch hd
  | p, x :: t, h, d, hd => by
    obtain ⟨hp, ht⟩ := List.pairwise_cons.mp h
    rcases List.mem_cons.1 hd with rfl | hd
    · exact sub_nonneg.2 (hp x List.mem_cons_self)
    · exact diffs_nonneg x t ht d hd

end DS.SortedView
