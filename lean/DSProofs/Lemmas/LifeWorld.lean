/- C19: the world of several live objects over one heap.  `ObjSpec` is what a class-level proof provides; `WorldInv.replace` is the
   effect of one framed method on the world, `put` and `put2` its instances for the object lists `step` builds. -/
import DSModel.Life.World
import DSProofs.Lemmas.LifeView
namespace DS.Life

/-- what a class-level proof provides to the world layer: the blocks an object owns, its invariant `Inv`, which a moved-from object
    keeps, and `Usable`, which every operation but destruction and assignment to it asks for; both look at the owned blocks only -/
structure ObjSpec where
  owned : Obj → List Nat
  Inv : Heap → Obj → Prop
  Usable : Heap → Obj → Prop
  usable_inv : ∀ {h o}, Usable h o → Inv h o
  inv_local : ∀ {h h' o}, (∀ b, b ∈ owned o → h'.find? b = h.find? b) → h.next ≤ h'.next → Inv h o → Inv h' o
  usable_local : ∀ {h h' o}, (∀ b, b ∈ owned o → h'.find? b = h.find? b) → h.next ≤ h'.next → Usable h o → Usable h' o
  owned_ids : ∀ {h o}, Inv h o → ∀ b, b ∈ owned o → b ∈ h.ids ∧ b < h.next

/-- every object satisfies its invariant, the objects own pairwise disjoint blocks, and every block of the heap is owned by
    some object -/
structure WorldInv (sp : ObjSpec) (w : World) : Prop where
  wf : w.heap.WF
  nodup : (w.objs.map (·.id)).Nodup
  inv : ∀ e, e ∈ w.objs → sp.Inv w.heap e.obj ∧ (e.usable = true → sp.Usable w.heap e.obj)
  owner : ∀ b, b ∈ w.heap.ids → ∃ e, e ∈ w.objs ∧ b ∈ sp.owned e.obj
  disj : ∀ e1 e2, e1 ∈ w.objs → e2 ∈ w.objs → e1.id ≠ e2.id → ∀ b, b ∈ sp.owned e1.obj → b ∉ sp.owned e2.obj

section
variable {sp : ObjSpec} {w : World}

theorem WorldInv.init (sp : ObjSpec) : WorldInv sp World.init :=
  ⟨⟨.nil, (fun _ h => nomatch h)⟩, .nil, (fun _ h => nomatch h), (fun _ h => nomatch h), (fun _ _ h => nomatch h)⟩

theorem World.lookup_mem {id : Nat} {e : Entry} (hl : w.lookup id = some e) : e ∈ w.objs ∧ e.id = id :=
  ⟨List.mem_of_find?_eq_some hl, by simpa using List.find?_some hl⟩

theorem World.lookup_none {id : Nat} (hl : w.lookup id = none) : ∀ e, e ∈ w.objs → e.id ≠ id :=
  fun e he => by simpa using List.find?_eq_none.1 hl e he

theorem WorldInv.unique (hw : WorldInv sp w) {e1 e2 : Entry} (h1 : e1 ∈ w.objs) (h2 : e2 ∈ w.objs) (hid : e1.id = e2.id) :
    e1 = e2 :=
  have p := List.pairwise_map.1 hw.nodup
  List.Pairwise.forall_of_forall_of_flip (R := fun a b : Entry => a.id = b.id → a = b) (fun _ _ _ => rfl)
    (p.imp fun h e => absurd e h) (p.imp fun h e => absurd e.symm h) h1 h2 hid

theorem WorldInv.owned_lt (hw : WorldInv sp w) {e : Entry} (he : e ∈ w.objs) : ∀ b, b ∈ sp.owned e.obj → b < w.heap.next :=
  fun b hb => (sp.owned_ids (hw.inv e he).1 b hb).2

theorem WorldInv.blocks_nil (hw : WorldInv sp w) (hnone : w.objs = []) : w.heap.blocks = [] := by
  cases hb : w.heap.blocks with
  | nil => rfl
  | cons B Bs =>
    obtain ⟨e, he, _⟩ := hw.owner B.id (by simp [Heap.ids, hb])
    exact nomatch hnone ▸ he

/-- the hypothesis `hown0` of `WorldInv.replace` below, which spells it out; built up id by id: of a new object (`fresh`) or of
    an object of the world (`cons`, `one`) -/
def OwnedBy (sp : ObjSpec) (w : World) (drop own0 : List Nat) : Prop :=
  ∀ b, b ∈ own0 ↔ ∃ e, e ∈ w.objs ∧ e.id ∈ drop ∧ b ∈ sp.owned e.obj

theorem OwnedBy.nil : OwnedBy sp w [] [] := fun _ => ⟨(fun h => nomatch h), fun ⟨_, _, hd, _⟩ => nomatch hd⟩

theorem OwnedBy.fresh {drop own0 : List Nat} {id : Nat} (hf : ∀ e, e ∈ w.objs → e.id ≠ id) (o : OwnedBy sp w drop own0) :
    OwnedBy sp w (id :: drop) own0 := fun b =>
  (o b).trans ⟨fun ⟨e, he, hd, hb⟩ => ⟨e, he, .tail _ hd, hb⟩,
    fun ⟨e, he, hd, hb⟩ => ⟨e, he, (List.mem_cons.1 hd).resolve_left (hf e he), hb⟩⟩

theorem OwnedBy.cons {drop own0 : List Nat} (hw : WorldInv sp w) (e : Entry) (he : e ∈ w.objs) (o : OwnedBy sp w drop own0) :
    OwnedBy sp w (e.id :: drop) (sp.owned e.obj ++ own0) := by
  intro b
  rw [List.mem_append, o b]
  constructor
  · rintro (hb | ⟨e', he', hd, hb⟩)
    · exact ⟨e, he, .head _, hb⟩
    · exact ⟨e', he', .tail _ hd, hb⟩
  · rintro ⟨e', he', hd, hb⟩
    rcases List.mem_cons.1 hd with hid | hd
    · exact .inl (hw.unique he' he hid ▸ hb)
    · exact .inr ⟨e', he', hd, hb⟩

theorem OwnedBy.one (hw : WorldInv sp w) (e : Entry) (he : e ∈ w.objs) : OwnedBy sp w [e.id] (sp.owned e.obj) :=
  List.append_nil (sp.owned e.obj) ▸ OwnedBy.cons hw e he .nil

end

/-- the effect of one framed method on the world: the entries whose id is in `drop` are replaced by `news` -/
theorem WorldInv.replace (sp : ObjSpec) {w : World} (hw : WorldInv sp w) (drop : List Nat) (news : List Entry) (h' : Heap)
    (own0 : List Nat)
    (hown0 : ∀ b, b ∈ own0 ↔ ∃ e, e ∈ w.objs ∧ e.id ∈ drop ∧ b ∈ sp.owned e.obj)
    (hfr : Frame (foot own0 w.heap.next) w.heap h')
    (hnews_ids : ∀ e, e ∈ news → e.id ∈ drop)
    (hnews_nodup : (news.map (·.id)).Nodup)
    (hnews_inv : ∀ e, e ∈ news → sp.Inv h' e.obj ∧ (e.usable = true → sp.Usable h' e.obj))
    (howns : Owns h' w.heap.ids own0 (news.flatMap (fun e => sp.owned e.obj)) w.heap.next)
    (hnews_disj : ∀ e1 e2, e1 ∈ news → e2 ∈ news → e1.id ≠ e2.id → ∀ b, b ∈ sp.owned e1.obj → b ∉ sp.owned e2.obj) :
    WorldInv sp { heap := h', objs := news ++ w.objs.filter (fun e => decide (e.id ∉ drop)) } := by
  -- a kept object owns old blocks outside `own0`: the run did not touch them and the new objects do not own them
  have hkept : ∀ e, e ∈ w.objs → e.id ∉ drop → ∀ b, b ∈ sp.owned e.obj → b ∉ own0 ∧ b < w.heap.next := by
    refine fun e he hd b hb => ⟨fun hm => ?_, hw.owned_lt he b hb⟩
    obtain ⟨e', he', hd', hb'⟩ := (hown0 b).1 hm
    exact hw.disj e' e he' he (fun x => hd (x ▸ hd')) b hb' hb
  have hfind : ∀ e, e ∈ w.objs → e.id ∉ drop → ∀ b, b ∈ sp.owned e.obj → h'.find? b = w.heap.find? b :=
    fun e he hd b hb => find?_of_Out _ _ _ hfr.1 b (foot_old (hkept e he hd b hb).1 (hkept e he hd b hb).2)
  have hnew_old : ∀ e1 e2, e1 ∈ news → e2 ∈ w.objs → e2.id ∉ drop → ∀ b, b ∈ sp.owned e1.obj → b ∉ sp.owned e2.obj :=
    fun e1 e2 he1 he2 hd b hb1 hb2 => (howns.fresh b (List.mem_flatMap.2 ⟨e1, he1, hb1⟩)).elim
      (hkept e2 he2 hd b hb2).1 (Nat.not_le_of_lt (hkept e2 he2 hd b hb2).2)
  have hmem : ∀ {e}, e ∈ news ++ w.objs.filter (fun e => decide (e.id ∉ drop)) ↔ e ∈ news ∨ e ∈ w.objs ∧ e.id ∉ drop := by
    simp [List.mem_filter]
  refine ⟨hfr.2.2 hw.wf, ?_, fun e he => ?_, fun b hb => ?_, fun e1 e2 he1 he2 hne b hb1 => ?_⟩
  · rw [List.map_append, List.nodup_append]
    refine ⟨hnews_nodup, hw.nodup.sublist (List.filter_sublist.map _), fun a ha b hb heq => ?_⟩
    obtain ⟨e1, he1, rfl⟩ := List.mem_map.1 ha
    obtain ⟨e2, he2, rfl⟩ := List.mem_map.1 hb
    exact (List.mem_filter.1 he2).2 |> of_decide_eq_true <| heq ▸ hnews_ids e1 he1
  · rcases hmem.1 he with he | ⟨he, hd⟩
    · exact hnews_inv e he
    · exact ⟨sp.inv_local (hfind e he hd) hfr.2.1 (hw.inv e he).1,
        fun hu => sp.usable_local (hfind e he hd) hfr.2.1 ((hw.inv e he).2 hu)⟩
  · rcases (howns.ids b).1 hb with ⟨hb0, hno⟩ | hnew
    · obtain ⟨e, he, hbe⟩ := hw.owner b hb0
      exact ⟨e, hmem.2 (.inr ⟨he, fun hd => hno ((hown0 b).2 ⟨e, he, hd, hbe⟩)⟩), hbe⟩
    · obtain ⟨e, he, hbe⟩ := List.mem_flatMap.1 hnew
      exact ⟨e, hmem.2 (.inl he), hbe⟩
  · rcases hmem.1 he1 with he1 | ⟨he1, hd1⟩ <;> rcases hmem.1 he2 with he2 | ⟨he2, hd2⟩
    · exact hnews_disj e1 e2 he1 he2 hne b hb1
    · exact hnew_old e1 e2 he1 he2 hd2 b hb1
    · exact fun hb2 => hnew_old e2 e1 he2 he1 hd1 b hb2 hb1
    · exact hw.disj e1 e2 he1 he2 hne b hb1

theorem put_eq (objs : List Entry) (e : Entry) :
    World.put objs e = [e] ++ objs.filter (fun x => decide (x.id ∉ ([e.id] : List Nat))) := by
  simp [World.put, bne, Bool.beq_eq_decide_eq]

theorem put_put_eq (objs : List Entry) (e1 e2 : Entry) (hne : e1.id ≠ e2.id) :
    World.put (World.put objs e2) e1 = [e1, e2] ++ objs.filter (fun x => decide (x.id ∉ ([e1.id, e2.id] : List Nat))) := by
  simp [World.put, bne, Bool.beq_eq_decide_eq, Ne.symm hne, List.filter_filter]

theorem remove_eq (w : World) (id : Nat) :
    w.remove id = [] ++ w.objs.filter (fun x => decide (x.id ∉ ([id] : List Nat))) := by
  simp [World.remove, bne, Bool.beq_eq_decide_eq]

variable {sp : ObjSpec} {w : World}

theorem WorldInv.put (hw : WorldInv sp w) (e' : Entry) (h' : Heap) (own0 : List Nat)
    (hown0 : OwnedBy sp w [e'.id] own0)
    (hfr : Frame (foot own0 w.heap.next) w.heap h')
    (hi : sp.Inv h' e'.obj ∧ (e'.usable = true → sp.Usable h' e'.obj))
    (ow : Owns h' w.heap.ids own0 (sp.owned e'.obj) w.heap.next) :
    WorldInv sp { heap := h', objs := World.put w.objs e' } :=
  put_eq w.objs e' ▸ hw.replace sp [e'.id] [e'] h' own0 hown0 hfr (fun _ => List.mem_map_of_mem) (List.pairwise_singleton _ _)
    (fun _ he => List.mem_singleton.1 he ▸ hi) (by simpa using ow)
    (fun _ _ h1 h2 hne => absurd (List.mem_singleton.1 h2 ▸ List.mem_singleton.1 h1 ▸ rfl) hne)

theorem WorldInv.put2 (hw : WorldInv sp w) (e1 e2 : Entry) (hne : e1.id ≠ e2.id) (h' : Heap)
    (own0 : List Nat) (hown0 : OwnedBy sp w [e1.id, e2.id] own0)
    (hfr : Frame (foot own0 w.heap.next) w.heap h')
    (hi1 : sp.Inv h' e1.obj ∧ (e1.usable = true → sp.Usable h' e1.obj))
    (hi2 : sp.Inv h' e2.obj ∧ (e2.usable = true → sp.Usable h' e2.obj))
    (dj : ∀ b, b ∈ sp.owned e1.obj → b ∉ sp.owned e2.obj)
    (ow : Owns h' w.heap.ids own0 (sp.owned e1.obj ++ sp.owned e2.obj) w.heap.next) :
    WorldInv sp { heap := h', objs := World.put (World.put w.objs e2) e1 } := by
  have hmem : ∀ {e}, e ∈ [e1, e2] → e = e1 ∨ e = e2 := by simp
  refine put_put_eq w.objs e1 e2 hne ▸ hw.replace sp [e1.id, e2.id] [e1, e2] h' own0 hown0 hfr (fun _ => List.mem_map_of_mem)
    (by simpa using hne) (fun e he => ?_) (by simpa using ow) (fun a b ha hb hab x hx => ?_)
  · rcases hmem he with rfl | rfl
    · exact hi1
    · exact hi2
  · rcases hmem ha with rfl | rfl <;> rcases hmem hb with rfl | rfl
    · exact absurd rfl hab
    · exact dj x hx
    · exact fun hx2 => dj x hx2 hx
    · exact absurd rfl hab

end DS.Life
