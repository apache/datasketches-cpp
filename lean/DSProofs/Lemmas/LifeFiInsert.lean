/- C19 / FI: key sources (`KeySrc`: a temporary, a slot copied from, a slot moved from), the probe loop and
   `adjust_or_insert` on a table that does not grow. -/
import DSProofs.Lemmas.LifeFiTable
namespace DS.Life.Fi
open DS.Life

/-- block `b` is as before except that cell `i` may have become moved-from -/
structure MovedAt (h h' : Heap) (b i : Nat) : Prop where
  count : h'.count? b = h.count? b
  word : ∀ j, wordAt h' b j = wordAt h b j
  other : ∀ j, j ≠ i → stAt h' b j = stAt h b j
  cell : stAt h' b i = stAt h b i ∨ stAt h' b i = .moved

theorem MovedAt.of_eq {h h' : Heap} {b : Nat} (i : Nat) (e : h'.find? b = h.find? b) : MovedAt h h' b i :=
  ⟨count?_congr e, fun j => wordAt_congr e j, fun j _ => stAt_congr e j, Or.inl (stAt_congr e i)⟩

theorem MovedAt.trans {h1 h2 h3 : Heap} {b i : Nat} (a : MovedAt h1 h2 b i) (c : MovedAt h2 h3 b i) : MovedAt h1 h3 b i := by
  refine ⟨c.count.trans a.count, fun j => (c.word j).trans (a.word j), fun j hj => (c.other j hj).trans (a.other j hj), ?_⟩
  rcases c.cell with e | e
  · rcases a.cell with e' | e'
    · exact Or.inl (e.trans e')
    · exact Or.inr (e.trans e')
  · exact Or.inr e

theorem MovedAt.of_upd {h h' : Heap} {b i : Nat} {c : Cell} (hc : h.cell? b i = some c)
    (up : Upd h h' b i { c with st := .moved }) : MovedAt h h' b i :=
  ⟨up.count, fun j => up.wordAt_same hc rfl b j, fun _ hj => up.stAt_ne (fun hh => hj hh.2), Or.inr up.stAt_eq⟩

/-- the block outside the map that the insertion writes: the one the key is moved from, if any -/
def srcBlk : KeySrc → List Nat
  | .moveOf b _ => [b]
  | _ => []

/-- `x` is the value of the key object that `src` names.  Here and in `SrcOK` the arms `copyOf` and `moveOf` agree: the two differ
    only in what the insertion does to the source (`srcBlk`, `SrcPost`) -/
def SrcVal (h : Heap) : KeySrc → Nat → Prop
  | .ext v, x => x = v
  | .copyOf b i, x => stAt h b i = .live x
  | .moveOf b i, x => stAt h b i = .live x

/-- precondition on the key's source: a live object in a block that is none of `own`, the map's own arrays -/
def SrcOK (h : Heap) (own : List Nat) : KeySrc → Prop
  | .ext _ => True
  | .copyOf b i => b ∉ own ∧ ∃ x, stAt h b i = .live x
  | .moveOf b i => b ∉ own ∧ ∃ x, stAt h b i = .live x

/-- postcondition on the key's source: a slot moved from may be moved-from afterwards, nothing else of its block changes -/
def SrcPost (h h' : Heap) : KeySrc → Prop
  | .moveOf b i => MovedAt h h' b i
  | _ => True

theorem SrcOK.val {h : Heap} {own : List Nat} {src : KeySrc} (hs : SrcOK h own src) : ∃ x, SrcVal h src x := by
  cases src with
  | ext v => exact ⟨v, rfl⟩
  | copyOf b i | moveOf b i => exact hs.2

theorem SrcOK.notOwn {h : Heap} {own : List Nat} {src : KeySrc} (hs : SrcOK h own src) : ∀ b, b ∈ srcBlk src → b ∉ own := by
  cases src with
  | ext v | copyOf b i => intro b hb; cases hb
  | moveOf b i =>
    intro b' hb
    simp only [srcBlk, List.mem_cons, List.not_mem_nil, or_false] at hb
    rw [hb]; exact hs.1

theorem SrcOK.congr {h h' : Heap} {own : List Nat} {src : KeySrc} (hs : SrcOK h own src)
    (e : ∀ b, b ∉ own → h'.find? b = h.find? b) : SrcOK h' own src := by
  cases src with
  | ext v => trivial
  | copyOf b i | moveOf b i => exact ⟨hs.1, by simpa only [stAt_congr (e b hs.1)] using hs.2⟩

theorem SrcVal.congr {h h' : Heap} {own : List Nat} {src : KeySrc} {x : Nat} (hs : SrcOK h own src) (hv : SrcVal h src x)
    (e : ∀ b, b ∉ own → h'.find? b = h.find? b) : SrcVal h' src x := by
  cases src with
  | ext v => exact hv
  | copyOf b i | moveOf b i => simpa only [SrcVal, stAt_congr (e b hs.1)] using hv

theorem keyValue_ok {h : Heap} {src : KeySrc} {x : Nat} (hv : SrcVal h src x) : keyValue src h = .ok (x, h) := by
  cases src with
  | ext v => cases hv; rfl
  | copyOf b i | moveOf b i =>
    obtain ⟨c, ec, est, _⟩ := cell_of_stAt_ne_raw (h := h) (b := b) (i := i) (by rw [show stAt h b i = .live x from hv]; simp)
    exact read_ok ec (by rw [est]; exact hv)

theorem SrcPost.of_find? {h h' : Heap} {src : KeySrc} (e : ∀ b, b ∈ srcBlk src → h'.find? b = h.find? b) :
    SrcPost h h' src := by
  cases src with
  | ext v | copyOf b i => trivial
  | moveOf b i => exact MovedAt.of_eq i (e b (by simp [srcBlk]))

theorem SrcPost.trans {h1 h2 h3 : Heap} {src : KeySrc} (a : SrcPost h1 h2 src) (c : SrcPost h2 h3 src) : SrcPost h1 h3 src := by
  cases src with
  | ext v | copyOf b i => trivial
  | moveOf b i => exact MovedAt.trans a c

/-- forwarding the key (heap `hm`) leaves a moved-from source at most -/
theorem placeKey_step {β} {S} {h : Heap} {k idx : Nat} {src : KeySrc} {x : Nat} {c : Cell} {f : Unit → M β}
    {Q : β → Heap → Prop} (hval : SrcVal h src x) (hne : ∀ b, b ∈ srcBlk src → b ≠ k) (hc : h.cell? k idx = some c)
    (hr : c.st = .raw) (hSk : S k = true) (hSb : ∀ b, b ∈ srcBlk src → S b = true)
    (s : ∀ hm h', SameOutside (srcBlk src) h hm → SrcPost h hm src → Upd hm h' k idx { c with st := .live x } →
      SafeF S h' (f () h') Q) :
    SafeF S h ((placeKey k idx src >>= f) h) Q := by
  cases src with
  | ext v =>
    cases hval
    exact stepR_construct _ hc hr hSk (fun h' up => s h h' (SameOutside.refl _ _) trivial up)
  | copyOf b i =>
    show SafeF S h ((copyConstruct b i k idx >>= f) h) Q
    rw [copyConstruct_bind]
    apply vstep_readLive hval
    exact stepR_construct _ hc hr hSk (fun h' up => s h h' (SameOutside.refl _ _) trivial up)
  | moveOf b i =>
    obtain ⟨cb, ecb, est, _⟩ := cell_of_stAt_ne_raw (h := h) (b := b) (i := i) (by rw [show stAt h b i = .live x from hval]; simp)
    show SafeF S h ((moveConstruct b i k idx >>= f) h) Q
    rw [moveConstruct_bind]
    apply stepR_moveFrom ecb (by rw [est]; exact hval) (hSb b (by simp [srcBlk]))
    intro hm up
    have hkb : k ≠ b := fun e => hne b (by simp [srcBlk]) e.symm
    have hc' : hm.cell? k idx = some c := by rw [up.cell_ne (fun hh => hkb hh.1)]; exact hc
    exact stepR_construct _ hc' hr hSk (fun h' up' => s hm h' (up.sameOutside (.head _)) (MovedAt.of_upd ecb up) up')

theorem probeLoop_spec (P : Params) (S : Nat → Bool) (k v s n kv value : Nat) (hSv : S v = true) (h : Heap)
    (T : Tbl true [] h k v s n) :
    ∀ f index drift, index < n → 1 ≤ drift →
      SafeF S h (probeLoop P k v s n kv value f index drift h)
        (fun r h' => r.1 < n ∧ 1 ≤ r.2.2 ∧ SameOutside [v] h h' ∧ Tbl true [] h' k v s n ∧
          (r.2.1 = true → h' = h ∧ wordAt h s r.1 = 0)) := by
  intro f
  induction f with
  | zero => intro index drift _ _; exact SafeF.exc _
  | succ f ih =>
    intro index drift hi hd
    rw [probeLoop]
    apply vstep_readWord T.cs hi
    by_cases hw : wordAt h s index > 0
    · rw [if_pos hw]
      obtain ⟨x, hx⟩ := (T.slot index hi List.not_mem_nil).live_of_pos hw
      apply vstep_readLive hx
      by_cases hkk : x = kv
      · rw [if_pos hkk]
        obtain ⟨cv, ecv⟩ := T.cv.cell hi
        apply step_readWord ecv
        apply stepR_writeWord _ ecv hSv
        intro h' up
        exact SafeF.pure ⟨hi, hd, up.sameOutside (by simp), T.upd up (.inr (stAt_of ecv).symm) (.inl rfl), fun hh => by cases hh⟩
      · rw [if_neg hkk]
        by_cases hdl : drift + 1 ≥ P.driftLimit
        · rw [if_pos hdl]; exact SafeF.exc _
        · rw [if_neg hdl]
          exact ih _ _ (Nat.mod_lt _ (Nat.zero_lt_of_lt hi)) (Nat.le_add_left 1 drift)
    · rw [if_neg hw]
      exact SafeF.pure ⟨hi, hd, SameOutside.refl _ _, T, fun _ => ⟨rfl, Nat.eq_zero_of_not_pos hw⟩⟩

theorem adjustOrInsertNoGrow_spec (P : Params) (n0 : Nat) (S : Nat → Bool) (m : Map) (src : KeySrc) (value : Nat)
    (hS : ∀ b, b ∈ owned m ++ srcBlk src → S b = true) (h0 : Heap) :
    TripleS n0 S (fun h => h = h0 ∧ Usable P h m ∧ SrcOK h (owned m) src)
      (adjustOrInsertNoGrow P m src value)
      (fun r h' => Usable P h' r.1 ∧ (∃ na', r.1 = { m with numActive := na' }) ∧
        SameOutside (owned m ++ srcBlk src) h0 h' ∧ SrcPost h0 h' src) := by
  intro h hn ⟨he, hu, hsrc⟩
  subst he
  obtain ⟨k, v, s, hk, hv, hs, ho, T, hc⟩ := Usable.ptrs hu
  rw [ho] at hS hsrc ⊢
  have mk : k ∈ [k, v, s] ++ srcBlk src := List.mem_append_left _ (.head _)
  have mv : v ∈ [k, v, s] ++ srcBlk src := List.mem_append_left _ (.tail _ (.head _))
  have ms : s ∈ [k, v, s] ++ srcBlk src := List.mem_append_left _ (.tail _ (.tail _ (.head _)))
  have hSk := hS k mk
  have hSv := hS v mv
  have hSs := hS s ms
  have hsrcNot := hsrc.notOwn
  have hne : ∀ b, b ∈ srcBlk src → b ≠ k ∧ b ≠ v ∧ b ≠ s := fun b hb => by simpa using hsrcNot b hb
  unfold adjustOrInsertNoGrow
  rw [hk, hv, hs]
  apply step_deref
  apply step_deref
  apply step_deref
  obtain ⟨x, hx⟩ := hsrc.val
  apply SafeF.bind_ok (keyValue_ok hx) (Frame.refl _ _)
  apply SafeF.bind (probeLoop_spec P S k v s (2 ^ m.lgCur) x value hSv h T (2 ^ m.lgCur) _ 1
    (Nat.mod_lt _ (Nat.pow_pos Nat.zero_lt_two)) (Nat.le_refl _))
  intro r h1 ⟨hr1, hr2, sb1, T1, hnew⟩ _
  by_cases hb : r.2.1 = true
  · rw [if_pos hb]
    obtain ⟨e1, hw0⟩ := hnew hb
    subst e1
    by_cases hcap : m.numActive > getCapacity P m.lgCur
    · rw [if_pos hcap]; exact SafeF.exc _
    · rw [if_neg hcap]
      -- values_[index] = value
      obtain ⟨cv, ecv⟩ := T.cv.cell hr1
      apply stepR_writeWord value ecv hSv
      intro h2 u2
      have T2 : Tbl true [r.1] h2 k v s (2 ^ m.lgCur) := (T.upd u2 (.inr (stAt_of ecv).symm) (.inl rfl)).exempt (fun _ hj => nomatch hj)
      -- states_[index] = drift
      obtain ⟨cs, ecs, _, ests⟩ := T2.cs.cell_st hr1
      apply stepR_writeWord r.2.2 ecs hSs
      intro h3 u3
      have T3 := T2.upd u3 (.inr ests) (.inr (.head _))
      -- new (&keys_[index]) K(std::forward<FwdK>(key))
      have hx3 : SrcVal h3 src x := by
        refine SrcVal.congr hsrc hx (fun b hb => ?_)
        simp only [List.mem_cons, List.not_mem_nil, or_false, not_or] at hb
        rw [u3.out b hb.2.2, u2.out b hb.2.1]
      obtain ⟨ck, eck, _, estk⟩ := T3.ck.cell_st hr1
      have hraw : ck.st = .raw := estk.trans ((u3.stAt_blk T.ks _).trans ((u2.stAt_blk T.kv _).trans
        ((T.slot r.1 hr1 List.not_mem_nil).raw_of_zero hw0)))
      apply placeKey_step hx3 (fun b hb => (hne b hb).1) eck hraw hSk (fun b hb => hS b (List.mem_append_right _ hb))
      intro hm h4 hsb hpost u4
      apply SafeF.pure
      have es_m : hm.find? s = h3.find? s := hsb.out s (fun hb => (hne s hb).2.2 rfl)
      have T4 := (T3.sameOutside hsb (fun b hb hm => hsrcNot b hm hb)).upd u4 (.inl rfl) (.inr (.head _))
      have hword : wordAt h4 s r.1 = r.2.2 :=
        (u4.wordAt_blk T.ks.symm _).trans ((wordAt_congr es_m _).trans u3.wordAt_eq)
      have T5 : Tbl true [] h4 k v s (2 ^ m.lgCur) :=
        T4.close (fun j hj _ => List.mem_singleton.1 hj ▸ SlotOK.active (x := x) (by rw [hword]; exact hr2) u4.stAt_eq)
      have hcnt : cnt (act h4 s) (2 ^ m.lgCur) = m.numActive + 1 := by
        rw [act_congr (u4.out s T.ks.symm), act_congr es_m, cnt_upd_on u3 hr1 ((u2.wordAt_blk T.vs.symm _).trans hw0) hr2,
          act_congr (u2.out s T.vs.symm), hc]
      refine ⟨?_, ⟨_, rfl⟩, ?_, ?_⟩
      · exact InvG.mk_some rfl rfl rfl hu.lg (Nat.succ_le_succ (Nat.le_of_not_gt hcap)) T5 hcnt.symm
      · exact (((u2.sameOutside mv).trans (u3.sameOutside ms)).trans
          (hsb.mono (fun b hb => List.mem_append_right _ hb))).trans (u4.sameOutside mk)
      · have p3 : SrcPost h1 h3 src :=
          SrcPost.of_find? (fun b hb => (u3.out b (hne b hb).2.2).trans (u2.out b (hne b hb).2.1))
        have p4 : SrcPost hm h4 src := SrcPost.of_find? (fun b hb => u4.out b (hne b hb).1)
        exact (p3.trans hpost).trans p4
  · rw [if_neg hb]
    apply SafeF.pure
    have es : h1.find? s = h.find? s := sb1.out s (fun e => T.vs (List.mem_singleton.1 e).symm)
    refine ⟨?_, ⟨m.numActive, by rw [← hk, ← hv, ← hs]⟩, sb1.mono (fun b hb => List.mem_singleton.1 hb ▸ mv), ?_⟩
    · exact InvG.mk_some hk hv hs hu.lg hu.cap T1 (by rw [act_congr es]; exact hc)
    · exact SrcPost.of_find? (fun b hb => sb1.out b (fun e => (hne b hb).2.1 (List.mem_singleton.1 e)))

end DS.Life.Fi
