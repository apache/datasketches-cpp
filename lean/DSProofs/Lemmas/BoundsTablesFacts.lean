/- C06: from the kernel-decided facts about the generated tables (DSProofs/Gen/BoundsTables.lean, stated on exact
   numerators/denominators) to inequalities in an arbitrary ordered field, in the shape the theorems consume. -/
import DSProofs.Lemmas.BoundsBinomialMono
import DSProofs.Gen.BoundsTables
import DSModel.Bounds.GenTables
namespace DS.Bounds
set_option linter.unusedSectionVars false
open DS.Bounds.Gen

variable {K : Type} [Field K] [LinearOrder K] [IsStrictOrderedRing K]

theorem denPos_cast {t : Lit} (h : denPos t = true) : (0 : K) < ((t.2.2 : Nat) : K) :=
  Nat.cast_pos.2 (of_decide_eq_true h)

theorem litK_lt_of_qlt {a b : Lit} (h : qlt a b = true) : (litK a : K) < litK b := by
  simp only [qlt, Bool.and_eq_true, Gen.num, Gen.den] at h
  exact (div_lt_div_iff₀ (denPos_cast (K := K) h.1.1) (denPos_cast (K := K) h.1.2)).2 (by exact_mod_cast of_decide_eq_true h.2)

theorem litK_le_of_qle {a b : Lit} (h : qle a b = true) : (litK a : K) ≤ litK b := by
  simp only [qle, Bool.and_eq_true, Gen.num, Gen.den] at h
  exact (div_le_div_iff₀ (denPos_cast (K := K) h.1.1) (denPos_cast (K := K) h.1.2)).2 (by exact_mod_cast of_decide_eq_true h.2)

theorem litK_pos_of_qpos {a : Lit} (h : qpos a = true) : (0 : K) < litK a := by
  simp only [qpos, Bool.and_eq_true, Gen.num] at h
  exact div_pos (Int.cast_pos.2 (of_decide_eq_true h.2)) (denPos_cast h.1)

theorem qpos_denPos {t : Lit} (h : qpos t = true) : denPos t = true := (Bool.and_eq_true _ _ ▸ h).1

theorem three_litK_sq_lt {t : Lit} {b : Nat} (hd : denPos t = true) (h : 9 * Gen.num t * Gen.num t < b * Gen.den t * Gen.den t) :
    (3 * litK t) * (3 * litK t) < (b : K) := by
  have dpos := denPos_cast (K := K) hd
  have h' : 9 * (t.2.1 : K) * t.2.1 < b * ((t.2.2 : Nat) : K) * ((t.2.2 : Nat) : K) := by exact_mod_cast h
  rw [litK, show 3 * ((t.2.1 : K) / (t.2.2 : Nat)) * (3 * ((t.2.1 : K) / (t.2.2 : Nat))) =
    9 * t.2.1 * t.2.1 / ((t.2.2 : Nat) * (t.2.2 : Nat)) by ring, div_lt_iff₀ (mul_pos dpos dpos), ← mul_assoc]
  exact h'

theorem litK_neg_of_qneg {a : Lit} (h : qneg a = true) : (litK a : K) < 0 := by
  simp only [qneg, Bool.and_eq_true, Gen.num] at h
  exact div_neg_of_neg_of_pos (Int.cast_lt_zero.2 (of_decide_eq_true h.2)) (denPos_cast h.1)

theorem litK_m1 : (litK Gen.m1 : K) = -1 := by simp [litK, Gen.m1]

/-- serves the HLL lower-bound rel-err tables and BOTH equivalence tables of binomial_bounds.hpp (`Gen.lbEquiv_rows` /
    `Gen.ubEquiv_rows` state the same Boolean shape as `rowLbOk`).  The Gen obligations read a table by `Gen.at' t i`, which unfolds
    to `t.getD i (0, 0, 1)`: the form in which `tget_eq` leaves the model's table reads, and in which this lemma and the next answer. -/
theorem rowPosInc_facts {t : List Lit} {r : Nat} (h : rowLbOk t r = true) : ∀ j, j < 3 →
    (0 : K) < litK (t.getD (3 * r + j) (0, 0, 1)) ∧
    (j + 1 < 3 → (litK (t.getD (3 * r + j) (0, 0, 1)) : K) < litK (t.getD (3 * r + (j + 1)) (0, 0, 1))) := by
  unfold rowLbOk at h
  simp only [Bool.and_eq_true] at h
  obtain ⟨⟨p, q⟩, r'⟩ := h
  have a0 := litK_pos_of_qpos (K := K) p
  have a1 := litK_lt_of_qlt (K := K) q
  have a2 := litK_lt_of_qlt (K := K) r'
  intro j hj
  match j with
  | 0 => exact ⟨a0, fun _ => a1⟩
  | 1 => exact ⟨a0.trans a1, fun _ => a2⟩
  | 2 => exact ⟨(a0.trans a1).trans a2, fun h => absurd h (by decide)⟩

theorem rowNegDec_facts {t : List Lit} {r : Nat} (h : rowUbOk t r = true) : ∀ j, j < 3 →
    (-1 : K) < litK (t.getD (3 * r + j) (0, 0, 1)) ∧ (litK (t.getD (3 * r + j) (0, 0, 1)) : K) < 0 ∧
    (j + 1 < 3 → (litK (t.getD (3 * r + (j + 1)) (0, 0, 1)) : K) < litK (t.getD (3 * r + j) (0, 0, 1))) := by
  unfold rowUbOk at h
  simp only [Bool.and_eq_true] at h
  obtain ⟨⟨⟨p, q⟩, r'⟩, s⟩ := h
  have a0 := litK_neg_of_qneg (K := K) p
  have a1 := litK_lt_of_qlt (K := K) q
  have a2 := litK_lt_of_qlt (K := K) r'
  have a3 := litK_m1 (K := K) ▸ litK_lt_of_qlt (K := K) s
  intro j hj
  match j with
  | 0 => exact ⟨(a3.trans a2).trans a1, a0, fun _ => a1⟩
  | 1 => exact ⟨a3.trans a2, a1.trans a0, fun _ => a2⟩
  | 2 => exact ⟨a3, (a2.trans a1).trans a0, fun h => absurd h (by decide)⟩

theorem equivRowsOK_of_rows {t : List Lit} (h : ∀ n, n < 121 → 1 ≤ n → rowLbOk t n = true) : EquivRowsOK K t :=
  fun n k hn1 hn2 hk1 hk3 => by
    obtain ⟨p, q⟩ := rowPosInc_facts (K := K) (h n (by omega) hn1) (k - 1) (by omega)
    rw [show 3 * n + k = 3 * n + (k - 1 + 1) by omega]
    exact ⟨p.le, (q (by omega)).le⟩

theorem binomT_ok : BinomTablesOK K binomT where
  delta_pos := by
    intro k h1 h3
    have := Gen.delta_indexed k (by omega) h1
    simp only [Bool.and_eq_true] at this
    obtain ⟨⟨p, q⟩, _⟩ := this
    have q' := litK_lt_of_qlt (K := K) q
    rw [litK_c1] at q'
    exact ⟨litK_pos_of_qpos p, q'⟩
  delta_dec := by
    intro k h1 h3
    have := Gen.delta_indexed k (by omega) h1
    simp only [Bool.and_eq_true, Bool.or_eq_true, decide_eq_true_eq] at this
    obtain ⟨_, r⟩ := this
    rcases r with r | r
    · omega
    · exact litK_lt_of_qlt r
  lb_row := equivRowsOK_of_rows Gen.lbEquiv_rows.2
  ub_row := equivRowsOK_of_rows Gen.ubEquiv_rows.2

end DS.Bounds
