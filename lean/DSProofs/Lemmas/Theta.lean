/- Key-sorted entry lists `List (Nat × σ)`.  One is determined by its members (`sorted_ext_kv`); most facts about one
are read off either membership or `lookup`. -/
import DSModel.Theta.SetOps
import Batteries.Data.List.Perm
import DSProofs.Lemmas.ListAux
namespace DS.Theta

variable {σ : Type}

@[simp] theorem keys_nil : keys ([] : List (Nat × σ)) = [] := rfl
@[simp] theorem keys_cons (a : Nat × σ) (l) : keys (a :: l) = a.1 :: keys l := rfl
@[simp] theorem keys_length (l : List (Nat × σ)) : (keys l).length = l.length := by simp [keys]
theorem keys_append (l r : List (Nat × σ)) : keys (l ++ r) = keys l ++ keys r := List.map_append
theorem keys_take (l : List (Nat × σ)) (k) : keys (l.take k) = (keys l).take k := by
  simp [keys, List.map_take]

theorem mem_keys_of_mem (l : List (Nat × σ)) (x : Nat × σ) (h : x ∈ l) : x.1 ∈ keys l :=
  List.mem_map.2 ⟨x, h, rfl⟩

theorem exists_of_mem_keys (l : List (Nat × σ)) (k : Nat) (h : k ∈ keys l) : ∃ v, (k, v) ∈ l := by
  obtain ⟨x, hx, rfl⟩ := List.mem_map.1 h
  exact ⟨x.2, hx⟩

theorem sorted_ext_kv (l1 l2 : List (Nat × σ)) (h1 : (keys l1).Pairwise (· < ·)) (h2 : (keys l2).Pairwise (· < ·))
    (h : ∀ x, x ∈ l1 ↔ x ∈ l2) : l1 = l2 :=
  sorted_ext_on Prod.fst (List.pairwise_map.1 h1) (List.pairwise_map.1 h2) h

/-- the counting step of every "exact while it fits" argument -/
theorem length_lt_of_sorted_subset (l D : List Nat) (t : Nat) (hs : l.Pairwise (· < ·)) (hlt : ∀ x, x ∈ l → x < t)
    (hsub : ∀ x, x ∈ l → x ∈ D) (ht : t ∈ D) : l.length < D.length := by
  have hnd : (l ++ [t]).Nodup := by
    rw [List.nodup_append]
    refine ⟨nodup_of_sorted hs, List.pairwise_singleton _ t, fun a ha b hb => ?_⟩
    rw [List.mem_singleton.1 hb]
    exact Nat.ne_of_lt (hlt a ha)
  have hsub' : (l ++ [t]) ⊆ D := by
    intro x hx
    rcases List.mem_append.1 hx with hx | hx
    · exact hsub x hx
    · rw [List.mem_singleton.1 hx]; exact ht
  have := (List.subperm_of_subset hnd hsub').length_le
  rw [List.length_append, List.length_singleton] at this
  exact this

theorem keys_filter_mem (l : List (Nat × σ)) (p : Nat → Bool) (x : Nat) :
    x ∈ keys (l.filter (fun e => p e.1)) ↔ x ∈ keys l ∧ p x = true := by
  simp only [keys, List.mem_map, List.mem_filter]
  constructor
  · rintro ⟨e, ⟨he, hp⟩, rfl⟩; exact ⟨⟨e, he, rfl⟩, hp⟩
  · rintro ⟨⟨e, he, rfl⟩, hp⟩; exact ⟨e, ⟨he, hp⟩, rfl⟩

theorem keys_filter_sorted (l : List (Nat × σ)) (p : Nat × σ → Bool) (h : (keys l).Pairwise (· < ·)) :
    (keys (l.filter p)).Pairwise (· < ·) :=
  h.sublist (List.Sublist.map _ List.filter_sublist)

theorem lookup_none_iff (h : Nat) (l : List (Nat × σ)) : lookup h l = none ↔ h ∉ keys l := by
  induction l with
  | nil => simp [lookup]
  | cons a t ih =>
    obtain ⟨k, v⟩ := a
    simp only [lookup, keys_cons, List.mem_cons, not_or]
    by_cases hk : k = h
    · simp [hk]
    · simp only [hk, if_false, ih, Ne.symm hk, not_false_eq_true, true_and]

theorem lookup_some_iff (h : Nat) (l : List (Nat × σ)) : (∃ v, lookup h l = some v) ↔ h ∈ keys l := by
  rw [← Option.ne_none_iff_exists', Ne, lookup_none_iff, Classical.not_not]

theorem mem_of_lookup (k : Nat) (v : σ) (l : List (Nat × σ)) (h : lookup k l = some v) : (k, v) ∈ l := by
  induction l with
  | nil => cases h
  | cons a t ih =>
    obtain ⟨k0, v0⟩ := a
    simp only [lookup] at h
    split at h
    · rename_i he; cases he; cases h; exact List.mem_cons_self
    · exact List.mem_cons_of_mem _ (ih h)

theorem lookup_of_mem (l : List (Nat × σ)) (hs : (keys l).Pairwise (· < ·)) (k : Nat) (v : σ) (h : (k, v) ∈ l) :
    lookup k l = some v := by
  induction l with
  | nil => cases h
  | cons a t ih =>
    obtain ⟨k0, v0⟩ := a
    simp only [keys_cons, List.pairwise_cons] at hs
    simp only [lookup]
    rcases List.mem_cons.1 h with h | h
    · cases h; rw [if_pos rfl]
    · rw [if_neg (Nat.ne_of_lt (hs.1 k (mem_keys_of_mem t _ h))), ih hs.2 h]

theorem mem_iff_lookup (l : List (Nat × σ)) (hs : (keys l).Pairwise (· < ·)) (k : Nat) (v : σ) :
    (k, v) ∈ l ↔ lookup k l = some v :=
  ⟨lookup_of_mem l hs k v, mem_of_lookup k v l⟩

theorem lookup_take (k n : Nat) (l : List (Nat × σ)) (v : σ) (h : lookup k (l.take n) = some v) : lookup k l = some v := by
  induction l generalizing n with
  | nil => simp [lookup] at h
  | cons a t ih =>
    obtain ⟨k0, v0⟩ := a
    cases n with
    | zero => simp [lookup] at h
    | succ n =>
      simp only [List.take_succ_cons, lookup] at h ⊢
      split
      · rename_i he; rw [if_pos he] at h; exact h
      · rename_i he; rw [if_neg he] at h; exact ih n h

/-- `upsert` is specified through `lookup`; keys and membership are read off this. -/
theorem upsert_spec (h : Nat) (f : Option σ → σ) (l : List (Nat × σ)) (hs : (keys l).Pairwise (· < ·)) :
    (keys (upsert h f l)).Pairwise (· < ·) ∧
    ∀ k, lookup k (upsert h f l) = if k = h then some (f (lookup h l)) else lookup k l := by
  induction l with
  | nil => exact ⟨List.pairwise_singleton _ _, fun k => by simp only [upsert, lookup, eq_comm]⟩
  | cons a t ih =>
    obtain ⟨k0, v0⟩ := a
    rw [keys_cons, List.pairwise_cons] at hs
    obtain ⟨ih1, ih2⟩ := ih hs.2
    simp only [upsert]
    by_cases h1 : h < k0
    · -- below the head: `h` is not in the list
      have hnot : lookup h ((k0, v0) :: t) = none := (lookup_none_iff _ _).2 fun hm => by
        rcases List.mem_cons.1 hm with e | hm
        · exact Nat.lt_irrefl _ (e ▸ h1)
        · exact Nat.lt_asymm h1 (hs.1 h hm)
      rw [if_pos h1, hnot]
      refine ⟨List.pairwise_cons.2 ⟨fun y hy => ?_, List.pairwise_cons.2 hs⟩, fun k => by simp only [lookup, eq_comm]⟩
      rcases List.mem_cons.1 hy with rfl | hy
      · exact h1
      · exact Nat.lt_trans h1 (hs.1 y hy)
    rw [if_neg h1]
    by_cases h2 : h = k0
    · subst h2
      rw [if_pos rfl]
      refine ⟨List.pairwise_cons.2 hs, fun k => ?_⟩
      simp only [lookup, if_true]
      by_cases hk : h = k
      · rw [if_pos hk, if_pos hk.symm]
      · rw [if_neg hk, if_neg (Ne.symm hk), if_neg hk]
    · rw [if_neg h2]
      have hlt : k0 < h := Nat.lt_of_le_of_ne (Nat.le_of_not_lt h1) (Ne.symm h2)
      refine ⟨List.pairwise_cons.2 ⟨fun y hy => ?_, ih1⟩, fun k => ?_⟩
      · -- a key of the tail after the insertion is `h` or an old key of the tail
        obtain ⟨v, hv⟩ := (lookup_some_iff y _).2 hy
        rw [ih2] at hv
        by_cases hy : y = h
        · exact hy ▸ hlt
        · rw [if_neg hy] at hv; exact hs.1 y ((lookup_some_iff y t).1 ⟨v, hv⟩)
      · simp only [lookup, ih2, if_neg (Ne.symm h2)]
        by_cases hk : k0 = k
        · rw [if_pos hk, if_neg (hk ▸ Ne.symm h2), if_pos hk]
        · rw [if_neg hk, if_neg hk]

theorem mem_keys_upsert (h : Nat) (f : Option σ → σ) (l : List (Nat × σ)) (hs : (keys l).Pairwise (· < ·)) (x : Nat) :
    x ∈ keys (upsert h f l) ↔ x = h ∨ x ∈ keys l := by
  rw [← lookup_some_iff, ← lookup_some_iff]
  simp only [(upsert_spec h f l hs).2]
  by_cases hx : x = h
  · simp only [hx, if_true, true_or, iff_true]; exact ⟨_, rfl⟩
  · simp only [hx, if_false, false_or]

theorem length_upsert (h : Nat) (f : Option σ → σ) (l : List (Nat × σ)) (hs : (keys l).Pairwise (· < ·)) :
    (upsert h f l).length = if h ∈ keys l then l.length else l.length + 1 := by
  have hn := nodup_of_sorted (upsert_spec h f l hs).1
  have hm := mem_keys_upsert h f l hs
  rw [← keys_length, ← keys_length l]
  split
  · rename_i hh
    exact length_eq_of_nodup_mem hn (nodup_of_sorted hs) fun x => (hm x).trans ⟨fun hx => hx.elim (· ▸ hh) id, Or.inr⟩
  · rename_i hh
    exact length_eq_of_nodup_mem hn (List.nodup_cons.2 ⟨hh, nodup_of_sorted hs⟩) fun x => (hm x).trans List.mem_cons.symm

theorem mem_upsert (h : Nat) (f : Option σ → σ) (l : List (Nat × σ)) (hs : (keys l).Pairwise (· < ·)) (x : Nat × σ) :
    x ∈ upsert h f l ↔ (x = (h, f (lookup h l)) ∨ (x ∈ l ∧ x.1 ≠ h)) := by
  obtain ⟨k, v⟩ := x
  rw [mem_iff_lookup _ (upsert_spec h f l hs).1, (upsert_spec h f l hs).2, mem_iff_lookup l hs]
  by_cases hk : k = h
  · subst hk
    rw [if_pos rfl]
    exact ⟨fun e => Or.inl (by rw [← Option.some.inj e]), fun e => e.elim (fun e => by rw [(Prod.mk.inj e).2]) (fun e => absurd rfl e.2)⟩
  · rw [if_neg hk]
    exact ⟨fun e => Or.inr ⟨e, hk⟩, fun e => e.elim (fun e => absurd (Prod.mk.inj e).1 hk) (fun e => e.1)⟩

theorem insertKV_perm (e : Nat × σ) (l : List (Nat × σ)) : (insertKV e l).Perm (e :: l) := by
  induction l with
  | nil => exact .refl _
  | cons a t ih =>
    simp only [insertKV]
    split
    · exact .refl _
    · exact (ih.cons a).trans (.swap e a t)

theorem sortKV_perm (l : List (Nat × σ)) : (sortKV l).Perm l := by
  induction l with
  | nil => exact .refl _
  | cons a t ih => exact (insertKV_perm a (sortKV t)).trans (ih.cons a)

theorem mem_sortKV (x : Nat × σ) (l : List (Nat × σ)) : x ∈ sortKV l ↔ x ∈ l := (sortKV_perm l).mem_iff

theorem mem_keys_sortKV (x : Nat) (l : List (Nat × σ)) : x ∈ keys (sortKV l) ↔ x ∈ keys l :=
  ((sortKV_perm l).map _).mem_iff

theorem length_sortKV (l : List (Nat × σ)) : (sortKV l).length = l.length := (sortKV_perm l).length_eq

theorem insertKV_eq_upsert (e : Nat × σ) (l : List (Nat × σ)) (hn : e.1 ∉ keys l) :
    insertKV e l = upsert e.1 (fun _ => e.2) l := by
  induction l with
  | nil => rfl
  | cons a t ih =>
    obtain ⟨k, v⟩ := a
    rw [keys_cons, List.mem_cons, not_or] at hn
    simp only [insertKV, upsert]
    by_cases h1 : e.1 < k
    · rw [if_pos (Nat.le_of_lt h1), if_pos h1]
    · rw [if_neg h1, if_neg hn.1, if_neg fun hle => hn.1 (Nat.le_antisymm hle (Nat.le_of_not_lt h1)), ih hn.2]

theorem sorted_sortKV (l : List (Nat × σ)) (hn : (keys l).Nodup) : (keys (sortKV l)).Pairwise (· < ·) := by
  induction l with
  | nil => exact .nil
  | cons a t ih =>
    simp only [keys_cons, List.nodup_cons] at hn
    show (keys (insertKV a (sortKV t))).Pairwise (· < ·)
    rw [insertKV_eq_upsert a _ fun hc => hn.1 ((mem_keys_sortKV _ _).1 hc)]
    exact (upsert_spec _ _ _ (ih hn.2)).1

theorem sortKV_of_sorted (l : List (Nat × σ)) (hs : (keys l).Pairwise (· < ·)) : sortKV l = l :=
  sorted_ext_kv _ _ (sorted_sortKV l (nodup_of_sorted hs)) hs (fun x => mem_sortKV x l)

theorem mem_take_sorted (l : List Nat) (hs : l.Pairwise (· < ·)) (k : Nat) (t : Nat)
    (hk : l[k]? = some t) (x : Nat) : x ∈ l.take k ↔ x ∈ l ∧ x < t := by
  obtain ⟨hlt, rfl⟩ := List.getElem?_eq_some_iff.1 hk
  -- `l` is its first `k` elements, then `l[k]`, then the rest, each below the next
  have hd := List.take_append_drop k l
  rw [List.drop_eq_getElem_cons hlt] at hd
  rw [← hd, List.pairwise_append, List.pairwise_cons] at hs
  refine ⟨fun hx => ⟨List.mem_of_mem_take hx, hs.2.2 x hx _ List.mem_cons_self⟩, fun ⟨hx, hxt⟩ => ?_⟩
  rw [← hd, List.mem_append, List.mem_cons] at hx
  rcases hx with hx | rfl | hx
  · exact hx
  · exact absurd hxt (Nat.lt_irrefl _)
  · exact absurd hxt (Nat.lt_asymm (hs.2.1.1 x hx))

end DS.Theta
