/- Legacy compact theta images (serial versions 1 and 2): round trips of the legacy writers through the reader. -/
import DSProofs.Lemmas.WireTheta
namespace DS.Wire.Theta
open DS.Wire Reader

theorem decode_encode_v1 {c : Consts} (hc : COk c) (s : Image) (hwf : WFLegacy s) (exp : Nat) (hseed : s.seedHash = exp) (tail : Bytes) :
    decode c exp (encodeV1 c s ++ tail) = some (s, tail) := by
  obtain ⟨⟨hsh, hth, hes, hlen, hemp, _⟩, hord, hne⟩ := hwf
  unfold decode encodeV1
  simp only [List.append_assoc]
  rw [bind_u8 _ (by decide), bind_u8 _ (by decide), bind_u8 _ hc.ty]
  simp only [beq_self_eq_true, bind_guard_true, Ne.symm hc.v41, Ne.symm hc.v31, ↓reduceIte]
  unfold decodeV1
  rw [bind_skip, bind_u32 _ hlen, bind_skip_of (length_w32 _), bind_u64 _ (lt_of_le_maxTheta hth)]
  obtain ⟨e, o, sh, th, es⟩ := s
  simp only at *
  subst hord; subst hseed
  cases e with
  | true =>
    obtain ⟨h1, h2⟩ := hemp rfl
    subst h1; subst h2
    simp [Reader.pure, wU64s]
  | false =>
    have hn : ¬ (es.length = 0 ∧ th = maxTheta) := by
      intro ⟨a, b⟩
      exact hne rfl ⟨List.eq_nil_of_length_eq_zero a, b⟩
    simp only [hn, ↓reduceIte]
    rw [bind_ok (repeatN_u64_wU64s es hes tail)]
    rfl

theorem decode_encode_v2 {c : Consts} (hc : COk c) (s : Image) (hwf : WFLegacy s) (exp : Nat) (hseed : s.seedHash = exp) (tail : Bytes) :
    decode c exp (encodeV2 c s ++ tail) = some (s, tail) := by
  obtain ⟨⟨hsh, hth, hes, hlen, hemp, _⟩, hord, hne⟩ := hwf
  unfold decode encodeV2
  simp only [List.append_assoc]
  have hpre : (if s.isEmpty = true then 1 else if s.theta < maxTheta then 3 else 2) < 256 := by
    split
    · decide
    · split <;> decide
  rw [bind_u8 _ hpre, bind_u8 _ (by decide), bind_u8 _ hc.ty]
  simp only [beq_self_eq_true, bind_guard_true, Ne.symm hc.v42, Ne.symm hc.v32, ↓reduceIte, show (2 : Nat) ≠ 1 by decide]
  unfold decodeV2
  rw [bind_skip, bind_u16 _ hsh]
  obtain ⟨e, o, sh, th, es⟩ := s
  simp only at *
  subst hord; subst hseed
  simp only [beq_self_eq_true, bind_guard_true]
  cases e with
  | true =>
    obtain ⟨h1, h2⟩ := hemp rfl
    subst h1; subst h2
    simp [Reader.pure, wU64s]
  | false =>
    simp only [Bool.false_eq_true, ↓reduceIte]
    by_cases hest : th < maxTheta
    · simp only [hest, ↓reduceIte, show (3 : Nat) ≠ 1 by decide, show (3 : Nat) ≠ 2 by decide, show (3 : Nat) > 1 by decide,
        show (3 : Nat) > 2 by decide, List.append_assoc]
      rw [bind_u32 _ hlen, bind_skip_of (length_w32 _), bind_u64 _ (lt_of_le_maxTheta hth)]
      have hn : ¬ (es.length = 0 ∧ th = maxTheta) := by intro ⟨_, b⟩; omega
      simp only [hn, ↓reduceIte]
      rw [bind_ok (repeatN_u64_wU64s es hes tail)]
      rfl
    · have hth' : th = maxTheta := by omega
      subst hth'
      simp only [Nat.lt_irrefl, ↓reduceIte, show (2 : Nat) ≠ 1 by decide, show (2 : Nat) > 1 by decide,
        show ¬ ((2 : Nat) > 2) by decide, List.append_assoc, List.nil_append]
      rw [bind_u32 _ hlen, bind_skip_of (length_w32 _)]
      have hn : ¬ (es.length = 0) := by
        intro a
        exact hne rfl ⟨List.eq_nil_of_length_eq_zero a, rfl⟩
      simp only [hn, ↓reduceIte]
      rw [bind_ok (repeatN_u64_wU64s es hes tail)]
      rfl

end DS.Wire.Theta
