/-
C11 (t-digest part) — truncated images (current format and both reference formats) are rejected; the
specification readers are bounded.

ONLY property theorems and non-vacuity examples.  The theorems are about the specification readers
`DS.Wire.TDigest.decode` / `decodeLegacy`; the exhaustive-prefix / corruption runs of `./check c11_misc`
hold `tdigest<T>::deserialize(bytes)` and `deserialize(istream)` to them under sanitizers.
-/
import DSProofs.Props.C09_TDigest
import DSProofs.Props.C10_TDigest
import DSModel.Wire.TDigestGen
namespace DS.Wire.TDigest
open DS.Wire

theorem decode_PS (c : Consts) (tsz wsz : Nat) : PS (decode c tsz wsz) := (decode_sized c tsz wsz).ps

theorem decodeLegacy_PS (c : Consts) : PS (decodeLegacy c) := (decodeLegacy_sized c).ps

/-- every strict prefix of a valid image is rejected (a t-digest image has no information-free padding) -/
theorem prefix_rejected (c : Consts) (hc : c.Valid) (tsz wsz : Nat) (s : Img) (hs : WF tsz wsz s) (n : Nat)
    (hn : n < (encode c tsz wsz s).length) : decode c tsz wsz ((encode c tsz wsz s).take n) = none :=
  prefix_rejected' (decode c tsz wsz) (decode_PS c tsz wsz) (encode c tsz wsz s) s (decode_encode c hc tsz wsz s hs) n hn

/-- every strict prefix of a valid reference-format image is rejected -/
theorem legacy_prefix_rejected (c : Consts) (hc : c.Valid) (s : Legacy) (hs : WFLegacy s) (n : Nat)
    (hn : n < (encodeLegacy c s).length) : decodeLegacy c ((encodeLegacy c s).take n) = none :=
  prefix_rejected' (decodeLegacy c) (decodeLegacy_PS c) (encodeLegacy c s) s (legacy_decode_encode c hc s hs) n hn

/-- a successful decode of ANY byte string consumed exactly `serializedSize` bytes and every decoded
field is in range; hence (value width ≥ 1) centroids + buffered values ≤ input length: no count field
makes the specification reader produce more elements than the input has bytes -/
theorem decode_bounded (c : Consts) (tsz wsz : Nat) (b r : Bytes) (s : Img) (h : decode c tsz wsz b = some (s, r)) :
    b.length = serializedSize tsz wsz s + r.length ∧ WF tsz wsz s ∧
    (∀ mn mx cents buf, s.body = .multi mn mx cents buf → 0 < tsz → cents.length + buf.length + 16 ≤ b.length) := by
  obtain ⟨h1, h2⟩ := (decode_sized c tsz wsz).consumed h
  refine ⟨h1, h2, ?_⟩
  intro mn mx cents buf hb ht
  simp only [serializedSize, hb] at h1
  have a1 : cents.length ≤ cents.length * (tsz + wsz) := Nat.le_mul_of_pos_right _ (by omega)
  have a2 : buf.length ≤ buf.length * tsz := Nat.le_mul_of_pos_right _ ht
  omega

/-- same for the reference formats: the centroid count never exceeds the input length -/
theorem legacy_decode_bounded (c : Consts) (b r : Bytes) (s : Legacy) (h : decodeLegacy c b = some (s, r)) :
    b.length = legacySize s + r.length ∧ WFLegacy s ∧
    (match s with | .big _ _ _ cents => cents.length + 32 ≤ b.length | .small _ _ _ _ _ cents => cents.length + 30 ≤ b.length) := by
  obtain ⟨h1, h2⟩ := (decodeLegacy_sized c).consumed h
  refine ⟨h1, h2, ?_⟩
  cases s <;> simp only [legacySize] at h1 ⊢ <;> omega

def exMultiT : Img :=
  { k := 100, reverse := true,
    body := .multi 0x3fe0000000000000 0x4000000000000000 [(0x3ff0000000000000, 1), (0x4000000000000000, 3)] [0x3fe0000000000000] }
example : WF 8 8 exMultiT ∧ (∀ n, n < 72 → decode genConsts 8 8 ((encode genConsts 8 8 exMultiT).take n) = none) ∧
          (decode genConsts 8 8 (encode genConsts 8 8 exMultiT)).isSome := by decide +kernel

end DS.Wire.TDigest
