/- Histories over a store of classic quantiles sketches: every leaf of the history's choice tree satisfies the invariant and agrees
with the coin-independent companions (`truthHist`, `knHist`), the tree is uniform with arities `arHist`, and the weight of an
object summed over the leaves is `∏ arities * (true count)`. -/
import DSProofs.Lemmas.QuantilesRel
namespace DS.Quantiles

open Tree

variable {α : Type}

theorem aget_aput {β : Type} (m : List (Nat × β)) (i j : Nat) (b : β) :
    aget (aput m i b) j = if j = i then some b else aget m j := by
  unfold aget aput
  split
  · next h => rw [h, List.lookup_cons_self]
  · next h => rw [List.lookup_cons, beq_false_of_ne h]; exact lookup_filter_ne m i j h

/-- only the lookups: the list itself is reordered -/
theorem aget_aput_same {β : Type} {m : List (Nat × β)} {i : Nat} {b : β} (hi : aget m i = some b) (j : Nat) :
    aget (aput m i b) j = aget m j := by
  rw [aget_aput]
  split
  · next hj => rw [hj, hi]
  · rfl

/-- `Store` abbreviates the association list: `Store.get?` / `Store.put` are `aget` / `aput` -/
theorem get?_put (st : Store α) (i j : Nat) (s : Sketch α) :
    (st.put i s).get? j = if j = i then some s else st.get? j := aget_aput st i j s

/-- one object, its accepted items and its `(k, n)` in the companions: all present and consistent, or all absent -/
def ObjOK (c : Cmp α) (S : List α → Prop) (R : Sketch α → List α → Prop) :
    Option (Sketch α) → Option (List α) → Option (Nat × Nat) → Prop
  | some s, some items, some kn => Inv c S s ∧ R s items ∧ s.k = kn.1 ∧ s.n = kn.2
  | none, none, none => True
  | _, _, _ => False

/-- the store `st` against the truth `tr` and the `(k, n)` table `kn`, object by object -/
def StoreOK (c : Cmp α) (S : List α → Prop) (R : Sketch α → List α → Prop)
    (st : Store α) (tr : List (Nat × List α)) (kn : List (Nat × (Nat × Nat))) : Prop :=
  ∀ id, ObjOK c S R (st.get? id) (aget tr id) (aget kn id)

section
variable {c : Cmp α} {S : List α → Prop} {R : Sketch α → List α → Prop} {st : Store α}
  {tr : List (Nat × List α)} {kn : List (Nat × (Nat × Nat))}

theorem StoreOK.get (h : StoreOK c S R st tr kn) {id : Nat} {s : Sketch α} (hg : st.get? id = some s) :
    ∃ items, aget tr id = some items ∧ aget kn id = some (s.k, s.n) ∧ Inv c S s ∧ R s items := by
  have := h id
  rw [hg] at this
  cases ht : aget tr id <;> cases hk : aget kn id <;> simp only [ht, hk, ObjOK] at this
  obtain ⟨hi, hr, h1, h2⟩ := this
  exact ⟨_, rfl, by rw [h1, h2], hi, hr⟩

theorem StoreOK.get_none (h : StoreOK c S R st tr kn) {id : Nat} (hg : st.get? id = none) :
    aget tr id = none ∧ aget kn id = none := by
  have := h id
  rw [hg] at this
  cases ht : aget tr id <;> cases hk : aget kn id <;> simp only [ht, hk, ObjOK] at this
  exact ⟨rfl, rfl⟩

theorem StoreOK.put (h : StoreOK c S R st tr kn) (i : Nat) {s : Sketch α} {items : List α} {k n : Nat}
    (hs : Inv c S s ∧ R s items ∧ s.k = k ∧ s.n = n) :
    StoreOK c S R (st.put i s) (aput tr i items) (aput kn i (k, n)) := by
  intro j
  rw [get?_put, aget_aput, aget_aput]
  split
  · exact hs
  · exact h j

end

/-- weight of the retained items of object `id` satisfying `p` (0 if there is no such object) -/
def Wst (p : α → Bool) (id : Nat) (st : Store α) : Nat :=
  match st.get? id with
  | some s => wSketch p s
  | none => 0

/-- number of accepted items of object `id` satisfying `p` -/
def Ttr (p : α → Bool) (id : Nat) (tr : List (Nat × List α)) : Nat :=
  match aget tr id with
  | some l => l.countP p
  | none => 0

theorem Wst_put (p : α → Bool) (st : Store α) (i j : Nat) (s : Sketch α) :
    Wst p j (st.put i s) = if j = i then wSketch p s else Wst p j st := by
  unfold Wst
  rw [get?_put]
  by_cases h : j = i <;> simp only [h, if_true, if_false]

theorem Wst_of_get (p : α → Bool) {st : Store α} {i : Nat} {s : Sketch α} (hg : st.get? i = some s) :
    Wst p i st = wSketch p s := by
  rw [Wst, hg]

theorem Ttr_aput (p : α → Bool) (tr : List (Nat × List α)) (i j : Nat) (l : List α) :
    Ttr p j (aput tr i l) = if j = i then l.countP p else Ttr p j tr := by
  unfold Ttr
  rw [aget_aput]
  by_cases h : j = i <;> simp only [h, if_true, if_false]

theorem Ttr_of_get (p : α → Bool) {tr : List (Nat × List α)} {i : Nat} {l : List α} (ht : aget tr i = some l) :
    Ttr p i tr = l.countP p := by
  rw [Ttr, ht]

/-- an operation that writes object `i` with a leaf of the tree `t` of sketches -/
theorem Spec.put {c : Cmp α} {S : List α → Prop} {R : Sketch α → List α → Prop} {st : Store α}
    {tr : List (Nat × List α)} {kn : List (Nat × (Nat × Nat))} (p : α → Bool) (hst : StoreOK c S R st tr kn) (i id : Nat)
    {items : List α} {k n : Nat} {ar : List Nat} {X : Nat} {t : Tree (Sketch α)}
    (h : Spec (fun s => Inv c S s ∧ R s items ∧ s.k = k ∧ s.n = n) ar (wSketch p) X t) :
    Spec (fun st' => StoreOK c S R st' (aput tr i items) (aput kn i (k, n))) ar (Wst p id)
      (if id = i then X else Wst p id st) (t.map fun s => st.put i s) :=
  Spec.map (Spec.ite h (h.const (Wst p id st))) fun s hs => ⟨hst.put i hs, Wst_put p st i id s⟩

theorem Spec.put_same {c : Cmp α} {S : List α → Prop} {R : Sketch α → List α → Prop} {st : Store α}
    {tr : List (Nat × List α)} {kn : List (Nat × (Nat × Nat))} (p : α → Bool) (hst : StoreOK c S R st tr kn) {i : Nat}
    {s s' : Sketch α} (hg : st.get? i = some s) (id : Nat) (hi : Inv c S s') (hr : ∀ items, R s items → R s' items)
    (hk : s'.k = s.k) (hn : s'.n = s.n) (hw : wSketch p s' = wSketch p s) :
    Spec (fun st' => StoreOK c S R st' tr kn) [] (Wst p id) (Wst p id st) (Tree.done (st.put i s')) := by
  obtain ⟨items, ht, hkn, _, hr0⟩ := hst.get hg
  refine Spec.done (fun j => ?_) ?_
  · rw [get?_put]
    split
    · next hj => rw [hj, ht, hkn]; exact ⟨hi, hr items hr0, hk, hn⟩
    · exact hst j
  · rw [Wst_put]
    split
    · next hj => rw [hj, hw, Wst_of_get p hg]
    · rfl

/-- the expected weight of object `id` after `op`, from per-object weights `w` and an existence test `ex` before it:
an operation that takes effect writes one object -/
def stepWeight (c : Cmp α) (lim : Limits) (p : α → Bool) (w : Nat → Nat) (ex : Nat → Bool) : Op α → Nat → Nat
  | .new i k, id => if id = i ∧ checkK lim.minK lim.maxK k = true then 0 else w id
  | .upd i x, id => if id = i ∧ ex i = true ∧ c.nan x = false then (if p x then 1 else 0) + w i else w id
  | .merge d s, id => if id = d ∧ d ≠ s ∧ ex d = true ∧ ex s = true then w d + w s else w id
  | .copy s d, id => if id = d ∧ ex s = true then w s else w id
  | .sortq _, id => w id

section
variable (c : Cmp α) (lim : Limits) (hlim : 0 < lim.minK) (p : α → Bool) {S : List α → Prop} (hS : SortOK c.lt S)
  {R : Sketch α → List α → Prop} (hR : RelOK c S R)
include hlim hS hR

theorem step_spec (st : Store α) (tr : List (Nat × List α)) (kn : List (Nat × (Nat × Nat))) (op : Op α) (id : Nat)
    (hst : StoreOK c S R st tr kn) :
    Spec (fun st' => StoreOK c S R st' (stepTruth c lim tr op) (stepKN c lim kn op).1) (stepKN c lim kn op).2 (Wst p id)
      (stepWeight c lim p (fun j => Wst p j st) (fun j => (aget tr j).isSome) op id) (stepOp c lim st op) := by
  cases op with
  | new i k =>
    simp only [stepOp, stepTruth, stepKN, stepWeight]
    by_cases hk : checkK lim.minK lim.maxK k = true
    · simp only [hk, if_true, and_true]
      exact Spec.put p hst i id (Spec.done ⟨new_inv c hS.nil (checkK_pow2 hlim hk), hR.new k, rfl, rfl⟩ rfl)
    · simp only [hk, Bool.false_eq_true, if_false, and_false]
      exact Spec.done hst rfl
  | upd i x =>
    simp only [stepOp, stepTruth, stepKN, stepWeight]
    cases hg : st.get? i with
    | none =>
      obtain ⟨ht, hk⟩ := hst.get_none hg
      simp only [ht, hk, Option.isSome_none, Bool.false_eq_true, false_and, and_false, if_false]
      exact Spec.done hst rfl
    | some s =>
      obtain ⟨items, ht, hk, hinv, hr⟩ := hst.get hg
      simp only [ht, hk, Option.isSome_some, true_and]
      by_cases hx : c.nan x = true
      · simp only [hx, if_true, Sketch.update, Bool.true_eq_false, and_false, if_false]
        exact Spec.put_same p hst hg id hinv (fun _ h => h) rfl rfl rfl
      · have hx' := Bool.eq_false_iff.mpr hx
        simp only [hx', Bool.false_eq_true, if_false, and_true]
        refine (Spec.put p hst i id ((update_spec c p hS s x hinv hx').weaken fun s' hs' =>
          ⟨hs'.inv, hR.upd s items x s' hinv hr hx' hs', hs'.k_eq, hs'.n_eq⟩)).congr rfl ?_
        rw [Wst_of_get p hg, Nat.add_comm]
  | merge d s =>
    simp only [stepOp, stepTruth, stepKN, stepWeight]
    by_cases hds : d = s
    · simp only [hds, if_true, ne_eq, not_true_eq_false, false_and, and_false, if_false]
      exact Spec.done hst rfl
    · simp only [hds, if_false, ne_eq, not_false_eq_true, true_and]
      cases hgd : st.get? d with
      | none =>
        obtain ⟨htd, hkd⟩ := hst.get_none hgd
        simp only [htd, hkd, Option.isSome_none, Bool.false_eq_true, false_and, and_false, if_false]
        exact Spec.done hst rfl
      | some a =>
        obtain ⟨ia, htd, hkd, ainv, ar⟩ := hst.get hgd
        cases hgs : st.get? s with
        | none =>
          obtain ⟨hts, hks⟩ := hst.get_none hgs
          simp only [htd, hkd, hts, hks, Option.isSome_none, Bool.false_eq_true, and_false, if_false]
          exact Spec.done hst rfl
        | some b =>
          obtain ⟨ib, hts, hks, binv, br⟩ := hst.get hgs
          simp only [htd, hkd, hts, hks, Option.isSome_some, and_true]
          refine (Spec.put p hst d id ((merge_spec c p hS hR a b ia ib ainv binv ar br).weaken fun r hr =>
            ⟨hr.inv, hr.rel, hr.k_eq, hr.n_eq⟩)).congr rfl ?_
          rw [Wst_of_get p hgd, Wst_of_get p hgs]
  | copy s d =>
    simp only [stepOp, stepTruth, stepKN, stepWeight]
    cases hgs : st.get? s with
    | none =>
      obtain ⟨hts, hks⟩ := hst.get_none hgs
      simp only [hts, hks, Option.isSome_none, Bool.false_eq_true, and_false, if_false]
      exact Spec.done hst rfl
    | some a =>
      obtain ⟨ia, hts, hks, ainv, ar⟩ := hst.get hgs
      simp only [hts, hks, Option.isSome_some, and_true]
      refine (Spec.put p hst d id (Spec.done ⟨ainv, ar, rfl, rfl⟩ rfl)).congr rfl ?_
      rw [Wst_of_get p hgs]
  | sortq i =>
    simp only [stepOp, stepTruth, stepKN, stepWeight]
    cases hg : st.get? i with
    | none => exact Spec.done hst rfl
    | some a =>
      obtain ⟨_, _, _, hinv, _⟩ := hst.get hg
      obtain ⟨f1, f2, _⟩ := sortBB_fields c a
      exact Spec.put_same p hst hg id (sortBB_inv hS hinv) (hR.sortbb a) f1 f2 (wSketch_sortBB p c a)

omit hlim hS hR in
theorem truth_step (tr : List (Nat × List α)) (op : Op α) (id : Nat) :
    Ttr p id (stepTruth c lim tr op) =
      stepWeight c lim p (fun j => Ttr p j tr) (fun j => (aget tr j).isSome) op id := by
  cases op with
  | new i k =>
    simp only [stepTruth, stepWeight]
    by_cases hk : checkK lim.minK lim.maxK k = true
    · simp only [hk, if_true, and_true, Ttr_aput]; rfl
    · simp only [hk, Bool.false_eq_true, if_false, and_false]
  | upd i x =>
    simp only [stepTruth, stepWeight]
    cases ht : aget tr i with
    | none => simp only [Option.isSome_none, Bool.false_eq_true, false_and, and_false, if_false]
    | some l =>
      by_cases hx : c.nan x = true
      · simp only [hx, if_true, Bool.true_eq_false, and_false, if_false]
      · simp only [Bool.eq_false_iff.mpr hx, Bool.false_eq_true, if_false, Option.isSome_some, and_true]
        rw [Ttr_aput, Ttr_of_get p ht, List.countP_append, List.countP_singleton, Nat.add_comm]
  | merge d s =>
    simp only [stepTruth, stepWeight]
    by_cases hds : d = s
    · simp only [hds, if_true, ne_eq, not_true_eq_false, false_and, and_false, if_false]
    · simp only [hds, if_false, ne_eq, not_false_eq_true, true_and]
      cases htd : aget tr d with
      | none => simp only [Option.isSome_none, Bool.false_eq_true, false_and, and_false, if_false]
      | some a =>
        cases hts : aget tr s with
        | none => simp only [Option.isSome_none, Bool.false_eq_true, and_false, if_false]
        | some b =>
          simp only [Option.isSome_some, and_true]
          rw [Ttr_aput, Ttr_of_get p htd, Ttr_of_get p hts, List.countP_append]
  | copy s d =>
    simp only [stepTruth, stepWeight]
    cases hts : aget tr s with
    | none => simp only [Option.isSome_none, Bool.false_eq_true, and_false, if_false]
    | some a =>
      simp only [Option.isSome_some, and_true]
      rw [Ttr_aput, Ttr_of_get p hts]
  | sortq i => rfl

omit hlim hS hR in
/-- `stepWeight` is an affine combination of the per-object weights, so it commutes with sums over a uniform tree -/
theorem stepWeight_lin {P : Store α → Prop} {ar : List Nat} {t : Tree (Store α)} (T : Nat → Nat) (ex : Nat → Bool)
    (h : ∀ j, Spec P ar (fun st => Wst p j st) (T j) t) (op : Op α) (id : Nat) :
    Spec P ar (fun st => stepWeight c lim p (fun j => Wst p j st) ex op id) (stepWeight c lim p T ex op id) t := by
  cases op with
  | new i k => exact Spec.ite ((h id).const 0) (h id)
  | upd i x => exact Spec.ite ((h i).add_const _) (h id)
  | merge d s => exact Spec.ite (Spec.add (h d) (h s)) (h id)
  | copy s d => exact Spec.ite (h s) (h id)
  | sortq i => exact h id

/-- the function `knHist` folds with (inline there): `runFrom_spec` speaks of the fold from any start -/
def knStep (c : Cmp α) (lim : Limits) (acc : List (Nat × (Nat × Nat)) × List Nat) (op : Op α) :
    List (Nat × (Nat × Nat)) × List Nat :=
  ((stepKN c lim acc.1 op).1, acc.2 ++ (stepKN c lim acc.1 op).2)

theorem runFrom_spec (ops : List (Op α)) : ∀ (t : Tree (Store α)) (tr : List (Nat × List α))
    (acc : List (Nat × (Nat × Nat)) × List Nat),
    (∀ id, Spec (fun st => StoreOK c S R st tr acc.1) acc.2 (Wst p id) (Ttr p id tr) t) →
    ∀ id, Spec (fun st => StoreOK c S R st (ops.foldl (stepTruth c lim) tr) (ops.foldl (knStep c lim) acc).1)
      (ops.foldl (knStep c lim) acc).2 (Wst p id) (Ttr p id (ops.foldl (stepTruth c lim) tr)) (runFrom c lim t ops) := by
  induction ops with
  | nil => intro t tr acc h id; exact h id
  | cons op ops ih =>
    intro t tr acc h id
    refine ih (t.bind (fun st => stepOp c lim st op)) (stepTruth c lim tr op) (knStep c lim acc op) (fun j => ?_) id
    rw [truth_step]
    exact Spec.bind (stepWeight_lin c lim p (fun j => Ttr p j tr) (fun j => (aget tr j).isSome) h op j)
      (fun st hst => step_spec c lim hlim p hS hR st tr acc.1 op j hst)

omit hlim hS hR in
theorem knHist_eq (ops : List (Op α)) : knHist c lim ops = ops.foldl (knStep c lim) ([], []) := rfl

theorem hist_spec (ops : List (Op α)) (id : Nat) :
    Spec (fun st => StoreOK c S R st (truthHist c lim ops) (knHist c lim ops).1) (arHist c lim ops) (Wst p id)
      (Ttr p id (truthHist c lim ops)) (runHist c lim ops) :=
  -- `truthHist`, `knHist`, `arHist`, `runHist` are these folds by definition
  runFrom_spec c lim hlim p hS hR ops (Tree.done []) [] ([], []) (fun _ => Spec.done (fun _ => trivial) rfl) id

end

end DS.Quantiles
