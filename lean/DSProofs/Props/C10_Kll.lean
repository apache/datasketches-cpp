/-
C10 (KLL) — the image follows the documented layout; the old single-item image (serial version 1) stays readable.

ONLY property theorems and their non-vacuity examples.  `docCfg` (Props/C09_Kll.lean) is the documented contract
transcribed by hand from the layout comment of kll_sketch.hpp and the Java-compatible preamble
(family 15; preamble ints 2 / 5; serial version 1, 2 for the single-item format; flags bit 0 empty, bit 1
level-zero-sorted, bit 2 single-item; m = 8; data at byte 8 / 20).  `codeCfg` is what the translator extracted
from the CURRENT headers in this run.
-/
import DSModel.Wire.KllCode
import DSProofs.Props.C09_Kll
namespace DS.Wire.Kll
open Reader

/-- every wire constant in the current headers equals its documented value: a consistent writer+reader change
(moved flag bit, other family id or version, other preamble size) is caught here although round trips still pass -/
theorem wire_consts_documented : codeCfg = docCfg := by decide


/-- the serial-version-1 image of a one-item sketch decodes (with the current reader) to the state it was built from -/
theorem legacy_decode_encode (sd : Serde) (hs : sd.Lawful) (c : Cfg) (hc : CfgOK c) (k : Nat) (lz : Bool) (it : Item)
    (tail : Bytes) (hk : k < 2 ^ 16) (hit : sd.wf it = true) (hm : 0 < c.m) :
    decodeLegacy sd c (encodeLegacy sd c k lz it ++ tail) = some (legacySingle c k lz it, tail) := by
  have hm' : c.m < 256 := hc.2.2.2.2.2.2.2.2.1
  apply decode_encode sd hs c hc
  simp only [legacySingle, WF, allWf, List.all_cons, List.all_nil, List.length_cons, List.length_nil, hit,
    List.headD_cons, levelsOk, Bool.and_true, Bool.and_eq_true, decide_eq_true_eq, beq_iff_eq, Nat.zero_add,
    totalCapacity_one]
  omega

/-- ... and that state presents the same API content as the current single-item image -/
theorem legacy_same_content (c : Cfg) (k : Nat) (lz : Bool) (it : Item) (hm : 0 < c.m) :
    project c (legacySingle c k lz it) = project c (.single k lz it) := by
  have hcap : 1 ≤ totalCapacity k c.m 1 := by
    rw [totalCapacity_one]; exact Nat.le_trans hm (Nat.le_max_left _ _)
  have h1 : totalCapacity k c.m 1 - (totalCapacity k c.m 1 - 1) = 1 := by omega
  simp [legacySingle, project, weigh, h1]

/-- non-vacuity: the shipped file kll_sketch_float_one_item_v1.sk (k = 200, item 1.0f) is exactly this legacy image -/
example : encodeLegacy (Serde.fixed 4) docCfg 200 false [0x00, 0x00, 0x80, 0x3f] =
    [0x05, 0x01, 0x0f, 0x00, 0xc8, 0x00, 0x08, 0x00, 0x01, 0, 0, 0, 0, 0, 0, 0, 0xc8, 0x00, 0x01, 0x00,
     0xc7, 0, 0, 0, 0x00, 0x00, 0x80, 0x3f, 0x00, 0x00, 0x80, 0x3f, 0x00, 0x00, 0x80, 0x3f] := by decide

end DS.Wire.Kll
