/-
C15 — Bloom filter: no false negatives in any representation; bitwise set algebra.

The property theorems, their non-vacuity examples, and what they are stated with: the generated parameters `genParams`, the real hash
`hfU64` with the known answers of its transcription, the witness histories, `Refusals` (helper lemmas: Lemmas/Bloom*.lean).
Model: DSModel/Bloom/Model.lean (one function per public operation of bloom_filter_impl.hpp, with an explicit
store of caller-memory blocks), histories + ghost book-keeping: DSModel/Bloom/Spec.lean, Promise.lean.  The
model is tied to the real headers by `./check C15` (correspondence on generated histories).

`bloom_no_false_negative_partial` and `bloom_setops_bitwise` hold for EVERY layout `P` with the count at byte 24 and the bit
array at byte 32 (`P.Layout`; the constants come from the current headers through DSGen/Bloom.lean,
`genParams_layout` below), `bloom_qau_prior_partial` and `bloom_refusals_partial` for every `P`; all for EVERY hash function `hf` (item, seed) ↦ (h0, h1) — in particular XXHash64 —, and for
every history: any number of filters and memory blocks, any sizes / hash counts / seeds, owned and caller-memory
filters, any interleaving of new / initialize / update / query_and_update / get_bits_used / reset / union /
intersect / invert / copy / serialize / deserialize / wrap / writable_wrap, including refused operations and raw
byte blocks.  `bloom_no_false_negative_fixed` and `bloom_qau_prior_fixed` need the wire constants as well (`P.Wire`,
`genParams_wire`) and histories whose filters stay below 2^32 bits (`Op.small`); `bloom_readers_current` is for `P.strict = true`.

`Fix.asCoded` is the code of the pinned tree (the baseline commit of /repo, before its `fix:` commits); `Fix.fixed` has the three
repairs proposed_fixes/C15-dirty-write-through, C15-qau-on-dirty and C15-readonly-setops (.patch), which the head of /repo carries,
so `./check C15` runs the model with `Fix.fixed`.  A statement that the pinned tree violates is a `def …_full`: refuted for
`Fix.asCoded` by a concrete witness history evaluated by the kernel with the real XXHash64 (`…_full_false`; corpus/regress/C15 holds
the same histories), proved for `Fix.fixed` as `…_fixed`; the part that holds for both is `…_partial`.
-/
import DSProofs.Lemmas.BloomInv
import DSProofs.Lemmas.BloomLocal
import DSProofs.Lemmas.BloomWitness
import DSProofs.Lemmas.BloomGoodHist
import DSProofs.Lemmas.BloomReaders
import DSModel.Bloom.Hash
import DSGen.Bloom
namespace DS.Bloom

/-- the parameters regenerated from the current headers -/
def genParams : Params :=
  { dirty := DSGen.bloom_DIRTY_BITS_VALUE, preEmpty := DSGen.bloom_PREAMBLE_LONGS_EMPTY,
    preStd := DSGen.bloom_PREAMBLE_LONGS_STANDARD, family := DSGen.bloom_FAMILY_ID, serVer := DSGen.bloom_SER_VER,
    emptyMask := DSGen.bloom_EMPTY_FLAG_MASK, nbsOff := DSGen.bloom_NUM_BITS_SET_OFFSET_BYTES,
    bitsOff := DSGen.bloom_BIT_ARRAY_OFFSET_BYTES, maxBits := DSGen.bloom_MAX_FILTER_SIZE_BITS,
    strict := DSGen.bloom_READER_STRICT }

/-- side conditions of the theorems, discharged on the CURRENT header constants: the count sits at byte 24, the
bit array at byte 32 (where the sequential readers/writers put them), the dirty marker is 2^64-1 ≠ any count. -/
theorem genParams_layout : genParams.Layout ∧ genParams.dirty = 2 ^ 64 - 1 ∧ { genParams with strict := false } = refParams :=
  ⟨⟨by decide, by decide⟩, by decide, by decide⟩

/-- the wire constants the readers rely on (side condition `Params.Wire` of the repaired-model theorems). -/
theorem genParams_wire : genParams.Wire :=
  ⟨⟨by decide, by decide⟩, by decide, by decide, by decide, by decide, by decide, by decide⟩

/-- the real hashing of the `uint64_t` overload: h0 = XXH64(8 LE bytes, seed), h1 = XXH64(8 LE bytes, h0) -/
def hfU64 (x : Nat) (seed : Nat) : Option (Nat × Nat) := hashPair XXH.refPrimes (.u64 x) seed

/-- published known answers of XXHash64, for the transcription `XXH.hash` that `hfU64` uses -/
theorem xxh64_known_answers :
    XXH.hash XXH.refPrimes ByteArray.empty 0 = 0xEF46DB3751D8E999 ∧
    XXH.hash XXH.refPrimes ⟨#[0x61]⟩ 0 = 0xD24EC4F1A98C6E5B ∧
    XXH.hash XXH.refPrimes ⟨#[0x61, 0x62, 0x63]⟩ 0 = 0x44BC2CF5AD770999 ∧
    XXH.hash XXH.refPrimes ByteArray.empty 2654435761 = 0xAC75FDA2929B17EF := by decide +kernel

section
variable {ι : Type} [DecidableEq ι]

/-- FULL statement.  After any history, every live view that still carries a promise reports every item of its
must-set `M` present.  (`M`, see Promise.lean: what the bit state held when the view was created by copy /
deserialize(serialize) / wrap / writable_wrap of the same memory at that later time, plus what was inserted or
unioned through the view since; promises are void for blocks written through a stale view or supplied as raw bytes.) -/
def bloom_no_false_negative_full (P : Params) (fx : Fix) (hf : ι → Nat → Option (Nat × Nat)) : Prop :=
  NoFalseNegFull P fx hf

/-- PARTIAL (all layouts, pinned and repaired code, every hash function, every history): every item recorded
for a bit state (`Ghost.S`, Spec.lean: inserted through a filter of the same configuration since the last
reset / invert, carried along by copy, union, non-empty serialize, deserialize) has ALL its index bits set in
that bit state as seen by every live filter on it — owned, copied, deserialized, or any wrap / writable_wrap of the
same memory —, hence `query` answers true unless the `is_empty()` short-circuit fires, and `query_and_update`
answers true.  What is NOT proved (and false for the pinned code): that the short-circuit never fires. -/
theorem bloom_no_false_negative_partial (P : Params) (hP : P.Layout) (fx : Fix) (hf : ι → Nat → Option (Nat × Nat))
    (ops : List (Op ι)) (v : Nat) (f : Filter)
    (hv : (grun P fx hf ⟨World.empty, Ghost.empty⟩ ops).w.filters v = some f)
    (x : ι) (hx : x ∈ (grun P fx hf ⟨World.empty, Ghost.empty⟩ ops).g.under (keyOf v f) f.cfg)
    (h : Nat × Nat) (hh : hf x f.seed = some h) :
    allSet ((grun P fx hf ⟨World.empty, Ghost.empty⟩ ops).w.val f) (f.off P) (indices h.1 h.2 f.capBits f.numHashes) = true ∧
    query P (grun P fx hf ⟨World.empty, Ghost.empty⟩ ops).w f (hf x f.seed) = !f.isEmpty ∧
    (f.readOnly = false → (opQau P fx (grun P fx hf ⟨World.empty, Ghost.empty⟩ ops).w v (hf x f.seed)).2 = .bool true) ∧
    0 < f.capBits ∧ f.capBits % 64 = 0 := by
  have hi := inv_grun P fx hf hP ⟨World.empty, Ghost.empty⟩ (inv_empty P hf) ops
  have hc := covers_under_of_inv P hf _ _ hi v f hv f.cfg x hx h hh
  simp only [Filter.cfg] at hc
  refine ⟨hc, ?_, ?_, hi.2 v f hv⟩
  · simp [query, hh, hc]
  · intro hro
    rw [hh, opQau_answer P fx _ v f hv hro h, hc]

end

/-- the D13 witness: a filter initialised on caller memory, one update, then a writable wrap of the same memory -/
def witnessRewrap : List (Op Nat) := [.blk 0 40 0, .init 0 0 64 1 7, .upd 0 5, .wrap .wwrap 0 1]

/-- the witness on owned filters only: update then query_and_update of the same item -/
def witnessQauDirty : List (Op Nat) := [.new 0 64 3 7, .upd 0 5, .qau 0 5]

/-- the pinned code violates the full statement: `internal_update` on a memory-backed filter sets bits in the
caller's memory but leaves the stored count 0 (only the object is marked dirty), so a later
`writable_wrap` / `wrap` / `deserialize` of that memory believes the filter is empty and answers "absent". -/
theorem bloom_no_false_negative_full_false : ¬ bloom_no_false_negative_full refParams Fix.asCoded hfU64 :=
  not_noFalseNeg_of_witness refParams Fix.asCoded hfU64 witnessRewrap 1 5 (by decide +kernel)

/-- the full statement is violated on a single owned filter too: `query_and_update` on a dirty filter stores
`num_bits_set_ + (new bits)` computed from the stale count and clears the dirty flag; after `update(x)`,
`query_and_update(x)` the filter has count 0, is "empty", and `query(x)` is false (`fnWitness`: promised view 0 must
report item 5 and answers absent). -/
theorem bloom_no_false_negative_full_false_owned : fnWitness refParams Fix.asCoded hfU64 witnessQauDirty 0 5 = true := by
  decide +kernel

/-- REPAIRED MODEL (`Fix.fixed`): the FULL statement holds for every
wire-compatible layout, every hash function and every history whose filters stay below 2^32 bits (`Op.small`: above that the
32-bit `num_longs << 6` of the pinned readers wraps).  Proof: the invariant
`Good` (Lemmas/BloomGood.lean: every promised view covers its must-set and is not "empty" while the must-set is not; an
in-sync view's cached count is exact or the view is dirty; the stored count of a block that carries promises is exact or
the dirty marker; …) is preserved by every operation (Lemmas/BloomGood*.lean).  (`_hp` is not used: an unpromised view has
an empty must-set, `ViewOK.up`.) -/
theorem bloom_no_false_negative_fixed {ι : Type} [DecidableEq ι] (P : Params) (hP : P.Wire) (hf : ι → Nat → Option (Nat × Nat))
    (ops : List (Op ι)) (hs : ∀ op, op ∈ ops → Op.small op) (v : Nat) (f : Filter) (i : VInfo ι)
    (hv : (prun P Fix.fixed hf PWorld.start ops).w.filters v = some f)
    (hi : (prun P Fix.fixed hf PWorld.start ops).p.vi v = some i) (_hp : i.promised = true) (x : ι) (hx : x ∈ i.M) :
    query P (prun P Fix.fixed hf PWorld.start ops).w f (hf x f.seed) = true :=
  query_of_viewOK P hf _ f _ i ((good_prun P hf hP PWorld.start (good_empty P hf) ops hs).viewOK hv hi) x hx

/-- the two witness histories keep their promises in the repaired model (instances of the theorem above, evaluated). -/
example : (let s := prun refParams Fix.fixed hfU64 PWorld.start witnessRewrap
           (s.w.filters 1).map (fun f => query refParams s.w f (hfU64 5 f.seed))) = some true ∧
          (let s := prun refParams Fix.fixed hfU64 PWorld.start witnessQauDirty
           (s.w.filters 0).map (fun f => query refParams s.w f (hfU64 5 f.seed))) = some true := by decide +kernel

example : (∀ op, op ∈ witnessRewrap → Op.small op) ∧ (∀ op, op ∈ witnessQauDirty → Op.small op) := by
  constructor <;> intro op hop <;> simp [witnessRewrap, witnessQauDirty] at hop <;> rcases hop with rfl | rfl | rfl | rfl <;> simp [Op.small]

/-- non-vacuity of the partial theorem: in the D13 history the ghost does record item 5 for the re-wrapped view
(so the theorem says its bits ARE set in view 1 — only the empty short-circuit makes `query` false), and in a
longer history (update, serialize, deserialize, copy, union into a compatible filter) every derived filter is covered. -/
example : 5 ∈ (grun refParams Fix.asCoded hfU64 ⟨World.empty, Ghost.empty⟩ witnessRewrap).g.under (.mem 0) ⟨64, 1, 7⟩ := by decide +kernel
example :
    let ops : List (Op Nat) := [.new 0 100 3 7, .upd 0 5, .qau 0 6, .ser 0 0, .wrap .deser 0 1, .copy 1 2, .new 3 128 3 7, .upd 3 9,
                                .setop .union 3 2, .wrap .wrap 0 4]
    let s := grun refParams Fix.asCoded hfU64 ⟨World.empty, Ghost.empty⟩ ops
    (5 ∈ s.g.under (.own 1) ⟨128, 3, 7⟩ ∧ 6 ∈ s.g.under (.own 2) ⟨128, 3, 7⟩ ∧ 5 ∈ s.g.under (.own 3) ⟨128, 3, 7⟩ ∧
     9 ∈ s.g.under (.own 3) ⟨128, 3, 7⟩ ∧ 6 ∈ s.g.under (.mem 0) ⟨128, 3, 7⟩) ∧
    (s.w.filters 4).map (fun f => (f.ref, f.readOnly, query refParams s.w f (hfU64 6 f.seed))) = some (.mem 0, true, true) := by
  decide +kernel

section
variable {ι : Type} [DecidableEq ι]

/-- FULL statement: on every promised, in-sync view, `query_and_update x` returns exactly `query x` evaluated before the call. -/
def bloom_qau_prior_full (P : Params) (fx : Fix) (hf : ι → Nat → Option (Nat × Nat)) : Prop :=
  QauPriorFull P fx hf

end

/-- PARTIAL (every world, pinned and repaired code): `query_and_update` returns the bit-level answer from before
the call (all index bits set); that is `query` before the call whenever the filter does not believe it is empty,
and also when it is empty and its bits really are all clear.  NOT proved (false for the pinned code): equality when `is_empty()`
is stale (count 0 with bits set). -/
theorem bloom_qau_prior_partial (P : Params) (fx : Fix) (w : World) (v : Nat) (f : Filter) (hv : w.filters v = some f)
    (hro : f.readOnly = false) (h : Nat × Nat) :
    (opQau P fx w v (some h)).2 = .bool (allSet (w.val f) (f.off P) (indices h.1 h.2 f.capBits f.numHashes)) ∧
    (f.isEmpty = false → (opQau P fx w v (some h)).2 = .bool (query P w f (some h))) ∧
    ((∀ j, j < f.capBits → w.bit P f j = false) → 0 < f.numHashes → 0 < f.capBits → f.isEmpty = true →
        (opQau P fx w v (some h)).2 = .bool (query P w f (some h))) := by
  have ha := opQau_answer P fx w v f hv hro h
  refine ⟨ha, ?_, ?_⟩
  · intro he; rw [ha]; simp [query, he]
  · intro hz hk hc he
    rw [ha]
    simp [query, he, allSet_false_of_idx1_clear _ _ h.1 h.2 _ _ hk (hz _ (idx_lt h.1 h.2 f.capBits 1 hc))]

/-- the pinned code violates the full statement (consequence of the stale count): in the D13 state the fresh
writable wrap answers `query(5) = false` but `query_and_update(5) = true`. -/
theorem bloom_qau_prior_full_false : ¬ bloom_qau_prior_full refParams Fix.asCoded hfU64 :=
  not_qauPrior_of_witness refParams Fix.asCoded hfU64 witnessRewrap 1 5 true (by decide +kernel)

/-- REPAIRED MODEL: the FULL statement holds (same side conditions as `bloom_no_false_negative_fixed`): on every promised
in-sync view `query_and_update x` returns exactly `query x` evaluated before the call. -/
theorem bloom_qau_prior_fixed {ι : Type} [DecidableEq ι] (P : Params) (hP : P.Wire) (hf : ι → Nat → Option (Nat × Nat))
    (ops : List (Op ι)) (hs : ∀ op, op ∈ ops → Op.small op) (v : Nat) (f : Filter) (i : VInfo ι) (x : ι) (b : Bool)
    (hv : (prun P Fix.fixed hf PWorld.start ops).w.filters v = some f)
    (hi : (prun P Fix.fixed hf PWorld.start ops).p.vi v = some i) (hp : i.promised = true)
    (hin : inSync (prun P Fix.fixed hf PWorld.start ops).p v f i = true)
    (hq : (step P Fix.fixed hf (prun P Fix.fixed hf PWorld.start ops).w (.qau v x)).2 = .bool b) :
    b = query P (prun P Fix.fixed hf PWorld.start ops).w f (hf x f.seed) := by
  have hg := good_prun P hf hP PWorld.start (good_empty P hf) ops hs
  simp only [step, hashFor, hv] at hq
  by_cases hro : f.readOnly = true
  · cases hh : hf x f.seed with
    | none => rw [hh] at hq; simp [opQau, hv] at hq; simp [query, hq]
    | some h => rw [hh] at hq; simp [opQau, hv, hro] at hq
  · have hro' : f.readOnly = false := by simpa using hro
    rw [inSync_eq] at hin
    rw [qau_eq_query_of_viewOK P hf Fix.fixed _ v f hv _ i (hg.viewOK hv hi) (hg.fwf v f hv) hp hin hro' (hf x f.seed)] at hq
    injection hq with hq; exact hq.symm

/-- instances of the partial theorem on a filter that is not `is_empty` (dirty after one update): the inserted item is answered present, another one absent. -/
example : (opQau refParams Fix.asCoded (run refParams Fix.asCoded hfU64 World.empty [.new 0 64 3 7, .upd 0 5]) 0 (hfU64 5 7)).2 = .bool true ∧
          (opQau refParams Fix.asCoded (run refParams Fix.asCoded hfU64 World.empty [.new 0 64 3 7, .upd 0 5]) 0 (hfU64 6 7)).2 = .bool false := by
  decide +kernel

/-! ## the readers (deserialize / wrap / writable_wrap)

`Params.strict` (DSGen `bloom_READER_STRICT`, read from the CURRENT bloom_filter_impl.hpp by tools/trules/bloom.py) selects the
reader shape the model follows: `false` = the pinned readers (no consistency check between preamble longs and the empty flag,
zero counts accepted, 32-bit `num_longs << 6`, bit-array length unchecked for wraps — the model marks those inputs `.oob`,
"outside the modelled domain", C11's subject), `true` = the validated readers.  Every theorem of this file that is stated for a
general `P` is for BOTH shapes; `bloom_readers_current` is for the validated one, and the `…_full_false` witnesses are evaluated
with `refParams` (the shape of the pinned tree). -/

/-- VALIDATED READERS (`P.strict = true`): deserialize / wrap / writable_wrap of ANY existing block either throws or returns a
filter — never the model's "outside the modelled domain" outcome (no count read past a short buffer, no bit array outside the
block, no zero capacity) —, and a returned filter has at least one hash function, a positive capacity, and, when it wraps the
block, a bit array that lies inside it.  (For the pinned readers these are the `.oob` cases.) -/
theorem bloom_readers_current (P : Params) (hs : P.strict = true) (hstd : P.preStd = 4) (w : World) (k : WrapKind) (m v : Nat) (b : Block)
    (hm : w.blocks m = some b) :
    (opWrap P w k m v).2 ≠ .oob ∧
    (∀ f, (opWrap P w k m v).2 = .ok → (opWrap P w k m v).1.filters v = some f →
        1 ≤ f.numHashes ∧ 0 < f.capBits ∧ (isMem f = true → 32 + f.capBits / 8 ≤ b.len)) :=
  opWrap_strict P hs hstd w k m v b hm

/-- instances: an image with zero hash functions and a wrap of a block shorter than its declared bit array are refused by the
validated readers; the pinned readers accept the first and are outside the modelled domain on the second. -/
example :
    let img0 : Block := ⟨40, (image refParams World.empty { (mkOwned 64 3 7) with numHashes := 0, nbs := 1 }).val⟩
    let short : Block := ⟨39, (image refParams World.empty { (mkOwned 64 3 7) with nbs := 1 }).val⟩
    let w : World := (World.empty.setBlock 0 img0).setBlock 1 short
    (opWrap { refParams with strict := true } w .deser 0 5).2 = .thrw ∧ (opWrap refParams w .deser 0 5).2 = .ok ∧
    (opWrap { refParams with strict := true } w .wrap 1 5).2 = .thrw ∧ (opWrap refParams w .wrap 1 5).2 = .oob := by decide +kernel

/-- union_with / intersect / invert, on every world (owned or caller-memory target, any source incl. the target
itself or another view of the same memory), whenever the call is not refused and returns: bit `j` of the target for
every `j` below the capacity is OR / AND / NOT of the operands' bits before the call; the returned `get_bits_used()`
is the population count of the capacity bits afterwards and the filter is not dirty; for a writable memory-backed
target that count is written to byte 24 of the block; no other bit state changes.  Capacities are multiples of 64
in every reachable world (`bloom_no_false_negative_partial`), so there are no array bits beyond the capacity. -/
theorem bloom_setops_bitwise (P : Params) (hP : P.Layout) (fx : Fix) (w : World) (op : SetOp) (v u : Nat) (f g' : Filter)
    (hv : w.filters v = some f) (hu : w.filters u = some g') (w' : World) (n : Nat)
    (hres : opSet P fx w op v u = (w', .nat n)) :
    ∃ f', w'.filters v = some f' ∧ f'.capBits = f.capBits ∧
      (∀ j, j < f.capBits → w'.bit P f' j = combineBit op (w.bit P f j) (w.bit P g' j)) ∧
      n = popCount (w'.val f') (f'.off P) f.capBits ∧ f'.nbs = n ∧ f'.dirty = false ∧
      (opBitsUsed P w' v).2 = .nat n ∧
      (∀ m, f.ref = .mem m → f.readOnly = false → getField (w'.blockVal m) (8 * P.nbsOff) 64 = n % 2 ^ 64) ∧
      (∀ key, key ≠ keyOf v f → keyVal w' key = keyVal w key) := by
  -- the call returned a count, so it was not refused
  rw [opSet_eq P fx w op v u f g' hv hu] at hres
  by_cases hro : (fx.roSetopsRefused && f.readOnly) = true
  · rw [if_pos hro] at hres; cases hres
  by_cases hcomp : op = .invert ∨ compatible f g' = true
  case neg => rw [if_neg hro, if_neg hcomp] at hres; cases hres
  rw [if_neg hro, if_pos hcomp] at hres
  have hcc : op = .invert ∨ g'.capBits = f.capBits := hcomp.imp id compatible_cap
  injection hres with hw' hn
  injection hn with hn
  subst hw'
  rw [hn]
  obtain ⟨hcap, -, -, hnbs, hdirty, -⟩ := committed_fields f (setopVal P w op f g') n false
  refine ⟨committed f _ n false, commit_filter _ _ _ _ _ _ _ _, hcap, ?_, ?_, hnbs, hdirty, ?_, ?_,
    fun key hk => keyVal_commit_ne P w v f _ _ _ _ hv key hk⟩
  · intro j hj
    simp only [World.bit]
    rw [commit_bit P hP, setop_bit P w f g' op j hj hcc]
  · rw [← hn]
    apply popCount_congr
    intro j _
    rw [commit_bit P hP]
  · simp [opBitsUsed, commit_filter, hnbs, hdirty]
  · intro m hr hro
    exact commit_header P w v f m hr hro _ _ _ _

example :
    let w := run refParams Fix.asCoded hfU64 World.empty [.new 0 100 3 7, .upd 0 5, .new 1 128 3 7, .upd 1 6, .upd 1 5]
    (opSet refParams Fix.asCoded w .union 0 1).2 = .nat 6 ∧ (opSet refParams Fix.asCoded w .inter 0 1).2 = .nat 3 ∧
    (opSet refParams Fix.asCoded w .invert 0 0).2 = .nat 125 := by decide +kernel

/-- what has to be refused (the operation throws and nothing changes) -/
structure Refusals (P : Params) (fx : Fix) : Prop where
  /-- constructors: zero hashes, zero bits, more than MAX_FILTER_SIZE_BITS -/
  ctor : ∀ w v nb nh seed, (nh = 0 ∨ nb = 0 ∨ P.maxBits < nb) → opNew P w v nb nh seed = (w, .thrw)
  /-- initialize on caller memory: same argument checks, and a block that is too small -/
  init : ∀ w v m nb nh seed, (nh = 0 ∨ nb = 0 ∨ P.maxBits < nb ∨ w.blockLen m < 8 * (P.preStd + roundUp64 nb / 64)) →
      opInit P w v m nb nh seed = (w, .thrw)
  /-- writes through a read-only view -/
  roUpdate : ∀ w v f h, w.filters v = some f → f.readOnly = true → opUpdate P fx w v (some h) = (w, .thrw)
  roQau : ∀ w v f h, w.filters v = some f → f.readOnly = true → opQau P fx w v (some h) = (w, .thrw)
  roReset : ∀ w v f, w.filters v = some f → f.readOnly = true → opReset P w v = (w, .thrw)
  roSetop : ∀ w op v u f g', w.filters v = some f → w.filters u = some g' → f.readOnly = true → opSet P fx w op v u = (w, .thrw)
  /-- incompatible operands (seed, number of hashes or capacity differ) -/
  incompatible : ∀ w op v u f g', w.filters v = some f → w.filters u = some g' → op ≠ .invert →
      (f.seed ≠ g'.seed ∨ f.numHashes ≠ g'.numHashes ∨ f.capBits ≠ g'.capBits) → opSet P fx w op v u = (w, .thrw)
  /-- an empty image wrapped for writing -/
  wwrapEmpty : ∀ w m v b nb nh seed, w.blocks m = some b → parseImage P b = .emptyImg nb nh seed → opWrap P w .wwrap m v = (w, .thrw)

def bloom_refusals_full (P : Params) (fx : Fix) : Prop := Refusals P fx

/-- PARTIAL / repaired: everything is refused as stated provided set operations check `is_read_only_` like
`update`, `query_and_update` and `reset` do — i.e. all clauses for every `fx` except `roSetop`, which needs the repair. -/
theorem bloom_refusals_partial (P : Params) (fx : Fix) :
    (fx.roSetopsRefused = true → bloom_refusals_full P fx) ∧
    (∀ w v nb nh seed, (nh = 0 ∨ nb = 0 ∨ P.maxBits < nb) → opNew P w v nb nh seed = (w, .thrw)) ∧
    (∀ w v m nb nh seed, (nh = 0 ∨ nb = 0 ∨ P.maxBits < nb ∨ w.blockLen m < 8 * (P.preStd + roundUp64 nb / 64)) →
      opInit P w v m nb nh seed = (w, .thrw)) ∧
    (∀ w v f h, w.filters v = some f → f.readOnly = true → opUpdate P fx w v (some h) = (w, .thrw)) ∧
    (∀ w v f h, w.filters v = some f → f.readOnly = true → opQau P fx w v (some h) = (w, .thrw)) ∧
    (∀ w v f, w.filters v = some f → f.readOnly = true → opReset P w v = (w, .thrw)) ∧
    (∀ w op v u f g', w.filters v = some f → w.filters u = some g' → op ≠ .invert → f.readOnly = false →
      (f.seed ≠ g'.seed ∨ f.numHashes ≠ g'.numHashes ∨ f.capBits ≠ g'.capBits) → opSet P fx w op v u = (w, .thrw)) ∧
    (∀ w m v b nb nh seed, w.blocks m = some b → parseImage P b = .emptyImg nb nh seed → opWrap P w .wwrap m v = (w, .thrw)) := by
  have hbad : ∀ nb nh, (nh = 0 ∨ nb = 0 ∨ P.maxBits < nb) → badSize P nb nh = true := by
    intro nb nh h
    simp only [badSize, Bool.or_eq_true, beq_iff_eq, decide_eq_true_eq]
    exact or_assoc.mpr h
  -- incompatible operands are refused whether or not the target is read-only
  have hincomp : ∀ w op v u f g', w.filters v = some f → w.filters u = some g' → op ≠ .invert →
      (f.seed ≠ g'.seed ∨ f.numHashes ≠ g'.numHashes ∨ f.capBits ≠ g'.capBits) → opSet P fx w op v u = (w, .thrw) := by
    intro w op v u f g' hv hu hop hne
    have hc : compatible f g' = false := by
      simp only [compatible, Bool.and_eq_false_iff, beq_eq_false_iff_ne]
      exact or_assoc.mpr hne
    have hop' : (op != SetOp.invert) = true := by simpa using hop
    simp only [opSet, hv, hu, hc, hop']
    by_cases h1 : (fx.roSetopsRefused && f.readOnly) = true <;> simp [h1]
  -- the clauses that hold for every `fx` first; with the repair they make up the full statement
  refine (and_iff_right_of_imp fun h hfx => ?_).mpr
    ⟨?_, ?_, ?_, ?_, ?_, fun w op v u f g' hv hu hop _ hne => hincomp w op v u f g' hv hu hop hne, ?_⟩
  · obtain ⟨h1, h2, h3, h4, h5, -, h7⟩ := h
    exact ⟨h1, h2, h3, h4, h5, fun w op v u f g' hv hu hro => by simp [opSet, hv, hu, hfx, hro], hincomp, h7⟩
  · intro w v nb nh seed h; simp [opNew, hbad nb nh h]
  · intro w v m nb nh seed h
    by_cases hb : badSize P nb nh = true
    · simp [opInit, hb]
    · obtain ⟨h1, h2, h3⟩ := not_badSize (Bool.eq_false_iff.mpr hb)
      have hl := ((h.resolve_left (Nat.ne_of_gt h1)).resolve_left h2).resolve_left (Nat.not_lt.mpr h3)
      simp [opInit, hb, serializedSize, hl]
  · intro w v f h hv hro; simp [opUpdate, hv, hro]
  · intro w v f h hv hro; simp [opQau, hv, hro]
  · intro w v f hv hro; simp [opReset, hv, hro]
  · intro w m v b nb nh seed hm hp; simp [opWrap, hm, hp]

/-- the three repairs switched on: the full refusal statement holds -/
theorem bloom_refusals_fixed (P : Params) : bloom_refusals_full P Fix.fixed := (bloom_refusals_partial P Fix.fixed).1 rfl

/-- the pinned code violates the full statement: `union_with` (likewise `intersect`, `invert`) through a read-only
wrap is not refused — it writes into the wrapped (const) memory and leaves the stored count stale. -/
theorem bloom_refusals_full_false : ¬ bloom_refusals_full refParams Fix.asCoded := by
  intro h
  have hw : roSetopWitness refParams Fix.asCoded
      (run refParams Fix.asCoded hfU64 World.empty [.blk 0 40 0, .init 0 0 64 1 7, .wrap .wrap 0 1, .new 2 64 1 7, .upd 2 5]) .union 1 2 = true := by
    decide +kernel
  unfold roSetopWitness at hw
  split at hw
  · rename_i f g' hf' hg'
    simp only [Bool.and_eq_true, decide_eq_true_eq] at hw
    have := h.roSetop _ .union 1 2 f g' hf' hg' hw.1
    exact hw.2 (by rw [this])
  · cases hw

/-- the hypothesis of `Refusals.wwrapEmpty` can be met: the image of a fresh filter parses as an empty image. -/
example : parseImage refParams (image refParams World.empty (mkOwned 100 3 7)) = .emptyImg 128 3 7 := by decide +kernel

end DS.Bloom
