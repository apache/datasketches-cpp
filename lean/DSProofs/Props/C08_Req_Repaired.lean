/-
C08 (REQ part), the statement that becomes true with the repair of D9: the regular `req_compactor` constructor draws its initial coin
(`coin_(random_utils::random_bit())`, under DATASKETCHES_VERIF from the harness-installable source: hook H3) instead of starting with
the constant `coin_(false)`.  The shape is read from the headers under /repo by tools/trules/req.py, on every build, into `DSGen.req_INITIAL_COIN_RANDOM`
(= `genTun.initCoinRandom`); the executed model follows it: one coin is consumed at every compactor creation (sketch construction,
new levels in `grow()` during compress and merge), copies draw nothing.  `C08_Req.lean` keeps the statements about the shape of the pinned upstream commit
(`req_unbiased_full_false`).  The theorems of C07_Req.lean / C08_Req.lean are parametric in the shape flag and hold for both shapes,
except `req_unbiased_full` and its refutation, which fix `T.initCoinRandom = false`.
-/
import DSProofs.Props.C08_Req
namespace DS.Req

variable {ρ : Type}

/-- in the repaired shape every coin a compaction flips derives from a draw: the ghost flag never fires, for EVERY history -/
theorem req_no_constant_coin_repaired {T : Tun} (F : SecFns ρ) (hf : T.initCoinRandom = true) (ops : List Op) (coins : List Bool) :
    (run T F ops coins).2.oddConst = false :=
  run_odd_drawn F hf ops coins

/-- req_unbiased, the FULL statement, repaired shape: for every admissible tunable set with a random initial coin, every section
schedule, every history of new / update / merge / copy / query operations over any number of live sketches (every merge tree), every
object and every predicate on items (in particular `≤ y` and `< y`): the weight of the retained items satisfying the predicate, summed
over ALL 2^F coin vectors, is 2^F times the true count — no hypothesis on coin provenance -/
theorem req_unbiased_repaired {T : Tun} (hT : TunOK T) (hf : T.initCoinRandom = true) (F : SecFns ρ) (ops : List Op) (id : Nat)
    (items : List Int) (hin : inputOf ops id = some items) (p : Int → Bool) :
    sumOverCoins T F ops id p = 2 ^ (run T F ops []).2.used * (items.filter p).length :=
  req_unbiased_partial hT F ops id items hin (req_no_constant_coin_repaired F hf ops []) p

/-- `req_unbiased_repaired` at the two rank predicates `≤ y` and `< y`, spelled with `Sketch.weightBelow` -/
theorem req_unbiased_rank_repaired {T : Tun} (hT : TunOK T) (hf : T.initCoinRandom = true) (F : SecFns ρ) (ops : List Op) (id : Nat)
    (items : List Int) (hin : inputOf ops id = some items) (y : Int) (inclusive : Bool) :
    ((allVecs (run T F ops []).2.used).map (fun v =>
        match (run T F ops v).1.get id with
        | some s => s.weightBelow y inclusive
        | none => 0)).sum
      = 2 ^ (run T F ops []).2.used * (items.filter (fun x => if inclusive then decide (x ≤ y) else decide (x < y))).length :=
  req_unbiased_repaired hT hf F ops id items hin _

/-- over the generated flag: whenever /repo's headers have the repaired shape, the full statement holds for `genTun`
(on a tree whose constructor is the pinned upstream one the hypothesis is false and `req_unbiased_full_false` applies) -/
theorem req_unbiased_current (hcur : DSGen.req_INITIAL_COIN_RANDOM = true) (F : SecFns ρ) (ops : List Op) (id : Nat)
    (items : List Int) (hin : inputOf ops id = some items) (p : Int → Bool) :
    sumOverCoins genTun F ops id p = 2 ^ (run genTun F ops []).2.used * (items.filter p).length :=
  req_unbiased_repaired req_genTun_ok hcur F ops id items hin p

/-- the tunables with the repaired shape -/
def repTun : Tun := { genTun with initCoinRandom := true }
theorem req_repTun_ok : TunOK repTun := by constructor <;> decide

/-- the witness `d9Ops` of `req_unbiased_full_false` in the repaired shape: five coins are drawn (four constructors, one compaction: the other compaction finds its state odd and flips the held coin), the ghost flag stays off,
and over all 32 coin vectors the weight of the items ≤ 16 in sketch 0 sums to 32 · 17 -/
example : (run repTun (⟨fun _ => (), id, fun _ => 0⟩ : SecFns Unit) d9Ops []).2.used = 5
    ∧ (run repTun (⟨fun _ => (), id, fun _ => 0⟩ : SecFns Unit) d9Ops []).2.oddConst = false
    ∧ sumOverCoins repTun (⟨fun _ => (), id, fun _ => 0⟩ : SecFns Unit) d9Ops 0 (fun x => decide (x ≤ 16)) = 32 * 17 := by
  decide +kernel

end DS.Req
