/-
C11 (compact theta sketch images) — truncated images are rejected, counts cannot outrun the input.

ONLY property theorems and their non-vacuity examples.  The specification reader `decode` is built from the
combinators of DSModel/Wire/Reader.lean only (it cannot read out of bounds by construction and is total); the real
readers are held to it by the exhaustive-prefix runs of `./check c11_theta` under ASan/UBSan.
-/
import DSProofs.Lemmas.WireThetaLegacy
import DSProofs.Lemmas.WireThetaBounded
namespace DS.Wire.Theta
open DS.Wire

/-- the reader of all four serial versions is prefix-safe. -/
theorem decode_PS (c : Consts) (exp : Nat) : PS (decode c exp) := (decode_within c exp).ps

/-- every strict prefix of an uncompressed image is rejected (no padding in this family). -/
theorem prefix_rejected (c : Consts) (hc : c.ok = true) (s : Image) (hwf : WF s) (exp : Nat)
    (hseed : s.isEmpty = true ∨ s.seedHash = exp) (n : Nat) (hn : n < (encode c s).length) :
    decode c exp ((encode c s).take n) = none :=
  prefix_rejected' (decode c exp) (decode_PS c exp) (encode c s) s (decode_encode' (COk.of_ok hc) s hwf exp hseed) n hn

/-- every strict prefix of a compressed image is rejected. -/
theorem prefix_rejected_v4 (c : Consts) (hc : c.ok = true) (s : Image) (h4 : WFv4 s) (exp : Nat) (hseed : s.seedHash = exp)
    (n : Nat) (hn : n < (encodeV4 c s).length) : decode c exp ((encodeV4 c s).take n) = none :=
  prefix_rejected' (decode c exp) (decode_PS c exp) (encodeV4 c s) s (decode_encode_v4 (COk.of_ok hc) s h4 exp hseed) n hn

/-- every strict prefix of a legacy image is rejected. -/
theorem prefix_rejected_legacy (c : Consts) (hc : c.ok = true) (s : Image) (hwf : WFLegacy s) (exp : Nat) (hseed : s.seedHash = exp) (n : Nat) :
    (n < (encodeV1 c s).length → decode c exp ((encodeV1 c s).take n) = none) ∧
    (n < (encodeV2 c s).length → decode c exp ((encodeV2 c s).take n) = none) :=
  ⟨prefix_rejected' (decode c exp) (decode_PS c exp) (encodeV1 c s) s (decode_encode_v1 (COk.of_ok hc) s hwf exp hseed) n,
   prefix_rejected' (decode c exp) (decode_PS c exp) (encodeV2 c s) s (decode_encode_v2 (COk.of_ok hc) s hwf exp hseed) n⟩

/-- whatever the bytes are (any serial version, any corruption): a successful decode returns at most 8 entries per
input byte actually consumed — no count field can make the specification reader allocate beyond that. -/
theorem decode_bounded (c : Consts) (exp : Nat) (b : Bytes) (s : Image) (r : Bytes) (h : decode c exp b = some (s, r)) :
    s.entries.length + 8 * r.length ≤ 8 * b.length :=
  (decode_within c exp).bound h

example : decode documented 37836 [2, 3, 3, 0, 0, 0x1a, 0xcc, 0x93, 0xff, 0xff, 0xff, 0xff, 0, 0, 0, 0] = none := by decide

end DS.Wire.Theta
