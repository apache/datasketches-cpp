/- C19: counting the indices below `n` that satisfy a predicate: "`num_entries_` = number of non-empty slots" (theta, FI), the
   counter of a loop that scans the slots (`cnt_scan_*`, FI), and the count along an injective re-indexing (`cnt_perm`). -/
namespace DS.Life

def cnt (f : Nat → Bool) : Nat → Nat
  | 0 => 0
  | n + 1 => cnt f n + (if f n then 1 else 0)

theorem cnt_succ (f : Nat → Bool) (n : Nat) : cnt f (n + 1) = cnt f n + (if f n then 1 else 0) := rfl

theorem cnt_le (f : Nat → Bool) (n : Nat) : cnt f n ≤ n := by
  induction n with
  | zero => exact Nat.le_refl 0
  | succ n ih => exact Nat.add_le_add ih (by split <;> decide)

theorem cnt_congr {f g : Nat → Bool} {n : Nat} (h : ∀ i, i < n → f i = g i) : cnt f n = cnt g n := by
  induction n with
  | zero => rfl
  | succ n ih => rw [cnt, cnt, ih (fun i hi => h i (Nat.lt_succ_of_lt hi)), h n (Nat.lt_succ_self n)]

theorem cnt_mono (f : Nat → Bool) {m n : Nat} (h : m ≤ n) : cnt f m ≤ cnt f n := by
  induction h with
  | refl => exact Nat.le_refl _
  | step _ ih => exact Nat.le_trans ih (Nat.le_add_right _ _)

theorem cnt_all_true {f : Nat → Bool} {lo hi : Nat} (hle : lo ≤ hi) (h : ∀ i, lo ≤ i → i < hi → f i = true) :
    cnt f hi = cnt f lo + (hi - lo) := by
  induction hle with
  | refl => rw [Nat.sub_self]; rfl
  | @step m hm ih =>
    rw [cnt, h m hm (Nat.lt_succ_self m), ih (fun i h1 h2 => h i h1 (Nat.lt_succ_of_lt h2)), Nat.succ_sub hm]
    rfl

theorem cnt_all_false {f : Nat → Bool} {lo hi : Nat} (hle : lo ≤ hi) (h : ∀ i, lo ≤ i → i < hi → f i = false) :
    cnt f hi = cnt f lo := by
  induction hle with
  | refl => rfl
  | @step m hm ih =>
    rw [cnt, h m hm (Nat.lt_succ_self m), ih (fun i h1 h2 => h i h1 (Nat.lt_succ_of_lt h2))]
    rfl

theorem cnt_set_true {f g : Nat → Bool} {n k : Nat} (hk : k < n) (hf : f k = false) (hg : g k = true)
    (h : ∀ i, i ≠ k → g i = f i) : cnt g n = cnt f n + 1 := by
  induction n with
  | zero => exact absurd hk (Nat.not_lt_zero k)
  | succ n ih =>
    rcases Nat.lt_succ_iff_lt_or_eq.mp hk with hlt | rfl
    · rw [cnt, cnt, ih hlt, h n (Nat.ne_of_gt hlt), Nat.add_right_comm]
    · rw [cnt, cnt, cnt_congr (fun i hi => h i (Nat.ne_of_lt hi)), hf, hg]
      rfl

theorem cnt_set_false {f g : Nat → Bool} {n k : Nat} (hk : k < n) (hf : f k = true) (hg : g k = false)
    (h : ∀ i, i ≠ k → g i = f i) : cnt g n + 1 = cnt f n :=
  (cnt_set_true hk hg hf (fun i hi => (h i hi).symm)).symm

theorem cnt_zero_of_all_false {f : Nat → Bool} {n : Nat} (h : ∀ i, i < n → f i = false) : cnt f n = 0 :=
  cnt_all_false (Nat.zero_le n) (fun i _ hi => h i hi)

theorem cnt_eq_imp_false {f : Nat → Bool} {m n : Nat} (h : cnt f n = cnt f m) :
    ∀ i, m ≤ i → i < n → f i = false := by
  intro i hmi hin
  -- a true value at `i` makes one more below `i + 1` than below `i`, and the count is monotone
  refine Bool.eq_false_iff.mpr fun hfi => Nat.lt_irrefl (cnt f i) ?_
  calc cnt f i < cnt f (i + 1) := by rw [cnt_succ, hfi]; exact Nat.lt_succ_self _
    _ ≤ cnt f n := cnt_mono f hin
    _ = cnt f m := h
    _ ≤ cnt f i := cnt_mono f hmi

theorem cnt_eq_zero_imp {f : Nat → Bool} {n : Nat} (h : cnt f n = 0) : ∀ i, i < n → f i = false :=
  fun i hi => cnt_eq_imp_false (m := 0) h i (Nat.zero_le i) hi

theorem cnt_full {f : Nat → Bool} {n : Nat} (h : ∀ i, i < n → f i = true) : cnt f n = n := by
  rw [cnt_all_true (Nat.zero_le n) fun i _ => h i]
  exact Nat.zero_add n

/-- the counter of a loop that scans the slots upwards and stops when `num`, the number of true ones from `i` on, runs
    out: after a true slot one less remains, and if that was the last the rest is false -/
theorem cnt_scan_true {a : Nat → Bool} {n i num : Nat} (hi : i < n) (ha : a i = true) (h : cnt a n = cnt a i + num) :
    cnt a n = cnt a (i + 1) + (num - 1) ∧ (num - 1 = 0 → ∀ j, i + 1 ≤ j → j < n → a j = false) := by
  have h1 : cnt a (i + 1) = cnt a i + 1 := by rw [cnt_succ, ha]; rfl
  have hm := cnt_mono a (Nat.succ_le_of_lt hi)
  rw [h1, h] at hm
  have h2 : cnt a n = cnt a (i + 1) + (num - 1) := by
    rw [h1, Nat.add_assoc, Nat.add_sub_cancel' (Nat.le_of_add_le_add_left hm), h]
  exact ⟨h2, fun h0 => cnt_eq_imp_false (m := i + 1) (by rw [h2, h0]; rfl)⟩

theorem cnt_scan_false {a : Nat → Bool} {n i num : Nat} (ha : a i = false) (h : cnt a n = cnt a i + num) :
    cnt a n = cnt a (i + 1) + num := by
  rw [cnt_succ, ha]; exact h

theorem cnt_inj_le (n : Nat) : ∀ (m : Nat) (f : Nat → Bool) (σ : Nat → Nat), (∀ t, t < n → σ t < m) →
    (∀ t1 t2, t1 < t2 → t2 < n → σ t1 ≠ σ t2) → cnt (fun t => f (σ t)) n ≤ cnt f m := by
  induction n with
  | zero => intro m f σ _ _; exact Nat.zero_le _
  | succ n ih =>
    intro m f σ hr hinj
    -- `f'` is `f` with the value at `σ n` switched off
    let f' : Nat → Bool := fun i => f i && (i != σ n)
    have h1 : cnt (fun t => f (σ t)) n = cnt (fun t => f' (σ t)) n := by
      apply cnt_congr
      intro t ht
      have : σ t ≠ σ n := hinj t n ht (Nat.lt_succ_self n)
      simp [f', this]
    have h2 := ih m f' σ (fun t ht => hr t (Nat.lt_succ_of_lt ht)) (fun t1 t2 a b => hinj t1 t2 a (Nat.lt_succ_of_lt b))
    cases hf : f (σ n) with
    | true =>
      have h3 : cnt f' m + 1 = cnt f m := by
        apply cnt_set_false (hr n (Nat.lt_succ_self n)) hf
        · simp [f']
        · intro i hi; simp [f', hi]
      rw [cnt_succ, hf, h1, ← h3]
      exact Nat.succ_le_succ h2
    | false =>
      have h3 : cnt f' m = cnt f m := by
        apply cnt_congr
        intro i _
        by_cases hi : i = σ n
        · subst hi; simp [f', hf]
        · simp [f', hi]
      rw [cnt_succ, hf, h1, ← h3]
      exact h2

theorem cnt_add_not (f : Nat → Bool) (n : Nat) : cnt f n + cnt (fun i => !f i) n = n := by
  induction n with
  | zero => rfl
  | succ n ih =>
    rw [cnt_succ, cnt_succ]
    cases f n
    · exact congrArg Nat.succ ih
    · exact (Nat.succ_add _ _).trans (congrArg Nat.succ ih)

theorem cnt_perm (f : Nat → Bool) (σ : Nat → Nat) (n : Nat) (hr : ∀ t, t < n → σ t < n)
    (hinj : ∀ t1 t2, t1 < t2 → t2 < n → σ t1 ≠ σ t2) : cnt (fun t => f (σ t)) n = cnt f n := by
  -- no more true values along `σ` than in all, no more false ones either, and both pairs of counts add up to `n`
  have b := cnt_inj_le n n (fun i => !f i) σ hr hinj
  have c := (cnt_add_not f n).trans (cnt_add_not (fun t => f (σ t)) n).symm
  exact Nat.le_antisymm (cnt_inj_le n n f σ hr hinj)
    (Nat.le_of_add_le_add_right (Nat.le_trans (Nat.le_of_eq c) (Nat.add_le_add_left b _)))

end DS.Life
