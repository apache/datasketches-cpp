/- Sketch merge (C18): replaying the lighter sketch's items with the average weight keeps `c = rho·cumWt`,
`rho = min(1/max(wtMax), min(k)/cumWt)` and the sample structure. -/
import DSProofs.Lemmas.EbppsStream
namespace DS.Ebpps

variable {P : Nat → Prop}

/-- the condition under which no replayed item contributes more than 1 to `c`: either the average weight does not exceed
the new maximum weight (unsaturated source), or the receiving sketch is at least `k` average weights heavy. -/
def ThetaOK (k : Nat) (avg M W : Rat) : Prop := avg ≤ M ∨ (k : Rat) * avg ≤ W

theorem ThetaOK.mono {k : Nat} {avg M W W' : Rat} (h : ThetaOK k avg M W) (hW : W ≤ W') : ThetaOK k avg M W' :=
  h.imp_right fun h => h.trans hW

theorem theta_bound {k : Nat} {avg M W incr : Rat} (hM : 0 < M) (hW : 0 < W)
    (hi0 : 0 < incr) (hi : incr ≤ avg) (h : ThetaOK k avg M W) :
    min (1 / M) ((k : Rat) / (W + incr)) * incr ≤ 1 := by
  rcases h with h | h
  · exact min_inv_mul_le_one hi0 hM (le_trans hi h)
  · calc min (1 / M) ((k : Rat) / (W + incr)) * incr ≤ (k : Rat) / (W + incr) * incr :=
          mul_le_mul_of_nonneg_right (min_le_right _ _) (le_of_lt hi0)
      _ = ((k : Rat) * incr) / (W + incr) := by ring
      _ ≤ 1 := by
        rw [div_le_one (by linarith)]
        linarith [mul_le_mul_of_nonneg_left hi (Nat.cast_nonneg (α := Rat) k)]

/-- What `absorbAll` leaves of `s`.  The rate is exactly that for `M'` and `s.k` only once an item has been replayed (or if it
was so before): `core`; until then only `above` is known. -/
structure AbsorbedAll (P : Nat → Prop) (v : Variant) (s : Sketch Rat) (avg M' : Rat) (items : List Nat)
    (r : Sketch Rat × Draws Rat) : Prop where
  above : Above P r.1 M'
  core : items ≠ [] ∨ Core P s M' s.k → Core P r.1 M' s.k
  cumWt : r.1.cumWt = s.cumWt + items.length * avg
  k : r.1.k = s.k
  n : r.1.n = s.n
  wtMax : r.1.wtMax = s.wtMax
  draws : UnitOK v.geDraw r.2

theorem absorbAll_spec {v : Variant} {avg M' : Rat} (havg : 0 < avg) :
    ∀ (items : List Nat) (s : Sketch Rat) (d : Draws Rat), Above P s M' → 1 ≤ s.k → (∀ x ∈ items, P x) →
      ThetaOK s.k avg M' s.cumWt → UnitOK v.geDraw d → AbsorbedAll P v s avg M' items (absorbAll v s avg M' items d)
  | [] => fun s d ha _ _ _ hd => ⟨ha, fun h => h.resolve_left fun h => h rfl, by simp [absorbAll], rfl, rfl, rfl, hd⟩
  | it :: rest => fun s d ha hk1 hP hth hd => by
    obtain ⟨M, K, hc, hkK, hM⟩ := ha
    have hM' : 0 < M' := hc.mpos.trans_le hM
    obtain ⟨a1, a2, a3, a4, a5, a6⟩ := absorb_spec (v := v) (item := it) (thetaOf := fun r => r * avg)
      (Or.inr ⟨M, K, hc, hkK, hM⟩) hk1 hM' havg
      (hP it List.mem_cons_self) (fun r => rfl) (theta_bound hM' hc.wpos havg le_rfl hth) hd
    have i := absorbAll_spec havg rest _ _ ⟨M', s.k, a1, a3.le, le_rfl⟩ (a3 ▸ hk1) (fun x hx => hP x (List.mem_cons_of_mem _ hx))
      (by rw [a3, a2]; exact hth.mono (le_add_of_nonneg_right havg.le)) a6
    exact ⟨i.above, fun _ => a3 ▸ i.core (Or.inr (a3.symm ▸ a1)),
      i.cumWt.trans (by rw [a2, List.length_cons]; push_cast; ring), i.k.trans a3, i.n.trans a4, i.wtMax.trans a5, i.draws⟩

theorem internalMerge_spec {v : Variant} {s sk : Sketch Rat} {d : Draws Rat}
    (hs : Core P s s.wtMax s.k) (hk : Core P sk sk.wtMax sk.k)
    (hle : sk.cumWt ≤ s.cumWt) (hd : UnitOK v.geDraw d) :
    Core P (internalMerge v s sk d).1 (max s.wtMax sk.wtMax) (min s.k sk.k) ∧
    (internalMerge v s sk d).1.cumWt = s.cumWt + sk.cumWt ∧
    (internalMerge v s sk d).1.n = s.n + sk.n ∧
    (internalMerge v s sk d).1.k = min s.k sk.k ∧
    (v.mergeSetsWtMax = true → (internalMerge v s sk d).1.wtMax = max s.wtMax sk.wtMax) ∧
    UnitOK v.geDraw (internalMerge v s sk d).2 := by
  have hcpos : 0 < sk.sample.c := by rw [hk.c]; exact mul_pos hk.rho_pos hk.wpos
  set avg := sk.cumWt / sk.sample.c with havg_def
  have havg : 0 < avg := div_pos hk.wpos hcpos
  have hcavg : sk.sample.c * avg = sk.cumWt := mul_div_cancel₀ _ hcpos.ne'
  set M' := max s.wtMax sk.wtMax with hM'
  set k' := min s.k sk.k with hk'
  have hk'1 : 1 ≤ k' := le_min hs.kpos hk.kpos
  -- no replayed item contributes more than 1
  have hth : ThetaOK k' avg M' s.cumWt := by
    have hcl := hk.closed
    rcases le_total (sk.k : Rat) (sk.cumWt / sk.wtMax) with h | h
    · rw [min_eq_left h] at hcl
      have hk'k : (k' : Rat) ≤ sk.k := by exact_mod_cast (min_le_right s.k sk.k)
      exact Or.inr ((mul_le_mul_of_nonneg_right hk'k havg.le).trans ((hcl ▸ hcavg).le.trans hle))
    · rw [min_eq_right h] at hcl
      have : avg = sk.wtMax := by rw [havg_def, hcl, div_div_cancel₀ hk.wpos.ne']
      exact Or.inl (this ▸ le_max_right _ _)
  -- the receiving sketch with k lowered
  have l := absorbAll_spec (v := v) (M' := M') havg sk.sample.data { s with k := k' } d
    ⟨s.wtMax, s.k, hs.congr rfl rfl rfl, min_le_left _ _, le_max_left _ _⟩ hk'1 hk.sinv.dataP hth hd
  have hlen : ((sk.sample.data.length : Nat) : Rat) = ((sk.sample.c.floor : Int) : Rat) := by exact_mod_cast hk.sinv.len
  unfold internalMerge
  -- the result record sets `cumWt` and `n` to the two sums, so this also turns those two conjuncts into `True`
  simp only [← havg_def, ← hM', ← hk', rat_cmax, rat_frac]
  cases hpart : sk.sample.part with
  | none =>
    -- no partial item: c is integral and at least 1, so at least one full item was replayed
    have hceq : ((sk.sample.c.floor : Int) : Rat) = sk.sample.c :=
      (Rat.floor_le _).antisymm (not_lt.1 fun hlt => by simpa [hpart] using hk.sinv.part.2 hlt)
    have hne : sk.sample.data ≠ [] := fun h0 => hcpos.ne' (hceq.symm.trans (hlen.symm.trans (by rw [h0]; rfl)))
    have hcum : (absorbAll v { s with k := k' } avg M' sk.sample.data d).1.cumWt = s.cumWt + sk.cumWt := by
      rw [l.cumWt, hlen, hceq, hcavg]
    exact ⟨(l.core (Or.inl hne)).congr rfl hcum.symm rfl, trivial, trivial, l.k, fun hf => if_pos hf, l.draws⟩
  | some p =>
    have hof0 : 0 < sk.sample.c - ((sk.sample.c.floor : Int) : Rat) := sub_pos.2 (hk.sinv.part.1 (by rw [hpart]; rfl))
    have hincr0 := mul_pos hof0 havg
    have hincr1 : (sk.sample.c - ((sk.sample.c.floor : Int) : Rat)) * avg ≤ avg :=
      mul_le_of_le_one_left havg.le (frac_lt_one _).le
    obtain ⟨M, K, hc1, -, hM1⟩ := l.above
    have hM2 : 0 < M' := hc1.mpos.trans_le hM1
    have hk1 : 1 ≤ (absorbAll v { s with k := k' } avg M' sk.sample.data d).1.k := l.k ▸ hk'1
    obtain ⟨b1, b2, b3, -, -, b6⟩ := absorb_spec (v := v) (item := p)
      (thetaOf := fun r => r * (sk.sample.c - ((sk.sample.c.floor : Int) : Rat)) * avg) (Or.inr l.above) hk1 hM2 hincr0
      (hk.sinv.partP p (by rw [hpart]; rfl)) (fun r => by ring)
      (theta_bound hM2 hc1.wpos hincr0 hincr1 (by
        rw [l.k, l.cumWt]; exact hth.mono (le_add_of_nonneg_right (mul_nonneg (Nat.cast_nonneg _) havg.le)))) l.draws
    have hcum := b2.trans (by rw [l.cumWt, hlen, ← hcavg]; ring : _ = s.cumWt + sk.cumWt)
    rw [l.k] at b1
    exact ⟨b1.congr rfl hcum.symm rfl, trivial, trivial, b3.trans l.k, fun hf => if_pos hf, b6⟩

theorem mergeSk_live {v : Variant} {a b : Sketch Rat} {d : Draws Rat}
    (ha : Core P a a.wtMax a.k) (hb : Core P b b.wtMax b.k) (hd : UnitOK v.geDraw d) :
    Core P (mergeSk v a b d).1 (max a.wtMax b.wtMax) (min a.k b.k) ∧
    (mergeSk v a b d).1.cumWt = a.cumWt + b.cumWt ∧
    (mergeSk v a b d).1.n = a.n + b.n ∧
    (mergeSk v a b d).1.k = min a.k b.k ∧
    (v.mergeSetsWtMax = true → (mergeSk v a b d).1.wtMax = max a.wtMax b.wtMax) ∧
    UnitOK v.geDraw (mergeSk v a b d).2 := by
  unfold mergeSk
  simp only [show Num.eq b.cumWt (zero : Rat) = false by simp [hb.wpos.ne'],
    show Num.eq a.cumWt (zero : Rat) = false by simp [ha.wpos.ne'], Bool.and_false, rat_lt, decide_eq_true_eq,
    Bool.false_eq_true, if_false]
  by_cases hlt : a.cumWt < b.cumWt
  · rw [if_pos hlt, max_comm, min_comm, add_comm a.cumWt, Nat.add_comm a.n]
    exact internalMerge_spec hb ha hlt.le hd
  · rw [if_neg hlt]
    exact internalMerge_spec ha hb (not_lt.1 hlt) hd

theorem mergeSk_counts {v : Variant} {a b : Sketch Rat} {d : Draws Rat} {na nb ka kb : Nat} {Wa Wb Ma Mb : Rat}
    (ha : Core P a a.wtMax a.k) (hb : Core P b b.wtMax b.k) (hd : UnitOK v.geDraw d)
    (an : a.n = na) (aw : a.cumWt = Wa) (ak : a.k = ka) (am : a.wtMax = Ma)
    (bn : b.n = nb) (bw : b.cumWt = Wb) (bk : b.k = kb) (bm : b.wtMax = Mb) :
    (mergeSk v a b d).1.n = na + nb ∧ (mergeSk v a b d).1.cumWt = Wa + Wb ∧ (mergeSk v a b d).1.k = min ka kb ∧
    (mergeSk v a b d).1.sample.c = min ((min ka kb : Nat) : Rat) ((Wa + Wb) / max Ma Mb) ∧
    SInv P (mergeSk v a b d).1.sample := by
  obtain ⟨m1, m2, m3, m4, -, -⟩ := mergeSk_live (v := v) (d := d) ha hb hd
  rw [an, bn] at m3
  rw [aw, bw] at m2
  rw [ak, bk] at m4
  rw [am, bm, ak, bk] at m1
  exact ⟨m3, m2, m4, by rw [← m2]; exact m1.closed, m1.sinv⟩

end DS.Ebpps
