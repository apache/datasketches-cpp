/- `update` re-establishes the VarOpt invariant on every path (warm-up, transition, light, heavy r = 1, heavy
   general), never throws from a state satisfying it, conserves weight and never lowers tau.  Rat instance. -/
import DSProofs.Lemmas.VarOptInv
namespace DS.VarOpt
open DS

theorem popMinToM_cons (s : Sk Rat) (root : E) (t : List E) (h : s.H = root :: t) :
    popMinToM s = { s with H := heapPopRest (root :: t), M := root :: s.M,
                           numMarksInH := popCount s.gadget s.numMarksInH root } := by
  simp [popMinToM, popCount, h]

theorem transition_spec (s : Sk Rat) (ins : List E) (ds : Draws Rat)
    (hk : 1 ≤ s.k) (hM : s.M = []) (hst : s.mStale = false)
    (hlen : s.H.length = s.k + 1) (hperm : ins.Perm s.H) (hpos : ∀ e ∈ ins, 0 < e.wt)
    (hmk : MarksOK s.gadget s.numMarksInH s.H) :
    ∃ s' ds' L', transitionFromWarmup s ds = (s', ds') ∧ Inv0 s' ins L' ∧ s'.R ≠ [] ∧
      s'.k = s.k ∧ s'.gadget = s.gadget ∧ s'.rf = s.rf ∧ s'.n = s.n := by
  -- heapify; the lightest item becomes the reservoir
  have hp1 := convertToHeap_perm s.H
  obtain ⟨e1, t1, hH1⟩ := List.exists_cons_of_length_pos (l := convertToHeap s.H) (by rw [hp1.length_eq, hlen]; exact Nat.succ_pos _)
  have hmk1 : MarksOK s.gadget s.numMarksInH (e1 :: t1) :=
    hH1 ▸ ⟨hmk.1.trans (countMarks_perm hp1).symm, fun hg e he => hmk.2 hg e (hp1.subset he)⟩
  obtain ⟨hh2, hpp1, hl2, hmin1, hmk2⟩ := pop_facts (hH1 ▸ convertToHeap_heap s.H) hmk1
  have ht1 : t1.length = s.k := Nat.succ.inj ((hH1 ▸ hp1.length_eq : (e1 :: t1).length = _).trans hlen)
  obtain ⟨e2, t2, hH2⟩ := List.exists_cons_of_length_pos (l := heapPopRest (e1 :: t1)) (by rw [hl2, ht1]; exact hk)
  rw [hH2] at hh2 hpp1 hl2 hmk2
  have hperm1 : ins.Perm (e1 :: e2 :: t2) := hperm.trans (hp1.symm.trans (hH1 ▸ hpp1.symm))
  have he1pos : 0 < e1.wt := hpos e1 (hperm1.symm.subset List.mem_cons_self)
  -- with `e1` alone in the reservoir this is a mid-update state with one candidate, and the second pop is an iteration
  -- of the loop whose test cannot fail
  have hmid1 : Mid (e2 :: t2) [] [e1] [e1.item] s.k e1.wt 1 e1.wt 1 ins :=
    { heap := hh2, perm := hperm1.trans (List.perm_append_comm (l₁ := [e1])), nc_eq := rfl, nc1 := le_refl _,
      cnt := by rw [hl2, ht1], wt_eq := ((zero_add _).trans (add_zero _)).symm, rItems := fun x hx => ⟨e1, List.mem_singleton_self _, (List.mem_singleton.1 hx).symm⟩, rLen := le_refl _,
      mLight := fun _ h => absurd h List.not_mem_nil,
      mLeH := fun _ h => absurd h List.not_mem_nil, r0pos := Nat.one_pos, lLight := fun e he => by rw [List.mem_singleton.1 he, Nat.cast_one, mul_one],
      hHeavy := fun e he => by rw [Nat.cast_one, mul_one]; exact hmin1 e (hpp1.subset (List.mem_cons_of_mem _ he)),
      tauMono := by rw [Nat.cast_one, sub_self, mul_zero, mul_one]; exact he1pos.le, pos := hpos }
  obtain ⟨hmid, hmk3, -⟩ := hmid1.pop hmk2 (by rw [Nat.cast_one, mul_one]; exact lt_add_of_pos_left _ he1pos)
  rw [add_comm e1.wt e2.wt] at hmid
  have hs1 : popMinToM (popMinToM { s with H := convertToHeap s.H }) =
      { s with H := heapPopRest (e2 :: t2), M := [e2, e1],
               numMarksInH := popCount s.gadget (popCount s.gadget s.numMarksInH e1) e2 } := by
    rw [popMinToM_cons { s with H := convertToHeap s.H } e1 t1 hH1, popMinToM_cons _ e2 t2 hH2]
    simp only [hM]
  unfold transitionFromWarmup
  simp only [hs1]
  obtain ⟨s', ds', L', hg, hinv, hne, -, hrest⟩ :=
    growCandidateSet_spec
      { s with H := heapPopRest (e2 :: t2), M := [e2], R := [e1.item], totalWtR := e1.wt,
               numMarksInH := popCount s.gadget (popCount s.gadget s.numMarksInH e1) e2 }
      [e1] ins (e2.wt + e1.wt) 2 e1.wt 1 ds hmid (le_refl _) hmk3 hk hst
  exact ⟨s', ds', L', hg, hinv, hne, hrest⟩

/-- the entry stored for `update(item, w, mark)` -/
def mkEntry (s : Sk Rat) (item : Int) (w : Rat) (mark : Bool) : E := { item := item, wt := w, mark := storedMark s mark }

/-- Outcome of an update path on `s`: it succeeds, the invariant holds with the new entry `e` among the inputs, the parameters
and the counter of `s` are unchanged, and tau has not gone down. -/
def Updated (s : Sk Rat) (e : E) (ins : List E) (r : Option (Sk Rat × Draws Rat)) : Prop :=
  ∃ s' ds' L', r = some (s', ds') ∧ Inv0 s' (e :: ins) L' ∧ s'.k = s.k ∧ s'.gadget = s.gadget ∧ s'.rf = s.rf ∧ s'.n = s.n ∧
    TauLe s s'

section paths
variable {s : Sk Rat} {ins L : List E} (hinv : Inv0 s ins L) (item : Int) {w : Rat} (mark : Bool) (ds : Draws Rat)
include hinv

theorem Inv0.m_zero : s.m = 0 := by simp [Sk.m, hinv.mnil, hinv.fresh]

theorem Inv0.pos_cons {e : E} (he : 0 < e.wt) : ∀ x ∈ e :: ins, 0 < x.wt :=
  List.forall_mem_cons.2 ⟨he, hinv.pos⟩

theorem Inv0.wtR_pos (hR : s.R ≠ []) : 0 < s.totalWtR := by
  have hest := hinv.est hR
  rw [hest.wtR]
  exact sumW_pos (List.ne_nil_of_length_pos (Nat.zero_lt_of_lt hest.rLen))
    fun e he => hinv.pos e (hinv.perm.symm.subset (List.mem_append_right _ he))

/-- every path of the estimation mode ends in `grow_candidate_set` on a state `s1` that differs from `s` in `H`, `M` and the
mark counter -/
theorem Updated.of_grow {s1 : Sk Rat} {e : E} {wt : Rat} {nc : Nat}
    (hmid : Mid s1.H s1.M L s1.R s1.k wt nc s.totalWtR s.R.length (e :: ins)) (hnc : 2 ≤ nc)
    (hmk : MarksOK s1.gadget s1.numMarksInH s1.H) (hk : s1.k = s.k) (hst : s1.mStale = s.mStale)
    (hg : s1.gadget = s.gadget) (hrf : s1.rf = s.rf) (hn : s1.n = s.n) :
    Updated s e ins (some (growCandidateSet s1 wt nc ds)) := by
  obtain ⟨s', ds', L', hgr, hinv', hne, htau, hk', hg', hrf', hnn⟩ := growCandidateSet_spec s1 L (e :: ins) wt nc
    s.totalWtR s.R.length ds hmid hnc hmk (hk ▸ hinv.kpos) (hst ▸ hinv.fresh)
  exact ⟨s', ds', L', by rw [hgr], hinv', hk' ▸ hk, hg' ▸ hg, hrf' ▸ hrf, hnn ▸ hn, fun _ => ⟨hne, htau⟩⟩

theorem updateWarmup_spec (hR : s.R = []) (hw : 0 < w) (hmg : mark = true → s.gadget = true) :
    Updated s (mkEntry s item w mark) ins (updateWarmup s item w mark ds) := by
  have hpos' := hinv.pos_cons (e := mkEntry s item w mark) hw
  obtain ⟨rfl, hhk, hW0⟩ := hinv.warm hR
  have hperm' : (s.H ++ [mkEntry s item w mark]).Perm (mkEntry s item w mark :: s.H) := List.perm_append_singleton _ _
  have hmk' : MarksOK s.gadget (s.numMarksInH + (if mark then 1 else 0)) (s.H ++ [mkEntry s item w mark]) :=
    hinv.marks.insert hperm' (fun hg => by simp [mkEntry, storedMark, hg])
      (by cases hm : mark <;> simp [mkEntry, storedMark, hmg, hm])
  have hperm : (mkEntry s item w mark :: ins).Perm (s.H ++ [mkEntry s item w mark]) :=
    (List.Perm.cons _ (by simpa using hinv.perm)).trans hperm'.symm
  unfold updateWarmup
  rw [if_neg (by simp [hR, hinv.m_zero, hhk])]
  by_cases htr : s.H.length + 1 > s.k
  · -- the (k+1)-th item: transition to estimation mode
    simp only [List.length_append, List.length_singleton, htr, if_true]
    obtain ⟨s', ds', L', ht, hinv', hne, hrest⟩ := transition_spec
      { s with H := s.H ++ [mkEntry s item w mark],
               numMarksInH := s.numMarksInH + (if mark then 1 else 0),
               alloc := if s.H.length ≥ s.alloc then grownAlloc s.k s.rf s.alloc else s.alloc }
      (mkEntry s item w mark :: ins) ds hinv.kpos hinv.mnil hinv.fresh
      (List.length_append.trans (Nat.le_antisymm (Nat.succ_le_succ hhk) htr)) hperm hpos' hmk'
    exact ⟨s', ds', L', congrArg some ht, hinv', hrest.1, hrest.2.1, hrest.2.2.1, hrest.2.2.2, fun h => absurd hR h⟩
  · simp only [List.length_append, List.length_singleton, htr, if_false]
    refine ⟨_, ds, [], rfl, ?_, rfl, rfl, rfl, rfl, fun h => absurd hR h⟩
    exact { hinv with perm := (List.append_nil _).symm ▸ hperm, pos := hpos', marks := hmk',
                      warm := fun _ => ⟨rfl, List.length_append.trans_le (Nat.le_of_not_lt htr), hW0⟩,
                      est := fun h => absurd hR h }

/-- `update_light`: the new item, at most the lightest of H and below the tau it would produce, is the first candidate -/
theorem updateLight_spec (hR : s.R ≠ []) (hw : 0 < w) (hc1 : s.H = [] ∨ w ≤ wtAt s.H 0)
    (hc2 : w * (s.R.length : Rat) < w + s.totalWtR) :
    Updated s (mkEntry s item w mark) ins (updateLight s item w mark ds) := by
  have hest := hinv.est hR
  have hrpos : 0 < s.R.length := List.length_pos_of_ne_nil hR
  have hcnt : s.R.length + s.H.length = s.k := (Nat.add_comm _ _).trans hest.cnt
  unfold updateLight
  rw [if_neg (by simp [hcnt, hR]), if_neg (by simp [hinv.fresh])]
  refine Updated.of_grow hinv ds (s1 := { s with M := [mkEntry s item w mark] }) ?_ (Nat.succ_le_succ hrpos) hinv.marks
    rfl rfl rfl rfl rfl
  show Mid s.H [mkEntry s item w mark] L s.R s.k (s.totalWtR + w) _ _ _ _
  refine { heap := hest.heap, perm := ?_, nc_eq := Nat.add_comm _ _, nc1 := Nat.succ_pos _,
           cnt := (Nat.add_assoc _ _ _).symm.trans (congrArg (· + 1) hest.cnt),
           wt_eq := by rw [hest.wtR, add_comm]; exact congrArg (· + sumW L) (add_zero w).symm,
           rItems := hest.rItems, rLen := hest.rLen.le,
           mLight := ?_, mLeH := ?_, r0pos := hrpos, lLight := hest.lLight, hHeavy := hest.hHeavy,
           tauMono := ?_, pos := hinv.pos_cons hw }
  · exact (List.Perm.cons _ hinv.perm).trans List.perm_middle.symm
  · intro m hm
    rw [List.mem_singleton.1 hm, Nat.cast_succ, add_sub_cancel_right, add_comm]
    exact hc2
  · intro m hm e he
    rw [List.mem_singleton.1 hm]
    rcases hc1 with h | h
    · rw [h] at he; cases he
    · exact h.trans (heap_root_min hest.heap he)
  · rw [Nat.cast_succ, add_sub_cancel_right, add_mul]
    exact le_add_of_nonneg_right (mul_pos hw (Nat.cast_pos.2 hrpos)).le

theorem Inv0.mid_push (hR : s.R ≠ []) (hw : 0 < w) (hheavy : s.totalWtR ≤ w * (s.R.length : Rat)) :
    Mid (pushH s item w mark).H [] L s.R s.k s.totalWtR s.R.length s.totalWtR s.R.length (mkEntry s item w mark :: ins) ∧
    MarksOK s.gadget (pushH s item w mark).numMarksInH (pushH s item w mark).H := by
  have hest := hinv.est hR
  have hpp := heapPush_perm s.H (mkEntry s item w mark)
  have hrpos := List.length_pos_of_ne_nil hR
  refine ⟨{ heap := heapPush_heap _ _ hest.heap, perm := ?_, nc_eq := (Nat.zero_add _).symm, nc1 := hrpos,
            cnt := (congrArg (· + _) hpp.length_eq).trans ((Nat.succ_add _ _).trans (congrArg (· + 1) hest.cnt)),
            wt_eq := hest.wtR.trans (zero_add _).symm,
            rItems := hest.rItems, rLen := hest.rLen.le, mLight := fun _ h => absurd h List.not_mem_nil,
            mLeH := fun _ h => absurd h List.not_mem_nil, r0pos := hrpos,
            lLight := hest.lLight, hHeavy := fun e he => ?_, tauMono := ?_, pos := hinv.pos_cons hw },
          hinv.marks.insert hpp (fun hg => by simp [mkEntry, storedMark, hg]) ?_⟩
  · exact (List.Perm.cons _ hinv.perm).trans (List.Perm.append_right _ hpp.symm)
  · rcases List.mem_cons.mp (hpp.subset he) with rfl | h
    · exact hheavy
    · exact hest.hHeavy e h
  · rw [mul_sub, mul_one]; exact sub_le_self _ (hinv.wtR_pos hR).le
  · simp only [pushH, mkEntry, storedMark]
    exact (apply_ite (s.numMarksInH + ·) _ 1 0).symm

/-- `update_heavy_r_eq1`: push; the forced `pop_min_to_m_region` is an iteration of the candidate loop whose test cannot fail
with a single candidate -/
theorem updateHeavyREq1_spec (hr1 : s.R.length = 1) (hw : 0 < w) (hheavy : s.totalWtR ≤ w * (s.R.length : Rat)) :
    Updated s (mkEntry s item w mark) ins (updateHeavyREq1 s item w mark ds) := by
  have hR : s.R ≠ [] := List.ne_nil_of_length_pos (hr1 ▸ Nat.one_pos)
  have hcnt : s.R.length + s.H.length = s.k := (Nat.add_comm _ _).trans (hinv.est hR).cnt
  obtain ⟨hmid0, hmk0⟩ := hinv.mid_push item mark hR hw hheavy
  unfold updateHeavyREq1
  rw [if_neg (by simp [hr1, hinv.m_zero, hr1 ▸ hcnt])]
  obtain ⟨r1, t1, hH1⟩ := List.exists_cons_of_length_pos (l := (pushH s item w mark).H)
    ((heapPush_length _ _).symm ▸ Nat.succ_pos _)
  rw [hH1] at hmid0 hmk0
  obtain ⟨hmid, hmk, -⟩ := hmid0.pop hmk0 (by rw [hr1, Nat.cast_one, mul_one]; exact lt_add_of_pos_left _ (hinv.wtR_pos hR))
  rw [add_comm s.totalWtR r1.wt, show s.R.length + 1 = 2 from congrArg (· + 1) hr1] at hmid
  rw [popMinToM_cons _ r1 t1 hH1]
  simp only [show (pushH s item w mark).M = [] from hinv.mnil]
  exact Updated.of_grow hinv ds hmid (le_refl _) hmk rfl rfl rfl rfl rfl

theorem updateHeavyGeneral_spec (hr2 : 2 ≤ s.R.length) (hw : 0 < w) (hheavy : s.totalWtR ≤ w * (s.R.length : Rat)) :
    Updated s (mkEntry s item w mark) ins (updateHeavyGeneral s item w mark ds) := by
  have hR : s.R ≠ [] := List.ne_nil_of_length_pos (Nat.zero_lt_of_lt hr2)
  have hcnt : s.R.length + s.H.length = s.k := (Nat.add_comm _ _).trans (hinv.est hR).cnt
  obtain ⟨hmid, hmk⟩ := hinv.mid_push item mark hR hw hheavy
  unfold updateHeavyGeneral
  rw [if_neg (by simp [Nat.not_lt.2 hr2, hinv.m_zero, hcnt])]
  exact Updated.of_grow hinv ds (s1 := pushH s item w mark) (hinv.mnil ▸ hmid) hr2 hmk rfl rfl rfl rfl rfl

/-- the dispatch of `update`: the validity check cannot fire, and an item that is not light is at least as heavy as tau -/
theorem updateDispatch_spec (T : Tunables) (hw : 0 < w) (hmg : mark = true → s.gadget = true) :
    Updated s (mkEntry s item w mark) ins (updateDispatch T s item w mark ds) := by
  unfold updateDispatch
  by_cases hR : s.R = []
  · rw [if_pos (by simp [hR])]
    exact updateWarmup_spec hinv item mark ds hR hw hmg
  · have hest := hinv.est hR
    have hr0 : (0 : Rat) < (s.R.length : Rat) := by exact_mod_cast List.length_pos_of_ne_nil hR
    rw [if_neg (by simp [hR])]
    -- the tests as propositions over `Rat`
    simp only [Num.le_rat, Num.lt_rat, Num.div_rat, Num.add_rat, Num.mul_rat, Num.sub_rat, Num.ofNat_rat, Num.one_rat,
      Num.ofFrac, Bool.and_eq_true, Bool.or_eq_true, decide_eq_true_eq, beq_iff_eq, bne_iff_ne, List.length_eq_zero_iff]
    rw [if_neg]
    · by_cases hlight : (s.H = [] ∨ w ≤ wtAt s.H 0) ∧ w < (w + s.totalWtR) / (s.R.length : Rat)
      · rw [if_pos hlight]
        exact updateLight_spec hinv item mark ds hR hw hlight.1 ((lt_div_iff₀ hr0).1 hlight.2)
      · rw [if_neg hlight]
        -- the new item is at least as heavy as the old tau
        have hheavy : s.totalWtR ≤ w * (s.R.length : Rat) := by
          by_cases hge : w < (w + s.totalWtR) / (s.R.length : Rat)
          · obtain ⟨hne, hgt⟩ := not_or.1 fun h => hlight ⟨h, hge⟩
            obtain ⟨r, t, hH⟩ := List.exists_cons_of_ne_nil hne
            rw [hH, wtAt_zero_cons] at hgt
            exact (hest.hHeavy r (hH ▸ List.mem_cons_self)).trans
              (mul_le_mul_of_nonneg_right (not_le.1 hgt).le hr0.le)
          · have := (div_le_iff₀ hr0).1 (not_lt.1 hge)
            linarith
        by_cases hr1 : s.R.length = 1
        · rw [if_pos hr1]
          exact updateHeavyREq1_spec hinv item mark ds hr1 hw hheavy
        · rw [if_neg hr1]
          exact updateHeavyGeneral_spec hinv item mark ds
            (Nat.lt_of_le_of_ne (List.length_pos_of_ne_nil hR) (Ne.symm hr1)) hw hheavy
    · -- the root of H is at least tau, and the slack only lowers the bound
      rintro ⟨hne, hlt⟩
      obtain ⟨r, t, hH⟩ := List.exists_cons_of_length_pos (Nat.pos_of_ne_zero hne)
      have hτ : 0 ≤ s.totalWtR / (s.R.length : Rat) := (div_pos (hinv.wtR_pos hR) hr0).le
      have hσ : (0 : Rat) ≤ (T.slackNum : Rat) / (T.slackDen : Rat) := div_nonneg (Nat.cast_nonneg _) (Nat.cast_nonneg _)
      rw [hH, wtAt_zero_cons] at hlt
      refine not_le.2 hlt ((?_ : _ ≤ s.totalWtR / (s.R.length : Rat)).trans (hest.tau_le hR (hH ▸ List.mem_cons_self)))
      split
      · exact mul_le_of_le_one_right hτ (sub_le_self 1 hσ)
      · rfl

end paths

/-- `update` keeps the counter-free invariant `Inv0` and adds one to `n_`, whatever `n_` was (a union's gadget copy carries the
    union's counter, so `Inv` does not hold of it) -/
theorem update0_spec (T : Tunables) (s : Sk Rat) (ins L : List E) (hinv : Inv0 s ins L) (item : Int) (w : Rat) (mark : Bool) (ds : Draws Rat)
    (hw : 0 < w) (hmg : mark = true → s.gadget = true) :
    ∃ s' ds' L', update T s item w mark ds = some (s', ds') ∧ Inv0 s' (mkEntry s item w mark :: ins) L' ∧
      s'.k = s.k ∧ s'.gadget = s.gadget ∧ s'.rf = s.rf ∧ s'.n = s.n + 1 ∧
      TauLe s s' := by
  unfold update
  rw [if_neg (by simp [validWeight, hw.le]), if_neg (by simp [hw.ne'])]
  exact updateDispatch_spec (s := { s with n := s.n + 1 }) (hinv.setN _) item mark ds T hw hmg

theorem update_spec (T : Tunables) (s : Sk Rat) (ins L : List E) (hinv : Inv s ins L) (item : Int) (w : Rat) (mark : Bool) (ds : Draws Rat)
    (hw : 0 < w) (hmg : mark = true → s.gadget = true) :
    ∃ s' ds' L', update T s item w mark ds = some (s', ds') ∧ Inv s' (mkEntry s item w mark :: ins) L' ∧
      s'.k = s.k ∧ s'.gadget = s.gadget ∧ s'.rf = s.rf ∧
      TauLe s s' := by
  obtain ⟨s', ds', L', h1, h2, h3, h4, h5, h6, h7⟩ := update0_spec T s ins L hinv.toInv0 item w mark ds hw hmg
  exact ⟨s', ds', L', h1, ⟨h2, h6.trans (congrArg (· + 1) hinv.n_eq)⟩, h3, h4, h5, h7⟩

theorem Inv.update_isSome (T : Tunables) {s : Sk Rat} {ins L : List E} (hinv : Inv s ins L) (x : Int) {w : Rat} (hw : 0 < w)
    (ds : Draws Rat) : (update T s x w false ds).isSome = true := by
  obtain ⟨s', ds', L', hu, -⟩ := update_spec T s ins L hinv x w false ds hw (fun h => nomatch h)
  rw [hu]; rfl

end DS.VarOpt
