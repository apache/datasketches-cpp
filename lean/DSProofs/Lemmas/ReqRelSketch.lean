/- Two runs of the REQ model side by side: the sketch operations and whole histories.  Used for C08. -/
import DSProofs.Lemmas.ReqRelLoop
import DSProofs.Lemmas.ReqStore
namespace DS.Req

variable {ρ : Type}

structure SRel (hh : Option Nat) (s s' : Sketch ρ) : Prop where
  k : s'.k = s.k
  hra : s'.hra = s.hra
  maxNom : s'.maxNomSize = s.maxNomSize
  ret : s'.numRetained = s.numRetained
  n : s'.n = s.n
  mn : s'.minItem = s.minItem
  mx : s'.maxItem = s.maxItem
  cs : CsRel hh s.compactors s'.compactors

/-- the pair relation on sketches: shapes / contents as in `SRel`, plus the two-run balance when a level `h0` is flipped: what entered
level `h0 + 1` in the two runs together, plus what still sits at level `h0`, is what ever entered level `h0` -/
def SRelB (hh : Option Nat) (s s' : Sketch ρ) : Prop :=
  SRel hh s s' ∧ ∀ p h0, hh = some h0 → balD p h0 s.compactors s'.compactors = 0

theorem compress_mono (T : Tun) (F : SecFns ρ) (s : Sketch ρ) (a : Acc) : AccMono a (s.compress T F a).2 :=
  compressLoop_mono T F s.hra s.k _ 0 s.compactors _ a

theorem growTo_mono (T : Tun) (F : SecFns ρ) (target fuel : Nat) (s : Sketch ρ) (a : Acc) : AccMono a (growTo T F fuel target s a).2 :=
  ((mono_pres T F).growTo target fuel s a ⟨trivial, fun _ _ => trivial⟩).2

theorem runOps_mono (T : Tun) (F : SecFns ρ) (ops : List Op) (st : Store ρ) (a : Acc) : AccMono a (runOps T F st a ops).2 :=
  (runOps_pres ((mono_pres T F).ops a) ops (fun _ _ _ => trivial) st a (fun _ _ _ => ⟨trivial, fun _ _ => trivial⟩) (AccMono.refl a)).2

theorem CsRel.append {hh : Option Nat} {a a' b b' : List (Compactor ρ)} (r : CsRel hh a a') (rb : CsRel hh b b') :
    CsRel hh (a ++ b) (a' ++ b') := by
  induction r with
  | nil => exact rb
  | cons rc _ ih => exact .cons rc ih

theorem balD_append {hh : Option Nat} (p : Int → Bool) (h0 : Nat) {a a' : List (Compactor ρ)} (b b' : List (Compactor ρ)) (r : CsRel hh a a') :
    balD p h0 (a ++ b) (a' ++ b') = balD p h0 a a' + balD p h0 b b' := by
  induction r with
  | nil => exact (Int.zero_add _).symm
  | cons _ _ ih => simp only [List.cons_append, balD_cons, ih, Int.add_assoc]

theorem appendLevel0_rel {T : Tun} {hra : Bool} {hh : Option Nat} {cs cs' : List (Compactor ρ)} (x : Int) (hinv : CsInv T hra 0 cs)
    (r : CsRel hh cs cs') : CsRel hh (appendLevel0 cs x) (appendLevel0 cs' x) ∧
      ∀ p h0, balD p h0 (appendLevel0 cs x) (appendLevel0 cs' x) = balD p h0 cs cs' := by
  cases r with
  | nil => exact ⟨.nil, fun _ _ => rfl⟩
  | @cons c c' t t' rc rt =>
    exact ⟨.cons (append_CRel x rc) rt, fun p h0 => congrArg (· + balD p h0 t t') (headD_append p h0 c c' x hinv.1.lg)⟩

theorem sortAll_rel {hh : Option Nat} {cs cs' : List (Compactor ρ)} (r : CsRel hh cs cs') :
    CsRel hh (sortAll cs) (sortAll cs') ∧ ∀ p h0, balD p h0 (sortAll cs) (sortAll cs') = balD p h0 cs cs' := by
  induction r with
  | nil => exact ⟨.nil, fun _ _ => rfl⟩
  | @cons c c' _ _ rc _ ih =>
    refine ⟨.cons (sort_CRel rc) ih.1, fun p h0 => ?_⟩
    show headD p h0 (sortIf0 0 c) (sortIf0 0 c') + _ = _
    rw [headD_sort]; exact congrArg _ (ih.2 p h0)

theorem sortLevel0_rel {hh : Option Nat} {cs cs' : List (Compactor ρ)} (r : CsRel hh cs cs') :
    CsRel hh (sortLevel0 cs) (sortLevel0 cs') ∧ ∀ p h0, balD p h0 (sortLevel0 cs) (sortLevel0 cs') = balD p h0 cs cs' := by
  cases r with
  | nil => exact ⟨.nil, fun _ _ => rfl⟩
  | @cons c c' t t' rc rt => exact ⟨.cons (sort_CRel rc) rt, fun p h0 => congrArg (· + balD p h0 t t') (headD_sort p h0 0 c c')⟩

theorem mergeLevels_rel {hh : Option Nat} {T : Tun} (F : SecFns ρ) {hra : Bool} : ∀ (h : Nat) {cs cs' os os' : List (Compactor ρ)},
    CsInv T hra h cs → CsInv T hra h os → CsRel hh cs cs' → CsRel hh os os' →
    CsRel hh (mergeLevels T F cs os) (mergeLevels T F cs' os') ∧
    (os.length ≤ cs.length → ∀ p h0,
      balD p h0 (mergeLevels T F cs os) (mergeLevels T F cs' os') = balD p h0 cs cs' + balD p h0 os os') := by
  intro h cs cs' os os' hc ho r
  induction r generalizing h os os' with
  | nil =>
    intro ro
    cases ro with
    | nil => exact ⟨.nil, fun _ _ _ => rfl⟩
    | cons _ _ => exact ⟨.nil, fun hl => absurd hl (by simp)⟩
  | @cons c c' _ _ rc rt ih =>
    intro ro
    cases ro with
    | nil => exact ⟨.cons rc rt, fun _ _ _ => (Int.add_zero _).symm⟩
    | @cons o o' ot ot' rco rto =>
      have hlg : o.lgWeight = c.lgWeight := by rw [ho.1.lg, hc.1.lg]
      have IH := ih (h + 1) hc.2 ho.2 rto
      refine ⟨.cons (cmerge_CRel T F rc rco hlg) IH.1, fun hl p h0 => ?_⟩
      simp only [mergeLevels, balD_cons, IH.2 (by simpa using hl) p h0, headD_cmerge T F p h0 c c' o o' hlg]
      ac_rfl

theorem append1_relB {T : Tun} {hh : Option Nat} (s s' : Sketch ρ) (x : Int) (hs : SInv T s) (r : SRelB hh s s') :
    SRelB hh (s.append1 x) (s'.append1 x) := by
  obtain ⟨hc, hb⟩ := appendLevel0_rel x hs.cs r.1.cs
  exact ⟨⟨r.1.k, r.1.hra, r.1.maxNom, congrArg (· + 1) r.1.ret, congrArg (· + 1) r.1.n, congrArg (optMin · x) r.1.mn,
    congrArg (optMax · x) r.1.mx, hc⟩, fun p h0 e => (hb p h0).trans (r.2 p h0 e)⟩

/-- `hL`: the draws of run 1 are those `L` anticipates; `hodd`: no compaction of run 1 used a constant coin (what the balance needs) -/
theorem compress_relB {T : Tun} (hT : TunOK T) (F : SecFns ρ) (L : List Nat) (hh : Option Nat) (s s' : Sketch ρ) (a a' : Acc)
    (hs : SInv T s) (r : SRelB hh s s') (ra : AccRel L hh a a') (hL : (s.compress T F a).2.lv <+: L)
    (hodd : ∀ h0, hh = some h0 → (s.compress T F a).2.oddConst = false) :
    SRelB hh (s.compress T F a).1 (s'.compress T F a').1 ∧ AccRel L hh (s.compress T F a).2 (s'.compress T F a').2 := by
  obtain ⟨r, rb⟩ := r
  simp only [Sketch.compress] at hL hodd ⊢
  rw [r.hra, r.k, (r.cs.sums T).1, r.cs.length_eq, r.ret, r.maxNom]
  have cl := compressLoop_rel hT F s.hra s.k hs.k2 L hh (sumItems s.compactors + s.compactors.length + 1) 0 s.compactors s'.compactors
    { retained := s.numRetained, maxNom := s.maxNomSize } a a' hs.cs r.cs ra hL
  exact ⟨⟨⟨rfl, rfl, congrArg Ctr.maxNom cl.ctr, congrArg Ctr.retained cl.ctr, r.n, r.mn, r.mx, cl.cs⟩,
    fun p h0 e => (cl.bal p h0 e (hodd h0 e)).trans (rb p h0 e)⟩, cl.acc⟩

theorem update_relB {T : Tun} (hT : TunOK T) (F : SecFns ρ) (L : List Nat) (hh : Option Nat) (s s' : Sketch ρ) (x : Int) (a a' : Acc)
    (hs : SInv T s) (r : SRelB hh s s') (ra : AccRel L hh a a') (hL : (s.update T F x a).2.lv <+: L)
    (hodd : ∀ h0, hh = some h0 → (s.update T F x a).2.oddConst = false) :
    SRelB hh (s.update T F x a).1 (s'.update T F x a').1 ∧ AccRel L hh (s.update T F x a).2 (s'.update T F x a').2 := by
  have r1 := append1_relB s s' x hs r
  simp only [Sketch.update] at hL hodd ⊢
  rw [r1.1.ret, r1.1.maxNom]
  split
  · rename_i hc; simp only [if_pos hc] at hL hodd
    exact compress_relB hT F L hh _ _ a a' (append1_SInv s x hs).1 r1 ra hL hodd
  · exact ⟨r1, ra⟩

theorem grow_relB {hh : Option Nat} (T : Tun) (F : SecFns ρ) (s s' : Sketch ρ) (d d' : Bool) (r : SRelB hh s s')
    (hd : ∀ h0, hh = some h0 → T.initCoinRandom = true → d' = (d != (s.compactors.length == h0))) :
    SRelB hh (s.grow T F d) (s'.grow T F d') := by
  have hcs : CsRel hh (s.compactors ++ [Compactor.mkC T F s.hra s.compactors.length s.k d])
      (s'.compactors ++ [Compactor.mkC T F s'.hra s'.compactors.length s'.k d']) := by
    rw [r.1.hra, r.1.k, r.1.cs.length_eq]
    exact r.1.cs.append (.cons (mkC_CRel T F hh _ _ _ d d' hd) .nil)
  refine ⟨⟨r.1.k, r.1.hra, (hcs.sums T).2, r.1.ret, r.1.n, r.1.mn, r.1.mx, hcs⟩, fun p h0 e => ?_⟩
  show balD p h0 (s.compactors ++ [_]) (s'.compactors ++ [_]) = 0
  rw [balD_append p h0 _ _ r.1.cs, r.2 p h0 e, Int.zero_add]
  exact (Int.add_zero _).trans (headD_empty p h0 _ _ (mkC_items ..) (mkC_entered ..) (mkC_entered ..))

theorem growTo_relB {hh : Option Nat} (T : Tun) (F : SecFns ρ) (L : List Nat) (target fuel : Nat) (s s' : Sketch ρ) (a a' : Acc)
    (r : SRelB hh s s') (ra : AccRel L hh a a') (hL : (growTo T F fuel target s a).2.lv <+: L) :
    SRelB hh (growTo T F fuel target s a).1 (growTo T F fuel target s' a').1 ∧
      AccRel L hh (growTo T F fuel target s a).2 (growTo T F fuel target s' a').2 := by
  induction fuel generalizing s s' a a' with
  | zero => exact ⟨r, ra⟩
  | succ n ih =>
    simp only [growTo, r.1.cs.length_eq] at hL ⊢
    split
    · rename_i hlt
      rw [if_pos hlt] at hL
      have hm := growTo_mono T F target n (s.grow T F a.peek) (a.drawIf T.initCoinRandom s.compactors.length)
      exact ih _ _ _ _ (grow_relB T F s s' a.peek a'.peek r fun h0 e hf => ra.peek (by
          have := hm.pre.trans hL
          rwa [hf] at this) e)
        (drawIf_AccRel T.initCoinRandom s.compactors.length ra) hL
    · exact ⟨r, ra⟩

theorem mergePre_relB {hh : Option Nat} {T : Tun} (hT : TunOK T) (F : SecFns ρ) (L : List Nat) (s s' o o' : Sketch ρ) (a a' : Acc)
    (hs : SInv T s) (ho : SInv T o) (hhra : s.hra = o.hra) (r : SRelB hh s s') (ro : SRelB hh o o') (ra : AccRel L hh a a')
    (hL : (s.mergePre T F o a).2.lv <+: L) :
    SRelB hh (s.mergePre T F o a).1 (s'.mergePre T F o' a').1 ∧ AccRel L hh (s.mergePre T F o a).2 (s'.mergePre T F o' a').2 := by
  have g := (growTo_spec hT F o.compactors.length o.compactors.length s a (by omega) hs.cs hs.k2).1
  have gr := growTo_relB (hh := hh) T F L o.compactors.length o.compactors.length s s' a a' r ra hL
  simp only [Sketch.mergePre, ro.1.cs.length_eq]
  generalize growTo T F o.compactors.length o.compactors.length s a = g1 at g gr
  generalize growTo T F o.compactors.length o.compactors.length s' a' = g1' at gr
  obtain ⟨gr1, gr2⟩ := gr
  have hocs : CsInv T s.hra 0 o.compactors := by rw [hhra]; exact ho.cs
  obtain ⟨ml, mb⟩ := mergeLevels_rel F 0 g.inv hocs gr1.1.cs ro.1.cs
  refine ⟨⟨⟨gr1.1.k, gr1.1.hra, (ml.sums T).2, (ml.sums T).1, by simp [r.1.n, ro.1.n], by simp [r.1.mn, ro.1.mn], by simp [r.1.mx, ro.1.mx], ml⟩,
    fun p h0 e => ?_⟩, gr2⟩
  show balD p h0 (mergeLevels T F g1.1.compactors o.compactors) (mergeLevels T F g1'.1.compactors o'.compactors) = 0
  rw [mb g.ge p h0, gr1.2 p h0 e, ro.2 p h0 e]; rfl

theorem merge_relB {T : Tun} (hT : TunOK T) (F : SecFns ρ) (L : List Nat) (hh : Option Nat) (s s' o o' : Sketch ρ) (a a' : Acc)
    (hs : SInv T s) (ho : SInv T o) (r : SRelB hh s s') (ro : SRelB hh o o') (ra : AccRel L hh a a') :
    (s.merge T F o a = none → s'.merge T F o' a' = none) ∧
    (∀ res, s.merge T F o a = some res → res.2.lv <+: L → (∀ h0, hh = some h0 → res.2.oddConst = false) →
      ∃ res', s'.merge T F o' a' = some res' ∧ SRelB hh res.1 res'.1 ∧ AccRel L hh res.2 res'.2) := by
  refine ⟨fun hm => merge_eq_none.2 (by rw [r.1.hra, ro.1.hra]; exact merge_eq_none.1 hm), fun res hm hL hodd => ?_⟩
  obtain ⟨hhra, hm⟩ := merge_some hm
  have h' : ¬ (s'.hra != o'.hra) = true := by rw [r.1.hra, ro.1.hra, hhra]; exact fun e => absurd e (by cases o.hra <;> decide)
  rcases hm with ⟨hn0, rfl⟩ | ⟨hn0, hm⟩
  · exact ⟨(s', a'), by simp only [Sketch.merge]; rw [if_neg h', if_pos (ro.1.n.trans hn0)], r, ra⟩
  have hn0' : ¬ o'.n = 0 := by rw [ro.1.n]; exact hn0
  have hI := (mergePre_spec hT F s o a hs ho hhra hn0).1.inv
  rcases hm with ⟨hc, rfl⟩ | ⟨hc, rfl⟩
  · have hLp : (s.mergePre T F o a).2.lv <+: L := (compress_mono T F _ _).pre.trans hL
    obtain ⟨rp1, rp2⟩ := mergePre_relB hT F L s s' o o' a a' hs ho hhra r ro ra hLp
    have hc' : (s'.mergePre T F o' a').1.numRetained ≥ (s'.mergePre T F o' a').1.maxNomSize := by rw [rp1.1.ret, rp1.1.maxNom]; exact hc
    obtain ⟨c1, c2⟩ := compress_relB hT F L hh _ _ _ _ hI rp1 rp2 hL hodd
    exact ⟨_, by simp only [Sketch.merge]; rw [if_neg h', if_neg hn0', if_pos hc'], c1, c2⟩
  · obtain ⟨rp1, rp2⟩ := mergePre_relB hT F L s s' o o' a a' hs ho hhra r ro ra hL
    have hc' : ¬ (s'.mergePre T F o' a').1.numRetained ≥ (s'.mergePre T F o' a').1.maxNomSize := by
      rw [rp1.1.ret, rp1.1.maxNom]; exact Nat.not_le.2 hc
    exact ⟨_, by simp only [Sketch.merge]; rw [if_neg h', if_neg hn0', if_neg hc'], rp1, rp2⟩

theorem afterRank_relB {hh : Option Nat} (s s' : Sketch ρ) (r : SRelB hh s s') : SRelB hh s.afterRank s'.afterRank :=
  have ⟨hc, hb⟩ := sortAll_rel r.1.cs
  ⟨⟨r.1.k, r.1.hra, r.1.maxNom, r.1.ret, r.1.n, r.1.mn, r.1.mx, hc⟩, fun p h0 e => (hb p h0).trans (r.2 p h0 e)⟩

theorem afterView_relB {hh : Option Nat} (s s' : Sketch ρ) (r : SRelB hh s s') : SRelB hh s.afterView s'.afterView :=
  have ⟨hc, hb⟩ := sortLevel0_rel r.1.cs
  ⟨⟨r.1.k, r.1.hra, r.1.maxNom, r.1.ret, r.1.n, r.1.mn, r.1.mx, hc⟩, fun p h0 e => (hb p h0).trans (r.2 p h0 e)⟩

theorem new_relB (hh : Option Nat) (T : Tun) (F : SecFns ρ) (k : Nat) (hra d d' : Bool)
    (hd : ∀ h0, hh = some h0 → T.initCoinRandom = true → d' = (d != (0 == h0))) :
    SRelB hh (Sketch.new T F k hra d) (Sketch.new T F k hra d') := by
  have hc : CsRel hh [Compactor.mkC T F hra 0 (effectiveK T k) d] [Compactor.mkC T F hra 0 (effectiveK T k) d'] :=
    .cons (mkC_CRel T F hh hra 0 _ d d' hd) .nil
  rw [new_eq, new_eq]
  exact ⟨⟨rfl, rfl, (hc.sums T).2, rfl, rfl, rfl, rfl, hc⟩,
    fun p h0 _ => (Int.add_zero _).trans (headD_empty p h0 _ _ (mkC_items ..) (mkC_entered ..) (mkC_entered ..))⟩

abbrev StoreRelB (hh : Option Nat) (st st' : Store ρ) : Prop := ALRel (SRelB hh) st st'

theorem get_both {T : Tun} {hh : Option Nat} {st st' : Store ρ} {m : List (Nat × SpecSk)} (hI : StoreRefines T st m) (r : StoreRelB hh st st') (id : Nat) :
    (st.get id = none ∧ st'.get id = none) ∨ (∃ s s', st.get id = some s ∧ st'.get id = some s' ∧ SInv T s ∧ SRelB hh s s') := by
  rcases ALRel_get r id with ⟨h1, h2⟩ | ⟨s, s', h1, h2, hr⟩
  · exact Or.inl ⟨h1, h2⟩
  · exact Or.inr ⟨s, s', h1, h2, hI.sinv h1, hr⟩

theorem stepOp_relB {T : Tun} (hT : TunOK T) (F : SecFns ρ) (L : List Nat) (hh : Option Nat) (st st' : Store ρ) (m : List (Nat × SpecSk))
    (a a' : Acc) (op : Op) (hI : StoreRefines T st m) (r : StoreRelB hh st st') (ra : AccRel L hh a a')
    (hL : (stepOp T F st a op).2.lv <+: L) (hodd : ∀ h0, hh = some h0 → (stepOp T F st a op).2.oddConst = false) :
    StoreRelB hh (stepOp T F st a op).1 (stepOp T F st' a' op).1 ∧ AccRel L hh (stepOp T F st a op).2 (stepOp T F st' a' op).2 := by
  cases op with
  | new id k hra =>
    simp only [stepOp] at hL ⊢
    exact ⟨ALRel_set r id (new_relB hh T F k hra a.peek a'.peek fun h0 e hf => ra.peek (by rwa [hf] at hL) e), drawIf_AccRel _ _ ra⟩
  | upd id x =>
    simp only [stepOp] at hL hodd ⊢
    rcases get_both hI r id with ⟨h1, h2⟩ | ⟨s, s', h1, h2, hs, hr⟩
    · simp only [h1, h2]; exact ⟨r, ra⟩
    · simp only [h1, h2] at hL hodd ⊢
      obtain ⟨u1, u2⟩ := update_relB hT F L hh s s' x a a' hs hr ra hL hodd
      exact ⟨ALRel_set r id u1, u2⟩
  | merge i j =>
    simp only [stepOp] at hL hodd ⊢
    split
    · exact ⟨r, ra⟩
    · rename_i hij
      rw [if_neg hij] at hL
      simp only [if_neg hij] at hodd
      rcases get_both hI r i with ⟨h1, h2⟩ | ⟨s, s', h1, h2, hs, hr⟩
      · simp only [h1, h2]; exact ⟨r, ra⟩
      · rcases get_both hI r j with ⟨g1, g2⟩ | ⟨o, o', g1, g2, ho, hro⟩
        · simp only [h1, h2, g1, g2]; exact ⟨r, ra⟩
        · simp only [h1, h2, g1, g2] at hL hodd ⊢
          obtain ⟨mn, ms⟩ := merge_relB hT F L hh s s' o o' a a' hs ho hr hro ra
          cases hm : s.merge T F o a with
          | none => simp only [mn hm]; exact ⟨r, ra⟩
          | some res =>
            simp only [hm] at hL hodd
            obtain ⟨res', m2, q1, q2⟩ := ms res hm hL hodd
            simp only [m2]
            exact ⟨ALRel_set r i q1, q2⟩
  | copy i j =>
    simp only [stepOp]
    rcases get_both hI r i with ⟨h1, h2⟩ | ⟨s, s', h1, h2, _, hr⟩
    · simp only [h1, h2]; exact ⟨r, ra⟩
    · simp only [h1, h2]; exact ⟨ALRel_set r j hr, ra⟩
  | rankq id =>
    simp only [stepOp]
    rcases get_both hI r id with ⟨h1, h2⟩ | ⟨s, s', h1, h2, _, hr⟩
    · simp only [h1, h2]; exact ⟨r, ra⟩
    · simp only [h1, h2]; exact ⟨ALRel_set r id (afterRank_relB s s' hr), ra⟩
  | viewq id =>
    simp only [stepOp]
    rcases get_both hI r id with ⟨h1, h2⟩ | ⟨s, s', h1, h2, _, hr⟩
    · simp only [h1, h2]; exact ⟨r, ra⟩
    · simp only [h1, h2]; exact ⟨ALRel_set r id (afterView_relB s s' hr), ra⟩

theorem runOps_relB {T : Tun} (hT : TunOK T) (F : SecFns ρ) (L : List Nat) (hh : Option Nat) (ops : List Op)
    (st st' : Store ρ) (m : List (Nat × SpecSk)) (a a' : Acc) (hI : StoreRefines T st m) (r : StoreRelB hh st st') (ra : AccRel L hh a a')
    (hL : (runOps T F st a ops).2.lv <+: L) (hodd : ∀ h0, hh = some h0 → (runOps T F st a ops).2.oddConst = false) :
    StoreRelB hh (runOps T F st a ops).1 (runOps T F st' a' ops).1 ∧ AccRel L hh (runOps T F st a ops).2 (runOps T F st' a' ops).2 := by
  induction ops generalizing st st' m a a' with
  | nil => exact ⟨r, ra⟩
  | cons op ops ih =>
    simp only [runOps] at hL hodd ⊢
    have hmono := runOps_mono T F ops (stepOp T F st a op).1 (stepOp T F st a op).2
    have s1 := stepOp_relB hT F L hh st st' m a a' op hI r ra (hmono.pre.trans hL) (fun h0 e => hmono.odd (hodd h0 e))
    have hI' := stepOp_refines hT F st m a op hI
    exact ih _ _ _ _ _ hI' s1.1 s1.2 hL hodd

end DS.Req
