/-
The compressed theta writer / reader over the TRANSLATED block routines (DSModel/Wire/ThetaV4IR.lean) equal the
specification writer / reader.
-/
import DSProofs.Lemmas.BitPackLift
import DSProofs.Lemmas.WireThetaV4
namespace DS.Wire.Theta
open DS.Wire Reader DS.Wire.BitPack

theorem encodeV4IR_eq (c : Consts) (s : Image) (h4 : WFv4 s) : encodeV4IR c s = encodeV4 c s := by
  obtain ⟨hwf, hsuit, hasc, h63⟩ := h4
  obtain ⟨_, _, hne⟩ := suitable_facts s hwf hsuit
  unfold encodeV4IR encodeV4
  simp only
  have hpos := entryBits_pos s.entries hne hasc
  have hle := entryBits_le_63 s.entries h63
  rw [packBlocksWith_eq (irPack8 (entryBits s.entries)) (entryBits s.entries)
    (fun l hl hv => irPack8_eq _ hpos hle l hl hv) _ (deltas_lt_entryBits s.entries)]

theorem decodeV4IR_eq (exp pre : Nat) (b : Bytes) : decodeV4IR exp pre b = decodeV4 exp pre b := by
  unfold decodeV4IR decodeV4
  apply bind_congr; intro eb r1 _
  apply bind_congr; intro neb r2 _
  apply bind_congr; intro fl r3 _
  apply bind_congr; intro sh r4 _
  apply bind_congr; intro _ r5 hg
  have heb := of_decide_eq_true (Bool.and_eq_true_iff.1 (guard_some hg).1).2
  apply bind_congr; intro theta r6 _
  apply bind_congr; intro n r7 _
  apply bind_congr; intro bs r8 hbs
  rw [unpackBlocksWith_eq (irUnpack8 eb) eb (fun b hb => irUnpack8_eq eb heb.1 heb.2 b hb) n bs (bytesN_len _ _ _ _ hbs).1]

end DS.Wire.Theta
