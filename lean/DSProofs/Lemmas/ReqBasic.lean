/- List-level lemmas for the REQ model: counting with `cntP`; REQ's `std::sort`, `std::inplace_merge` and `promote_evens_or_odds` are
KLL's `sortBy`, `mergeUp` (runs exchanged) and `halveDown` at the comparator `ltInt`. -/
import DSModel.Req.Driver
import DSProofs.Lemmas.KllBasic
namespace DS.Req
open DS.SortedView (StrictWeak)

abbrev Sorted (l : List Int) : Prop := l.Pairwise (· ≤ ·)

@[simp] theorem cntP_nil (p : Int → Bool) : cntP p [] = 0 := rfl
theorem cntP_cons (p : Int → Bool) (a : Int) (l : List Int) :
    cntP p (a :: l) = (if p a then 1 else 0) + cntP p l := by
  unfold cntP; by_cases h : p a <;> simp [h]; omega
theorem cntP_append (p : Int → Bool) (a b : List Int) : cntP p (a ++ b) = cntP p a + cntP p b := by
  simp [cntP, List.filter_append]
theorem cntP_true (l : List Int) : cntP (fun _ => true) l = l.length := by simp [cntP]
theorem cntP_le (p : Int → Bool) (l : List Int) : cntP p l ≤ l.length := List.length_filter_le _ _

theorem cntP_perm {a b : List Int} (h : a.Perm b) (p : Int → Bool) : cntP p a = cntP p b := (h.filter p).length_eq

theorem ltInt_sw : StrictWeak ltInt :=
  ⟨fun a b h => by simp only [ltInt, decide_eq_true_eq, decide_eq_false_iff_not] at h ⊢; omega,
   fun a b c h1 h2 => by simp only [ltInt, decide_eq_false_iff_not] at h1 h2 ⊢; omega⟩

theorem sorted_iff {l : List Int} : SortedView.Sorted ltInt l ↔ Sorted l := by
  simp only [SortedView.Sorted, Sorted, ltInt, decide_eq_false_iff_not, Int.not_lt]

theorem insertSorted_eq (x : Int) : ∀ l : List Int, insertSorted x l = Kll.insertBy ltInt x l
  | [] => rfl
  | y :: t => by
    rw [insertSorted, Kll.insertBy, insertSorted_eq x t]
    by_cases h : x ≤ y
    · rw [if_pos h, if_neg]; simpa only [ltInt, decide_eq_true_eq, Int.not_lt] using h
    · rw [if_neg h, if_pos]; simpa only [ltInt, decide_eq_true_eq, Int.not_le] using h

theorem sortInts_eq_sortBy : ∀ l : List Int, sortInts l = Kll.sortBy ltInt l
  | [] => rfl
  | x :: t => by rw [sortInts, List.foldr_cons, ← sortInts, sortInts_eq_sortBy t, insertSorted_eq]; rfl

theorem sortInts_perm (l : List Int) : (sortInts l).Perm l := sortInts_eq_sortBy l ▸ Kll.sortBy_perm ltInt l

theorem cntP_sortInts (p : Int → Bool) (l : List Int) : cntP p (sortInts l) = cntP p l := cntP_perm (sortInts_perm l) p

theorem length_sortInts (l : List Int) : (sortInts l).length = l.length := (sortInts_perm l).length_eq

theorem mem_sortInts (x : Int) (l : List Int) : x ∈ sortInts l ↔ x ∈ l := (sortInts_perm l).mem_iff

theorem sorted_sortInts (l : List Int) : Sorted (sortInts l) :=
  sortInts_eq_sortBy l ▸ sorted_iff.mp (Kll.sorted_sortBy ltInt_sw l)

theorem sortInts_ne_nil (l : List Int) (h : l ≠ []) : sortInts l ≠ [] := fun h2 =>
  h (h2 ▸ sortInts_perm l).nil_eq.symm

theorem mergeAux_eq (a : Int) (l : List Int) (recL : List Int → List Int)
    (hrec : ∀ r, recL r = Kll.mergeUp ltInt r l) : ∀ r, mergeAux a recL (a :: l) r = Kll.mergeUp ltInt r (a :: l)
  | [] => (Kll.mergeUp_nil_left ..).symm
  | b :: r => by
    rw [mergeAux, Kll.mergeUp_cons_cons, mergeAux_eq a l recL hrec r, hrec]
    simp only [ltInt, decide_eq_true_eq]

/-- `std::inplace_merge` is `merge_sorted_arrays` with the runs exchanged: both take from the second run only what is strictly smaller -/
theorem mergeRuns_eq_mergeUp : ∀ a b : List Int, mergeRuns a b = Kll.mergeUp ltInt b a
  | [], _ => (Kll.mergeUp_nil_right ..).symm
  | a :: l, b => mergeAux_eq a l _ (mergeRuns_eq_mergeUp l) b

theorem mergeRuns_perm (a b : List Int) : (mergeRuns a b).Perm (a ++ b) :=
  mergeRuns_eq_mergeUp a b ▸ (Kll.mergeUp_perm ltInt b a).trans List.perm_append_comm

theorem cntP_mergeRuns (p : Int → Bool) (a b : List Int) : cntP p (mergeRuns a b) = cntP p a + cntP p b :=
  (cntP_perm (mergeRuns_perm a b) p).trans (cntP_append p a b)

theorem length_mergeRuns (a b : List Int) : (mergeRuns a b).length = a.length + b.length :=
  (mergeRuns_perm a b).length_eq.trans List.length_append

theorem mem_mergeRuns (x : Int) (a b : List Int) : x ∈ mergeRuns a b ↔ x ∈ a ∨ x ∈ b :=
  (mergeRuns_perm a b).mem_iff.trans List.mem_append

theorem sorted_mergeRuns (a b : List Int) (ha : Sorted a) (hb : Sorted b) : Sorted (mergeRuns a b) :=
  mergeRuns_eq_mergeUp a b ▸ sorted_iff.mp (Kll.sorted_mergeUp ltInt_sw b a (sorted_iff.mpr hb) (sorted_iff.mpr ha))

theorem mergeRuns_ne_nil_left (a b : List Int) (h : a ≠ []) : mergeRuns a b ≠ [] := fun h2 =>
  h (List.append_eq_nil_iff.1 (h2 ▸ mergeRuns_perm a b).nil_eq.symm).1
theorem mergeRuns_ne_nil_right (a b : List Int) (h : b ≠ []) : mergeRuns a b ≠ [] := fun h2 =>
  h (List.append_eq_nil_iff.1 (h2 ▸ mergeRuns_perm a b).nil_eq.symm).2

/-- the merge of two runs with either one in front (which, depends on the accuracy mode) -/
def mergeDir (b : Bool) (x y : List Int) : List Int := if b then mergeRuns x y else mergeRuns y x

theorem cntP_mergeDir (p : Int → Bool) (b : Bool) (x y : List Int) : cntP p (mergeDir b x y) = cntP p x + cntP p y := by
  unfold mergeDir; split <;> rw [cntP_mergeRuns]
  exact Nat.add_comm _ _

theorem length_mergeDir (b : Bool) (x y : List Int) : (mergeDir b x y).length = x.length + y.length := by
  have := cntP_mergeDir (fun _ => true) b x y; rwa [cntP_true, cntP_true, cntP_true] at this

theorem sorted_mergeDir (b : Bool) {x y : List Int} (hx : Sorted x) (hy : Sorted y) : Sorted (mergeDir b x y) := by
  unfold mergeDir; split
  · exact sorted_mergeRuns _ _ hx hy
  · exact sorted_mergeRuns _ _ hy hx

theorem evens_eq : ∀ l : List Int, evens l = Kll.evens l
  | [] => rfl
  | [_] => rfl
  | a :: _ :: t => by rw [evens, Kll.evens, evens_eq t]

theorem odds_eq : ∀ l : List Int, odds l = Kll.odds l
  | [] => rfl
  | [_] => rfl
  | _ :: b :: t => by rw [odds, Kll.odds, odds_eq t]

theorem promote_eq (l : List Int) (c : Bool) : promote l c = Kll.halveDown l c := by
  rw [promote, Kll.halveDown, evens_eq, odds_eq]

theorem length_promote (l : List Int) (c : Bool) (h : l.length % 2 = 0) : (promote l c).length = l.length / 2 :=
  promote_eq l c ▸ Kll.halveDown_length l c h

theorem promote_sublist (l : List Int) (c : Bool) : (promote l c).Sublist l := promote_eq l c ▸ Kll.halveDown_sublist l c

/-- the heart of "a compaction is balanced" -/
theorem cntP_promote_both (p : Int → Bool) (l : List Int) (c : Bool) :
    cntP p (promote l c) + cntP p (promote l (!c)) = cntP p l := by
  have := (cntP_append p _ _).symm.trans (cntP_perm (Kll.evens_append_odds_perm l) p)
  cases c <;> simp only [promote, evens_eq, odds_eq, Bool.not_true, Bool.not_false, Bool.false_eq_true, if_true, if_false] <;> omega

theorem boundPos_eq_cnt (l : List Int) (x : Int) (inc : Bool) (h : Sorted l) :
    boundPos l x inc = cntP (fun y => if inc then decide (y ≤ x) else decide (y < x)) l := by
  induction l with
  | nil => rfl
  | cons y t ih =>
    obtain ⟨hy, ht⟩ := List.pairwise_cons.1 h
    rw [boundPos]
    by_cases hb : (if inc = true then x < y else x ≤ y)
    · -- `y` is beyond the bound, and so is everything after it
      rw [if_pos hb, eq_comm, cntP, List.length_eq_zero_iff, List.filter_eq_nil_iff]
      intro z hz
      have : y ≤ z := (List.mem_cons.1 hz).elim (fun e => e ▸ Int.le_refl _) (hy z)
      cases inc <;> simp at hb ⊢ <;> omega
    · rw [if_neg hb, ih ht, cntP_cons, if_pos (by cases inc <;> simp at hb ⊢ <;> omega)]

end DS.Req
