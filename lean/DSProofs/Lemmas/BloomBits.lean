/- The bit-level functions of the Bloom model: fields of a number (`getField`/`setField`), `setBits`/`allSet`, `popCount`, and the
loop of `query_and_update`. -/
import DSModel.Bloom.Model
namespace DS.Bloom

theorem testBit_getField (x off w i : Nat) :
    (getField x off w).testBit i = (decide (i < w) && x.testBit (off + i)) := by
  simp [getField, Nat.testBit_mod_two_pow, Nat.testBit_shiftRight]

theorem getField_congr (X Y off w : Nat) (h : ∀ i, i < w → X.testBit (off + i) = Y.testBit (off + i)) :
    getField X off w = getField Y off w := by
  apply Nat.eq_of_testBit_eq
  intro i
  rw [testBit_getField, testBit_getField]
  by_cases hi : i < w
  · simp [hi, h i hi]
  · simp [hi]

theorem testBit_setField (x off w v i : Nat) :
    (setField x off w v).testBit i = if off ≤ i ∧ i < off + w then v.testBit (i - off) else x.testBit i := by
  unfold setField
  rw [Nat.testBit_xor, Nat.testBit_shiftLeft, Nat.testBit_xor, testBit_getField, Nat.testBit_mod_two_pow]
  by_cases h1 : off ≤ i
  · by_cases h2 : i < off + w
    · simp [h1, h2, Nat.sub_lt_left_of_lt_add h1 h2, Nat.add_sub_cancel' h1]
    · have h3 : ¬ (i - off < w) := fun h => h2 (by omega)
      simp [h1, h2, h3]
  · simp [h1]

theorem testBit_setField_in (x off w v i : Nat) (h : i < w) :
    (setField x off w v).testBit (off + i) = v.testBit i := by
  rw [testBit_setField, if_pos ⟨Nat.le_add_right _ _, Nat.add_lt_add_left h _⟩, Nat.add_sub_cancel_left]

theorem testBit_setField_out (x off w v i : Nat) (h : i < off ∨ off + w ≤ i) :
    (setField x off w v).testBit i = x.testBit i := by
  rw [testBit_setField, if_neg fun hh => h.elim (Nat.not_lt.mpr hh.1) (Nat.not_le.mpr hh.2)]

theorem getField_setField_same (x off w v : Nat) : getField (setField x off w v) off w = v % 2 ^ w := by
  apply Nat.eq_of_testBit_eq
  intro i
  rw [testBit_getField, Nat.testBit_mod_two_pow]
  by_cases h : i < w
  · simp [h, testBit_setField_in]
  · simp [h]

theorem getField_setField_disj (x off w v off' w' : Nat) (h : off' + w' ≤ off ∨ off + w ≤ off') :
    getField (setField x off w v) off' w' = getField x off' w' :=
  getField_congr _ _ _ _ fun _ hi => testBit_setField_out _ _ _ _ _
    (h.imp (Nat.lt_of_lt_of_le (Nat.add_lt_add_left hi off')) fun b => Nat.le_trans b (Nat.le_add_right _ _))

theorem getField_lt (x off w : Nat) : getField x off w < 2 ^ w := Nat.mod_lt _ (Nat.two_pow_pos w)

theorem getField_setField_inside (x W v off w : Nat) (h : off + w ≤ W) :
    getField (setField x 0 W v) off w = getField v off w :=
  getField_congr _ _ _ _ fun i hi => by
    simpa using testBit_setField_in x 0 W v (off + i) (Nat.lt_of_lt_of_le (Nat.add_lt_add_left hi off) h)

theorem getField_of_lt (v w : Nat) (h : v < 2 ^ w) : getField v 0 w = v := by
  simp [getField, Nat.mod_eq_of_lt h]

theorem testBit_setBits (is : List Nat) (x off j : Nat) :
    (setBits x off is).testBit j = (x.testBit j || is.any (fun i => off + i == j)) := by
  unfold setBits
  induction is generalizing x with
  | nil => simp
  | cons a t ih =>
    simp only [List.foldl_cons, List.any_cons]
    rw [ih, Nat.testBit_or, Nat.testBit_two_pow]
    by_cases h : off + a = j
    · simp [h]
    · have hb : (off + a == j) = false := by simp [h]
      simp [h, hb]

theorem testBit_setBits_mono (is : List Nat) (x off j : Nat) (h : x.testBit j = true) :
    (setBits x off is).testBit j = true := by
  rw [testBit_setBits, h]; rfl

theorem testBit_setBits_low (is : List Nat) (x off j : Nat) (hj : j < off) : (setBits x off is).testBit j = x.testBit j := by
  rw [testBit_setBits]
  have : is.any (fun i => off + i == j) = false := by
    rw [List.any_eq_false]; intro i _; simp; omega
  simp [this]

theorem allSet_iff (x off : Nat) (is : List Nat) : allSet x off is = true ↔ ∀ i ∈ is, x.testBit (off + i) = true := by
  simp [allSet, List.all_eq_true]

theorem allSet_setBits (x off : Nat) (is : List Nat) : allSet (setBits x off is) off is = true := by
  rw [allSet_iff]
  intro i hi
  rw [testBit_setBits]
  have : is.any (fun k => off + k == off + i) = true := List.any_eq_true.mpr ⟨i, hi, by simp⟩
  simp [this]

theorem allSet_mono (x y off off' : Nat) (is : List Nat)
    (h : ∀ i ∈ is, x.testBit (off + i) = true → y.testBit (off' + i) = true) (hx : allSet x off is = true) :
    allSet y off' is = true := by
  rw [allSet_iff] at *
  intro i hi
  exact h i hi (hx i hi)

theorem allSet_congr (x y off off' : Nat) (is : List Nat)
    (h : ∀ i ∈ is, x.testBit (off + i) = y.testBit (off' + i)) : allSet x off is = allSet y off' is :=
  Bool.eq_iff_iff.mpr ⟨allSet_mono x y off off' is fun i hi hb => h i hi ▸ hb, allSet_mono y x off' off is fun i hi hb => (h i hi).symm ▸ hb⟩

theorem qauLoop_content (off : Nat) (is : List Nat) (x n : Nat) (a : Bool) :
    (qauLoop off is (x, n, a)).1 = setBits x off is := by
  induction is generalizing x n a with
  | nil => simp [qauLoop, setBits]
  | cons i t ih => simp only [qauLoop]; rw [ih]; simp [setBits]

theorem or_two_pow_of_testBit {x k : Nat} (h : x.testBit k = true) : x ||| 2 ^ k = x := by
  apply Nat.eq_of_testBit_eq
  intro j
  rw [Nat.testBit_or, Nat.testBit_two_pow]
  by_cases e : k = j
  · rw [← e, h]; rfl
  · simp [e]

theorem qauLoop_answer (off : Nat) (is : List Nat) (x n : Nat) (a : Bool) :
    (qauLoop off is (x, n, a)).2.2 = (a && allSet x off is) := by
  induction is generalizing x n a with
  | nil => simp [qauLoop, allSet]
  | cons i t ih =>
    simp only [qauLoop]
    rw [ih]
    cases hb : x.testBit (off + i) with
    | false => simp [allSet, hb]
    | true => rw [or_two_pow_of_testBit hb]; simp [allSet, hb]

theorem qauLoop_eq (off : Nat) (is : List Nat) (x n : Nat) :
    qauLoop off is (x, n, true) = (setBits x off is, (qauLoop off is (x, n, true)).2.1, allSet x off is) :=
  Prod.ext (qauLoop_content off is x n true) (Prod.ext rfl ((qauLoop_answer off is x n true).trans (Bool.true_and _)))

theorem popCount_mono (x y off off' n : Nat) (h : ∀ j, j < n → x.testBit (off + j) = true → y.testBit (off' + j) = true) :
    popCount x off n ≤ popCount y off' n := by
  induction n with
  | zero => exact Nat.le_refl _
  | succ n ih =>
    refine Nat.add_le_add (ih fun j hj => h j (Nat.lt_succ_of_lt hj)) ?_
    by_cases hb : x.testBit (off + n) = true
    · rw [if_pos hb, if_pos (h n (Nat.lt_succ_self n) hb)]; exact Nat.le_refl _
    · rw [if_neg hb]; exact Nat.zero_le _

theorem popCount_congr (x y off off' n : Nat) (h : ∀ i, i < n → x.testBit (off + i) = y.testBit (off' + i)) :
    popCount x off n = popCount y off' n :=
  Nat.le_antisymm (popCount_mono x y off off' n fun i hi hb => h i hi ▸ hb) (popCount_mono y x off' off n fun i hi hb => (h i hi).symm ▸ hb)

theorem popCount_le (x off n : Nat) : popCount x off n ≤ n := by
  induction n with
  | zero => exact Nat.le_refl _
  | succ n ih => exact Nat.add_le_add ih (by split <;> decide)

theorem popCount_eq_zero_iff (x off n : Nat) : popCount x off n = 0 ↔ ∀ i, i < n → x.testBit (off + i) = false := by
  induction n with
  | zero => exact ⟨fun _ _ h => absurd h (Nat.not_lt_zero _), fun _ => rfl⟩
  | succ n ih =>
    rw [popCount, Nat.add_eq_zero_iff, ih]
    constructor
    · rintro ⟨h1, h2⟩ i hi
      rcases Nat.lt_succ_iff_lt_or_eq.mp hi with h | rfl
      · exact h1 i h
      · simpa using h2
    · exact fun h => ⟨fun i hi => h i (Nat.lt_succ_of_lt hi), by simp [h n (Nat.lt_succ_self n)]⟩

theorem popCount_pos (x off n i : Nat) (hi : i < n) (hb : x.testBit (off + i) = true) : 0 < popCount x off n :=
  Nat.pos_of_ne_zero fun h => by rw [(popCount_eq_zero_iff x off n).mp h i hi] at hb; cases hb

theorem popCount_setBit_out (x off n k : Nat) (hk : k < off ∨ off + n ≤ k) :
    popCount (x ||| 2 ^ k) off n = popCount x off n := by
  apply popCount_congr
  intro j hj
  rw [Nat.testBit_or, Nat.testBit_two_pow]
  have : ¬ (k = off + j) := fun e =>
    hk.elim (fun a => Nat.not_lt.mpr (Nat.le_add_right off j) (e ▸ a)) (fun b => Nat.not_le.mpr (Nat.add_lt_add_left hj off) (e ▸ b))
  simp [this]

theorem popCount_setBit (x off n i : Nat) (hi : i < n) :
    popCount (x ||| 2 ^ (off + i)) off n = popCount x off n + (if x.testBit (off + i) then 0 else 1) := by
  induction n with
  | zero => exact absurd hi (Nat.not_lt_zero _)
  | succ n ih =>
    simp only [popCount, Nat.testBit_or, Nat.testBit_two_pow]
    rcases Nat.lt_succ_iff_lt_or_eq.mp hi with h | rfl
    · rw [ih h]; simp [Nat.ne_of_lt h]; exact Nat.add_right_comm _ _ _
    · -- the new bit is the top one: those below are untouched
      rw [popCount_setBit_out x off i (off + i) (Or.inr (Nat.le_refl _))]
      cases x.testBit (off + i) <;> simp

theorem popCount_zero (off n : Nat) : popCount 0 off n = 0 := (popCount_eq_zero_iff 0 off n).mpr (fun _ _ => by simp)

theorem popCount_cleared (X off cap : Nat) : popCount (setField X off cap 0) off cap = 0 :=
  (popCount_eq_zero_iff _ _ _).mpr (fun j hj => by rw [testBit_setField_in _ _ _ _ _ hj]; simp)

theorem add_sub_shift {c d p q : Nat} (h : p + d ≤ q) : c + d + (q - (p + d)) = c + (q - p) := by
  rw [Nat.sub_add_eq, Nat.add_assoc, Nat.add_sub_cancel' (Nat.le_sub_of_add_le' h)]

theorem qauLoop_count (off n : Nat) (is : List Nat) (his : ∀ i, i ∈ is → i < n) (x c : Nat) (a : Bool) (hc : c < 2 ^ 64) :
    (qauLoop off is (x, c, a)).2.1 = (c + (popCount (setBits x off is) off n - popCount x off n)) % 2 ^ 64 := by
  induction is generalizing x c a with
  | nil => simp [qauLoop, setBits, Nat.mod_eq_of_lt hc]
  | cons i t ih =>
    have hstep := popCount_setBit x off n i (his i List.mem_cons_self)
    have hmono : popCount (x ||| 2 ^ (off + i)) off n ≤ popCount (setBits (x ||| 2 ^ (off + i)) off t) off n :=
      popCount_mono _ _ _ _ _ (fun j _ hb => testBit_setBits_mono _ _ _ _ hb)
    rw [hstep] at hmono
    simp only [qauLoop]
    rw [ih (fun j hj => his j (List.mem_cons_of_mem _ hj)) _ _ _ (Nat.mod_lt _ (by decide)), Nat.mod_add_mod, hstep]
    exact congrArg (· % 2 ^ 64) (add_sub_shift hmono)

end DS.Bloom
