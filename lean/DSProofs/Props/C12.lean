/-
C12 — Frequent-items bounds always bracket the true frequency.

The property theorems and their non-vacuity examples (helper lemmas: Lemmas/Fi*.lean).
Model: DSModel/Fi/Abstract.lean (L1; tied to frequent_items_sketch_impl.hpp / reverse_purge_hash_map_impl.hpp by the
correspondence check `./check C12`, with the L2 table model DSModel/Fi/Table.lean resolving the free choices).

Quantifiers.  `Reach T strict s f N` (Lemmas/FiReach.lean) ranges over EVERY history: any constructor arguments
(lg_start ≤ lg_max, both raised to LG_MIN_MAP_SIZE), any weighted update stream (zero weights included), any merge tree
(every replay order of the operand's counters), any serialisation round trips, and EVERY choice of the purge amount at
every purge (the code's choice, the median of a sample, is one of them).  `f x` is the true total weight of item `x`
in that history and `N` the sum of all update weights.  `T` are the tunables read from the headers (LOAD_FACTOR,
MAX_SAMPLE_SIZE, EPSILON_FACTOR, LG_MIN_MAP_SIZE): every theorem holds for all of them, `fi_epsilon` under a decidable
side condition that is discharged on the generated values (`fi_epsilon_gen`, Props/C12Gen.lean).  Weights are natural numbers (the double
instantiation is modelled with exact dyadic arithmetic; floating-point rounding and uint64 overflow are not modelled).

Source shape.  The theorems of this file are about `merge` / `roundtrip`, which model the pinned source shape
`is_empty() = (num_active == 0)`.  `strict = true` excludes the two operations that this shape gets wrong: merging an operand,
or round-tripping a sketch, that has no active item but a non-zero total weight / maximum error (every counter was purged;
`is_empty()` is then true).  The full statements are kept as `…_full` and refuted by concrete witnesses (`…_full_false`), which
are replayed on the real code by the check (corpus/regress/C12; entries of known_findings.json, fixed in the repaired source).
For the repaired shape `is_empty() = (total_weight == 0)`, which the headers have (`fi_empty_by_total_current`), the operations are
`mergeF` / `roundtripF`, and Props/C12_Repaired.lean proves bracket and exact total for every history without the exclusion;
`fi_epsilon` and `fi_capacity` are stated over `merge` / `roundtrip` only.
-/
import DSProofs.Lemmas.FiCap
import DSProofs.Lemmas.FiTable
namespace DS.Fi

variable {ι : Type} [DecidableEq ι]

/-- tunables of the non-vacuity examples and witnesses: LOAD_FACTOR 3/4, EPSILON_FACTOR 7/2, LG_MIN_MAP_SIZE 3 (fixed
here so that a harmless retuning of the headers does not touch them; the theorems are for every `T`, and the instance
for the constants generated from the CURRENT headers is `fi_epsilon_gen` in Props/C12Gen.lean) -/
def exTun : Tun := {}

/-- a stream of 7 items into a map of 8 slots (capacity 6): the 7th insertion purges with the median 3 -/
def exStream : List (Ent Nat) := [(1, 5, 0), (2, 3, 0), (3, 1, 0), (4, 9, 0), (5, 2, 0), (6, 2, 0), (7, 4, 3)]
/-- seven distinct items of weight 1: the purge (median 1) deletes every counter -/
def onesStream : List (Ent Nat) := [(1, 1, 1), (2, 1, 1), (3, 1, 1), (4, 1, 1), (5, 1, 1), (6, 1, 1), (7, 1, 1)]

/-- For EVERY item `x` (tracked or not): lower bound ≤ true weight ≤ upper bound, the estimate lies between the bounds,
upper minus lower bound is the reported maximum error, and an untracked item has estimate 0. -/
theorem fi_bracket (T : Tun) {s : St ι} {f : ι → Nat} {N : Nat} (h : Reach T true s f N) (x : ι) :
    lowerBound s x ≤ f x ∧ f x ≤ upperBound s x ∧
    lowerBound s x ≤ estimate s x ∧ estimate s x ≤ upperBound s x ∧
    upperBound s x - lowerBound s x = maximumError s ∧
    (lowerBound s x = 0 → estimate s x = 0) :=
  and_assoc.1 ⟨(reach_inv T h).1.2 x, getters_order s x⟩

example : ∃ (s : St Nat) (f : Nat → Nat) (N : Nat), Reach exTun true s f N ∧ s.offset = 3 ∧ s.map.length = 3 ∧ f 3 = 1 ∧
    lowerBound s 3 = 0 ∧ upperBound s 3 = 3 :=
  ⟨_, _, _, reach_replay exTun true exStream (Reach.new 3 3 (by decide)), by decide +kernel⟩

/-- The total weight is the exact sum of all update weights (through merges and round trips). -/
theorem fi_total_exact (T : Tun) {s : St ι} {f : ι → Nat} {N : Nat} (h : Reach T true s f N) : s.total = N :=
  (reach_inv T h).2

example : ∃ (s : St Nat) (f : Nat → Nat), Reach exTun true s f 26 ∧ s.offset = 3 :=
  ⟨_, _, reach_replay exTun true exStream (Reach.new 3 3 (by decide)), by decide +kernel⟩

/-- Merge: the merged sketch brackets the true weights of the concatenated streams, for every replay order of the
operand's counters and every purge amount used during the replay – provided the operand is not fully purged. -/
theorem fi_merge_bracket (T : Tun) {s o : St ι} {f g : ι → Nat} {N M : Nat}
    (hs : Reach T true s f N) (ho : Reach T true o g M) (ents : List (Ent ι))
    (hp : (entPairs ents).Perm o.map) (hnd : ¬ FullyPurged o) (x : ι) :
    lowerBound (merge T s o ents) x ≤ f x + g x ∧ f x + g x ≤ upperBound (merge T s o ents) x ∧
    (merge T s o ents).total = N + M := by
  have hr : Reach T true (merge T s o ents) (fun y => f y + g y) (N + M) := Reach.merge ents hs ho hp (fun _ => hnd)
  have hb := fi_bracket T hr x
  exact ⟨hb.1, hb.2.1, fi_total_exact T hr⟩

example : ∃ (s o : St Nat) (ents : List (Ent Nat)), (entPairs ents).Perm o.map ∧ ¬ FullyPurged o ∧
    (merge exTun s o ents).offset = 6 ∧ (merge exTun s o ents).map.length = 3 :=
  ⟨replay exTun (init exTun 3 3) exStream, replay exTun (init exTun 3 3) exStream,
   [(7, 1, 0), (1, 2, 0), (4, 6, 0)], by decide, by intro h; exact absurd h.1 (by decide), by decide, by decide⟩

/-- The property's statement for merge without the carve-out. -/
def fi_merge_bracket_full : Prop :=
  ∀ (T : Tun) (s o : St Nat) (f g : Nat → Nat) (N M : Nat) (ents : List (Ent Nat)),
    Reach T true s f N → Reach T true o g M → (entPairs ents).Perm o.map →
    ∀ x, f x + g x ≤ upperBound (merge T s o ents) x ∧ (merge T s o ents).total = N + M

/-- FALSE of the pinned source shape: `merge` returns early when `other.is_empty()`, i.e. when the operand has no active item –
also when its total weight and maximum error are not zero. Witness: seven distinct items of weight 1 into lg_max = 3
(all purged: total 7, max error 1) merged into a sketch that saw item 100 with weight 5: the result reports
total weight 5 (true 12) and upper bound 0 for item 1 (true weight 1).
Known finding `merge-ignores-fully-purged-operand`. -/
theorem fi_merge_bracket_full_false : ¬ fi_merge_bracket_full := by
  intro h
  have hs := reach_replay exTun true [((100 : Nat), 5, 0)] (Reach.new 3 3 (by decide))
  have ho := reach_replay exTun true onesStream (Reach.new 3 3 (by decide))
  have := (h _ _ _ _ _ _ _ [] hs ho (by decide) 1).2
  revert this
  decide +kernel

/-- Round trip of a sketch that is not fully purged: nothing observable changes. -/
theorem fi_roundtrip_bracket (T : Tun) {s : St ι} {f : ι → Nat} {N : Nat} (h : Reach T true s f N)
    (hnd : ¬ FullyPurged s) (x : ι) :
    lowerBound (roundtrip T s) x ≤ f x ∧ f x ≤ upperBound (roundtrip T s) x ∧ (roundtrip T s).total = N ∧
    (roundtrip T s).offset = s.offset ∧ lowerBound (roundtrip T s) x = lowerBound s x := by
  have hr : Reach T true (roundtrip T s) f N := Reach.roundtrip h (fun _ => hnd)
  have hb := fi_bracket T hr x
  obtain ⟨hm, ho, _⟩ := roundtrip_eq T s hnd
  exact ⟨hb.1, hb.2.1, fi_total_exact T hr, ho, by unfold lowerBound; rw [hm]⟩

example : ¬ FullyPurged (replay exTun (init exTun 3 3) exStream) := by
  intro h; exact absurd h.1 (by decide +kernel)

def fi_roundtrip_bracket_full : Prop :=
  ∀ (T : Tun) (s : St Nat) (f : Nat → Nat) (N : Nat), Reach T true s f N →
    ∀ x, f x ≤ upperBound (roundtrip T s) x ∧ (roundtrip T s).total = N

/-- FALSE of the pinned source shape: a sketch without active items is serialised as the 8-byte EMPTY image, which has no
total weight and no offset field. Witness: the fully purged sketch above deserialises with total weight 0 and upper
bound 0 for item 1 (true weight 1). Known finding `roundtrip-drops-fully-purged-sketch`. -/
theorem fi_roundtrip_bracket_full_false : ¬ fi_roundtrip_bracket_full := by
  intro h
  have ho := reach_replay exTun true onesStream (Reach.new 3 3 (by decide))
  have := (h _ _ _ _ ho 1).1
  revert this
  decide +kernel

/-- `get_frequent_items` returns exactly the selected counters (`ub > threshold` resp. `lb > threshold`), each row
carrying the values the getters report for its item; only tracked items are returned. -/
theorem fi_frequent_rows (T : Tun) {s : St ι} {f : ι → Nat} {N : Nat} (h : Reach T true s f N)
    (et : ErrType) (thr : Nat) (r : Row ι) (hr : r ∈ frequentItems s et thr) :
    r.lb = lowerBound s r.item ∧ r.ub = upperBound s r.item ∧ r.est = estimate s r.item ∧ 0 < r.lb ∧
    (match et with | .noFalseNegatives => thr < r.ub | .noFalsePositives => thr < r.lb) := by
  obtain ⟨p, hp, hsel, rfl⟩ := (mem_frequentItems s et thr r).mp hr
  obtain ⟨k, v⟩ := p
  have hc := cnt_of_mem s.map (reach_inv T h).1.1 k v hp
  have hpos : 0 < v := reach_pos T h (k, v) hp
  unfold lowerBound upperBound estimate rowOf
  simp only [hc]
  refine ⟨trivial, trivial, by rw [if_pos hpos], hpos, ?_⟩
  cases et <;> simpa [selects] using hsel

example : (frequentItems (replay exTun (init exTun 3 3) exStream) .noFalseNegatives 3).map (·.item) = [4, 1, 7] := by decide +kernel

/-- NO_FALSE_POSITIVES returns only items whose true weight exceeds the threshold – for ALL thresholds. -/
theorem fi_no_false_pos (T : Tun) {s : St ι} {f : ι → Nat} {N : Nat} (h : Reach T true s f N)
    (thr : Nat) (r : Row ι) (hr : r ∈ frequentItems s .noFalsePositives thr) : thr < f r.item := by
  have h1 := fi_frequent_rows T h .noFalsePositives thr r hr
  have h2 := (fi_bracket T h r.item).1
  have h3 : thr < r.lb := h1.2.2.2.2
  rw [h1.1] at h3
  omega

example : (frequentItems (replay exTun (init exTun 3 3) exStream) .noFalsePositives 1).map (·.item) = [4, 1] := by decide +kernel

/-- NO_FALSE_NEGATIVES returns every item whose true weight exceeds the threshold, provided the threshold is at least
the maximum error (`get_frequent_items(err_type)` uses exactly the maximum error). -/
theorem fi_no_false_neg (T : Tun) {s : St ι} {f : ι → Nat} {N : Nat} (h : Reach T true s f N)
    (thr : Nat) (hthr : s.offset ≤ thr) (x : ι) (hx : thr < f x) :
    ∃ r ∈ frequentItems s .noFalseNegatives thr, r.item = x := by
  have hb := (reach_inv T h).1
  have h2 := hb.2 x
  have hmem : (x, cnt s.map x) ∈ s.map := mem_of_cnt_pos s.map hb.1 x (by omega)
  refine ⟨rowOf s (x, cnt s.map x), (mem_frequentItems s _ thr _).mpr ⟨_, hmem, ?_, rfl⟩, rfl⟩
  simp only [selects, decide_eq_true_eq]
  omega

example : ∃ (s : St Nat) (f : Nat → Nat) (N : Nat), Reach exTun true s f N ∧ s.offset ≤ 3 ∧ 3 < f 7 ∧ lowerBound s 7 = 1 :=
  ⟨_, _, _, reach_replay exTun true exStream (Reach.new 3 3 (by decide)), by decide +kernel⟩

/-- The property's statement: NO_FALSE_NEGATIVES for ALL thresholds. -/
def fi_no_false_neg_full : Prop :=
  ∀ (T : Tun) (s : St Nat) (f : Nat → Nat) (N : Nat), Reach T true s f N →
    ∀ thr x, thr < f x → ∃ r ∈ frequentItems s .noFalseNegatives thr, r.item = x

/-- FALSE of both source shapes, pinned and repaired (and of any summary of this kind): with a threshold below the maximum error an item
that was purged is not in the table any more, although its true weight can be as large as the maximum error.
Witness: seven distinct items of weight 1 into lg_max = 3; all are purged (maximum error 1) and
`get_frequent_items(NO_FALSE_NEGATIVES, 0)` is empty although item 1 has true weight 1 > 0.
Known finding `nfn-threshold-below-max-error` (DESIGN.md §4 D10). -/
theorem fi_no_false_neg_full_false : ¬ fi_no_false_neg_full := by
  intro h
  have ho := reach_replay exTun true onesStream (Reach.new 3 3 (by decide))
  obtain ⟨r, hr, _⟩ := h _ _ _ _ ho 0 1 (by decide)
  have he : frequentItems (replay exTun (init exTun 3 3) onesStream) .noFalseNegatives 0 = [] := by decide +kernel
  rw [he] at hr
  exact absurd hr (by simp)

/-- Rows come in descending estimate order. -/
theorem fi_frequent_sorted (s : St ι) (et : ErrType) (thr : Nat) :
    (frequentItems s et thr).Pairwise (fun a b => b.est ≤ a.est) :=
  sorted_sortRows _

example : (frequentItems (replay exTun (init exTun 3 3) exStream) .noFalseNegatives 0).map (·.est) = [9, 5, 4] := by decide +kernel

/-- If every purge amount is at most the median of the counters present at that purge (`AmtOK`; the code's amount IS
the median whenever the whole table fits the purge sample, `fi_median_ok`) and merged operands have at least the
target's `lg_max`, then  maximum error ≤ EPSILON_FACTOR / 2^lg_max · total weight
(written without division: `offset · (epsDen · 2^lgMax) ≤ epsNum · total`), provided
`EPSILON_FACTOR · LOAD_FACTOR ≥ 2` (each such purge takes the amount off at least ⌈(capacity+1)/2⌉ counters). -/
theorem fi_epsilon (T : Tun) {s : St ι} (h : ReachMed T s) (hden : 0 < T.lfDen)
    (hside : 2 * T.lfDen * T.epsDen ≤ T.epsNum * T.lfNum) :
    s.offset * (T.epsDen * 2 ^ s.lgMax) ≤ T.epsNum * s.total :=
  eps_bound T s (reachMed_inv T h) hden hside

/-- the code's purge amount – the element of rank n/2 of ALL counters – and every smaller amount is acceptable -/
theorem fi_median_ok (T : Tun) (s : St ι) (x : ι) (w a : Nat) (h : a ≤ purgeAmountAll (adjust s.map x w)) :
    AmtOK T s x w a := by
  intro _
  have h1 := upperHalf_le_countGE_median (vals (adjust s.map x w))
  rw [vals_length] at h1
  exact Nat.le_trans h1 (countGE_anti _ h)

example : ∃ s : St Nat, ReachMed exTun s ∧ s.offset = 3 ∧ s.total = 26 ∧ s.lgMax = 3 :=
  ⟨updateMed exTun (replay exTun (init exTun 3 3) (exStream.take 6)) 7 4,
   ReachP.upd 7 4 _ (reachP_replay exTun _ (ReachP.new 3 3 (by decide)) (by decide +kernel)) (fi_median_ok _ _ _ _ _ (Nat.le_refl _)),
   by decide +kernel⟩

/-- If every purge deletes at least one counter (`AmtDel`; true of the code's median and of every other order statistic
of the counters, `fi_median_deletes`) the number of active items never exceeds `get_capacity()` of the current table
size, for every stream, merge tree and round trip. Hence `purge did not reduce number of active items` and
`num_active > capacity` are unreachable, and re-inserting a serialised sketch's items into a table of the same lgCur
neither grows nor purges (which is why `roundtrip` is the identity on non-empty sketches).
Side condition: the smallest table has capacity ≥ 1 (`⌊2^LG_MIN_MAP_SIZE · LOAD_FACTOR⌋ ≥ 1`). -/
theorem fi_capacity (T : Tun) (hmin : 1 ≤ capacity T T.lgMin) {b : Bool} {s : St ι} (h : ReachP T b (AmtDel T) s) :
    numActive s ≤ capacity T s.lgCur ∧ s.lgCur ≤ s.lgMax ∧ T.lgMin ≤ s.lgCur := by
  exact reachP_cap T hmin h

theorem fi_median_deletes (T : Tun) (s : St ι) (x : ι) (w : Nat) :
    AmtDel T s x w (purgeAmountAll (adjust s.map x w)) := by
  intro hp
  refine ⟨_, medianOf_mem _ fun he => ?_, Nat.le_refl _⟩
  have hl := congrArg List.length he
  rw [vals_length, length_adjust, if_neg ((purges_iff T s x w).mp hp).2.1] at hl
  cases hl

example : ∃ s : St Nat, ReachP exTun false (AmtDel exTun) s ∧ numActive s = 3 ∧ capacity exTun s.lgCur = 6 :=
  ⟨updateMed exTun (replay exTun (init exTun 3 3) (exStream.take 6)) 7 4,
   ReachP.upd 7 4 _ (reachP_replay exTun _ (ReachP.new 3 3 (by decide)) (by decide +kernel)) (fi_median_deletes _ _ _ _),
   by decide +kernel⟩

/-! ## L2 (reverse-purge table model) – partial

The full refinement `abs2 (update2 …) = update (abs2 …) …` of DSModel/Fi/Table.lean (probe chains, `hash_delete`
back-shift, scan order) is NOT proved; the table model is tied to the code by the correspondence check only and serves
to resolve L1's free choices.  What is proved: the choice it makes for the purge amount is the one `fi_epsilon` and
`fi_capacity` accept whenever the table fits the purge sample. -/

/-- If all active slots are counted (`activeIdx.length = numActive`) and `numActive ≤ MAX_SAMPLE_SIZE`, the amount computed
by the table model's `purge()` (rank n/2 of the first n active values in index order) is the median of ALL counters of
any abstract map listing the same entries – i.e. `purgeAmountAll`, which satisfies `AmtOK` and `AmtDel`. -/
theorem fi_l2_purge_amount (T : Tun) (t : Tab) (h1 : t.activeIdx.length = t.numActive)
    (h2 : t.numActive ≤ T.maxSample) (m : Map Nat) (hp : m.Perm t.entries) :
    t.sampleMedian T = purgeAmountAll m := by
  unfold Tab.sampleMedian purgeAmountAll
  rw [Tab.sample_all T t h1 h2]
  exact medianOf_perm (hp.map _).symm

example : let t := (replay2 exTun id medianOf (init2 exTun 3 3) [(1, 5), (2, 3), (3, 1), (12, 9), (5, 2), (6, 2), (20, 4)] []).1.tab
    t.activeIdx.length = t.numActive ∧ t.numActive ≤ exTun.maxSample ∧ t.numActive = 3 ∧ t.sampleMedian exTun = 2 := by
  decide +kernel

end DS.Fi
