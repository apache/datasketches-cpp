/-
C09 (Bloom filter part) — serialization round trip of the Bloom filter image.

ONLY property theorems and non-vacuity examples (helper lemmas: Lemmas/WireMisc*.lean).
Model: DSModel/Wire/Bloom.lean = the documented layout (3 preamble longs when empty, else 4 with
num_bits_set at byte 24 and the bit array from byte 32).  `c : Consts` are the wire constants; all
statements hold for every `c` satisfying the decidable side conditions `c.Valid`, in particular for the
values generated from the current headers (`genConsts_valid`).  Owned and wrapped-in-caller-memory
filters use the same bytes (`wrap`/`writable_wrap` interpret the caller's copy of this image), which the
correspondence check exercises on the real code (`./check c09_misc`).
-/
import DSProofs.Lemmas.WireMiscBloom
import DSModel.Wire.BloomGen
namespace DS.Wire.Bloom
open DS.Wire

/-- the constants extracted from the current headers satisfy the side conditions of the theorems below -/
theorem genConsts_valid : genConsts.Valid := by decide

/-- decoding an encoded well-formed image gives back the image and leaves exactly the bytes that
followed it: the reader consumes the image and nothing after it. -/
theorem decode_encode (c : Consts) (hc : c.Valid) (s : Img) (hs : WF s) (tail : Bytes) :
    decode c (encode c s ++ tail) = some (s, tail) := by
  rw [decode_header c hc s hs tail]
  obtain ⟨nh, seed, nl, body⟩ := s
  obtain ⟨_, _, _, g4⟩ := hs
  cases body with
  | none => rfl
  | some p =>
    obtain ⟨nbs, bits⟩ := p
    show decodeBody nh seed nl false (w64 nbs ++ bits ++ tail) = _
    simp only [decodeBody, Bool.false_eq_true, if_false, List.append_assoc]
    rw [bind_u64 _ g4.1, bind_bytesN bits _ g4.2]
    rfl

/-- the image has exactly the advertised size: 24 bytes when empty, else 32 + 8·num_longs
(= `get_serialized_size_bytes()`; the static `get_serialized_size_bytes(num_bits)` is the non-empty value). -/
theorem size_eq (c : Consts) (s : Img) (hs : WF s) : (encode c s).length = serializedSize s := by
  have h24 : (encode c s).length = 24 + (encodeBody s.body).length := by
    simp +arith only [encode, List.length_append, length_w8, length_w16, length_w32, length_w64, length_wZeros]
  obtain ⟨_, _, _, g4⟩ := hs
  obtain ⟨nh, seed, nl, body⟩ := s
  rw [h24]
  cases body with
  | none => rfl
  | some p => simp +arith only [serializedSize, encodeBody, List.length_append, length_w64, g4.2]

/-- the published bound: never more than the non-empty size for that capacity -/
theorem size_le_max (s : Img) : serializedSize s ≤ 8 * (4 + s.numLongs) := by
  unfold serializedSize; split <;> omega

/-- re-serialisation is byte-identical for canonical images: whatever decodes to `s` and is itself an
encoding re-encodes to the same bytes (encode ∘ decode ∘ encode = encode). -/
theorem encode_decode_encode (c : Consts) (hc : c.Valid) (s : Img) (hs : WF s) :
    (decode c (encode c s)).map (fun p => encode c p.1) = some (encode c s) := by
  have := decode_encode c hc s hs []
  simp only [List.append_nil] at this
  simp [this]

/-- a non-empty filter with 2 hash functions, 128 bits, 3 bits set, and an image carrying the dirty marker -/
def exImg : Img := { numHashes := 2, seed := 9001, numLongs := 2,
                     body := some (3, [1, 0, 0, 0x80, 0, 0, 0, 0, 0, 0, 0, 0, 0, 0, 0, 2]) }
def exDirty : Img := { exImg with body := some (2^64 - 1, [1, 0, 0, 0x80, 0, 0, 0, 0, 0, 0, 0, 0, 0, 0, 0, 2]) }
def exEmpty : Img := { numHashes := 7, seed := 0, numLongs := 1, body := none }

example : WF exImg ∧ WF exDirty ∧ WF exEmpty := by decide
example : decode genConsts (encode genConsts exImg ++ [0xAA]) = some (exImg, [0xAA]) := by decide +kernel
example : (encode genConsts exImg).length = 48 ∧ (encode genConsts exEmpty).length = 24 := by decide +kernel

end DS.Wire.Bloom
