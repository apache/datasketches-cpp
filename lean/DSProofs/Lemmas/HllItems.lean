/- Coupon arrays of LIST / SET mode: every placement adds exactly the new coupon. -/
import DSModel.Hll.Sketch
import Batteries.Data.List.Perm
namespace DS.Hll

theorem mem_itemsOf {tbl : Array Nat} {c : Nat} : c ∈ itemsOf tbl ↔ (c ∈ tbl.toList ∧ c ≠ 0) := by
  simp [itemsOf, List.mem_filter]

theorem contains_iff_mem_itemsOf {tbl : Array Nat} {c : Nat} (hc : c ≠ 0) : tbl.contains c = true ↔ c ∈ itemsOf tbl := by
  rw [mem_itemsOf, Array.contains_iff_mem, Array.mem_toList_iff]
  exact ⟨fun h => ⟨h, hc⟩, fun h => h.1⟩

theorem itemsOf_replicate_zero (n : Nat) : itemsOf (Array.replicate n 0) = [] := by
  simp [itemsOf]

theorem zero_not_mem_itemsOf (tbl : Array Nat) : 0 ∉ itemsOf tbl := by
  simp [mem_itemsOf]

theorem itemsOf_set_zero {tbl : Array Nat} {i c : Nat} (hi : i < tbl.size) (hz : tbl.getD i 1 = 0) (hc : c ≠ 0) :
    (itemsOf (tbl.setIfInBounds i c)).Perm (c :: itemsOf tbl) := by
  have hz' : tbl.toList[i]'(by simpa using hi) = 0 := by
    simpa [Array.getD_eq_getD_getElem?, hi] using hz
  have hl : i < tbl.toList.length := by simpa using hi
  unfold itemsOf
  rw [Array.toList_setIfInBounds, List.set_eq_take_append_cons_drop, if_pos hl]
  have hsplit : tbl.toList = tbl.toList.take i ++ tbl.toList[i] :: tbl.toList.drop (i + 1) := by
    rw [List.getElem_cons_drop, List.take_append_drop]
  conv => rhs; rw [hsplit]
  have e1 : (!decide (c = 0)) = true := by simp [hc]
  simp only [List.filter_append, List.filter_cons, hz', ne_eq, decide_not, decide_true, Bool.not_true,
    Bool.false_eq_true, if_false, e1, if_true]
  exact List.perm_middle

theorem itemsOf_push {tbl : Array Nat} {c : Nat} (hc : c ≠ 0) : itemsOf (tbl.push c) = itemsOf tbl ++ [c] := by
  simp [itemsOf, List.filter_append, hc]

theorem firstZeroFrom_spec (tbl : Array Nat) (fuel i : Nat) (h : tbl.size ≤ i + fuel)
    (hl : firstZeroFrom tbl fuel i < tbl.size) : tbl.getD (firstZeroFrom tbl fuel i) 1 = 0 := by
  fun_induction firstZeroFrom tbl fuel i with
  | case1 i => exact absurd hl (Nat.not_lt.2 h)
  | case2 fuel i hz => exact hz
  | case3 fuel i hz ih => exact ih (by omega) hl

theorem placeFirst_perm {tbl : Array Nat} {c : Nat} (hc : c ≠ 0) : (itemsOf (placeFirst tbl c)).Perm (c :: itemsOf tbl) := by
  unfold placeFirst
  simp only
  by_cases hl : firstZeroFrom tbl tbl.size 0 < tbl.size
  · rw [if_pos hl]
    exact itemsOf_set_zero hl (firstZeroFrom_spec tbl tbl.size 0 (Nat.le_of_eq (Nat.zero_add _).symm) hl) hc
  · rw [if_neg hl, itemsOf_push hc]
    exact List.perm_append_singleton c (itemsOf tbl)

theorem probeEmpty_spec (tbl : Array Nat) (m stride fuel pr : Nat) {i : Nat} (h : probeEmpty tbl m stride fuel pr = some i) :
    tbl.getD i 1 = 0 := by
  fun_induction probeEmpty tbl m stride fuel pr with
  | case1 => exact nomatch h
  | case2 fuel pr hz => exact Option.some.inj h ▸ hz
  | case3 fuel pr hz ih => exact ih h

theorem setPlace_perm (p : Params) {tbl : Array Nat} {lgArr c : Nat} (hc : c ≠ 0) :
    (itemsOf (setPlace p tbl lgArr c)).Perm (c :: itemsOf tbl) := by
  unfold setPlace
  cases hpe : probeEmpty tbl (2^lgArr) (setStride p lgArr c) (2^lgArr) (c % 2^lgArr) with
  | none => exact placeFirst_perm hc
  | some i =>
    simp only
    by_cases hl : i < tbl.size
    · rw [if_pos hl]; exact itemsOf_set_zero hl (probeEmpty_spec _ _ _ _ _ hpe) hc
    · rw [if_neg hl]; exact placeFirst_perm hc

theorem foldl_setPlace_perm (p : Params) (lg : Nat) : ∀ (l : List Nat) (t : Array Nat), (∀ c ∈ l, c ≠ 0) →
    (itemsOf (l.foldl (fun t c => setPlace p t lg c) t)).Perm (l ++ itemsOf t)
  | [], _, _ => .refl _
  | a :: l, t, h =>
    ((foldl_setPlace_perm p lg l (setPlace p t lg a) fun c hc => h c (List.mem_cons_of_mem _ hc)).trans
      (List.Perm.append_left l (setPlace_perm p (h a List.mem_cons_self)))).trans List.perm_middle

theorem foldl_setPlace_replicate (p : Params) (lg n : Nat) {l : List Nat} (h : ∀ c ∈ l, c ≠ 0) :
    (itemsOf (l.foldl (fun t c => setPlace p t lg c) (Array.replicate n 0))).Perm l := by
  have := foldl_setPlace_perm p lg l (Array.replicate n 0) h
  rw [itemsOf_replicate_zero, List.append_nil] at this
  exact this

theorem growSet_perm (p : Params) (tbl : Array Nat) (lgArr : Nat) : (itemsOf (growSet p tbl lgArr)).Perm (itemsOf tbl) :=
  foldl_setPlace_replicate p _ _ fun _ hc h0 => zero_not_mem_itemsOf tbl (h0 ▸ hc)

end DS.Hll
