/-
t-digest (C17), exact arithmetic: `get_quantile` on a state satisfying the invariant, as a function of the target weight
glued from pieces (`Piece.glue`): min below 1, max above `cw - 1`, in between one interpolation `segVal` per pair of
neighbouring centroids.  The branches for a first / last centroid of weight > 1 and the code after the loop (whose first
argument is a weight, not a mean) are never reached from a state produced by updates and merges.
-/
import DSProofs.Lemmas.TDigestInv
namespace DS.TDigest
open Num Conv

/-- the width of the flat half of the step at `c`: within `1/2` of the centre of a singleton centroid the quantile is its
mean; a heavier centroid has no flat part -/
def flat (c : C) : Rat := if c.weight = 1 then 1 / 2 else 0

/-- the body of get_quantile's loop for a target weight `t` between the centre `lo` of `a` and the centre `hi`
of the next centroid `b`.  `tun.quantW1W2 = false` is the reference order `weighted_average(mean[i], w2, mean[i+1], w1)` of
the interpolation call (the reference implementation's, and that of the headers as they are now); `true` is the order
`(mean[i], w1, mean[i+1], w2)` of the pinned commit of /repo, under which the value falls as `t` grows (Props/C17). -/
def segVal (tun : Tun) (t lo hi : Rat) (a b : C) : Rat :=
  if a.weight = 1 ∧ t - lo < 1 / 2 then a.mean
  else if b.weight = 1 ∧ hi - t ≤ 1 / 2 then b.mean
  else if tun.quantW1W2 then wavg a.mean (t - lo - flat a) b.mean (hi - t - flat b)
  else wavg a.mean (hi - t - flat b) b.mean (t - lo - flat a)

theorem quantLoop_cons2 (tun : Tun) (cwD mx t lo : Rat) (a b : C) (rest : List C) :
    quantLoop tun cwD mx t lo (a :: b :: rest) =
      if t < lo + ((a.weight + b.weight : Nat) : Rat) / 2
      then some (segVal tun t lo (lo + ((a.weight + b.weight : Nat) : Rat) / 2) a b)
      else quantLoop tun cwD mx t (lo + ((a.weight + b.weight : Nat) : Rat) / 2) (b :: rest) := by
  rw [quantLoop]
  unfold segVal flat
  simp only [rat_add, rat_div, rat_ofNat, rat_sub, rat_lt, rat_le, rat_half, rat_up, rat_down,
    Nat.cast_ofNat, Nat.cast_zero, apply_ite some]

theorem seg_weights {t lo hi : Rat} {a b : C} (hlo : lo ≤ t) (hhi : t < hi)
    (hA : ¬ (a.weight = 1 ∧ t - lo < 1 / 2)) (hB : ¬ (b.weight = 1 ∧ hi - t ≤ 1 / 2)) :
    0 ≤ t - lo - flat a ∧ 0 < hi - t - flat b := by
  unfold flat
  constructor <;> split_ifs with h
  · exact sub_nonneg.2 (not_lt.1 fun h' => hA ⟨h, h'⟩)
  · rw [sub_zero]; exact sub_nonneg.2 hlo
  · exact sub_pos.2 (not_le.1 fun h' => hB ⟨h, h'⟩)
  · rw [sub_zero]; exact sub_pos.2 hhi

theorem segVal_mem (tun : Tun) {t lo hi : Rat} {a b : C} (hab : a.mean ≤ b.mean) (hlo : lo ≤ t) (hhi : t < hi) :
    a.mean ≤ segVal tun t lo hi a b ∧ segVal tun t lo hi a b ≤ b.mean := by
  unfold segVal
  split_ifs with hA hB
  · exact ⟨le_refl _, hab⟩
  · exact ⟨hab, le_refl _⟩
  · obtain ⟨h1, h2⟩ := seg_weights hlo hhi hA hB
    exact wavg_mem hab h1 h2.le (add_pos_of_nonneg_of_pos h1 h2)
  · obtain ⟨h1, h2⟩ := seg_weights hlo hhi hA hB
    exact wavg_mem hab h2.le h1 (add_pos_of_pos_of_nonneg h2 h1)

/-- the parameter `(t - lo - flat a) / (hi - lo - flat a - flat b)` of the reference-order interpolation grows with `t` -/
theorem segVal_mono (tun : Tun) (hq : tun.quantW1W2 = false) {t1 t2 lo hi : Rat} {a b : C} (hab : a.mean ≤ b.mean)
    (hlo : lo ≤ t1) (h12 : t1 ≤ t2) (hhi : t2 < hi) : segVal tun t1 lo hi a b ≤ segVal tun t2 lo hi a b := by
  have hhi1 := h12.trans_lt hhi
  have hlo2 := hlo.trans h12
  -- `t1` on the flat half of `a`: the least value of the segment
  by_cases hA1 : a.weight = 1 ∧ t1 - lo < 1 / 2
  · rw [show segVal tun t1 lo hi a b = a.mean from if_pos hA1]
    exact (segVal_mem tun hab hlo2 hhi).1
  have hA2 : ¬ (a.weight = 1 ∧ t2 - lo < 1 / 2) := fun h => hA1 ⟨h.1, lt_of_le_of_lt (sub_le_sub_right h12 lo) h.2⟩
  -- `t2` on the flat half of `b`: the greatest value
  by_cases hB2 : b.weight = 1 ∧ hi - t2 ≤ 1 / 2
  · rw [show segVal tun t2 lo hi a b = b.mean from (if_neg hA2).trans (if_pos hB2)]
    exact (segVal_mem tun hab hlo hhi1).2
  have hB1 : ¬ (b.weight = 1 ∧ hi - t1 ≤ 1 / 2) := fun h => hB2 ⟨h.1, (sub_le_sub_left h12 hi).trans h.2⟩
  -- both on the slope
  obtain ⟨u1, v1⟩ := seg_weights hlo hhi1 hA1 hB1
  have hD : 0 < hi - lo - flat a - flat b := by linarith
  unfold segVal
  simp only [if_neg hA1, if_neg hA2, if_neg hB1, if_neg hB2, hq, Bool.false_eq_true, if_false]
  rw [wavg_eq_lerp (d := hi - lo - flat a - flat b) (by ring) hD.ne',
    wavg_eq_lerp (d := hi - lo - flat a - flat b) (by ring) hD.ne']
  exact lerp_mono hab (div_le_div_of_nonneg_right (by linarith) hD.le)

/-- the loop stands at the centroid `a`, whose centre is at `lo` weight units.  It does not fall through: the centre of the
last centroid `e`, a singleton, lies `1/2` below the total weight. -/
theorem quantLoop_piece (tun : Tun) (mx : Rat) (l : List C) : ∀ (a : C) (cw lo : Rat) (e : C), Sorted (a :: l) →
    cw = lo + (a.weight : Rat) / 2 + (sumWeights l : Rat) → (a :: l).getLast? = some e → e.weight = 1 →
    Piece (tun.quantW1W2 = false) (fun t => lo ≤ t ∧ t ≤ cw - 1) a.mean e.mean
      fun t => quantLoop tun cw mx t lo (a :: l) := by
  induction l with
  | nil =>
    intro a cw lo e _ hcw he hew
    obtain rfl : a = e := Option.some.inj he
    refine .of_empty fun t ht => ?_
    rw [hew, sumWeights_nil, Nat.cast_one, Nat.cast_zero, add_zero] at hcw
    linarith [ht.1, ht.2]
  | cons b rest ih =>
    intro a cw lo e hs hcw he hew
    have hab : a.mean ≤ b.mean := List.rel_of_pairwise_cons hs (List.mem_cons_self ..)
    have hsb : Sorted (b :: rest) := List.Pairwise.of_cons hs
    rw [List.getLast?_cons_cons] at he
    simp only [quantLoop_cons2]
    exact .glue (fun _ _ h12 h => h12.trans_lt h) hab (le_last_of_sorted hsb he b (List.mem_cons_self ..))
      ⟨fun _ ht => ⟨_, rfl, segVal_mem tun hab ht.1.1 ht.2⟩, fun hq d1 d2 h12 e1 e2 =>
        Option.some.inj e1 ▸ Option.some.inj e2 ▸ segVal_mono tun hq hab d1.1.1 h12 d2.2⟩
      ((ih b cw _ e hsb (by rw [hcw, sumWeights_cons]; push_cast; ring) he hew).on
        fun _ ht => ⟨not_lt.1 ht.2, ht.1.2⟩)

/-- `1 / 2`: the centre of the first (singleton) centroid, where the loop starts -/
theorem quantC_eq (tun : Tun) {s : St Rat} (h : Compressed s) (r : Rat) :
    quantC tun s r =
      if r * (s.cw : Rat) < 1 then some s.min
      else if ¬ (s.cw : Rat) - 1 < r * (s.cw : Rat) then quantLoop tun (s.cw : Rat) s.max (r * (s.cw : Rat)) (1 / 2) s.cs
      else some s.max := by
  obtain ⟨l, hl, hlm, hlw⟩ := h.last
  match hcs : s.cs with
  | [] => exact absurd hcs h.ne
  | [a] =>
    -- one centroid, of weight 1, whose mean is min and max; no target weight falls into the loop
    have hcw : (s.cw : Rat) = 1 := by rw [h.inv.cw, hcs, sumWeights_cons, sumWeights_nil, (h.head_cons hcs).2]; rfl
    rw [hcs] at hl
    obtain rfl : a = l := Option.some.inj hl
    unfold quantC
    rw [hcs, hcw, mul_one, sub_self]
    show some a.mean = _
    by_cases hr : r < 1
    · rw [if_pos hr, (h.head_cons hcs).1]
    · rw [if_neg hr, if_neg (not_not.2 (zero_lt_one.trans_le (not_lt.1 hr))), hlm]
  | a :: b :: rest =>
    have hfw := (h.head_cons hcs).2
    rw [hcs, List.getLast?_cons_cons] at hl
    unfold quantC
    rw [hcs]
    simp only [rat_mul, rat_ofNat, rat_lt, rat_sub, rat_div, rat_le, Nat.cast_ofNat, Nat.cast_one,
      Bool.and_eq_true]
    have hnf : ¬ ((1 : Rat) < (a.weight : Rat) ∧ r * (s.cw : Rat) < (a.weight : Rat) / 2) := by
      rw [hfw]; exact fun h => absurd h.1 (by norm_num)
    have hnl : ¬ ((1 : Rat) < (l.weight : Rat) ∧ (s.cw : Rat) - r * (s.cw : Rat) ≤ (l.weight : Rat) / 2) := by
      rw [hlw]; exact fun h => absurd h.1 (by norm_num)
    simp only [hl, if_neg hnf, if_neg hnl]
    rw [hfw, Nat.cast_one, ite_not]

theorem quantC_piece (tun : Tun) {s : St Rat} (h : Compressed s) :
    Piece (tun.quantW1W2 = false) (fun _ => True) s.min s.max (quantC tun s) := by
  obtain ⟨f, hf, hfm, _⟩ := h.head
  obtain ⟨e, he, hem, hew⟩ := h.last
  have hmm : s.min ≤ s.max := hfm ▸ h.inv.csHi f (List.mem_of_head? hf)
  have hcw : ∀ r1 r2 : Rat, r1 ≤ r2 → r1 * (s.cw : Rat) ≤ r2 * (s.cw : Rat) := fun _ _ h12 =>
    mul_le_mul_of_nonneg_right h12 (Nat.cast_nonneg _)
  obtain ⟨a, l, hcs⟩ := List.exists_cons_of_ne_nil h.ne
  rw [show quantC tun s = _ from funext (quantC_eq tun h)]
  refine .glue (fun r1 r2 h12 c => (hcw r1 r2 h12).trans_lt c) le_rfl hmm (.const le_rfl le_rfl)
    (.glue (fun r1 r2 h12 c c' => c (c'.trans_le (hcw r1 r2 h12))) hmm le_rfl ?_ (.const le_rfl le_rfl))
  rw [hcs] at he ⊢
  have hl := (quantLoop_piece tun s.max l a s.cw (1 / 2) e (hcs ▸ h.inv.sorted)
    (by rw [h.inv.cw, hcs, sumWeights_cons, (h.head_cons hcs).2]; push_cast; ring) he hew).comp hcw
  rw [(h.head_cons hcs).1, hem] at hl
  exact hl.on fun r hr => ⟨le_trans (by norm_num) (not_lt.1 hr.1.2), not_lt.1 hr.2⟩

theorem getQuantile_eq (sc : Scale Rat) (tun : Tun) (s : St Rat) (hne : s.isEmpty = false) (r : Rat)
    (h0 : 0 ≤ r) (h1 : r ≤ 1) :
    getQuantile sc tun s r = (quantC tun (compress sc tun s) r, compress sc tun s) := by
  unfold getQuantile
  rw [if_neg (by simp [hne]), if_neg (by simp [not_lt.2 h0, not_lt.2 h1])]

theorem getQuantile_within (sc : Scale Rat) (hsc : ScaleOK sc) (tun : Tun) (s : St Rat) (hs : Inv s)
    (hne : s.isEmpty = false) (r : Rat) (h0 : 0 ≤ r) (h1 : r ≤ 1) :
    ∃ q, (getQuantile sc tun s r).1 = some q ∧ s.min ≤ q ∧ q ≤ s.max ∧ (r = 0 → q = s.min) ∧ (r = 1 → q = s.max) := by
  rw [getQuantile_eq sc tun s hne r h0 h1]
  obtain ⟨hmin, hmax⟩ := compress_extremes sc hsc tun s hs hne
  rw [← hmin, ← hmax]
  have hc := compress_compressed sc hsc tun s hs hne
  have hcw : (1 : Rat) ≤ ((compress sc tun s).cw : Rat) := by exact_mod_cast hc.cw_pos
  obtain ⟨q, hq, a, b⟩ := (quantC_piece tun hc).val r trivial
  refine ⟨q, hq, a, b, fun hr => ?_, fun hr => ?_⟩ <;> rw [quantC_eq tun hc, hr] at hq
  · rw [zero_mul, if_pos one_pos] at hq
    exact (Option.some.inj hq).symm
  · rw [one_mul, if_neg (not_lt.2 hcw), if_neg (not_not.2 (sub_one_lt _))] at hq
    exact (Option.some.inj hq).symm

theorem getQuantile_mono (sc : Scale Rat) (hsc : ScaleOK sc) (tun : Tun) (hq : tun.quantW1W2 = false) (s : St Rat)
    (hs : Inv s) (hne : s.isEmpty = false) (r1 r2 : Rat) (h0 : 0 ≤ r1) (h12 : r1 ≤ r2) (h1 : r2 ≤ 1) (q1 q2 : Rat)
    (e1 : (getQuantile sc tun s r1).1 = some q1) (e2 : (getQuantile sc tun s r2).1 = some q2) : q1 ≤ q2 := by
  rw [getQuantile_eq sc tun s hne r1 h0 (le_trans h12 h1)] at e1
  rw [getQuantile_eq sc tun s hne r2 (le_trans h0 h12) h1] at e2
  exact (quantC_piece tun (compress_compressed sc hsc tun s hs hne)).mono hq trivial trivial h12 e1 e2

end DS.TDigest
