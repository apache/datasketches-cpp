/- The structural invariant `Inv` of the classic quantiles sketch; `update` (postcondition `UpdPost`) and a run of updates as `Spec`s;
what `sortBB`, the side effect of the queries, keeps. -/
import DSProofs.Lemmas.QuantilesSpec
namespace DS.Quantiles

open Tree

variable {α : Type}

/-- what every reachable sketch satisfies; `S`: the sortedness predicate on buffers (`SortOK`) -/
structure Inv (c : Cmp α) (S : List α → Prop) (s : Sketch α) : Prop where
  kpow : ∃ e, s.k = 2 ^ e
  bb_len : s.bb.length = s.n % (2 * s.k)
  bits_eq : s.bits = s.n / (2 * s.k)
  lv_len : s.levels.length = bitLen s.bits
  lv_shape : LevelsShape S s.k s.levels s.bits
  bb_ok : ∀ x ∈ s.bb, c.nan x = false
  bb_sorted : s.bbSorted = true → S s.bb

theorem Inv.kpos {c : Cmp α} {S : List α → Prop} {s : Sketch α} (h : Inv c S s) : 0 < s.k := by
  obtain ⟨e, he⟩ := h.kpow
  rw [he]; exact Nat.two_pow_pos e

/-- exact mode: nothing has been compacted yet -/
theorem Inv.of_bits_zero {c : Cmp α} {S : List α → Prop} {s : Sketch α} (h : Inv c S s) (hb : s.bits = 0) :
    s.bb.length = s.n ∧ s.levels = [] := by
  have hlt : s.n < 2 * s.k := (Nat.div_eq_zero_iff_lt (Nat.mul_pos Nat.two_pos h.kpos)).mp (h.bits_eq.symm.trans hb)
  exact ⟨by rw [h.bb_len, Nat.mod_eq_of_lt hlt], List.eq_nil_of_length_eq_zero (by rw [h.lv_len, hb, bitLen_zero])⟩

theorem Inv.bits_zero_of_lt {c : Cmp α} {S : List α → Prop} {s : Sketch α} (h : Inv c S s) (hex : s.n < 2 * s.k) :
    s.bits = 0 :=
  h.bits_eq.trans (Nat.div_eq_of_lt hex)

theorem new_inv (c : Cmp α) {S : List α → Prop} (hnil : S []) {k : Nat} (hk : ∃ e, k = 2 ^ e) :
    Inv c S (Sketch.new k : Sketch α) :=
  ⟨hk, rfl, (Nat.zero_div _).symm, bitLen_zero.symm, rfl, fun _ h => (nomatch h), fun _ => hnil⟩

/-- `s'` is `s1` after `process_full_base_buffer`: the base buffer has gone into the levels, the pattern is one more -/
abbrev FullPost (S : List α → Prop) (s1 s' : Sketch α) : Prop :=
  ∃ lv, s' = { s1 with levels := lv, bits := s1.bits + 1, bb := [], bbSorted := true } ∧
    lv.length = bitLen (s1.bits + 1) ∧ LevelsShape S s1.k lv (s1.bits + 1)

section
variable (c : Cmp α) (p : α → Bool) {S : List α → Prop} (hS : SortOK c.lt S)
include hS

omit hS in
theorem growLevels_full (hnil : S []) (s1 : Sketch α) (hlen : s1.levels.length = bitLen s1.bits)
    (hsh : LevelsShape S s1.k s1.levels s1.bits) (hn : s1.n / (2 * s1.k) = s1.bits + 1) :
    ∃ lv, growLevelsIfNeeded s1 = { s1 with levels := lv } ∧ lv.length = bitLen (s1.bits + 1) ∧
      LevelsShape S s1.k lv s1.bits ∧ wLevels p 2 lv = wLevels p 2 s1.levels := by
  have h1 : bitLen (s1.bits + 1) ≠ 0 := fun h => Nat.succ_ne_zero _ (bitLen_eq_zero.mp h)
  have h2 := bitLen_succ_le s1.bits
  have h3 : bitLen s1.bits ≤ bitLen (s1.bits + 1) := bitLen_mono (Nat.le_succ s1.bits)
  rw [growLevelsIfNeeded, hn, if_neg h1]
  by_cases hle : bitLen (s1.bits + 1) ≤ s1.levels.length
  · exact ⟨s1.levels, by rw [if_pos hle], by omega, hsh, rfl⟩
  · exact ⟨s1.levels ++ [[]], by rw [if_neg hle], by rw [List.length_append, List.length_singleton]; omega,
      hsh.append_nil hnil 1, wLevels_append_replicate_nil p 2 s1.levels 1⟩

theorem processFull_spec (s1 : Sketch α) (hbb : s1.bb.length = 2 * s1.k)
    (hlen : s1.levels.length = bitLen s1.bits) (hsh : LevelsShape S s1.k s1.levels s1.bits)
    (hn : s1.n / (2 * s1.k) = s1.bits + 1) :
    Spec (FullPost S s1) (2 :: rippleAr (bitLen (s1.bits + 1)) s1.bits) (wSketch p) (wSketch p s1) (processFullBaseBuffer c s1) := by
  obtain ⟨lv, hgeq, hlvlen, hlvsh, hlvw⟩ := growLevels_full p hS.nil s1 hlen hsh hn
  unfold processFullBaseBuffer propagateCarry
  simp only [hgeq, if_true]
  have hsorted : (sortBuf c.lt s1.bb).length = 2 * s1.k := by rw [sortBuf_length, hbb]
  have hroom : s1.bits + 2 ^ 0 < 2 ^ lv.length := hlvlen ▸ lt_two_pow_bitLen (s1.bits + 1)
  -- one branch of the first coin
  have hbranch : ∀ cn, cn < 2 →
      Spec (fun s2 : Sketch α => ∃ lv', s2 = { s1 with levels := lv', bits := s1.bits + 1 } ∧
          lv'.length = bitLen (s1.bits + 1) ∧ LevelsShape S s1.k lv' (s1.bits + 1))
        (rippleAr (bitLen (s1.bits + 1)) s1.bits) (fun s2 => wLevels p 2 s2.levels)
        (2 * (strided 2 cn (sortBuf c.lt s1.bb)).countP p + wLevels p 2 s1.levels)
        ((carryFrom c.lt 0 lv s1.bits (strided 2 cn (sortBuf c.lt s1.bb))).map
          (fun lv' => { s1 with levels := lv', bits := s1.bits + 2 ^ 0 })) := by
    intro cn hcn
    have h := carryFrom_spec c.lt p s1.k hS 0 lv s1.bits (strided 2 cn (sortBuf c.lt s1.bb)) 2 hlvsh
      (strided_length hsorted hcn) (hS.strided _ _ _ (hS.sort _)) hroom
    refine (Spec.map h ?_).congr (by rw [hlvlen, Nat.sub_zero, Nat.pow_zero, Nat.div_one]) (by rw [hlvw, Nat.pow_zero, Nat.one_mul])
    exact fun r hr => ⟨⟨r, rfl, hlvlen ▸ hr.2, hr.1⟩, rfl⟩
  have hch := Spec.coin p (sortBuf c.lt s1.bb) 1 (wLevels p 2 s1.levels) (by simpa only [Nat.mul_one] using hbranch)
  rw [Nat.one_mul, (sortBuf_perm c.lt s1.bb).countP_eq] at hch
  refine Spec.map hch ?_
  rintro _ ⟨lv', rfl, h1, h2⟩
  exact ⟨⟨lv', rfl, h1, h2⟩, Nat.zero_add _⟩

/-- `min_item_` after `update(x)`, the expression `Sketch.update` has inline (`newMax` likewise) -/
def newMin (lt : α → α → Bool) (s : Sketch α) (x : α) : Option α :=
  if s.n = 0 then some x else s.minItem.map (fun m => if lt x m then x else m)

def newMax (lt : α → α → Bool) (s : Sketch α) (x : α) : Option α :=
  if s.n = 0 then some x else s.maxItem.map (fun m => if lt m x then x else m)

/-- what one accepted `update(x)` makes of `s`; `shape`: `x` was appended to the base buffer, or the full buffer went into the
levels -/
structure UpdPost (c : Cmp α) (S : List α → Prop) (s : Sketch α) (x : α) (s' : Sketch α) : Prop where
  inv : Inv c S s'
  k_eq : s'.k = s.k
  n_eq : s'.n = s.n + 1
  min_eq : s'.minItem = newMin c.lt s x
  max_eq : s'.maxItem = newMax c.lt s x
  shape : (s'.bb = s.bb ++ [x] ∧ s'.bits = s.bits ∧ s'.levels = s.levels) ∨ (s'.bb = [] ∧ s'.bits = s.bits + 1)

theorem update_spec (s : Sketch α) (x : α) (hs : Inv c S s) (hx : c.nan x = false) :
    Spec (UpdPost c S s x) (updateAr s.k s.n) (wSketch p) (wSketch p s + (if p x then 1 else 0)) (s.update c x) := by
  have hk := hs.kpos
  have hK : 0 < 2 * s.k := by omega
  unfold Sketch.update
  simp only [hx, Bool.false_eq_true, if_false]
  have hlen1 : (s.bb ++ [x]).length = s.n % (2 * s.k) + 1 := by rw [List.length_append, hs.bb_len]; rfl
  have hw1 : (s.bb ++ [x]).countP p = s.bb.countP p + (if p x then 1 else 0) := by
    rw [List.countP_append, List.countP_singleton]
  rcases succ_divmod s.n hK with ⟨hfull, hd, hm⟩ | ⟨hlt, hd, hm⟩
  · -- the base buffer is full
    have hcond : (s.bb ++ [x]).length = 2 * s.k := by rw [hlen1, hfull]
    simp only [hcond, if_true]
    have hsp := processFull_spec c p hS
      { s with minItem := newMin c.lt s x, maxItem := newMax c.lt s x, bb := s.bb ++ [x], n := s.n + 1,
               bbSorted := if s.bb.length + 1 > 1 then false else s.bbSorted }
      hcond hs.lv_len hs.lv_shape (hd.trans (congrArg (· + 1) hs.bits_eq.symm))
    have har : updateAr s.k s.n = 2 :: rippleAr (bitLen (s.bits + 1)) s.bits := by
      rw [updateAr, if_pos hm, hd, ← hs.bits_eq]
    refine ((hsp.weaken ?_).congr har.symm ?_)
    · rintro _ ⟨lv, rfl, hlen, hshape⟩
      exact {
        inv := ⟨hs.kpow, hm.symm, (hd.trans (congrArg (· + 1) hs.bits_eq.symm)).symm, hlen, hshape,
          fun _ hy => absurd hy List.not_mem_nil, fun _ => hS.nil⟩
        k_eq := rfl, n_eq := rfl, min_eq := rfl, max_eq := rfl, shape := Or.inr ⟨rfl, rfl⟩ }
    · simp only [wSketch, hw1]; omega
  · -- room left in the base buffer
    have hcond : ¬ (s.bb ++ [x]).length = 2 * s.k := by rw [hlen1]; exact Nat.ne_of_lt hlt
    simp only [hcond, if_false]
    rw [updateAr, if_neg (hm ▸ Nat.succ_ne_zero _)]
    refine Spec.done ⟨⟨hs.kpow, hlen1.trans hm.symm, hs.bits_eq.trans hd.symm, hs.lv_len, hs.lv_shape,
      fun y hy => (List.mem_append.mp hy).elim (hs.bb_ok y) fun h => List.mem_singleton.mp h ▸ hx, ?_⟩,
      rfl, rfl, rfl, rfl, Or.inl ⟨rfl, rfl, rfl⟩⟩ ?_
    · simp only
      intro hflag
      by_cases hl : s.bb.length + 1 > 1
      · simp [hl] at hflag
      · have : s.bb = [] := List.eq_nil_of_length_eq_zero (by omega)
        rw [this]; exact hS.single x
    · simp only [wSketch, hw1]; omega

/-- `R`: any relation preserved by single updates; QuantilesRel puts the n / min / max / content relation here -/
theorem updateAll_spec (R : Sketch α → List α → Prop)
    (hR : ∀ s items x s', Inv c S s → R s items → c.nan x = false → UpdPost c S s x s' → R s' (items ++ [x])) :
    ∀ (xs : List α) (s : Sketch α) (items : List α), Inv c S s → R s items → (∀ x ∈ xs, c.nan x = false) →
    Spec (fun s' => Inv c S s' ∧ s'.k = s.k ∧ s'.n = s.n + xs.length ∧ R s' (items ++ xs))
      (updatesAr s.k s.n xs.length) (wSketch p) (wSketch p s + xs.countP p) (Sketch.updateAll c s xs) := by
  intro xs
  induction xs with
  | nil =>
    intro s items hs hr _
    simp only [Sketch.updateAll, List.length_nil, updatesAr, List.countP_nil, Nat.add_zero, List.append_nil]
    exact Spec.done ⟨hs, rfl, rfl, hr⟩ rfl
  | cons x t ih =>
    intro s items hs hr hok
    have hx : c.nan x = false := hok x (by simp)
    have ht : ∀ y ∈ t, c.nan y = false := fun y hy => hok y (by simp [hy])
    simp only [Sketch.updateAll, List.length_cons, updatesAr]
    have h1 := update_spec c p hS s x hs hx
    refine (Spec.bind (h1.add_const (t.countP p)) ?_).congr rfl ?_
    · intro s' hs'
      have h2 := ih s' (items ++ [x]) hs'.inv (hR s items x s' hs hr hx hs') ht
      refine (h2.weaken ?_).congr (by rw [hs'.k_eq, hs'.n_eq]) (by omega)
      intro s'' h''
      obtain ⟨c1, c2, c3, c4⟩ := h''
      refine ⟨c1, by rw [c2, hs'.k_eq], by rw [c3, hs'.n_eq]; omega, ?_⟩
      simpa using c4
    · simp only [List.countP_cons]; omega

end

theorem sortBB_inv {c : Cmp α} {S : List α → Prop} (hS : SortOK c.lt S) {s : Sketch α} (h : Inv c S s) :
    Inv c S (s.sortBB c) := by
  unfold Sketch.sortBB
  by_cases hb : s.bbSorted = true
  · simp [hb]; exact h
  · simp only [hb, Bool.false_eq_true, if_false]
    exact ⟨h.kpow, by simp only [sortBuf_length]; exact h.bb_len, h.bits_eq, h.lv_len, h.lv_shape,
      fun x hx => h.bb_ok x ((sortBuf_perm c.lt s.bb).mem_iff.mp hx), fun _ => hS.sort _⟩

theorem sortBB_fields (c : Cmp α) (s : Sketch α) :
    (s.sortBB c).k = s.k ∧ (s.sortBB c).n = s.n ∧ (s.sortBB c).bits = s.bits ∧ (s.sortBB c).levels = s.levels ∧
    (s.sortBB c).minItem = s.minItem ∧ (s.sortBB c).maxItem = s.maxItem ∧ (s.sortBB c).bb.Perm s.bb := by
  unfold Sketch.sortBB
  by_cases hb : s.bbSorted = true
  · simp [hb]
  · simp only [hb, Bool.false_eq_true, if_false, true_and]
    exact sortBuf_perm _ _

theorem sortBB_flag (c : Cmp α) (s : Sketch α) : (s.sortBB c).bbSorted = true := by
  unfold Sketch.sortBB
  by_cases h : s.bbSorted = true <;> simp [h]

theorem wSketch_sortBB (p : α → Bool) (c : Cmp α) (s : Sketch α) : wSketch p (s.sortBB c) = wSketch p s := by
  obtain ⟨_, _, _, hl, _, _, hp⟩ := sortBB_fields c s
  simp only [wSketch, hl, hp.countP_eq]

end DS.Quantiles
