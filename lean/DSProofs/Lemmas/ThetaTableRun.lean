/- L2: whole histories on the concrete table; the sizing condition `CfgOkT` under which they never fail. -/
import DSProofs.Lemmas.ThetaTableAbs
namespace DS.Theta.L2
open DS.Theta
variable {σ : Type}

def stepT (bits : Nat) (c : Cfg) (t : TSt σ) : Op σ → Option (TSt σ)
  | .upd h f => offerT bits c t h f
  | .trim => trimT bits c t
  | .reset => some (initT c)

def runT (bits : Nat) (c : Cfg) : TSt σ → List (Op σ) → Option (TSt σ)
  | t, [] => some t
  | t, op :: r => match stepT bits c t op with
    | some t' => runT bits c t' r
    | none => none

/-- sanity of the sizing parameters (for a concrete configuration: `decide` on the Boolean `cfgOkB`, then `cfgOkB_sound`):
every table size in use leaves room below its capacity, a resize strictly helps, and a rebuild fits -/
structure CfgOkT (c : Cfg) : Prop where
  start_le : c.lgStart ≤ c.lgNom + 1
  room : ∀ lg, lg ≤ c.lgNom + 1 → c.lgStart ≤ lg → capacity c lg + 1 < 2^lg
  grow : ∀ lg, lg ≤ c.lgNom → c.lgStart ≤ lg →
    capacity c lg + 1 ≤ capacity c (min (lg + c.lgRf) (c.lgNom + 1)) ∧ lg ≤ min (lg + c.lgRf) (c.lgNom + 1)
  fit : 2^c.lgNom ≤ capacity c (c.lgNom + 1)

def cfgOkB (c : Cfg) : Bool :=
  decide (c.lgStart ≤ c.lgNom + 1) &&
  (List.range' c.lgStart (c.lgNom + 2 - c.lgStart)).all (fun lg => decide (capacity c lg + 1 < 2^lg)) &&
  (List.range' c.lgStart (c.lgNom + 1 - c.lgStart)).all (fun lg =>
    decide (capacity c lg + 1 ≤ capacity c (min (lg + c.lgRf) (c.lgNom + 1))) && decide (lg ≤ min (lg + c.lgRf) (c.lgNom + 1))) &&
  decide (2^c.lgNom ≤ capacity c (c.lgNom + 1))

theorem cfgOkB_sound (c : Cfg) (h : cfgOkB c = true) : CfgOkT c := by
  unfold cfgOkB at h
  simp only [Bool.and_eq_true, decide_eq_true_eq, List.all_eq_true, List.mem_range'_1] at h
  obtain ⟨⟨⟨h1, h2⟩, h3⟩, h4⟩ := h
  exact ⟨h1, fun lg hle hge => h2 lg ⟨hge, by omega⟩, fun lg hle hge => h3 lg ⟨hge, by omega⟩, h4⟩

structure SizeOk (c : Cfg) (s : St σ) : Prop where
  lg_ge : c.lgStart ≤ s.lgCur
  lg_le : s.lgCur ≤ c.lgNom + 1
  cnt : s.ents.length ≤ capacity c s.lgCur

/-- a rebuild happens in the largest table only, which holds the k entries it leaves -/
theorem sizeOk_rebuild (c : Cfg) (ok : CfgOkT c) (s : St σ) (h1 : c.lgStart ≤ s.lgCur) (hlg : s.lgCur = c.lgNom + 1) :
    SizeOk c (rebuild c s) := by
  refine ⟨?_, ?_, ?_⟩ <;> rw [rebuild_lgCur]
  · exact h1
  · exact Nat.le_of_eq hlg
  · rw [hlg]; exact Nat.le_trans (rebuild_length_le c s) ok.fit

/-- one entry above capacity is what the capacity test repairs: by a resize below the nominal size, by a rebuild at it -/
theorem sizeOk_afterInsert (c : Cfg) (ok : CfgOkT c) (s : St σ) (h1 : c.lgStart ≤ s.lgCur) (h2 : s.lgCur ≤ c.lgNom + 1)
    (h3 : s.ents.length ≤ capacity c s.lgCur + 1) : SizeOk c (afterInsert c s) := by
  unfold afterInsert
  split
  · split
    · rename_i hle
      have g := ok.grow s.lgCur hle h1
      exact ⟨Nat.le_trans h1 g.2, Nat.min_le_right _ _, Nat.le_trans h3 g.1⟩
    · rename_i hle
      exact sizeOk_rebuild c ok s h1 (by omega)
  · exact ⟨h1, h2, by omega⟩

theorem sizeOk_step (c : Cfg) (ok : CfgOkT c) (s : St σ) (op : Op σ) (hs : (keys s.ents).Pairwise (· < ·))
    (h : SizeOk c s) : SizeOk c (step c s op) := by
  cases op with
  | upd hash f =>
    show SizeOk c (offer c s hash f)
    rw [offer_eq]
    split
    · exact ⟨h.lg_ge, h.lg_le, h.cnt⟩
    · unfold insertSt
      split
      · rename_i v hv
        refine ⟨h.lg_ge, h.lg_le, ?_⟩
        show (upsert hash f s.ents).length ≤ _
        rw [length_upsert hash f _ hs, if_pos ((lookup_some_iff hash _).1 ⟨v, hv⟩)]; exact h.cnt
      · rename_i hv
        refine sizeOk_afterInsert c ok _ h.lg_ge h.lg_le ?_
        show (upsert hash f s.ents).length ≤ _
        rw [length_upsert hash f _ hs, if_neg ((lookup_none_iff hash _).1 hv)]
        exact Nat.succ_le_succ h.cnt
  | trim =>
    show SizeOk c (trim c s)
    unfold trim
    split
    · -- more than k entries fit only the largest table
      rename_i hgt
      have hroom := ok.room s.lgCur h.lg_le h.lg_ge
      have hlg : s.lgCur = c.lgNom + 1 := by
        have : ¬ s.lgCur ≤ c.lgNom := fun hc => by
          have := Nat.pow_le_pow_right (Nat.zero_lt_two) hc
          have := h.cnt; omega
        have := h.lg_le; omega
      exact sizeOk_rebuild c ok s h.lg_ge hlg
    · exact h
  | reset => exact ⟨Nat.le_refl _, ok.start_le, Nat.zero_le _⟩

structure RunInv (bits : Nat) (c : Cfg) (t : TSt σ) : Prop where
  pinv : PInv bits t.lg t.slots
  size : SizeOk c (abs t)

theorem abs_init (c : Cfg) : abs (initT c : TSt σ) = init c := by
  simp [abs, initT, init, entries_empty, sortKV]

theorem runInv_init (bits : Nat) (c : Cfg) (ok : CfgOkT c) : RunInv bits c (initT c : TSt σ) :=
  ⟨pinv_empty bits c.lgStart, abs_init c ▸ ⟨Nat.le_refl _, ok.start_le, Nat.zero_le _⟩⟩

theorem step_refines (bits : Nat) (c : Cfg) (ok : CfgOkT c) (t : TSt σ) (op : Op σ) (h : RunInv bits c t) :
    ∃ t', stepT bits c t op = some t' ∧ abs t' = step c (abs t) op ∧ RunInv bits c t' := by
  have hsz := sizeOk_step c ok (abs t) op (absE_spec bits t.lg t.slots h.pinv).1 h.size
  have hroom : (entries t.slots).length + 1 < 2^t.lg := by
    have hcnt := h.size.cnt
    rw [abs_ents, length_absE] at hcnt
    exact Nat.lt_of_le_of_lt (Nat.succ_le_succ hcnt) (ok.room t.lg h.size.lg_le h.size.lg_ge)
  cases op with
  | upd hash f =>
    obtain ⟨t', ht', habs', hP'⟩ := offerT_refines bits c t hash f h.pinv hroom
    exact ⟨t', ht', habs', hP', habs' ▸ hsz⟩
  | trim =>
    -- more than k entries fit only a table larger than 2^lgNom
    obtain ⟨t', ht', habs', hP'⟩ := trimT_refines bits c t h.pinv fun hgt => Classical.byContradiction fun hc => by
      have := Nat.pow_le_pow_right (Nat.zero_lt_two) (Nat.le_of_not_lt hc)
      omega
    exact ⟨t', ht', habs', hP', habs' ▸ hsz⟩
  | reset =>
    exact ⟨initT c, rfl, by rw [abs_init]; rfl, runInv_init bits c ok⟩

theorem run_refines (bits : Nat) (c : Cfg) (ok : CfgOkT c) (ops : List (Op σ)) : ∀ (t : TSt σ), RunInv bits c t →
    ∃ t', runT bits c t ops = some t' ∧ abs t' = ops.foldl (step c) (abs t) ∧ RunInv bits c t' := by
  induction ops with
  | nil => intro t h; exact ⟨t, rfl, rfl, h⟩
  | cons op rest ih =>
    intro t h
    obtain ⟨t1, ht1, habs1, h1⟩ := step_refines bits c ok t op h
    obtain ⟨t2, ht2, habs2, h2⟩ := ih t1 h1
    refine ⟨t2, ?_, ?_, h2⟩
    · simp only [runT, ht1]; exact ht2
    · simp only [List.foldl_cons]; rw [← habs1]; exact habs2

end DS.Theta.L2
