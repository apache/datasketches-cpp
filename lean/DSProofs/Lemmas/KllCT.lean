/- Coin vectors and coin trees of DSModel/Kll/CoinTree.lean, with two notions of their own: `CT.Rel` (two trees of one structure,
leaves pairwise related) and `CT.Mean` (the mean over the coins, as a predicate that asks nothing of the shape of the tree).
Nothing here is specific to KLL. -/
import DSModel.Kll.CoinTree
namespace DS

theorem allVecs_length : ∀ n : Nat, (allVecs n).length = 2 ^ n
  | 0 => rfl
  | n + 1 => by
    simp only [allVecs, List.length_append, List.length_map, allVecs_length n, Nat.pow_succ]; omega

theorem mem_allVecs_length : ∀ (n : Nat) (cs : List Bool), cs ∈ allVecs n → cs.length = n
  | 0, cs, h => by rw [List.mem_singleton.mp h]; rfl
  | n + 1, cs, h => by
    simp only [allVecs, List.mem_append, List.mem_map] at h
    rcases h with ⟨t, ht, rfl⟩ | ⟨t, ht, rfl⟩ <;>
      simp only [List.length_cons, mem_allVecs_length n t ht]

theorem mem_allVecs_of_length : ∀ (n : Nat) (cs : List Bool), cs.length = n → cs ∈ allVecs n
  | 0, [], _ => List.mem_singleton.mpr rfl
  | 0, _ :: _, h => nomatch h
  | n + 1, [], h => nomatch h
  | n + 1, b :: t, h => by
    have ht := List.mem_map_of_mem (f := (b :: ·)) (mem_allVecs_of_length n t (Nat.succ.inj h))
    cases b
    · exact List.mem_append_left _ ht
    · exact List.mem_append_right _ ht

theorem allVecs_nodup : ∀ n : Nat, (allVecs n).Pairwise (fun a b => a ≠ b)
  | 0 => List.pairwise_singleton _ _
  | n + 1 => by
    have ih : ∀ c : Bool, ((allVecs n).map (c :: ·)).Pairwise (fun a b => a ≠ b) := fun c =>
      List.pairwise_map.mpr ((allVecs_nodup n).imp fun hab e => hab (List.cons.inj e).2)
    refine List.pairwise_append.mpr ⟨ih false, ih true, ?_⟩
    · intro a ha b hb e
      simp only [List.mem_map] at ha hb
      rcases ha with ⟨a', _, rfl⟩
      rcases hb with ⟨b', _, rfl⟩
      exact Bool.noConfusion (List.cons.inj e).1

end DS

namespace DS.CT

variable {σ τ : Type}

@[simp] theorem bind_ret (s : σ) (k : σ → CT τ) : bind (ret s) k = k s := rfl
@[simp] theorem bind_flip (f : Bool → CT σ) (k : σ → CT τ) : bind (flip f) k = flip (fun b => bind (f b) k) := rfl

theorem bind_assoc {ρ : Type} (t : CT σ) (k : σ → CT τ) (k' : τ → CT ρ) :
    bind (bind t k) k' = bind t (fun s => bind (k s) k') := by
  induction t with
  | ret s => rfl
  | flip f ih => simp only [bind_flip, ih]

theorem bind_ret_right (t : CT σ) : bind t ret = t := by
  induction t with
  | ret s => rfl
  | flip f ih => simp only [bind_flip, ih]

@[simp] theorem All_ret (P : σ → Prop) (s : σ) : All P (ret s) ↔ P s := Iff.rfl
@[simp] theorem All_flip (P : σ → Prop) (f : Bool → CT σ) : All P (flip f) ↔ ∀ b, All P (f b) := Iff.rfl

theorem All.imp {P Q : σ → Prop} (h : ∀ s, P s → Q s) : ∀ {t : CT σ}, All P t → All Q t
  | ret _, hp => h _ hp
  | flip _, hp => fun b => All.imp h (hp b)

theorem All.and {P Q : σ → Prop} : ∀ {t : CT σ}, All P t → All Q t → All (fun s => P s ∧ Q s) t
  | ret _, hp, hq => ⟨hp, hq⟩
  | flip _, hp, hq => fun b => All.and (hp b) (hq b)

theorem All_bind {P : σ → Prop} {Q : τ → Prop} {k : σ → CT τ} :
    ∀ {t : CT σ}, All P t → (∀ s, P s → All Q (k s)) → All Q (bind t k)
  | ret _, hp, hk => hk _ hp
  | flip _, hp, hk => fun b => All_bind (hp b) hk

theorem All_map {P : σ → Prop} {Q : τ → Prop} {g : σ → τ} {t : CT σ} (h : All P t) (hg : ∀ s, P s → Q (g s)) :
    All Q (map g t) := All_bind h (fun s hs => hg s hs)

theorem All_true : ∀ t : CT σ, All (fun _ => True) t
  | ret _ => trivial
  | flip f => fun b => All_true (f b)

theorem All_forall {ι : Type} {P : ι → σ → Prop} : ∀ {t : CT σ}, (∀ i, All (P i) t) → All (fun a => ∀ i, P i a) t
  | ret _, h => h
  | flip _, h => fun b => All_forall (fun i => h i b)

theorem All.run {P : σ → Prop} : ∀ {t : CT σ}, All P t → ∀ c : Coins, P (t.run c).1
  | ret _, hp, _ => hp
  | flip _, hp, c => All.run (hp c.next.1) c.next.2

@[simp] theorem sum_ret (g : σ → Nat) (s : σ) : sum g (ret s) = g s := rfl
@[simp] theorem sum_flip (g : σ → Nat) (f : Bool → CT σ) : sum g (flip f) = sum g (f false) + sum g (f true) := rfl
@[simp] theorem leaves_ret (s : σ) : leaves (ret s) = 1 := rfl
@[simp] theorem leaves_flip (f : Bool → CT σ) : leaves (flip f) = leaves (f false) + leaves (f true) := rfl

theorem sum_bind (g : τ → Nat) (k : σ → CT τ) : ∀ t : CT σ, sum g (bind t k) = sum (fun s => sum g (k s)) t
  | ret _ => rfl
  | flip f => by simp only [bind_flip, sum_flip, sum_bind g k (f false), sum_bind g k (f true)]

theorem sum_add (g h : σ → Nat) : ∀ t : CT σ, sum (fun s => g s + h s) t = sum g t + sum h t
  | ret _ => rfl
  | flip f => by simp only [sum_flip, sum_add g h (f false), sum_add g h (f true)]; omega

theorem sum_const (a : Nat) : ∀ t : CT σ, sum (fun _ => a) t = leaves t * a
  | ret _ => by simp
  | flip f => by simp only [sum_flip, leaves_flip, sum_const a (f false), sum_const a (f true), Nat.add_mul]

theorem leaves_bind (k : σ → CT τ) : ∀ t : CT σ, leaves (bind t k) = sum (fun s => leaves (k s)) t
  | ret _ => rfl
  | flip f => by simp only [bind_flip, leaves_flip, sum_flip, leaves_bind k (f false), leaves_bind k (f true)]

@[simp] theorem Uniform_ret_zero (s : σ) : Uniform 0 (ret s) := trivial
theorem Uniform_flip (d : Nat) (f : Bool → CT σ) : Uniform (d + 1) (flip f) ↔ ∀ b, Uniform d (f b) := Iff.rfl

theorem Uniform.leaves : ∀ {d : Nat} {t : CT σ}, Uniform d t → leaves t = 2 ^ d
  | 0, ret _, _ => rfl
  | _ + 1, ret _, h => h.elim
  | 0, flip _, h => h.elim
  | d + 1, flip f, h => by
    simp only [leaves_flip, Uniform.leaves (h false), Uniform.leaves (h true), Nat.pow_succ]; omega

theorem Uniform.depthLeft : ∀ {d : Nat} {t : CT σ}, Uniform d t → depthLeft t = d
  | 0, ret _, _ => rfl
  | _ + 1, ret _, h => h.elim
  | 0, flip _, h => h.elim
  | d + 1, flip f, h => by simp only [CT.depthLeft, Uniform.depthLeft (h false)]

theorem Uniform_bind {P : σ → Prop} {k : σ → CT τ} {e : Nat} :
    ∀ {d : Nat} {t : CT σ}, Uniform d t → All P t → (∀ s, P s → Uniform e (k s)) → Uniform (d + e) (bind t k)
  | 0, ret _, _, hp, hk => (Nat.zero_add e).symm ▸ hk _ hp
  | _ + 1, ret _, h, _, _ => h.elim
  | 0, flip _, h, _, _ => h.elim
  | d + 1, flip _, h, hp, hk => Nat.add_right_comm d e 1 ▸ fun b => Uniform_bind (h b) (hp b) hk

theorem Uniform_map {g : σ → τ} {d : Nat} {t : CT σ} (h : Uniform d t) : Uniform d (map g t) :=
  Uniform_bind (e := 0) h (All_true t) (fun _ _ => trivial)

theorem leaves_map (h : σ → τ) (t : CT σ) : leaves (map h t) = leaves t := by
  simp only [map, leaves_bind, leaves_ret, sum_const, Nat.mul_one]

theorem sum_map (g : τ → Nat) (h : σ → τ) (t : CT σ) : sum g (map h t) = sum (fun s => g (h s)) t := by
  simp only [map, sum_bind, sum_ret]

theorem Uniform.run_used : ∀ {d : Nat} {t : CT σ}, Uniform d t → ∀ c : Coins, (t.run c).2.used = c.used + d
  | 0, ret _, _, _ => rfl
  | _ + 1, ret _, h, _ => h.elim
  | 0, flip _, h, _ => h.elim
  | d + 1, flip _, h, c => (Uniform.run_used (h c.next.1) c.next.2).trans (Nat.add_right_comm c.used 1 d)

theorem run_fst_used : ∀ (t : CT σ) (v : List Bool) (u u' : Nat),
    (t.run { bits := v, used := u }).1 = (t.run { bits := v, used := u' }).1
  | ret _, _, _, _ => rfl
  | flip f, v, u, u' => run_fst_used (f (v.headD false)) v.tail (u + 1) (u' + 1)

theorem Uniform.run_append : ∀ {d : Nat} {t : CT σ}, Uniform d t → ∀ (v r : List Bool) (u : Nat), v.length = d →
    (t.run { bits := v ++ r, used := u }).2 = { bits := r, used := u + d } ∧
    (t.run { bits := v ++ r, used := u }).1 = (t.run { bits := v, used := 0 }).1
  | 0, ret _, _, [], _, _, _ => ⟨rfl, rfl⟩
  | 0, ret _, _, _ :: _, _, _, hv => nomatch hv
  | _ + 1, ret _, h, _, _, _, _ => h.elim
  | 0, flip _, h, _, _, _, _ => h.elim
  | _ + 1, flip _, _, [], _, _, hv => nomatch hv
  | d + 1, flip f, h, b :: v, r, u, hv => by
    have := Uniform.run_append (h b) v r (u + 1) (Nat.succ.inj hv)
    exact ⟨this.1.trans (by rw [Nat.add_right_comm u 1 d]; rfl), this.2.trans (run_fst_used (f b) v 0 1)⟩

theorem Uniform.sum_eq_allVecs (g : σ → Nat) : ∀ {d : Nat} {t : CT σ}, Uniform d t →
    sum g t = ((allVecs d).map (fun v => g (t.run { bits := v, used := 0 }).1)).sum
  | 0, ret _, _ => (Nat.add_zero _).symm
  | _ + 1, ret _, h => h.elim
  | 0, flip _, h => h.elim
  | d + 1, flip f, h => by
    -- a run that starts with coin `b` is a run of the subtree `f b` on the remaining coins
    have key : ∀ b : Bool, ((allVecs d).map fun v => g ((f b).run { bits := v, used := 0 }).1)
        = ((allVecs d).map (b :: ·)).map fun v => g ((flip f).run { bits := v, used := 0 }).1 := fun b => by
      rw [List.map_map]
      exact List.map_congr_left fun v _ => congrArg g (run_fst_used (f b) v 0 1)
    rw [sum_flip, Uniform.sum_eq_allVecs g (h false), Uniform.sum_eq_allVecs g (h true), key false, key true, allVecs,
      List.map_append, List.sum_append]

/-- Two leaves are related by `R`; two flips are related when EVERY subtree of the one is related to EVERY subtree of the
other (`∀ b b'`, not coin by coin).  So related trees have the same structure, each with all its leaves at one depth
(`Rel.uniform`), and every leaf of the one is `R`-related to every leaf of the other (`Rel.all`); `Rel R t t` says that
`t` is of uniform depth with pairwise `R`-related leaves. -/
def Rel (R : σ → τ → Prop) : CT σ → CT τ → Prop
  | ret a, ret b => R a b
  | flip f, flip g => ∀ b b', Rel R (f b) (g b')
  | ret _, flip _ => False
  | flip _, ret _ => False

theorem Rel.imp {R Q : σ → τ → Prop} (h : ∀ a b, R a b → Q a b) : ∀ {t : CT σ} {t' : CT τ}, Rel R t t' → Rel Q t t'
  | ret _, ret _, hr => h _ _ hr
  | flip _, flip _, hr => fun b b' => Rel.imp h (hr b b')
  | ret _, flip _, hr => hr.elim
  | flip _, ret _, hr => hr.elim

theorem Rel_bind {σ' τ' : Type} {R : σ → τ → Prop} {Q : σ' → τ' → Prop} {k : σ → CT σ'} {k' : τ → CT τ'} :
    ∀ {t : CT σ} {t' : CT τ}, Rel R t t' → (∀ a b, R a b → Rel Q (k a) (k' b)) → Rel Q (bind t k) (bind t' k')
  | ret _, ret _, hr, hk => hk _ _ hr
  | flip _, flip _, hr, hk => fun b b' => Rel_bind (hr b b') hk
  | ret _, flip _, hr, _ => hr.elim
  | flip _, ret _, hr, _ => hr.elim

theorem Rel_map {σ' τ' : Type} {R : σ → τ → Prop} {Q : σ' → τ' → Prop} {g : σ → σ'} {g' : τ → τ'} {t : CT σ} {t' : CT τ}
    (h : Rel R t t') (hg : ∀ a b, R a b → Q (g a) (g' b)) : Rel Q (map g t) (map g' t') :=
  Rel_bind h (fun a b hab => hg a b hab)

theorem Rel.leaves {R : σ → τ → Prop} : ∀ {t : CT σ} {t' : CT τ}, Rel R t t' → leaves t = leaves t'
  | ret _, ret _, _ => rfl
  | flip _, flip _, hr => by simp only [leaves_flip, Rel.leaves (hr false false), Rel.leaves (hr true true)]
  | ret _, flip _, hr => hr.elim
  | flip _, ret _, hr => hr.elim

theorem Rel.uniform {R : σ → τ → Prop} : ∀ {t : CT σ} {t' : CT τ}, Rel R t t' → Uniform (depthLeft t') t
  | ret _, ret _, _ => trivial
  | flip _, flip _, hr => fun b => Rel.uniform (hr b false)
  | ret _, flip _, hr => hr.elim
  | flip _, ret _, hr => hr.elim

theorem Rel.all {R : σ → τ → Prop} : ∀ {t : CT σ} {t' : CT τ}, Rel R t t' → All (fun a => All (fun b => R a b) t') t
  | ret _, ret _, hr => hr
  | flip _, flip _, hr => fun b => All_forall (fun b' => Rel.all (hr b b'))
  | ret _, flip _, hr => hr.elim
  | flip _, ret _, hr => hr.elim

/-- `v` is the mean of `g` over the coins of `t`, every flip fair: at a flip the means of the two subtrees add up to `2 * v` -/
def Mean (g : σ → Nat) : Nat → CT σ → Prop
  | v, ret s => g s = v
  | v, flip f => ∃ a b, a + b = 2 * v ∧ Mean g a (f false) ∧ Mean g b (f true)

/-- the law of total expectation, for a continuation whose mean is the measure of the intermediate state plus a constant -/
theorem Mean.bind {P : σ → Prop} {g : σ → Nat} {h : τ → Nat} {k : σ → CT τ} {c : Nat} :
    ∀ {t : CT σ} {v : Nat}, Mean g v t → All P t → (∀ s, P s → Mean h (g s + c) (k s)) → Mean h (v + c) (t.bind k)
  | ret _, _, hv, hp, hk => hv ▸ hk _ hp
  | flip _, _, ⟨a, b, hab, ha, hb⟩, hp, hk =>
    ⟨a + c, b + c, by rw [Nat.mul_add, ← hab, Nat.add_add_add_comm, Nat.two_mul], Mean.bind ha (hp false) hk,
      Mean.bind hb (hp true) hk⟩

theorem Mean.add {g h : σ → Nat} : ∀ {t : CT σ} {v w : Nat}, Mean g v t → Mean h w t → Mean (fun s => g s + h s) (v + w) t
  | ret _, _, _, hv, hw => hv ▸ hw ▸ rfl
  | flip _, _, _, ⟨a, b, hab, ha, hb⟩, ⟨a', b', hab', ha', hb'⟩ =>
    ⟨a + a', b + b', by rw [Nat.mul_add, ← hab, ← hab', Nat.add_add_add_comm], ha.add ha', hb.add hb'⟩

theorem Mean.const (a : Nat) : ∀ t : CT σ, Mean (fun _ => a) a t
  | ret _ => rfl
  | flip f => ⟨a, a, (Nat.two_mul a).symm, Mean.const a (f false), Mean.const a (f true)⟩

theorem Mean.map {g : τ → Nat} {h : σ → τ} : ∀ {t : CT σ} {v : Nat}, Mean (fun s => g (h s)) v t → Mean g v (t.map h)
  | ret _, _, hv => hv
  | flip _, _, ⟨a, b, hab, ha, hb⟩ => ⟨a, b, hab, ha.map, hb.map⟩

theorem Mean.sum {g : σ → Nat} : ∀ {d : Nat} {t : CT σ} {v : Nat}, Uniform d t → Mean g v t → t.sum g = 2 ^ d * v
  | 0, ret _, _, _, hv => by rw [sum_ret, hv, Nat.pow_zero, Nat.one_mul]
  | _ + 1, ret _, _, h, _ => h.elim
  | 0, flip _, _, h, _ => h.elim
  | d + 1, flip f, v, h, ⟨a, b, hab, ha, hb⟩ => by
    rw [sum_flip, Mean.sum (h false) ha, Mean.sum (h true) hb, ← Nat.mul_add, hab, Nat.pow_succ, Nat.mul_assoc]

end DS.CT
