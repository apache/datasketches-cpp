/-
C13 — Tuple sketches keep theta-sketch keys and exact per-key summaries.

ONLY property theorems and non-vacuity examples (helper lemmas: Lemmas/Tuple*.lean).  The tuple sketch IS the
generic theta table model `St σ` with a payload (tuple_sketch_impl.hpp instantiates theta_update_sketch_base
with Entry = pair<hash, Summary>); the set operations are the generic models of SetOps.lean, so the key
selection theorems of C02 (`C02_union_result_spec`, `C02_union_perm_invariant`, `C02_inter_result_spec`,
`C02_anotb_spec`) — stated there for an arbitrary payload type and policy — are the tuple statements too; the
union one is restated below (`C13_tuple_union_keys`).  Tie: `./check C13`.
-/
import DSProofs.Lemmas.Tuple
import DSProofs.Lemmas.TupleUnion
import DSProofs.Lemmas.TupleInter
import DSProofs.Props.C02
namespace DS.Theta

variable {σ τ V : Type}

/-- **Payload homomorphism.**  Any map `g` of summaries that commutes with the update functions commutes with
the whole sketch: running related histories and then mapping the payloads is the same as mapping first.
Instances: `g = fun _ => ()` (a tuple sketch vs the Theta sketch fed the same keys), `g = column j`
(array-of-doubles = independent columns). -/
theorem C13_payload_hom (c : Cfg) (g : σ → τ) (ops : List (Op σ)) (ops' : List (Op τ)) (h : OpsRel g ops ops') :
    mapSt g (run c ops) = run c ops' := by
  have := mapSt_foldl c g ops ops' (init c) h
  simpa [run, mapSt, init, mapEnts] using this

/-- **Keys.**  A tuple sketch retains exactly the keys, theta, emptiness (and table size) of the Theta sketch with
the same configuration fed the same key hashes — for every history of updates, trims and resets. -/
theorem C13_tuple_keys_eq_theta (c : Cfg) (create : σ) (update : σ → V → σ) (ops : List (TOp V)) :
    let t := run c (ops.map (TOp.toOp create update))
    let th : St Unit := run c (ops.map (TOp.toOp () (fun _ _ => ())))
    keys t.ents = keys th.ents ∧ t.theta = th.theta ∧ t.isEmpty = th.isEmpty ∧ t.lgCur = th.lgCur := by
  have hrel : OpsRel (fun _ : σ => ()) (ops.map (TOp.toOp create update)) (ops.map (TOp.toOp () (fun (_ : Unit) (_ : V) => ()))) := by
    induction ops with
    | nil => exact OpsRel.nil
    | cons op rest ih =>
      simp only [List.map_cons]
      refine OpsRel.cons ?_ ih
      cases op with
      | upd h v => exact OpRel.upd h _ _ (fun _ => rfl)
      | trim => exact OpRel.trim
      | reset => exact OpRel.reset
  have := C13_payload_hom c (fun _ : σ => ()) _ _ hrel
  intro t th
  have h1 : mapSt (fun _ : σ => ()) t = th := this
  refine ⟨?_, ?_, ?_, ?_⟩
  · have := congrArg (fun s => keys s.ents) h1; simpa [mapSt] using this
  · exact congrArg St.theta h1
  · exact congrArg St.isEmpty h1
  · exact congrArg St.lgCur h1

/-- **Summaries.**  The summary stored with every retained key is the update policy folded (from `create()`) over
every value ever offered with that key since the last reset, in arrival order. -/
theorem C13_summary_fold (c : Cfg) (create : σ) (update : σ → V → σ) (ops : List (TOp V)) (k : Nat) (v : σ)
    (h : lookup k (run c (ops.map (TOp.toOp create update))).ents = some v) :
    v = (valsOf ops k).foldl update create := by
  have := foldInv_foldl c create update ops [] (fun _ => []) (init c) (inv_init c) (fun _ _ => rfl)
    (by intro k v hv; simp [init, lookup] at hv)
  exact this k v h

/-- **filter.**  Keeps precisely the entries whose summary satisfies the predicate (in the same order), keeps theta
and the seed hash, and reports empty iff the source was not in estimation mode and nothing is left. -/
theorem C13_filter_spec (pred : σ → Bool) (a : Compact σ) :
    (filterSk pred a).ents = a.ents.filter (fun e => pred e.2) ∧
    (filterSk pred a).theta = a.theta ∧ (filterSk pred a).seedHash = a.seedHash ∧
    ((filterSk pred a).isEmpty = true ↔ (¬ (a.theta < MAX_THETA ∧ a.isEmpty = false) ∧ (filterSk pred a).ents = [])) := by
  refine ⟨rfl, rfl, rfl, ?_⟩
  simp only [filterSk, Bool.and_eq_true, List.isEmpty_iff, Bool.not_eq_eq_eq_not, Bool.not_true]
  constructor
  · rintro ⟨h1, h2⟩
    refine ⟨?_, h2⟩
    rintro ⟨h3, h4⟩
    simp [h3, h4] at h1
  · rintro ⟨h1, h2⟩
    refine ⟨?_, h2⟩
    cases he : a.isEmpty with
    | true => simp
    | false =>
      have : ¬ a.theta < MAX_THETA := fun h3 => h1 ⟨h3, he⟩
      simp [this]

/-- **Set operations select keys exactly as the Theta operations do** (the C02 theorems hold for any payload and
policy); restated here for the union. -/
theorem C13_tuple_union_keys (c : Cfg) (pol : σ → σ → σ) (sh : Nat) (sks : List (Compact σ))
    (hw : ∀ sk, sk ∈ sks → WFop sk) (u : Union σ) (hu : unionFold c pol sh (unionInit c) sks = some u) (ord : Bool)
    (hne : allEmpty sks = false) :
    ResultSpec (offered sks) (thetaStar c.theta0 sks) (2^c.lgNom)
      (unionResult c u ord sh).theta (keys (unionResult c u ord sh).ents) :=
  ((C02_union_result_spec c pol sh sks hw u hu ord).1 hne).1

/-- **Union summaries.**  The summary a union result attaches to a retained key is the union policy folded, in
presentation order, over the summaries of ALL the (non-empty) inputs that hold the key: the first one is copied,
every later one is merged in as `policy(accumulated, incoming)`. -/
theorem C13_union_summary_fold (c : Cfg) (pol : σ → σ → σ) (sh : Nat) (sks : List (Compact σ))
    (hw : ∀ sk, sk ∈ sks → WFop sk) (u : Union σ) (hu : unionFold c pol sh (unionInit c) sks = some u) (ord : Bool)
    (k : Nat) (v : σ) (h : (k, v) ∈ (unionResult c u ord sh).ents) :
    foldSums pol (sumsOffered k sks) = some v := by
  have h0 : SState c pol [] c.theta0 true (fun _ => ([] : List σ)) (unionInit c : Union σ) :=
    ⟨ustate_init c, fun _ _ => rfl, by intro k v _ hv; simp [unionInit, init, lookup] at hv⟩
  have hf := sstate_fold c pol sh sks [] c.theta0 true (fun _ => []) (unionInit c) u h0 hw hu
  have hi := hf.us.inv
  have hm := unionResult_mem_table c _ _ _ u ord sh hf.us (k, v) h
  have hl := lookup_of_mem u.tbl.ents hi.sorted k v hm.1
  have := hf.sinv k v hm.2 hl
  simpa using this

/-- **Intersection summaries.**  The summary an intersection attaches to a retained key is the policy folded, in
presentation order, over the summaries of ALL inputs (every input holds the key): the first input's summary is
copied, every later one is merged in as `policy(accumulated, incoming)`. -/
theorem C13_inter_summary_fold (pol : σ → σ → σ) (sh : Nat) (sks : List (Compact σ))
    (hw : ∀ sk, sk ∈ sks → WFop sk) (i : Inter σ) (hi : interFold pol sh interInit sks = some i)
    (k : Nat) (v : σ) (h : (k, v) ∈ i.ents) :
    foldSums pol (sumsAll k sks) = some v := by
  obtain ⟨hI, hS⟩ := isum_fold pol sh sks i hw hi
  exact hS k v (lookup_of_mem i.ents hI.sorted k v h)

/-- A-not-B keeps A's summaries untouched: every entry of the result is an entry of A. -/
theorem C13_anotb_keeps_a_summaries (sh : Nat) (a b r : Compact σ) (ord : Bool) (h : aNotB sh a b ord = some r) :
    ∀ e, e ∈ r.ents → e ∈ a.ents := by
  unfold aNotB at h
  split at h
  · simp only [Option.some.injEq] at h
    subst h
    intro e he
    simp only [compactOfCompact] at he
    split at he
    · simp at he
    · exact he
  · split at h
    · cases h
    · simp only [Option.some.injEq] at h
      subst h
      intro e he
      exact (List.mem_filter.1 he).1

/-! ### Non-vacuity: a list-append tuple sketch (k = 2) with repeated keys and a rebuild. -/
def exCfgT : Cfg := { lgNom := 1, lgRf := 0, theta0 := 100, lgStart := 2 }
def exT : List (TOp Int) :=
  [.upd 50 1, .upd 20 2, .upd 50 3, .upd 0 9, .upd 70 4, .upd 10 5, .upd 60 6, .upd 20 7, .trim]
example : (run exCfgT (exT.map (TOp.toOp ([] : List Int) (fun (s : List Int) (v : Int) => s ++ [v])))).ents = [(10, [5]), (20, [2, 7])] := by decide +kernel
example : valsOf exT 20 = [2, 7] ∧ valsOf exT 50 = [1, 3] := by decide +kernel
/-! Two inputs holding key 20 with list summaries: the union concatenates them in presentation order. -/
def exU1 : Compact (List Int) := { theta := MAX_THETA, ents := [(20, [1, 2]), (30, [3])], isEmpty := false, ordered := true, seedHash := 7 }
def exU2 : Compact (List Int) := { theta := MAX_THETA, ents := [(20, [9])], isEmpty := false, ordered := true, seedHash := 7 }
def exCfgU : Cfg := { lgNom := 2, lgRf := 0, theta0 := MAX_THETA, lgStart := 3 }
example : (unionFold exCfgU (fun (a b : List Int) => a ++ b) 7 (unionInit exCfgU) [exU1, exU2]).map
    (fun u => (unionResult exCfgU u true 7).ents) = some [(20, [1, 2, 9]), (30, [3])] := by decide +kernel
example : foldSums (fun (a b : List Int) => a ++ b) (sumsOffered 20 [exU1, exU2]) = some [1, 2, 9] := by decide +kernel
example : (interFold (fun (a b : List Int) => a ++ b) 7 interInit [exU1, exU2]).map (fun i => i.ents) = some [(20, [1, 2, 9])] := by decide +kernel

end DS.Theta
