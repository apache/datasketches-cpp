/-
Soundness of the symbolic evaluation of pack routines (`pack_sound`).
-/
import DSProofs.Lemmas.BitPackSound
namespace DS.Wire.BitPack

theorem vbit_sound (vals : List Nat) (n vi p : Nat) (hv : vals.getD vi 0 < 2 ^ n) :
    Interp (srcVals vals) (vbit n vi p) ((vals.getD vi 0).testBit p) := by
  unfold vbit
  split
  · rfl
  · rename_i h
    exact Nat.testBit_lt_two_pow (Nat.lt_of_lt_of_le hv (Nat.pow_le_pow_right (by decide) (Nat.le_of_not_lt h)))

theorem packByte_eq (v : Nat) (sh : Sh) (h : shOk sh = true) : packByte v sh = some (shNat sh v % 2 ^ 8) := by
  cases sh with
  | none => rfl
  | shl k => rw [packByte, if_pos (of_decide_eq_true h), Nat.mod_mod_of_dvd _ (by decide : 256 ∣ 2 ^ 64)]; rfl
  | shr k => rw [packByte, if_pos (of_decide_eq_true h)]; rfl

theorem pstep_sound (n : Nat) (vals : List Nat) (hv : ∀ i, vals.getD i 0 < 2 ^ n) (hlen : vals.length = 8)
    {s s' : SPState} {c : PState} (st : PStmt) (hptr : s.ptr = c.ptr) (hrel : MemRel (srcVals vals) 8 s.mem c.mem)
    (h : spstep n s st = some s') :
    ∃ c', pstep vals c st = some c' ∧ s'.ptr = c'.ptr ∧ MemRel (srcVals vals) 8 s'.mem c'.mem := by
  unfold spstep at h
  split at h
  · rename_i hcond
    obtain ⟨hp, hvi, hsh⟩ := hcond
    cases h
    rw [hptr, hrel.len] at hp
    rw [pstep, if_pos ⟨hp, hlen ▸ hvi⟩, packByte_eq _ _ hsh, hptr]
    exact ⟨_, rfl, rfl, hrel.update hp _ (packSBit_eq n st.vi st.sh ▸ wordRel_sh 8 st.sh fun p => vbit_sound vals n _ p (hv _))⟩
  · cases h

theorem prun_sound (n : Nat) (vals : List Nat) (hv : ∀ i, vals.getD i 0 < 2 ^ n) (hlen : vals.length = 8) (stmts : List PStmt)
    {s s' : SPState} {c : PState} (hptr : s.ptr = c.ptr) (hrel : MemRel (srcVals vals) 8 s.mem c.mem)
    (h : sprun n stmts s = some s') : ∃ c', prun vals stmts c = some c' ∧ MemRel (srcVals vals) 8 s'.mem c'.mem := by
  induction stmts generalizing s c with
  | nil => cases h; exact ⟨c, rfl, hrel⟩
  | cons st t ih =>
    rw [sprun] at h
    cases h1 : spstep n s st with
    | none => rw [h1] at h; cases h
    | some s1 =>
      obtain ⟨c1, hc1, hp1, hr1⟩ := pstep_sound n vals hv hlen st hptr hrel h1
      rw [h1] at h
      rw [prun, hc1]
      exact ih hp1 hr1 h

theorem pack_sound (n : Nat) (stmts : List PStmt) (init : SBit) (h : symPackInit init n stmts = some (specPackLayout n))
    (vals : List Nat) (hlen : vals.length = 8) (hv : ∀ v ∈ vals, v < 2 ^ n)
    (mem0 : List Nat) (hm : mem0.length = n) (hb : ∀ x ∈ mem0, x < 256)
    (hinit : init = .bad ∨ (init = .zero ∧ ∀ x ∈ mem0, x = 0)) :
    evalPack stmts vals mem0 = some (splitFields 8 n (joinFields n vals)) := by
  obtain ⟨s', hs, hs'⟩ := Option.map_eq_some_iff.1 h
  obtain ⟨c', hc', hrel⟩ := prun_sound n vals (getD_lt_of_mem (Nat.two_pow_pos n) hv) hlen stmts (c := ⟨0, mem0⟩) rfl
    (memRel_init _ 8 hm hb hinit) hs
  rw [hs', specPackLayout_eq_regroup] at hrel
  rw [evalPack, hc']
  exact congrArg some (regroup_of_memRel (Nat.mul_comm n 8) (Nat.le_refl 8) vals hlen hv _ hrel)

end DS.Wire.BitPack
