/- C06: the HLL bounds over an ordered field: the relative error as a total function `relErrVal` beside the model's `hllRelErr`, its
   sign and monotonicity in the number of standard deviations, and the shape of the HLL-mode and coupon-mode bound functions. -/
import DSProofs.Lemmas.BoundsTablesFacts
namespace DS.Bounds
set_option linter.unusedSectionVars false
open DS.Bounds.Gen

variable {K : Type} [Field K] [LinearOrder K] [IsStrictOrderedRing K] (F : MathFns K)

theorem sqrt_pow2 (hF : F.OK) (lgK : Nat) :
    0 < F.sqrt ((2 ^ lgK : Nat) : K) ∧ F.sqrt ((2 ^ lgK : Nat) : K) * F.sqrt ((2 ^ lgK : Nat) : K) = ((2 ^ lgK : Nat) : K) := by
  have hk : (0 : K) < ((2 ^ lgK : Nat) : K) := Nat.cast_pos.2 (Nat.two_pow_pos lgK)
  have hs := hF.sqrt_sq _ hk.le
  exact ⟨(hF.sqrt_nonneg _).lt_of_ne fun h => by rw [← h, mul_zero] at hs; exact hk.ne hs, hs⟩

theorem div_q_facts (q y y' : K) (hq : 0 < q) (hy : 0 ≤ y) (hyy : y ≤ y') (hsq : y' * y' < q * q) :
    0 ≤ y / q ∧ y / q < 1 :=
  ⟨div_nonneg hy hq.le, (div_lt_one hq).2 (hyy.trans_lt (lt_of_mul_self_lt_mul_self₀ hq.le hsq))⟩

theorem ratio_facts (hF : F.OK) (lgK m : Nat) (hm : m ≤ lgK) (c : K) (hc : 0 < c) (h3 : (3 * c) * (3 * c) < ((2 ^ m : Nat) : K))
    (sd : Nat) (hsd : sd ≤ 3) :
    0 ≤ (sd : K) * c / F.sqrt ((2 ^ lgK : Nat) : K) ∧ (sd : K) * c / F.sqrt ((2 ^ lgK : Nat) : K) < 1 ∧
    (sd : K) * c / F.sqrt ((2 ^ lgK : Nat) : K) ≤ ((sd + 1 : Nat) : K) * c / F.sqrt ((2 ^ lgK : Nat) : K) := by
  obtain ⟨hq, hqq⟩ := sqrt_pow2 F hF lgK
  have hmk : ((2 ^ m : Nat) : K) ≤ ((2 ^ lgK : Nat) : K) := Nat.cast_le.2 (Nat.pow_le_pow_right Nat.two_pos hm)
  obtain ⟨g0, g1⟩ := div_q_facts _ ((sd : K) * c) (3 * c) hq (mul_nonneg sd.cast_nonneg hc.le)
    (mul_le_mul_of_nonneg_right (Nat.cast_le.2 hsd) hc.le) ((h3.trans_le hmk).trans_eq hqq.symm)
  exact ⟨g0, g1, div_le_div_of_nonneg_right (mul_le_mul_of_nonneg_right (Nat.cast_le.2 sd.le_succ) hc.le) hq.le⟩

/-- the RSE factor `getRelErr` uses above lgK 12 -/
theorem rse_pick (ooo : Bool) : (0 : K) < litK (if ooo then hllT.nonHipRse else hllT.hipRse) ∧
    (3 * litK (if ooo then hllT.nonHipRse else hllT.hipRse)) * (3 * litK (if ooo then hllT.nonHipRse else hllT.hipRse))
      < (((2 ^ 13 : Nat)) : K) := by
  have h := Gen.rse_factors
  simp only [Bool.and_eq_true, decide_eq_true_eq] at h
  obtain ⟨⟨⟨⟨⟨⟨p1, p2⟩, p3⟩, _⟩, _⟩, _⟩, _⟩ := h
  have a1 : (0 : K) < litK hllT.hipRse := litK_pos_of_qpos p1
  have a2 : (litK hllT.hipRse : K) < litK hllT.nonHipRse := litK_lt_of_qlt p2
  have a3 : (3 * litK hllT.nonHipRse) * (3 * litK hllT.nonHipRse) < (((2 ^ 13 : Nat)) : K) :=
    three_litK_sq_lt (Bool.and_eq_true _ _ ▸ (Bool.and_eq_true _ _ ▸ p2).1).2 p3
  cases ooo
  · exact ⟨a1, (mul_self_le_mul_self (mul_nonneg zero_le_three a1.le) (mul_le_mul_of_nonneg_left a2.le zero_le_three)).trans_lt a3⟩
  · exact ⟨a1.trans a2, a3⟩

theorem couponRse_facts (sd : Nat) (h3 : sd ≤ 3) :
    (0 : K) ≤ sd * litK hllT.couponRse ∧ (sd : K) * litK hllT.couponRse < 1 ∧
    (sd : K) * litK hllT.couponRse ≤ ((sd + 1 : Nat) : K) * litK hllT.couponRse := by
  have h := Gen.rse_factors
  simp only [Bool.and_eq_true, decide_eq_true_eq] at h
  obtain ⟨⟨⟨⟨_, p4⟩, p5⟩, _⟩, _⟩ := h
  have c0 : (0 : K) < litK hllT.couponRse := litK_pos_of_qpos p4
  have c3 : 3 * (litK DSGen.Bounds.couponRse : K) < 1 := by
    have p5' : 3 * (DSGen.Bounds.couponRse.2.1 : K) < ((DSGen.Bounds.couponRse.2.2 : Nat) : K) := by exact_mod_cast p5
    rw [litK, ← mul_div_assoc, div_lt_one (denPos_cast (qpos_denPos p4))]
    exact p5'
  exact ⟨mul_nonneg sd.cast_nonneg c0.le, (mul_le_mul_of_nonneg_right (Nat.cast_le.2 h3) c0.le).trans_lt c3,
    mul_le_mul_of_nonneg_right (Nat.cast_le.2 sd.le_succ) c0.le⟩

theorem hllT_range : hllT.minLgK = 4 ∧ hllT.maxLgK = DSGen.Bounds.hllMaxLgK := ⟨rfl, rfl⟩

/-- RelativeErrorTables: which table `getRelErr` reads for lgK ≤ 12.  `ooo` is the sketch's out-of-order flag (`HllReg.ooo`): set, the
    estimator is the composite one and the non-HIP tables / RSE apply; clear, it is HIP. -/
def relErrTbl (upper ooo : Bool) : List Lit :=
  match ooo, upper with
  | false, false => hllT.relErrHipLb
  | false, true => hllT.relErrHipUb
  | true, false => hllT.relErrNonHipLb
  | true, true => hllT.relErrNonHipUb

/-- the relative error `getRelErr` returns for lgK in range: ±κ·rse/√k for lgK > 12, else entry κ−1 of row lgK−4 of `relErrTbl` -/
def relErrVal (upper ooo : Bool) (lgK sd : Nat) : K :=
  if lgK > 12 then
    (if upper then -1 else 1) * ((sd : K) * litK (if ooo then hllT.nonHipRse else hllT.hipRse)) / F.sqrt ((2 ^ lgK : Nat) : K)
  else litK ((relErrTbl upper ooo).getD (3 * (lgK - 4) + (sd - 1)) (0, 0, 1))

/-- `4` and `21` are `hllT.minLgK` and `hllT.maxLgK` as generated from the current header (closed by `rfl`; `hllT_range` names them) -/
theorem hllRelErr_eq (upper ooo : Bool) (lgK sd : Nat) :
    @hllRelErr K (fieldNum F) hllT upper ooo lgK sd = if lgK < 4 ∨ lgK > 21 then none else some (relErrVal F upper ooo lgK sd) := by
  unfold hllRelErr relErrVal relErrTbl
  simp only [nat_eq, lit_eq, tget_eq, sqrt_eq, Nat.cast_one, Nat.mul_comm (lgK - 4) 3, apply_ite (some : K → Option K)]
  rfl

theorem relErrTbl_rows (ooo : Bool) (r : Nat) (hr : r < 9) :
    rowLbOk (relErrTbl false ooo) r = true ∧ rowUbOk (relErrTbl true ooo) r = true := by
  have h := Gen.relErr_signed_monotone.2 r hr
  simp only [Bool.and_eq_true] at h
  obtain ⟨⟨⟨q1, q2⟩, q3⟩, q4⟩ := h
  cases ooo
  · exact ⟨q1, q3⟩
  · exact ⟨q2, q4⟩

theorem relErr_facts (hF : F.OK) (ooo : Bool) (lgK sd : Nat) (h3 : sd ≤ 3) :
    (0 ≤ relErrVal F false ooo lgK sd ∧ -1 < relErrVal F true ooo lgK sd ∧ relErrVal F true ooo lgK sd ≤ 0) ∧
    (1 ≤ sd → sd < 3 → relErrVal F false ooo lgK sd ≤ relErrVal F false ooo lgK (sd + 1) ∧
      relErrVal F true ooo lgK (sd + 1) ≤ relErrVal F true ooo lgK sd) := by
  unfold relErrVal
  by_cases hb : lgK > 12 <;> simp only [hb, if_true, if_false, Bool.false_eq_true, one_mul, neg_one_mul, neg_div]
  · obtain ⟨hc, hc3⟩ := rse_pick (K := K) ooo
    obtain ⟨g1, g2, g3⟩ := ratio_facts F hF lgK 13 (by omega) _ hc hc3 sd h3
    exact ⟨⟨g1, neg_lt_neg g2, neg_nonpos.2 g1⟩, fun _ _ => ⟨g3, neg_le_neg g3⟩⟩
  · obtain ⟨rl, ru⟩ := relErrTbl_rows ooo (lgK - 4) (by omega)
    obtain ⟨p, q⟩ := rowPosInc_facts (K := K) rl (sd - 1) (by omega)
    obtain ⟨u0, u, v⟩ := rowNegDec_facts (K := K) ru (sd - 1) (by omega)
    refine ⟨⟨p.le, u0, u.le⟩, fun h1 hsd => ?_⟩
    rw [show sd + 1 - 1 = sd - 1 + 1 by omega]
    exact ⟨(q (by omega)).le, (v (by omega)).le⟩

theorem sdOk_iff (sd : Nat) : sdOk sd = true ↔ 1 ≤ sd ∧ sd ≤ 3 := by
  unfold sdOk; simp

theorem max_div_anti {x c d d' : K} (hc : 0 ≤ c) (hd : 0 < d) (hdd : d ≤ d') : max (x / d') c ≤ max (x / d) c := by
  rcases le_or_gt 0 x with hx | hx
  · exact max_le_max (div_le_div_of_nonneg_left hx hd hdd) le_rfl
  · exact max_le ((div_neg_of_neg_of_pos hx (hd.trans_le hdd)).le.trans (hc.trans (le_max_right _ _))) (le_max_right _ _)

theorem lbClamp_le {e c eps : K} (h0 : 0 ≤ e) (hc : c ≤ e) (he : 0 ≤ eps) : max (e / (1 + eps)) c ≤ e :=
  max_le (div_le_self h0 (le_add_of_nonneg_right he)) hc

theorem lbClamp_anti {x c eps eps' : K} (hc : 0 ≤ c) (he : 0 ≤ eps) (hee : eps ≤ eps') :
    max (x / (1 + eps')) c ≤ max (x / (1 + eps)) c :=
  max_div_anti hc (add_pos_of_pos_of_nonneg one_pos he) (add_le_add_right hee 1)

theorem hll_shape (s : HllReg K) (sd : Nat) (e lb ub : K) (he : @hllEstimate K (fieldNum F) hllT s = some e)
    (hl : @hllLowerBound K (fieldNum F) hllT s sd = some lb) (hu : @hllUpperBound K (fieldNum F) hllT s sd = some ub) :
    (1 ≤ sd ∧ sd ≤ 3) ∧ lb = max (e / (1 + relErrVal F false s.ooo s.lgK sd)) (numNonZeros s : Nat) ∧
      ub = e / (1 + relErrVal F true s.ooo s.lgK sd) := by
  unfold hllLowerBound at hl
  unfold hllUpperBound at hu
  by_cases hs : sdOk sd = true
  · refine ⟨(sdOk_iff sd).mp hs, ?_⟩
    by_cases hr : s.lgK < 4 ∨ s.lgK > 21
    · simp [hs, hllRelErr_eq, hr] at hl
    · simp only [hs, Bool.not_true, Bool.false_eq_true, if_false, he, hllRelErr_eq, hr, Option.some.injEq, lit_eq, litK_c1, nat_eq,
        fmax_eq] at hl hu
      exact ⟨hl.symm, hu.symm⟩
  · simp [hs] at hl

theorem coupon_shape (T : HllTables) (count sd : Nat) (lb ub : K)
    (hl : @couponLowerBound K (fieldNum F) T count sd = some lb) (hu : @couponUpperBound K (fieldNum F) T count sd = some ub) :
    (1 ≤ sd ∧ sd ≤ 3) ∧ ∃ x : K, @usingXAndYTables K (fieldNum F) T.cubicX T.cubicY (count : K) = some x ∧
      lb = max (x / (1 + sd * litK T.couponRse)) count ∧ ub = max (x / (1 - sd * litK T.couponRse)) count := by
  unfold couponLowerBound at hl
  unfold couponUpperBound at hu
  by_cases hs : sdOk sd = true
  · refine ⟨(sdOk_iff sd).mp hs, ?_⟩
    simp only [hs, Bool.not_true, Bool.false_eq_true, if_false, Option.map_eq_some_iff, nat_eq, lit_eq, litK_c1, fmax_eq] at hl hu
    obtain ⟨x, hx, rfl⟩ := hl
    obtain ⟨x2, hx2, rfl⟩ := hu
    obtain rfl := Option.some.inj (hx.symm.trans hx2)
    exact ⟨x, hx, rfl, rfl⟩
  · simp [hs] at hl

end DS.Bounds
