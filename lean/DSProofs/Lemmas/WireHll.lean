/-
Helper lemmas for the HLL wire model: u32 arrays and the header, each run on encoder output (forward) and as an `Exact` term
(prefix safety and the converse: the reader accepts only what the writer writes).
-/
import DSModel.Wire.Hll
import DSProofs.Lemmas.Wire
import DSProofs.Lemmas.ListAux

namespace DS.Wire
open Reader

variable {α β : Type}

namespace Hll

theorem length_wU32s : ∀ l : List Nat, (wU32s l).length = 4 * l.length
  | [] => rfl
  | x :: t => by rw [wU32s, List.length_append, length_w32, length_wU32s t, List.length_cons, Nat.mul_succ, Nat.add_comm]

theorem repeatN_u32_wU32s : ∀ (l : List Nat) (n : Nat) (r : Bytes), l.length = n → (∀ x ∈ l, x < 2 ^ 32) →
    repeatN u32 n (wU32s l ++ r) = some (l, r)
  | l, _, r, rfl, hx => repeatN_enc u32_w32 rfl (fun _ _ => rfl) l r hx

theorem u32s_exact (n : Nat) : Exact [] (repeatN u32 n) wU32s :=
  Exact_repeatN wU32s rfl (fun _ _ => rfl) (Exact_leNat 4) n

theorem Consts.ok_spec {c : Consts} (hc : c.ok = true) :
    c.serVer < 256 ∧ c.familyId < 256 ∧ c.listPreInts < 256 ∧ c.setPreInts < 256 ∧ c.hllPreInts < 256 ∧
    c.hllPreInts ≠ c.setPreInts ∧ c.hllPreInts ≠ c.listPreInts ∧ c.setPreInts ≠ c.listPreInts := by
  simpa only [Consts.ok, Bool.and_eq_true, decide_eq_true_eq, bne_iff_ne, ne_eq, and_assoc] using hc

theorem hdr_enc (c : Consts) (hc : c.ok = true) (pre : Nat) (hpre : pre < 256) (h : Hdr) (hr : h.inRange)
    (f : Nat → Hdr → Reader β) (tail : Bytes) :
    (Reader.bind u8 fun p => Reader.bind (decodeHdrRest c) (f p)) (encodeHdr c pre h ++ tail) = f pre h tail := by
  obtain ⟨h1, h2, h3, h4, h5⟩ := hr
  obtain ⟨c1, c2, _⟩ := Consts.ok_spec hc
  have hd : decodeHdrRest c (w8 c.serVer ++ (w8 c.familyId ++ (w8 h.lgK ++ (w8 h.lgArr ++ (w8 h.flags ++ (w8 h.b6 ++
      (w8 h.mode ++ tail))))))) = some (h, tail) := by
    rw [decodeHdrRest, bind_u8 _ c1, bind_guard _ (beq_self_eq_true _), bind_u8 _ c2, bind_guard _ (beq_self_eq_true _),
      bind_u8 _ h1, bind_u8 _ h2, bind_u8 _ h3, bind_u8 _ h4, bind_u8 _ h5]
    rfl
  simp only [encodeHdr, List.append_assoc]
  rw [bind_u8 _ hpre, bind_ok hd]

theorem length_encodeHdr (c : Consts) (pre : Nat) (h : Hdr) : (encodeHdr c pre h).length = 8 := rfl

theorem hdrRest_exact (c : Consts) (pre : Nat) : Exact (w8 pre) (decodeHdrRest c) (encodeHdr c pre) :=
  Exact_field (Exact_leNat 1) fun sv => Post_guard fun g1 => Exact_field (Exact_leNat 1) fun fam => Post_guard fun g2 =>
  Exact_field (Exact_leNat 1) fun _ => Exact_field (Exact_leNat 1) fun _ => Exact_field (Exact_leNat 1) fun _ =>
  Exact_field (Exact_leNat 1) fun _ => Exact_field (Exact_leNat 1) fun _ => Exact_pure (by
    rw [eq_of_beq g1, eq_of_beq g2]
    simp only [encodeHdr, List.append_assoc]
    rfl)

end Hll
end DS.Wire
