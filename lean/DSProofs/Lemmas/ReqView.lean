/- REQ's sorted view: the raw view is the ascending arrangement of exactly the pairs the iterator yields (`allPairs`), so the shared
sorted-view lemmas apply. -/
import DSProofs.Lemmas.ReqIter
import DSProofs.Lemmas.ReqStore
import DSProofs.Lemmas.SortedView
namespace DS.Req

variable {ρ : Type}
open DS.SortedView
-- `Sorted` below is `DS.Req.Sorted` (an ascending `List Int`); the view's notions are `SortedE` and `SortedView.Sorted ltInt`, and
-- `sorted_iff` takes one to the other

def wBelow (q : Int → Bool) : List (Int × Nat) → Nat
  | [] => 0
  | (y, w) :: t => (if q y then w else 0) + wBelow q t

theorem wBelow_append (q : Int → Bool) (a b : List (Int × Nat)) : wBelow q (a ++ b) = wBelow q a + wBelow q b := by
  induction a with
  | nil => simp [wBelow]
  | cons x t ih => obtain ⟨y, w⟩ := x; simp only [List.cons_append, wBelow, ih]; omega

theorem isBelow_ltInt (x : Int) (inc : Bool) :
    isBelow ltInt x inc = fun z => if inc then decide (z ≤ x) else decide (z < x) := by
  funext z
  cases inc
  · rfl
  · simp only [isBelow, ltInt, if_true, ← decide_not, Int.not_lt]

theorem viewFold_perm (cs : List (Compactor ρ)) : ∀ v : List (Int × Nat),
    (cs.foldl (fun v c => SortedView.add ltInt v c.items (2 ^ c.lgWeight)) v).Perm (v ++ allPairs cs) := by
  induction cs with
  | nil => intro v; simp
  | cons c t ih =>
    intro v
    rw [List.foldl_cons, allPairs_cons, ← List.append_assoc]
    exact (ih _).trans ((add_perm ltInt v c.items _).append_right _)

theorem viewFold_sorted (cs : List (Compactor ρ)) : ∀ v : List (Int × Nat), SortedE ltInt v → (∀ c ∈ cs, Sorted c.items) →
    SortedE ltInt (cs.foldl (fun v c => SortedView.add ltInt v c.items (2 ^ c.lgWeight)) v) := by
  induction cs with
  | nil => intro v hv _; exact hv
  | cons c t ih =>
    intro v hv hs
    exact ih _ (add_sorted ltInt_sw _ hv (sorted_iff.mpr (hs c List.mem_cons_self)))
      (fun c' hc' => hs c' (List.mem_cons_of_mem _ hc'))

theorem viewRaw_spec (cs : List (Compactor ρ)) (hs : ∀ c ∈ cs, Sorted c.items) :
    SortedE ltInt (viewRaw cs) ∧ (viewRaw cs).Perm (allPairs cs) :=
  ⟨viewFold_sorted cs [] List.Pairwise.nil hs, viewFold_perm cs []⟩

theorem wP_allPairs (p : Int → Bool) (cs : List (Compactor ρ)) : wP p (allPairs cs) = weightP p cs := by
  induction cs with
  | nil => rfl
  | cons c t ih => rw [allPairs_cons, wP_append, ih, weightP_cons, pairsOf, wP_map_const, Nat.mul_comm]; rfl

theorem allSorted_of_CsInv {T : Tun} {hra : Bool} {h : Nat} {cs : List (Compactor ρ)} (h1 : 1 ≤ h) (hinv : CsInv T hra h cs) :
    ∀ c ∈ cs, Sorted c.items := by
  intro c hc
  obtain ⟨i, hi, e⟩ := List.getElem_of_mem hc
  exact (CsInv_get hinv (List.getElem?_eq_getElem hi ▸ congrArg some e)).srt (Or.inl (by omega))

theorem direct_rankNum {T : Tun} {hra : Bool} (x : Int) (inc : Bool) : ∀ (h : Nat) (cs : List (Compactor ρ)), CsInv T hra h cs →
    (cs.map (fun c => c.computeWeight x inc)).sum = weightP (fun z => if inc then decide (z ≤ x) else decide (z < x)) cs := by
  intro h cs
  induction cs generalizing h with
  | nil => intro _; rfl
  | cons c t ih =>
    intro hinv
    simp only [List.map_cons, List.sum_cons, weightP_cons]
    rw [ih (h + 1) hinv.2]
    simp only [Compactor.computeWeight]
    rw [boundPos_eq_cnt _ _ _ (sort_sorted hinv.1), sort_cntP]

theorem afterView_sorted {T : Tun} {s : Sketch ρ} (h : SInv T s) : ∀ c ∈ s.afterView.compactors, Sorted c.items := by
  show ∀ c ∈ sortLevel0 s.compactors, Sorted c.items
  have hinv := h.cs
  generalize s.compactors = cs at hinv
  cases cs with
  | nil => exact fun _ hc => nomatch hc
  | cons c0 t => exact List.forall_mem_cons.2 ⟨sort_sorted hinv.1, allSorted_of_CsInv (Nat.le_refl 1) hinv.2⟩

theorem rank_agree {T : Tun} (s : Sketch ρ) (h : SInv T s) (x : Int) (inc : Bool) :
    s.rankNum x inc = s.weightBelow x inc ∧
    SortedView.rankNum ltInt s.sortedView x inc = s.weightBelow x inc ∧
    s.sortedView.total = s.n := by
  obtain ⟨hs, hp⟩ := viewRaw_spec _ (afterView_sorted h)
  have hw := (sortLevel0_spec h.cs).wp
  refine ⟨direct_rankNum x inc 0 s.compactors h.cs, ?_, ?_⟩
  · rw [Sketch.sortedView, rankNum_eq ltInt_sw _ hs, wP_perm _ hp, wP_allPairs, isBelow_ltInt]; exact hw _
  · show SortedView.total (viewRaw s.afterView.compactors) = s.n
    rw [total_eq_sumW, sumW_eq_wP, wP_perm _ hp, wP_allPairs, h.tw]; exact hw _

theorem sorted_unique (a b : List Int) (ha : Sorted a) (hb : Sorted b) (h : ∀ p, cntP p a = cntP p b) : a = b :=
  (List.perm_iff_count.2 fun x => by
    have := h (· == x)
    rwa [cntP, cntP, ← List.countP_eq_length_filter, ← List.countP_eq_length_filter] at this).eq_of_pairwise
    (fun _ _ _ _ => Int.le_antisymm) ha hb

theorem exact_view {T : Tun} (s : Sketch ρ) (h : SInv T s) (h1 : s.compactors.length = 1) :
    viewRaw s.afterView.compactors = (sortInts (entered0 s)).map (fun x => (x, 1)) := by
  obtain ⟨c, hc⟩ := List.length_eq_one_iff.1 h1
  have hinv := h.cs; rw [hc] at hinv
  have hex := h.ex c hc
  have hlg : c.lgWeight = 0 := hinv.1.lg
  have : s.afterView.compactors = [c.sort] := by simp [Sketch.afterView, hc, sortLevel0]
  rw [this]
  simp only [viewRaw, List.foldl_cons, List.foldl_nil, SortedView.add, List.isEmpty_nil, if_true, sort_lgWeight, hlg, Nat.pow_zero]
  congr 1
  apply sorted_unique _ _ (sort_sorted hinv.1) (sorted_sortInts _)
  intro p
  rw [sort_cntP, cntP_sortInts, hex p]
  simp [entered0, entered0L, hc]

end DS.Req
