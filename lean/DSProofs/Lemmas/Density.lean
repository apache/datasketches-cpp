/- C20 (density sketch): the compaction loop ends because a measure of the level vector (`mu`) drops at every turn; what its
turns keep is one relation `Compacted`.  "Pinned shape" / "repaired shape" of `compact()` are `Cfg.popsEmptyTop` = false / true
(DSModel/Density/Sketch.lean). -/
import DSModel.Density.Sketch
namespace DS.Density

variable {α ρ β : Type}

theorem keepMask_length_le (m : List Bool) (l : List β) : (keepMask m l).length ≤ l.length := by
  fun_induction keepMask m l with
  | case1 m p l ih => exact Nat.succ_le_succ ih
  | case2 m p l ih => exact Nat.le_succ_of_le ih
  | case3 => exact Nat.zero_le _

theorem swapAt_length (l : List β) (i j : Nat) : (swapAt l i j).length = l.length := by
  unfold swapAt
  split <;> simp

theorem fyLoop_length (i : Nat) (ds : List Nat) (l : List β) : (fyLoop i ds l).length = l.length := by
  fun_induction fyLoop i ds l with
  | case1 i d ds l ih => rw [ih, swapAt_length]
  | case2 => rfl

theorem fyLoop_nil {β : Type} (n : Nat) (l : List β) : fyLoop n [] l = l := by
  unfold fyLoop; split <;> simp_all

theorem pickKept_length_le (c : Choice) (lvl : Level α) : (pickKept c lvl).length ≤ lvl.length := by
  have := keepMask_length_le c.2 (fyLoop lvl.length c.1 lvl)
  rwa [fyLoop_length] at this

@[simp] theorem sumLen_cons (l : Level α) (r : List (Level α)) : sumLen (l :: r) = l.length + sumLen r := rfl

theorem iterFrom_length (h : Nat) (ls : List (Level α)) : (iterFrom h ls).length = sumLen ls := by
  induction ls generalizing h with
  | nil => rfl
  | cons l r ih => simp [iterFrom, sumLen, ih]

theorem iterFrom_mem (h : Nat) (ls : List (Level α)) (x : Point α × Nat) :
    x ∈ iterFrom h ls ↔ ∃ i lvl, ls[i]? = some lvl ∧ x.1 ∈ lvl ∧ x.2 = 2 ^ (h + i) := by
  induction ls generalizing h with
  | nil => simp [iterFrom]
  | cons l r ih =>
    simp only [iterFrom, List.mem_append, List.mem_map, ih]
    constructor
    · rintro (⟨p, hp, rfl⟩ | ⟨i, lvl, hi, hm, hw⟩)
      · exact ⟨0, l, rfl, hp, rfl⟩
      · exact ⟨i + 1, lvl, hi, hm, by rw [hw, Nat.add_assoc, Nat.add_comm 1]⟩
    · rintro ⟨i | i, lvl, hi, hm, hw⟩
      · cases hi; exact .inl ⟨x.1, hm, Prod.ext rfl hw.symm⟩
      · exact .inr ⟨i, lvl, hi, hm, by rw [hw, Nat.add_assoc, Nat.add_comm 1]⟩

theorem compactLevels_full {k : Nat} (c : Choice) {l : Level α} (rest : List (Level α)) (hk : k ≤ l.length) :
    compactLevels k c (l :: rest) = [] :: (rest.headD [] ++ pickKept c l) :: rest.tail := by
  cases rest <;> simp [compactLevels, hk]

theorem compactLevels_skip {k : Nat} (c : Choice) {l : Level α} (rest : List (Level α)) (hk : ¬ k ≤ l.length) :
    compactLevels k c (l :: rest) = l :: compactLevels k c rest := by
  rw [compactLevels.eq_def]; simp only [hk, if_false]

theorem firstFull_some_le {k : Nat} {ls : List (Level α)} {lvl : Level α} (h : firstFull k ls = some lvl) :
    k ≤ lvl.length := by
  fun_induction firstFull k ls with
  | case1 => cases h
  | case2 l rest hk => cases h; exact hk
  | case3 l rest hk ih => exact ih h

theorem firstFull_ne_none {k : Nat} {ls : List (Level α)} (hne : ls ≠ [])
    (h : k * ls.length ≤ sumLen ls) : firstFull k ls ≠ none := by
  fun_induction firstFull k ls with
  | case1 => exact absurd rfl hne
  | case2 l rest hk => exact Option.some_ne_none _
  | case3 l rest hk ih =>
    rw [List.length_cons, Nat.mul_succ, sumLen_cons] at h
    refine ih (fun h0 => ?_) (by omega)
    subst h0
    simp only [sumLen, List.length_nil] at h
    omega

theorem sumLen_compactLevels {k : Nat} (c : Choice) {ls : List (Level α)} {lvl : Level α}
    (h : firstFull k ls = some lvl) :
    sumLen (compactLevels k c ls) + (lvl.length - (pickKept c lvl).length) = sumLen ls := by
  fun_induction firstFull k ls with
  | case1 => cases h
  | case2 l rest hk =>
    cases h
    have := pickKept_length_le c lvl
    have : (rest.headD []).length + sumLen rest.tail = sumLen rest := by cases rest <;> rfl
    rw [compactLevels_full c rest hk]
    simp only [sumLen_cons, List.length_append, List.length_nil]
    omega
  | case3 l rest hk ih =>
    rw [compactLevels_skip c rest hk, sumLen_cons, sumLen_cons, ← ih h]
    omega

theorem compactLevels_length_ge (k : Nat) (c : Choice) (ls : List (Level α)) :
    ls.length ≤ (compactLevels k c ls).length := by
  fun_induction compactLevels k c ls <;> simp_all

theorem compactLevels_length_le (k : Nat) (c : Choice) (ls : List (Level α)) :
    (compactLevels k c ls).length ≤ ls.length + 1 := by
  fun_induction compactLevels k c ls <;> simp_all

theorem compactLevels_length_two {k : Nat} (c : Choice) {ls : List (Level α)} {lvl : Level α}
    (h : firstFull k ls = some lvl) : 2 ≤ (compactLevels k c ls).length := by
  fun_induction firstFull k ls with
  | case1 => cases h
  | case2 l rest hk => rw [compactLevels_full c rest hk]; exact Nat.le_add_left ..
  | case3 l rest hk ih => rw [compactLevels_skip c rest hk]; exact Nat.le_succ_of_le (ih h)

theorem compactLevels_ne (k : Nat) (c : Choice) {ls : List (Level α)} (h : ls ≠ []) : compactLevels k c ls ≠ [] := by
  fun_cases compactLevels k c ls <;> simp_all

/-! ### the termination measure  μ_B = Σ_h |level_h| · (B − h) -/

def mu : Nat → List (Level α) → Nat
  | _, [] => 0
  | b, l :: r => l.length * b + mu (b - 1) r

theorem mu_le (b : Nat) (ls : List (Level α)) : mu b ls ≤ sumLen ls * b := by
  induction ls generalizing b with
  | nil => exact Nat.zero_le _
  | cons l r ih =>
    rw [mu, sumLen_cons, Nat.add_mul]
    exact Nat.add_le_add_left (Nat.le_trans (ih _) (Nat.mul_le_mul_left _ (Nat.sub_le b 1))) _

/-- the kept points lose one unit of weight each (`hB`: every height is below `b`), and the level held at least one point -/
theorem mu_compactLevels {k : Nat} (hk : 1 ≤ k) (c : Choice) {b : Nat} {ls : List (Level α)} {lvl : Level α}
    (h : firstFull k ls = some lvl) (hB : ls.length ≤ b) : mu b (compactLevels k c ls) < mu b ls := by
  fun_induction firstFull k ls generalizing b with
  | case1 => cases h
  | case2 l rest hkl =>
    cases h
    obtain ⟨b, rfl⟩ : ∃ b', b = b' + 1 := ⟨b - 1, by rw [List.length_cons] at hB; omega⟩
    have hle := Nat.mul_le_mul_right b (pickKept_length_le c lvl)
    have : (rest.headD []).length * b + mu (b - 1) rest.tail = mu b rest := by cases rest <;> simp [mu]
    rw [compactLevels_full c rest hkl]
    simp only [mu, List.length_nil, Nat.zero_mul, List.length_append, Nat.add_mul, Nat.mul_succ, Nat.add_sub_cancel]
    omega
  | case3 l rest hkl ih =>
    rw [compactLevels_skip c rest hkl]
    exact Nat.add_lt_add_left (ih h (by rw [List.length_cons] at hB; omega)) _

theorem dropTrailingEmpty_cons (x : Level α) (xs : List (Level α)) :
    dropTrailingEmpty (x :: xs) =
      if dropTrailingEmpty xs = [] ∧ x = [] then [] else x :: dropTrailingEmpty xs := by
  rw [dropTrailingEmpty]
  split
  · next h => cases x <;> simp [h]
  · next h => rw [if_neg fun hx => h hx.1]

theorem sumLen_dropTrailingEmpty (r : List (Level α)) : sumLen (dropTrailingEmpty r) = sumLen r := by
  induction r with
  | nil => rfl
  | cons x xs ih =>
    rw [dropTrailingEmpty_cons, sumLen_cons, ← ih]
    split
    · next h => rw [h.1, h.2]; rfl
    · rfl

theorem mu_dropTrailingEmpty (b : Nat) (r : List (Level α)) : mu b (dropTrailingEmpty r) = mu b r := by
  induction r generalizing b with
  | nil => rfl
  | cons x xs ih =>
    rw [dropTrailingEmpty_cons, mu, ← ih]
    split
    · next h => rw [h.1, h.2]; simp [mu]
    · rfl

theorem length_dropTrailingEmpty_le (r : List (Level α)) : (dropTrailingEmpty r).length ≤ r.length := by
  induction r with
  | nil => exact Nat.le_refl _
  | cons x xs ih =>
    rw [dropTrailingEmpty_cons]
    split
    · exact Nat.zero_le _
    · exact Nat.succ_le_succ ih

theorem lastNonempty_cons (x : Level α) {l : List (Level α)} (h : l ≠ []) : lastNonempty (x :: l) = lastNonempty l := by
  cases l with
  | nil => exact absurd rfl h
  | cons y ys => rfl

theorem lastNonempty_singleton (x : Level α) : lastNonempty [x] = true ↔ x ≠ [] := by
  cases x <;> simp [lastNonempty]

theorem lastNonempty_dropTrailingEmpty (r : List (Level α)) : lastNonempty (dropTrailingEmpty r) = true := by
  induction r with
  | nil => rfl
  | cons x xs ih =>
    rw [dropTrailingEmpty_cons]
    split
    · rfl
    · next h =>
      by_cases hd : dropTrailingEmpty xs = []
      · rw [hd, lastNonempty_singleton]; exact fun hx => h ⟨hd, hx⟩
      · rwa [lastNonempty_cons x hd]

theorem dropTrailingEmpty_of_lastNonempty (r : List (Level α)) (h : lastNonempty r = true) : dropTrailingEmpty r = r := by
  induction r with
  | nil => rfl
  | cons x xs ih =>
    rw [dropTrailingEmpty_cons]
    cases xs with
    | nil => rw [if_neg fun hx => (lastNonempty_singleton x).mp h hx.2]; rfl
    | cons y ys => rw [ih h, if_neg fun hx => nomatch hx.1]

theorem sumLen_popTop (c : Cfg) (ls : List (Level α)) : sumLen (popTop c ls) = sumLen ls := by
  cases ls with
  | nil => rfl
  | cons l r => rw [popTop]; split <;> simp only [sumLen_cons, sumLen_dropTrailingEmpty]

theorem mu_popTop (c : Cfg) (b : Nat) (ls : List (Level α)) : mu b (popTop c ls) = mu b ls := by
  cases ls with
  | nil => rfl
  | cons l r => rw [popTop]; split <;> simp only [mu, mu_dropTrailingEmpty]

theorem popTop_ne (c : Cfg) {ls : List (Level α)} (h : ls ≠ []) : popTop c ls ≠ [] := by
  cases ls with
  | nil => exact absurd rfl h
  | cons l r => rw [popTop]; split <;> exact List.cons_ne_nil _ _

theorem length_popTop_le (c : Cfg) (ls : List (Level α)) : (popTop c ls).length ≤ ls.length := by
  cases ls with
  | nil => simp [popTop]
  | cons l r =>
    rw [popTop]; split
    · exact Nat.succ_le_succ (length_dropTrailingEmpty_le r)
    · exact Nat.le_refl _

theorem popTop_pinned (c : Cfg) (hc : c.popsEmptyTop = false) (ls : List (Level α)) : popTop c ls = ls := by
  cases ls <;> simp [popTop, hc]

theorem topNonempty_popTop (c : Cfg) (hc : c.popsEmptyTop = true) (ls : List (Level α)) : topNonempty (popTop c ls) = true := by
  cases ls with
  | nil => rfl
  | cons l r => rw [popTop, if_pos hc]; exact lastNonempty_dropTrailingEmpty r

theorem popTop_of_topNonempty (c : Cfg) (ls : List (Level α)) (h : topNonempty ls = true) : popTop c ls = ls := by
  cases ls with
  | nil => rfl
  | cons l r => rw [popTop, dropTrailingEmpty_of_lastNonempty r h, ite_self]

theorem lastNonempty_getLast (r : List (Level α)) (h : lastNonempty r = true) (top : Level α) (hl : r.getLast? = some top) :
    top ≠ [] := by
  fun_induction lastNonempty r with
  | case1 => cases hl
  | case2 x => cases hl; exact (lastNonempty_singleton x).mp h
  | case3 x y r ih => exact ih h (by rwa [List.getLast?_cons_cons] at hl)

theorem top_ne_of_topNonempty (ls : List (Level α)) (h : topNonempty ls = true) (top : Level α) (hL : 1 < ls.length)
    (hl : ls.getLast? = some top) : top ≠ [] := by
  match ls, hL with
  | l :: y :: ys, _ => exact lastNonempty_getLast (y :: ys) h top (by rwa [List.getLast?_cons_cons] at hl)

theorem lastNonempty_tail {x : Level α} {l : List (Level α)} (h : lastNonempty (x :: l) = true) : lastNonempty l = true := by
  cases l with
  | nil => rfl
  | cons y ys => exact h

theorem lastNonempty_push {kept : Level α} (hk : kept ≠ []) (rest : List (Level α)) (hl : lastNonempty rest = true) :
    lastNonempty ((rest.headD [] ++ kept) :: rest.tail) = true := by
  match rest with
  | [] | [_] => exact (lastNonempty_singleton _).mpr (by simp [hk])
  | _ :: y :: ys => exact hl

theorem lastNonempty_compactLevels {k : Nat} (c : Choice) {ls : List (Level α)} {lvl : Level α}
    (h : firstFull k ls = some lvl) (hk : pickKept c lvl ≠ []) (hl : lastNonempty ls = true) :
    lastNonempty (compactLevels k c ls) = true := by
  fun_induction firstFull k ls with
  | case1 => cases h
  | case2 l rest hkl =>
    cases h
    rw [compactLevels_full c rest hkl, lastNonempty_cons _ (List.cons_ne_nil _ _)]
    exact lastNonempty_push hk rest (lastNonempty_tail hl)
  | case3 l rest hkl ih =>
    have hr : rest ≠ [] := fun h0 => by subst h0; cases h
    rw [compactLevels_skip c rest hkl, lastNonempty_cons l (compactLevels_ne k c hr)]
    exact ih h (lastNonempty_tail hl)

theorem topNonempty_compactLevels {k : Nat} (c : Choice) {ls : List (Level α)} {lvl : Level α}
    (h : firstFull k ls = some lvl) (hk : pickKept c lvl ≠ []) (hl : topNonempty ls = true) :
    topNonempty (compactLevels k c ls) = true := by
  fun_induction firstFull k ls with
  | case1 => cases h
  | case2 l rest hkl => cases h; rw [compactLevels_full c rest hkl]; exact lastNonempty_push hk rest hl
  | case3 l rest hkl => rw [compactLevels_skip c rest hkl]; exact lastNonempty_compactLevels c h hk hl

/-- the counting invariant, which is all the termination of the loop needs (the hypotheses of `ds_compact_terminates`) -/
structure Inv (s : Sketch α) : Prop where
  cnt : s.numRetained = sumLen s.levels
  ne : s.levels ≠ []

theorem compact_some (c : Cfg) (P : Picker ρ α) (r : ρ) {s : Sketch α} {lvl : Level α} (hf : firstFull s.k s.levels = some lvl) :
    compact c P r s =
      ({ s with levels := popTop c (compactLevels s.k (P r lvl).1 s.levels),
                numRetained := s.numRetained - (lvl.length - (pickKept (P r lvl).1 lvl).length) }, (P r lvl).2) := by
  rw [compact, hf]

theorem compact_none (c : Cfg) (P : Picker ρ α) (r : ρ) {s : Sketch α} (hf : firstFull s.k s.levels = none) :
    compact c P r s = (s, r) := by
  rw [compact, hf]

theorem firstFull_of_loopCond {s : Sketch α} (hi : Inv s) (hc : loopCond s = true) :
    ∃ lvl, firstFull s.k s.levels = some lvl :=
  Option.ne_none_iff_exists'.mp (firstFull_ne_none hi.ne (by rw [← hi.cnt]; exact of_decide_eq_true hc))

/-- what `t`, reached from `s` by compactions, has in common with `s` (`top`: the repaired shape establishes it in any case;
`len`: only the pinned shape never removes a level) -/
structure Compacted (c : Cfg) (s t : Sketch α) : Prop where
  k : t.k = s.k
  dim : t.dim = s.dim
  n : t.n = s.n
  le : t.numRetained ≤ s.numRetained
  inv : Inv s → Inv t
  top : c.popsEmptyTop = true → topNonempty s.levels = true → topNonempty t.levels = true
  len : c.popsEmptyTop = false → s.levels.length ≤ t.levels.length

theorem Compacted.refl (c : Cfg) (s : Sketch α) : Compacted c s s :=
  ⟨rfl, rfl, rfl, Nat.le_refl _, id, fun _ => id, fun _ => Nat.le_refl _⟩

theorem Compacted.trans {c : Cfg} {s t u : Sketch α} (h : Compacted c s t) (h' : Compacted c t u) : Compacted c s u :=
  ⟨h'.k.trans h.k, h'.dim.trans h.dim, h'.n.trans h.n, Nat.le_trans h'.le h.le, h'.inv ∘ h.inv,
   fun hp => h'.top hp ∘ h.top hp, fun hp => Nat.le_trans (h.len hp) (h'.len hp)⟩

theorem compact_compacted (c : Cfg) (P : Picker ρ α) (r : ρ) (s : Sketch α) : Compacted c s (compact c P r s).1 := by
  unfold compact
  split
  · exact .refl c s
  · next lvl hf =>
    refine ⟨rfl, rfl, rfl, Nat.sub_le _ _, fun hi => ⟨?_, popTop_ne c (compactLevels_ne _ _ hi.ne)⟩,
      fun hp _ => topNonempty_popTop c hp _, fun hp => ?_⟩
    · have := sumLen_compactLevels (P r lvl).1 hf
      have := hi.cnt
      simp only [sumLen_popTop]; omega
    · simp only [popTop_pinned c hp]; exact compactLevels_length_ge _ _ _

/-- μ drops at every turn of the loop, in both shapes: removing empty levels does not change μ (`mu_popTop`) -/
theorem compact_progress (c : Cfg) (P : Picker ρ α) (r : ρ) {s : Sketch α} (hi : Inv s) (hk : 1 ≤ s.k)
    (hc : loopCond s = true) (B : Nat) (hB : s.numRetained ≤ B) : mu B (compact c P r s).1.levels < mu B s.levels := by
  obtain ⟨lvl, hf⟩ := firstFull_of_loopCond hi hc
  rw [compact_some c P r hf, mu_popTop]
  exact mu_compactLevels hk _ hf
    (Nat.le_trans (Nat.le_mul_of_pos_left _ hk) (Nat.le_trans (of_decide_eq_true hc) hB))

theorem compact_two_levels (c : Cfg) (P : Picker ρ α) (r : ρ) {s : Sketch α} (hi : Inv s) (hk : 1 ≤ s.k)
    (hc : loopCond s = true) (ht : c.popsEmptyTop = true → topNonempty s.levels = true) :
    2 ≤ (compact c P r s).1.levels.length ∨
      c.popsEmptyTop = true ∧ (compact c P r s).1.numRetained < s.numRetained := by
  obtain ⟨lvl, hf⟩ := firstFull_of_loopCond hi hc
  rw [compact_some c P r hf]
  have h2 := compactLevels_length_two (P r lvl).1 hf
  cases hp : c.popsEmptyTop with
  | false => exact .inl (by rwa [popTop_pinned c hp])
  | true =>
    by_cases h0 : pickKept (P r lvl).1 lvl = []
    · -- a full level holds a point, and it is counted in `num_retained_`
      have hlen := firstFull_some_le hf
      have hsum := sumLen_compactLevels (P r lvl).1 hf
      have := hi.cnt
      rw [h0] at hsum ⊢
      exact .inr ⟨rfl, by simp only [List.length_nil] at hsum ⊢; omega⟩
    · exact .inl (by rwa [popTop_of_topNonempty c _ (topNonempty_compactLevels _ hf h0 (ht hp))])

theorem drain_last (c : Cfg) (P : Picker ρ α) (f : Nat) (r : ρ) (s : Sketch α) :
    drain c P f r s = (s, r) ∨
      ∃ r' t, Compacted c s t ∧ loopCond t = true ∧ drain c P f r s = compact c P r' t := by
  induction f generalizing r s with
  | zero => exact .inl rfl
  | succ f ih =>
    rw [drain]
    split
    · next hc =>
      refine .inr ?_
      rcases ih (compact c P r s).2 (compact c P r s).1 with e | ⟨r', t, ht, e⟩
      · exact ⟨r, s, .refl c s, hc, e⟩
      · exact ⟨r', t, (compact_compacted c P r s).trans ht, e⟩
    · exact .inl rfl

theorem drain_compacted (c : Cfg) (P : Picker ρ α) (f : Nat) (r : ρ) (s : Sketch α) : Compacted c s (drain c P f r s).1 := by
  rcases drain_last c P f r s with e | ⟨r', t, ht, _, e⟩ <;> rw [e]
  · exact .refl c s
  · exact ht.trans (compact_compacted c P r' t)

theorem drain_exits (c : Cfg) (P : Picker ρ α) (B : Nat) (f : Nat) (r : ρ) {s : Sketch α} (hi : Inv s) (hk : 1 ≤ s.k)
    (hB : s.numRetained ≤ B) (hf : mu B s.levels < f) : loopCond (drain c P f r s).1 = false := by
  induction f generalizing r s with
  | zero => exact absurd hf (Nat.not_lt_zero _)
  | succ f ih =>
    rw [drain]
    split
    · next hc =>
      have hs := compact_compacted c P r s
      have := compact_progress c P r hi hk hc B hB
      exact ih _ (hs.inv hi) (hs.k ▸ hk) (Nat.le_trans hs.le hB) (by omega)
    · next hc => simpa using hc

theorem drain_stable (c : Cfg) (P : Picker ρ α) (f g : Nat) (r : ρ) (s : Sketch α)
    (hx : loopCond (drain c P f r s).1 = false) (hg : f ≤ g) : drain c P g r s = drain c P f r s := by
  induction f generalizing g r s with
  | zero =>
    simp only [drain] at hx ⊢
    cases g with
    | zero => rfl
    | succ g => simp [drain, hx]
  | succ f ih =>
    cases g with
    | zero => exact absurd hg (Nat.not_succ_le_zero _)
    | succ g =>
      simp only [drain] at hx ⊢
      split
      · rename_i hc
        simp only [hc, if_true] at hx
        exact ih g _ _ hx (Nat.le_of_succ_le_succ hg)
      · rfl

theorem compactLoop_exits (c : Cfg) (P : Picker ρ α) (r : ρ) {s : Sketch α} (hi : Inv s) (hk : 1 ≤ s.k) :
    loopCond (compactLoop c P r s).1 = false :=
  drain_exits c P s.numRetained _ r hi hk (Nat.le_refl _) (by
    have := mu_le s.numRetained s.levels
    rw [← hi.cnt] at this
    unfold fuelOf; omega)

theorem compactLoop_compacted (c : Cfg) (P : Picker ρ α) (r : ρ) (s : Sketch α) : Compacted c s (compactLoop c P r s).1 :=
  drain_compacted c P _ r s

theorem compactLoop_cases (c : Cfg) (P : Picker ρ α) (r : ρ) {s : Sketch α} (hi : Inv s) (hk : 1 ≤ s.k)
    (ht : c.popsEmptyTop = true → topNonempty s.levels = true) :
    compactLoop c P r s = (s, r) ∨ 2 ≤ (compactLoop c P r s).1.levels.length ∨
      c.popsEmptyTop = true ∧ (compactLoop c P r s).1.numRetained < s.numRetained := by
  refine (drain_last c P (fuelOf s) r s).imp_right fun ⟨r', t, hst, hc, e⟩ => ?_
  rw [compactLoop, e]
  exact (compact_two_levels c P r' (hst.inv hi) (hst.k ▸ hk) hc fun hp => hst.top hp (ht hp)).imp_right
    fun h => ⟨h.1, Nat.lt_of_lt_of_le h.2 hst.le⟩

end DS.Density
