/- C19 / FI: facts about `M`, the derived primitives `moveConstruct` / `copyConstruct`, and two list facts for the side conditions
   of `gstep_dealloc`.  The proofs of the family use `moveConstruct_bind`, `copyConstruct_bind`, `mem_append_cons_ne`, `not_mem_pair`
   and `bind_pure_M`; `step_moveConstruct`, which leaves `setCell` terms, and the other rules here are not used by them (they step
   their writes with the `stepR_*` rules of LifeView, see the head of LifeFiTable). -/
import DSProofs.Lemmas.LifeOwn
namespace DS.Life.Fi
open DS.Life

theorem pure_bind_M {α β} (a : α) (f : α → M β) : ((pure a : M α) >>= f) = f a := by
  funext h
  rfl

/-- `M.bind_pure` of LifeHeap under a second name -/
theorem bind_pure_M {α} (m : M α) : (m >>= fun a => (pure a : M α)) = m := M.bind_pure m

theorem Frame.find? {S : Nat → Bool} {h h' : Heap} (fr : Frame S h h') {b : Nat} (hb : S b = false) :
    h'.find? b = h.find? b := find?_of_Out S h h' fr.1 b hb

theorem TripleS.weaken {α} {n0 : Nat} {S S' : Nat → Bool} (hsub : ∀ b, S b = true → S' b = true)
    {P : Heap → Prop} {m : M α} {Q : α → Heap → Prop} (t : TripleS n0 S P m Q) : TripleS n0 S' P m Q :=
  fun h hn hp => SafeF.weaken hsub (t h hn hp)

theorem SafeF.bind_exc {α β} {S} {h : Heap} (msg : String) {f : α → M β} {Q : β → Heap → Prop} :
    SafeF S h (((throwExc msg : M α) >>= f) h) Q := by
  simp [SafeF, bind_eq, throwExc, fail, SafeX]

theorem step_pure {α β} {S} {h : Heap} (a : α) {f : α → M β} {Q : β → Heap → Prop} (s : SafeF S h (f a h) Q) :
    SafeF S h (((pure a : M α) >>= f) h) Q := s

theorem moveConstruct_bind {β} (sb si db di : Nat) (f : Unit → M β) :
    (moveConstruct sb si db di >>= f) = (moveFrom sb si >>= fun v => construct db di v >>= f) := by
  unfold moveConstruct; rw [M.bind_assoc]

theorem copyConstruct_bind {β} (sb si db di : Nat) (f : Unit → M β) :
    (copyConstruct sb si db di >>= f) = (read sb si >>= fun v => construct db di v >>= f) := by
  unfold copyConstruct; rw [M.bind_assoc]

theorem step_moveConstruct {β} {S} {h : Heap} {sb si db di : Nat} {c c' : Cell} {v : Nat} {f : Unit → M β}
    {Q : β → Heap → Prop} (hc : h.cell? sb si = some c) (hl : c.st = .live v) (hc' : h.cell? db di = some c')
    (hr : c'.st = .raw) (hne : ¬ (db = sb ∧ di = si)) (hS : S sb = true) (hS' : S db = true)
    (s : ∀ e, SafeF S (((h.setCell sb si { c with st := .moved }).setCell db di { c' with st := .live v }).addLog e)
        (f () (((h.setCell sb si { c with st := .moved }).setCell db di { c' with st := .live v }).addLog e)) Q) :
    SafeF S h ((moveConstruct sb si db di >>= f) h) Q := by
  rw [moveConstruct_bind]
  refine SafeF.bind_ok (moveFrom_ok hc hl) (Frame_setCell S h sb si _ hS) (SafeF.bind_ok (construct_ok v ?_ hr)
    ((Frame_setCell S _ db di _ hS').trans (Frame_addLog S _ _)) (s _))
  rw [cell?_setCell, if_neg (fun x => hne ⟨x.1, x.2.1⟩)]
  exact hc'

/-- the owned blocks after `t` was released: the side condition of `gstep_dealloc` -/
theorem mem_append_cons_ne {t : Nat} {A D : List Nat} (hA : t ∉ A) (hD : t ∉ D) (x : Nat) :
    x ∈ A ++ D ↔ x ∈ A ++ t :: D ∧ x ≠ t := by
  rw [List.mem_append, List.mem_append, List.mem_cons]
  exact ⟨fun hx => ⟨hx.imp_right Or.inr, fun e => hx.elim (fun a => hA (e ▸ a)) (fun d => hD (e ▸ d))⟩,
    fun ⟨hx, hne⟩ => hx.imp_right (fun d => d.elim (fun e => (hne e).elim) id)⟩

theorem not_mem_pair {a x y : Nat} (hx : a ≠ x) (hy : a ≠ y) : a ∉ [x, y] :=
  fun hm => (List.mem_cons.1 hm).elim hx (fun h => hy (List.mem_singleton.1 h))

end DS.Life.Fi
