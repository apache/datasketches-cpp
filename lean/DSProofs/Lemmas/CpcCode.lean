/- Prefix codes with 12-bit look-ahead decoding: symbol, byte-array and pair round trips. -/
import DSProofs.Lemmas.CpcStream
namespace DS.Cpc

/-- a usable code on the symbols `0..n-1`: lengths 1..12, codewords fit their length, and no 12-bit pattern
starts with two different codewords (prefix freedom) -/
structure CodeOK (enc : Nat → Nat) (n : Nat) : Prop where
  len_pos : ∀ b, b < n → 1 ≤ enc b / 4096
  len_le : ∀ b, b < n → enc b / 4096 ≤ 12
  code_lt : ∀ b, b < n → enc b % 4096 < 2^(enc b / 4096)
  prefixFree : ∀ b b' x, b < n → b' < n → symMatches enc b x = true → symMatches enc b' x = true → b = b'

theorem decEntry_of_matches (enc : Nat → Nat) (n b x : Nat) (h : CodeOK enc n) (hb : b < n)
    (hm : symMatches enc b x = true) : decEntry enc n x = (enc b / 4096) * 256 + b := by
  unfold decEntry
  cases hf : (List.range n).reverse.find? (fun b => symMatches enc b x) with
  | none =>
    rw [List.find?_eq_none] at hf
    have := hf b (by simp; exact hb)
    simp [hm] at this
  | some b' =>
    have h1 := List.find?_some hf
    have h2 := List.mem_of_find?_eq_some hf
    simp only [List.mem_reverse, List.mem_range] at h2
    have : b' = b := h.prefixFree b' b x h2 hb h1 hm
    subst this; rfl

theorem symMatches_encSym (enc : Nat → Nat) (n b : Nat) (h : CodeOK enc n) (hb : b < n) (rest : Bits) :
    symMatches enc b (peek 12 (encSym enc b ++ rest)) = true := by
  unfold symMatches encSym
  rw [peek_bitsOf_append_mod _ _ 12 rest (h.len_le b hb), Nat.mod_eq_of_lt (h.code_lt b hb)]
  simp

/-- for any table function `dec` that agrees with `decEntry` below 4096 -/
theorem decSym_encSym (enc : Nat → Nat) (n b : Nat) (dec : Nat → Nat) (h : CodeOK enc n) (hb : b < n) (hn : n ≤ 256)
    (hdec : ∀ x, x < 4096 → dec x = decEntry enc n x) (rest : Bits) :
    decSym dec (encSym enc b ++ rest) = (b, rest) := by
  unfold decSym
  have hx : peek 12 (encSym enc b ++ rest) < 4096 := peek_lt 12 _
  rw [hdec _ hx, decEntry_of_matches enc n b _ h hb (symMatches_encSym enc n b h hb rest)]
  have hb' : b < 256 := Nat.lt_of_lt_of_le hb hn
  have e2 : (enc b / 4096 * 256 + b) / 256 = enc b / 4096 := by
    rw [Nat.add_comm, Nat.add_mul_div_right _ _ (by decide), Nat.div_eq_of_lt hb', Nat.zero_add]
  simp only [Nat.mul_add_mod_of_lt hb', e2]
  unfold encSym
  rw [drop_bitsOf_append]

theorem decBytes_encBytes (enc : Nat → Nat) (dec : Nat → Nat) (h : CodeOK enc 256)
    (hdec : ∀ x, x < 4096 → dec x = decEntry enc 256 x) (bytes : List Nat) (hb : ∀ b ∈ bytes, b < 256) (rest : Bits) :
    decBytes dec bytes.length (encBytes enc bytes ++ rest) = bytes := by
  induction bytes with
  | nil => simp [decBytes]
  | cons a t ih =>
    simp only [List.length_cons, encBytes, List.flatMap_cons, List.append_assoc, decBytes]
    rw [decSym_encSym enc 256 a dec h (hb a List.mem_cons_self) (Nat.le_refl _) hdec]
    simp only
    congr 1
    exact ih (fun b hb' => hb b (List.mem_cons_of_mem _ hb'))

theorem decEntryL_symList (enc : Nat → Nat) (n x : Nat) : decEntryL (symList enc n) x = decEntry enc n x := by
  unfold decEntryL symList decEntry
  rw [List.find?_map]
  simp only [Function.comp_def]
  cases hf : (List.range n).reverse.find? (fun b => x % 2^(enc b / 4096) == enc b % 4096) with
  | none => simp [symMatches, hf]
  | some b => simp [symMatches, hf]

theorem decTable_getD (enc : Nat → Nat) (n x : Nat) (hx : x < 4096) : (decTable enc n).getD x 0 = decEntry enc n x := by
  unfold decTable
  simp only
  rw [Array.getD_eq_getD_getElem?]
  simp [List.getElem?_map, List.getElem?_range hx, decEntryL_symList]

/-- a pair array acceptable to the pair coder from the prediction (pr, pc): rows non-decreasing, columns
strictly increasing inside a row (≥ pc in the predicted row) -/
def PairsOK : Nat → Nat → List Nat → Prop
  | _, _, [] => True
  | pr, pc, rc :: t => pr ≤ rc / 64 ∧ (rc / 64 = pr → pc ≤ rc % 64) ∧ PairsOK (rc / 64) (rc % 64 + 1) t

theorem pairsOK_of_sorted_ge (l : List Nat) (hs : l.Pairwise (· < ·)) (pr pc : Nat)
    (h0 : ∀ rc ∈ l, pr * 64 + pc ≤ rc) : PairsOK pr pc l := by
  induction l generalizing pr pc with
  | nil => trivial
  | cons a t ih =>
    rw [List.pairwise_cons] at hs
    have ha : pr ≤ a / 64 ∧ (a / 64 = pr → pc ≤ a % 64) := by have := h0 a List.mem_cons_self; clear ih hs h0; omega
    exact ⟨ha.1, ha.2, ih hs.2 _ _ fun rc hrc => by rw [← Nat.add_assoc, Nat.div_add_mod']; exact hs.1 rc hrc⟩

theorem pairsOK_sorted (l : List Nat) (hs : l.Pairwise (· < ·)) : PairsOK 0 0 l :=
  pairsOK_of_sorted_ge l hs 0 0 (fun _ _ => by omega)

theorem decPairs_encPairs (enc65 : Nat → Nat) (dec65 : Nat → Nat) (B : Nat) (h : CodeOK enc65 65)
    (hdec : ∀ x, x < 4096 → dec65 x = decEntry enc65 65 x) (l : List Nat) (pr pc : Nat) (hp : PairsOK pr pc l) (rest : Bits) :
    decPairs dec65 B l.length pr pc (encPairs enc65 B pr pc l ++ rest) = l := by
  induction l generalizing pr pc with
  | nil => simp [decPairs]
  | cons rc t ih =>
    obtain ⟨h1, h2, h3⟩ := hp
    simp only [List.length_cons, encPairs, decPairs, List.append_assoc]
    have hcol : rc % 64 < 64 := Nat.mod_lt _ (by decide)
    have hxd : rc % 64 - (if rc / 64 ≠ pr then 0 else pc) < 65 :=
      Nat.lt_of_le_of_lt (Nat.sub_le _ _) (Nat.lt_succ_of_lt hcol)
    rw [decSym_encSym enc65 65 _ dec65 h hxd (by decide) hdec]
    simp only
    rw [readUnary_unaryBits]
    simp only
    rw [peek_bitsOf_append, drop_bitsOf_append]
    have hyd : (rc / 64 - pr) / 2^B * 2^B + (rc / 64 - pr) % 2^B % 2^B = rc / 64 - pr := by
      rw [Nat.mod_mod]; exact Nat.div_add_mod' _ _
    rw [hyd]
    have hrow : pr + (rc / 64 - pr) = rc / 64 := Nat.add_sub_cancel' h1
    have hcol' : (if rc / 64 - pr > 0 then 0 else pc) + (rc % 64 - (if rc / 64 ≠ pr then 0 else pc)) = rc % 64 := by
      by_cases hne : rc / 64 = pr
      · rw [if_neg (not_not_intro hne), hne, Nat.sub_self, if_neg (Nat.lt_irrefl 0)]
        exact Nat.add_sub_cancel' (h2 hne)
      · rw [if_pos hne, if_pos (Nat.sub_pos_of_lt (Nat.lt_of_le_of_ne h1 (Ne.symm hne)))]
        exact Nat.zero_add _
    rw [hrow, hcol', Nat.div_add_mod' rc 64, ih _ _ h3]

end DS.Cpc
