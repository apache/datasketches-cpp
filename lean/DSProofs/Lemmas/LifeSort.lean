/- C19: `Heap.setCells` (whole-block update used by the sorting primitives) and its views; a list whose middle piece is replaced
   by a permutation of itself (`perm_mid`), the block that holds it (`setCells_permSeg`), and keys that stay distinct under a
   permutation (`perm_key_inj`). -/
import DSProofs.Lemmas.LifeView
namespace DS.Life

theorem find?_setCells (h : Heap) (b : Nat) (cs : List Cell) (b' : Nat) :
    (h.setCells b cs).find? b' = if b' = b then (h.find? b).map (fun B => { B with cells := cs }) else h.find? b' := by
  unfold Heap.setCells Heap.find?
  exact find?_map_upd h.blocks b b' (fun B => { B with cells := cs }) (fun _ => rfl)

@[simp] theorem next_setCells (h : Heap) (b : Nat) (cs : List Cell) : (h.setCells b cs).next = h.next := rfl

@[simp] theorem ids_setCells (h : Heap) (b : Nat) (cs : List Cell) : (h.setCells b cs).ids = h.ids :=
  map_upd_ids h.blocks b _ (fun _ => rfl)

theorem Out_setCells (S : Nat → Bool) (h : Heap) (b : Nat) (cs : List Cell) (hS : S b = true) :
    Out S (h.setCells b cs) = Out S h :=
  filter_map_upd S h.blocks b _ (fun _ => rfl) hS

theorem Frame_setCells (S : Nat → Bool) (h : Heap) (b : Nat) (cs : List Cell) (hS : S b = true) :
    Frame S h (h.setCells b cs) :=
  .of_ids (Out_setCells S h b cs hS) (ids_setCells h b cs) rfl

theorem cell?_setCells {h : Heap} {b : Nat} {B : Block} (hf : h.find? b = some B) (cs : List Cell) (b' j : Nat) :
    (h.setCells b cs).cell? b' j = if b' = b then cs[j]? else h.cell? b' j := by
  rw [cell?_def, find?_setCells]
  by_cases hb : b' = b
  · rw [if_pos hb, if_pos hb, hf]; rfl
  · rw [if_neg hb, if_neg hb, cell?_def]

theorem count?_setCells {h : Heap} {b : Nat} {B : Block} (hf : h.find? b = some B) (cs : List Cell) (b' : Nat) :
    (h.setCells b cs).count? b' = if b' = b then some cs.length else h.count? b' := by
  unfold Heap.count?
  rw [find?_setCells]
  by_cases hb : b' = b
  · rw [if_pos hb, if_pos hb, hf]; rfl
  · rw [if_neg hb, if_neg hb]

theorem perm_mid {α : Type} {pre mid mid' post : List α} (hp : mid'.Perm mid) (j : Nat) :
    (¬ (pre.length ≤ j ∧ j < pre.length + mid.length) → (pre ++ mid' ++ post)[j]? = (pre ++ mid ++ post)[j]?) ∧
    (pre.length ≤ j → j < pre.length + mid.length →
      ∃ k, pre.length ≤ k ∧ k < pre.length + mid.length ∧ (pre ++ mid' ++ post)[j]? = (pre ++ mid ++ post)[k]?) := by
  rw [List.append_assoc, List.append_assoc]
  rcases Nat.lt_or_ge j pre.length with hj | hj
  · exact ⟨fun _ => by rw [List.getElem?_append_left hj, List.getElem?_append_left hj], fun h1 => absurd hj (Nat.not_lt_of_le h1)⟩
  · rw [List.getElem?_append_right hj]
    constructor
    · intro hx
      have hr : mid.length ≤ j - pre.length := Nat.le_sub_of_add_le' (Nat.le_of_not_lt fun c => hx ⟨hj, c⟩)
      rw [List.getElem?_append_right hj, List.getElem?_append_right (hp.length_eq ▸ hr), List.getElem?_append_right hr,
        hp.length_eq]
    · intro _ h2
      have hr : j - pre.length < mid'.length := hp.length_eq ▸ Nat.sub_lt_left_of_lt_add hj h2
      obtain ⟨k, hk, ek⟩ := List.mem_iff_getElem.mp (hp.mem_iff.mp (List.getElem_mem hr))
      refine ⟨pre.length + k, Nat.le_add_right _ _, Nat.add_lt_add_left hk _, ?_⟩
      rw [List.getElem?_append_left hr, List.getElem?_append_right (Nat.le_add_right _ _), Nat.add_sub_cancel_left,
        List.getElem?_append_left hk, List.getElem?_eq_getElem hr, List.getElem?_eq_getElem hk, ek]

theorem setCells_permSeg {h : Heap} {b : Nat} {B : Block} (hf : h.find? b = some B) {seg' : List Cell} {lo n : Nat}
    (hle : lo + n ≤ B.cells.length) (hp : seg'.Perm ((B.cells.drop lo).take n)) {cs : List Cell}
    (hcs : B.cells.take lo ++ seg' ++ B.cells.drop (lo + n) = cs) :
    SameBut h (h.setCells b cs) (fun b' j => b' = b ∧ lo ≤ j ∧ j < lo + n) ∧
    ∀ j, lo ≤ j → j < lo + n → ∃ k, lo ≤ k ∧ k < lo + n ∧ (h.setCells b cs).cell? b j = h.cell? b k := by
  -- `B.cells` is cut into the same three pieces, of lengths `lo`, `n` and the rest
  have hl : B.cells.take lo ++ (B.cells.drop lo).take n ++ B.cells.drop (lo + n) = B.cells := by
    rw [List.append_assoc, ← List.drop_drop, List.take_append_drop, List.take_append_drop]
  have key := fun j => perm_mid (pre := B.cells.take lo) (post := B.cells.drop (lo + n)) hp j
  rw [hcs, hl, List.length_take_of_le (Nat.le_trans (Nat.le_add_right lo n) hle),
    List.length_take_of_le (by rw [List.length_drop]; exact Nat.le_sub_of_add_le' hle)] at key
  have hcell : ∀ j k, cs[j]? = B.cells[k]? → (h.setCells b cs).cell? b j = h.cell? b k := fun j k e => by
    rw [cell?_setCells hf, if_pos rfl, e, cell?_of_find? hf]
  have hout : ∀ b' j, ¬ (b' = b ∧ lo ≤ j ∧ j < lo + n) → (h.setCells b cs).cell? b' j = h.cell? b' j := by
    intro b' j hx
    by_cases hb : b' = b
    · subst hb; exact hcell j j ((key j).1 fun x => hx ⟨rfl, x⟩)
    · rw [cell?_setCells hf, if_neg hb]
  refine ⟨⟨fun b' j hx => (views_of_cell?_eq (hout b' j hx)).1, fun b' j hx => (views_of_cell?_eq (hout b' j hx)).2,
    fun b' m hcm => ?_, ids_setCells .., rfl⟩, fun j h1 h2 => ?_⟩
  · rw [HasCells, count?_setCells hf]
    by_cases hb : b' = b
    · subst hb
      rw [if_pos rfl, ← hcs, ((hp.append_left _).append_right _).length_eq, hl]
      exact (HasCells_of_find? hf).symm.trans hcm
    · rwa [if_neg hb]
  · obtain ⟨k, hk1, hk2, e⟩ := (key j).2 h1 h2
    exact ⟨k, hk1, hk2, hcell j k e⟩

theorem perm_key_inj {α β : Type} (key : α → β) {l l' : List α} (hp : l'.Perm l)
    (h : ∀ i j (hi : i < l.length) (hj : j < l.length), key l[i] = key l[j] → i = j)
    {i j : Nat} (hi : i < l'.length) (hj : j < l'.length) (e : key l'[i] = key l'[j]) : i = j := by
  have nd : (l'.map key).Nodup := by
    refine (hp.map key).nodup_iff.mpr (List.pairwise_iff_getElem.mpr fun a b ha hb hab e' => ?_)
    rw [List.getElem_map, List.getElem_map] at e'
    exact Nat.ne_of_lt hab (h a b _ _ e')
  refine (List.getElem_inj (h₀ := ?_) (h₁ := ?_) nd).mp ?_
  · rwa [List.length_map]
  · rwa [List.length_map]
  · rwa [List.getElem_map, List.getElem_map]

end DS.Life
