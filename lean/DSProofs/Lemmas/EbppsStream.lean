/- Update streams (C18): bookkeeping of `runUpdates`, and the exact content when all weights are equal and n ≤ k. -/
import DSProofs.Lemmas.EbppsSketch
namespace DS.Ebpps

variable {P : Nat → Prop}

def wsum (ops : List (Upd Rat)) : Rat := (ops.map (·.w)).sum
def wmaxFrom (m : Rat) (ops : List (Upd Rat)) : Rat := ops.foldl (fun m u => max m u.w) m

def StreamOK (v : Variant) (P : Nat → Prop) (ops : List (Upd Rat)) : Prop :=
  ∀ u ∈ ops, 0 < u.w ∧ P u.item ∧ UnitOK v.geDraw u.d

theorem updateOr_wf {v : Variant} {s : Sketch Rat} {u : Upd Rat}
    (h : WF P s) (hw : 0 < u.w) (hP : P u.item) (hd : UnitOK v.geDraw u.d) :
    WF P (updateOr v s u) ∧ Core P (updateOr v s u) (updateOr v s u).wtMax (updateOr v s u).k ∧
    (updateOr v s u).n = s.n + 1 ∧ (updateOr v s u).cumWt = s.cumWt + u.w ∧
    (updateOr v s u).wtMax = max s.wtMax u.w ∧ (updateOr v s u).k = s.k := by
  obtain ⟨s', d', e, h1, h2, h3, h4, h5, h6, -⟩ := update_wf (v := v) h hw hP hd
  unfold updateOr
  rw [e]
  exact ⟨h1, h2, h3, h4, h5, h6⟩

theorem runUpdates_wf (v : Variant) (ops : List (Upd Rat)) : ∀ s : Sketch Rat, WF P s → StreamOK v P ops →
    WF P (runUpdates v s ops) ∧ (runUpdates v s ops).n = s.n + ops.length ∧
    (runUpdates v s ops).cumWt = s.cumWt + wsum ops ∧ (runUpdates v s ops).wtMax = wmaxFrom s.wtMax ops ∧
    (runUpdates v s ops).k = s.k := by
  induction ops with
  | nil => intro s h _; simp [runUpdates, wsum, wmaxFrom, h]
  | cons u rest ih =>
    intro s h hok
    obtain ⟨hw, hP, hd⟩ := hok u List.mem_cons_self
    obtain ⟨h1, -, h3, h4, h5, h6⟩ := updateOr_wf (v := v) h hw hP hd
    obtain ⟨i1, i2, i3, i4, i5⟩ := ih (updateOr v s u) h1 (fun x hx => hok x (List.mem_cons_of_mem _ hx))
    exact ⟨i1, i2.trans (by rw [h3, List.length_cons]; omega), i3.trans (by rw [h4, add_assoc]; rfl), i4.trans (by rw [h5]; rfl), i5.trans h6⟩

theorem runUpdates_core (v : Variant) (ops : List (Upd Rat)) (hne : ops ≠ []) (s : Sketch Rat) (h : WF P s)
    (hok : StreamOK v P ops) :
    Core P (runUpdates v s ops) (runUpdates v s ops).wtMax (runUpdates v s ops).k := by
  have hwf := (runUpdates_wf v ops s h hok).1
  have hn := (runUpdates_wf v ops s h hok).2.1
  cases hwf with
  | fresh _ _ hn0 _ _ _ =>
    exfalso
    have : 0 < ops.length := List.length_pos_iff.2 hne
    omega
  | live _ hc _ _ => exact hc

/-- state after `m` equal-weight updates while `m ≤ k` -/
structure EqState (s : Sketch Rat) (m : Nat) (l : List Nat) (w : Rat) : Prop where
  sample : s.sample = ⟨(m : Rat), l, none⟩
  cum : s.cumWt = m * w
  mx : s.wtMax = if m = 0 then 0 else w
  rho : 0 < m → s.rho = 1 / w

theorem update_equal {v : Variant} {s : Sketch Rat} {m : Nat} {l : List Nat} {w : Rat} (hw : 0 < w)
    (h : EqState s m l w) (hmk : m + 1 ≤ s.k) {u : Upd Rat} (hu : u.w = w) :
    EqState (updateOr v s u) (m + 1) (l ++ [u.item]) w ∧ (updateOr v s u).k = s.k ∧ (updateOr v s u).n = s.n + 1 := by
  obtain ⟨item, w', d⟩ := u
  obtain rfl : w = w' := hu.symm
  obtain ⟨hsample, hcum, hmax, hrho⟩ := h
  have hmaxw : max s.wtMax w = w := by
    rw [hmax]; split
    · exact max_eq_right (le_of_lt hw)
    · exact max_self w
  -- the new rho is 1/w because n + 1 ≤ k
  have hnr : min (1 / w) ((s.k : Rat) / (s.cumWt + w)) = 1 / w := by
    apply min_eq_left
    rw [hcum, show (m : Rat) * w + w = ((m : Rat) + 1) * w by ring, div_le_div_iff₀ hw (mul_pos (by positivity) hw)]
    have : ((m : Rat) + 1) ≤ s.k := by exact_mod_cast hmk
    linarith [mul_le_mul_of_nonneg_right this (le_of_lt hw)]
  -- no downsampling: the sketch is empty, or the rate stays `1/w`
  have hds : (if Num.lt (zero : Rat) s.cumWt then downsample v.geDraw s.sample (1 / w / s.rho) d else (s.sample, d)) = (s.sample, d) := by
    split
    · rename_i hpos
      have hmpos : 0 < m := Nat.pos_of_ne_zero fun h0 => by simp [hcum, h0] at hpos
      rw [hrho hmpos, div_self (one_div_ne_zero hw.ne'), downsample_one_le _ _ le_rfl]
    · rfl
  have e : update v s item w d =
      some ({ s with cumWt := s.cumWt + w, rho := 1 / w, sample := ⟨((m + 1 : Nat) : Rat), l ++ [item], none⟩,
                     wtMax := w, n := s.n + 1 }, d) := by
    rw [update_pos v s item hw, hmaxw]
    unfold absorb
    simp only [rat_newRho, hnr, hds]
    rw [one_div_mul_cancel hw.ne', mergeSampleV_eq_rat, replaceContentV_eq_rat _ _ (le_refl 1),
      show replaceContent item (1 : Rat) = ⟨1, [item], none⟩ by simp [replaceContent], hsample, mergeSample_whole]
  unfold updateOr
  rw [e]
  refine ⟨⟨rfl, ?_, by simp, fun _ => rfl⟩, rfl, rfl⟩
  show s.cumWt + w = ((m + 1 : Nat) : Rat) * w
  rw [hcum]; push_cast; ring

theorem runUpdates_equal (v : Variant) (w : Rat) (hw : 0 < w) (ops : List (Upd Rat)) :
    ∀ (s : Sketch Rat) (m : Nat) (l : List Nat), EqState s m l w → (∀ u ∈ ops, u.w = w) → m + ops.length ≤ s.k →
    EqState (runUpdates v s ops) (m + ops.length) (l ++ ops.map (·.item)) w ∧ (runUpdates v s ops).k = s.k := by
  induction ops with
  | nil => intro s m l h _ _; simpa [runUpdates] using h
  | cons u rest ih =>
    intro s m l h hall hk
    simp only [List.length_cons] at hk
    obtain ⟨hst, e5, -⟩ := update_equal (v := v) hw h (by omega) (hall u List.mem_cons_self)
    obtain ⟨i1, i2⟩ := ih (updateOr v s u) (m + 1) (l ++ [u.item]) hst (fun x hx => hall x (List.mem_cons_of_mem _ hx)) (by rw [e5]; omega)
    rw [Nat.add_right_comm, Nat.add_assoc, List.append_assoc] at i1
    exact ⟨i1, i2.trans e5⟩

end DS.Ebpps
