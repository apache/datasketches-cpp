/- `repeatN_enc` and `length_elementwise` at `flatMap`, the list writer of the t-digest, density and array-of-doubles images. -/
import DSProofs.Lemmas.Wire
namespace DS.Wire
open Reader

variable {α β : Type}

theorem repeatN_flatMap {rd : Reader α} {enc : α → Bytes} {P : α → Prop} (h : ∀ x, P x → ∀ t, rd (enc x ++ t) = some (x, t))
    (xs : List α) (hP : ∀ x ∈ xs, P x) (t : Bytes) : repeatN rd xs.length (xs.flatMap enc ++ t) = some (xs, t) :=
  repeatN_enc h rfl (fun _ _ => List.flatMap_cons) xs t hP

theorem length_flatMap_of_mem (f : α → Bytes) (m : Nat) (l : List α) (h : ∀ x ∈ l, (f x).length = m) :
    (l.flatMap f).length = l.length * m :=
  length_elementwise rfl (fun _ _ => List.flatMap_cons) l h

end DS.Wire
