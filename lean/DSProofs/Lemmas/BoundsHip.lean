/- C06: why `number of non-zero registers ≤ HIP accumulator` (hypothesis of hll_bounds_order_partial) holds for HLL sketches that
   were only updated, on an abstract register model of hipAndKxQIncrementalUpdate.  The model is separate from `HllReg` and from
   the C03 update model; no theorem connects them.  The CPC analogue (hypothesis of cpc_bounds_order_partial) is NOT modelled. -/
import Mathlib.Algebra.Order.Field.Basic
import Mathlib.Algebra.BigOperators.Group.List.Basic
import Mathlib.Tactic.Linarith
import Mathlib.Tactic.Positivity
namespace DS.Bounds

variable {K : Type} [Field K] [LinearOrder K] [IsStrictOrderedRing K]

/-- kxq0 + kxq1 = Σ over registers of 2^-value -/
def kxqSum : List Nat → K
  | [] => 0
  | v :: t => (1 / 2 : K) ^ v + kxqSum t

def nonZeroCount : List Nat → Nat
  | [] => 0
  | v :: t => (if v = 0 then 0 else 1) + nonZeroCount t

theorem kxqSum_bounds : ∀ regs : List Nat, (0 : K) ≤ kxqSum regs ∧ (kxqSum regs : K) ≤ regs.length
  | [] => by simp [kxqSum]
  | v :: t => by
    obtain ⟨ih0, ih1⟩ := kxqSum_bounds t
    have h1 : (0 : K) ≤ (1 / 2 : K) ^ v := by positivity
    have h2 : ((1 / 2 : K)) ^ v ≤ 1 := pow_le_one₀ (by norm_num) (by norm_num)
    rw [kxqSum, List.length_cons, Nat.cast_succ, add_comm]
    exact ⟨add_nonneg ih0 h1, add_le_add ih1 h2⟩

theorem kxqSum_pos_le : ∀ regs : List Nat, regs ≠ [] → (0 : K) < kxqSum regs ∧ (kxqSum regs : K) ≤ regs.length
  | [], h => absurd rfl h
  | v :: t, _ => ⟨add_pos_of_pos_of_nonneg (by positivity) (kxqSum_bounds t).1, (kxqSum_bounds (v :: t)).2⟩

theorem nonZeroCount_set_le : ∀ (regs : List Nat) (i v : Nat), nonZeroCount (regs.set i v) ≤ nonZeroCount regs + 1
  | [], _, _ => by simp [nonZeroCount]
  | a :: t, 0, v => by
    simp only [List.set_cons_zero, nonZeroCount]
    split <;> split <;> omega
  | a :: t, i + 1, v => by
    simp only [List.set_cons_succ, nonZeroCount]
    have := nonZeroCount_set_le t i v
    omega

/-- HllArray::couponUpdate → hipAndKxQIncrementalUpdate for an in-order sketch: when slot i grows to v, the HIP accumulator
    gains k/(kxq0+kxq1) computed BEFORE the register changes -/
def hipStep (s : List Nat × K) (u : Nat × Nat) : List Nat × K :=
  if s.1.getD u.1 0 < u.2 ∧ u.1 < s.1.length then (s.1.set u.1 u.2, s.2 + (s.1.length : K) / kxqSum s.1) else s

def hipRun (s : List Nat × K) (ups : List (Nat × Nat)) : List Nat × K := ups.foldl hipStep s

theorem hipStep_inv (s : List Nat × K) (u : Nat × Nat) (h : ((nonZeroCount s.1 : Nat) : K) ≤ s.2) :
    ((nonZeroCount (hipStep s u).1 : Nat) : K) ≤ (hipStep s u).2 := by
  unfold hipStep
  split
  · rename_i hc
    have hne : s.1 ≠ [] := by
      intro he; rw [he] at hc; simp at hc
    obtain ⟨p, q⟩ := kxqSum_pos_le (K := K) s.1 hne
    have h1 : (1 : K) ≤ (s.1.length : K) / kxqSum s.1 := (le_div_iff₀ p).2 ((one_mul _).le.trans q)
    have h2 : ((nonZeroCount (s.1.set u.1 u.2) : Nat) : K) ≤ ((nonZeroCount s.1 : Nat) : K) + 1 :=
      (Nat.cast_le.2 (nonZeroCount_set_le s.1 u.1 u.2)).trans_eq (Nat.cast_succ _)
    exact h2.trans (add_le_add h h1)
  · exact h

end DS.Bounds
