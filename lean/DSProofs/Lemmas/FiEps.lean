/- The epsilon invariant of the L1 frequent-items model: every purge whose amount is at most the median removes
   `amount` from at least half of the counters. -/
import DSProofs.Lemmas.FiReach
import Mathlib.Tactic.Ring
namespace DS.Fi
set_option linter.unusedSectionVars false

variable {ι : Type} [DecidableEq ι]

/-- number of counters that are `≥` the median when a purge happens at `lgMax`: `⌈(capacity + 1)/2⌉` -/
def Khalf (T : Tun) (lg : Nat) : Nat := upperHalf (capacity T lg + 1)

theorem Khalf_mono (T : Tun) {a b : Nat} (h : a ≤ b) : Khalf T a ≤ Khalf T b :=
  upperHalf_mono (Nat.succ_le_succ (capacity_mono T h))

/-- every purge took its amount from at least `Khalf` counters, so `offset` (the sum of the amounts) times `Khalf`, plus what the
    counters still hold, is at most the total weight: `eps_bound` reads the maximum error off this -/
def EpsInv (T : Tun) (s : St ι) : Prop :=
  (keys s.map).Nodup ∧ s.offset * Khalf T s.lgMax + sumVals s.map ≤ s.total

/-- the purge amount `a` is acceptable for `update x w` in state `s`: if that update purges, at least
    `⌈n/2⌉` of the `n` counters are `≥ a` (true of every `a ≤` the median, `fi_median_ok`) -/
def AmtOK (T : Tun) (s : St ι) (x : ι) (w a : Nat) : Prop :=
  purges T s x w = true → upperHalf (adjust s.map x w).length ≤ countGE (vals (adjust s.map x w)) a

instance (T : Tun) (s : St ι) (x : ι) (w a : Nat) : Decidable (AmtOK T s x w a) := inferInstanceAs (Decidable (_ → _))

def ReplayP (T : Tun) (P : St ι → ι → Nat → Nat → Prop) : St ι → List (Ent ι) → Prop
  | _, [] => True
  | s, (x, w, a) :: t => P s x w a ∧ ReplayP T P (update T s x w a) t

instance ReplayP.dec (T : Tun) (P : St ι → ι → Nat → Nat → Prop) [∀ s x w a, Decidable (P s x w a)] :
    ∀ s ents, Decidable (ReplayP T P s ents)
  | _, [] => isTrue trivial
  | s, (x, w, a) :: t => @instDecidableAnd _ _ _ (ReplayP.dec T P (update T s x w a) t)

abbrev ReplayOK (T : Tun) : St ι → List (Ent ι) → Prop := ReplayP T (AmtOK T)

theorem epsInv_init (T : Tun) (lgMax lgStart : Nat) : EpsInv T (init T lgMax lgStart : St ι) :=
  ⟨.nil, Nat.le_of_eq (Nat.zero_mul _)⟩

theorem epsInv_update (T : Tun) (s : St ι) (h : EpsInv T s) (x : ι) (w a : Nat) (hok : AmtOK T s x w a) :
    EpsInv T (update T s x w a) := by
  obtain ⟨hn, hb⟩ := h
  by_cases hw : w = 0
  · subst hw; exact ⟨hn, hb⟩
  have hnadj := nodup_adjust s.map hn x w
  have hsum := sumVals_adjust s.map hn x w
  rw [update_pos T s x hw]
  split
  · next hp =>
    -- at least `Khalf` counters lose `a`: the map holds `capacity + 1` of them and `lgCur = lgMax`
    have ⟨_, hk, hc, hl⟩ := (purges_iff T s x w).mp hp
    have hlen : (adjust s.map x w).length = s.map.length + 1 := by rw [length_adjust, if_neg hk]
    have hK : Khalf T s.lgMax ≤ countGE (vals (adjust s.map x w)) a :=
      Nat.le_trans (upperHalf_mono (by have := capacity_mono T hl; omega)) (hok hp)
    have hpur := sumVals_purgeMap (adjust s.map x w) a
    have hmul := Nat.mul_le_mul_left a hK
    exact ⟨nodup_purgeMap _ hnadj a, by dsimp only; rw [Nat.add_mul]; omega⟩
  · exact ⟨hnadj, by dsimp only; omega⟩

theorem epsInv_replay (T : Tun) (ents : List (Ent ι)) (s : St ι) (h : EpsInv T s) (hok : ReplayOK T s ents) :
    EpsInv T (replay T s ents) := by
  induction ents generalizing s with
  | nil => exact h
  | cons e t ih => obtain ⟨x, w, a⟩ := e; exact ih _ (epsInv_update T s h x w a hok.1) hok.2

theorem epsInv_merge (T : Tun) (s o : St ι) (hs : EpsInv T s) (ho : EpsInv T o) (ents : List (Ent ι))
    (hp : (entPairs ents).Perm o.map) (hlg : s.lgMax ≤ o.lgMax) (hok : ReplayOK T s ents) :
    EpsInv T (merge T s o ents) := by
  unfold merge
  split
  · exact hs
  · have ⟨hrn, hrb⟩ := epsInv_replay T ents s hs hok
    have ht := total_replay T ents s
    rw [sumVals_perm hp] at ht
    rw [lgMax_replay] at hrb
    have hK := Nat.mul_le_mul_left o.offset (Khalf_mono T hlg)
    have hob := ho.2
    refine ⟨hrn, ?_⟩
    dsimp only
    rw [lgMax_replay, Nat.add_mul]
    omega

theorem epsInv_roundtrip (T : Tun) (s : St ι) (h : EpsInv T s) : EpsInv T (roundtrip T s) := by
  unfold roundtrip
  split
  · exact ⟨.nil, Nat.le_of_eq (Nat.zero_mul _)⟩
  · exact h

/-- `EPSILON_FACTOR / 2^lg` is at least `1 / K` as soon as `EPSILON_FACTOR · LOAD_FACTOR ≥ 2` -/
theorem eps_side (T : Tun) (lg : Nat) (hden : 0 < T.lfDen) (hside : 2 * T.lfDen * T.epsDen ≤ T.epsNum * T.lfNum) :
    T.epsDen * 2 ^ lg ≤ T.epsNum * Khalf T lg := by
  have h1 : 2 ^ lg * T.lfNum < T.lfDen * (2 ^ lg * T.lfNum / T.lfDen + 1) := Nat.lt_mul_div_succ _ hden
  have h2 := two_mul_upperHalf (capacity T lg + 1)
  unfold Khalf
  unfold capacity at h2 ⊢
  generalize 2 ^ lg * T.lfNum / T.lfDen = c at *
  generalize upperHalf (c + 1) = K at *
  generalize 2 ^ lg = P at *
  refine Nat.le_of_mul_le_mul_left (c := 2 * T.lfDen) ?_ (by omega)
  calc 2 * T.lfDen * (T.epsDen * P) = (2 * T.lfDen * T.epsDen) * P := by ring
    _ ≤ T.epsNum * T.lfNum * P := Nat.mul_le_mul_right P hside
    _ = T.epsNum * (P * T.lfNum) := by ring
    _ ≤ T.epsNum * (T.lfDen * (c + 1)) := Nat.mul_le_mul_left _ (Nat.le_of_lt h1)
    _ ≤ T.epsNum * (T.lfDen * (2 * K)) := Nat.mul_le_mul_left _ (Nat.mul_le_mul_left _ h2)
    _ = 2 * T.lfDen * (T.epsNum * K) := by ring

theorem eps_bound (T : Tun) (s : St ι) (h : EpsInv T s) (hden : 0 < T.lfDen)
    (hside : 2 * T.lfDen * T.epsDen ≤ T.epsNum * T.lfNum) :
    s.offset * (T.epsDen * 2 ^ s.lgMax) ≤ T.epsNum * s.total :=
  calc s.offset * (T.epsDen * 2 ^ s.lgMax) ≤ s.offset * (T.epsNum * Khalf T s.lgMax) :=
        Nat.mul_le_mul_left _ (eps_side T s.lgMax hden hside)
    _ = T.epsNum * (s.offset * Khalf T s.lgMax) := Nat.mul_left_comm ..
    _ ≤ T.epsNum * s.total := Nat.mul_le_mul_left _ (Nat.le_trans (Nat.le_add_right ..) h.2)

/-- like `Reach`, without the true weights: every purge amount must satisfy `P s x w a` (in the state `s` in which `update x w`
    uses it) and, when `sameLg` is set, a merged operand must not have a smaller `lgMax` than the target.  No restriction on fully
    purged operands is needed; there is no form over `mergeF` / `roundtripF`. -/
inductive ReachP (T : Tun) (sameLg : Bool) (P : St ι → ι → Nat → Nat → Prop) : St ι → Prop
  | new (lgMax lgStart : Nat) (h : lgStart ≤ lgMax) : ReachP T sameLg P (init T lgMax lgStart)
  | upd {s} (x : ι) (w a : Nat) (h : ReachP T sameLg P s) (hok : P s x w a) : ReachP T sameLg P (update T s x w a)
  | merge {s o} (ents : List (Ent ι)) (hs : ReachP T sameLg P s) (ho : ReachP T sameLg P o)
      (hp : (entPairs ents).Perm o.map) (hlg : sameLg = true → s.lgMax ≤ o.lgMax) (hok : ReplayP T P s ents) :
      ReachP T sameLg P (merge T s o ents)
  | roundtrip {s} (h : ReachP T sameLg P s) : ReachP T sameLg P (roundtrip T s)

/-- purge amounts acceptable in the sense of `AmtOK` (every amount at most the median is: `fi_median_ok`), operands of merges
    with at least the target's `lgMax` -/
abbrev ReachMed (T : Tun) : St ι → Prop := ReachP T true (AmtOK T)

theorem reachP_replay (T : Tun) {b : Bool} {P : St ι → ι → Nat → Nat → Prop} (ents : List (Ent ι)) {s : St ι}
    (h : ReachP T b P s) (hok : ReplayP T P s ents) : ReachP T b P (replay T s ents) := by
  induction ents generalizing s with
  | nil => exact h
  | cons e t ih => obtain ⟨x, w, a⟩ := e; exact ih (ReachP.upd x w a h hok.1) hok.2

theorem replayP_mono (T : Tun) {P Q : St ι → ι → Nat → Nat → Prop} (hpq : ∀ s x w a, P s x w a → Q s x w a)
    (ents : List (Ent ι)) (s : St ι) (h : ReplayP T P s ents) : ReplayP T Q s ents := by
  induction ents generalizing s with
  | nil => trivial
  | cons e t ih => obtain ⟨x, w, a⟩ := e; exact ⟨hpq _ _ _ _ h.1, ih _ h.2⟩

theorem reachP_mono (T : Tun) {b : Bool} {P Q : St ι → ι → Nat → Nat → Prop} (hpq : ∀ s x w a, P s x w a → Q s x w a)
    {s : St ι} (h : ReachP T b P s) : ReachP T b Q s := by
  induction h with
  | new lgMax lgStart hl => exact ReachP.new lgMax lgStart hl
  | upd x w a _ hok ih => exact ReachP.upd x w a ih (hpq _ _ _ _ hok)
  | merge ents _ _ hp hlg hok ih1 ih2 => exact ReachP.merge ents ih1 ih2 hp hlg (replayP_mono T hpq ents _ hok)
  | roundtrip _ ih => exact ReachP.roundtrip ih

theorem reachMed_inv (T : Tun) {s : St ι} (h : ReachMed T s) : EpsInv T s := by
  induction h with
  | new lgMax lgStart _ => exact epsInv_init T lgMax lgStart
  | upd x w a _ hok ih => exact epsInv_update T _ ih x w a hok
  | merge ents _ _ hp hlg hok ih1 ih2 => exact epsInv_merge T _ _ ih1 ih2 ents hp (hlg rfl) hok
  | roundtrip _ ih => exact epsInv_roundtrip T _ ih

end DS.Fi
