/- Whole streams of updates from a state satisfying the invariant; `FromStream`. -/
import DSModel.VarOpt.Union
import DSProofs.Lemmas.VarOptUpdate
namespace DS.VarOpt
open DS

/-- the ghost entries of a list of updates, newest first: `mkEntry s x w mark` for each `(x, w)`, for a sketch with `s.gadget = g` -/
def entriesOf (g mark : Bool) (items : List (Int × Rat)) : List E :=
  (items.map (fun p => ({ item := p.1, wt := p.2, mark := g && mark } : E))).reverse

theorem mem_entriesOf {g mark : Bool} {items : List (Int × Rat)} {e : E} :
    e ∈ entriesOf g mark items ↔ (e.item, e.wt) ∈ items ∧ e.mark = (g && mark) := by
  unfold entriesOf
  simp only [List.mem_reverse, List.mem_map]
  constructor
  · rintro ⟨p, hp, rfl⟩; exact ⟨hp, rfl⟩
  · rintro ⟨hp, hm⟩
    refine ⟨(e.item, e.wt), hp, ?_⟩
    cases e; simp_all

theorem length_entriesOf (g mark : Bool) (items : List (Int × Rat)) : (entriesOf g mark items).length = items.length := by
  simp [entriesOf]

theorem feed_spec (T : Tunables) (mark : Bool) (items : List (Int × Rat)) : ∀ (s : Sk Rat) (ins L : List E) (ds : Draws Rat),
    Inv s ins L → (∀ p ∈ items, 0 < p.2) → (mark = true → s.gadget = true) →
    ∃ s' ds' L', feed T mark items s ds = some (s', ds') ∧ Inv s' (entriesOf s.gadget mark items ++ ins) L' ∧
      s'.k = s.k ∧ s'.gadget = s.gadget ∧ s'.rf = s.rf ∧ TauLe s s' := by
  induction items with
  | nil =>
    intro s ins L ds hinv _ _
    exact ⟨s, ds, L, rfl, by simpa [entriesOf] using hinv, rfl, rfl, rfl, TauLe.refl s⟩
  | cons p t ih =>
    intro s ins L ds hinv hpos hmg
    obtain ⟨x, w⟩ := p
    obtain ⟨s1, ds1, L1, hu, hinv1, hk1, hg1, hrf1, htau1⟩ :=
      update_spec T s ins L hinv x w mark ds (hpos (x, w) (by simp)) hmg
    obtain ⟨s2, ds2, L2, hf, hinv2, hk2, hg2, hrf2, htau2⟩ :=
      ih s1 _ L1 ds1 hinv1 (fun q hq => hpos q (by simp [hq])) (by rw [hg1]; exact hmg)
    refine ⟨s2, ds2, L2, ?_, ?_, by rw [hk2, hk1], by rw [hg2, hg1], by rw [hrf2, hrf1], TauLe.trans htau1 htau2⟩
    · simp only [feed, hu, hf]
    · have : entriesOf s.gadget mark ((x, w) :: t) ++ ins = entriesOf s1.gadget mark t ++ (mkEntry s x w mark :: ins) := by
        simp [entriesOf, mkEntry, storedMark, hg1]
      rw [this]; exact hinv2

theorem new_inv (T : Tunables) (k rf : Nat) (g : Bool) (s0 : Sk Rat) (h : Sk.new T k rf g = some s0) :
    Inv s0 [] [] ∧ s0.k = k ∧ s0.gadget = g ∧ s0.n = 0 := by
  unfold Sk.new at h
  split at h
  · exact absurd h (by simp)
  · rename_i hk
    have hk1 : 1 ≤ k := by
      simp at hk; omega
    injection h with h
    subst h
    refine ⟨?_, rfl, rfl, rfl⟩
    exact { kpos := hk1, mnil := rfl, fresh := rfl, n_eq := rfl, perm := List.Perm.refl _, pos := by simp,
            marks := ⟨rfl, by simp⟩, warm := fun _ => ⟨rfl, Nat.zero_le _, by simp⟩, est := fun h => absurd rfl h }

theorem stream_inv {T : Tunables} {k rf : Nat} {s0 : Sk Rat} (h0 : Sk.new T k rf false = some s0)
    {items : List (Int × Rat)} (hpos : ∀ p ∈ items, 0 < p.2) (ds : Draws Rat) :
    ∃ s ds' L, feed T false items s0 ds = some (s, ds') ∧ Inv s (entriesOf false false items) L ∧ s.k = k ∧ s.gadget = false := by
  obtain ⟨hinv0, hk0, hg0, _⟩ := new_inv T k rf false s0 h0
  obtain ⟨s, ds', L, hf, hinv, hk, hg, _, _⟩ := feed_spec T false items s0 [] [] ds hinv0 hpos (by simp)
  rw [List.append_nil, hg0] at hinv
  exact ⟨s, ds', L, hf, hinv, hk.trans hk0, hg.trans hg0⟩

/-- the sketch `sk` is what some stream `items` of positive weights (any tunables, any k, any resize factor, any draws) leaves behind -/
def FromStream (sk : Sk Rat) (items : List (Int × Rat)) : Prop :=
  ∃ (T : Tunables) (k rf : Nat) (s0 : Sk Rat) (ds ds' : Draws Rat),
    Sk.new T k rf false = some s0 ∧ (∀ p ∈ items, 0 < p.2) ∧ feed T false items s0 ds = some (sk, ds')

end DS.VarOpt
