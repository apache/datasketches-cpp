/- `mergeRegs` (the register loop of `Hll8Array::mergeHll`): after the first `n` source slots the destination registers are the
per-slot maxima of the destination's coupons and of the source's coupons that fall into those slots (`RegsOf.merge`).
For Props/C04.lean. -/
import DSModel.Hll.Union
import DSProofs.Lemmas.HllConvert
namespace DS.Hll

variable {ν : Type} [HNum ν]

/-- the coupons of `N` in slot `n` at precision `lgS`, read at a coarser precision: all of them fall into slot `n % 2^lgK`
(folding a slot = reducing it mod 2^lgK, `slot_fold`) -/
theorem IsMaxAt.fold {p : Params} {lgK lgS : Nat} {N : Nat → Prop} {n m : Nat} (hle : lgK ≤ lgS) (hm : IsMaxAt p lgS N n m)
    (j : Nat) : IsMaxAt p lgK (fun c => N c ∧ cSlot p lgS c = n) j (if j = n % 2^lgK then m else 0) := by
  by_cases hj : j = n % 2^lgK
  · rw [if_pos hj]
    exact ⟨fun c hc _ => hm.1 c hc.1 hc.2,
      hm.2.imp id fun ⟨c, hc, hs, hv⟩ => ⟨c, ⟨hc, hs⟩, by rw [hj, slot_fold p hle, hs], hv⟩⟩
  · rw [if_neg hj]
    exact ⟨fun c hc hs => absurd (by rw [← hs, slot_fold p hle, hc.2]) hj, Or.inl rfl⟩

theorem RegsOf.merge {p : Params} {dst src : Array Nat} {lgK lgS : Nat} {M N : Nat → Prop}
    (hdst : RegsOf p lgK M dst) (hsrc : RegsOf p lgS N src) (hle : lgK ≤ lgS) :
    RegsOf p lgK (fun c => M c ∨ N c) (mergeRegs dst lgK src) := by
  -- after `n` rounds: the coupons of `N` in the source slots below `n` have been merged in
  have key : ∀ n, n ≤ src.size → RegsOf p lgK (fun c => M c ∨ (N c ∧ cSlot p lgS c < n))
      ((List.range n).foldl (fun d i => d.setIfInBounds (i % 2^lgK) (Max.max (d.getD (i % 2^lgK) 0) (src.getD i 0))) dst) := by
    intro n
    induction n with
    | zero => intro _; exact hdst.congr_nz fun c _ => ⟨Or.inl, fun h => h.elim id fun h => absurd h.2 (Nat.not_lt_zero _)⟩
    | succ n ih =>
      intro hn
      have hd := ih (Nat.le_of_succ_le hn)
      rw [List.range_succ, List.foldl_append]
      generalize (List.range n).foldl _ dst = d at hd ⊢
      have hj : n % 2^lgK < d.size := by rw [hd.size]; exact Nat.mod_lt _ (Nat.two_pow_pos _)
      refine ⟨(Array.size_setIfInBounds ..).trans hd.size, fun j hjl => ?_⟩
      have hU := (hd.max j hjl).union ((hsrc.max n (hsrc.size ▸ hn)).fold hle j)
      have hreg : (d.setIfInBounds (n % 2^lgK) (Max.max (d.getD (n % 2^lgK) 0) (src.getD n 0))).getD j 0 =
          Max.max (d.getD j 0) (if j = n % 2^lgK then src.getD n 0 else 0) := by
        by_cases he : j = n % 2^lgK
        · rw [if_pos he, he, getD_setIfInBounds_self hj]
        · rw [if_neg he, getD_setIfInBounds_ne (Ne.symm he), Nat.max_zero]
      rw [List.foldl_cons, List.foldl_nil, hreg]
      exact hU.congr fun c => by rw [Nat.lt_succ_iff_lt_or_eq, and_or_left, or_assoc]
  exact (key src.size (Nat.le_refl _)).congr_nz fun c _ =>
    or_congr_right (and_iff_left (hsrc.size ▸ cSlot_lt p lgS c))

theorem RegsOf.downsample {p : Params} {lgK lgS : Nat} {N : Nat → Prop} {src : Array Nat} (hs : RegsOf p lgS N src)
    (hle : lgK ≤ lgS) : RegsOf p lgK N (mergeRegs (Array.replicate (2^lgK) 0) lgK src) :=
  ((RegsOf.zero p lgK).merge hs hle).congr_nz fun _ _ => by simp

end DS.Hll
